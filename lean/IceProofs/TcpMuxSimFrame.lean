import IceProofs.TcpMuxSimOps
/-!
# The `frame` operation: first-frame classification and routing, later frames
-/
namespace IceProofs.TcpMux
open IceModel.TcpMux IceSpec.C15 IceSpec.C15.View

theorem findOpen_abs (pcs : List PConn) (key : Key) :
    findOpen (pcs.map absPc) key.ufrag key.v6 key.lip = findPc pcs key := by
  unfold findOpen findPc
  rw [List.findIdx?_map]
  congr 1
  funext pc
  simp only [Function.comp, absPc]
  obtain ⟨u, v, l⟩ := key
  cases hk : pc.key with
  | mk u' v' l' =>
    simp only [Key.mk.injEq]
    have e1 : (u' == u) = decide (u' = u) := by by_cases h : u' = u <;> simp [h]
    have e2 : (v' == v) = decide (v' = v) := by by_cases h : v' = v <;> simp [h]
    have e3 : (l' == l) = decide (l' = l) := by by_cases h : l' = l <;> simp [h]
    cases pc.closed <;> simp [Bool.and_assoc, e1, e2, e3]

theorem ensureRec_abs {s : State} {m : Mon} (hu : SimU s m) (key : Key) :
    (ensureRec m key.ufrag key.v6 key.lip).1 = (ensurePc s key).1.pcs.map absPc ∧
    (ensureRec m key.ufrag key.v6 key.lip).2 = (ensurePc s key).2 := by
  unfold ensureRec ensurePc
  rw [hu.pcs, findOpen_abs]
  cases findPc s.pcs key with
  | some p => exact ⟨rfl, rfl⟩
  | none =>
    simp only [List.map_append, List.map_cons, List.map_nil, List.length_map, and_true]
    congr 2
    simp only [absPc]
    rw [hu.now, hu.t2]
    rfl

theorem appendPc_quiet (s : State) (npc : PConn) (hh : npc.hist = []) :
    Quiet s { s with pcs := s.pcs ++ [npc] } ∧
    RLSame s { s with pcs := s.pcs ++ [npc] } := by
  refine ⟨?_, ?_⟩
  · constructor
    · rfl
    · rfl
    · rfl
    · rfl
    · intro k t ht; exact ⟨t, ht, TcpQ.refl t⟩
    · simp
    · intro p pc hp
      exact ⟨pc, getElem?_append_old _ _ _ _ hp, fun h => h, [], by simp, by simp⟩
    · intro p pc' hle hp'
      have hlen : p < (s.pcs ++ [npc]).length := getElem?_lt hp'
      simp at hlen
      have : p = s.pcs.length := by omega
      subst this
      have : (s.pcs ++ [npc])[s.pcs.length]? = some pc' := hp'
      rw [List.getElem?_concat_length] at this
      cases this; exact hh
    · intro k t t' p pc' ht hph ht' hcl _
      rw [ht] at ht'; cases ht'
      rw [hph] at hcl; cases hcl
  · intro p pc hp
    exact ⟨pc, getElem?_append_old _ _ _ _ hp, rfl⟩

theorem ensurePc_quiet (s : State) (key : Key) :
    Quiet s (ensurePc s key).1 ∧ RLSame s (ensurePc s key).1 ∧
    (ensurePc s key).1.handles = s.handles ∧ (ensurePc s key).1.now = s.now := by
  unfold ensurePc
  cases findPc s.pcs key with
  | some p => exact ⟨quiet_refl s, RLSame.refl s, rfl, rfl⟩
  | none =>
    obtain ⟨a, b⟩ := appendPc_quiet s
      { key := key, provisional := true, alive := some (s.now + effTimeout s.cfg.t2), refs := 0, created := s.now } rfl
    exact ⟨a, b, rfl, rfl⟩

theorem live_attached {s : State} {m : Mon} (hu : SimU s m) (hf : Flags s.tcps m) (hi : Inv s) (h2 : Inv2 s)
    {k p : Nat} {c : MClient} (hc : m.clients[k]? = some c) (htg : c.target = some p) (hcl : c.closed = false) :
    ∃ t, s.tcps[k]? = some t ∧ t.phase = .attached p ∧ CRel t c := by
  obtain ⟨t, ht, r⟩ := tcp_of hu hc
  have hpc : t.pc = some p := by rw [← r.target]; exact htg
  have hncl : t.isClosed = false := by rw [← hf k t c ht hc]; exact hcl
  refine ⟨t, ht, ?_, r⟩
  cases hph : t.phase with
  | closed => rw [isClosed_iff.2 hph] at hncl; cases hncl
  | pending d =>
    have := ((h2.tcp k t ht).fresh d hph).1
    rw [hpc] at this; cases this
  | attached q => rw [hi.att_eq ht hph hpc]

theorem live_iff {s : State} {m : Mon} (hu : SimU s m) (hf : Flags s.tcps m) (hi : Inv s) (h2 : Inv2 s)
    (p : Nat) (pc : PConn) (hp : s.pcs[p]? = some pc) (a : Addr) (k : Nat) (c : MClient) :
    ((k, c) ∈ liveOn m p ∧ c.ip = a.ip ∧ c.port = a.port) ↔ (m.clients[k]? = some c ∧ lookupConn pc.conns a = some k) := by
  unfold liveOn
  rw [List.mem_filter, mem_indexed]
  simp only [Bool.and_eq_true, beq_iff_eq, Bool.not_eq_true']
  constructor
  · rintro ⟨⟨hc, htg, hcl⟩, hip, hport⟩
    obtain ⟨t, ht, hph, r⟩ := live_attached hu hf hi h2 hc htg hcl
    exact ⟨hc, (hi.lookup_iff hp a k).2 ⟨t, ht, hph, addr_ext (r.ip.symm.trans hip) (r.port.symm.trans hport)⟩⟩
  · rintro ⟨hc, hl⟩
    obtain ⟨t, ht, hph, hpe⟩ := (hi.lookup_iff hp a k).1 hl
    have r := hu.cl k t c ht hc
    have hpc : t.pc = some p := (hi.att ht hph).1
    refine ⟨⟨hc, by rw [r.target]; exact hpc, ?_⟩, by rw [r.ip, hpe], by rw [r.port, hpe]⟩
    rw [hf k t c ht hc]; unfold Tcp.isClosed; rw [hph]

theorem dup_iff {s : State} {m : Mon} (hu : SimU s m) (hf : Flags s.tcps m) (hi : Inv s) (h2 : Inv2 s)
    (p : Nat) (pc : PConn) (hp : s.pcs[p]? = some pc) (a : Addr) :
    (liveOn m p).any (fun x => x.2.ip == a.ip && x.2.port == a.port) = (lookupConn pc.conns a).isSome := by
  apply Bool.eq_iff_iff.2
  rw [List.any_eq_true]
  simp only [Bool.and_eq_true, beq_iff_eq]
  constructor
  · rintro ⟨⟨k, c⟩, hmem, hm⟩
    rw [((live_iff hu hf hi h2 p pc hp a k c).1 ⟨hmem, hm⟩).2]; rfl
  · intro h
    cases hl : lookupConn pc.conns a with
    | none => rw [hl] at h; cases h
    | some k =>
      obtain ⟨t, ht, _⟩ := (hi.lookup_iff hp a k).1 hl
      obtain ⟨c, hc, _⟩ := client_of hu ht
      exact ⟨(k, c), (live_iff hu hf hi h2 p pc hp a k c).2 ⟨hc, hl⟩⟩

theorem route_none {f : Frame} (h : classify f = none) : routeUfrag (userOf f.kind) f.len = none := by
  unfold routeUfrag
  split
  · rfl
  · rename_i hl
    have := (classify_none_iff f).1 h
    cases hk : f.kind with
    | user u => exact absurd ⟨by omega, u, hk⟩ this
    | noUser => rfl
    | otherMethod => rfl
    | notStun => rfl

theorem route_some {f : Frame} {u : String} (h : classify f = some u) : routeUfrag (userOf f.kind) f.len = some u := by
  obtain ⟨hl, hk⟩ := (classify_iff f u).1 h
  unfold routeUfrag
  rw [if_neg (by omega), hk]; rfl

theorem others_nil {s s' : State} {m : Mon} (hf : Flags s.tcps m) (hlen : m.clients.length = s.tcps.length) (k : Nat)
    (hsame : ∀ j, j ≠ k → s'.tcps[j]? = s.tcps[j]?) (old : List Tcp) (res : ORes) :
    othersClosed m (obsOf old s' res) k = [] := by
  unfold othersClosed obsOf
  simp only
  rw [List.filter_eq_nil_iff]
  intro j hj
  obtain ⟨t, ht, hcl⟩ := mem_idxWhere.1 hj
  simp only [Bool.and_eq_true, decide_eq_true_eq, not_and, Bool.not_eq_true]
  intro hjk
  rw [hsame j hjk] at ht
  have hlt : j < m.clients.length := by rw [hlen]; exact getElem?_lt ht
  obtain ⟨c, hc⟩ := getElem?_of_lt hlt
  unfold clOpenBefore
  rw [hc]
  simp only [Bool.not_eq_false']
  rw [hf j t c ht hc]; exact hcl

theorem closedNow_true {s' : State} {k : Nat} {t' : Tcp} (ht' : s'.tcps[k]? = some t') (hph : t'.phase = .closed)
    (old : List Tcp) (res : ORes) : (obsOf old s' res).closed.contains k = true :=
  contains_closedSet.2 ⟨t', ht', isClosed_iff.2 hph⟩

theorem closedNow_false {s' : State} {k : Nat} {t' : Tcp} (ht' : s'.tcps[k]? = some t') (hph : t'.phase ≠ .closed)
    (old : List Tcp) (res : ORes) : (obsOf old s' res).closed.contains k = false := by
  apply Bool.eq_false_iff.2
  intro h
  obtain ⟨t2, ht2, hc⟩ := contains_closedSet.1 h
  rw [ht'] at ht2; cases ht2
  exact hph (isClosed_iff.1 hc)

theorem op_frame {s : State} {m : Mon} (hs : Sim s m) (hi : Inv s) (h2 : Inv2 s) (h3 : Inv3 s) (k : Nat) (f : Frame)
    (hnb : (step s (.frame k f)).2 ≠ .bad) :
    BookOK s (step s (.frame k f)).1 m
      (book m (.frame k f.fid (userOf f.kind) f.len) (obsOf s.tcps (step s (.frame k f)).1
        (oresOf (.frame k f) (step s (.frame k f)).2))) := by
  refine book_cases (.frame k f) (fun s' r hx h => ?_)
  -- when the result is `sent`, what `bookFrame` does depends on the record of `k` alone
  have hbf : ∀ (c : MClient) (s' : State), m.clients[k]? = some c → c.done = false →
      bookFrame m (obsOf s.tcps s' (oresOf (.frame k f) (.sent f.len))) k f.fid (userOf f.kind) f.len =
      (if (!c.accepted) = true then (m, none, false) else
        if c.hasFirst = true then
          if c.closed = true then (m, none, false) else
          ({ m with clients := setAt m.clients k (fun c =>
            { c with sent := c.sent ++ [⟨f.fid, f.len⟩], gone := c.gone || decide (8192 < f.len) }) }, none, false)
        else if c.closed = true then
          ({ m with clients := setAt m.clients k (fun c => { c with hasFirst := true }) }, none, false)
        else bookFirst m (obsOf s.tcps s' (oresOf (.frame k f) (.sent f.len))) k f.fid f.len c
          (if m.now < c.deadline then routeUfrag (userOf f.kind) f.len else none)) := by
    intro c s' hc hdone
    have hres : ((obsOf s.tcps s' (oresOf (.frame k f) (.sent f.len))).res == ORes.noop) = false := rfl
    unfold bookFrame
    simp only [hc, hdone, Bool.false_or, hres, Bool.or_false]
  cases h with
  | frameBad _ _ ht => rw [hx] at hnb; exact absurd rfl hnb
  | frameNoop _ _ t ht hd =>
    -- the client has stopped sending: nothing happens
    obtain ⟨c, hc, r⟩ := client_of hs.u ht
    refine bookOK_of_core hs hi h2 (.frame k f) nofun hx (fun _ => ?_)
    have hdone : c.done = true := by rw [r.done]; exact hd
    show Core s (bookFrame m _ k f.fid (userOf f.kind) f.len)
    unfold bookFrame
    simp only [hc, hdone, Bool.true_or, if_true]
    exact Core.same hs hi
  | frameClosed _ _ t ht hd hph =>
    obtain ⟨c, hc, r⟩ := client_of hs.u ht
    refine bookOK_of_core hs hi h2 (.frame k f) nofun hx (fun _ => ?_)
    have hcl : c.closed = true := by rw [hs.flags k t c ht hc]; exact isClosed_iff.2 hph
    show Core s (bookFrame m _ k f.fid (userOf f.kind) f.len)
    rw [hbf c s hc (by rw [r.done]; exact hd), hcl]
    rcases Bool.eq_false_or_eq_true c.accepted with ha | ha
    · rcases Bool.eq_false_or_eq_true c.hasFirst with hf | hf
      · simp only [ha, hf, Bool.not_true, Bool.false_eq_true, if_false, if_true]; exact Core.same hs hi
      · simp only [ha, hf, Bool.not_true, Bool.false_eq_true, if_false, if_true]
        obtain ⟨hu, hn⟩ := client_simU hs.u hs.nread hi h2 k t c (fun c => { c with hasFirst := true }) ht hc
          ⟨r.ip, r.port, r.lip, fun d hd' => (by rw [hph] at hd'; cases hd'),
            fun h => (by cases h), r.target, r.done, r.gone, r.sent, fun _ => hph⟩ rfl rfl
        exact Core.of_inv rfl hu hn hi
    · simp only [ha, Bool.not_false, if_true]
      exact Core.same hs hi
  | frameFirst _ _ t d _ ht hce hst hph ff =>
    obtain ⟨c, hc, r⟩ := client_of hs.u ht
    obtain ⟨ha, hf, hdl⟩ := r.pend d hph
    have hcl : c.closed = false := by rw [hs.flags k t c ht hc]; unfold Tcp.isClosed; rw [hph]
    have hnow : m.now < c.deadline := by rw [hs.u.now, hdl]; exact hi.pend ht hph
    obtain ⟨hpcn, hsentn, _⟩ := (h2.tcp k t ht).fresh d hph
    have hrdn := (pending_unref s hi k t ht d hph).2.2
    have hbf' : ∀ s', bookFrame m (obsOf s.tcps s' (oresOf (.frame k f) (.sent f.len))) k f.fid (userOf f.kind) f.len =
        bookFirst m (obsOf s.tcps s' (oresOf (.frame k f) (.sent f.len))) k f.fid f.len c (routeUfrag (userOf f.kind) f.len) := by
      intro s'
      rw [hbf c s' hc (by rw [r.done, hce, hst]; rfl)]
      simp only [ha, hf, hcl, Bool.not_true, Bool.false_eq_true, if_false, if_pos hnow]
    -- the connection is refused (state `x`: `s`, or `s` with a new provisional packet connection)
    have reject : ∀ (x : State) (mx : Mon), x.tcps = s.tcps → SimU x mx → NRead x mx → Inv x → Inv2 x → mx.clients = m.clients →
        Inv (setTcp x k (rejectWith f)) →
        Core (setTcp x k (rejectWith f)) ({ mx with clients := setAt mx.clients k (fun c => { c with hasFirst := true }) }, none, false) := by
      intro x mx hx hux hnx hix h2x hmx hi'
      obtain ⟨hu, hn⟩ := modify_simU hux hnx hix h2x k t c (rejectWith f) (fun c => { c with hasFirst := true })
        (by rw [hx]; exact ht) (by rw [hmx]; exact hc) rfl rfl (Or.inr ⟨⟨d, hph⟩, rfl⟩)
        (fun h => by rw [hph] at h; cases h) hrdn.symm
        (by intro a b it hin; simp [rejectWith, closeTcp] at hin)
        (by
          refine ⟨r.ip, r.port, r.lip, ?_, ?_, r.target, r.done, ?_, ?_, fun _ => rfl⟩
          · intro d' hd'; simp [rejectWith, closeTcp] at hd'
          · intro h; cases h
          · show c.gone = _
            rw [r.gone, hpcn]; simp [rejectWith, closeTcp, hpcn]
          · intro h; simp [rejectWith, closeTcp, hpcn] at h) rfl rfl
      exact Core.of_inv rfl hu hn hi'
    -- a routable first frame: `se` is what `getConn`/`createConn` returns (the state, perhaps with a new provisional
    -- packet connection, and the index the frame routes to); refused if that has a connection from this address
    have hrouted : ∀ (u : String) (se : State × Nat) (pc : PConn) (s' : State), classify f = some u →
        ensurePc s ⟨u, t.peer.v6, t.lip⟩ = se → se.1.pcs[se.2]? = some pc → pc.closed = false →
        step s (.frame k f) = (s', .sent f.len) →
        ((lookupConn pc.conns t.peer).isSome = true ∧ s' = setTcp se.1 k (rejectWith f)) ∨
          (lookupConn pc.conns t.peer = none ∧ s' = runReader (registered se.1 se.2 k t.peer f) k) →
        BookOK s s' m (book m (mopOf (.frame k f)) (obsOf s.tcps s' (oresOf (.frame k f) (.sent f.len)))) := by
      intro u se pc s' hcls hse hp hopen hx hcase
      have hv6 : decide (2 ≤ c.ip) = t.peer.v6 := by rw [r.ip]; rfl
      obtain ⟨hpp1, hpp2⟩ := ensureRec_abs hs.u ⟨u, t.peer.v6, t.lip⟩
      simp only at hpp1 hpp2
      rw [hse] at hpp1 hpp2
      obtain ⟨qe, rle, hhe, hne⟩ := hse ▸ ensurePc_quiet s ⟨u, t.peer.v6, t.lip⟩
      have htce : se.1.tcps = s.tcps := hse ▸ ensurePc_tcps s ⟨u, t.peer.v6, t.lip⟩
      have hie : Inv se.1 := hse ▸ ensurePc_inv s ⟨u, t.peer.v6, t.lip⟩ hi
      have h2e : Inv2 se.1 := hse ▸ ensurePc_inv2 s ⟨u, t.peer.v6, t.lip⟩ h2
      have hte : se.1.tcps[k]? = some t := by rw [htce]; exact ht
      obtain ⟨hu1, hn1⟩ := quiet_step qe rle hi h2 hs.u hs.nread
      have hm1 : reread m se.1 = { m with pcs := se.1.pcs.map absPc } :=
        (reread_of rfl (by rw [hhe]; exact hs.u.handles) (by rw [hne]; exact hs.u.now)).symm
      rw [hm1] at hu1 hn1
      have hfl1 : Flags se.1.tcps { m with pcs := se.1.pcs.map absPc } := by rw [htce]; exact hs.flags
      -- what the monitor does, up to the test for a second connection from that address
      have hbr : bookFrame m (obsOf s.tcps s' (oresOf (.frame k f) (.sent f.len))) k f.fid (userOf f.kind) f.len =
          (let o := obsOf s.tcps s' (oresOf (.frame k f) (.sent f.len))
           let m1 : Mon := { m with pcs := se.1.pcs.map absPc }
           if (lookupConn pc.conns t.peer).isSome = true then
             let m' : Mon := { m1 with clients := setAt m1.clients k (fun c => { c with hasFirst := true }) }
             if (!o.closed.contains k) = true then (m', some "first frame: second connection from the same remote address was kept", false)
             else (m', none, false)
           else
             let m' := routed m1 se.2 k f.fid f.len
             if o.closed.contains k = true then (m', some "first frame: valid STUN Binding with USERNAME in time, but the TCP connection was closed", false)
             else if (!(othersClosed m o k).isEmpty) = true then (m', some "first frame: attaching one connection closed another", false)
             else (m', none, false)) := by
        rw [hbf', route_some hcls]
        unfold bookFirst bookRoute
        simp only
        rw [hv6, r.lip, hpp1, hpp2, dup_iff hu1 hfl1 hie h2e se.2 pc hp ⟨c.ip, c.port⟩,
          show (⟨c.ip, c.port⟩ : Addr) = t.peer by rw [r.ip, r.port]]
        rfl
      rcases hcase with ⟨hdup, rfl⟩ | ⟨hnd, rfl⟩
      · -- a connection from this address is already there: refused
        refine bookOK_of_core hs hi h2 (.frame k f) nofun hx (fun hi' => ?_)
        show Core _ (bookFrame m _ k f.fid (userOf f.kind) f.len)
        rw [hbr]
        simp only [hdup, if_true]
        rw [closedNow_true (getElem?_setTcp_eq se.1 k _ t hte) rfl]
        simp only [Bool.not_true, Bool.false_eq_true, if_false]
        exact reject se.1 _ htce hu1 hn1 hie h2e rfl hi'
      · -- attached
        have hlen : f.len ≤ 512 := ((classify_iff f u).1 hcls).1
        obtain ⟨t', pc', a1, _, a3, _, _, _, _, _, _, _, a11, _⟩ :=
          registered_attached se.1 se.2 k t f pc hte hp hopen (by unfold receiveMTU; omega)
        obtain ⟨hu3, hn3⟩ := register_simU hu1 hn1 hie h2e k se.2 d t c pc f hte hc hph hp hopen hnd hlen
        have hi3 : Inv (registered se.1 se.2 k t.peer f) :=
          register_inv se.1 hie k se.2 t pc hte d hph hp hopen hnd _ ⟨rfl, rfl, rfl, rfl⟩
        have h23 : Inv2 (registered se.1 se.2 k t.peer f) := register_inv2 se.1 h2e k se.2 t pc f hte d hph hp
        obtain ⟨hu, hn⟩ := reader_chain k hi3 h23 hu3 hn3
        refine bookOK_of_core hs hi h2 (.frame k f) nofun hx (fun hi' => ?_)
        show Core _ (bookFrame m _ k f.fid (userOf f.kind) f.len)
        rw [hbr]
        simp only [hnd, Option.isSome_none, Bool.false_eq_true, if_false]
        rw [closedNow_false a1 (by rw [a3]; intro h; cases h),
          others_nil hs.flags hs.u.len k (fun j hj => by rw [a11 j hj, htce])]
        simp only [Bool.false_eq_true, if_false, List.isEmpty_nil, Bool.not_true]
        exact Core.of_inv rfl hu hn hi'
    cases ff with
    | bad hcls =>
      refine bookOK_of_core hs hi h2 (.frame k f) nofun hx (fun hi' => ?_)
      show Core _ (bookFrame m _ k f.fid (userOf f.kind) f.len)
      rw [hbf', route_none hcls]
      unfold bookFirst bookReject
      simp only
      rw [closedNow_true (getElem?_setTcp_eq s k _ t ht) rfl,
        others_nil hs.flags hs.u.len k (fun j hj => getElem?_setTcp_ne s k j _ hj)]
      simp only [Bool.not_true, Bool.false_eq_true, if_false, List.isEmpty_nil]
      exact reject s m rfl hs.u hs.nread hi h2 rfl hi'
    | dup u p pc hcls hfind hp ho _ hd =>
      exact hrouted u (s, p) pc _ hcls (by unfold ensurePc; rw [hfind]) hp ho hx (Or.inl ⟨hd, rfl⟩)
    | join u p pc hcls hfind hp ho _ hnd =>
      exact hrouted u (s, p) pc _ hcls (by unfold ensurePc; rw [hfind]) hp ho hx (Or.inr ⟨hnd, rfl⟩)
    | fresh u hcls hfind =>
      exact hrouted u _ _ _ hcls (by unfold ensurePc; rw [hfind]) List.getElem?_concat_length rfl hx (Or.inr ⟨rfl, rfl⟩)
  | framePush _ _ t q ht hd hph =>
    obtain ⟨c, hc, r⟩ := client_of hs.u ht
    have hcl : c.closed = false := by rw [hs.flags k t c ht hc]; unfold Tcp.isClosed; rw [hph]
    have hf : c.hasFirst = true := by
      cases hf : c.hasFirst with
      | true => rfl
      | false => exact absurd hph (r.first hf q)
    have ha : c.accepted = true := by
      cases ha : c.accepted with
      | true => rfl
      | false => have := r.acc ha; rw [hph] at this; cases this
    have hce : t.cEnd = false := by
      cases h : t.cEnd with
      | false => rfl
      | true => rw [h] at hd; cases hd
    have htpc : t.pc = some q := (hi.att ht hph).1
    have hi1 : Inv (setTcp s k (pushFrame f)) := setTcp_irrel_inv s k _ (fun t => ⟨rfl, rfl, rfl, rfl⟩) hi
    have h21 : Inv2 (setTcp s k (pushFrame f)) := by
      apply push_inv2 s h2 k t ht _ (.frame f) [f] ⟨rfl, rfl, rfl, rfl, rfl, rfl⟩
      · rfl
      · intro d hd'; rw [hph] at hd'; cases hd'
    obtain ⟨hu1, hn1⟩ := modify_simU hs.u hs.nread hi h2 k t c (pushFrame f)
      (fun c => { c with sent := c.sent ++ [⟨f.fid, f.len⟩], gone := c.gone || decide (8192 < f.len) })
      ht hc rfl rfl (Or.inl rfl) (fun h => by rw [hph] at h; cases h) rfl
      (endLast_push (no_end_of_open h3 ht hce))
      (by
        refine ⟨r.ip, r.port, r.lip, r.pend, r.first, r.target, r.done, ?_, ?_, r.acc⟩
        · show (c.gone || decide (8192 < f.len)) = _
          rw [r.gone, htpc]
          simp only [big, pushFrame, List.any_append, List.any_cons, List.any_nil, Bool.or_false, Option.isSome_some, Bool.true_and]
          rw [htpc]; simp [Bool.or_assoc]
        · intro _
          show c.sent ++ [⟨f.fid, f.len⟩] = mframes (t.sent ++ [f])
          rw [r.sent (by rw [htpc]; rfl)]
          simp [mframes]) rfl rfl
    obtain ⟨hu, hn⟩ := reader_chain k hi1 h21 hu1 hn1
    refine bookOK_of_core hs hi h2 (.frame k f) nofun hx (fun hi' => ?_)
    show Core _ (bookFrame m _ k f.fid (userOf f.kind) f.len)
    rw [hbf c _ hc (by rw [r.done]; exact hd)]
    simp only [ha, hf, hcl, Bool.not_true, Bool.false_eq_true, if_false, if_true]
    exact Core.of_inv rfl hu hn hi'

end IceProofs.TcpMux

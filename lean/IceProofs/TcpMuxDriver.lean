import IceProofs.TcpMuxViewOps
import IceProofs.TcpMuxSimEnd
/-!
# C15: the model side of the driver is accepted by the string monitor on EVERY sequence of input lines
-/
namespace IceProofs.TcpMuxView
open IceSpec.LineProto IceProofs.LineProto IceSpec.C15 IceSpec.C15.View IceModel.TcpMux IceProofs.TcpMux

/-- model state of the driver and state of the monitor copy fed with the model's output agree -/
def DOk (ms : Option State) (m : Mon) : Prop :=
  match ms with
  | some s => Sim s m ∧ Good s
  | none => m.active = false

theorem observeT_skip_inactive (m : Mon) (op : MOp) (h : m.active = false) :
    (observeT m op .skip).2 = none ∧ (observeT m op .skip).1.active = false := by
  cases op <;> simp [observeT, h]

theorem observeT_any_inactive (m : Mon) (op : MOp) (l : Line) (h : m.active = false)
    (h1 : ∀ a b, op ≠ .start a b) (h2 : op ≠ .reset) : observeT m op l = (m, none) := by
  cases op <;> simp_all [observeT]

theorem observeT_skip_active (m : Mon) (op : MOp) (h1 : ∀ a b, op ≠ .start a b) (h2 : op ≠ .reset) :
    observeT m op .skip = (m, none) := by
  cases op <;> simp_all [observeT]

theorem parseToks_start_shape (toks : List String) (a b : Nat) (h : parseToks toks = .start a b) :
    ∃ cap wbuf t1 t2, toks = ["new", cap, wbuf, t1, t2] := by
  unfold parseToks at h
  split at h
  case h_1 => exact ⟨_, _, _, _, rfl⟩
  all_goals (first | (cases h; done) | (repeat' (split at h)) <;> cases h)

theorem parseToks_reset_shape (toks : List String) (h : parseToks toks = .reset) :
    (∃ cap wbuf t1 t2, toks = ["new", cap, wbuf, t1, t2]) ∨ ∃ n bad, toks = ["multi", n, bad] := by
  unfold parseToks at h
  split at h
  case h_1 => exact Or.inl ⟨_, _, _, _, rfl⟩
  case h_2 => exact Or.inr ⟨_, _, rfl⟩
  all_goals (first | (cases h; done) | (repeat' (split at h)) <;> cases h)

theorem mopOf_ne_start (op : Op) (a b : Nat) : mopOf op ≠ .start a b := by cases op <;> simp [mopOf]
theorem mopOf_ne_reset (op : Op) : mopOf op ≠ .reset := by cases op <;> simp [mopOf]

theorem parseLine_bad : parseLine "bad-op" = .skip := by decide
theorem parseLine_nosession : parseLine "no-session" = .skip := by decide

theorem observeT_finish_active (m : Mon) (s : State) (h : m.active = true) :
    (observeT m .finish (endLine s)).1.active = false := by
  unfold endLine
  simp [observeT, h, finish]

theorem modelStep_ok (ms : Option State) (m : Mon) (toks : List String) (h : DOk ms m) :
    (observe m toks (modelStep ms toks).2).2 = none ∧
    DOk (modelStep ms toks).1 (observe m toks (modelStep ms toks).2).1 := by
  unfold modelStep
  split
  · -- new
    rename_i cap wbuf t1 t2
    split
    · rename_i c w a b hc hw ha hb
      unfold observe
      rw [parseToks_new cap wbuf t1 t2 a b ha hb, parseLine_printedStart]
      exact ⟨(start_sim ⟨c, w > 0, a, b⟩).1, (start_sim ⟨c, w > 0, a, b⟩).2, good_init _⟩
    · unfold observe
      rw [parseLine_bad]
      have : observeT m (parseToks ["new", cap, wbuf, t1, t2]) .skip = ({}, none) := by
        simp only [parseToks]; split <;> rfl
      rw [this]; exact ⟨rfl, rfl⟩
  · -- multi
    rename_i n bad
    have hr : ∀ l, observe m ["multi", n, bad] l = ({}, none) := fun l => rfl
    have hn : ∀ x : Option State × String, x.1 = none →
        (observe m ["multi", n, bad] x.2).2 = none ∧ DOk x.1 (observe m ["multi", n, bad] x.2).1 := by
      intro x hx; rw [hr, hx]; exact ⟨rfl, rfl⟩
    apply hn
    split
    · split <;> rfl
    · rfl
  · -- end
    have hp : parseToks ["end"] = .finish := rfl
    cases ms with
    | none =>
      unfold observe
      rw [hp, observeT_any_inactive m .finish _ h (by intro a b; simp) (by simp)]
      exact ⟨rfl, h⟩
    | some s =>
      unfold observe
      show (observeT m (parseToks ["end"]) (parseLine (printedEnd s))).2 = none ∧
        DOk none (observeT m (parseToks ["end"]) (parseLine (printedEnd s))).1
      rw [hp, parseLine_printedEnd]
      exact ⟨finish_ok h.1 h.2, observeT_finish_active m s h.1.u.active⟩
  · -- an operation
    rename_i hnew hmulti hend
    cases ms with
    | none =>
      unfold observe
      show (observeT m (parseToks toks) (parseLine "no-session")).2 = none ∧
        DOk none (observeT m (parseToks toks) (parseLine "no-session")).1
      rw [parseLine_nosession]
      exact observeT_skip_inactive m _ h
    | some s =>
      have hstart : ∀ a b, parseToks toks ≠ .start a b := by
        intro a b he
        obtain ⟨c, w, t1, t2, rfl⟩ := parseToks_start_shape toks a b he
        exact hnew _ _ _ _ rfl
      have hreset : parseToks toks ≠ .reset := by
        intro he
        rcases parseToks_reset_shape toks he with ⟨c, w, t1, t2, rfl⟩ | ⟨n, b, rfl⟩
        · exact hnew _ _ _ _ rfl
        · exact hmulti _ _ rfl
      show (observe m toks (match parseOp s toks with
          | none => (some s, "bad-op")
          | some op => match (step s op).2 with
            | .bad => (some s, "bad-op")
            | _ => (some (step s op).1, printedLine s op)).2).2 = none ∧
        DOk (match parseOp s toks with
          | none => (some s, "bad-op")
          | some op => match (step s op).2 with
            | .bad => (some s, "bad-op")
            | _ => (some (step s op).1, printedLine s op)).1 (observe m toks (match parseOp s toks with
          | none => (some s, "bad-op")
          | some op => match (step s op).2 with
            | .bad => (some s, "bad-op")
            | _ => (some (step s op).1, printedLine s op)).2).1
      cases hp : parseOp s toks with
      | none =>
        simp only [observe, parseLine_bad, observeT_skip_active m _ hstart hreset]
        exact ⟨trivial, h⟩
      | some op =>
        have hv := parseToks_of_parseOp s toks op hp
        simp only
        cases hr : (step s op).2 with
        | bad =>
          simp only [observe, parseLine_bad, observeT_skip_active m _ hstart hreset]
          exact ⟨trivial, h⟩
        | _ =>
          simp only [observe, hv, parseLine_printedLine]
          exact ⟨(step_sim h.1 h.2 op).1, (step_sim h.1 h.2 op).2, good_step h.2 op⟩

theorem driverRun_ok (ms : Option State) (m : Mon) (h : DOk ms m) (input : List (List String)) :
    ∀ v ∈ driverRun ms m input, v = none := by
  induction input generalizing ms m with
  | nil => intro v hv; cases hv
  | cons toks rest ih =>
    intro v hv
    obtain ⟨h1, h2⟩ := modelStep_ok ms m toks h
    simp only [driverRun, List.mem_cons] at hv
    rcases hv with rfl | hv
    · exact h1
    · exact ih _ _ h2 v hv

end IceProofs.TcpMuxView

import IceProofs.Sys2C01LiveReady
/-!
# C01 liveness — convergence along rounds, with extra deliveries and duplications between them

`nrounds c N n s`: `n` blocks, block `k` = the arbitrary list `N k` of deliveries / duplications (any datagram in
flight, any order, any number — `isNoise`) followed by a canonical round.  A block keeps the round invariant and what
has been achieved, consecutive ticks are between `minInterval` and 2 s apart — hence convergence within an explicit
number of blocks (`converge_noisy`, `converge_bound_noisy`).  The pure rounds are the case of empty noise blocks
(`converge`, `converge_explicit`, `converge_bound`).
-/
namespace IceProofs.C01Live
open IceModel.AgentCore IceModel.Sys2 IceProofs.Sys2Run IceProofs.C01 IceProofs.Agent

/-- `n` blocks of noise followed by a round -/
def nrounds (c : Bool) (N : Nat → List SysEv) : Nat → Sys → Sys
  | 0, s => s
  | n + 1, s => nrounds c (fun k => N (k + 1)) n (round c (Sys.runs s (N 0)))

/-- the state in which block `k` starts -/
def nstate (c : Bool) (N : Nat → List SysEv) (k : Nat) (s : Sys) : Sys := nrounds c N k s

/-- the tick time of block `k` (after its noise) -/
def ntick (c : Bool) (N : Nat → List SysEv) (k : Nat) (s : Sys) : Nat := roundT c (Sys.runs (nrounds c N k s) (N k))

theorem nrounds_succ (c : Bool) (N : Nat → List SysEv) (n : Nat) (s : Sys) :
    nrounds c N (n + 1) s = round c (Sys.runs (nrounds c N n s) (N n)) := by
  induction n generalizing s N with
  | zero => rfl
  | succ n ih =>
    show nrounds c (fun k => N (k + 1)) (n + 1) (round c (Sys.runs s (N 0))) = _
    rw [ih]
    rfl

/-- the events of the noisy rounds -/
def nroundsEvs (c : Bool) (N : Nat → List SysEv) : Nat → Sys → List SysEv
  | 0, _ => []
  | n + 1, s => N 0 ++ roundEvs c (Sys.runs s (N 0)) ++ nroundsEvs c (fun k => N (k + 1)) n (round c (Sys.runs s (N 0)))

theorem nrounds_runs (c : Bool) (N : Nat → List SysEv) (n : Nat) (s : Sys) :
    nrounds c N n s = Sys.runs s (nroundsEvs c N n s) := by
  induction n generalizing s N with
  | zero => rfl
  | succ n ih =>
    show nrounds c (fun k => N (k + 1)) n (round c (Sys.runs s (N 0))) = _
    rw [ih, nroundsEvs, Sys.runs_append, Sys.runs_append, round_runs]

section
variable {nat blocked : List (Nat × Nat)} {SLA SLB SR : Nat → Prop} {liteA liteB : Bool} {T0 H : Nat} {c : Bool}

theorem RInv.noise {s : Sys} (h : RInv nat blocked SLA SLB SR liteA liteB T0 H c s) (ns : List SysEv)
    (hn : ∀ e ∈ ns, isNoise e = true) :
    RInv nat blocked SLA SLB SR liteA liteB T0 H c (Sys.runs s ns) ∧ NoiseKeep c s (Sys.runs s ns) := by
  obtain ⟨h', nk⟩ := noiseKeep_runs h.ok ns hn
  have hj := (stable_noise (P := fun s => LinkedJ c False s)
    (fun _ _ _ _ h h' he hm ha hsub g => g.keep h h' he hm ha hsub) h.ok ns hn (fun hs => Or.inl (h.linked hs))).2
  refine ⟨⟨h', fun hs => (hj hs).resolve_right id, ?_⟩, nk⟩
  have := nk.tick c s.now (Nat.le_add_right _ _) h.tick
  rw [nk.now]; exact this

theorem RInv.after_block {s : Sys} (h : RInv nat blocked SLA SLB SR liteA liteB T0 H c s) (ns : List SysEv)
    (hn : ∀ e ∈ ns, isNoise e = true) (hH : roundT c (Sys.runs s ns) ≤ H) :
    RInv nat blocked SLA SLB SR liteA liteB T0 H c (round c (Sys.runs s ns)) ∧
    (∀ x, HasSucc s x → HasSucc (round c (Sys.runs s ns)) x) ∧ (∀ x, Sel s x → Sel (round c (Sys.runs s ns)) x) ∧
    ((round c (Sys.runs s ns)).agent c).selStart = (s.agent c).selStart ∧
    ((round c (Sys.runs s ns)).agent c).cfg = (s.agent c).cfg ∧
    (round c (Sys.runs s ns)).now = roundT c (Sys.runs s ns) ∧
    TickIn ((round c (Sys.runs s ns)).now + Config.minInterval (s.agent c).cfg) (round c (Sys.runs s ns)).now
      ((round c (Sys.runs s ns)).agent c) := by
  obtain ⟨h1, k1⟩ := h.noise ns hn
  obtain ⟨r1, r2, r3, r4, r5, r6, r7⟩ := h1.after_round hH
  refine ⟨r1, fun x g => r2 x (k1.succ x g), fun x g => r3 x (k1.sel x g), r4.trans (k1.static c).1, r5.trans (k1.static c).2,
    r6, ?_⟩
  rw [← (k1.static c).2]
  exact r7

end

section
variable {nat blocked : List (Nat × Nat)} {SLA SLB SR : Nat → Prop} {liteA liteB : Bool} {T0 H : Nat} {c : Bool}

theorem roundT_of_tickIn {lo now : Nat} {s : Sys} (h : TickIn lo now (s.agent c)) : lo ≤ roundT c s ∧ roundT c s ≤ now + 2000000000 := by
  obtain ⟨t, ht, h1, h2⟩ := h
  unfold roundT
  rw [ht]
  exact ⟨h1, h2⟩

theorem RInv.after_nrounds {s : Sys} (h : RInv nat blocked SLA SLB SR liteA liteB T0 H c s) (N : Nat → List SysEv)
    (hN : ∀ k, ∀ e ∈ N k, isNoise e = true) (n : Nat) (hH : ∀ k, k < n → ntick c N k s ≤ H) :
    RInv nat blocked SLA SLB SR liteA liteB T0 H c (nrounds c N n s) ∧
    (∀ x, HasSucc s x → HasSucc (nrounds c N n s) x) ∧ (∀ x, Sel s x → Sel (nrounds c N n s) x) ∧
    ((nrounds c N n s).agent c).selStart = (s.agent c).selStart ∧ ((nrounds c N n s).agent c).cfg = (s.agent c).cfg ∧
    (∀ m, n = m + 1 → (nrounds c N n s).now = ntick c N m s ∧
      TickIn ((nrounds c N n s).now + Config.minInterval (s.agent c).cfg) (nrounds c N n s).now ((nrounds c N n s).agent c)) := by
  induction n with
  | zero => exact ⟨h, fun _ g => g, fun _ g => g, rfl, rfl, fun m hm => by omega⟩
  | succ n ih =>
    obtain ⟨i1, i2, i3, i4, i5, _⟩ := ih (fun k hk => hH k (by omega))
    have hHn : roundT c (Sys.runs (nrounds c N n s) (N n)) ≤ H := hH n (by omega)
    obtain ⟨b1, b2, b3, b4, b5, b6, b7⟩ := i1.after_block (N n) (hN n) hHn
    rw [nrounds_succ]
    refine ⟨b1, fun x g => b2 x (i2 x g), fun x g => b3 x (i3 x g), b4.trans i4, b5.trans i5, ?_⟩
    intro m hm
    have : m = n := by omega
    subst this
    refine ⟨b6, ?_⟩
    rw [← i5]
    exact b7

theorem ntick_step {s : Sys} (h : RInv nat blocked SLA SLB SR liteA liteB T0 H c s) (N : Nat → List SysEv)
    (hN : ∀ k, ∀ e ∈ N k, isNoise e = true) (n : Nat) (hH : ∀ k, k ≤ n → ntick c N k s ≤ H) :
    ntick c N n s + Config.minInterval (s.agent c).cfg ≤ ntick c N (n + 1) s ∧ ntick c N (n + 1) s ≤ ntick c N n s + 2000000000 := by
  obtain ⟨i1, _, _, _, i5, i6⟩ := h.after_nrounds N hN (n + 1) (fun k hk => hH k (by omega))
  obtain ⟨e1, e2⟩ := i6 n rfl
  obtain ⟨_, k1⟩ := i1.noise (N (n + 1)) (hN (n + 1))
  have hlo : (nrounds c N (n + 1) s).now + Config.minInterval (s.agent c).cfg ≤
      (nrounds c N (n + 1) s).now + Config.minInterval ((nrounds c N (n + 1) s).agent c).cfg := by rw [i5]; exact Nat.le_refl _
  have := roundT_of_tickIn (k1.tick c _ hlo e2)
  unfold ntick at e1 ⊢
  rw [e1] at this
  exact this

theorem ntick_bounds {s : Sys} (h : RInv nat blocked SLA SLB SR liteA liteB T0 H c s) (N : Nat → List SysEv)
    (hN : ∀ k, ∀ e ∈ N k, isNoise e = true) (n : Nat) (hH : ∀ k, k < n → ntick c N k s ≤ H) :
    ntick c N 0 s + Config.minInterval (s.agent c).cfg * n ≤ ntick c N n s ∧ ntick c N n s ≤ ntick c N 0 s + 2000000000 * n := by
  induction n with
  | zero => simp
  | succ n ih =>
    obtain ⟨i1, i2⟩ := ih (fun k hk => hH k (by omega))
    obtain ⟨s1, s2⟩ := ntick_step h N hN n (fun k hk => hH k (by omega))
    rw [Nat.mul_succ, Nat.mul_succ]
    omega

theorem converge_noisy {s : Sys} (h : RInv nat blocked SLA SLB SR liteA liteB T0 H c s) (N : Nat → List SysEv)
    (hN : ∀ k, ∀ e ∈ N k, isNoise e = true) (n : Nat) (hH : ∀ k, k ≤ n → ntick c N k s ≤ H)
    (hstart : HasSucc s c ∨ Sel s c ∨ (BudgetPair c (Sys.runs s (N 0)) ∧ 1 ≤ n))
    (htime : nomTime c s ≤ ntick c N n s) :
    ∀ x, Sel (nrounds c N (n + 1) s) x ∧ ((nrounds c N (n + 1) s).agent x).connState = .connected := by
  obtain ⟨i1, i2, i3, i4, i5, _⟩ := h.after_nrounds N hN n (fun k hk => hH k (by omega))
  have hsucc : HasSucc (nrounds c N n s) c ∨ Sel (nrounds c N n s) c := by
    rcases hstart with g | g | ⟨g, hn⟩
    · exact Or.inl (i2 c g)
    · exact Or.inr (i3 c g)
    · obtain ⟨m, rfl⟩ : ∃ m, n = m + 1 := ⟨n - 1, by omega⟩
      obtain ⟨h0, _⟩ := h.noise (N 0) (hN 0)
      have hH0 : roundT c (Sys.runs s (N 0)) ≤ H := hH 0 (by omega)
      have hp := round_ping h0 hH0 g
      obtain ⟨j1, _, _, _, _, _, _⟩ := h.after_block (N 0) (hN 0) hH0
      obtain ⟨_, k2, k3, _⟩ := j1.after_nrounds (fun k => N (k + 1)) (fun k => hN (k + 1)) m (fun k hk => by
        have := hH (k + 1) (by omega)
        unfold ntick at this ⊢
        exact this)
      show HasSucc (nrounds c (fun k => N (k + 1)) m (round c (Sys.runs s (N 0)))) c ∨ _
      rcases hp with g | g
      · exact Or.inl (k2 c g)
      · exact Or.inr (k3 c g)
  obtain ⟨hn1, kn⟩ := i1.noise (N n) (hN n)
  have hsucc' : HasSucc (Sys.runs (nrounds c N n s) (N n)) c ∨ Sel (Sys.runs (nrounds c N n s) (N n)) c :=
    hsucc.imp (kn.succ c) (kn.sel c)
  have hHn : roundT c (Sys.runs (nrounds c N n s) (N n)) ≤ H := hH n (Nat.le_refl _)
  have hfin := round_final hn1 hHn hsucc' (by
    rw [(kn.static c).1, (kn.static c).2, i4, i5]; exact htime)
  obtain ⟨r1, _⟩ := hn1.after_round hHn
  rw [nrounds_succ]
  intro x
  have hs : Sel (round c (Sys.runs (nrounds c N n s) (N n))) x := by
    by_cases hx : x = c
    · subst hx; exact hfin.1
    · rw [Bool.eq_not_of_ne hx]; exact hfin.2
  exact ⟨hs, (r1.ok.good x).linv.selConn hs⟩

/-- the round bound for noisy rounds, from the first tick after the first noise block -/
def nroundBound (c : Bool) (N : Nat → List SysEv) (s : Sys) : Nat :=
  (nomTime c s - ntick c N 0 s) / Config.minInterval (s.agent c).cfg + 1

theorem converge_bound_noisy {s : Sys} (h : RInv nat blocked SLA SLB SR liteA liteB T0 H c s) (N : Nat → List SysEv)
    (hN : ∀ k, ∀ e ∈ N k, isNoise e = true)
    (hstart : HasSucc s c ∨ BudgetPair c (Sys.runs s (N 0)))
    (hH : max (ntick c N 0 s) (nomTime c s) + 2000000000 ≤ H) :
    ∃ n, 1 ≤ n ∧ n ≤ nroundBound c N s ∧
      ∀ x, Sel (nrounds c N (n + 1) s) x ∧ ((nrounds c N (n + 1) s).agent x).connState = .connected := by
  have key : ∀ m, (∀ j, j ≤ m → ntick c N j s ≤ H) ∨
      ∃ n, n ≤ m ∧ 1 ≤ n ∧ nomTime c s ≤ ntick c N n s ∧ ∀ j, j ≤ n → ntick c N j s ≤ H := by
    intro m
    induction m with
    | zero =>
      left
      intro j hj
      have : j = 0 := by omega
      subst this
      have := Nat.le_max_left (ntick c N 0 s) (nomTime c s)
      omega
    | succ m ih =>
      rcases ih with hall | ⟨n, hn, h1, h2, h3⟩
      · by_cases hdone : 1 ≤ m ∧ nomTime c s ≤ ntick c N m s
        · exact Or.inr ⟨m, by omega, hdone.1, hdone.2, hall⟩
        · left
          obtain ⟨_, r5⟩ := ntick_step h N hN m hall
          have hm : ntick c N m s ≤ max (ntick c N 0 s) (nomTime c s) := by
            by_cases hm0 : m = 0
            · subst hm0; exact Nat.le_max_left _ _
            · have : ntick c N m s < nomTime c s := by
                rcases Nat.lt_or_ge (ntick c N m s) (nomTime c s) with hlt | hge
                · exact hlt
                · exact absurd ⟨by omega, hge⟩ hdone
              have := Nat.le_max_right (ntick c N 0 s) (nomTime c s)
              omega
          intro j hj
          by_cases hjm : j ≤ m
          · exact hall j hjm
          · have : j = m + 1 := by omega
            subst this
            omega
      · exact Or.inr ⟨n, by omega, h1, h2, h3⟩
  have hpos := minInterval_pos (s.agent c).cfg
  have finish : ∀ n, 1 ≤ n → n ≤ nroundBound c N s → nomTime c s ≤ ntick c N n s → (∀ j, j ≤ n → ntick c N j s ≤ H) →
      ∃ n, 1 ≤ n ∧ n ≤ nroundBound c N s ∧
        ∀ x, Sel (nrounds c N (n + 1) s) x ∧ ((nrounds c N (n + 1) s).agent x).connState = .connected := by
    intro n h1 h2 h3 h4
    refine ⟨n, h1, h2, converge_noisy h N hN n h4 ?_ h3⟩
    rcases hstart with g | g
    · exact Or.inl g
    · exact Or.inr (Or.inr ⟨g, h1⟩)
  rcases key (nroundBound c N s) with hall | ⟨n, hn, h1, h2, h3⟩
  · obtain ⟨b1, _⟩ := ntick_bounds h N hN (nroundBound c N s) (fun k hk => hall k (by omega))
    refine finish (nroundBound c N s) (by unfold nroundBound; exact Nat.succ_le_succ (Nat.zero_le _)) (Nat.le_refl _) ?_ hall
    have hdiv : nomTime c s - ntick c N 0 s < Config.minInterval (s.agent c).cfg * nroundBound c N s := by
      unfold nroundBound
      exact Nat.lt_mul_div_succ _ hpos
    omega
  · exact finish n h1 hn h2 h3

end

section
variable {nat blocked : List (Nat × Nat)} {SLA SLB SR : Nat → Prop} {liteA liteB : Bool} {T0 H : Nat} {c : Bool}

theorem nrounds_nil (c : Bool) (n : Nat) (s : Sys) : nrounds c (fun _ => []) n s = rounds c n s := by
  induction n generalizing s with
  | zero => rfl
  | succ n ih => exact ih (round c s)

theorem ntick_nil (c : Bool) (k : Nat) (s : Sys) : ntick c (fun _ => []) k s = tickTime c k s := by
  unfold ntick tickTime; rw [nrounds_nil]; rfl

theorem noNoise : ∀ k : Nat, ∀ e ∈ (fun _ : Nat => ([] : List SysEv)) k, isNoise e = true := fun _ _ h => by cases h

theorem converge {s : Sys} (h : RInv nat blocked SLA SLB SR liteA liteB T0 H c s) (n : Nat)
    (hH : ∀ k, k ≤ n → tickTime c k s ≤ H)
    (hstart : HasSucc s c ∨ Sel s c ∨ (BudgetPair c s ∧ 1 ≤ n))
    (htime : (s.agent c).selStart + Config.maxWait (s.agent c).cfg ≤ tickTime c n s) :
    ∀ x, Sel (rounds c (n + 1) s) x ∧ ((rounds c (n + 1) s).agent x).connState = .connected := by
  rw [← nrounds_nil]
  exact converge_noisy h _ noNoise n (fun k hk => by rw [ntick_nil]; exact hH k hk) hstart (by rw [ntick_nil]; exact htime)

/-- **convergence with an explicit number of rounds.**  `n ≥ 1` rounds of at least `minInterval` each take the
controlling agent's clock past `selStart + maxWait`; the horizon covers `n` more rounds of at most 2 s each: after
`n + 1` rounds both agents have a selected pair and are Connected. -/
theorem converge_explicit {s : Sys} (h : RInv nat blocked SLA SLB SR liteA liteB T0 H c s) (n : Nat) (hn : 1 ≤ n)
    (hstart : HasSucc s c ∨ BudgetPair c s)
    (htime : (s.agent c).selStart + Config.maxWait (s.agent c).cfg ≤ tickTime c 0 s + Config.minInterval (s.agent c).cfg * n)
    (hb : tickTime c 0 s + 2000000000 * n ≤ H) :
    ∀ x, Sel (rounds c (n + 1) s) x ∧ ((rounds c (n + 1) s).agent x).connState = .connected := by
  have tb : ∀ k, k ≤ n → tickTime c 0 s + Config.minInterval (s.agent c).cfg * k ≤ tickTime c k s ∧
      tickTime c k s ≤ tickTime c 0 s + 2000000000 * k := by
    intro k
    induction k using Nat.strongRecOn with
    | _ k ih =>
      intro hk
      have := ntick_bounds h (fun _ => []) noNoise k (fun j hj => by
        rw [ntick_nil]
        have := (ih j hj (by omega)).2
        have h2 : 2000000000 * j ≤ 2000000000 * n := Nat.mul_le_mul_left _ (by omega)
        omega)
      rwa [ntick_nil, ntick_nil] at this
  apply converge h n
  · intro k hk
    have := (tb k hk).2
    have h2 : 2000000000 * k ≤ 2000000000 * n := Nat.mul_le_mul_left _ hk
    omega
  · rcases hstart with g | g
    · exact Or.inl g
    · exact Or.inr (Or.inr ⟨g, hn⟩)
  · exact Nat.le_trans htime (tb n (Nat.le_refl _)).1

theorem converge_bound {s : Sys} (h : RInv nat blocked SLA SLB SR liteA liteB T0 H c s)
    (hstart : HasSucc s c ∨ BudgetPair c s)
    (hH : max (tickTime c 0 s) (nomTime c s) + 2000000000 ≤ H) :
    ∃ n, 1 ≤ n ∧ n ≤ roundBound c s ∧
      ∀ x, Sel (rounds c (n + 1) s) x ∧ ((rounds c (n + 1) s).agent x).connState = .connected := by
  have e : nroundBound c (fun _ => []) s = roundBound c s := by unfold nroundBound roundBound; rw [ntick_nil]
  obtain ⟨n, h1, h2, h3⟩ := converge_bound_noisy h (fun _ => []) noNoise hstart (by rw [ntick_nil]; exact hH)
  exact ⟨n, h1, by rw [← e]; exact h2, by rw [← nrounds_nil]; exact h3⟩

end

end IceProofs.C01Live

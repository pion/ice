import IceProofs.AgentC03Inbound
import IceProofs.AgentRulesStep
/-!
# C03 — every `step` is an `HSel` transition
-/
namespace IceProofs.C03
open IceModel.AgentCore

theorem noReq_res (s : String) : NoReq [Out.res s] := by intro f t m hm; simp at hm

theorem HSel.add_out {wp : Prop} {a a' : Agent} {o : List Out} (h : HSel wp a (a', o)) (o' : List Out)
    (hn : NoReq o') : HSel wp a (a', o ++ o') :=
  ⟨h.inv, h.rel, h.cfg, h.out.append (hn.outR _), h.sel, h.fwd⟩

theorem HSel.pre_out {wp : Prop} {a a' : Agent} {o : List Out} (h : HSel wp a (a', o)) (o' : List Out)
    (hn : NoReq o') : HSel wp a (a', o' ++ o) :=
  ⟨h.inv, h.rel, h.cfg, (hn.outR _).append h.out, h.sel, h.fwd⟩

theorem HSel.refl_out (wp : Prop) (a : Agent) (o : List Out) (hn : NoReq o) : HSel wp a (a, o) := by
  have := ((HOK.refl wp True a).hsel).add_out o hn
  simpa using this

theorem hok_data {a : Agent} {r : Agent × List Out} (h : Agent.Chain (quiet fun k => k = .data) a r) : HOK True True a r :=
  hok_quiet nofun nofun (fun _ => ⟨nofun, nofun⟩) (fun _ => nofun) h

theorem writeVia_noReq (a : Agent) (now : Nat) (p : Pair) (len : Nat) : NoReq (a.writeVia now p len).2 := by
  unfold Agent.writeVia
  intro f t m hm
  split at hm <;> simp at hm

theorem write_hsel (a : Agent) (now len : Nat) (sl : Bool) : HSel False a (a.write now len sl) ∧ NoReq (a.write now len sl).2 :=
  ⟨((hok_data (Agent.Chain.write a now len sl rfl)).hsel).weaken False.elim,
    Agent.write_rule (Q := fun x => NoReq x.2) a now len sl noReq_res fun p _ _ _ => writeVia_noReq a now p len⟩

theorem writeToPair_hsel (a : Agent) (now id len : Nat) (sl : Bool) :
    HSel False a (a.writeToPair now id len sl) ∧ NoReq (a.writeToPair now id len sl).2 :=
  ⟨((hok_data (Agent.Chain.writeToPair a now id len sl rfl)).hsel).weaken False.elim,
    Agent.writeToPair_rule (Q := fun x => NoReq x.2) a now id len sl noReq_res fun p _ _ _ _ => writeVia_noReq a now p len⟩

theorem inboundData_hsel (a : Agent) (now : Nat) (l : Cand) (src len : Nat) : HSel False a (a.inboundData now l src len) :=
  ((hok_data (Agent.Chain.inboundData a now l src len nofun rfl)).hsel).weaken False.elim

theorem inboundData_noReq (a : Agent) (now : Nat) (l : Cand) (src len : Nat) : NoReq (a.inboundData now l src len).2 :=
  Agent.inboundData_outs a now l src len ▸ NoReq.nil

theorem doRestart_hok (a : Agent) (now : Nat) (u p : String) : HOK False False a (a.doRestart now u p) := by
  unfold Agent.doRestart
  simp only []
  have h0 : HOK False False a
      (({ a with localUfrag := u, localPwd := p, remoteUfrag := "", remotePwd := "" } : Agent), []) :=
    HOK.silent (Pres.of_eq rfl rfl rfl rfl fun _ => rfl) rfl rfl
  have h1 := h0.andThen (wipe_pres _) rfl rfl
  have h2 := h1.andThen (a2 := { (Agent.resetSelector (Agent.wipe
      ({ a with localUfrag := u, localPwd := p, remoteUfrag := "", remotePwd := "" } : Agent)) now) with
      generation := a.generation + 1 }) (Pres.of_eq rfl rfl rfl rfl fun _ => rfl) rfl rfl
  split
  · exact HOK.seq h2 (setConnState_hok _ _)
  · exact h2

theorem HSel.thenForced {a : Agent} {r : Agent × List Out} (h : HSel False a r) (now : Nat) :
    HSel False a (Agent.thenForced r now) :=
  HSel.seq_hok (a1 := r.1) (o1 := r.2) h (runForced_hok (wp := False) r.1 now)

/-- the pieces of the successful branch of `start` -/
def startA0 (a : Agent) (now : Nat) (controlling : Bool) (ru rp : String) : Agent :=
  Agent.resetSelector { a with controlling := controlling, remoteUfrag := ru, remotePwd := rp, started := true } now

def startA1 (a : Agent) : Agent :=
  { a.requestCheck with lastSeen := .unknown, checkingStart := 0, checkingTimeout := a.initialCheckingTimeout }

theorem startA0_pres {wp ex : Prop} (a : Agent) (now : Nat) (ctl : Bool) (ru rp : String) :
    Pres wp ex a (startA0 a now ctl ru rp) := Pres.of_eq rfl rfl rfl rfl fun _ => rfl

theorem startA1_hok {wp ex : Prop} (a : Agent) : HOK wp ex a (startA1 a, []) :=
  HOK.silent (Pres.of_eq rfl rfl rfl rfl fun _ => rfl) rfl rfl

theorem startCore_hsel (a : Agent) (now : Nat) (ctl : Bool) (ru rp : String) :
    HSel False a (Agent.startCore a now ctl ru rp) := by
  have h0 : HSel False a (startA0 a now ctl ru rp, []) := HSel.of_pres (startA0_pres a now ctl ru rp) rfl
  have h1 := (h0.seq_hok (setConnState_hok (wp := False) (startA0 a now ctl ru rp) .checking)).seq_hok
    (startA1_hok (ex := False) _)
  have h2 := h1.add_out _ (noReq_res "ok")
  simp only [List.append_nil, List.nil_append] at h2
  exact h2

theorem HSel.silent_res {a a' : Agent} (hc : a'.cfg = a.cfg) (hn : a'.nextPairID = a.nextPairID)
    (hl : a'.checklist = a.checklist) (hs : a'.selected = a.selected) (hp : ∀ p, a'.pairPrio p = a.pairPrio p)
    (s : String) : HSel False a (a', [.res s]) := by
  simpa using (HSel.of_pres (wp := False) (Pres.of_eq hc hn hl hs hp) hc).add_out _ (noReq_res s)

theorem step_hsel (a : Agent) (e : Ev) : HSel False a (step a e) := by
  have err : ∀ s, HSel False a (a, [.res s]) := fun s => HSel.refl_out _ _ _ (noReq_res s)
  have idle : HSel False a (a, []) := (HOK.refl False True a).hsel
  cases e with
  | addLocal now c =>
    rw [Agent.step_addLocal]
    exact ((addLocalCandidate_hok (ex := True) a c).1.hsel).thenForced now
  | addRemote now c =>
    exact Agent.step_addRemote_rule a now c err idle fun _ _ =>
      ((addRemoteCandidate_hok (ex := True) a c).1.hsel).thenForced now
  | start now ctl ru rp =>
    exact Agent.step_start_rule a now ctl ru rp err fun _ _ => (startCore_hsel a now ctl ru rp).thenForced now
  | setRemoteCreds ru rp =>
    exact Agent.step_setRemoteCreds_rule a ru rp err fun _ =>
      HSel.silent_res (a := a) (a' := { a with remoteUfrag := ru, remotePwd := rp }) rfl rfl rfl rfl (fun _ => rfl) _
  | advance now =>
    rw [Agent.step_advance]
    exact (runTimers_hok (wp := False) a now 100000).hsel
  | inbound now la src m =>
    exact Agent.step_inbound_rule a now la src m idle fun _ _ l _ => (handleInbound_hsel a now l src m).thenForced now
  | inboundData now la src len sl =>
    exact Agent.step_inboundData_rule a now la src len sl idle fun _ _ _ l _ =>
      inboundData_hsel a now l src len
  | write now len sl =>
    rw [Agent.step_write]
    exact (write_hsel a now len sl).1
  | writeToPair now id len sl =>
    rw [Agent.step_writeToPair]
    exact (writeToPair_hsel a now id len sl).1
  | read cap =>
    exact Agent.step_read_rule a cap err fun n rest _ _ =>
      HSel.silent_res (a := a) (a' := { a with rx := rest, connBytesRecv := a.connBytesRecv + min n cap }) rfl rfl rfl rfl
        (fun _ => rfl) _
  | renominate now la ri v =>
    refine Agent.step_renominate_rule a now la ri v err fun hc _ l r p _ _ _ => ?_
    have h := sendRequest_hok (wp := False) (ex := True) a now l r true (if v > 0 then some v else none) (fun _ => hc)
    generalize a.sendRequest now l r true (if v > 0 then some v else none) = s1 at h ⊢
    exact ((h.andThen (a2 := { s1.1 with nomIssued := s1.1.nomIssued ++ [(v, l.addr, r.addr)] })
      (Pres.of_eq rfl rfl rfl rfl fun _ => rfl) rfl rfl).hsel).add_out _ (noReq_res _)
  | restart now u p =>
    refine Agent.step_restart_rule a now u p err fun _ => ?_
    exact (doRestart_hok a now u p).hsel.add_out _ (noReq_res _)
  | close =>
    refine Agent.step_close_rule a err fun _ => ?_
    have h0 : HOK False False a (({ a with locals := [], remotes := [], caches := [], closed := true } : Agent), []) :=
      HOK.silent (Pres.of_eq_np rfl rfl rfl rfl) rfl rfl
    exact (HOK.seq h0 (setConnState_hok (wp := False) _ .closed)).hsel.add_out _ (noReq_res _)

end IceProofs.C03

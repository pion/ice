import IceModel.Framing
import IceSpec.C14
/-!
# The framing model (`IceModel.Framing`) against the spec parser of C14

The short-read loop (`fill_ok` / `fill_fail`); one call of the reader and all calls as functions of the
flattened stream (`readAllN_spec`, `readAll_eq_parse`: the reader computes `IceSpec.C14.parse`, whatever
the segmentation); the parser on encoded packets (`parse_wire_append`, `parse_truncated`,
`parseN_structure`); bounds on what a `Read` asks for (`*_log_bound`). -/
namespace IceProofs.Framing
open IceModel.Framing IceSpec.C14

theorem checkReads_zero_cons (us : List Nat) (l : ReadLog) : checkReads (0 :: us) l = checkReads us l := by
  cases l with
  | nil => simp [checkReads]
  | cons a l => obtain ⟨w, g⟩ := a; simp [checkReads]

theorem checkReads_step (m : Nat) (us : List Nat) (w g : Nat) (l : ReadLog)
    (hw : w ≠ 0) (hwm : w ≤ m) (hg : g ≤ w) :
    checkReads (m :: us) ((w, g) :: l) = checkReads ((m - g) :: us) l := by
  have hm : (m == 0) = false := by simp; omega
  simp only [checkReads, List.dropWhile_cons, hm]
  simp only [Bool.false_eq_true, ↓reduceIte]
  rw [if_neg hw, if_neg (by omega), if_neg (by omega)]

theorem fill_ok (segs : Segs) (need : Nat) (h : need ≤ segs.flatten.length) :
    (fill segs need).1 = some (segs.flatten.take need)
    ∧ (fill segs need).2.1.flatten = segs.flatten.drop need
    ∧ ∀ us l, checkReads (need :: us) ((fill segs need).2.2 ++ l) = checkReads us l := by
  fun_induction fill segs need with
  | case1 segs => simp [checkReads_zero_cons]
  | case2 need => simp at h
  | case3 seg rest need hle r ih =>
    simp only [List.flatten_cons, List.length_append] at h
    have ih := ih (by omega)
    simp only [r] at *
    refine ⟨?_, ?_, fun us l => ?_⟩
    · rw [ih.1]
      simp only [Option.map_some, List.flatten_cons]
      rw [List.take_append, List.take_of_length_le hle]
    · rw [ih.2.1]
      simp only [List.flatten_cons]
      rw [List.drop_append, List.drop_of_length_le hle]
      simp
    · rw [List.cons_append, checkReads_step _ _ _ _ _ (by omega) (by omega) (by omega)]
      exact ih.2.2 us l
  | case4 seg rest need hgt =>
    have : need + 1 ≤ seg.length := by omega
    refine ⟨?_, ?_, fun us l => ?_⟩
    · simp only [List.flatten_cons]; rw [List.take_append_of_le_length this]
    · simp only [List.flatten_cons]; rw [List.drop_append_of_le_length this]
    · rw [List.cons_append, checkReads_step _ _ _ _ _ (by omega) (by omega) (by omega)]
      simp [checkReads_zero_cons]

theorem fill_fail (segs : Segs) (need : Nat) (h : segs.flatten.length < need) :
    (fill segs need).1 = none ∧ (fill segs need).2.1 = []
    ∧ ∀ us, checkReads (need :: us) (fill segs need).2.2 = none := by
  fun_induction fill segs need with
  | case1 segs => omega
  | case2 need =>
    refine ⟨rfl, rfl, fun us => ?_⟩
    rw [checkReads_step _ _ _ _ _ (by omega) (by omega) (by omega)]
    simp [checkReads]
  | case3 seg rest need hle r ih =>
    simp only [List.flatten_cons, List.length_append] at h
    have ih := ih (by omega)
    simp only [r] at *
    refine ⟨by simp [ih.1], ih.2.1, fun us => ?_⟩
    rw [checkReads_step _ _ _ _ _ (by omega) (by omega) (by omega)]
    exact ih.2.2 us
  | case4 seg rest need hgt =>
    simp only [List.flatten_cons, List.length_append] at h
    omega

theorem decodeLen_pair (hi lo : UInt8) : decodeLen [hi, lo] = hi.toNat * 256 + lo.toNat := by
  simp [decodeLen]

theorem readPacket_short (cap : Nat) (e : IoErr) (segs : Segs) (h : segs.flatten.length < 2) :
    (readPacket cap e segs).1 = .err e ∧ ∀ us, checkReads (2 :: us) (readPacket cap e segs).2.2 = none := by
  obtain ⟨hf, _, hl⟩ := fill_fail segs 2 h
  unfold readPacket
  split
  · next s1 l1 heq => rw [heq] at hl; exact ⟨rfl, hl⟩
  · next hd s1 l1 heq => rw [heq] at hf; cases hf

theorem readPacket_hdr (cap : Nat) (e : IoErr) (segs : Segs) (hi lo : UInt8) (rest : List UInt8)
    (h : segs.flatten = hi :: lo :: rest) :
    (hi.toNat * 256 + lo.toNat > cap →
      (readPacket cap e segs).1 = .shortBuffer (hi.toNat * 256 + lo.toNat)
      ∧ (readPacket cap e segs).2.1.flatten = rest
      ∧ ∀ us l, checkReads (2 :: us) ((readPacket cap e segs).2.2 ++ l) = checkReads us l)
    ∧ (hi.toNat * 256 + lo.toNat ≤ cap → rest.length < hi.toNat * 256 + lo.toNat →
      (readPacket cap e segs).1 = .err e
      ∧ ∀ us, checkReads (2 :: (hi.toNat * 256 + lo.toNat) :: us) (readPacket cap e segs).2.2 = none)
    ∧ (hi.toNat * 256 + lo.toNat ≤ cap → hi.toNat * 256 + lo.toNat ≤ rest.length →
      (readPacket cap e segs).1 = .pkt (rest.take (hi.toNat * 256 + lo.toNat))
      ∧ (readPacket cap e segs).2.1.flatten = rest.drop (hi.toNat * 256 + lo.toNat)
      ∧ ∀ us l, checkReads (2 :: (hi.toNat * 256 + lo.toNat) :: us) ((readPacket cap e segs).2.2 ++ l)
          = checkReads us l) := by
  obtain ⟨hf, hs, hl⟩ := fill_ok segs 2 (by rw [h]; simp)
  rw [h] at hf hs
  simp only [List.take_succ_cons, List.take_zero, List.drop_succ_cons, List.drop_zero] at hf hs
  generalize hlen : hi.toNat * 256 + lo.toNat = len
  unfold readPacket
  split
  · next s1 l1 heq => rw [heq] at hf; cases hf
  · next hd s1 l1 heq =>
    rw [heq] at hf hs hl
    simp only [Option.some.injEq] at hf hs hl
    subst hf
    simp only [decodeLen_pair, hlen]
    refine ⟨?_, ?_, ?_⟩
    · intro hgt; rw [if_pos hgt]; exact ⟨rfl, hs, hl⟩
    · intro hle hlt
      rw [if_neg (by omega)]
      obtain ⟨hf2, _, hl2⟩ := fill_fail s1 len (by rw [hs]; exact hlt)
      split
      · next s2 l2 heq2 =>
        rw [heq2] at hl2
        exact ⟨rfl, fun us => by simp only; rw [hl]; exact hl2 us⟩
      · next b s2 l2 heq2 => rw [heq2] at hf2; cases hf2
    · intro hle hge
      rw [if_neg (by omega)]
      obtain ⟨hf2, hs2, hl2⟩ := fill_ok s1 len (by rw [hs]; exact hge)
      rw [hs] at hf2 hs2
      split
      · next s2 l2 heq2 => rw [heq2] at hf2; cases hf2
      · next b s2 l2 heq2 =>
        rw [heq2] at hf2 hs2 hl2
        simp only [Option.some.injEq] at hf2
        exact ⟨by rw [hf2], hs2, fun us l => by simp only; rw [List.append_assoc, hl]; exact hl2 us l⟩

/-- Same fuel on both sides: model and spec consume one unit of fuel per call. -/
theorem readAllN_spec (cap : Nat) (e : IoErr) (fuel : Nat) (segs : Segs) :
    (readAllN cap e fuel segs).1 = parseN cap e fuel segs.flatten
    ∧ checkReads (unitsN cap fuel segs.flatten) (readAllN cap e fuel segs).2 = none := by
  induction fuel generalizing segs with
  | zero => simp [readAllN, parseN, checkReads]
  | succ fuel ih =>
    -- a call that does not return a packet ends the loop with its result and its log
    have stop : ∀ (r : Res) (us : List Nat), (readPacket cap e segs).1 = r → r.isPkt = false →
        checkReads us (readPacket cap e segs).2.2 = none →
        (readAllN cap e (fuel + 1) segs).1 = [r] ∧ checkReads us (readAllN cap e (fuel + 1) segs).2 = none := by
      intro r us hr hp hl
      unfold readAllN
      split
      · next b s' l heq => rw [heq] at hr; subst hr; cases hp
      · next r' s' l hne heq => rw [heq] at hr hl; subst hr; exact ⟨rfl, hl⟩
    match hflat : segs.flatten with
    | [] =>
      obtain ⟨hr, hl⟩ := readPacket_short cap e segs (by simp [hflat])
      exact stop _ _ hr rfl (hl [])
    | [x] =>
      obtain ⟨hr, hl⟩ := readPacket_short cap e segs (by simp [hflat])
      exact stop _ _ hr rfl (hl [])
    | hi :: lo :: rest =>
      obtain ⟨h1, h2, h3⟩ := readPacket_hdr cap e segs hi lo rest hflat
      simp only [parseN, unitsN]
      by_cases hgt : hi.toNat * 256 + lo.toNat > cap
      · obtain ⟨hr, _, hl⟩ := h1 hgt
        rw [if_pos hgt, if_pos hgt]
        exact stop _ _ hr rfl (by simpa [checkReads] using hl [] [])
      · rw [if_neg hgt, if_neg hgt]
        by_cases hlt : rest.length < hi.toNat * 256 + lo.toNat
        · obtain ⟨hr, hl⟩ := h2 (by omega) hlt
          rw [if_pos hlt, if_pos hlt]
          exact stop _ _ hr rfl (hl [])
        · obtain ⟨hr, hs, hl⟩ := h3 (by omega) (by omega)
          rw [if_neg hlt, if_neg hlt]
          unfold readAllN
          split
          · next b s' l heq =>
            rw [heq] at hr hs hl
            simp only at hr hs hl ⊢
            obtain ⟨i1, i2⟩ := ih s'
            rw [hs] at i1 i2
            injection hr with hr
            exact ⟨by rw [hr, i1], by rw [hl]; exact i2⟩
          · next r s' l hne heq =>
            rw [heq] at hr
            exact absurd hr (hne _)

theorem readAllN_eq_parseN (cap : Nat) (e : IoErr) (fuel : Nat) (segs : Segs) :
    (readAllN cap e fuel segs).1 = parseN cap e fuel segs.flatten :=
  (readAllN_spec cap e fuel segs).1

theorem readAllN_reads (cap : Nat) (e : IoErr) (fuel : Nat) (segs : Segs) :
    checkReads (unitsN cap fuel segs.flatten) (readAllN cap e fuel segs).2 = none :=
  (readAllN_spec cap e fuel segs).2

theorem units_eq_unitsN (cap : Nat) (s : List UInt8) : units cap s = unitsN cap (s.length + 1) s := rfl

theorem parseN_fuel (cap : Nat) (e : IoErr) (f1 f2 : Nat) (s : List UInt8)
    (h1 : s.length < f1) (h2 : s.length < f2) : parseN cap e f1 s = parseN cap e f2 s := by
  induction f1 generalizing f2 s with
  | zero => omega
  | succ f1 ih =>
    cases f2 with
    | zero => omega
    | succ f2 =>
      match s with
      | [] => simp [parseN]
      | [x] => simp [parseN]
      | hi :: lo :: rest =>
        simp only [parseN]
        generalize hi.toNat * 256 + lo.toNat = len
        split
        · rfl
        · split
          · rfl
          · simp only [List.length_cons] at h1 h2
            have hd : (rest.drop len).length ≤ rest.length := by simp only [List.length_drop]; omega
            rw [ih f2 _ (by omega) (by omega)]

theorem parse_eq_parseN (cap : Nat) (e : IoErr) (f : Nat) (s : List UInt8) (h : s.length < f) :
    parse cap e s = parseN cap e f s :=
  parseN_fuel cap e _ _ s (by omega) h

theorem readAll_eq_parse (cap : Nat) (e : IoErr) (segs : Segs) :
    (readAll cap e segs).1 = parse cap e segs.flatten := by
  unfold readAll parse
  exact readAllN_eq_parseN cap e _ segs

theorem header_toNat_mod (n : Nat) :
    ∃ hi lo : UInt8, header n = [hi, lo] ∧ hi.toNat * 256 + lo.toNat = n % 65536 := by
  refine ⟨_, _, rfl, ?_⟩
  simp only [UInt8.toNat_ofNat']
  have h : n % 65536 / 256 < 256 := Nat.div_lt_of_lt_mul (Nat.mod_lt _ (by decide))
  rw [Nat.mod_eq_of_lt h, Nat.mod_mod, Nat.div_add_mod']

theorem header_toNat (n : Nat) (h : n ≤ 65535) :
    ∃ hi lo : UInt8, header n = [hi, lo] ∧ hi.toNat * 256 + lo.toNat = n := by
  obtain ⟨hi, lo, hh, hn⟩ := header_toNat_mod n
  exact ⟨hi, lo, hh, by omega⟩

theorem header_of_bytes (hi lo : UInt8) : header (hi.toNat * 256 + lo.toNat) = [hi, lo] := by
  have h1 := hi.toNat_lt
  have h2 := lo.toNat_lt
  have hv : (hi.toNat * 256 + lo.toNat) % 65536 = hi.toNat * 256 + lo.toNat := Nat.mod_eq_of_lt (by omega)
  simp only [header, hv]
  rw [Nat.add_comm, Nat.add_mul_div_right _ _ (by decide), Nat.add_mul_mod_self_right, Nat.div_eq_of_lt h2,
    Nat.mod_eq_of_lt h2, Nat.zero_add, UInt8.ofNat_toNat, UInt8.ofNat_toNat]

theorem parse_nil (cap : Nat) (e : IoErr) : parse cap e [] = [.err e] := by simp [parse, parseN]

theorem parse_single (cap : Nat) (e : IoErr) (x : UInt8) : parse cap e [x] = [.err e] := by
  simp [parse, parseN]

theorem parse_cons_cons (cap : Nat) (e : IoErr) (hi lo : UInt8) (rest : List UInt8) :
    parse cap e (hi :: lo :: rest) =
      if hi.toNat * 256 + lo.toNat > cap then [.shortBuffer (hi.toNat * 256 + lo.toNat)]
      else if rest.length < hi.toNat * 256 + lo.toNat then [.err e]
      else .pkt (rest.take (hi.toNat * 256 + lo.toNat)) :: parse cap e (rest.drop (hi.toNat * 256 + lo.toNat)) := by
  unfold parse
  simp only [parseN]
  split
  · rfl
  · split
    · rfl
    · rw [parseN_fuel cap e _ ((rest.drop (hi.toNat * 256 + lo.toNat)).length + 1) _
        (by simp only [List.length_drop, List.length_cons]; omega) (by omega)]

theorem parse_encode_append (cap : Nat) (e : IoErr) (p t : List UInt8)
    (h16 : p.length ≤ 65535) (hcap : p.length ≤ cap) :
    parse cap e (encode p ++ t) = .pkt p :: parse cap e t := by
  obtain ⟨hi, lo, hh, hn⟩ := header_toNat p.length h16
  simp only [encode, hh, List.cons_append, List.nil_append]
  rw [parse_cons_cons, hn, if_neg (by omega), if_neg (by simp)]
  simp

theorem wire_nil : wire [] = [] := rfl

theorem wire_cons (p : List UInt8) (ps : List (List UInt8)) : wire (p :: ps) = encode p ++ wire ps := by
  simp [wire]

theorem wire_append (ps qs : List (List UInt8)) : wire (ps ++ qs) = wire ps ++ wire qs := by
  induction ps with
  | nil => simp [wire_nil]
  | cons p ps ih => simp [wire_cons, ih]

theorem parse_wire_append (cap : Nat) (e : IoErr) (pkts : List (List UInt8)) (t : List UInt8)
    (h16 : ∀ p ∈ pkts, p.length ≤ 65535) (hcap : ∀ p ∈ pkts, p.length ≤ cap) :
    parse cap e (wire pkts ++ t) = pkts.map .pkt ++ parse cap e t := by
  induction pkts with
  | nil => simp [wire_nil]
  | cons p ps ih =>
    rw [wire_cons, List.append_assoc,
      parse_encode_append cap e p _ (h16 p (by simp)) (hcap p (by simp)),
      ih (fun q hq => h16 q (by simp [hq])) (fun q hq => hcap q (by simp [hq]))]
    simp

theorem parse_truncated (cap : Nat) (e : IoErr) (q : List UInt8) (k : Nat)
    (h16 : q.length ≤ 65535) (hk : k < (encode q).length) :
    parse cap e ((encode q).take k) =
      if 2 ≤ k ∧ q.length > cap then [.shortBuffer q.length] else [.err e] := by
  obtain ⟨hi, lo, hh, hn⟩ := header_toNat q.length h16
  simp only [encode, hh, List.cons_append, List.nil_append, List.length_cons] at hk ⊢
  match k with
  | 0 => simp [parse_nil]
  | 1 => simp [parse_single]
  | k + 2 =>
    simp only [List.take_succ_cons]
    rw [parse_cons_cons, hn]
    by_cases hc : q.length > cap
    · simp [hc]
    · rw [if_neg hc, if_pos (by simp only [List.length_take]; omega), if_neg (by omega)]

theorem parseN_structure (cap : Nat) (e : IoErr) (fuel : Nat) (s : List UInt8) (hf : s.length < fuel) :
    ∃ (ps : List (List UInt8)) (r : Res), parseN cap e fuel s = ps.map .pkt ++ [r] ∧ r.isPkt = false
      ∧ wire ps <+: s ∧ (∀ p ∈ ps, p.length ≤ cap ∧ p.length ≤ 65535)
      ∧ (r = .err e ∨ ∃ n, r = .shortBuffer n ∧ cap < n ∧ n ≤ 65535) := by
  induction fuel generalizing s with
  | zero => omega
  | succ fuel ih =>
    match s with
    | [] => exact ⟨[], .err e, by simp [parseN], rfl, by simp [wire_nil], by simp, Or.inl rfl⟩
    | [x] => exact ⟨[], .err e, by simp [parseN], rfl, by simp [wire_nil], by simp, Or.inl rfl⟩
    | hi :: lo :: rest =>
      have h16 : hi.toNat * 256 + lo.toNat ≤ 65535 := by
        have h1 := hi.toNat_lt
        have h2 := lo.toNat_lt
        omega
      have hhdr := header_of_bytes hi lo
      simp only [parseN]
      generalize hi.toNat * 256 + lo.toNat = len at h16 hhdr ⊢
      split
      · exact ⟨[], .shortBuffer len, by simp, rfl, by simp [wire_nil], by simp, Or.inr ⟨_, rfl, by omega, h16⟩⟩
      · split
        · exact ⟨[], .err e, by simp, rfl, by simp [wire_nil], by simp, Or.inl rfl⟩
        · next hcap hlen =>
          simp only [List.length_cons] at hf
          obtain ⟨ps, r, hp, hr, hpre, hall, hlast⟩ :=
            ih (rest.drop len) (by simp only [List.length_drop]; omega)
          have hl : (rest.take len).length = len := by
            simp only [List.length_take]; omega
          refine ⟨rest.take len :: ps, r, by simp [hp], hr, ?_, ?_, hlast⟩
          · rw [wire_cons, encode, hl, hhdr]
            obtain ⟨t, ht⟩ := hpre
            refine ⟨t, ?_⟩
            simp only [List.cons_append, List.nil_append, List.append_assoc, ht, List.take_append_drop]
          · intro p hp
            simp only [List.mem_cons] at hp
            rcases hp with rfl | hp
            · rw [hl]; omega
            · exact hall p hp

theorem fill_log_bound (segs : Segs) (need : Nat) :
    ∀ r ∈ (fill segs need).2.2, 1 ≤ r.1 ∧ r.1 ≤ need ∧ r.2 ≤ r.1 := by
  fun_induction fill segs need with
  | case1 segs => simp
  | case2 need => simp
  | case3 seg rest need hle r ih =>
    simp only [r] at *
    intro x hx
    simp only [List.mem_cons] at hx
    rcases hx with rfl | hx
    · simp; omega
    · have := ih x hx; omega
  | case4 seg rest need hgt => simp

theorem decodeLen_le (h : List UInt8) : decodeLen h ≤ 65535 := by
  have h1 := (h.getD 0 0).toNat_lt
  have h2 := (h.getD 1 0).toNat_lt
  unfold decodeLen; omega

theorem readPacket_log_bound (cap : Nat) (e : IoErr) (segs : Segs) :
    ∀ r ∈ (readPacket cap e segs).2.2, 1 ≤ r.1 ∧ r.1 ≤ max 2 (min cap 65535) ∧ r.2 ≤ r.1 := by
  -- the log is that of the header loop, followed by that of the body loop if the length fits the buffer
  have both : ∀ (l1 l2 : ReadLog) (len : Nat), len ≤ cap → len ≤ 65535 →
      (∀ r ∈ l1, 1 ≤ r.1 ∧ r.1 ≤ 2 ∧ r.2 ≤ r.1) → (∀ r ∈ l2, 1 ≤ r.1 ∧ r.1 ≤ len ∧ r.2 ≤ r.1) →
      ∀ r ∈ l1 ++ l2, 1 ≤ r.1 ∧ r.1 ≤ max 2 (min cap 65535) ∧ r.2 ≤ r.1 := by
    intro l1 l2 len hc h16 b1 b2 r hr
    rcases List.mem_append.mp hr with hr | hr
    · have := b1 r hr; omega
    · have := b2 r hr; omega
  have hb := fill_log_bound segs 2
  unfold readPacket
  split
  · next s1 l1 heq =>
    rw [heq] at hb
    intro r hr; have := hb r hr; omega
  · next hd s1 l1 heq =>
    rw [heq] at hb
    have hd16 := decodeLen_le hd
    simp only
    split
    · intro r hr; have := hb r hr; omega
    · next hcap =>
      have hb2 := fill_log_bound s1 (decodeLen hd)
      split
      · next s2 l2 heq2 => rw [heq2] at hb2; exact both l1 l2 _ (by omega) hd16 hb hb2
      · next b s2 l2 heq2 => rw [heq2] at hb2; exact both l1 l2 _ (by omega) hd16 hb hb2

theorem readAllN_log_bound (cap : Nat) (e : IoErr) (fuel : Nat) (segs : Segs) :
    ∀ r ∈ (readAllN cap e fuel segs).2, 1 ≤ r.1 ∧ r.1 ≤ max 2 (min cap 65535) ∧ r.2 ≤ r.1 := by
  induction fuel generalizing segs with
  | zero => simp [readAllN]
  | succ fuel ih =>
    have hb := readPacket_log_bound cap e segs
    unfold readAllN
    split
    · next b s' l heq =>
      rw [heq] at hb
      intro r hr
      simp only [List.mem_append] at hr
      rcases hr with hr | hr
      · exact hb r hr
      · exact ih s' r hr
    · next r s' l hne heq => rw [heq] at hb; exact hb

end IceProofs.Framing

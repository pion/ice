import IceProofs.UniMux
/-!
One-step lemmas about the universal layer's released calls, used by `C12_uni_waiter_answer_fresh` (IceProps/C12.lean):
who is released with an address by `tap`, that `cached` releases with `errNoXorAddrMapping` only, and the
combination for `xorStart`.
-/
namespace IceProofs.UniMuxConc
open IceModel.UdpMux IceModel.UniMux IceProofs.UdpMux IceProofs.UniMux

theorem tap_woke_fresh (m : UMux) (src : Addr) (k : Kind) (x : XView) (w v : Nat)
    (h : (w, WRes.ok v) ∈ (tap m src k x).2.woke) :
    ∃ e, (tap m src k x).1.xmap ((tap m src k x).1.waiter w).srv = some e ∧ e.addr = some v ∧
      (tap m src k x).2.learned = some (((tap m src k x).1.waiter w).srv, v) := by
  rcases tap_cases m src k x with ⟨h', _⟩ | ⟨v', e, _, _, _, h'⟩
  · rw [h'] at h; cases h
  · rw [h'] at h ⊢
    dsimp only [tapped] at h ⊢
    unfold wakeIf at h ⊢
    rcases Bool.eq_false_or_eq_true e.signalled with hs | hs
    · rw [if_pos hs] at h; cases h
    · rw [if_neg (by simp [hs])] at h ⊢
      rw [wakeAll_snd, List.mem_map] at h
      obtain ⟨i, hi, hiw⟩ := h
      simp only [Prod.mk.injEq, WRes.ok.injEq] at hiw
      obtain ⟨rfl, rfl⟩ := hiw
      rw [mem_blockedOn] at hi
      have hsrv : ((wakeAll m (canonAddr src) (WRes.ok v')).1 i).srv = canonAddr src := by
        rw [wakeAll_fst, if_pos hi]; exact hi.2.2
      rw [hsrv]
      exact ⟨{ e with addr := some v', signalled := true }, by simp [setX], rfl, rfl⟩

theorem _root_.IceProofs.UniMux.CachedTo.woke_noMap {m : UMux} {a : Addr} {x : UMux × List (Nat × WRes) × Option Nat}
    (c : CachedTo m a x) {i : Nat} {r : WRes} (h : (i, r) ∈ x.2.1) : r = .noMap := by
  cases c with
  | miss _ => cases h
  | fresh _ _ _ => cases h
  | expired e _ _ =>
    unfold wakeIf at h
    dsimp only [] at h
    split at h
    · cases h
    · rw [wakeAll_snd, List.mem_map] at h
      obtain ⟨j, _, hj⟩ := h
      simp only [Prod.mk.injEq] at hj
      exact hj.2.symm

theorem xorStart_woke_fresh (m : UMux) (srv : Addr) (d w v : Nat)
    (h : (w, WRes.ok v) ∈ (xorStart m srv d).2.fx.woke) :
    ∃ e, (xorStart m srv d).1.xmap ((xorStart m srv d).1.waiter w).srv = some e ∧ e.addr = some v ∧
      (xorStart m srv d).1.now ≤ e.expiresAt := by
  have hn : ∀ r, (w, r) ∈ (cached m (canonAddr srv)).2.1 → r = .noMap := fun _ => (cached_to m _).woke_noMap
  rw [xorStart_eq] at h ⊢
  simp only [] at h ⊢
  split at h
  · next v' hv =>
    obtain ⟨h1, h2, e, he1, he2, he3⟩ := (cached_to m _).hit hv
    simp only [h2, List.nil_append, List.mem_singleton, Prod.mk.injEq, WRes.ok.injEq] at h
    obtain ⟨rfl, rfl⟩ := h
    simp only [h1, upd, if_true]
    exact ⟨e, he1, he2, he3⟩
  · exfalso
    split at h
    · simp only [List.mem_append, List.mem_singleton, Prod.mk.injEq] at h
      rcases h with h | h
      · cases hn _ h
      · cases h.2
    · split at h
      · simp only [List.mem_append, List.mem_singleton, Prod.mk.injEq] at h
        rcases h with h | h
        · cases hn _ h
        · cases h.2
      · cases hn _ h

end IceProofs.UniMuxConc

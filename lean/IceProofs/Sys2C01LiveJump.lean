import IceProofs.Sys2C01LiveTick
/-!
# C01 liveness — a clock advance over several ticks of one agent; how far apart ticks are

`step a (.advance T)` with `nextTick = t ≤ T` is the single tick at `t` followed by further ticks (`jump_split`): the outputs
of the first tick are among the outputs, the state after the first tick is related to the final state by the frame `LK`
(evaluated at `T`), the selection is unchanged, and — if the fuel of `runTimers` covers the jump — the timer ends up
re-armed beyond `T` (`jump_done`).  Two ticks are at least `Config.minInterval` apart (`interval_ge`); an inbound step leaves
the timer alone or re-arms it from `now` (`TickIn`, `step_inbound_nextTick`).
-/
namespace IceProofs.C01Live
open IceModel.AgentCore IceProofs.C03 IceProofs.Agent

/-- the shortest wait between two ticks this configuration can produce (over every `lastSeen`) -/
def Config.minInterval (cfg : Config) : Nat :=
  min (min ({ cfg := cfg, lastSeen := .checking } : Agent).interval ({ cfg := cfg, lastSeen := .connected } : Agent).interval)
    ({ cfg := cfg, lastSeen := .unknown } : Agent).interval

theorem interval_ge (a : Agent) : Config.minInterval a.cfg ≤ a.interval := by
  unfold Config.minInterval Agent.interval
  cases a.lastSeen <;> simp only [] <;> omega

/-- the next tick is due not before `lo` and within two seconds from `now` -/
def TickIn (lo now : Nat) (a : Agent) : Prop := ∃ t, a.nextTick = some t ∧ lo ≤ t ∧ t ≤ now + 2000000000

theorem step_inbound_nextTick (a : Agent) (now la src : Nat) (m : Msg) :
    (step a (.inbound now la src m)).1.nextTick = a.nextTick ∨
    (step a (.inbound now la src m)).1.nextTick = some (now + (step a (.inbound now la src m)).1.interval) := by
  rw [step_inbound_proj]
  split
  · exact Or.inl rfl
  · cases hl : a.localByAddr la with
    | none => exact Or.inl rfl
    | some l =>
      simp only []
      have tf1 : (a.handleInbound now l src m).1.nextTick = a.nextTick := congrArg TF.nextTick (tf_handleInbound a now l src m)
      unfold Agent.runForced
      split
      · simp only []
        rcases Agent.contact _ now with ⟨a1, o1⟩
        exact Or.inr rfl
      · exact Or.inl tf1

theorem step_inbound_tickIn {now lo : Nat} {a : Agent} (la src : Nat) (m : Msg) (hlo : lo ≤ now + Config.minInterval a.cfg)
    (ht : TickIn lo now a) : TickIn lo now (step a (.inbound now la src m)).1 := by
  rcases step_inbound_nextTick a now la src m with e | e
  · unfold TickIn; rw [e]; exact ht
  · have h1 := interval_ge (step a (.inbound now la src m)).1
    have h2 := interval_le (step a (.inbound now la src m)).1
    rw [(step_constants a (.inbound now la src m)).2.1] at h1
    exact ⟨_, e, by omega, by omega⟩

theorem advance_single {T0 H T : Nat} {a : Agent} (hg : Good T0 H a) (hT : T ≤ H) (htk : a.nextTick = some T) :
    TickIn (T + Config.minInterval a.cfg) T (step a (.advance T)).1 ∧ (step a (.advance T)).1.selected = a.selected := by
  show TickIn _ T (a.runTimers T (99998 + 2)).1 ∧ (a.runTimers T (99998 + 2)).1.selected = _
  rw [runTimers_single a T 99998 hg.started hg.open_ htk]
  have hi := interval_le (a.contact T).1
  have hp := interval_ge (a.contact T).1
  rw [(SameId.of_core (core_contact a T)).cfg] at hp
  exact ⟨⟨T + (a.contact T).1.interval, rfl, by omega, by omega⟩,
    contact_selected a (hg.timely.valOK hT) (hg.timely.ckOK hT)⟩

theorem minInterval_pos (cfg : Config) : 0 < Config.minInterval cfg := by
  unfold Config.minInterval
  have h1 := interval_pos ({ cfg := cfg, lastSeen := .checking } : Agent)
  have h2 := interval_pos ({ cfg := cfg, lastSeen := .connected } : Agent)
  have h3 := interval_pos ({ cfg := cfg, lastSeen := .unknown } : Agent)
  omega

section
variable {T0 H t T : Nat} {a : Agent}

theorem runTimers_succ (a : Agent) (T n t : Nat) (hs : a.started = true) (hc : a.closed = false)
    (ht : a.nextTick = some t) (hle : t ≤ T) :
    a.runTimers T (n + 1) =
      ((Agent.runTimers { (a.contact t).1 with nextTick := some (t + (a.contact t).1.interval) } T n).1,
        (a.contact t).2 ++
          (Agent.runTimers { (a.contact t).1 with nextTick := some (t + (a.contact t).1.interval) } T n).2) := by
  conv => lhs; unfold Agent.runTimers
  rw [ht]
  simp only [hs, hc, Bool.not_false, Bool.and_self, Bool.true_and, decide_eq_true_eq, hle, if_true]

theorem runTimers_late (a : Agent) (T n t : Nat) (ht : a.nextTick = some t) (hlt : T < t) :
    a.runTimers T n = (a, []) := by
  cases n with
  | zero => unfold Agent.runTimers; rfl
  | succ n =>
    unfold Agent.runTimers
    rw [ht]
    have : ¬ t ≤ T := by omega
    simp [this]

theorem step_advance_early {a : Agent} {t T : Nat} (ht : a.nextTick = some t) (hlt : T < t) : step a (.advance T) = (a, []) :=
  runTimers_late a T _ t ht hlt

theorem runTimers_selected (hT : T ≤ H) (fuel : Nat) {a : Agent} (hg : Good T0 H a) :
    (a.runTimers T fuel).1.selected = a.selected :=
  good_ticks (Q := fun a x => x.1.selected = a.selected) hT (fun _ => rfl)
    (fun a _ _ hg k _ ih => ih.trans (contact_selected a (hg.timely.valOK k.tH) (hg.timely.ckOK k.tH))) fuel hg

theorem runTimers_done (hT : T ≤ H) (fuel : Nat) {a : Agent} {t : Nat} (hg : Good T0 H a) (ht : a.nextTick = some t)
    (hle : t ≤ T) (hfuel : T - t < fuel * Config.minInterval a.cfg) :
    ∃ t', (a.runTimers T (fuel + 1)).1.nextTick = some t' ∧ T < t' ∧ t' ≤ T + 2000000000 := by
  induction fuel generalizing a t with
  | zero => simp at hfuel
  | succ n ih =>
    rw [runTimers_succ a T (n + 1) t hg.started hg.open_ ht hle]
    simp only []
    have g2 := (tick_of_good hg ht (Nat.le_trans hle hT)).good
    have hi := interval_le (a.contact t).1
    have hp := interval_ge (a.contact t).1
    rw [(SameId.of_core (core_contact a t)).cfg] at hp
    by_cases hle2 : t + (a.contact t).1.interval ≤ T
    · refine ih g2 rfl hle2 ?_
      show _ < n * Config.minInterval (a.contact t).1.cfg
      rw [(SameId.of_core (core_contact a t)).cfg]
      rw [Nat.succ_mul] at hfuel
      omega
    · rw [runTimers_late _ T _ (t + (a.contact t).1.interval) rfl (by omega)]
      exact ⟨_, rfl, by omega, by omega⟩

theorem jump_split (hg : Good T0 H a) (hT : T ≤ H) (ht : a.nextTick = some t) (hle : t ≤ T) :
    (∀ x ∈ (step a (.advance t)).2, x ∈ (step a (.advance T)).2) ∧
    LK T0 T none (step a (.advance t)).1 (step a (.advance T)).1 ∧
    SameId (step a (.advance t)).1 (step a (.advance T)).1 ∧
    (step a (.advance T)).1.selected = a.selected := by
  have e1 : step a (.advance t) = a.runTimers t (99998 + 2) := rfl
  have e2 : step a (.advance T) = a.runTimers T (99999 + 1) := rfl
  rw [e1, e2, runTimers_single a t 99998 hg.started hg.open_ ht,
    runTimers_succ a T 99999 t hg.started hg.open_ ht hle]
  have g2 := (tick_of_good hg ht (Nat.le_trans hle hT)).good
  obtain ⟨_, k3, id3⟩ := runTimers_good hT 99999 g2
  refine ⟨fun x hx => List.mem_append_left _ hx, k3, id3, ?_⟩
  simp only []
  rw [runTimers_selected hT 99999 g2]
  exact contact_selected a (hg.timely.valOK (Nat.le_trans hle hT)) (hg.timely.ckOK (Nat.le_trans hle hT))

theorem jump_done (hg : Good T0 H a) (hT : T ≤ H) (ht : a.nextTick = some t) (hle : t ≤ T)
    (hfuel : T - t < 99998 * Config.minInterval a.cfg) :
    ∃ t', (step a (.advance T)).1.nextTick = some t' ∧ T < t' ∧ t' ≤ T + 2000000000 := by
  have e2 : step a (.advance T) = a.runTimers T (99999 + 1) := rfl
  rw [e2]
  exact runTimers_done hT 99999 hg ht hle (by
    have := minInterval_pos a.cfg
    have h : 99999 * Config.minInterval a.cfg = 99998 * Config.minInterval a.cfg + Config.minInterval a.cfg :=
      Nat.succ_mul 99998 _
    omega)

end

theorem cc_cld (a : Agent) (now : Nat) (hc : a.controlling = false) (hf : a.cfg.lite = false) (hs : a.selected = none) :
    a.contactCandidates now = a.pingAll now := by
  unfold Agent.contactCandidates
  simp [hc, hf, hs]

section
variable {T0 H T t : Nat} {a : Agent}

theorem cld_tick_ping (hg : Good T0 H a) (hT : T ≤ H) (htk : a.nextTick = some t) (hle : t ≤ T) (hc : a.controlling = false)
    (hs : a.selected = none)
    {p0 : Pair} (hp0 : p0 ∈ a.checklist) (hst : p0.state = .waiting ∨ p0.state = .inProgress)
    (hb : p0.reqCount ≤ a.cfg.maxBindingRequests) {l r : Cand} (hl : a.localOf p0.l = some l) (hr : a.remoteOf p0.r = some r) :
    ∃ m, Out.dgram l.addr r.addr m ∈ (step a (.advance T)).2 ∧ IsReq a false m := by
  obtain ⟨x, e1, _, _⟩ := tick_eq hg (Nat.le_trans hle hT) htk
  obtain ⟨m, q1, q2, _⟩ := pingAll_emits (withCS a x) t ⟨hg.linv.ids.le, hg.linv.ids.uniq⟩ hg.linv.pendOK p0 hp0 hst hb l r hl hr
  refine ⟨m, (jump_split hg hT htk hle).1 _ ?_, q2.of_withCS⟩
  rw [e1, cc_cld (withCS a x) t hc hg.full hs]
  exact q1

end

end IceProofs.C01Live

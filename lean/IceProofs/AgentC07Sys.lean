import IceProofs.AgentC07Run
import IceProofs.Sys2Run
/-!
# C07 on the two-agent system: what the hub does with an application datagram
-/
namespace IceProofs.AgentC07
open IceModel.AgentCore IceModel.Sys2 IceProofs.Sys2Run

theorem accepts_iff_known (a : Agent) (l : Cand) (src : Nat) (h : Inv a) (hl : l ∈ a.locals) :
    accepts a l src = true ↔ ∃ r ∈ a.remotes, r.net = l.net ∧ r.addr = src := by
  rw [← IceProofs.Agent.findRemote_isSome]
  unfold accepts
  constructor
  · intro hacc
    rcases Bool.or_eq_true_iff.mp hacc with hc | hf
    · obtain ⟨e, he⟩ := Option.isSome_iff_exists.mp hc
      unfold cacheHit at he
      have hm := List.mem_of_find?_eq_some he
      have hp := List.find?_some he
      obtain ⟨lu, s, ru⟩ := e
      simp only [Bool.and_eq_true, beq_iff_eq] at hp
      obtain ⟨_, i2, _, _, i5⟩ := (InvC_iff a).mp h.1
      obtain ⟨l', hl', el, r, hr, _, er2, er3⟩ := i5 _ hm
      have : l' = l := Agent.eq_of_key_nodup (k := Cand.uid) (List.pairwise_map.2 i2) hl' hl (by rw [el]; exact hp.1)
      subst this
      rw [IceProofs.Agent.findRemote_isSome]
      exact ⟨r, hr, er3, by rw [er2]; exact hp.2⟩
    · exact hf
  · intro hf
    rw [hf]; simp

theorem inboundData_outs (a : Agent) (now la src len : Nat) (stun : Bool) :
    (step a (.inboundData now la src len stun)).2 = [] :=
  IceProofs.Agent.step_inboundData_rule (Q := fun x => x.2 = []) a now la src len stun rfl fun _ _ _ l _ =>
    IceProofs.Agent.inboundData_outs a now l src len

theorem dgramsOf_sent (f t n : Nat) (s : String) : dgramsOf [.data f t n, .res s] = [{ src := f, dst := t, p := .data n }] := rfl

theorem dgramsOf_res (s : String) : dgramsOf [.res s] = [] := rfl

/-- who gets a datagram: nobody if the link drops it or no open agent listens at the (un-NATed) destination -/
def receiver (s : Sys) (f t : Nat) : Option Bool :=
  if s.blocked.contains (f, t) then none else s.owner (s.unmapped t)

theorem deliver_data (s : Sys) (k : Nat) (keep : Bool) (f t n : Nat)
    (hk : s.inflight[k]? = some { src := f, dst := t, p := .data n }) :
    (s.deliver k keep).1.inflight = (if keep then s.inflight else removeAt s.inflight k) ∧
    match receiver s f t with
    | none => (s.deliver k keep).1.a = s.a ∧ (s.deliver k keep).1.b = s.b
    | some y =>
      (s.deliver k keep).1.agent y = (step (s.agent y) (.inboundData s.now (s.unmapped t) (s.mapped f) n false)).1 ∧
      (s.deliver k keep).1.agent (!y) = s.agent (!y) := by
  rw [deliver_eq, hk]
  dsimp only
  generalize hs0 : (if keep = true then s else { s with inflight := removeAt s.inflight k }) = s0
  have hub : Hub s s0 := by
    subst hs0; cases keep
    · exact Hub.removeAt s k
    · exact Hub.refl s
  have hnow : s0.now = s.now := by subst hs0; cases keep <;> rfl
  have e1 : s0.inflight = (if keep then s.inflight else removeAt s.inflight k) := by subst hs0; cases keep <;> rfl
  rw [handOver_eq, hub.topo.2.1, hub.unmapped, hub.owner, hub.evOf hnow, ← e1]
  unfold receiver
  split
  · exact ⟨rfl, hub.a, hub.b⟩
  · cases s.owner (s.unmapped t) with
    | none => exact ⟨rfl, hub.a, hub.b⟩
    | some y =>
      have hev : evOf s { src := f, dst := t, p := .data n } = .inboundData s.now (s.unmapped t) (s.mapped f) n false := rfl
      have hfl : (s0.agentEv y (evOf s { src := f, dst := t, p := .data n })).1.inflight = s0.inflight := by
        rw [agentEv_inflight, hev, inboundData_outs]; exact List.append_nil _
      have hy := (agentEv_same s0 y (evOf s { src := f, dst := t, p := .data n })).trans (by rw [hub.agent, hev])
      have hn := (agentEv_other s0 y (evOf s { src := f, dst := t, p := .data n })).trans (hub.agent (!y))
      cases y <;> exact ⟨hfl, hy, hn⟩

theorem drop_data (s : Sys) (k : Nat) :
    (s.drop k).a = s.a ∧ (s.drop k).b = s.b ∧ (s.drop k).inflight = removeAt s.inflight k := ⟨rfl, rfl, rfl⟩

/-- states of the two-agent system reachable by the driver's operations; the environment may change the
topology, the clock and the in-flight list arbitrarily and may replace an agent by a fresh one -/
inductive Reach : Sys → Prop
  | init (s : Sys) : Initial s.a → Initial s.b → Reach s
  | agentEv (s : Sys) (isB : Bool) (e : Ev) : Reach s → Reach (s.agentEv isB e).1
  | deliver (s : Sys) (k : Nat) (keep : Bool) : Reach s → Reach (s.deliver k keep).1
  | drop (s : Sys) (k : Nat) : Reach s → Reach (s.drop k)
  | advance (s : Sys) (now : Nat) : Reach s → Reach (s.advance now).1
  | env (s s' : Sys) : Reach s → (s'.a = s.a ∨ Initial s'.a) → (s'.b = s.b ∨ Initial s'.b) → Reach s'

theorem Inv_agentEv (s : Sys) (isB : Bool) (e : Ev) (h : Inv s.a ∧ Inv s.b) :
    Inv (s.agentEv isB e).1.a ∧ Inv (s.agentEv isB e).1.b := by
  unfold Sys.agentEv
  cases isB
  · exact ⟨Inv_step s.a e h.1, h.2⟩
  · exact ⟨h.1, Inv_step s.b e h.2⟩

theorem Inv_handOver (s : Sys) (d : Dgram) (h : Inv s.a ∧ Inv s.b) :
    Inv (s.handOver d).1.a ∧ Inv (s.handOver d).1.b := by
  rw [handOver_eq]
  split
  · exact h
  · cases s.owner (s.unmapped d.dst) with
    | none => exact h
    | some y => cases y <;> exact Inv_agentEv s _ (evOf s d) h

theorem Reach_inv (s : Sys) (h : Reach s) : Inv s.a ∧ Inv s.b := by
  induction h with
  | init s ha hb => exact ⟨Inv_init _ ha, Inv_init _ hb⟩
  | agentEv s isB e _ ih => exact Inv_agentEv s isB e ih
  | deliver s k keep _ ih =>
    unfold Sys.deliver
    split
    · exact ih
    · dsimp only
      refine Inv_handOver _ _ ?_
      cases keep <;> exact ih
  | drop s k _ ih => exact ih
  | advance s now _ ih =>
    unfold Sys.advance
    dsimp only
    have h1 := Inv_agentEv { s with now := now } false (.advance now) ih
    split
    · exact Inv_agentEv _ true (.advance now) h1
    · exact h1
  | env s s' _ ha hb ih =>
    refine ⟨?_, ?_⟩
    · rcases ha with e | i
      · rw [e]; exact ih.1
      · exact Inv_init _ i
    · rcases hb with e | i
      · rw [e]; exact ih.2
      · exact Inv_init _ i

end IceProofs.AgentC07

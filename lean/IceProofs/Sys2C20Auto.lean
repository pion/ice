import IceProofs.Sys2C20OutsQ
/-!
# C20 — the automatic check: who may issue, and which values

* `autoCheck_out`: what `Agent.autoCheck` (= `checkForAutomaticRenomination`) emits, and under which conditions.
* `issuesOf_disabled` (with `issuesOf_controlled` of `Sys2C20OutsQ`): an agent that is controlled after the step, or was
  built without `WithRenomination`, issues nothing in it (neither through `RenominateCandidate` nor by itself).
* `CL a a'` / `step_counter_log`: the automatic issues of a step draw consecutive values from the counter of the value
  generator: the `k`-th nomination the automatic check issues carries the value `(nomCounter + k) mod 2^32`.
-/
namespace IceProofs.C20S
open IceModel.AgentCore IceProofs.Agent IceProofs.Sys2C05

/-- the ways out of `checkForAutomaticRenomination`: nothing happens; only the time of the check is recorded (a candidate of
the best pair does not resolve); or the nomination of the best pair is handed to `autoIssue` -/
theorem autoCheck_cases (a : Agent) (now : Nat) :
    a.autoCheck now = (a, []) ∨ a.autoCheck now = ({ a with lastRenomTime := some now }, []) ∨
    ∃ cur best l r, a.autoDue now = true ∧ a.selected.bind a.pairById = some cur ∧ a.findBest now = some best ∧
      a.shouldRenominate now cur best = true ∧ a.localOf best.l = some l ∧ a.remoteOf best.r = some r ∧
      a.autoCheck now = ({ a with lastRenomTime := some now } : Agent).autoIssue now l r := by
  unfold Agent.autoCheck
  split
  · exact Or.inl rfl
  · rename_i hdue
    split
    · exact Or.inl rfl
    · rename_i cur hcur
      split
      · exact Or.inl rfl
      · rename_i best hbest
        split
        · rename_i hsr
          split
          · rename_i l r hl hr
            exact Or.inr (Or.inr ⟨cur, best, l, r, by simpa using hdue, hcur, hbest, hsr, hl, hr, rfl⟩)
          · exact Or.inr (Or.inl rfl)
        · exact Or.inl rfl

theorem autoIssue_out (a : Agent) (now : Nat) (l r : Cand) :
    (a.autoIssue now l r).2 = [] ∨
    (a.controlling = true ∧ a.cfg.enableRenomination = true ∧ (a.findPair l r).isSome = true ∧
      (a.autoIssue now l r).2 =
        [.dgram l.addr r.addr { cls := 0, tid := 2 * a.nextTid + a.tag, user := some (a.remoteUfrag ++ ":" ++ a.localUfrag),
                                 key := some a.remotePwd, prio := some l.prio, useCand := true,
                                 role := some (true, a.tieBreaker),
                                 nom := if a.nextNomValue > 0 then some a.nextNomValue else none }]) := by
  unfold Agent.autoIssue
  split
  · exact Or.inl rfl
  · rename_i hc
    have hc' : a.controlling = true := by simpa using hc
    split
    · exact Or.inl rfl
    · rename_i he
      split
      · exact Or.inl rfl
      · rename_i p hp
        refine Or.inr ⟨hc', by simpa using he, by rw [hp]; rfl, ?_⟩
        simp only []
        rw [sendRequest_snd_eq]
        show [Out.dgram l.addr r.addr _] = _
        rw [hc']

/-- `checkForAutomaticRenomination` emits nothing, or exactly one Binding request: the nomination of the best pair, from a
controlling agent with both options on, the interval elapsed (since the selector started and since the last automatic
renomination), a selected pair `cur`, the best succeeded pair `best` and `shouldRenominate cur best`. -/
theorem autoCheck_out (a : Agent) (now : Nat) :
    (a.autoCheck now).2 = [] ∨
    ∃ cur best l r, a.controlling = true ∧ a.cfg.enableRenomination = true ∧ a.cfg.autoRenom = true ∧
      a.cfg.renomInterval ≤ now - a.selStart ∧ (∀ t, a.lastRenomTime = some t → a.cfg.renomInterval ≤ now - t) ∧
      a.selected.bind a.pairById = some cur ∧ a.findBest now = some best ∧ a.shouldRenominate now cur best = true ∧
      a.localOf best.l = some l ∧ a.remoteOf best.r = some r ∧ (a.findPair l r).isSome = true ∧
      (a.autoCheck now).2 =
        [.dgram l.addr r.addr { cls := 0, tid := 2 * a.nextTid + a.tag, user := some (a.remoteUfrag ++ ":" ++ a.localUfrag),
                                 key := some a.remotePwd, prio := some l.prio, useCand := true,
                                 role := some (true, a.tieBreaker),
                                 nom := if a.nextNomValue > 0 then some a.nextNomValue else none }] := by
  rcases autoCheck_cases a now with h | h | ⟨cur, best, l, r, hd, hcur, hbest, hsr, hl, hr, h⟩
  · rw [h]; exact Or.inl rfl
  · rw [h]; exact Or.inl rfl
  · rw [h]
    rcases autoIssue_out { a with lastRenomTime := some now } now l r with e | ⟨hc, he, hp, e⟩
    · exact Or.inl e
    · unfold Agent.autoDue at hd
      simp only [Bool.and_eq_true, Bool.not_eq_true', decide_eq_false_iff_not, Nat.not_lt] at hd
      obtain ⟨⟨⟨hau, _⟩, hst⟩, hlast⟩ := hd
      refine Or.inr ⟨cur, best, l, r, hc, he, hau, hst, fun t ht => ?_, hcur, hbest, hsr, hl, hr, hp, e⟩
      rw [ht] at hlast
      simpa using hlast

/-- **Only an agent with the feature enabled issues a nomination** — through `RenominateCandidate` or by itself: an agent
built without `WithRenomination` never appends to the log of issued nominations. -/
theorem issuesOf_disabled (a : Agent) (e : Ev) (he : a.cfg.enableRenomination = false) : issuesOf a e = [] :=
  issuesOf_off a e (Or.inr he)

/-- `n` consecutive values drawn from a counter that stands at `c`: `(c+1) mod 2^32, (c+2) mod 2^32, …` -/
def drawn (c n : Nat) : List Nat := (List.range n).map fun i => (c + 1 + i) % 4294967296

theorem drawn_length (c n : Nat) : (drawn c n).length = n := by simp [drawn]

theorem drawn_append (c n m : Nat) : drawn c (n + m) = drawn c n ++ drawn (c + n) m := by
  unfold drawn
  rw [List.range_add, List.map_append, List.map_map]
  congr 1
  apply List.map_congr_left
  intro i _
  simp only [Function.comp]
  congr 1
  omega

theorem drawn_increasing (c n : Nat) (h : c + n < 4294967296) : (drawn c n).Pairwise (· < ·) := by
  unfold drawn
  rw [List.pairwise_map]
  refine List.Pairwise.imp_of_mem ?_ (List.pairwise_lt_range (n := n))
  intro i j hi hj hij
  have hi' := List.mem_range.mp hi
  have hj' := List.mem_range.mp hj
  rw [Nat.mod_eq_of_lt (by omega), Nat.mod_eq_of_lt (by omega)]
  omega

/-- `CL a a'`: the log grew, the counter of the value generator moved by the number of entries appended, and their values
are the ones drawn from it, in order — (`a`, `a'` around the work of the AUTOMATIC check; `RenominateCandidate` takes its
value from the caller and leaves the counter alone) -/
structure CL (a a' : Agent) : Prop where
  log : a.nomIssued <+: a'.nomIssued
  cnt : a'.nomCounter = a.nomCounter + (logSfx a a').length
  vals : (logSfx a a').map (·.1) = drawn a.nomCounter (logSfx a a').length

theorem CL.of_ilog {a a' : Agent} (h : a'.ilog = a.ilog) : CL a a' := by
  have hs : logSfx a a' = [] := logSfx_of_eq (ilog_field h)
  exact ⟨by rw [ilog_field h]; exact List.prefix_refl _, by rw [hs, ilog_counter h]; rfl, by rw [hs]; rfl⟩

theorem CL.refl (a : Agent) : CL a a := CL.of_ilog rfl

theorem CL.trans {a b c : Agent} (h1 : CL a b) (h2 : CL b c) : CL a c := by
  have hs := logSfx_trans h1.log h2.log
  refine ⟨List.IsPrefix.trans h1.log h2.log, ?_, ?_⟩
  · rw [hs, List.length_append, h2.cnt, h1.cnt]; omega
  · rw [hs, List.map_append, List.length_append, drawn_append, h1.vals, h2.vals, h1.cnt]

theorem ilog_keepAliveAll (a : Agent) (now : Nat) : (a.keepAliveAll now).1.ilog = a.ilog := by
  unfold Agent.keepAliveAll
  refine IceProofs.List.foldl_inv (fun acc : Agent × List Out => acc.1.ilog = a.ilog) _ _ _ rfl ?_
  intro acc id h
  obtain ⟨b, o⟩ := acc
  simp only at h ⊢
  split
  · exact h
  · split
    · exact h
    · split
      · split <;> simp [h]
      · split <;> simp [h]

theorem autoIssue_cl (a : Agent) (now : Nat) (l r : Cand) : CL a (a.autoIssue now l r).1 := by
  unfold Agent.autoIssue
  split
  · exact CL.refl a
  · split
    · exact CL.refl a
    · split
      · exact CL.refl a
      · simp only []
        have hi := ilog_sendRequest ({ a with nomCounter := a.nomCounter + 1 } : Agent) now l r true
          (if a.nextNomValue > 0 then some a.nextNomValue else none)
        have hlog := ilog_field hi
        have hcnt := ilog_counter hi
        generalize Agent.sendRequest ({ a with nomCounter := a.nomCounter + 1 } : Agent) now l r true
          (if a.nextNomValue > 0 then some a.nextNomValue else none) = s1 at hlog hcnt ⊢
        obtain ⟨a1, o1⟩ := s1
        simp only [] at hlog hcnt ⊢
        have hs : logSfx a ({ a1 with nomIssued := a1.nomIssued ++ [(a.nextNomValue, l.addr, r.addr)] } : Agent)
            = [(a.nextNomValue, l.addr, r.addr)] := logSfx_of_append (by
              show a1.nomIssued ++ _ = _
              rw [hlog])
        refine ⟨?_, ?_, ?_⟩
        · show a.nomIssued <+: a1.nomIssued ++ _
          rw [hlog]; exact List.prefix_append _ _
        · rw [hs]
          show a1.nomCounter = _
          rw [hcnt]; rfl
        · rw [hs]
          rfl

theorem autoCheck_cl (a : Agent) (now : Nat) : CL a (a.autoCheck now).1 := by
  rcases autoCheck_cases a now with h | h | ⟨_, _, l, r, _, _, _, _, _, _, h⟩ <;> rw [h]
  · exact CL.refl a
  · exact CL.of_ilog rfl
  · exact (CL.of_ilog (a := a) (a' := { a with lastRenomTime := some now }) rfl).trans (autoIssue_cl _ now l r)

theorem autoRenom_cl (a : Agent) (now : Nat) : CL a (a.autoRenom now).1 := by
  unfold Agent.autoRenom
  simp only []
  split
  · exact (CL.of_ilog (ilog_keepAliveAll a now)).trans (autoCheck_cl _ now)
  · exact autoCheck_cl a now

theorem validateKeepalive_cl (a : Agent) (now : Nat) (auto : Bool) : CL a (validateKeepalive a now auto).1 :=
  have h2 : CL a ((a.validateSelected now).1.keepalive now).1 :=
    CL.of_ilog ((ilog_keepalive _ now).trans (ilog_validateSelected a now))
  validateKeepalive_rule (Q := fun r => CL a r.1) a now auto (CL.of_ilog (ilog_validateSelected a now)) (fun _ => h2)
    fun _ => h2.trans (autoRenom_cl _ now)

theorem contactCandidates_cl (a : Agent) (now : Nat) : CL a (a.contactCandidates now).1 :=
  contactCandidates_rule (Q := fun r => CL a r.1) a now (fun auto _ _ => validateKeepalive_cl a now auto)
    (fun _ _ _ _ => CL.of_ilog (ilog_nominate _ _ _)) (CL.refl a)
    (fun _ _ _ _ _ _ _ _ _ => CL.of_ilog ((ilog_nominate _ _ _).trans rfl))
    (fun _ => CL.of_ilog (ilog_pingAll _ _)) (fun _ => CL.of_ilog (ilog_validateSelected a now))

theorem contact_cl (a : Agent) (now : Nat) : CL a (a.contact now).1 :=
  contact_rule (Q := fun r => CL a r.1) a now (fun _ => CL.refl a) (fun _ => CL.of_ilog rfl)
    (fun _ => CL.of_ilog ((finish_ilog _).trans ((ilog_setConnState _ _).trans (chk_ilog a now))))
    (fun _ => ((CL.of_ilog (chk_ilog a now)).trans (contactCandidates_cl _ now)).trans (CL.of_ilog (finish_ilog _)))
    (fun _ => (contactCandidates_cl a now).trans (CL.of_ilog (finish_ilog _)))

theorem runForced_cl (a : Agent) (now : Nat) : CL a (a.runForced now).1 :=
  runForced_rule (Q := fun r => CL a r.1) a now (CL.refl a) fun _ _ =>
    ((CL.of_ilog (a := a) (a' := { a with forcePending := false }) rfl).trans (contact_cl _ now)).trans (CL.of_ilog rfl)

theorem runTimers_cl (a : Agent) (now fuel : Nat) : CL a (a.runTimers now fuel).1 :=
  runTimers_ind (Q := fun a r => CL a r.1) now CL.refl
    (fun a t _ _ _ _ ih => ((contact_cl a t).trans (CL.of_ilog (a' :=
      { (a.contact t).1 with nextTick := some (t + (a.contact t).1.interval) }) rfl)).trans ih) fuel a

/-- **Every step but `RenominateCandidate`**: what the step appends to the log of issued nominations are the automatic
check's nominations, and their values are consecutive draws from the counter of the value generator. -/
theorem step_counter_log (a : Agent) (e : Ev) (hne : ∀ now la ri v, e ≠ .renominate now la ri v) : CL a (step a e).1 :=
  step_shape (Q := fun r => CL a r.1) a e (fun _ hl _ => CL.of_ilog hl)
    (fun r now hl _ _ => (CL.of_ilog hl).trans (runForced_cl r.1 now)) (runTimers_cl a · 100000)
    fun now la ri v _ _ h => absurd h (hne now la ri v)

theorem step_renominate_counter (a : Agent) (now la ri v : Nat) :
    (step a (.renominate now la ri v)).1.nomCounter = a.nomCounter :=
  step_renominate_rule (Q := fun r => r.1.nomCounter = a.nomCounter) a now la ri v (fun _ => rfl)
    fun _ _ l r _ _ _ _ =>
      ilog_counter (b := (a.sendRequest now l r true (if v > 0 then some v else none)).1) (ilog_sendRequest a now l r true _)

end IceProofs.C20S

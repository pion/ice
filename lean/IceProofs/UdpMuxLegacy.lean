import IceModel.UdpMux
import IceSpec.C12
/-!
Why the F9 fix is needed, at the level of the model: the watcher and `RemoveConnByUfrag` as they were
BEFORE the fix (removal by ufrag NAME in the watcher, removed connections left open), and the proof
that this variant is rejected by the spec monitor on the F9 history and on the write-after-removal
history.  Nothing here is an obligation of C12; it documents what `C12_after_removal` excludes and
that the monitor is sensitive to it.
-/
namespace IceProofs.UdpMuxLegacy
open IceModel.UdpMux

def delAddrs (m : Mux) (l : List Addr) : Mux :=
  { m with addrMap := fun k => if k ∈ l then none else m.addrMap k }

/-- `RemoveConnByUfrag` before the fixes: unconditional deletion, the removed connections stay open. -/
def removeByUfragLegacy (m : Mux) (u : Name) : Mux :=
  let r4 := m.conns4.get? u
  let r6 := m.conns6.get? u
  let m1 : Mux := { m with conns4 := m.conns4.del u, conns6 := m.conns6.del u }
  delAddrs (delAddrs m1 (addrsOf m r4)) (addrsOf m r6)

/-- the close watcher before the fix: `RemoveConnByUfrag(ufrag)` — by name, whoever is registered. -/
def watcherRunLegacy (m : Mux) (c : Nat) : Mux × Out :=
  if c ≥ m.nconns then (m, .bad) else
  let k := m.conn c
  if !k.closed || k.watched then (m, .done) else
  let m1 := removeByUfragLegacy m k.key
  ({ m1 with conn := upd m1.conn c { m1.conn c with watched := true } }, .done)

def stepLegacy (m : Mux) : Op → Mux × Out
  | .removeByUfrag u => (removeByUfragLegacy m u, .done)
  | .watcherRun c => watcherRunLegacy m c
  | op => step m op

def runLegacy : Mux → List Op → Mux × List (Op × Out)
  | m, [] => (m, [])
  | m, op :: ops =>
    let (m1, o) := stepLegacy m op
    let (m2, t) := runLegacy m1 ops
    (m2, (op, o) :: t)

private def uA : Name := [97]
private def userA : Name := [97, 58, 120]
private def x4 : Addr := { ip := { is4 := true, hi := 0, lo := 168361985, zone := [] }, port := 5000 }
private def y4 : Addr := { ip := { is4 := true, hi := 0, lo := 168361986, zone := [] }, port := 5000 }

/-- F9: GetConn(a)→h0, RemoveConnByUfrag(a), GetConn(a)→h1, h0.Close(), watcher — the watcher removes
the NEW connection; the datagram for ufrag `a` is dropped although a connection is registered for it. -/
def f9 : List Op :=
  [.getConn uA false, .removeByUfrag uA, .getConn uA false, .closeHandle 0, .watcherRun 0,
   .inbound y4 (.stunUser userA) 1]

theorem f9_legacy_rejected : (IceSpec.C12.monitor (runLegacy init f9).2).isSome = true := by decide

/-- … and the stale binding half of F9: the old connection wrote to X after its removal; after it is
closed and reaped the binding X → (closed connection) is still in the address map. -/
theorem f9_legacy_stale_binding :
    (runLegacy init [.getConn uA false, .removeByUfrag uA, .writeTo 0 x4, .getConn uA false, .closeHandle 0,
      .watcherRun 0]).1.addrMap (canonAddr x4) = some 0 := by decide

/-- the gap left by the identity-based watcher alone: a removed, still open connection writes to a new
address and then receives from it -/
theorem write_after_removal_legacy_rejected :
    (IceSpec.C12.monitor (runLegacy init [.getConn uA false, .removeByUfrag uA, .writeTo 0 x4,
      .inbound x4 .nonStun 1]).2).isSome = true := by decide

/-- the fixed model accepts the F9 history (an instance of `C12_model_passes_monitor`) -/
example : IceSpec.C12.monitor (run init f9).2 = none := by decide

end IceProofs.UdpMuxLegacy

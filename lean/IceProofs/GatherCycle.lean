import IceModel.GatherCycle
import IceProofs.GatherList
/-!
# Invariant of the gathering-cycle model `IceModel.GatherCycle` (C11) and its preservation

Not to be confused with `IceProofs.GatherCyc`, which is about `IceModel.Gather.Cycle`, the cycle machine inside the agent
model of C18.

One invariant `Inv`, `Inv init`; what a transition does (`Eff`, `step_eff`: eight effects for the eleven
actions), and `inv_step`, `inv_run`, `inv_reachable` follow.  No bound on the number of cycles, restarts, candidates or steps.
-/
namespace IceProofs.GatherCycle
open IceModel.GatherCycle

theorem get_upd (cs : List Cycle) (c : Nat) (f : Cycle → Cycle) (i : Nat) :
    (upd cs c f)[i]? = if c = i then cs[i]?.map f else cs[i]? := by
  unfold upd
  split
  · rename_i cy h
    rw [GatherList.get_set_of_get h]
    split
    · rename_i hci; subst hci; simp [h]
    · rfl
  · rename_i h
    split
    · rename_i hci; subst hci; simp [h]
    · rfl

theorem length_upd (cs : List Cycle) (c : Nat) (f : Cycle → Cycle) : (upd cs c f).length = cs.length := by
  unfold upd; split <;> simp

theorem get_cancelCur (s : State) (i : Nat) :
    (cancelCur s)[i]? = if s.cur = some i then s.cycles[i]?.map cancelCycle else s.cycles[i]? := by
  unfold cancelCur
  split
  · rename_i c hc
    rw [get_upd, hc]
    by_cases h : c = i <;> simp [h]
  · rename_i hc; simp [hc]

theorem length_cancelCur (s : State) : (cancelCur s).length = s.cycles.length := by
  unfold cancelCur; split <;> simp [length_upd]

theorem nilLast_append (i : Nat) (l : List Pub) (x : Pub) :
    nilLast i (l ++ [x]) = (nilLast i l && (!(l.contains (Pub.nil i)) || !x.isCandOf i)) := by
  induction l with
  | nil => cases x <;> simp [nilLast, Pub.isCandOf]
  | cons p l ih =>
    cases p with
    | cand c t => simp [nilLast, ih]
    | nil j =>
      by_cases hj : j = i
      · subst hj; simp [nilLast, List.all_append]
      · have hne : ¬ (Pub.nil i = Pub.nil j) := by intro h; cases h; exact hj rfl
        simp [nilLast, hj, ih, hne]

structure Inv (s : State) : Prop where
  /-- a cycle whose context is not cancelled is the one whose cancel func the agent holds -/
  live_cur : ∀ (i : Nat) (cy : Cycle), s.cycles[i]? = some cy → cy.cancelled = false → s.cur = some i
  /-- … and the agent's ufrag is still the one it was created under -/
  live_ufrag : ∀ (i : Nat) (cy : Cycle), s.cycles[i]? = some cy → cy.cancelled = false → cy.ufrag = s.ufrag
  /-- … and while it gathers the agent's gathering state is Gathering -/
  live_gstate : ∀ (i : Nat) (cy : Cycle), s.cycles[i]? = some cy → cy.cancelled = false →
    (cy.pc = .gathering ∨ cy.pc = .finishing) → s.gstate = .gathering
  /-- exactly one nil for a completed cycle, none otherwise -/
  nil_count : ∀ (i : Nat) (cy : Cycle), s.cycles[i]? = some cy → s.published.count (Pub.nil i) = if cy.completed then 1 else 0
  completed_done : ∀ (i : Nat) (cy : Cycle), s.cycles[i]? = some cy → cy.completed = true → cy.pc = .done
  /-- the nil of a cycle comes after all of the cycle's candidates -/
  order : ∀ i : Nat, nilLast i s.published = true
  /-- every candidate of every cycle (live, completed or cancelled) carries the cycle's ufrag -/
  tags : ∀ (i : Nat) (cy : Cycle), s.cycles[i]? = some cy → ∀ t, Pub.cand i t ∈ s.published → t = cy.ufrag
  /-- publications name existing cycles -/
  bound : ∀ p ∈ s.published, Pub.cycle p < s.cycles.length
  /-- while the gathering state is New (initially, after `Restart`) the agent has no local candidate -/
  locals_new : s.gstate = .new → s.locals = []
  /-- every local candidate belongs to a cycle whose context is NOT cancelled, carries the agent's current ufrag
  and was published -/
  locals_live : ∀ l ∈ s.locals, ∃ cy, s.cycles[l.1]? = some cy ∧ cy.cancelled = false ∧ l.2 = s.ufrag
    ∧ Pub.cand l.1 l.2 ∈ s.published

theorem inv_init : Inv init := by
  constructor <;> simp [init, nilLast]

theorem nil_not_mem {s : State} (hi : Inv s) {i : Nat} {cy : Cycle} (h : s.cycles[i]? = some cy)
    (hpc : cy.pc ≠ .done) : Pub.nil i ∉ s.published := by
  have hc : cy.completed = false := by
    cases hcc : cy.completed
    · rfl
    · exact absurd (hi.completed_done i cy h hcc) hpc
  have := hi.nil_count i cy h
  rw [hc] at this
  simpa using List.count_eq_zero.mp this

theorem inv_set {s : State} (hi : Inv s) {c : Nat} {cy cy' : Cycle} (hget : s.cycles[c]? = some cy) (g : GState)
    (hu : cy'.ufrag = cy.ufrag) (hc : cy'.cancelled = cy.cancelled) (hm : cy'.completed = cy.completed)
    (hg : cy.cancelled = false → (cy'.pc = .gathering ∨ cy'.pc = .finishing) → g = .gathering)
    (hd : cy.completed = true → cy'.pc = .done)
    (hgs : g = s.gstate ∨ (cy.cancelled = false ∧ g ≠ .new)) :
    Inv { s with gstate := g, cycles := s.cycles.set c cy' } where
  live_cur := GatherList.forall_set hget (fun i x hx _ => hi.live_cur i x hx) (fun hcx => hi.live_cur c cy hget (hc ▸ hcx))
  live_ufrag := GatherList.forall_set hget (fun i x hx _ => hi.live_ufrag i x hx)
    (fun hcx => hu.trans (hi.live_ufrag c cy hget (hc ▸ hcx)))
  live_gstate := GatherList.forall_set hget (fun i x hx hci hcx hpc => by
      rcases hgs with rfl | ⟨hl, _⟩
      · exact hi.live_gstate i x hx hcx hpc
      · -- two live cycles: both are the current one
        cases (hi.live_cur c cy hget hl).symm.trans (hi.live_cur i x hx hcx); exact absurd rfl hci)
    (fun hcx => hg (hc ▸ hcx))
  nil_count := GatherList.forall_set hget (fun i x hx _ => hi.nil_count i x hx) (by rw [hm]; exact hi.nil_count c cy hget)
  completed_done := GatherList.forall_set hget (fun i x hx _ => hi.completed_done i x hx) (fun hcx => hd (hm ▸ hcx))
  order := hi.order
  tags := GatherList.forall_set hget (fun i x hx _ => hi.tags i x hx) (by rw [hu]; exact hi.tags c cy hget)
  bound p hp := by simp only [List.length_set]; exact hi.bound p hp
  locals_new hgn := hgs.elim (fun h => hi.locals_new (h ▸ hgn)) (fun h => absurd hgn h.2)
  locals_live l hl := by
    obtain ⟨y, hy, hyc⟩ := hi.locals_live l hl
    exact GatherList.exists_set hget hy hyc (fun hlc => by
      rw [hlc, hget] at hy; cases hy; exact ⟨hc.trans hyc.1, hyc.2⟩)

theorem inv_set' {s s' : State} (hi : Inv s) {c : Nat} {cy cy' : Cycle} (hget : s.cycles[c]? = some cy)
    (hs' : s' = { s with cycles := s.cycles.set c cy' })
    (hu : cy'.ufrag = cy.ufrag) (hc : cy'.cancelled = cy.cancelled) (hm : cy'.completed = cy.completed)
    (hg : cy.cancelled = false → (cy'.pc = .gathering ∨ cy'.pc = .finishing) → s.gstate = .gathering)
    (hd : cy.completed = true → cy'.pc = .done) : Inv s' := by
  subst hs'; exact inv_set hi hget s.gstate hu hc hm hg hd (Or.inl rfl)

/-- only the current cycle can be live, so `a.gatherCandidateCancel()` leaves no context live: as in the cycle machine of
the agent model, it cancels them all -/
theorem cancelCur_eq {s : State} (hi : Inv s) : cancelCur s = s.cycles.map cancelCycle := by
  apply List.ext_getElem?
  intro i
  rw [get_cancelCur, List.getElem?_map]
  split
  · rfl
  · rename_i hne
    cases hx : s.cycles[i]? with
    | none => rfl
    | some x =>
      cases hcx : x.cancelled
      · exact absurd (hi.live_cur i x hx hcx) hne
      · rw [Option.map_some, cancelCycle, ← hcx]

theorem of_cancelCur {s : State} (hi : Inv s) {i : Nat} {x : Cycle} (hx : (cancelCur s)[i]? = some x) :
    ∃ y, s.cycles[i]? = some y ∧ x = cancelCycle y := by
  rw [cancelCur_eq hi, List.getElem?_map, Option.map_eq_some_iff] at hx
  obtain ⟨y, hy, rfl⟩ := hx
  exact ⟨y, hy, rfl⟩

theorem inv_cancelCur {s : State} (hi : Inv s) (u : Nat) (g : GState) :
    Inv { s with cycles := cancelCur s, ufrag := u, gstate := g, locals := [] } where
  live_cur i x hx hcx := by obtain ⟨y, _, rfl⟩ := of_cancelCur hi hx; cases hcx
  live_ufrag i x hx hcx := by obtain ⟨y, _, rfl⟩ := of_cancelCur hi hx; cases hcx
  live_gstate i x hx hcx := by obtain ⟨y, _, rfl⟩ := of_cancelCur hi hx; cases hcx
  nil_count i x hx := by obtain ⟨y, hy, rfl⟩ := of_cancelCur hi hx; exact hi.nil_count i y hy
  completed_done i x hx hcx := by obtain ⟨y, hy, rfl⟩ := of_cancelCur hi hx; exact hi.completed_done i y hy hcx
  order := hi.order
  tags i x hx := by obtain ⟨y, hy, rfl⟩ := of_cancelCur hi hx; exact hi.tags i y hy
  bound p hp := by simp only [length_cancelCur]; exact hi.bound p hp
  locals_new _ := rfl
  locals_live l hl := by cases hl

/-- appending a candidate of cycle `c` (in `gathering`, context not cancelled: the in-task re-check of
`addCandidate`) with the agent's current ufrag — which is the cycle's own (`live_ufrag`) -/
theorem inv_publish_cand {s : State} (hi : Inv s) {c : Nat} {cy : Cycle} (hget : s.cycles[c]? = some cy)
    (hpc : cy.pc = .gathering) (hcan : cy.cancelled = false) :
    Inv { s with published := s.published ++ [Pub.cand c s.ufrag], locals := s.locals ++ [(c, s.ufrag)] } where
  live_cur := hi.live_cur
  live_ufrag := hi.live_ufrag
  live_gstate := hi.live_gstate
  nil_count i x hx := by simpa [List.count_append] using hi.nil_count i x hx
  completed_done := hi.completed_done
  order i := by
    -- the cycle is still gathering: its nil has not been delivered
    have hnil : Pub.nil c ∉ s.published := nil_not_mem hi hget (by rw [hpc]; simp)
    rw [nilLast_append, hi.order i]
    by_cases hic : c = i
    · subst hic; simp [hnil]
    · simp [Pub.isCandOf, hic]
  tags i x hx t ht := by
    rcases List.mem_append.1 ht with ht | ht
    · exact hi.tags i x hx t ht
    · cases List.mem_singleton.1 ht
      rw [hget] at hx; cases hx
      exact (hi.live_ufrag c cy hget hcan).symm
  bound p hp := by
    rcases List.mem_append.1 hp with hp | hp
    · exact hi.bound p hp
    · rw [List.mem_singleton.1 hp]; exact (List.getElem?_eq_some_iff.1 hget).1
  locals_new hg := by rw [hi.live_gstate c cy hget hcan (Or.inl hpc)] at hg; cases hg
  locals_live l hl := by
    rcases List.mem_append.1 hl with hl | hl
    · obtain ⟨y, hy, hyc, hyu, hyp⟩ := hi.locals_live l hl
      exact ⟨y, hy, hyc, hyu, List.mem_append_left _ hyp⟩
    · rw [List.mem_singleton.1 hl]
      exact ⟨cy, hget, hcan, rfl, List.mem_append_right _ (List.mem_singleton.mpr rfl)⟩

/-- The eleven actions have eight effects on the state.  `move`: one cycle's program counter or in-flight counter
changes (a goroutine that ends without effect, a context check, a skipped / aborted / refused hand-off, the end of the
gatherers); nothing is published and the flags the invariant reads stay. -/
inductive Eff (s : State) : State → Prop
  | refused : Eff s s
  | accept (hc : s.closed = false) (hn : s.gstate = .new) :
      Eff s { s with cycles := cancelCur s ++ [{ ufrag := s.ufrag }], cur := some (cancelCur s).length }
  | restart (u : Nat) : Eff s { s with cycles := cancelCur s, ufrag := u, gstate := .new, locals := [] }
  | close : Eff s { s with closed := true, locals := [] }
  | move (c : Nat) (cy cy' : Cycle) (hget : s.cycles[c]? = some cy) (hu : cy'.ufrag = cy.ufrag)
      (hc : cy'.cancelled = cy.cancelled) (hm : cy'.completed = cy.completed)
      (hpc : cy'.pc = .done ∨ (cy.pc = .gathering ∧ (cy'.pc = .gathering ∨ cy'.pc = .finishing))) :
      Eff s { s with cycles := s.cycles.set c cy' }
  | start (c : Nat) (cy : Cycle) (hget : s.cycles[c]? = some cy) (hpc : cy.pc = .start) (hl : cy.cancelled = false) :
      Eff s { s with gstate := .gathering, cycles := s.cycles.set c { cy with pc := .gathering } }
  | publish (c : Nat) (cy : Cycle) (hget : s.cycles[c]? = some cy) (hpc : cy.pc = .gathering) (hl : cy.cancelled = false) :
      Eff s { s with cycles := s.cycles.set c { cy with checked := cy.checked - 1 },
                     published := s.published ++ [Pub.cand c s.ufrag],
                     locals := s.locals ++ [(c, s.ufrag)] }
  | finish (c : Nat) (cy : Cycle) (hget : s.cycles[c]? = some cy) (hpc : cy.pc = .finishing) (hl : cy.cancelled = false) :
      Eff s { s with
        published := s.published ++ (if s.gstate ≠ .complete then [Pub.nil c] else []),
        gstate := .complete,
        cycles := s.cycles.set c { cy with pc := .done, completed := true } }

theorem step_eff {s s' : State} {a : Action} (h : step s a = some s') : Eff s s' := by
  cases a with
  | gatherCall =>
    simp only [step] at h
    split at h
    · cases h; exact .refused
    · split at h
      · cases h; exact .refused
      · rename_i hc hn
        cases h
        exact .accept (by simpa using hc) (by simpa using hn)
  | restart u =>
    simp only [step] at h
    split at h
    · cases h; exact .refused
    · cases h; exact .restart u
  | close =>
    simp only [step] at h
    split at h
    · cases h
    · cases h; exact .close
  | cycleStart c =>
    simp only [step] at h
    split at h
    · rename_i cy hget
      split at h
      · cases h
      · rename_i hpc
        split at h
        · cases h; exact .move c cy _ hget rfl rfl rfl (Or.inl rfl)
        · split at h
          · cases h; exact .move c cy _ hget rfl rfl rfl (Or.inl rfl)
          · rename_i hl
            cases h
            exact .start c cy hget (by simpa using hpc) (by simpa using hl)
    · cases h
  | pubCheck c =>
    simp only [step] at h
    split at h
    · rename_i cy hget
      split at h
      · rename_i hcond
        cases h; exact .move c cy _ hget rfl rfl rfl (Or.inr ⟨hcond.1, Or.inl hcond.1⟩)
      · cases h
    · cases h
  | pubTask c =>
    simp only [step] at h
    split at h
    · rename_i cy hget
      split at h
      · rename_i hcond
        cases h; exact .publish c cy hget hcond.1 hcond.2.2.2
      · cases h
    · cases h
  | pubSkip c =>
    simp only [step] at h
    split at h
    · rename_i cy hget
      split at h
      · rename_i hcond
        cases h; exact .move c cy _ hget rfl rfl rfl (Or.inr ⟨hcond.1, Or.inl hcond.1⟩)
      · cases h
    · cases h
  | pubAbort c =>
    simp only [step] at h
    split at h
    · rename_i cy hget
      split at h
      · rename_i hcond
        cases h; exact .move c cy _ hget rfl rfl rfl (Or.inr ⟨hcond.1, Or.inl hcond.1⟩)
      · cases h
    · cases h
  | pubRefuse c =>
    simp only [step] at h
    split at h
    · rename_i cy hget
      split at h
      · rename_i hcond
        cases h; exact .move c cy _ hget rfl rfl rfl (Or.inr ⟨hcond.1, Or.inl hcond.1⟩)
      · cases h
    · cases h
  | gatherersDone c =>
    simp only [step] at h
    split at h
    · rename_i cy hget
      split at h
      · rename_i hcond
        cases h; exact .move c cy _ hget rfl rfl rfl (Or.inr ⟨hcond.1, Or.inr rfl⟩)
      · cases h
    · cases h
  | cycleFinish c =>
    simp only [step] at h
    split at h
    · rename_i cy hget
      split at h
      · cases h
      · rename_i hpc
        split at h
        · cases h; exact .move c cy _ hget rfl rfl rfl (Or.inl rfl)
        · split at h
          · cases h; exact .move c cy _ hget rfl rfl rfl (Or.inl rfl)
          · rename_i hl
            cases h
            exact .finish c cy hget (by simpa using hpc) (by simpa using hl)
    · cases h

theorem Eff.inv {s s' : State} (h : Eff s s') (hi : Inv s) : Inv s' := by
  cases h with
  | refused => exact hi
  | restart u => exact inv_cancelCur hi u .new
  | close =>
    exact ⟨hi.live_cur, hi.live_ufrag, hi.live_gstate, hi.nil_count, hi.completed_done, hi.order, hi.tags, hi.bound,
      fun _ => rfl, fun l hl => by cases hl⟩
  | move c cy cy' hget hu hc hm hpc =>
    refine inv_set hi hget s.gstate hu hc hm ?_ ?_ (Or.inl rfl)
    · intro hl hpc'
      rcases hpc with hd | ⟨hg, _⟩
      · rw [hd] at hpc'; rcases hpc' with h | h <;> cases h
      · exact hi.live_gstate c cy hget hl (Or.inl hg)
    · intro hcc
      have hd := hi.completed_done c cy hget hcc
      rcases hpc with h | ⟨hg, _⟩
      · exact h
      · rw [hd] at hg; cases hg
  | start c cy hget hpc hl =>
    refine inv_set hi hget .gathering rfl rfl rfl (fun _ _ => rfl) ?_ (Or.inr ⟨hl, by simp⟩)
    intro hcc
    have hd := hi.completed_done c cy hget hcc
    rw [hpc] at hd; cases hd
  | publish c cy hget hpc hl =>
    have hgs := hi.live_gstate c cy hget hl (Or.inl hpc)
    refine inv_set (s := { s with published := s.published ++ [Pub.cand c s.ufrag], locals := s.locals ++ [(c, s.ufrag)] })
      (inv_publish_cand hi hget hpc hl) hget s.gstate rfl rfl rfl (fun _ _ => hgs) ?_ (Or.inl rfl)
    intro hcc
    have hd := hi.completed_done c cy hget hcc
    rw [hpc] at hd; cases hd
  | accept hc hn =>
    -- every old cycle is cancelled now; the new one has nothing published yet
    have hk := inv_cancelCur hi s.ufrag s.gstate
    have fresh : ∀ p ∈ s.published, Pub.cycle p ≠ (cancelCur s).length := fun p hp => by
      have := hi.bound p hp
      rw [length_cancelCur]; omega
    exact {
      live_cur := GatherList.forall_snoc (fun i x hx hcx => by obtain ⟨y, _, rfl⟩ := of_cancelCur hi hx; cases hcx) (fun _ => rfl)
      live_ufrag := GatherList.forall_snoc hk.live_ufrag (fun _ => rfl)
      live_gstate := GatherList.forall_snoc hk.live_gstate (fun _ hpc => by rcases hpc with h | h <;> cases h)
      nil_count := GatherList.forall_snoc hk.nil_count (List.count_eq_zero.mpr (fun hmem => fresh _ hmem rfl))
      completed_done := GatherList.forall_snoc hk.completed_done (fun hcx => by cases hcx)
      order := hi.order
      tags := GatherList.forall_snoc hk.tags (fun t ht => absurd rfl (fresh _ ht))
      bound := fun p hp => by
        have := hi.bound p hp
        simp only [List.length_append, length_cancelCur, List.length_cons, List.length_nil]
        omega
      locals_new := fun _ => hi.locals_new hn
      locals_live := fun l hl => by rw [show s.locals = [] from hi.locals_new hn] at hl; cases hl }
  | finish c cy hget hpc hl =>
    have hgs : s.gstate = .gathering := hi.live_gstate c cy hget hl (Or.inr hpc)
    have hcur := hi.live_cur c cy hget hl
    have hnil : Pub.nil c ∉ s.published := nil_not_mem hi hget (by rw [hpc]; simp)
    have hne : s.gstate ≠ .complete := by rw [hgs]; simp
    simp only [hne, ne_eq, not_false_eq_true, if_true]
    exact {
      live_cur := GatherList.forall_set hget (fun i x hx _ => hi.live_cur i x hx) (fun _ => hcur)
      live_ufrag := GatherList.forall_set hget (fun i x hx _ => hi.live_ufrag i x hx) (fun _ => hi.live_ufrag c cy hget hl)
      -- no other cycle is live, and this one has left `finishing`
      live_gstate := GatherList.forall_set hget
        (fun i x hx hci hcx _ => by cases hcur.symm.trans (hi.live_cur i x hx hcx); exact absurd rfl hci)
        (fun _ hpx => by rcases hpx with h | h <;> cases h)
      nil_count := GatherList.forall_set hget (fun i x hx hci => by
          have hne' : ¬ (Pub.nil c = Pub.nil i) := fun h => by cases h; exact hci rfl
          simpa [List.count_append, List.count_cons, hne'] using hi.nil_count i x hx)
        (by simp [List.count_append, List.count_eq_zero.mpr hnil])
      completed_done := GatherList.forall_set hget (fun i x hx _ => hi.completed_done i x hx) (fun _ => rfl)
      order := fun i => by rw [nilLast_append, hi.order i]; simp [Pub.isCandOf]
      tags := GatherList.forall_set hget (fun i x hx _ t ht => hi.tags i x hx t (by simpa using ht))
        (fun t ht => hi.tags c cy hget t (by simpa using ht))
      bound := fun p hp => by
        simp only [List.mem_append, List.mem_singleton] at hp
        simp only [List.length_set]
        rcases hp with hp | rfl
        · exact hi.bound p hp
        · exact (List.getElem?_eq_some_iff.1 hget).1
      locals_new := fun hg => by cases hg
      locals_live := fun l hl' => by
        obtain ⟨y, hy, hyc, hyu, hyp⟩ := hi.locals_live l hl'
        exact GatherList.exists_set hget hy ⟨hyc, hyu, List.mem_append_left _ hyp⟩
          (fun hlc => by rw [hlc, hget] at hy; cases hy; exact ⟨hyc, hyu, List.mem_append_left _ hyp⟩) }

theorem inv_step {s s' : State} (a : Action) (hi : Inv s) (h : step s a = some s') : Inv s' :=
  (step_eff h).inv hi

theorem inv_run {s s' : State} (as : List Action) (hi : Inv s) (h : run s as = some s') : Inv s' := by
  induction as generalizing s with
  | nil => simp [run] at h; subst h; exact hi
  | cons a as ih =>
    simp only [run] at h
    split at h
    · rename_i s1 hs; exact ih (inv_step a hi hs) h
    · cases h

theorem inv_reachable {s : State} (h : Reachable s) : Inv s := by
  obtain ⟨as, h⟩ := h
  exact inv_run as inv_init h

end IceProofs.GatherCycle

import IceProofs.Sys2C20Link
/-!
# C20 on `Sys2` — the two-agent theorems

`Fresh s0` (two freshly created agents, nothing in flight) → any schedule `pre` → a state `s1` in which the session is
`Established` (roles taken, no renomination yet) → any schedule `ex` that is an
`Exchange` (no Restart / Close, every state a `Session`).  `hist s1 ex` is the history of the exchange.
`sched_runsZ` is `sched_run` (`Sys2C20Sched.lean`) along the schedule of an `ExchangeK`.
-/
namespace IceProofs.C20S
open IceModel.AgentCore IceModel.Sys2 IceProofs.Sys2Run IceProofs.Agent IceProofs.Sys2C05

/-- two freshly created agents and an empty hub -/
structure Fresh (s : Sys) : Prop where
  init : Sys.Init s
  aInit : AgentC06.Init s.a
  bInit : AgentC06.Init s.b

theorem fresh_inv {s0 : Sys} (hf : Fresh s0) (es : List SysEv) :
    AgentC06.Inv (Sys.runs s0 es).a ∧ AgentC06.Inv (Sys.runs s0 es).b :=
  have h := Sys.runs_agents (P := AgentC06.Inv) (fun _ e h => h.step e) (s := s0)
    (fun X => by
      cases X
      · exact AgentC06.Inv.init hf.aInit
      · exact AgentC06.Inv.init hf.bInit) es
  ⟨h false, h true⟩

/-- the datagram carries no nomination value -/
def valFree (d : Dgram) : Bool :=
  match d.p with
  | .stun m => m.nom.isNone
  | .data _ => true

/-- **The session is established and renomination has not begun.**  Roles taken (`Session`); no nomination value is
in flight; A has no valued nomination transaction outstanding and has processed no response to one; B has accepted no
nomination value and none of its pairs carries a deferred nomination value.  Ordinary nominations (USE-CANDIDATE
without a value) may be in flight, outstanding or deferred, and A need not have selected a pair yet. -/
def Established (s : Sys) : Prop :=
  Session s ∧ (∀ d ∈ s.inflight, valFree d = true) ∧
  (∀ pd ∈ s.a.pending, pd.nom = none) ∧ s.a.answeredNomination = none ∧ s.b.lastNomination = none ∧
  (∀ p ∈ s.b.checklist, p.deferredNom = none)

instance (s : Sys) : Decidable (Established s) := by unfold Established; infer_instance

/-- **The course of an exchange**: no Restart and no Close, and every state along the schedule is a `Session` (both
started and open, A controlling, B controlled and full, nobody Failed). -/
def ExchangeK (K : Ev → Bool) (s1 : Sys) (ex : List SysEv) : Prop :=
  (∀ e ∈ ex, sysK K e = true) ∧ ∀ k, k ≤ ex.length → Session (Sys.runs s1 (ex.take k))

instance (K : Ev → Bool) (s1 : Sys) (ex : List SysEv) : Decidable (ExchangeK K s1 ex) := by
  unfold ExchangeK; infer_instance

/-- `ExchangeK` for the filter "neither Restart nor Close" -/
abbrev Exchange (s1 : Sys) (ex : List SysEv) : Prop := ExchangeK keeps s1 ex

theorem ExchangeK.tail {K : Ev → Bool} {s1 : Sys} {e : SysEv} {es : List SysEv} (h : ExchangeK K s1 (e :: es)) :
    ExchangeK K (Sys.run s1 e) es := by
  refine ⟨fun x hx => h.1 x (List.mem_cons_of_mem _ hx), fun k hk => ?_⟩
  have := h.2 (k + 1) (by simp only [List.length_cons]; omega)
  simpa [Sys.runs] using this

theorem ExchangeK.head {K : Ev → Bool} {s1 : Sys} {e : SysEv} {es : List SysEv} (h : ExchangeK K s1 (e :: es)) :
    sysK K e = true ∧ Session (Sys.run s1 e) := by
  refine ⟨h.1 e (List.mem_cons_self ..), ?_⟩
  have := h.2 1 (by simp only [List.length_cons]; omega)
  simpa [Sys.runs] using this

theorem established_qinv {s1 : Sys} (hi : AgentC06.Inv s1.a ∧ AgentC06.Inv s1.b) (he : Established s1) :
    QInv s1.nat {} s1 := by
  obtain ⟨hs, hfl, hpend, hansw, hlast, hmarks⟩ := he
  refine ⟨rfl, hi.1, hi.2, hs, ?_, ?_, ?_, ?_, ?_, ?_, ?_⟩
  · intro d hd m hm v hv
    have := hfl d hd
    unfold valFree at this
    rw [hm] at this
    simp only [Option.isNone_iff_eq_none] at this
    rw [this] at hv; cases hv
  · intro pd hpd v hv
    rw [hpend pd hpd] at hv; cases hv
  · intro x hx; cases hx
  · intro w hw
    rw [hansw] at hw; cases hw
  · rw [hlast]; rfl
  · intro v lb rb hacc; cases hacc
  · intro p hp
    exact MarkOK.fresh (hmarks p hp)

theorem sched_runsZ {K : Ev → Bool} {R : Hist → Sys → Prop} {D : Hist → Sys → Dgram → Prop} {Z : List Nomination → Prop}
    (ok : SchedOKZ K R D Z) (hZ : ∀ l l', l <+: l' → Z l' → Z l)
    {h : Hist} {s : Sys} (q : R h s) (ex : List SysEv) (hex : ExchangeK K s ex) (hz : Z (histFrom h s ex).issued) :
    R (histFrom h s ex) (Sys.runs s ex) := by
  induction ex generalizing h s with
  | nil => exact q
  | cons e es ih =>
    obtain ⟨hk, hsess⟩ := hex.head
    have hz1 : Z (hstepSys h s e).issued := hZ _ _ (histFrom_issued_prefix _ _ es) hz
    have q1 := sched_run ok q e hk hsess hz1
    simp only [Sys.runs, List.foldl_cons, histFrom]
    exact ih q1 hex.tail hz

theorem sched_runs {K : Ev → Bool} {R : Hist → Sys → Prop} {D : Hist → Sys → Dgram → Prop} (ok : SchedOK K R D)
    {h : Hist} {s : Sys} (q : R h s) (ex : List SysEv) (hex : ExchangeK K s ex) (hz : ∀ x ∈ (histFrom h s ex).issued, 0 < x.1) :
    R (histFrom h s ex) (Sys.runs s ex) :=
  sched_runsZ ok (fun _ _ hp hl x hx => hl x (hp.subset hx)) q ex hex hz

theorem established_linv {s1 : Sys} (ht : TInv s1) (he : Established s1) : LInv {} s1 := by
  obtain ⟨_, _, hpend, _, _, _⟩ := he
  refine ⟨ht, ?_, ?_⟩
  · intro d _ pd hpd v hv
    rw [hpend pd hpd] at hv; cases hv
  · intro x hx; cases hx

/-- all nomination values issued are positive (value 0 is sent without the nomination attribute: an ordinary
nomination) -/
def PositiveValues (log : List Nomination) : Prop := ∀ x ∈ log, 0 < x.1

instance (log : List Nomination) : Decidable (PositiveValues log) := by unfold PositiveValues; infer_instance

theorem exchange_ql {s0 : Sys} (hf : Fresh s0) (pre ex : List SysEv) (he : Established (Sys.runs s0 pre))
    (hex : Exchange (Sys.runs s0 pre) ex) (hz : PositiveValues (hist (Sys.runs s0 pre) ex).issued) :
    QL s0.nat (hist (Sys.runs s0 pre) ex) (Sys.runs (Sys.runs s0 pre) ex) := by
  have hq := established_qinv (fresh_inv hf pre) he
  rw [(Sys.runs_topology s0 pre).1] at hq
  have hl := established_linv (init_tinv hf.init pre) he
  exact sched_runs (ql_sched s0.nat) ⟨hq, hl⟩ ex hex hz

theorem exchange_qinv {s0 : Sys} (hf : Fresh s0) (pre ex : List SysEv) (he : Established (Sys.runs s0 pre))
    (hex : Exchange (Sys.runs s0 pre) ex) (hz : PositiveValues (hist (Sys.runs s0 pre) ex).issued) :
    QInv s0.nat (hist (Sys.runs s0 pre) ex) (Sys.runs (Sys.runs s0 pre) ex) :=
  (exchange_ql hf pre ex he hex hz).1

/-- `x` carries the highest value of the log, and is the only nomination with that value -/
def IsMax (log : List Nomination) (x : Nomination) : Prop :=
  x ∈ log ∧ ∀ y ∈ log, y.1 ≤ x.1 ∧ (y.1 = x.1 → y = x)

instance (log : List Nomination) (x : Nomination) : Decidable (IsMax log x) := by unfold IsMax; infer_instance

/-- **The exchange has quiesced**: (1) no STUN message carrying a nomination value is in flight; (2) the controlling
agent A has no valued nomination transaction outstanding; (3) the highest value the controlled agent B has accepted
is not still waiting, as a deferred nomination, for the validation of its pair.  (Ordinary nominations and deferred
nominations with smaller values may still be around: they no longer move a selection.) -/
def Quiesced (s : Sys) : Prop :=
  (∀ d ∈ s.inflight, valFree d = true) ∧ (∀ pd ∈ s.a.pending, pd.nom = none) ∧
  (∀ p ∈ s.b.checklist, p.deferredNom.isSome = true → p.deferredNom ≠ s.b.lastNomination)

instance (s : Sys) : Decidable (Quiesced s) := by unfold Quiesced; infer_instance

/-- the mirror image, modulo the NAT mapping, of the address pair `(la, ra)` of A: B's local address is the real
address behind `ra`, B's remote address is `la` as seen through the NAT -/
def mirror (nat : List (Nat × Nat)) (la ra : Nat) : Nat × Nat := (unmappedL nat ra, mappedL nat la)

section
variable {s0 : Sys} (hf : Fresh s0) (pre ex : List SysEv) (he : Established (Sys.runs s0 pre))
  (hex : Exchange (Sys.runs s0 pre) ex) (hz : PositiveValues (hist (Sys.runs s0 pre) ex).issued)
include hf he hex hz

theorem accepted_le_issued (v : Nat) (hv : (Sys.runs (Sys.runs s0 pre) ex).b.lastNomination = some v) :
    ∃ la ra, (v, la, ra) ∈ (hist (Sys.runs s0 pre) ex).issued := by
  have q := exchange_qinv hf pre ex he hex hz
  obtain ⟨lb, rb, hacc⟩ := q.accepted_of_last hv
  obtain ⟨⟨la, ra, h1, _⟩, _⟩ := q.accB v lb rb hacc
  exact ⟨la, ra, h1⟩

/-- B's highest accepted value `v` was issued by A on an address pair `(la, ra)`; it arrived on the mirror image of
that pair, and this is B's selected pair — unless it still waits there as a deferred nomination -/
theorem controlled_selects_max_accepted (v : Nat)
    (hv : (Sys.runs (Sys.runs s0 pre) ex).b.lastNomination = some v) :
    ∃ la ra, (v, la, ra) ∈ (hist (Sys.runs s0 pre) ex).issued ∧
      (hist (Sys.runs s0 pre) ex).accepted = some (v, (mirror s0.nat la ra).1, (mirror s0.nat la ra).2) ∧
      (selAddrs (Sys.runs (Sys.runs s0 pre) ex).b = some (mirror s0.nat la ra) ∨
       ∃ p ∈ (Sys.runs (Sys.runs s0 pre) ex).b.checklist,
         pairAddrs (Sys.runs (Sys.runs s0 pre) ex).b p.id = some (mirror s0.nat la ra) ∧
         p.nomOnSuccess = true ∧ p.deferredNom = some v ∧ p.state ≠ .succeeded) := by
  have q := exchange_qinv hf pre ex he hex hz
  obtain ⟨lb, rb, hacc⟩ := q.accepted_of_last hv
  obtain ⟨⟨la, ra, h1, h2, h3⟩, id, haddr, hJ, _⟩ := q.accB v lb rb hacc
  subst h2 h3
  refine ⟨la, ra, h1, hacc, ?_⟩
  rcases hJ with hsel | ⟨p, hp, hpid, hnk⟩
  · left
    rw [selAddrs_of_selected hsel]
    exact haddr
  · right
    unfold nk at hnk
    simp only [Prod.mk.injEq, beq_eq_false_iff_ne, ne_eq] at hnk
    exact ⟨p, hp, by rw [hpid]; exact haddr, hnk.2.1, hnk.2.2, hnk.1⟩

/-- once A has processed the success response to a nomination, its selected pair is the pair of the answered
nomination with the greatest value — later responses to nominations with smaller values do not move it -/
theorem controlling_selects_max_answered (x : Nomination) (hx : x ∈ (hist (Sys.runs s0 pre) ex).answered) :
    ∃ y ∈ (hist (Sys.runs s0 pre) ex).answered, y ∈ (hist (Sys.runs s0 pre) ex).issued ∧
      (∀ z ∈ (hist (Sys.runs s0 pre) ex).answered, z.1 ≤ y.1) ∧
      selAddrs (Sys.runs (Sys.runs s0 pre) ex).a = some (y.2.1, y.2.2) := by
  have q := exchange_qinv hf pre ex he hex hz
  obtain ⟨_, w, hw, _⟩ := q.ansA x hx
  obtain ⟨y, hy, hyw, hys⟩ := q.selA w hw
  refine ⟨y, hy, (q.ansA y hy).1, fun z hz' => ?_, hys⟩
  obtain ⟨_, w', hw', hle⟩ := q.ansA z hz'
  rw [hw] at hw'
  cases hw'
  omega

/-- B has handed every nomination whose response A has processed to its selector: B's highest accepted value is at
least its value -/
theorem answered_le_accepted (x : Nomination) (hx : x ∈ (hist (Sys.runs s0 pre) ex).answered) :
    ∃ last, (Sys.runs (Sys.runs s0 pre) ex).b.lastNomination = some last ∧ x.1 ≤ last :=
  (exchange_ql hf pre ex he hex hz).2.ansB x hx

theorem accepted_max_of_answered (x : Nomination) (hmax : IsMax (hist (Sys.runs s0 pre) ex).issued x)
    (hA : x ∈ (hist (Sys.runs s0 pre) ex).answered) :
    (Sys.runs (Sys.runs s0 pre) ex).b.lastNomination = some x.1 := by
  obtain ⟨last, hl, hle⟩ := answered_le_accepted hf pre ex he hex hz x hA
  obtain ⟨la, ra, hmem⟩ := accepted_le_issued hf pre ex he hex hz last hl
  have := (hmax.2 _ hmem).1
  have : last = x.1 := by simp only at this; omega
  rw [hl, this]

theorem quiescent_agreement (x : Nomination) (hq : Quiesced (Sys.runs (Sys.runs s0 pre) ex))
    (hmax : IsMax (hist (Sys.runs s0 pre) ex).issued x)
    (hA : x ∈ (hist (Sys.runs s0 pre) ex).answered) :
    selAddrs (Sys.runs (Sys.runs s0 pre) ex).a = some (x.2.1, x.2.2) ∧
    selAddrs (Sys.runs (Sys.runs s0 pre) ex).b = some (mirror s0.nat x.2.1 x.2.2) := by
  have hB := accepted_max_of_answered hf pre ex he hex hz x hmax hA
  refine ⟨?_, ?_⟩
  · obtain ⟨y, hy, hyi, hymax, hys⟩ := controlling_selects_max_answered hf pre ex he hex hz x hA
    have h1 := hymax x hA
    have h2 := hmax.2 y hyi
    have hyx : y = x := h2.2 (by omega)
    rw [← hyx]; exact hys
  · obtain ⟨la, ra, hmem, _, hsel⟩ := controlled_selects_max_accepted hf pre ex he hex hz x.1 hB
    have hxe : (x.1, la, ra) = x := (hmax.2 _ hmem).2 rfl
    have hla : la = x.2.1 := by rw [← hxe]
    have hra : ra = x.2.2 := by rw [← hxe]
    subst hla hra
    rcases hsel with h | ⟨p, hp, _, _, hd, _⟩
    · exact h
    · exact absurd (hd.trans hB.symm) (hq.2.2 p hp (by rw [hd]; rfl))

end

end IceProofs.C20S

import IceProofs.Sys2C01LiveFairSys
/-!
# C01 liveness — leads-to over a fair suffix

`until_exit`: the leads-to principle over a schedule (a waiting condition is kept until the exit event); `track_exit`:
its instance for a datagram whose delivery the schedule promises (`DeliveredBy`).  `stable_runs`: what every
delivery and every clock advance keeps is kept along a suffix.
`By Q B s es`: `Q` holds at a split point of the suffix not later than `B`; `Suf`: the fair suffix as a context that can
be cut at such a point; `By.bind`: leads-to is transitive.

What one event does comes from `FInv.step` (`StepView`, with `FInv`, `CTick`, `Start`: `Sys2C01LiveFairSys.lean`); a delivery
is an `Effect` (with `restOf`, `Same`, `Sel`, `HasSucc`: `…Chain`), a clock advance an `AdvEffect` (with `Static`, `nomTime`:
`…Adv`); the schedule vocabulary `sufOK`, `SufOK`, `hits`, `shift`, `DeliveredBy`, `FairL` is that of `…Fair`.
-/

namespace IceProofs.C01Live
open IceModel.AgentCore IceModel.Sys2 IceProofs.Sys2Run IceProofs.C01 IceProofs.Agent

section
variable {nat blocked : List (Nat × Nat)} {SLA SLB SR : Nat → Prop} {liteA liteB : Bool} {T0 H J : Nat} {c : Bool}

theorem FInv.run {s : Sys} (h : FInv nat blocked SLA SLB SR liteA liteB T0 H J c s) {e : SysEv} (he : sufOK c H J s e) :
    FInv nat blocked SLA SLB SR liteA liteB T0 H J c (Sys.run s e) := (h.step he).1

theorem FInv.runs {s : Sys} (h : FInv nat blocked SLA SLB SR liteA liteB T0 H J c s) {es : List SysEv} (he : SufOK c H J s es) :
    FInv nat blocked SLA SLB SR liteA liteB T0 H J c (Sys.runs s es) := by
  induction es generalizing s with
  | nil => exact h
  | cons e es ih => exact ih (h.run he.1) he.2

theorem now_le_run {s : Sys} (h : FInv nat blocked SLA SLB SR liteA liteB T0 H J c s) {e : SysEv} (he : sufOK c H J s e) :
    s.now ≤ (Sys.run s e).now := by
  match (h.step he).2 with
  | .same (h := e') .. => rw [e']; exact Nat.le_refl _
  | .dlv (eff := eff) .. => rw [eff.now]; exact Nat.le_refl _
  | .adv (hle := hle) (eff := eff) .. => rw [eff.now]; exact hle

theorem now_le_runs {s : Sys} (h : FInv nat blocked SLA SLB SR liteA liteB T0 H J c s) {es : List SysEv} (he : SufOK c H J s es) :
    s.now ≤ (Sys.runs s es).now := by
  induction es generalizing s with
  | nil => exact Nat.le_refl _
  | cons e es ih => exact Nat.le_trans (now_le_run h he.1) (ih (h.run he.1) he.2)

theorem DeliveredBy.now_le {dl : Nat} {s : Sys} {es : List SysEv} {i : Nat} (h : DeliveredBy dl s es i) : s.now ≤ dl := by
  cases es with
  | nil => exact h.elim
  | cons e es => exact h.1

theorem getElem?_removeAt_ne {α : Type} (l : List α) {k i : Nat} {d : α} (hki : k ≠ i) (hi : l[i]? = some d) :
    (removeAt l k)[if k < i then i - 1 else i]? = some d := by
  unfold removeAt
  have hil : i < l.length := by
    rcases Nat.lt_or_ge i l.length with h' | h'
    · exact h'
    · rw [List.getElem?_eq_none h'] at hi; cases hi
  by_cases hlt : k < i
  · rw [if_pos hlt]
    have hlen : (l.take k).length = k := by rw [List.length_take]; omega
    rw [List.getElem?_append_right (by omega), hlen, List.getElem?_drop]
    have : k + 1 + (i - 1 - k) = i := by omega
    rw [this]; exact hi
  · rw [if_neg hlt]
    have hik : i < k := by omega
    rw [List.getElem?_append_left (by rw [List.length_take]; omega), List.getElem?_take_of_lt hik]
    exact hi

theorem getElem?_restOf_ne {s : Sys} {k i : Nat} {d : Dgram} (keep : Bool) (hki : k ≠ i) (hi : s.inflight[i]? = some d) :
    (restOf s k keep)[if keep = true then i else if k < i then i - 1 else i]? = some d := by
  unfold restOf
  cases keep with
  | true => simpa using hi
  | false => simpa using getElem?_removeAt_ne s.inflight hki hi

/-- `Q` holds at a split point of the schedule whose clock is at most `B` (`ValidBy c B` is the instance
`Q := HasSucc · c ∨ Sel · c`, spelt so that it can be decided) -/
def By (Q : Sys → Prop) (B : Nat) (s : Sys) (es : List SysEv) : Prop :=
  ∃ e1 e2, es = e1 ++ e2 ∧ Q (Sys.runs s e1) ∧ (Sys.runs s e1).now ≤ B

/-- leads-to along a schedule: a waiting condition `Wait` (on the state and the schedule still ahead) that every event either
keeps or leaves through the exit `Q`, and that cannot hold with nothing ahead, is left through `Q` at some event of the
schedule -/
theorem until_exit {Wait : Sys → List SysEv → Prop} {Q : Sys → SysEv → Sys → Prop}
    (step : ∀ (s : Sys) (e : SysEv) (es : List SysEv), FInv nat blocked SLA SLB SR liteA liteB T0 H J c s → sufOK c H J s e →
      Wait s (e :: es) → Q s e (Sys.run s e) ∨ Wait (Sys.run s e) es)
    (stop : ∀ s, FInv nat blocked SLA SLB SR liteA liteB T0 H J c s → ¬ Wait s [])
    {s : Sys} {es : List SysEv} (h : FInv nat blocked SLA SLB SR liteA liteB T0 H J c s) (hs : SufOK c H J s es)
    (hw : Wait s es) :
    ∃ e1 e e2, es = e1 ++ e :: e2 ∧ Wait (Sys.runs s e1) (e :: e2) ∧ Q (Sys.runs s e1) e (Sys.run (Sys.runs s e1) e) := by
  induction es generalizing s with
  | nil => exact absurd hw (stop s h)
  | cons e es ih =>
    rcases step s e es h hs.1 hw with q | w
    · exact ⟨[], e, es, rfl, hw, q⟩
    · obtain ⟨e1, e', e2, q1, q2, q3⟩ := ih (h.run hs.1) hs.2 w
      exact ⟨e :: e1, e', e2, by rw [q1]; rfl, q2, q3⟩

/-- `until_exit` for a datagram `d` in flight that the schedule delivers by `dl` (`Wait` := `P`, and `d` still scheduled): if
every other event keeps `P` (or already gives `Q`) and the delivery of `d` turns `P` into `Q`, then `Q` holds by `dl` -/
theorem track_exit {P Q : Sys → Prop} {D : Sys → Dgram → Prop} {dl : Nat}
    (keepD : ∀ (s s' : Sys) (hd : Dgram) (t : List Dgram), FInv nat blocked SLA SLB SR liteA liteB T0 H J c s →
      Effect T0 s s' hd t → hd ∈ s.inflight → P s → P s' ∨ Q s')
    (keepA : ∀ (s s' : Sys) (T : Nat), FInv nat blocked SLA SLB SR liteA liteB T0 H J c s → AdvEffect T0 T s s' → T ≤ dl → P s → P s')
    (dS : ∀ (s s' : Sys) (d : Dgram), Same s s' → D s d → D s' d)
    (hit : ∀ (s s' : Sys) (d : Dgram) (t : List Dgram), FInv nat blocked SLA SLB SR liteA liteB T0 H J c s →
      Effect T0 s s' d t → d ∈ s.inflight → P s → D s d → Q s')
    (es : List SysEv) (s : Sys) (i : Nat) (d : Dgram) (h : FInv nat blocked SLA SLB SR liteA liteB T0 H J c s)
    (hs : SufOK c H J s es) (hp : P s) (hi : s.inflight[i]? = some d) (hd : D s d) (hdel : DeliveredBy dl s es i) :
    By Q dl s es := by
  -- waiting: `P`, and the datagram is still scheduled
  suffices hstep : ∀ (s : Sys) (e : SysEv) (es : List SysEv), FInv nat blocked SLA SLB SR liteA liteB T0 H J c s →
      sufOK c H J s e → (P s ∧ ∃ i, s.inflight[i]? = some d ∧ D s d ∧ DeliveredBy dl s (e :: es) i) →
      (Q (Sys.run s e) ∧ (Sys.run s e).now ≤ dl) ∨
        (P (Sys.run s e) ∧ ∃ i, (Sys.run s e).inflight[i]? = some d ∧ D (Sys.run s e) d ∧ DeliveredBy dl (Sys.run s e) es i) by
    obtain ⟨e1, e, e2, q1, _, q3, q4⟩ := until_exit
      (Wait := fun s es => P s ∧ ∃ i, s.inflight[i]? = some d ∧ D s d ∧ DeliveredBy dl s es i)
      (Q := fun _ _ s' => Q s' ∧ s'.now ≤ dl) hstep (fun _ _ ⟨_, _, _, _, hdel⟩ => hdel) h hs ⟨hp, i, hi, hd, hdel⟩
    exact ⟨e1 ++ [e], e2, by rw [q1]; simp, by rw [Sys.runs_snoc]; exact q3, by rw [Sys.runs_snoc]; exact q4⟩
  rintro s e es h he ⟨hp, i, hi, hd, hnow, hdel⟩
  have hil : i < s.inflight.length := by
    rcases Nat.lt_or_ge i s.inflight.length with h' | h'
    · exact h'
    · rw [List.getElem?_eq_none h'] at hi; cases hi
  match (h.step he).2 with
  | .same k keep hik hk e' =>
    -- an index out of range: nothing happens, nothing moves
    obtain ⟨e1, e2⟩ := hik.hits i
    have hkl : s.inflight.length ≤ k := by
      rcases Nat.lt_or_ge k s.inflight.length with h' | h'
      · rw [List.getElem?_eq_getElem h'] at hk; cases hk
      · exact h'
    have hsh : shift e i = i := by
      rw [e2]; cases keep
      · simp only [Bool.false_eq_true, if_false]; rw [if_neg (by omega)]
      · simp
    rw [e1, beq_false_of_ne (by omega), hsh, e'] at hdel
    rw [e']
    exact Or.inr ⟨hp, i, hi, hd, hdel.resolve_left (by simp)⟩
  | .dlv k keep hd' hik hk eff _ =>
    have hmem : hd' ∈ s.inflight := List.mem_of_getElem? hk
    obtain ⟨e1, e2⟩ := hik.hits i
    by_cases hki : k = i
    · subst hki
      rw [hk] at hi; cases hi
      exact Or.inl ⟨hit s _ _ _ h eff hmem hp hd, by rw [eff.now]; exact hnow⟩
    · rcases keepD s _ _ _ h eff hmem hp with hp' | hq
      · rw [e1, beq_false_of_ne hki, e2] at hdel
        exact Or.inr ⟨hp', _, eff.getElem_tail (getElem?_restOf_ne keep hki hi), dS s _ d eff.same hd,
          hdel.resolve_left (by simp)⟩
      · exact Or.inl ⟨hq, by rw [eff.now]; exact hnow⟩
  | .adv (T := T) (he := hadv) (eff := eff) .. =>
    subst hadv
    have hdel' : DeliveredBy dl (Sys.run s (.advance T)) es i := hdel.resolve_left (by simp [hits])
    have hTdl : T ≤ dl := by have := hdel'.now_le; rwa [eff.now] at this
    exact Or.inr ⟨keepA s _ T h eff hTdl hp, i,
      by rw [eff.flight, List.append_assoc, List.getElem?_append_left hil]; exact hi, dS s _ d eff.same hd, hdel'⟩

end

section
variable {nat blocked : List (Nat × Nat)} {SLA SLB SR : Nat → Prop} {liteA liteB : Bool} {T0 H J : Nat} {c : Bool}

theorem stable_runs {P : Sys → Prop}
    (kD : ∀ (s s' : Sys) (hd : Dgram) (t : List Dgram), Effect T0 s s' hd t → P s → P s')
    (kA : ∀ (s s' : Sys) (T : Nat), AdvEffect T0 T s s' → P s → P s')
    {s : Sys} {es : List SysEv} (h : FInv nat blocked SLA SLB SR liteA liteB T0 H J c s) (hs : SufOK c H J s es) (hp : P s) :
    P (Sys.runs s es) := by
  induction es generalizing s with
  | nil => exact hp
  | cons e es ih =>
    refine ih (h.run hs.1) hs.2 ?_
    match (h.step hs.1).2 with
    | .same (h := e') .. => rw [e']; exact hp
    | .dlv (eff := eff) .. => exact kD _ _ _ _ eff hp
    | .adv (eff := eff) .. => exact kA _ _ _ eff hp

theorem sel_runs {s : Sys} {es : List SysEv} (h : FInv nat blocked SLA SLB SR liteA liteB T0 H J c s) (hs : SufOK c H J s es)
    {x : Bool} (g : Sel s x) : Sel (Sys.runs s es) x :=
  stable_runs (P := fun s => Sel s x) (fun _ _ _ _ he g => g.keep he) (fun _ _ _ he g => g.adv he) h hs g

theorem hasSucc_runs {s : Sys} {es : List SysEv} (h : FInv nat blocked SLA SLB SR liteA liteB T0 H J c s) (hs : SufOK c H J s es)
    {x : Bool} (g : HasSucc s x) : HasSucc (Sys.runs s es) x :=
  stable_runs (P := fun s => HasSucc s x) (fun _ _ _ _ he g => g.keep he) (fun _ _ _ he g => g.adv he) h hs g

theorem static_runs {s : Sys} {es : List SysEv} (h : FInv nat blocked SLA SLB SR liteA liteB T0 H J c s) (hs : SufOK c H J s es)
    (x : Bool) : ((Sys.runs s es).agent x).selStart = (s.agent x).selStart ∧ ((Sys.runs s es).agent x).cfg = (s.agent x).cfg := by
  refine stable_runs (P := fun s' => (s'.agent x).selStart = (s.agent x).selStart ∧ (s'.agent x).cfg = (s.agent x).cfg)
    ?_ ?_ h hs ⟨rfl, rfl⟩
  · intro s1 s2 hd t he hp
    obtain ⟨_, k⟩ := he.lk x
    exact ⟨k.selStart.trans hp.1, (he.ids x).cfg.trans hp.2⟩
  · intro s1 s2 T he hp
    exact ⟨(he.lk x).selStart.trans hp.1, (he.ids x).cfg.trans hp.2⟩

theorem sel_to_end {s : Sys} {e1 e2 : List SysEv} (h : FInv nat blocked SLA SLB SR liteA liteB T0 H J c s)
    (hs : SufOK c H J s (e1 ++ e2)) {x : Bool} (g : Sel (Sys.runs s e1) x) : Sel (Sys.runs s (e1 ++ e2)) x := by
  rw [Sys.runs_append]
  exact sel_runs (h.runs hs.head) hs.tail g

theorem By.mono {Q Q' : Sys → Prop} {B B' : Nat} {s : Sys} {es : List SysEv} (h : By Q B s es) (hQ : ∀ s, Q s → Q' s)
    (hB : B ≤ B') : By Q' B' s es := by
  obtain ⟨e1, e2, q1, q2, q3⟩ := h
  exact ⟨e1, e2, q1, hQ _ q2, Nat.le_trans q3 hB⟩

theorem By.append {Q : Sys → Prop} {B : Nat} {s : Sys} {e1 e2 : List SysEv} (h : By Q B (Sys.runs s e1) e2) :
    By Q B s (e1 ++ e2) := by
  obtain ⟨f1, f2, rfl, q2, q3⟩ := h
  exact ⟨e1 ++ f1, f2, (List.append_assoc ..).symm, by rw [Sys.runs_append]; exact q2, by rw [Sys.runs_append]; exact q3⟩

end

section
variable (nat blocked : List (Nat × Nat)) (SLA SLB SR : Nat → Prop) (liteA liteB : Bool)

/-- a fair loss-free suffix from a state satisfying the invariant, its clock ending at `E`: the context of every
leads-to statement below; cutting off a prefix gives such a suffix again (`Suf.tail`) -/
structure Suf (T0 H J : Nat) (c : Bool) (L E : Nat) (s : Sys) (es : List SysEv) : Prop where
  inv : FInv nat blocked SLA SLB SR liteA liteB T0 H J c s
  ok : SufOK c H J s es
  fair : FairL L s es
  fin : (Sys.runs s es).now = E

end

/-- `s'` lies on a suffix that started in `s` -/
structure Later (s s' : Sys) : Prop where
  now : s.now ≤ s'.now
  static : Static s s'

theorem Later.nomTime {s s' : Sys} (h : Later s s') (c : Bool) : nomTime c s' = nomTime c s := by
  unfold IceProofs.C01Live.nomTime; rw [(h.static c).1, (h.static c).2]

section
variable {nat blocked : List (Nat × Nat)} {SLA SLB SR : Nat → Prop} {liteA liteB : Bool} {T0 H J L E : Nat} {c : Bool}

theorem Suf.tail {s : Sys} {e1 e2 : List SysEv} (h : Suf nat blocked SLA SLB SR liteA liteB T0 H J c L E s (e1 ++ e2)) :
    Suf nat blocked SLA SLB SR liteA liteB T0 H J c L E (Sys.runs s e1) e2 ∧ Later s (Sys.runs s e1) :=
  ⟨⟨h.inv.runs h.ok.head, h.ok.tail, h.fair.tail, by rw [← Sys.runs_append]; exact h.fin⟩,
   now_le_runs h.inv h.ok.head, static_runs h.inv h.ok.head⟩

theorem Suf.after {s : Sys} {e1 e2 : List SysEv} {e : SysEv}
    (h : Suf nat blocked SLA SLB SR liteA liteB T0 H J c L E s (e1 ++ e :: e2)) :
    Suf nat blocked SLA SLB SR liteA liteB T0 H J c L E (Sys.run (Sys.runs s e1) e) e2 ∧
      Later s (Sys.run (Sys.runs s e1) e) := by
  have e' : e1 ++ e :: e2 = (e1 ++ [e]) ++ e2 := by simp
  rw [e'] at h
  have := h.tail
  rwa [Sys.runs_snoc] at this

theorem By.bind {P Q : Sys → Prop} {B B' : Nat} {s : Sys} {es : List SysEv}
    (h : Suf nat blocked SLA SLB SR liteA liteB T0 H J c L E s es) (hp : By P B s es)
    (next : ∀ s' es', Suf nat blocked SLA SLB SR liteA liteB T0 H J c L E s' es' → Later s s' → P s' → s'.now ≤ B →
      By Q B' s' es') : By Q B' s es := by
  obtain ⟨e1, e2, rfl, q2, q3⟩ := hp
  exact By.append (next _ _ h.tail.1 h.tail.2 q2 q3)

theorem By.now_le {Q : Sys → Prop} {B : Nat} {s : Sys} {es : List SysEv}
    (h : Suf nat blocked SLA SLB SR liteA liteB T0 H J c L E s es) (hp : By Q B s es) : s.now ≤ B := by
  obtain ⟨e1, e2, rfl, _, q3⟩ := hp
  exact Nat.le_trans (now_le_runs h.inv h.ok.head) q3

theorem By.sel_end {B : Nat} {s : Sys} {es : List SysEv} {x : Bool}
    (h : Suf nat blocked SLA SLB SR liteA liteB T0 H J c L E s es) (hp : By (fun s => Sel s x) B s es) : Sel (Sys.runs s es) x := by
  obtain ⟨e1, e2, rfl, q2, _⟩ := hp
  exact sel_to_end h.inv h.ok q2

end

end IceProofs.C01Live

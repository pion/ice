import IceModel.Gather
/-!
Lemmas about the resource programs of `IceModel.Gather` (ledger semantics `Prog.run`, checker
`Prog.ok`): soundness of the checker for ALL answer sequences, and `ok` for every gatherer program,
including the parameterised ones (any number of mapped / relayed addresses).
-/
namespace IceProofs.GatherLedger
open IceModel.Gather

theorem run_ret (as : List Ans) (l : Led) : Prog.ret.run as l = some l := by
  cases as <;> rfl

theorem run_release (i : Nat) (n : Prog) (as : List Ans) (l : Led) :
    (Prog.release i n).run as l = n.run as (l.set i .released) := by
  cases as <;> rfl

theorem ok_sound (p : Prog) : ∀ (l : Led) (as : List Ans) (l' : Led),
    p.ok l = true → p.run as l = some l' → l'.balanced = true := by
  induction p with
  | ret =>
    intro l as l' h hr
    rw [run_ret] at hr
    cases hr
    simpa [Prog.ok] using h
  | acquire lb k a b iha ihb =>
    intro l as l' h hr
    simp only [Prog.ok, Bool.and_eq_true] at h
    cases as with
    | nil => simp [Prog.run] at hr
    | cons x xs =>
      simp only [Prog.run] at hr
      split at hr
      · exact iha _ _ _ h.1 hr
      · exact ihb _ _ _ h.2 hr
  | step lb a b iha ihb =>
    intro l as l' h hr
    simp only [Prog.ok, Bool.and_eq_true] at h
    cases as with
    | nil => simp [Prog.run] at hr
    | cons x xs =>
      simp only [Prog.run] at hr
      split at hr
      · exact iha _ _ _ h.1 hr
      · exact ihb _ _ _ h.2 hr
  | release i n ih =>
    intro l as l' h hr
    rw [run_release] at hr
    simp only [Prog.ok] at h
    exact ih _ _ _ h hr
  | addCand ci is st fl ihs ihf =>
    intro l as l' h hr
    simp only [Prog.ok, Bool.and_eq_true] at h
    cases as with
    | nil => simp [Prog.run] at hr
    | cons x xs =>
      cases x with
      | ok => simp only [Prog.run] at hr; exact ihs _ _ _ h.1.1 hr
      | dup => simp only [Prog.run] at hr; exact ihs _ _ _ h.1.2 hr
      | fail => simp only [Prog.run] at hr; exact ihf _ _ _ h.2 hr

theorem balanced_iff (l : Led) :
    l.balanced = true ↔ l.misuse = false ∧ ∀ s ∈ l.slots, s ≠ SlotSt.held := by
  simp [Led.balanced, List.all_eq_true]

def Settled (l : Led) : Prop := l.misuse = false ∧ ∀ s ∈ l.slots, s ≠ SlotSt.held

theorem Settled.balanced {l : Led} (h : Settled l) : l.balanced = true := (balanced_iff l).2 h

theorem set_push_last (l : Led) (i : Nat) (to : SlotSt) (hi : l.slots.length = i) :
    (l.push).set i to = { slots := l.slots ++ [to], misuse := l.misuse } := by
  subst hi
  simp [Led.push, Led.set]

theorem settled_snoc {l : Led} (h : Settled l) (to : SlotSt) (ht : to ≠ .held) :
    Settled { slots := l.slots ++ [to], misuse := l.misuse } := by
  refine ⟨h.1, ?_⟩
  intro s hs
  simp only [List.mem_append, List.mem_singleton] at hs
  rcases hs with hs | hs
  · exact h.2 s hs
  · exact hs ▸ ht

theorem borrowLoop_ok (k : Nat) : ∀ (i : Nat) (l : Led), (borrowLoop i k).ok l = l.balanced := by
  induction k with
  | zero => intro i l; simp [borrowLoop, Prog.ok]
  | succ k ih => intro i l; simp [borrowLoop, Prog.ok, Led.setAll, ih]

theorem mappedLoop_ok (k : Nat) : ∀ (i : Nat) (l : Led), Settled l → l.slots.length = i → 0 < i →
    (mappedLoop i k).ok l = true := by
  induction k with
  | zero => intro i l hs _ _; simpa [mappedLoop, Prog.ok] using hs.balanced
  | succ k ih =>
    intro i l hs hlen hpos
    have hne : (i == 0) = false := by simp; omega
    have next : ∀ to : SlotSt, to ≠ .held →
        (mappedLoop (i + 1) k).ok { slots := l.slots ++ [to], misuse := l.misuse } = true := by
      intro to ht
      exact ih (i + 1) _ (settled_snoc hs to ht) (by simp [hlen]) (by omega)
    simp only [mappedLoop, hne, Prog.ok, Led.setAll, List.foldl, Bool.false_eq_true, ↓reduceIte]
    rw [set_push_last l i _ hlen, set_push_last l i _ hlen, set_push_last l i _ hlen]
    simp [next, hs.balanced]

/-- first iteration: slot 0 (the socket opened before the loop) is held -/
theorem mappedLoop_zero_ok (k : Nat) :
    (mappedLoop 0 (k + 1)).ok { slots := [.held], misuse := false } = true := by
  have next : ∀ to : SlotSt, to ≠ .held →
      (mappedLoop 1 k).ok { slots := [to], misuse := false } = true := by
    intro to ht
    exact mappedLoop_ok k 1 _ ⟨rfl, by simpa using ht⟩ rfl (by omega)
  simp [mappedLoop, Prog.ok, Led.setAll, Led.set, next]

theorem srflxMappedProg_ok (n : Nat) : (srflxMappedProg (n + 1)).ok {} = true := by
  have h := mappedLoop_zero_ok n
  simp only [srflxMappedProg, Prog.ok, Led.push, List.nil_append, Bool.and_eq_true]
  refine ⟨⟨h, ?_⟩, ?_⟩ <;> decide

theorem relayProg_ok (n : Nat) : (relayProg n).ok {} = true := by
  simp [relayProg, relayProgWith, relayTail, Prog.ok, borrowLoop_ok, Led.push, Led.set, Led.setAll, Led.balanced]

theorem hostUdpProg_ok : hostUdpProg.ok {} = true := by decide
theorem hostTcpProg_ok : hostTcpProg.ok {} = true := by decide
theorem hostMuxProg_ok : hostMuxProg.ok {} = true := by decide
theorem srflxProg_ok : srflxProg.ok {} = true := by decide
theorem srflxMuxProg_ok : srflxMuxProg.ok {} = true := by decide

/-- the unrepaired programs are rejected by the checker (it is not vacuous) -/
theorem srflxProgF6_not_ok : srflxProgF6.ok {} = false := by decide
theorem relayProgF10_not_ok : (relayProgWith false 1).ok {} = false := by decide

/-- … and the rejected path is a real run: reply arrives, addCandidate fails, the socket stays held -/
theorem srflxProgF6_leaks :
    srflxProgF6.run [.ok, .ok, .ok, .ok, .fail] {} = some { slots := [.held], misuse := false } := by decide

theorem relayProgF10_leaks :
    (relayProgWith false 1).run [.ok, .ok, .ok, .ok, .ok, .fail] {}
      = some { slots := [.held, .held, .held], misuse := false } := by decide

theorem progOf_ok (u : GUnit) : (progOf u).ok {} = true := by
  obtain ⟨kind, net, bind, url, n⟩ := u
  cases kind <;> simp only [progOf]
  · exact hostUdpProg_ok
  · exact hostTcpProg_ok
  · exact hostMuxProg_ok
  · exact srflxProg_ok
  · exact srflxMuxProg_ok
  · obtain ⟨m, hm⟩ : ∃ m, max 1 n = m + 1 := ⟨max 1 n - 1, by omega⟩
    rw [hm]
    exact srflxMappedProg_ok m
  · exact relayProg_ok n

end IceProofs.GatherLedger

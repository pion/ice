import IceModel.AgentCore
/-!
# `Agent.bestBy`: the highest priority among the admissible pairs, the first in list order among equals

`bestBy_spec` characterises the result exactly (`BestSpec`): nothing iff no listed pair is admissible, else the pair at the
one position of the checklist that `IsBest` describes.
-/
namespace IceProofs.AgentC07
open IceModel.AgentCore

/-- `b` sits in `l`, is admissible, is strictly better than every admissible pair before it and at
least as good as every admissible pair after it. -/
def IsBest (prio : Pair → Nat) (ok : Pair → Bool) (l : List Pair) (b : Pair) : Prop :=
  ∃ pre post, l = pre ++ b :: post ∧ ok b = true ∧ (∀ p ∈ pre, ok p = true → prio p < prio b) ∧
    (∀ p ∈ post, ok p = true → prio p ≤ prio b)

/-- the loop body of `bestBy` -/
def bestStep (prio : Pair → Nat) (ok : Pair → Bool) (best : Option Pair) (p : Pair) : Option Pair :=
  if !ok p then best else
    match best with
    | none => some p
    | some b => if prio b < prio p then some p else some b

theorem bestBy_eq (a : Agent) (ok : Pair → Bool) :
    a.bestBy ok = a.checklist.foldl (bestStep a.pairPrio ok) none := rfl

def BestSpec (prio : Pair → Nat) (ok : Pair → Bool) (l : List Pair) : Option Pair → Prop
  | none => ∀ p ∈ l, ok p = false
  | some b => IsBest prio ok l b

theorem bestStep_spec (prio : Pair → Nat) (ok : Pair → Bool) (l : List Pair) (acc : Option Pair) (x : Pair)
    (h : BestSpec prio ok l acc) : BestSpec prio ok (l ++ [x]) (bestStep prio ok acc x) := by
  unfold bestStep
  by_cases hx : ok x = true
  · simp only [hx, Bool.not_true, Bool.false_eq_true, if_false]
    cases acc with
    | none =>
      refine ⟨l, [], rfl, hx, fun p hp hok => ?_, fun p hp => by cases hp⟩
      have := h p hp
      rw [this] at hok
      cases hok
    | some b =>
      obtain ⟨pre, post, e, hb, h1, h2⟩ := h
      dsimp only
      split
      · rename_i hlt
        refine ⟨l, [], rfl, hx, fun p hp hok => ?_, fun p hp => by cases hp⟩
        rw [e] at hp
        rcases List.mem_append.mp hp with hp | hp
        · exact Nat.lt_trans (h1 p hp hok) hlt
        · rcases List.mem_cons.mp hp with rfl | hp
          · exact hlt
          · exact Nat.lt_of_le_of_lt (h2 p hp hok) hlt
      · rename_i hge
        refine ⟨pre, post ++ [x], by rw [e]; simp, hb, h1, fun p hp hok => ?_⟩
        rcases List.mem_append.mp hp with hp | hp
        · exact h2 p hp hok
        · rw [List.mem_singleton.mp hp]; exact Nat.le_of_not_lt hge
  · have hx' : ok x = false := by simpa using hx
    simp only [hx', Bool.not_false, if_true]
    cases acc with
    | none =>
      intro p hp
      rcases List.mem_append.mp hp with hp | hp
      · exact h p hp
      · rw [List.mem_singleton.mp hp]; exact hx'
    | some b =>
      obtain ⟨pre, post, e, hb, h1, h2⟩ := h
      refine ⟨pre, post ++ [x], by rw [e]; simp, hb, h1, fun p hp hok => ?_⟩
      rcases List.mem_append.mp hp with hp | hp
      · exact h2 p hp hok
      · rw [List.mem_singleton.mp hp, hx'] at hok; cases hok

theorem foldl_bestStep_spec (prio : Pair → Nat) (ok : Pair → Bool) (l pre : List Pair) (acc : Option Pair)
    (h : BestSpec prio ok pre acc) : BestSpec prio ok (pre ++ l) (l.foldl (bestStep prio ok) acc) := by
  induction l generalizing pre acc with
  | nil => simpa using h
  | cons x l ih =>
    rw [List.foldl_cons]
    have := ih (pre ++ [x]) _ (bestStep_spec prio ok pre acc x h)
    simpa using this

theorem bestBy_spec (a : Agent) (ok : Pair → Bool) : BestSpec a.pairPrio ok a.checklist (a.bestBy ok) := by
  rw [bestBy_eq]
  have := foldl_bestStep_spec a.pairPrio ok a.checklist [] none (fun p hp => by cases hp)
  simpa using this

theorem IsBest_unique {prio : Pair → Nat} {ok : Pair → Bool} {l : List Pair} {b b' : Pair}
    (h : IsBest prio ok l b) (h' : IsBest prio ok l b') : b = b' := by
  obtain ⟨pre, post, e, hb, h1, h2⟩ := h
  obtain ⟨pre', post', e', hb', h1', h2'⟩ := h'
  rw [e] at e'
  rcases List.append_eq_append_iff.mp e' with ⟨m, rfl, em⟩ | ⟨m, rfl, em⟩
  · -- pre' = pre ++ m
    cases m with
    | nil => simp at em; exact em.1
    | cons y m =>
      simp at em
      obtain ⟨rfl, rfl⟩ := em
      -- b ∈ pre', b' ∈ post
      have l1 := h1' b (List.mem_append_right _ List.mem_cons_self) hb
      have l2 := h2 b' (List.mem_append_right _ List.mem_cons_self) hb'
      omega
  · cases m with
    | nil => simp at em; exact em.1.symm
    | cons y m =>
      simp at em
      obtain ⟨rfl, rfl⟩ := em
      have l1 := h1 b' (List.mem_append_right _ List.mem_cons_self) hb'
      have l2 := h2' b (List.mem_append_right _ List.mem_cons_self) hb
      omega

theorem bestBy_eq_some_iff (a : Agent) (ok : Pair → Bool) (b : Pair) :
    a.bestBy ok = some b ↔ IsBest a.pairPrio ok a.checklist b := by
  have h := bestBy_spec a ok
  constructor
  · intro e; rw [e] at h; exact h
  · intro hb
    cases hbb : a.bestBy ok with
    | none =>
      rw [hbb] at h
      obtain ⟨pre, post, e, hok, _, _⟩ := hb
      have := h b (by rw [e]; exact List.mem_append_right _ List.mem_cons_self)
      rw [this] at hok; cases hok
    | some b' =>
      rw [hbb] at h
      rw [IsBest_unique h hb]

theorem bestBy_eq_none_iff (a : Agent) (ok : Pair → Bool) :
    a.bestBy ok = none ↔ ∀ p ∈ a.checklist, ok p = false := by
  have h := bestBy_spec a ok
  constructor
  · intro e; rw [e] at h; exact h
  · intro hn
    cases hbb : a.bestBy ok with
    | none => rfl
    | some b =>
      rw [hbb] at h
      obtain ⟨pre, post, e, hok, _, _⟩ := h
      have := hn b (by rw [e]; exact List.mem_append_right _ List.mem_cons_self)
      rw [this] at hok; cases hok

end IceProofs.AgentC07

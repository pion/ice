import IceProofs.Sys2C20
/-!
# C20 on `Sys2` — a quiesced exchange stays quiesced

From a quiesced state of an exchange, as long as A issues no nomination again — neither through `RenominateCandidate` nor by
the automatic check (the log of issued nominations does not grow) — and the session goes on, under every schedule the state
stays quiesced and an existing selection does not move (at B: once a value has been accepted).  With no valued message in
flight and no valued transaction outstanding, a valued answer cannot select at A and `acceptAt` cannot fire at B; a success
response on a pair of B that carries an old deferred value is superseded; ordinary nominations move a selection only where
nothing is selected, or (at B) no value has been accepted.
-/
namespace IceProofs.C20S
open IceModel.AgentCore IceModel.Sys2 IceProofs.Sys2Run IceProofs.Agent IceProofs.Sys2C05

/-- the API events of a resting exchange: no Restart, no Close, no `RenominateCandidate` -/
def rests : Ev → Bool
  | .renominate _ _ _ _ => false
  | e => keeps e

theorem rests_keeps {ev : Ev} (h : rests ev = true) : keeps ev = true := by
  cases ev <;> first | exact h | cases h

theorem rests_issue {a : Agent} {ev : Ev} (h : rests ev = true) : issueOf a ev = none := by
  cases ev <;> first | rfl | cases h

theorem rests_of_not_api {ev : Ev} (h : ev.isApi = false) : rests ev = true := by
  cases ev <;> first | rfl | cases h

structure RestInv (nat : List (Nat × Nat)) (n0 : Nat) (sa sb lb : Option Nat) (xa xb : Option (Nat × Nat)) (h : Hist)
    (s : Sys) : Prop where
  q : QInv nat h s
  /-- the log of issued nominations is at least as long as it was when the exchange came to rest -/
  logLen : n0 ≤ h.issued.length
  quiet : Quiesced s
  selA : ∀ id, sa = some id → s.a.selected = some id
  lastB : s.b.lastNomination = lb
  selB : lb.isSome = true → ∀ id, sb = some id → s.b.selected = some id
  addrA : ∀ x, xa = some x → selAddrs s.a = some x
  addrB : lb.isSome = true → ∀ x, xb = some x → selAddrs s.b = some x

theorem valFree_nom {d : Dgram} (h : valFree d = true) {m : Msg} (hm : d.p = .stun m) : m.nom = none := by
  unfold valFree at h
  rw [hm] at h
  simpa using h

theorem valFree_agentEv {s : Sys} {X : Bool} {ev : Ev} (h : ∀ d ∈ s.inflight, valFree d = true)
    (hiss : issuesOf (s.agent X) ev = []) : ∀ d ∈ (s.agentEv X ev).1.inflight, valFree d = true := by
  intro d hd
  cases hp : d.p with
  | data n => unfold valFree; rw [hp]
  | stun m =>
    rcases agentEv_stun hd hp with hd | hm
    · exact h d hd
    · unfold valFree
      rw [hp]
      cases hn : m.nom with
      | none => simp [hn]
      | some v =>
        obtain ⟨_, _, _, h4⟩ := step_out_nom (s.agent X) ev d.src d.dst m v hm hn
        rw [hiss] at h4; cases h4

theorem selAddrs_stay {ex : Option Nat} {iss : Option (Nat × Nat × Nat)} {a a' : Agent} (hq : NomQ ex iss a a')
    (hs : ∀ id, a.selected = some id → a'.selected = some id) (x : Nat × Nat) (hx : selAddrs a = some x) :
    selAddrs a' = some x := by
  cases hsel : a.selected with
  | none => have := selAddrs_some_selected hx; rw [hsel] at this; cases this
  | some id => exact selAddrs_keep hq ((hs id hsel).trans hsel.symm) x hx

theorem rest_frame {nat : List (Nat × Nat)} {n0 : Nat} {sa sb lb : Option Nat} {xa xb : Option (Nat × Nat)} {h : Hist}
    {s s' : Sys}
    (hub : Hub s s') (r : RestInv nat n0 sa sb lb xa xb h s) : RestInv nat n0 sa sb lb xa xb h s' := by
  refine ⟨r.q.hub hub, r.logLen, ?_, hub.a ▸ r.selA, hub.b ▸ r.lastB, hub.b ▸ r.selB, hub.a ▸ r.addrA,
    hub.b ▸ r.addrB⟩
  obtain ⟨q1, q2, q3⟩ := r.quiet
  exact ⟨fun d hd => q1 d (hub.fl d hd), by rw [hub.a]; exact q2, by rw [hub.b]; exact q3⟩

theorem rest_agentEv {nat : List (Nat × Nat)} {n0 : Nat} {sa sb lb : Option Nat} {xa xb : Option (Nat × Nat)} {h : Hist}
    {s : Sys}
    (r : RestInv nat n0 sa sb lb xa xb h s) (X : Bool) (ev : Ev) (hk : rests ev = true)
    (hadm : (∀ now la src m, ev ≠ .inbound now la src m) ∨ ∃ d, (DgramOK h d ∧ valFree d = true) ∧ ev = evOf s d)
    (hsess : Session (s.agentEv X ev).1)
    (hzl : (∀ x ∈ (hstep h X (s.agent X) ev).issued, 0 < x.1) ∧ (hstep h X (s.agent X) ev).issued.length ≤ n0) :
    RestInv nat n0 sa sb lb xa xb (hstep h X (s.agent X) ev) (s.agentEv X ev).1 := by
  obtain ⟨hz, hlen⟩ := hzl
  have hadmQ := hadm.imp_right fun ⟨d, hd, he⟩ => (⟨d, hd.1, he⟩ : ∃ d, DgramOK h d ∧ ev = evOf s d)
  have q' := qinv_agentEv r.q X ev (rests_keeps hk) hadmQ hsess hz
  obtain ⟨q1, q2, q3⟩ := r.quiet
  cases X with
  | false =>
    have hpA := session_postA hsess
    rw [agentEv_a_false] at hpA
    -- an existing selection of A does not move: an answered transaction carries no value
    obtain ⟨ex, hq, hsame⟩ : ∃ ex, NomQ ex (issueOf s.a ev) s.a (step s.a ev).1 ∧
        ∀ id0, s.a.selected = some id0 → (step s.a ev).1.selected = some id0 := by
      cases step_ctl s.a ev r.q.invA (rests_keeps hk) (session_postA r.q.sess) hpA with
      | quiet _ hq hsel _ => exact ⟨_, hq, fun id0 hid0 => hsel.trans hid0⟩
      | answer pd id _ hpd _ hq hsel _ =>
        refine ⟨_, hq, fun id0 hid0 => ?_⟩
        rw [hsel]
        unfold selAfter
        simp [q2 pd hpd, hid0]
    -- the log of issued nominations has not grown: A issues nothing in this event
    have hiss : issuesOf s.a ev = [] := by
      have eA : s.agent false = s.a := rfl
      rw [eA, hstepA_issued, List.length_append] at hlen
      have := r.logLen
      exact List.eq_nil_of_length_eq_zero (by omega)
    have hlen' : n0 ≤ (hstep h false s.a ev).issued.length := by
      rw [hstepA_issued, List.length_append]; have := r.logLen; omega
    refine ⟨q', hlen', ⟨?_, ?_, ?_⟩, ?_, ?_, ?_, ?_, ?_⟩
    · exact valFree_agentEv q1 hiss
    · intro pd hpd
      rw [agentEv_a_false] at hpd
      rcases hq.pend pd hpd with h1 | h1 | ⟨v, _, h2 | h2⟩
      · exact q2 pd h1
      · exact h1
      · have := issueOf_mem_issuesOf h2
        rw [hiss] at this; cases this
      · have : (v, pd.src, pd.dest) ∈ issuesOf s.a ev := h2
        rw [hiss] at this; cases this
    · rw [agentEv_b_false]; exact q3
    · intro id0 hid0
      rw [agentEv_a_false]; exact hsame id0 (r.selA id0 hid0)
    · rw [agentEv_b_false]; exact r.lastB
    · rw [agentEv_b_false]; exact r.selB
    · intro x hx
      rw [agentEv_a_false]
      exact selAddrs_stay hq hsame x (r.addrA x hx)
    · rw [agentEv_b_false]; exact r.addrB
  | true =>
    have hpB := session_postB hsess
    rw [agentEv_b_true] at hpB
    have hnr := (session_postB r.q.sess).no_reset (rests_keeps hk) hpB
    -- nothing valued reaches B
    have hat : acceptAt s.b ev = none := by
      rcases hadm with hni | ⟨d, hd, rfl⟩
      · exact acceptAt_not_inbound hni
      · cases hacc : acceptAt s.b (evOf s d) with
        | none => rfl
        | some y =>
          obtain ⟨v, la, src⟩ := y
          unfold evOf at hacc
          cases hp : d.p with
          | data n => rw [hp] at hacc; cases hacc
          | stun m =>
            rw [hp] at hacc
            obtain ⟨_, _, hn⟩ := acceptAt_inbound hacc
            rw [valFree_nom hd.2 hp] at hn; cases hn
    have hl := last_of_no_accept hnr hat
    -- once a value has been accepted, an existing selection of B does not move; deferred values are old ones
    have hB : ∃ ex, NomQ ex none s.b (step s.b ev).1 ∧
        (s.b.lastNomination.isSome = true → ∀ id0, s.b.selected = some id0 → (step s.b ev).1.selected = some id0) ∧
        (∀ p' ∈ (step s.b ev).1.checklist,
          p'.deferredNom = none ∨ ∃ p ∈ s.b.checklist, p'.deferredNom = p.deferredNom) := by
      have hother : ∀ {ex : Option Nat}, NomQ ex none s.b (step s.b ev).1 → ∀ p' ∈ (step s.b ev).1.checklist,
          some p'.id ≠ ex → p'.deferredNom = none ∨ ∃ p ∈ s.b.checklist, p'.deferredNom = p.deferredNom :=
        fun hq p' hp' hne => (hq.deferred hp' hne).imp_right fun ⟨p, hp, _, h⟩ => ⟨p, hp, h⟩
      cases step_cld s.b ev r.q.invB (rests_keeps hk) (session_postB r.q.sess) hpB with
      | accept v la src id h _ _ _ _ _ => rw [hat] at h; cases h
      | quiet _ _ hq =>
        refine ⟨none, hq, ?_, fun p' hp' => hother hq p' hp' (by simp)⟩
        intro _ id0 hid0
        rcases hq.sel with h1 | ⟨_, h1⟩
        · exact h1.trans hid0
        · cases h1
      | plain id _ _ _ _ hq hpl =>
        refine ⟨some id, hq, ?_, ?_⟩
        · exact fun hls id0 hid0 => hpl.selected hls hid0
        · intro p' hp'
          by_cases hid : p'.id = id
          · exact (hpl.deferred hp' hid).imp_right fun ⟨p, hp, _, h⟩ => ⟨p, hp, h⟩
          · exact hother hq p' hp' (by simpa using hid)
      | answer pd id p _ _ hp hpid hq ha =>
        refine ⟨some id, hq, ?_, ?_⟩
        · intro hls id0 hid0
          rcases ha.selected (r.q.defB p hp) with h | ⟨_, h2 | h2 | ⟨_, h2, h3⟩⟩
          · exact h.trans hid0
          · rw [hid0] at h2; cases h2
          · rw [h2] at hls; cases hls
          · -- the mark carries the highest accepted value: excluded in a quiesced state
            exact absurd h3 (q3 p hp h2)
        · intro p' hp'
          by_cases hid : p'.id = id
          · exact (ha.deferred hp' hid).imp_right fun h => ⟨p, hp, h⟩
          · exact hother hq p' hp' (by simpa using hid)
    obtain ⟨ex, hq, hsame, hmarks⟩ := hB
    have hlb : lb.isSome = true → s.b.lastNomination.isSome = true := fun h => by rw [r.lastB]; exact h
    have hlen' : n0 ≤ (hstep h true s.b ev).issued.length := by rw [hstepB_issued]; exact r.logLen
    refine ⟨q', hlen', ⟨?_, ?_, ?_⟩, ?_, ?_, ?_, ?_, ?_⟩
    · exact valFree_agentEv q1 (issuesOf_controlled s.b ev hpB.controlled)
    · rw [agentEv_a_true]; exact q2
    · rw [agentEv_b_true, hl]
      intro p' hp' hsome
      rcases hmarks p' hp' with h1 | ⟨p, hp, h1⟩
      · rw [h1] at hsome; cases hsome
      · rw [h1] at hsome ⊢
        exact q3 p hp hsome
    · rw [agentEv_a_true]; exact r.selA
    · rw [agentEv_b_true, hl]; exact r.lastB
    · intro hls id0 hid0
      rw [agentEv_b_true]
      exact hsame (hlb hls) id0 (r.selB hls id0 hid0)
    · rw [agentEv_a_true]; exact r.addrA
    · intro hls x hx
      rw [agentEv_b_true]
      exact selAddrs_stay hq (hsame (hlb hls)) x (r.addrB hls x hx)

theorem rest_sched (nat : List (Nat × Nat)) (n0 : Nat) (sa sb lb : Option Nat) (xa xb : Option (Nat × Nat)) :
    SchedOKZ rests (RestInv nat n0 sa sb lb xa xb) (fun h _ d => DgramOK h d ∧ valFree d = true)
      (fun l => (∀ x ∈ l, 0 < x.1) ∧ l.length ≤ n0) where
  hub := fun _ h => rests_of_not_api h
  sess := fun _ _ r => r.q.sess
  dgram := fun _ _ r d hd => ⟨r.q.fl d hd, r.quiet.1 d hd⟩
  dframe := fun _ _ _ _ _ hd => hd
  frame := fun _ _ _ hub r => rest_frame hub r
  agent := fun _ _ X ev r hk hadm hs hz => rest_agentEv r X ev hk hadm hs hz

/-- From a quiesced state of an exchange, along every continuation `ex2` in which A issues no nomination — it does not call
`RenominateCandidate`, and the automatic check of its selector (`WithAutomaticRenomination`) does not fire: the log of issued
nominations is the same at the end (`hno`) — (no Restart / Close, every state a `Session`): the state stays quiesced; a pair A
has selected stays selected; B's highest accepted value stays, and once B has accepted a value, a pair B has selected stays
selected.  (Where nothing is selected yet, or B has accepted no value, an ordinary nomination may still select.) -/
theorem quiesced_rests {s0 : Sys} (hf : Fresh s0) (pre ex ex2 : List SysEv) (he : Established (Sys.runs s0 pre))
    (hex : Exchange (Sys.runs s0 pre) ex) (hz : PositiveValues (hist (Sys.runs s0 pre) ex).issued)
    (hq : Quiesced (Sys.runs (Sys.runs s0 pre) ex))
    (hex2 : ExchangeK rests (Sys.runs (Sys.runs s0 pre) ex) ex2)
    (hno : (histFrom (hist (Sys.runs s0 pre) ex) (Sys.runs (Sys.runs s0 pre) ex) ex2).issued =
      (hist (Sys.runs s0 pre) ex).issued) :
    Quiesced (Sys.runs (Sys.runs (Sys.runs s0 pre) ex) ex2) ∧
    (∀ id, (Sys.runs (Sys.runs s0 pre) ex).a.selected = some id →
      (Sys.runs (Sys.runs (Sys.runs s0 pre) ex) ex2).a.selected = some id) ∧
    (∀ x, selAddrs (Sys.runs (Sys.runs s0 pre) ex).a = some x →
      selAddrs (Sys.runs (Sys.runs (Sys.runs s0 pre) ex) ex2).a = some x) ∧
    (Sys.runs (Sys.runs (Sys.runs s0 pre) ex) ex2).b.lastNomination = (Sys.runs (Sys.runs s0 pre) ex).b.lastNomination ∧
    ((Sys.runs (Sys.runs s0 pre) ex).b.lastNomination.isSome = true →
      (∀ id, (Sys.runs (Sys.runs s0 pre) ex).b.selected = some id →
        (Sys.runs (Sys.runs (Sys.runs s0 pre) ex) ex2).b.selected = some id) ∧
      (∀ x, selAddrs (Sys.runs (Sys.runs s0 pre) ex).b = some x →
        selAddrs (Sys.runs (Sys.runs (Sys.runs s0 pre) ex) ex2).b = some x)) := by
  have q := exchange_qinv hf pre ex he hex hz
  have r0 : RestInv s0.nat (hist (Sys.runs s0 pre) ex).issued.length _ _ _ _ _ (hist (Sys.runs s0 pre) ex)
      (Sys.runs (Sys.runs s0 pre) ex) :=
    ⟨q, Nat.le_refl _, hq, fun _ h => h, rfl, fun _ _ h => h, fun _ h => h, fun _ _ h => h⟩
  have r := sched_runsZ (rest_sched s0.nat _ _ _ _ _ _)
    (fun l l' hp hl => ⟨fun x hx => hl.1 x (hp.subset hx), Nat.le_trans hp.length_le hl.2⟩) r0 ex2 hex2
    (by rw [hno]; exact ⟨hz, Nat.le_refl _⟩)
  exact ⟨r.quiet, r.selA, r.addrA, r.lastB, fun hls => ⟨r.selB hls, r.addrB hls⟩⟩

end IceProofs.C20S

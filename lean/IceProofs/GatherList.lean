import IceProofs.CountP
/-! List facts shared by the two gathering-cycle developments (`GatherCyc`, `GatherCycle`): both machines keep their
cycles in a list, accept a cycle by appending it and act on one cycle at a time, and their invariants are statements about
every cycle of the list. -/
namespace IceProofs.GatherList

theorem forall_snoc {α : Type} {l : List α} {x0 : α} {φ : Nat → α → Prop} (h : ∀ i x, l[i]? = some x → φ i x)
    (hn : φ l.length x0) : ∀ i x, (l ++ [x0])[i]? = some x → φ i x := by
  intro i x hx
  rcases getElem?_snoc hx with h1 | ⟨rfl, rfl⟩
  · exact h i x h1
  · exact hn

theorem get_set_of_get {α : Type} {cs : List α} {c : Nat} {cy : α} (h : cs[c]? = some cy) (x : α) (i : Nat) :
    (cs.set c x)[i]? = if c = i then some x else cs[i]? := by
  have hlt : c < cs.length := by
    rcases Nat.lt_or_ge c cs.length with h' | h'
    · exact h'
    · rw [List.getElem?_eq_none h'] at h; cases h
  rw [List.getElem?_set]
  split
  · rename_i hci; subst hci; simp
  · rfl

theorem forall_set {α : Type} {cs : List α} {c : Nat} {cy cy' : α} (hget : cs[c]? = some cy) {φ : Nat → α → Prop}
    (h : ∀ i x, cs[i]? = some x → c ≠ i → φ i x) (hc : φ c cy') : ∀ i x, (cs.set c cy')[i]? = some x → φ i x := by
  intro i x hx
  rw [get_set_of_get hget] at hx
  split at hx
  · rename_i hci; cases hx; exact hci ▸ hc
  · exact h i x hx ‹_›

theorem exists_set {α : Type} {cs : List α} {c : Nat} {cy cy' : α} (hget : cs[c]? = some cy) {i : Nat} {y : α}
    (hy : cs[i]? = some y) {ψ : α → Prop} (h : ψ y) (hc : i = c → ψ cy') : ∃ x, (cs.set c cy')[i]? = some x ∧ ψ x := by
  rw [get_set_of_get hget]
  split
  · rename_i hci; exact ⟨cy', rfl, hc hci.symm⟩
  · exact ⟨y, hy, h⟩

theorem forall_modify {α : Type} {l : List α} {k : Nat} {f : α → α} {φ : Nat → α → Prop}
    (h : ∀ i x, l[i]? = some x → k ≠ i → φ i x) (hk : ∀ x, l[k]? = some x → φ k (f x)) :
    ∀ i y, (l.modify k f)[i]? = some y → φ i y := by
  intro i y hy
  rw [List.getElem?_modify, Option.map_eq_map, Option.map_eq_some_iff] at hy
  obtain ⟨x, hx, rfl⟩ := hy
  by_cases hki : k = i
  · rw [if_pos hki]; exact hki ▸ hk x (hki ▸ hx)
  · rw [if_neg hki]; exact h i x hx hki

end IceProofs.GatherList

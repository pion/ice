import IceProofs.Sys2C01LiveFair
/-!
# Deciding `FairLD` in one pass over the schedule
-/
namespace IceProofs.C01Live
open IceModel.AgentCore IceModel.Sys2 IceProofs.Sys2Run

/-- `FairLD` with the split points met along ONE run of the schedule (`E`: the clock at its end).  `FairLD` itself runs
the schedule from the start for every split point; evaluating this form is linear in the schedule and walks through
the same states `Sys.run (… (Sys.run s e₁) …) eₙ` as `SufOK` and `ValidBy`. -/
def FairFrom (L E : Nat) : Sys → List SysEv → Prop
  | s, [] => ∀ i, i < s.inflight.length → s.now + L < E → DeliveredBy (s.now + L) s [] i
  | s, e :: es => (∀ i, i < s.inflight.length → s.now + L < E → DeliveredBy (s.now + L) s (e :: es) i) ∧
      FairFrom L E (Sys.run s e) es

instance FairFrom.dec (L E : Nat) : (s : Sys) → (es : List SysEv) → Decidable (FairFrom L E s es)
  | _, [] => by unfold FairFrom; exact inferInstance
  | s, e :: es => @instDecidableAnd _ _ (by infer_instance) (FairFrom.dec L E (Sys.run s e) es)

theorem fairFrom_iff (L E : Nat) (s : Sys) (es : List SysEv) :
    FairFrom L E s es ↔ ∀ n, n < es.length + 1 → ∀ i, i < (Sys.runs s (es.take n)).inflight.length →
      (Sys.runs s (es.take n)).now + L < E →
      DeliveredBy ((Sys.runs s (es.take n)).now + L) (Sys.runs s (es.take n)) (es.drop n) i := by
  induction es generalizing s with
  | nil =>
    unfold FairFrom
    exact ⟨fun h n hn => by cases n with | zero => exact h | succ n => exact absurd hn (by simp),
      fun h => h 0 Nat.zero_lt_one⟩
  | cons e es ih =>
    unfold FairFrom
    rw [ih]
    refine ⟨fun ⟨h0, h⟩ n hn => ?_, fun h => ⟨h 0 (Nat.succ_pos _), fun n hn => h (n + 1) (Nat.succ_lt_succ hn)⟩⟩
    cases n with
    | zero => exact h0
    | succ n => exact h n (Nat.lt_of_succ_lt_succ hn)

/-- the scenarios of `IceProps.C01` decide `FairLD` through `FairFrom` -/
instance (priority := high) (L : Nat) (s : Sys) (evs : List SysEv) : Decidable (FairLD L s evs) :=
  decidable_of_iff _ (fairFrom_iff L (Sys.runs s evs).now s evs)

end IceProofs.C01Live

import IceProofs.TcpMuxSimReadOp
/-!
# Every run of the TCP-mux model is accepted by the spec monitor of C15

`step_sim`: one step of the model, one line, one step of the monitor — no clause is raised and the
relation `Sim` is re-established.  `run_sim`: any number of steps.  `start_sim`: the `new` line.  (The `end` line and the whole session:
`TcpMuxSimEnd`.)
-/
namespace IceProofs.TcpMux
open IceModel.TcpMux IceSpec.C15 IceSpec.C15.View

theorem close_returns {s : State} (hi : Inv s) (h3 : Inv3 s) (hm : s.muxClosed = true)
    (hlate : s.closedAt + effTimeout s.cfg.t1 + effTimeout s.cfg.t2 ≤ s.now) : closeReturned s = true := by
  refine (closeReturned_iff s).2 ⟨hm, hi.lis hm, ?_, ?_⟩
  · -- a handler still waiting would have a deadline in the future, and deadlines end before `closedAt` + first-bind timeout
    intro k t hk d hph
    have a := hi.pend hk hph
    have b := ((h3.tcp k t hk).dl d hph).2 hm
    have := effTimeout_pos s.cfg.t2
    omega
  · -- an open packet connection after `Close` has its alive timer armed, for a time that has passed
    intro p pc hp
    cases hc : pc.closed with
    | true => rfl
    | false =>
      obtain ⟨d, hd, hb⟩ := (h3.pc p pc hp).post hm hc
      have := (hi.pc p pc hp).2.2.2.2.2 d hd
      omega

theorem facts_of_good {s : State} (g : Good s) : Facts s :=
  ⟨g.inv, g.inv2, g.inv3, fun h => ⟨(down_of_closeReturned g.inv h).1.tcps, (down_of_closeReturned g.inv h).2⟩,
    close_returns g.inv g.inv3⟩

theorem observeT_obs (m : Mon) (op : Op) (o : Obs) (ha : m.active = true) :
    observeT m (mopOf op) (.obs o) = fin o (book m (mopOf op) o).1 (book m (mopOf op) o).2.1 (book m (mopOf op) o).2.2 := by
  cases op <;> simp [observeT, mopOf, ha]

theorem observeT_skip (m : Mon) (op : Op) : observeT m (mopOf op) .skip = (m, none) := by
  cases op <;> simp [observeT, mopOf]

theorem book_ok {s : State} {m : Mon} (hs : Sim s m) (g : Good s) (op : Op) (hnb : (step s op).2 ≠ .bad) :
    BookOK s (step s op).1 m (book m (mopOf op) (obsOf s.tcps (step s op).1 (oresOf op (step s op).2))) := by
  cases op with
  | accept peer lip => exact op_accept hs g.inv g.inv2 peer lip
  | frame k f => exact op_frame hs g.inv g.inv2 g.inv3 k f hnb
  | partialFrame k => exact op_partial hs g.inv g.inv2 k hnb
  | clientClose k reset => exact op_cclose hs g.inv g.inv2 g.inv3 k reset hnb
  | advance dt => exact op_advance hs g.inv g.inv2 dt
  | getConn key => exact op_getconn hs g.inv g.inv2 key
  | removeByUfrag u => exact op_remove hs g.inv g.inv2 u
  | closeHandle h => exact op_closeh hs g.inv g.inv2 h hnb
  | closePacketConn h => exact op_closepc hs g.inv g.inv2 h hnb
  | write h dst pid len => exact op_write hs g.inv g.inv2 h dst pid len hnb
  | read h => exact op_read hs g.inv g.inv2 g.drained h hnb
  | closeMux => exact op_closemux hs g.inv g.inv2

theorem step_sim {s : State} {m : Mon} (hs : Sim s m) (g : Good s) (op : Op) :
    (observeT m (mopOf op) (lineOf s op)).2 = none ∧ Sim (step s op).1 (observeT m (mopOf op) (lineOf s op)).1 := by
  by_cases hb : (step s op).2 = .bad
  · have hl : lineOf s op = .skip := by unfold lineOf; rw [hb]
    rw [hl, observeT_skip m op, step_bad hb]
    exact ⟨rfl, hs⟩
  · have hl : lineOf s op = .obs (obsOf s.tcps (step s op).1 (oresOf op (step s op).2)) := by
      unfold lineOf
      cases hr : (step s op).2 <;> first | rfl | exact absurd hr hb
    rw [hl, observeT_obs m op _ hs.u.active]
    have bk := book_ok hs g op hb
    rw [bk.verdict]
    have g' := good_step g op
    apply fin_ok _ _ _ _ _ (facts_of_good g') bk.u bk.n bk.prov bk.old
    · intro hr
      rw [bk.ret, hs.ret] at hr
      exact closeReturned_of_down (down_step g.inv (down_of_closeReturned g.inv hr).1 op)
    · exact bk.outs

/-- the monitor's state after a trace -/
def monAfter (m : Mon) : List (MOp × Line) → Mon
  | [] => m
  | (op, l) :: tr => monAfter (observeT m op l).1 tr

theorem run_sim {s : State} {m : Mon} (hs : Sim s m) (g : Good s) (ops : List Op) :
    (∀ v, v ∈ verdicts m (linesFrom s ops) → v = none) ∧ Sim (run s ops) (monAfter m (linesFrom s ops)) := by
  induction ops generalizing s m with
  | nil => exact ⟨(by intro v hv; cases hv), hs⟩
  | cons op ops ih =>
    obtain ⟨hv, hs'⟩ := step_sim hs g op
    obtain ⟨hvs, hfin⟩ := ih hs' (good_step g op)
    refine ⟨?_, hfin⟩
    intro v hmem
    simp only [linesFrom, verdicts] at hmem
    rcases List.mem_cons.1 hmem with rfl | hmem
    · exact hv
    · exact hvs v hmem

/-- the monitor after the `new` line -/
def startMon (cfg : Config) : Mon := { active := true, t1 := timeoutOf cfg.t1, t2 := timeoutOf cfg.t2 }

theorem start_sim (cfg : Config) :
    (observeT {} (.start cfg.t1 cfg.t2) (.obs (obsOf [] (init cfg) .ok))).2 = none ∧
    Sim (init cfg) (observeT {} (.start cfg.t1 cfg.t2) (.obs (obsOf [] (init cfg) .ok))).1 := by
  have hu : SimU (init cfg) (startMon cfg) := by
    constructor
    · rfl
    · rfl
    · rfl
    · rfl
    · rfl
    · intro h; cases h
    · rfl
    · rfl
    · rfl
    · intro k t c h; simp [init] at h
    · intro k c h; simp [startMon] at h
    · intro k k' t t' p h; simp [init] at h
    · intro p pc h1 h2 x y h; simp [init] at h
    · intro k t p pc h; simp [init] at h
    · intro p pc pkt h; simp [init] at h
    · intro k t bp h; simp [init] at h
    · intro k t a b it h; simp [init] at h
    · intro k k' c c' h; simp [startMon] at h
  have hsim : Sim (init cfg) (startMon cfg) :=
    ⟨hu, by intro k t c h; simp [init] at h, by intro k t c h; simp [init] at h, rfl⟩
  show (always (startMon cfg) (startMon cfg) (obsOf [] (init cfg) .ok) false) = none ∧ Sim (init cfg) (startMon cfg)
  refine ⟨?_, hsim⟩
  have := always_ok (init cfg) (startMon cfg) (startMon cfg).pcs [] .ok false (facts_of_good (good_init cfg)) hu
    (by intro k c p pc d h; simp [startMon] at h) (by intro k c h; simp [startMon] at h) (by intro h; cases h)
    (by intro _; rfl)
  exact this

end IceProofs.TcpMux

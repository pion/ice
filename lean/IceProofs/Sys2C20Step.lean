import IceProofs.Sys2C20Inv
/-!
# C20 on `Sys2` — one agent event preserves the invariant of the exchange

`QInv` (`Sys2C20Inv.lean`) over a move of the hub (`qinv_frame`, `QInv.hub`) and over an event of A (`qinv_stepA`, from `CtlStep` through
`ctl_keeps`).  B's clauses are taken out as `BInv`, a predicate on B alone, kept by every `CldStep` (`BInv.step`: `BInv.accept`
for a step that accepts a value; `BInv.answer`, `BInv.plain`, `BInv.quiet` are instances of `BInv.frame`, B's part across a step
that accepts nothing, at most one pair excepted).  `qinv_stepB` (`Sys2C20Run.lean`) puts `BInv.step` back into `QInv`.
-/
namespace IceProofs.C20S
open IceModel.AgentCore IceModel.Sys2 IceProofs.Sys2Run IceProofs.Agent IceProofs.Sys2C05

theorem qinv_frame {nat : List (Nat × Nat)} {h : Hist} {s s' : Sys} (q : QInv nat h s) (ha : s'.a = s.a) (hb : s'.b = s.b)
    (hn : s'.nat = s.nat) (hf : ∀ d ∈ s'.inflight, d ∈ s.inflight) : QInv nat h s' := by
  refine ⟨hn.trans q.topo, ha ▸ q.invA, hb ▸ q.invB, ?_, fun d hd => q.fl d (hf d hd), ?_, ?_, ?_, ?_, ?_, ?_⟩
  · unfold Session; rw [ha, hb]; exact q.sess
  · rw [ha]; exact q.pendA
  · rw [ha]; exact q.ansA
  · rw [ha]; exact q.selA
  · rw [hb]; exact q.lastB
  · rw [hb]; exact q.accB
  · rw [hb]; exact q.defB

theorem QInv.hub {nat : List (Nat × Nat)} {h : Hist} {s s' : Sys} (q : QInv nat h s) (hub : Hub s s') : QInv nat h s' :=
  qinv_frame q hub.a hub.b hub.topo.1 hub.fl

theorem hstepA_issued (h : Hist) (a : Agent) (ev : Ev) :
    (hstep h false a ev).issued = h.issued ++ issuesOf a ev := by
  simp only [hstep, Bool.false_eq_true, if_false]
theorem hstepA_answered (h : Hist) (a : Agent) (ev : Ev) :
    (hstep h false a ev).answered = h.answered ++ (answeredNom a ev).toList := by
  simp only [hstep, Bool.false_eq_true, if_false]
theorem hstepA_accepted (h : Hist) (a : Agent) (ev : Ev) : (hstep h false a ev).accepted = h.accepted := by
  simp only [hstep, Bool.false_eq_true, if_false]
theorem hstepB_issued (h : Hist) (a : Agent) (ev : Ev) : (hstep h true a ev).issued = h.issued := by
  simp only [hstep, if_true]
theorem hstepB_answered (h : Hist) (a : Agent) (ev : Ev) : (hstep h true a ev).answered = h.answered := by
  simp only [hstep, if_true]
theorem hstepB_accepted (h : Hist) (a : Agent) (ev : Ev) :
    (hstep h true a ev).accepted = (acceptAt a ev).orElse fun _ => h.accepted := by
  simp only [hstep, if_true]

theorem ctl_keeps {nat : List (Nat × Nat)} {h : Hist} {s : Sys} (q : QInv nat h s) (ev : Ev) {a' : Agent}
    (st : CtlStep s.a ev a') :
    (∀ x ∈ (hstep h false s.a ev).answered,
      x ∈ (hstep h false s.a ev).issued ∧ ∃ w, a'.answeredNomination = some w ∧ x.1 ≤ w) ∧
    (∀ w, a'.answeredNomination = some w →
      ∃ x ∈ (hstep h false s.a ev).answered, x.1 = w ∧ selAddrs a' = some (x.2.1, x.2.2)) := by
  have hsub : ∀ x ∈ h.issued, x ∈ (hstep h false s.a ev).issued := fun x hx => by
    rw [hstepA_issued]; exact List.mem_append_left _ hx
  rw [hstepA_answered]
  cases st with
  | quiet hao hq hsel hans =>
    have hnil : answeredNom s.a ev = none := by unfold answeredNom; rw [hao]
    rw [hnil, Option.toList_none, List.append_nil, hans]
    refine ⟨fun x hx => ⟨hsub _ (q.ansA x hx).1, (q.ansA x hx).2⟩, fun w hw => ?_⟩
    obtain ⟨x, hx, hxw, hxs⟩ := q.selA w hw
    exact ⟨x, hx, hxw, selAddrs_keep hq hsel _ hxs⟩
  | answer pd id hao hpd haddr hq hsel hans =>
    have hnom : answeredNom s.a ev = if pd.useCand then pd.nom.map fun v => (v, pd.src, pd.dest) else none := by
      unfold answeredNom; rw [hao]
    rw [hans]
    rcases ctl_answer_cases s.a pd id with ⟨v, hu, hn, hsup, e1, e2⟩ | ⟨e2, e1, hlose⟩
    · -- the response wins: `v` exceeds everything answered so far, the pair of `pd` is selected
      have hnew : answeredNom s.a ev = some (v, pd.src, pd.dest) := by rw [hnom, hu, hn]; rfl
      rw [hnew, e2]
      refine ⟨fun x hx => ?_, fun w hw => ?_⟩
      · rcases List.mem_append.mp hx with hx | hx
        · obtain ⟨h1, w, hw, hle⟩ := q.ansA x hx
          exact ⟨hsub _ h1, v, rfl, Nat.le_of_lt (Nat.lt_of_le_of_lt hle (not_superseded hsup w hw))⟩
        · simp only [Option.toList_some, List.mem_singleton] at hx
          rw [hx]
          exact ⟨hsub _ (q.pendA pd hpd v hn), v, rfl, Nat.le_refl _⟩
      · have hvw : v = w := Option.some.inj hw
        subst hvw
        refine ⟨(v, pd.src, pd.dest), List.mem_append_right _ (by simp), rfl, ?_⟩
        rw [selAddrs_of_selected (hsel.trans e1)]
        exact hq.addrs _ _ haddr
    · -- nothing the invariant reads has changed
      rw [e2]
      refine ⟨fun x hx => ?_, fun w hw => ?_⟩
      · rcases List.mem_append.mp hx with hx | hx
        · exact ⟨hsub _ (q.ansA x hx).1, (q.ansA x hx).2⟩
        · rw [hnom] at hx
          by_cases hu : pd.useCand = true
          · rw [if_pos hu] at hx
            cases hn : pd.nom with
            | none => rw [hn] at hx; cases hx
            | some v =>
              rw [hn] at hx
              simp only [Option.map_some, Option.toList_some, List.mem_singleton] at hx
              rw [hx]
              obtain ⟨w', hw', hle⟩ := superseded (hlose v hu hn)
              exact ⟨hsub _ (q.pendA pd hpd v hn), w', hw', hle⟩
          · rw [if_neg hu] at hx; cases hx
      · obtain ⟨x, hx, hxw, hxs⟩ := q.selA w hw
        refine ⟨x, List.mem_append_left _ hx, hxw, ?_⟩
        rcases e1 with e1 | e1
        · exact selAddrs_keep hq (hsel.trans e1) _ hxs
        · have := selAddrs_some_selected hxs
          rw [e1] at this; cases this

theorem qinv_stepA {nat : List (Nat × Nat)} {h : Hist} {s : Sys} (q : QInv nat h s) (ev : Ev) (hk : keeps ev = true)
    (hpost : PostA (step s.a ev).1) :
    QInv nat (hstep h false s.a ev) (s.agentEv false ev).1 := by
  have hsub : ∀ x ∈ h.issued, x ∈ (hstep h false s.a ev).issued := by
    intro x hx; rw [hstepA_issued]; exact List.mem_append_left _ hx
  have hiss : ∀ x, x ∈ issuesOf s.a ev → x ∈ (hstep h false s.a ev).issued := by
    intro x hx; rw [hstepA_issued]; exact List.mem_append_right _ hx
  have st := step_ctl s.a ev q.invA hk (session_postA q.sess) hpost
  obtain ⟨hansA, hselA⟩ := ctl_keeps q ev st
  obtain ⟨ex, hq⟩ : ∃ ex, NomQ ex (issueOf s.a ev) s.a (step s.a ev).1 := by
    cases st with
    | answer _ _ _ _ _ hq _ _ => exact ⟨_, hq⟩
    | quiet _ hq _ _ => exact ⟨_, hq⟩
  refine ⟨(agentEv_nat s false ev).trans q.topo, ?_, q.invB, ?_, ?_, ?_, ?_, ?_, q.lastB, ?_, q.defB⟩
  · rw [agentEv_a_false]; exact q.invA.step ev
  · exact session_iff.2 ⟨by rw [agentEv_a_false]; exact hpost, by rw [agentEv_b_false]; exact session_postB q.sess⟩
  · -- datagrams in flight
    intro d hd m hm v hv
    rcases agentEv_stun hd hm with hd | hmem
    · exact (q.fl d hd).mono hsub m hm v hv
    · obtain ⟨h1, _, _, h4⟩ := step_out_nom s.a ev d.src d.dst m v hmem hv
      exact ⟨h1, hiss _ h4⟩
  · -- outstanding transactions of A
    intro pd hpd v hv
    rw [agentEv_a_false] at hpd
    rcases hq.pend pd hpd with h1 | h1 | ⟨v', h1, h2 | h2⟩
    · exact hsub _ (q.pendA pd h1 v hv)
    · rw [h1] at hv; cases hv
    · rw [h1] at hv
      cases hv
      exact hiss _ (issueOf_mem_issuesOf h2)
    · rw [h1] at hv
      cases hv
      exact hiss _ h2
  · rw [agentEv_a_false]; exact hansA
  · rw [agentEv_a_false]; exact hselA
  · -- B's part only reads the log, which grew
    intro v lb rb hacc
    rw [hstepA_accepted] at hacc
    obtain ⟨⟨la, ra, h1, h2, h3⟩, hrest⟩ := q.accB v lb rb hacc
    exact ⟨⟨la, ra, hsub _ h1, h2, h3⟩, hrest⟩

theorem NomQ.keep {ex : Option Nat} {iss : Option (Nat × Nat × Nat)} {b b' : Agent} (hq : NomQ ex iss b b')
    (hi : AgentC06.Inv b) {q0 : Pair} (hq0 : q0 ∈ b.checklist) (hne : some q0.id ≠ ex) :
    ∃ q0' ∈ b'.checklist, q0'.id = q0.id ∧ nk q0' = nk q0 := by
  obtain ⟨q0', hq0', hid⟩ := hq.fwd q0 hq0
  refine ⟨q0', hq0', hid, ?_⟩
  rcases hq.pairs q0' hq0' (by rw [hid]; exact hne) with ⟨p1, hp1, hp1id, hnk⟩ | ⟨hfresh, _⟩
  · have : p1 = q0 := ids_unique hi hp1 hq0 (hp1id.trans hid)
    rw [← this]; exact hnk
  · have := (AgentC06.Inv.read_ids hi).2 q0 hq0
    omega

theorem nk_parts {p q : Pair} (h : nk p = nk q) :
    (p.state == .succeeded) = (q.state == .succeeded) ∧ p.nomOnSuccess = q.nomOnSuccess ∧ p.deferredNom = q.deferredNom := by
  unfold nk at h
  simp only [Prod.mk.injEq] at h
  exact h

theorem MarkOK.of_marks {last last' : Option Nat} {p p' : Pair} (h : MarkOK last p)
    (h2 : p'.deferredNom = p.deferredNom ∨ p'.deferredNom = none)
    (hl : ∀ l, last = some l → ∃ l', last' = some l' ∧ l ≤ l') : MarkOK last' p' := by
  intro v' hv'
  rcases h2 with h2 | h2
  · obtain ⟨l, hl1, hl2⟩ := h v' (h2 ▸ hv')
    obtain ⟨l', hl1', hl2'⟩ := hl l hl1
    exact ⟨l', hl1', by omega⟩
  · rw [h2] at hv'; cases hv'

theorem MarkOK.fresh {last : Option Nat} {p : Pair} (h2 : p.deferredNom = none) : MarkOK last p :=
  fun v' hv' => (by rw [h2] at hv'; cases hv')

theorem NomQ.marks {ex : Option Nat} {iss : Option (Nat × Nat × Nat)} {b b' : Agent} (hq : NomQ ex iss b b')
    {last last' : Option Nat} (hm : ∀ p ∈ b.checklist, MarkOK last p)
    (hl : ∀ l, last = some l → ∃ l', last' = some l' ∧ l ≤ l')
    {p' : Pair} (hp' : p' ∈ b'.checklist) (hne : some p'.id ≠ ex) : MarkOK last' p' := by
  rcases hq.pairs p' hp' hne with ⟨p1, hp1, _, hnk⟩ | ⟨_, hnk⟩
  · exact (hm p1 hp1).of_marks (Or.inl (nk_parts hnk).2.2) hl
  · exact MarkOK.fresh (nk_def hnk)

theorem NomQ.carrier {ex : Option Nat} {iss : Option (Nat × Nat × Nat)} {b b' : Agent} (hq : NomQ ex iss b b')
    {p' : Pair} (hp' : p' ∈ b'.checklist) (hne : some p'.id ≠ ex) {v : Nat} (hv : p'.deferredNom = some v) :
    ∃ p ∈ b.checklist, p.id = p'.id ∧ p.deferredNom = some v := by
  rcases hq.pairs p' hp' hne with ⟨p1, hp1, hid, hnk⟩ | ⟨_, hnk⟩
  · exact ⟨p1, hp1, hid, (nk_parts hnk).2.2 ▸ hv⟩
  · rw [nk_def hnk] at hv; cases hv

theorem NomQ.deferred {ex : Option Nat} {iss : Option (Nat × Nat × Nat)} {b b' : Agent} (hq : NomQ ex iss b b')
    {p' : Pair} (hp' : p' ∈ b'.checklist) (hne : some p'.id ≠ ex) :
    p'.deferredNom = none ∨ ∃ p ∈ b.checklist, p.id = p'.id ∧ p'.deferredNom = p.deferredNom := by
  cases hv : p'.deferredNom with
  | none => exact Or.inl rfl
  | some v =>
    obtain ⟨p, hp, hid, hpv⟩ := hq.carrier hp' hne hv
    exact Or.inr ⟨p, hp, hid, hpv.symm⟩

theorem issueOf_controlling {a : Agent} {ev : Ev} {x : Nat × Nat × Nat} (h : issueOf a ev = some x) :
    a.controlling = true := by
  unfold issueOf at h
  split at h
  · split at h
    · rename_i hc
      simp only [Bool.and_eq_true] at hc
      exact hc.1
    · cases h
  · cases h

theorem no_reset {a : Agent} {ev : Ev} (hst : a.started = true) (hk : keeps ev = true)
    (hc : (step a ev).1.controlling = a.controlling) : resetsSelector a ev = false := by
  rw [← core_controlling (step a ev).1] at hc
  cases core_step a ev with
  | same hr _ _ => exact hr
  | start _ _ _ _ he h _ => subst he; simp [startTakesEffect, hst] at h
  | restart _ _ _ he _ _ => subst he; cases hk
  | creds _ _ he _ => subst he; rfl
  | close he _ => subst he; rfl
  | switch _ _ hc' => rw [hc'] at hc; cases hx : a.controlling <;> simp [hx] at hc
  | deliver _ he hs _ _ => obtain ⟨_, _, _, rfl⟩ := he; exact hs

theorem PostB.no_reset {b : Agent} {ev : Ev} (h : PostB b) (hk : keeps ev = true) (h' : PostB (step b ev).1) :
    resetsSelector b ev = false :=
  C20S.no_reset h.1 hk (h'.controlled.trans h.controlled.symm)

theorem last_of_accept {a : Agent} {ev : Ev} (hr : resetsSelector a ev = false) {v la src : Nat}
    (h : acceptAt a ev = some (v, la, src)) :
    (step a ev).1.lastNomination = some v ∧ (∀ l, a.lastNomination = some l → l < v) ∧
    ∃ now m, ev = .inbound now la src m ∧ m.nom = some v := by
  cases ev with
  | inbound now la' src' m =>
    simp only [acceptAt, Option.map_eq_some_iff] at h
    obtain ⟨v', hacc, heq⟩ := h
    simp only [Prod.mk.injEq] at heq
    obtain ⟨rfl, rfl, rfl⟩ := heq
    obtain ⟨ho, hdec⟩ := accepted_some hacc
    have hl := step_lastNomination_offer a (.inbound now la' src' m) hr
    rw [ho] at hl
    simp only [] at hl
    rw [accept_some_fst, hdec] at hl
    exact ⟨hl, (accept_some_iff _ a.lastNomination).1 hdec, now, m, rfl, offer_inbound ho⟩
  | _ => cases h

theorem last_of_no_accept {a : Agent} {ev : Ev} (hr : resetsSelector a ev = false) (h : acceptAt a ev = none) :
    (step a ev).1.lastNomination = a.lastNomination := by
  have hacc : accepted a ev = none := by
    cases ev with
    | inbound now la src m =>
      simp only [acceptAt, Option.map_eq_none_iff] at h
      exact h
    | _ => 
      unfold accepted offer cldDeliversEv inboundOn
      rfl
  have := step_accept a ev hr
  rw [hacc] at this
  simpa [optMax] using this

/-- B's part of the invariant, as a statement about one agent and the accepted entry of the history -/
structure BInv (nat : List (Nat × Nat)) (issued : List Nomination) (acc : Option Nomination) (b : Agent) : Prop where
  lastB : b.lastNomination = acc.map (·.1)
  accB : ∀ v lb rb, acc = some (v, lb, rb) →
    (∃ la ra, (v, la, ra) ∈ issued ∧ lb = unmappedL nat ra ∧ rb = mappedL nat la) ∧
    ∃ id, pairAddrs b id = some (lb, rb) ∧
      (b.selected = some id ∨ ∃ p ∈ b.checklist, p.id = id ∧ nk p = (false, true, some v)) ∧
      ∀ p ∈ b.checklist, p.deferredNom = some v → p.id = id
  defB : ∀ p ∈ b.checklist, MarkOK b.lastNomination p

theorem QInv.binv {nat : List (Nat × Nat)} {h : Hist} {s : Sys} (q : QInv nat h s) :
    BInv nat h.issued h.accepted s.b := ⟨q.lastB, q.accB, q.defB⟩

theorem BInv.accept {nat : List (Nat × Nat)} {issued : List Nomination} {acc : Option Nomination} {b b' : Agent}
    (hb : BInv nat issued acc b) {v la src id : Nat}
    (hlast : b'.lastNomination = some v) (hgt : ∀ l, b.lastNomination = some l → l < v)
    (hiss : ∃ la' ra', (v, la', ra') ∈ issued ∧ la = unmappedL nat ra' ∧ src = mappedL nat la')
    (hq : NomQ (some id) none b b') (haddr : pairAddrs b' id = some (la, src)) (hex : ∃ p' ∈ b'.checklist, p'.id = id)
    (hdisj : Accepted b b' id v) :
    BInv nat issued (some (v, la, src)) b' := by
  obtain ⟨p0', hp0', hp0id⟩ := hex
  have hmono : ∀ l, b.lastNomination = some l → ∃ l', b'.lastNomination = some l' ∧ l ≤ l' :=
    fun l hl => ⟨v, hlast, Nat.le_of_lt (hgt l hl)⟩
  refine ⟨by rw [hlast]; rfl, ?_, ?_⟩
  · intro v1 lb rb heq
    simp only [Option.some.injEq, Prod.mk.injEq] at heq
    obtain ⟨rfl, rfl, rfl⟩ := heq
    refine ⟨hiss, id, haddr, ?_, ?_⟩
    · rcases hdisj with ⟨hsel, _⟩ | ⟨_, hnk⟩
      · exact Or.inl hsel
      · exact Or.inr ⟨p0', hp0', hp0id, hnk p0' hp0' hp0id⟩
    · intro p' hp' hv
      apply Classical.byContradiction
      intro hne
      obtain ⟨p, hp, _, hpv⟩ := hq.carrier hp' (by simpa using hne) hv
      obtain ⟨l, hl1, hl2⟩ := hb.defB p hp v hpv
      have := hgt l hl1
      omega
  · intro p' hp'
    by_cases hid : p'.id = id
    · rcases hdisj with ⟨_, hmarks⟩ | ⟨_, hnk⟩
      · rcases hmarks p' hp' hid with ⟨p, hp, _, _, h2⟩ | ⟨_, _, h2⟩
        · exact (hb.defB p hp).of_marks (Or.inl h2) hmono
        · exact MarkOK.fresh h2
      · intro v' hv'
        rw [nk_def (hnk p' hp' hid)] at hv'
        simp only [Option.some.injEq] at hv'
        exact ⟨v, hlast, by omega⟩
    · exact hq.marks hb.defB hmono hp' (by simpa using hid)

/-- **B's part across a step that accepts nothing**, with at most one pair `ex` excepted from the frame.  What is asked of
the excepted pair: its deferred value is an old one of that id, or gone (`hdn`); a waiting carrier of the accepted value,
if it is the excepted pair, is selected now or still waits (`hcar`).  Of the selection: once a value is accepted and its
carrier selected, the carrier stays selected (`hsel`). -/
theorem BInv.frame {nat : List (Nat × Nat)} {issued : List Nomination} {acc : Option Nomination} {b b' : Agent}
    (hb : BInv nat issued acc b) (hi : AgentC06.Inv b) {ex : Option Nat}
    (hlast : b'.lastNomination = b.lastNomination) (hq : NomQ ex none b b')
    (hdn : ∀ id, ex = some id → ∀ p' ∈ b'.checklist, p'.id = id →
      (∃ p ∈ b.checklist, p.id = id ∧ p'.deferredNom = p.deferredNom) ∨ p'.deferredNom = none)
    (hsel : ∀ v id0, b.lastNomination = some v → b.selected = some id0 →
      (∀ p ∈ b.checklist, p.deferredNom = some v → p.id = id0) → b'.selected = some id0)
    (hcar : ∀ v id, ex = some id → b.lastNomination = some v → ∀ q0 ∈ b.checklist, q0.id = id →
      nk q0 = (false, true, some v) →
      b'.selected = some id ∨ ∃ q0' ∈ b'.checklist, q0'.id = id ∧ nk q0' = (false, true, some v)) :
    BInv nat issued acc b' := by
  have hmono : ∀ l, b.lastNomination = some l → ∃ l', b'.lastNomination = some l' ∧ l ≤ l' :=
    fun l hl => ⟨l, hlast ▸ hl, Nat.le_refl _⟩
  refine ⟨by rw [hlast]; exact hb.lastB, ?_, ?_⟩
  · intro v lb rb hacc
    obtain ⟨hiss, id0, haddr0, hJ, huniq⟩ := hb.accB v lb rb hacc
    have hlv : b.lastNomination = some v := by rw [hb.lastB, hacc]; rfl
    refine ⟨hiss, id0, hq.addrs _ _ haddr0, ?_, ?_⟩
    · rcases hJ with hs | ⟨q0, hq0, hq0id, hq0nk⟩
      · exact Or.inl (hsel v id0 hlv hs huniq)
      · by_cases hid : some id0 = ex
        · rcases hcar v id0 hid.symm hlv q0 hq0 hq0id hq0nk with h | h
          · exact Or.inl h
          · exact Or.inr h
        · obtain ⟨q0', hq0', hid', hnk'⟩ := hq.keep hi hq0 (by rw [hq0id]; exact hid)
          exact Or.inr ⟨q0', hq0', hid'.trans hq0id, hnk'.trans hq0nk⟩
    · intro p' hp' hv
      by_cases hid : some p'.id = ex
      · rcases hdn p'.id hid.symm p' hp' rfl with ⟨p, hp, hpid, h⟩ | h
        · rw [h] at hv
          rw [← hpid]
          exact huniq p hp hv
        · rw [h] at hv; cases hv
      · obtain ⟨p1, hp1, hp1id, hp1v⟩ := hq.carrier hp' hid hv
        rw [← hp1id]
        exact huniq p1 hp1 hp1v
  · intro p' hp'
    by_cases hid : some p'.id = ex
    · rcases hdn p'.id hid.symm p' hp' rfl with ⟨p, hp, _, h⟩ | h
      · exact (hb.defB p hp).of_marks (Or.inl h) hmono
      · exact MarkOK.fresh h
    · exact hq.marks hb.defB hmono hp' hid

theorem BInv.answer {nat : List (Nat × Nat)} {issued : List Nomination} {acc : Option Nomination} {b b' : Agent}
    (hb : BInv nat issued acc b) (hi : AgentC06.Inv b) {id : Nat} {p : Pair}
    (hlast : b'.lastNomination = b.lastNomination) (hp : p ∈ b.checklist) (hpid : p.id = id)
    (hq : NomQ (some id) none b b') (ha : Answered b b' id p) :
    BInv nat issued acc b' := by
  have hselv := ha.selValued
  refine hb.frame hi hlast hq ?_ ?_ ?_
  · -- the deferred value of the answered pair afterwards: gone, or what it was
    rintro _ ⟨⟩ p' hp' hid
    exact (ha.deferred hp' hid).symm.imp_left fun h => ⟨p, hp, hpid, h⟩
  · -- the selection moves only to a pair that carried the accepted value, which is the carrier
    intro v id0 hlv hs huniq
    rcases ha.selected (hb.defB p hp) with h | ⟨h, h2 | h2 | ⟨_, _, h2⟩⟩
    · exact h.trans hs
    · rw [hs] at h2; cases h2
    · rw [hlv] at h2; cases h2
    · rw [h, ← hpid, huniq p hp (h2.trans hlv)]
  · -- the answered pair is the waiting carrier: it is selected now
    rintro v _ ⟨⟩ hlv q0 hq0 hq0id hq0nk
    have hpq : q0 = p := ids_unique hi hq0 hp (hq0id.trans hpid.symm)
    subst hpq
    unfold nk at hq0nk
    simp only [Prod.mk.injEq] at hq0nk
    have hs := hselv v hq0nk.2.1 hq0nk.2.2
    rw [hlv] at hs
    exact Or.inl (by simpa using hs)

theorem BInv.plain {nat : List (Nat × Nat)} {issued : List Nomination} {acc : Option Nomination} {b b' : Agent}
    (hb : BInv nat issued acc b) (hi : AgentC06.Inv b) {id : Nat}
    (hlast : b'.lastNomination = b.lastNomination) (hq : NomQ (some id) none b b') (hpl : Plain b b' id) :
    BInv nat issued acc b' := by
  have hmk := hpl.marks
  refine hb.frame hi hlast hq ?_ ?_ ?_
  · rintro _ ⟨⟩ p' hp' hid
    exact (hpl.deferred hp' hid).symm
  · exact fun v id0 hlv hs _ => hpl.selected (by rw [hlv]; rfl) hs
  · rintro v _ ⟨⟩ _ q0 hq0 hq0id hq0nk
    obtain ⟨q0', hq0', hid'⟩ := hq.fwd q0 hq0
    refine Or.inr ⟨q0', hq0', hid'.trans hq0id, ?_⟩
    rcases hmk q0' hq0' (hid'.trans hq0id) with ⟨p, hp, hpid, h⟩ | ⟨hlt, _⟩
    · have hpq : p = q0 := ids_unique hi hp hq0 (hpid.trans hq0id.symm)
      subst hpq
      rcases h with h | h
      · exact h.trans hq0nk
      · rw [h, hq0nk]
    · have := (AgentC06.Inv.read_ids hi).2 q0 hq0
      omega

theorem BInv.quiet {nat : List (Nat × Nat)} {issued : List Nomination} {acc : Option Nomination} {b b' : Agent}
    (hb : BInv nat issued acc b) (hi : AgentC06.Inv b)
    (hlast : b'.lastNomination = b.lastNomination) (hq : NomQ none none b b') :
    BInv nat issued acc b' :=
  hb.frame hi hlast hq (fun _ h => by cases h)
    (fun _ _ _ hs _ => (hq.sel.resolve_right fun h => by cases h.2).trans hs) (fun _ _ h => by cases h)

theorem BInv.step {nat : List (Nat × Nat)} {issued : List Nomination} {acc : Option Nomination} {b : Agent}
    (hb : BInv nat issued acc b) (hi : AgentC06.Inv b) (ev : Ev) (hnr : resetsSelector b ev = false)
    (hiss : ∀ v la src, acceptAt b ev = some (v, la, src) →
      ∃ la' ra', (v, la', ra') ∈ issued ∧ la = unmappedL nat ra' ∧ src = mappedL nat la')
    (hs : CldStep b ev (step b ev).1) :
    BInv nat issued ((acceptAt b ev).orElse fun _ => acc) (step b ev).1 := by
  cases hs with
  | accept v la src id hat hr hq haddr hex hacc =>
    obtain ⟨hl, hgt, _⟩ := last_of_accept hnr hat
    rw [hat]
    exact hb.accept hl hgt (hiss v la src hat) hq haddr hex hacc
  | answer pd id p hat hao hp hid hq ha =>
    rw [hat]
    exact hb.answer hi (last_of_no_accept hnr hat) hp hid hq ha
  | plain id hat hao hpl hr hq hp =>
    rw [hat]
    exact hb.plain hi (last_of_no_accept hnr hat) hq hp
  | quiet hat hao hq =>
    rw [hat]
    exact hb.quiet hi (last_of_no_accept hnr hat) hq

/-! the four cases with the conclusions of `step_frame_cld` written out -/

theorem binv_accept {nat : List (Nat × Nat)} {issued : List Nomination} {acc : Option Nomination} {b : Agent}
    (hb : BInv nat issued acc b) (ev : Ev) {v la src : Nat}
    (hlast : (step b ev).1.lastNomination = some v) (hgt : ∀ l, b.lastNomination = some l → l < v)
    (hiss : ∃ la' ra', (v, la', ra') ∈ issued ∧ la = unmappedL nat ra' ∧ src = mappedL nat la')
    (hB : ∃ id, reqPair b ev = some id ∧ NomQ (some id) none b (step b ev).1 ∧
        pairAddrs (step b ev).1 id = some (la, src) ∧ (∃ p' ∈ (step b ev).1.checklist, p'.id = id) ∧
        (((step b ev).1.selected = some id ∧
            ∀ p' ∈ (step b ev).1.checklist, p'.id = id →
              (∃ p ∈ b.checklist, p.id = id ∧ p'.nomOnSuccess = p.nomOnSuccess ∧ p'.deferredNom = p.deferredNom) ∨
              (b.nextPairID < id ∧ p'.nomOnSuccess = false ∧ p'.deferredNom = none)) ∨
         ((step b ev).1.selected = b.selected ∧
            ∀ p' ∈ (step b ev).1.checklist, p'.id = id → nk p' = (false, true, some v)))) :
    BInv nat issued (some (v, la, src)) (step b ev).1 := by
  obtain ⟨id, _, hq, haddr, hex, hdisj⟩ := hB
  exact hb.accept hlast hgt hiss hq haddr hex hdisj

theorem binv_answer {nat : List (Nat × Nat)} {issued : List Nomination} {acc : Option Nomination} {b : Agent}
    (hb : BInv nat issued acc b) (hi : AgentC06.Inv b) (ev : Ev) {id : Nat}
    (hlast : (step b ev).1.lastNomination = b.lastNomination)
    (hA : ∃ p ∈ b.checklist, p.id = id ∧ NomQ (some id) none b (step b ev).1 ∧
        (∀ p' ∈ (step b ev).1.checklist, p'.id = id →
          p'.state = .succeeded ∧
          (p.nomOnSuccess = true → p'.nomOnSuccess = false ∧ p'.deferredNom = none) ∧
          (p.nomOnSuccess = false → p'.nomOnSuccess = false ∧ p'.deferredNom = p.deferredNom)) ∧
        (p.nomOnSuccess = false → (step b ev).1.selected = b.selected) ∧
        (∀ v, p.nomOnSuccess = true → p.deferredNom = some v →
          (step b ev).1.selected =
            match b.lastNomination with
            | some last => if v < last then b.selected else some id
            | none => b.selected) ∧
        (p.nomOnSuccess = true → p.deferredNom = none →
          (step b ev).1.selected = b.selected ∨
            ((step b ev).1.selected = some id ∧ (b.selected = none ∨ b.lastNomination = none)))) :
    BInv nat issued acc (step b ev).1 := by
  obtain ⟨p, hp, hpid, hq, h1, h2, h3, h4⟩ := hA
  exact hb.answer hi hlast hp hpid hq ⟨h1, h2, h3, h4⟩

theorem binv_plain {nat : List (Nat × Nat)} {issued : List Nomination} {acc : Option Nomination} {b : Agent}
    (hb : BInv nat issued acc b) (hi : AgentC06.Inv b) (ev : Ev) {id : Nat}
    (hlast : (step b ev).1.lastNomination = b.lastNomination)
    (hq : NomQ (some id) none b (step b ev).1)
    (hsel : (step b ev).1.selected = b.selected ∨
      ((step b ev).1.selected = some id ∧ (b.selected = none ∨ b.lastNomination = none)))
    (hmk : ∀ p' ∈ (step b ev).1.checklist, p'.id = id →
      (∃ p ∈ b.checklist, p.id = id ∧ (nk p' = nk p ∨ nk p' = ((nk p).1, true, (nk p).2.2))) ∨
      (b.nextPairID < id ∧ (nk p' = (false, false, none) ∨ nk p' = (false, true, none)))) :
    BInv nat issued acc (step b ev).1 :=
  hb.plain hi hlast hq ⟨hsel, hmk⟩

theorem binv_quiet {nat : List (Nat × Nat)} {issued : List Nomination} {acc : Option Nomination} {b : Agent}
    (hb : BInv nat issued acc b) (hi : AgentC06.Inv b) (ev : Ev)
    (hlast : (step b ev).1.lastNomination = b.lastNomination) (hq : NomQ none none b (step b ev).1) :
    BInv nat issued acc (step b ev).1 :=
  hb.quiet hi hlast hq

end IceProofs.C20S

import IceProofs.TcpMuxInv
/-!
# What an operation can never change (frame properties of the TCP-mux model)

`Ext s s'`: `s'` is a later state of `s` — connections keep their identity (index), peer address and
local IP; a phase only moves pending → attached → closed (with the same deadline / the same packet
connection while it stays); packet connections keep key, provisional flag and creation time, stay
closed once closed; the ghost logs (`sent`, `out`, `hist`, `readLog`) only grow at the end.
`micro_ext`: every elementary change is of this kind (for whole operations: `step_ext` in `TcpMuxGhost`).
-/
namespace IceProofs.TcpMux
open IceModel.TcpMux

def PhaseStep : Phase → Phase → Prop
  | .pending d, ph' => ph' = .pending d ∨ ph' = .closed ∨ ∃ p, ph' = .attached p
  | .attached p, ph' => ph' = .attached p ∨ ph' = .closed
  | .closed, ph' => ph' = .closed

theorem PhaseStep.refl (ph : Phase) : PhaseStep ph ph := by
  cases ph <;> simp [PhaseStep]

theorem PhaseStep.toClosed (ph : Phase) : PhaseStep ph .closed := by
  cases ph <;> simp [PhaseStep]

theorem PhaseStep.trans {a b c : Phase} (h1 : PhaseStep a b) (h2 : PhaseStep b c) : PhaseStep a c := by
  cases a with
  | pending d =>
    simp only [PhaseStep] at h1
    rcases h1 with rfl | rfl | ⟨p, rfl⟩
    · exact h2
    · simp only [PhaseStep] at h2; subst h2; simp [PhaseStep]
    · simp only [PhaseStep] at h2
      rcases h2 with rfl | rfl <;> simp [PhaseStep]
  | attached p =>
    simp only [PhaseStep] at h1
    rcases h1 with rfl | rfl
    · exact h2
    · simp only [PhaseStep] at h2; subst h2; simp [PhaseStep]
  | closed =>
    simp only [PhaseStep] at h1; subst h1; exact h2

structure TcpExt (t t' : Tcp) : Prop where
  peer : t'.peer = t.peer
  lip : t'.lip = t.lip
  phase : PhaseStep t.phase t'.phase
  pc : ∀ p, t.pc = some p → t'.pc = some p
  sent : t.sent <+: t'.sent
  out : t.out <+: t'.out

structure PcExt (pc pc' : PConn) : Prop where
  key : pc'.key = pc.key
  provisional : pc'.provisional = pc.provisional
  created : pc'.created = pc.created
  closed : pc.closed = true → pc'.closed = true
  claimed : pc.claimed = true → pc'.claimed = true
  hist : pc.hist <+: pc'.hist
  readLog : pc.readLog <+: pc'.readLog

theorem TcpExt.refl (t : Tcp) : TcpExt t t :=
  ⟨rfl, rfl, PhaseStep.refl _, fun _ h => h, List.prefix_refl _, List.prefix_refl _⟩

theorem PcExt.refl (pc : PConn) : PcExt pc pc :=
  ⟨rfl, rfl, rfl, fun h => h, fun h => h, List.prefix_refl _, List.prefix_refl _⟩

theorem tcpExt_same (t t' : Tcp) (h1 : t'.peer = t.peer) (h2 : t'.lip = t.lip) (h3 : t'.phase = t.phase)
    (h4 : t'.pc = t.pc) (h5 : t'.sent = t.sent) (h6 : t'.out = t.out) : TcpExt t t' :=
  ⟨h1, h2, by rw [h3]; exact PhaseStep.refl _, fun p h => by rw [h4]; exact h, by rw [h5]; exact List.prefix_refl _,
   by rw [h6]; exact List.prefix_refl _⟩

theorem TcpExt.trans {a b c : Tcp} (h1 : TcpExt a b) (h2 : TcpExt b c) : TcpExt a c :=
  ⟨h2.peer.trans h1.peer, h2.lip.trans h1.lip, h1.phase.trans h2.phase, fun p h => h2.pc p (h1.pc p h),
   h1.sent.trans h2.sent, h1.out.trans h2.out⟩

theorem PcExt.trans {a b c : PConn} (h1 : PcExt a b) (h2 : PcExt b c) : PcExt a c :=
  ⟨h2.key.trans h1.key, h2.provisional.trans h1.provisional, h2.created.trans h1.created,
   fun h => h2.closed (h1.closed h), fun h => h2.claimed (h1.claimed h), h1.hist.trans h2.hist, h1.readLog.trans h2.readLog⟩

structure Ext (s s' : State) : Prop where
  cfg : s'.cfg = s.cfg
  now : s.now ≤ s'.now
  tcps : ∀ (k : Nat) (t : Tcp), s.tcps[k]? = some t → ∃ t', s'.tcps[k]? = some t' ∧ TcpExt t t'
  pcs : ∀ (p : Nat) (pc : PConn), s.pcs[p]? = some pc → ∃ pc', s'.pcs[p]? = some pc' ∧ PcExt pc pc'
  handles : ∀ (h : Nat) (hd : Handle), s.handles[h]? = some hd →
    ∃ hd', s'.handles[h]? = some hd' ∧ hd'.pc = hd.pc ∧ (hd.closed = true → hd'.closed = true)
  mux : s.muxClosed = true → s'.muxClosed = true

theorem Ext.refl (s : State) : Ext s s :=
  ⟨rfl, Nat.le_refl _, fun _ t h => ⟨t, h, TcpExt.refl t⟩, fun _ pc h => ⟨pc, h, PcExt.refl pc⟩,
   fun _ hd h => ⟨hd, h, rfl, fun x => x⟩, fun h => h⟩

theorem Ext.trans {a b c : State} (h1 : Ext a b) (h2 : Ext b c) : Ext a c := by
  constructor
  · exact h2.cfg.trans h1.cfg
  · exact Nat.le_trans h1.now h2.now
  · intro k t h
    obtain ⟨t', h', e'⟩ := h1.tcps k t h
    obtain ⟨t'', h'', e''⟩ := h2.tcps k t' h'
    exact ⟨t'', h'', e'.trans e''⟩
  · intro p pc h
    obtain ⟨pc', h', e'⟩ := h1.pcs p pc h
    obtain ⟨pc'', h'', e''⟩ := h2.pcs p pc' h'
    exact ⟨pc'', h'', e'.trans e''⟩
  · intro h hd hh
    obtain ⟨hd', h', e1, e2⟩ := h1.handles h hd hh
    obtain ⟨hd'', h'', f1, f2⟩ := h2.handles h hd' h'
    exact ⟨hd'', h'', f1.trans e1, fun x => f2 (e2 x)⟩
  · exact fun h => h2.mux (h1.mux h)

theorem ext_pointwise {s s' : State} {g : Nat → Tcp → Tcp} {h : Nat → PConn → PConn} (pw : Pointwise s s' g h)
    (hcfg : s'.cfg = s.cfg) (hnow : s.now ≤ s'.now) (hmux : s.muxClosed = true → s'.muxClosed = true)
    (hh : s'.handles = s.handles)
    (hg : ∀ (j : Nat) (t : Tcp), s.tcps[j]? = some t → TcpExt t (g j t))
    (hhp : ∀ (q : Nat) (pc : PConn), s.pcs[q]? = some pc → PcExt pc (h q pc)) : Ext s s' := by
  constructor
  · exact hcfg
  · exact hnow
  · intro k t ht; exact ⟨g k t, pw.tfw ht, hg k t ht⟩
  · intro p pc hp; exact ⟨h p pc, pw.pfw hp, hhp p pc hp⟩
  · intro x hd hx; exact ⟨hd, by rw [hh]; exact hx, rfl, fun y => y⟩
  · exact hmux

theorem setTcp_ext (s : State) (k : Nat) (f : Tcp → Tcp)
    (hf : ∀ t, s.tcps[k]? = some t → TcpExt t (f t)) : Ext s (setTcp s k f) := by
  apply ext_pointwise (Pointwise.setTcp s k f) rfl (Nat.le_refl _) (fun h => h) rfl
  · intro j t ht
    by_cases e : k = j
    · subst e; simp only [if_true]; exact hf t ht
    · simp only [e, if_false]; exact TcpExt.refl t
  · intro q pc _; exact PcExt.refl pc

theorem setPc_ext (s : State) (p : Nat) (f : PConn → PConn)
    (hf : ∀ pc, s.pcs[p]? = some pc → PcExt pc (f pc)) : Ext s (setPc s p f) := by
  apply ext_pointwise (Pointwise.setPc s p f) rfl (Nat.le_refl _) (fun h => h) rfl
  · intro j t _; exact TcpExt.refl t
  · intro q pc hq
    by_cases e : p = q
    · subst e; simp only [if_true]; exact hf pc hq
    · simp only [e, if_false]; exact PcExt.refl pc

theorem closeEffect_ext (pc : PConn) (k : Nat) (t : Tcp) : TcpExt t (closeEffect pc k t) := by
  unfold closeEffect
  split
  · exact ⟨rfl, rfl, PhaseStep.toClosed _, fun _ h => h, List.prefix_refl _, List.prefix_refl _⟩
  · split
    · exact ⟨rfl, rfl, PhaseStep.refl _, fun _ h => h, List.prefix_refl _, List.prefix_refl _⟩
    · exact TcpExt.refl t

theorem closedPc_ext (pc : PConn) : PcExt pc (closedPc pc) :=
  ⟨rfl, rfl, rfl, fun _ => rfl, fun h => h, List.prefix_refl _, List.prefix_refl _⟩

theorem closePc1_ext (s : State) (p : Nat) : Ext s (closePc1 s p) := by
  refine closePc1_rule s p (Ext.refl s) ?_
  intro pc _ _
  apply ext_pointwise (Pointwise.closePc1 s p pc) rfl (Nat.le_refl _) (fun h => h) rfl
  · intro j t _; exact closeEffect_ext pc j t
  · intro q qc _
    by_cases e : p = q
    · simp only [e, if_true]; exact closedPc_ext qc
    · simp only [e, if_false]; exact PcExt.refl qc

theorem runReader_ext (s : State) (k : Nat) : Ext s (runReader s k) := by
  refine runReader_rule s k (Ext.refl s) ?_
  intro t p pc d ht hph hrd hp hd
  have dok : DrainOk k p t.peer pc d := hd ▸ drain_ok ..
  apply ext_pointwise (Pointwise.drain s k p d) rfl (Nat.le_refl _) (fun h => h) rfl
  · intro j tj htj
    by_cases e : k = j
    · subst e
      rw [ht] at htj; cases htj
      simp only [if_true]
      refine ⟨rfl, rfl, ?_, fun _ h => h, List.prefix_refl _, List.prefix_refl _⟩
      rw [hph]
      rcases dok.shape with ⟨h, _⟩ | ⟨h, _⟩ <;> simp [PhaseStep, h]
    · simp only [e, if_false]; exact TcpExt.refl tj
  · intro q qc hq
    by_cases e : p = q
    · subst e
      rw [hp] at hq; cases hq
      simp only [if_true]
      exact ⟨dok.key, dok.provisional, dok.created, fun h => by rw [dok.closed]; exact h,
        fun h => by rw [dok.claimed]; exact h, dok.hist, by rw [dok.readLog]; exact List.prefix_refl _⟩
    · simp only [e, if_false]; exact PcExt.refl qc

/-- pending connections have never been attached -/
def PendingFresh (s : State) : Prop :=
  ∀ (k : Nat) (t : Tcp) (d : Nat), s.tcps[k]? = some t → t.phase = .pending d → t.pc = none

theorem micro_ext {s s' : State} (m : Micro s s') (hf : PendingFresh s) : Ext s s' := by
  have newTcp : ∀ t : Tcp, Ext s { s with tcps := s.tcps ++ [t] } := fun t =>
    ⟨rfl, Nat.le_refl _, fun _ t h => ⟨t, getElem?_append_old _ _ _ _ h, TcpExt.refl t⟩,
      fun q pc h => ⟨pc, h, PcExt.refl pc⟩, fun _ hd h => ⟨hd, h, rfl, fun x => x⟩, fun h => h⟩
  have newPc : ∀ pc : PConn, Ext s { s with pcs := s.pcs ++ [pc] } := fun pc =>
    ⟨rfl, Nat.le_refl _, fun _ t h => ⟨t, h, TcpExt.refl t⟩,
      fun q pc h => ⟨pc, getElem?_append_old _ _ _ _ h, PcExt.refl pc⟩, fun _ hd h => ⟨hd, h, rfl, fun x => x⟩, fun h => h⟩
  have newH : ∀ (x : State) (hd : Handle), Ext s x → Ext s { x with handles := x.handles ++ [hd] } := fun x hd e =>
    ⟨e.cfg, e.now, e.tcps, e.pcs, fun h hd hh => by
      obtain ⟨hd', h', r⟩ := e.handles h hd hh
      exact ⟨hd', getElem?_append_old _ _ _ _ h', r⟩, e.mux⟩
  have wake : ∀ (x : State) (k : Nat) (fin : Bool),
      Ext x (setTcp x k (fun t => { t with reader := if fin then .none else .idle })) := fun x k fin =>
    setTcp_ext x k _ (fun t _ => ⟨rfl, rfl, PhaseStep.refl _, fun _ h => h, List.prefix_refl _, List.prefix_refl _⟩)
  cases m with
  | accept peer lip hl => exact newTcp _
  | refuse peer lip => exact newTcp _
  | reject k t d f ht hph =>
    exact setTcp_ext s k _ (fun t' _ => ⟨rfl, rfl, PhaseStep.toClosed _, fun _ h => h, by simp, List.prefix_refl _⟩)
  | hangup k t d ht hph =>
    exact setTcp_ext s k _ (fun t' _ =>
      ⟨rfl, rfl, PhaseStep.toClosed _, fun _ h => h, List.prefix_refl _, List.prefix_refl _⟩)
  | stall k => exact setTcp_ext s k _ (fun t' _ => tcpExt_same _ _ rfl rfl rfl rfl rfl rfl)
  | gone k => exact setTcp_ext s k _ (fun t' _ => tcpExt_same _ _ rfl rfl rfl rfl rfl rfl)
  | wrote k pid len =>
    exact setTcp_ext s k _ (fun t _ => ⟨rfl, rfl, PhaseStep.refl _, fun _ h => h, List.prefix_refl _, by simp⟩)
  | push k t q f ht hph =>
    refine Ext.trans (setTcp_ext s k _ ?_) (runReader_ext _ k)
    exact fun t' _ => ⟨rfl, rfl, PhaseStep.refl _, fun _ h => h, by simp, List.prefix_refl _⟩
  | pushEnd k t q reset ht hph =>
    refine Ext.trans (setTcp_ext s k _ ?_) (runReader_ext _ k)
    exact fun t' _ => tcpExt_same _ _ rfl rfl rfl rfl rfl rfl
  | provision key k t d ht hph hn => exact newPc _
  | register p k t d pc f ht hph hp ho hdup =>
    refine Ext.trans (Ext.trans (setPc_ext s p _ ?_) (setTcp_ext _ k _ ?_)) (runReader_ext _ k)
    · intro pc _
      exact ⟨rfl, rfl, rfl, fun h => h, fun h => h, List.prefix_refl _, List.prefix_refl _⟩
    · intro t' ht'
      have : t' = t := by
        simp only [setPc] at ht'; rw [ht] at ht'; cases ht'; rfl
      subst this
      refine ⟨rfl, rfl, ?_, ?_, by simp, List.prefix_refl _⟩
      · rw [hph]; simp [PhaseStep]
      · intro q hq; rw [hf k t' d ht hph] at hq; cases hq
  | close p => exact closePc1_ext s p
  | tick now' hle hsp =>
    apply ext_pointwise (Pointwise.tick s now') rfl hle (fun h => h) rfl
    · intro j t _
      unfold expireTcp
      split
      · split
        · exact ⟨rfl, rfl, PhaseStep.toClosed _, fun _ h => h, List.prefix_refl _, List.prefix_refl _⟩
        · exact TcpExt.refl t
      · exact TcpExt.refl t
    · intro q pc _; exact PcExt.refl pc
  | claim key p hm hp =>
    exact newH _ _ (setPc_ext s p _
      (fun pc _ => ⟨rfl, rfl, rfl, fun h => h, fun _ => rfl, List.prefix_refl _, List.prefix_refl _⟩))
  | create key hm hn => exact newH { s with pcs := s.pcs ++ [_] } _ (newPc _)
  | closeH h =>
    refine ⟨rfl, Nat.le_refl _, fun _ t h => ⟨t, h, TcpExt.refl t⟩, fun q pc h => ⟨pc, h, PcExt.refl pc⟩, ?_, fun h => h⟩
    intro x hx hxx
    by_cases e : h = x
    · subst e
      exact ⟨{ hx with closed := true }, by simp only; rw [getElem?_modify_eq, hxx]; rfl, rfl, fun _ => rfl⟩
    · exact ⟨hx, by simp only; rw [getElem?_modify_ne _ _ _ _ (Ne.symm e)]; exact hxx, rfl, fun y => y⟩
  | decRef p =>
    exact setPc_ext s p _
      (fun pc _ => ⟨rfl, rfl, rfl, fun h => h, fun h => h, List.prefix_refl _, List.prefix_refl _⟩)
  | pop p pc pkt q hp hq =>
    exact setPc_ext s p _ (fun pc _ => ⟨rfl, rfl, rfl, fun h => h, fun h => h, List.prefix_refl _, by simp⟩)
  | unblockQ p k pc bq t bp fin hp hbq ht hrd =>
    refine Ext.trans (Ext.trans (setPc_ext s p _ ?_) (wake _ _ _)) (runReader_ext _ _)
    exact fun pc _ => ⟨rfl, rfl, rfl, fun h => h, fun h => h, by simp, List.prefix_refl _⟩
  | unblockE p k pc bq t bp fin hp hq hbq ht hrd =>
    refine Ext.trans (Ext.trans (setPc_ext s p _ ?_) (wake _ _ _)) (runReader_ext _ _)
    exact fun pc _ => ⟨rfl, rfl, rfl, fun h => h, fun h => h, by simp, by simp⟩
  | shut hm hall =>
    exact ⟨rfl, Nat.le_refl _, fun _ t h => ⟨t, h, TcpExt.refl t⟩, fun q pc h => ⟨pc, h, PcExt.refl pc⟩,
      fun _ hd h => ⟨hd, h, rfl, fun x => x⟩, fun _ => rfl⟩

end IceProofs.TcpMux

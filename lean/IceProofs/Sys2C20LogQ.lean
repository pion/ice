import IceProofs.Sys2C20Defs
import IceProofs.AgentAuto
import IceProofs.AgentKept
/-!
# C20 on `Sys2` — frame walk for the ghost log `nomIssued`

`Agent.ilog` projects an agent on the fields `nomIssued` (the nominations it has issued) and `nomCounter` (the state of
its value generator).  Every helper of `step` below the timer ticks leaves the projection alone; the writers are `step` on
`.renominate` (appends to the log) and `Agent.autoIssue` (the automatic check, inside `contactCandidates`: appends to the
log and draws a value from the counter).
-/
namespace IceProofs.C20S

structure ILog where
  v : List (Nat × Nat × Nat)
  c : Nat

end IceProofs.C20S

namespace IceModel.AgentCore
/-- the ghost log of issued nominations and the counter of the value generator, boxed -/
def Agent.ilog (a : Agent) : IceProofs.C20S.ILog := ⟨a.nomIssued, a.nomCounter⟩
end IceModel.AgentCore

namespace IceProofs.C20S
open IceModel.AgentCore IceProofs.Agent

@[simp] theorem ilog_mk (cfg tieBreaker controlling started closed connState localUfrag localPwd remoteUfrag remotePwd
    locals remotes checklist nextPairID nextUid nextTid tag pending selected selStart nominatedPair lastNomination answeredNomination
    lastSeen checkingStart checkingTimeout forcePending nextTick caches rx connBytesSent connBytesRecv
    onConnectedFired generation nomIssued lastRenomTime nomCounter) :
    (Agent.mk cfg tieBreaker controlling started closed connState localUfrag localPwd remoteUfrag remotePwd
    locals remotes checklist nextPairID nextUid nextTid tag pending selected selStart nominatedPair lastNomination answeredNomination
    lastSeen checkingStart checkingTimeout forcePending nextTick caches rx connBytesSent connBytesRecv
    onConnectedFired generation nomIssued lastRenomTime nomCounter).ilog = ⟨nomIssued, nomCounter⟩ := rfl

@[simp] theorem ilog_eta (y : Agent) : ILog.mk y.nomIssued y.nomCounter = y.ilog := rfl
theorem ilog_v (a : Agent) : a.ilog.v = a.nomIssued := rfl

theorem ilog_counter {a b : Agent} (h : b.ilog = a.ilog) : b.nomCounter = a.nomCounter :=
  congrArg ILog.c h

theorem ilog_field {a b : Agent} (h : b.ilog = a.ilog) : b.nomIssued = a.nomIssued :=
  congrArg ILog.v h

theorem fst_ilog {α : Type} {x : Agent × α} {a' : Agent} {r : α} (h : x = (a', r)) : a'.ilog = x.1.ilog := by
  subst h; rfl

@[simp] theorem ilog_modPair (a : Agent) (id : Nat) (f : Pair → Pair) : (a.modPair id f).ilog = a.ilog := rfl
@[simp] theorem ilog_seenLocalSent (a : Agent) (u n : Nat) : (a.seenLocalSent u n).ilog = a.ilog := rfl
@[simp] theorem ilog_seenRemoteRecv (a : Agent) (u n : Nat) : (a.seenRemoteRecv u n).ilog = a.ilog := rfl
@[simp] theorem ilog_invalidatePending (a : Agent) (n : Nat) : (a.invalidatePending n).ilog = a.ilog := rfl
@[simp] theorem ilog_wipe (a : Agent) : a.wipe.ilog = a.ilog := rfl
@[simp] theorem ilog_requestCheck (a : Agent) : a.requestCheck.ilog = a.ilog := rfl

theorem ilog_of_kept {a b : Agent} (h : b.kept = a.kept) : b.ilog = a.ilog :=
  congrArg (fun k : Kept => ILog.mk k.nomIssued k.nomCounter) h

@[simp] theorem ilog_setConnState (a : Agent) (s : ConnState) : (a.setConnState s).1.ilog = a.ilog :=
  ilog_of_kept (kept_setConnState a s)

@[simp] theorem ilog_sendRequest (a : Agent) (now : Nat) (l r : Cand) (u : Bool) (n : Option Nat) :
    (a.sendRequest now l r u n).1.ilog = a.ilog := ilog_of_kept (kept_sendRequest a now l r u n)

@[simp] theorem ilog_ping (a : Agent) (now : Nat) (l r : Cand) : (a.ping now l r).1.ilog = a.ilog :=
  ilog_of_kept (kept_ping a now l r)

@[simp] theorem ilog_pingAll (a : Agent) (now : Nat) : (a.pingAll now).1.ilog = a.ilog := ilog_of_kept (kept_pingAll a now)

@[simp] theorem ilog_validateSelected (a : Agent) (now : Nat) : (a.validateSelected now).1.ilog = a.ilog :=
  ilog_of_kept (kept_validateSelected a now)

@[simp] theorem ilog_keepalive (a : Agent) (now : Nat) : (a.keepalive now).1.ilog = a.ilog :=
  ilog_of_kept (kept_keepalive a now)

@[simp] theorem ilog_nominate (a : Agent) (now : Nat) (p : Pair) : (a.nominate now p).1.ilog = a.ilog :=
  ilog_of_kept (kept_nominate a now p)

@[simp] theorem ilog_addPair (a : Agent) (l r : Cand) : (a.addPair l r).1.ilog = a.ilog := rfl

@[simp] theorem ilog_addRemoteCandidate (a : Agent) (c : Cand) : (a.addRemoteCandidate c).1.ilog = a.ilog :=
  ilog_of_kept (kept_addRemoteCandidate a c)

@[simp] theorem ilog_addLocalCandidate (a : Agent) (c : Cand) : (a.addLocalCandidate c).1.ilog = a.ilog :=
  ilog_of_kept (kept_addLocalCandidate a c)

@[simp] theorem ilog_write (a : Agent) (now len : Nat) (s : Bool) : (a.write now len s).1.ilog = a.ilog :=
  ilog_of_kept (kept_write a now len s)

@[simp] theorem ilog_writeToPair (a : Agent) (now id len : Nat) (s : Bool) :
    (a.writeToPair now id len s).1.ilog = a.ilog := ilog_of_kept (kept_writeToPair a now id len s)

@[simp] theorem ilog_inboundData (a : Agent) (now : Nat) (l : Cand) (src len : Nat) :
    (a.inboundData now l src len).1.ilog = a.ilog := ilog_of_kept (kept_inboundData a now l src len)

@[simp] theorem ilog_resetSelector (a : Agent) (n : Nat) : (a.resetSelector n).ilog = a.ilog := rfl

@[simp] theorem ilog_handleInbound (a : Agent) (now : Nat) (l : Cand) (src : Nat) (m : Msg) :
    (a.handleInbound now l src m).1.ilog = a.ilog :=
  handleInbound_kept (fun k => ILog.mk k.nomIssued k.nomCounter) (fun _ _ _ _ _ => rfl) a now l src m

@[simp] theorem ilog_doRestart (a : Agent) (now : Nat) (x p : String) : (a.doRestart now x p).1.ilog = a.ilog := by
  unfold Agent.doRestart
  dsimp only
  split
  · exact ilog_setConnState _ _
  · rfl

end IceProofs.C20S

import IceProofs.AgentC20Trace
import IceProofs.AgentC03Step
import IceProofs.AgentC03OwnFrame
import IceProofs.AgentC06Read
/-!
# C20 on `Sys2` — vocabulary (agent level)

What a nomination decision reads of an agent, the three kinds of step that matter for renomination
(`issueOf`: the controlling agent issues a nomination; `answerOf`: an agent consumes an outstanding transaction
through a matching success response; `acceptAt`: the controlled selector accepts a nomination value), and the
frame relation `G` / `NomQ` ("nomination-quiet") that every other step satisfies.
-/
namespace IceProofs.C20S
open IceModel.AgentCore IceProofs.Agent

/-- what the nomination logic reads of a pair besides its id: valid?, deferred-nomination mark and value -/
def nk (p : Pair) : Bool × Bool × Option Nat := (p.state == .succeeded, p.nomOnSuccess, p.deferredNom)

theorem nk_def {p : Pair} {x : Bool × Bool × Option Nat} (h : nk p = x) : p.deferredNom = x.2.2 := by
  rw [← h]; rfl

theorem nk_eq {p q : Pair} (h : nk p = nk q) :
    (p.state = .succeeded ↔ q.state = .succeeded) ∧ p.nomOnSuccess = q.nomOnSuccess ∧ p.deferredNom = q.deferredNom := by
  unfold nk at h
  simp only [Prod.mk.injEq] at h
  refine ⟨?_, h.2.1, h.2.2⟩
  have := h.1
  constructor
  · intro hp; rw [hp] at this; simpa using this.symm
  · intro hq; rw [hq] at this; simpa using this

/-- the transport addresses (local, remote) of the pair the model resolves id `id` to -/
def pairAddrs (a : Agent) (id : Nat) : Option (Nat × Nat) :=
  match a.pairById id with
  | none => none
  | some p =>
    match a.localOf p.l, a.remoteOf p.r with
    | some l, some r => some (l.addr, r.addr)
    | _, _ => none

/-- addresses of the selected pair -/
def selAddrs (a : Agent) : Option (Nat × Nat) := a.selected.bind (pairAddrs a)

/-- `RenominateCandidate` that is not refused: `(value, local address, remote address)` of the nomination it sends
(exactly the case in which `step` answers `ok`; the request carries the value iff it is positive). -/
def issueOf (a : Agent) : Ev → Option (Nat × Nat × Nat)
  | .renominate _ la ri v =>
    if a.controlling && a.cfg.enableRenomination then
      match a.localByAddr la, a.remotes[ri]? with
      | some l, some r => if (a.findPair l r).isSome then some (v, la, r.addr) else none
      | _, _ => none
    else none
  | _ => none

/-- the entries a step from `a` to `a'` appends to the ghost log of issued nominations (`Agent.nomIssued`) -/
def logSfx (a a' : Agent) : List (Nat × Nat × Nat) := a'.nomIssued.drop a.nomIssued.length

/-- **The nominations an agent issues while it executes an event**, whoever causes them: `RenominateCandidate` that is not
refused (`issueOf`: this list for a `.renominate` event, by `issuesOf_renominate`) AND the automatic check of the controlling
selector (`WithAutomaticRenomination`) inside the timer ticks the event runs — `(value, local address, remote address)`,
value 0 = sent without the attribute.  Read off the ghost log `nomIssued`, which `step` appends to exactly where it hands
a nomination to `sendRequest`. -/
def issuesOf (a : Agent) (e : Ev) : List (Nat × Nat × Nat) := logSfx a (step a e).1

theorem logSfx_self (a : Agent) : logSfx a a = [] := by
  unfold logSfx; simp

theorem logSfx_of_append {a a' : Agent} {s : List (Nat × Nat × Nat)} (h : a'.nomIssued = a.nomIssued ++ s) :
    logSfx a a' = s := by
  unfold logSfx; rw [h]; simp

theorem logSfx_of_eq {a a' : Agent} (h : a'.nomIssued = a.nomIssued) : logSfx a a' = [] := by
  unfold logSfx; rw [h]; simp

theorem logSfx_trans {a b c : Agent} (h1 : a.nomIssued <+: b.nomIssued) (h2 : b.nomIssued <+: c.nomIssued) :
    logSfx a c = logSfx a b ++ logSfx b c := by
  obtain ⟨s1, e1⟩ := h1
  obtain ⟨s2, e2⟩ := h2
  rw [logSfx_of_append e1.symm, logSfx_of_append e2.symm,
    logSfx_of_append (s := s1 ++ s2) (by rw [← e2, ← e1, List.append_assoc])]

theorem mem_logSfx_right {a b c : Agent} (h1 : a.nomIssued <+: b.nomIssued) (h2 : b.nomIssued <+: c.nomIssued)
    {x : Nat × Nat × Nat} (hx : x ∈ logSfx b c) : x ∈ logSfx a c := by
  rw [logSfx_trans h1 h2]; exact List.mem_append_right _ hx

theorem mem_logSfx_left {a b c : Agent} (h1 : a.nomIssued <+: b.nomIssued) (h2 : b.nomIssued <+: c.nomIssued)
    {x : Nat × Nat × Nat} (hx : x ∈ logSfx a b) : x ∈ logSfx a c := by
  rw [logSfx_trans h1 h2]; exact List.mem_append_left _ hx

/-- The event is an authenticated Binding success response that completes an outstanding transaction of `a` on a
listed pair: open started agent, existing local candidate, MESSAGE-INTEGRITY under the remote password, known source,
transaction pending and not expired, response symmetric (network type, destination, source — `responseSymmetric`),
pair found.  Returns the consumed transaction and the id of the pair. -/
def answerOf (a : Agent) (ev : Ev) : Option (Pending × Nat) :=
  match inboundOn a ev with
  | none => none
  | some (now, l, src, m) =>
    if m.method == 1 && m.cls == 2 && m.key == some a.remotePwd then
      match a.findRemote l.net src with
      | none => none
      | some r =>
        match (a.takePending now m.tid).2 with
        | none => none
        | some pd =>
          if pd.net == l.net && pd.dest == src && pd.src == l.addr then (a.findPair l r).map fun p => (pd, p.id)
          else none
    else none

/-- a response to a renomination with value `v` is superseded when a response to one with a value `≥ v` has been
processed (`controllingSelector.answeredNomination`) -/
def supersededBy (answered : Option Nat) (v : Nat) : Bool :=
  match answered with
  | none => false
  | some w => decide (v ≤ w)

theorem not_superseded {w : Option Nat} {v : Nat} (h : supersededBy w v = false) : ∀ w', w = some w' → w' < v := by
  intro w' hw
  unfold supersededBy at h
  rw [hw] at h
  simp only [decide_eq_false_iff_not] at h
  omega

theorem superseded {w : Option Nat} {v : Nat} (h : supersededBy w v = true) : ∃ w', w = some w' ∧ v ≤ w' := by
  unfold supersededBy at h
  cases w with
  | none => cases h
  | some w' => exact ⟨w', rfl, by simpa using h⟩

/-- the nomination value the controlled selector accepts at this step, with the local address the request arrived on
and its source address as seen by the agent -/
def acceptAt (a : Agent) (ev : Ev) : Option (Nat × Nat × Nat) :=
  match ev with
  | .inbound _ la src _ => (accepted a ev).map fun v => (v, la, src)
  | _ => none

/-- id of the pair a request handed to a selector is about (found, or added by the handler) -/
def reqPair (a : Agent) (ev : Ev) : Option Nat :=
  match inboundOn a ev with
  | none => none
  | some (_, l, src, m) =>
    match resolveSource a l src m with
    | (a1, _, some r) => some (ensurePair a1 l r).2.id
    | (_, _, none) => none

/-- the events the frame speaks of: all but Restart and Close (an effective Start is excluded by `started`) -/
def keeps : Ev → Bool
  | .restart _ _ _ => false
  | .close => false
  | _ => true

/-- an ordinary nomination: a Binding request with USE-CANDIDATE and no nomination value -/
def plainNomReq : Ev → Bool
  | .inbound _ _ _ m => m.cls == 0 && m.useCand && m.nom.isNone
  | _ => false

/-- **Nomination-quiet**, in the form the handlers are walked with.  `a'` differs from `a` in nothing the nomination logic
reads, except possibly on one pair id — `exs` for the selection, which may have moved there, `exp` for the marks of that
pair: marking a pair and moving the selection to it are different moves of a handler — and by the transaction of the
nomination `iss` just issued:
* the selection is the same, or it is `exs`;
* every listed pair other than `exp` stems from a pair of the same id with the same `nk`, or is new (id above the old
  counter) and unmarked; no pair is dropped; if `wa`, an id that resolved to an address pair resolves to the same addresses
  (the retargeting fold of `addRemoteCandidate` is walked without this clause, `Sys2C20FrameG.lean`);
* every outstanding transaction was outstanding before, or carries no nomination value, or is the one of `iss`
  (`RenominateCandidate`), or is logged among the nominations issued meanwhile (`logSfx`: the automatic check);
* the ghost log of issued nominations only grows. -/
structure G (wa : Bool) (exs exp : Option Nat) (iss : Option (Nat × Nat × Nat)) (a a' : Agent) : Prop where
  npid : a.nextPairID ≤ a'.nextPairID
  sel : a'.selected = a.selected ∨ (a'.selected = exs ∧ exs.isSome = true)
  pairs : ∀ p' ∈ a'.checklist, some p'.id ≠ exp →
    (∃ p ∈ a.checklist, p.id = p'.id ∧ nk p' = nk p) ∨ (a.nextPairID < p'.id ∧ nk p' = (false, false, none))
  fwd : ∀ p ∈ a.checklist, ∃ p' ∈ a'.checklist, p'.id = p.id
  addrs : wa = true → ∀ id x, pairAddrs a id = some x → pairAddrs a' id = some x
  pend : ∀ pd ∈ a'.pending, pd ∈ a.pending ∨ pd.nom = none ∨
    ∃ v, pd.nom = some v ∧ (iss = some (v, pd.src, pd.dest) ∨ (v, pd.src, pd.dest) ∈ logSfx a a')
  log : a.nomIssued <+: a'.nomIssued

/-- `G` as the statements about a whole step and the invariants of the exchange use it: one exception `ex`, the address
clause on -/
def NomQ (ex : Option Nat) (iss : Option (Nat × Nat × Nat)) (a a' : Agent) : Prop := G true ex ex iss a a'

theorem G.toNomQ {ex : Option Nat} {iss : Option (Nat × Nat × Nat)} {a a' : Agent} (h : G true ex ex iss a a') :
    NomQ ex iss a a' := h

theorem NomQ.addrs {ex : Option Nat} {iss : Option (Nat × Nat × Nat)} {a a' : Agent} (h : NomQ ex iss a a') :
    ∀ id x, pairAddrs a id = some x → pairAddrs a' id = some x := G.addrs h rfl

/-- what a session assumes of A: started, open, controlling, not Failed -/
def PostA (a' : Agent) : Prop :=
  a'.started = true ∧ a'.closed = false ∧ a'.controlling = true ∧ a'.connState ≠ .failed

/-- what a session assumes of B: started, open, controlled, not Failed, a full agent -/
def PostB (b' : Agent) : Prop :=
  b'.started = true ∧ b'.closed = false ∧ b'.controlling = false ∧ b'.connState ≠ .failed ∧ b'.cfg.lite = false

theorem PostA.controlling {a : Agent} (h : PostA a) : a.controlling = true := h.2.2.1
theorem PostB.controlled {b : Agent} (h : PostB b) : b.controlling = false := h.2.2.1

end IceProofs.C20S

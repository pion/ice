import IceProofs.TcpMuxView
import IceSpec.C11ForcedView
/-!
# C11 (`gatherforce`): every typed event is read back from its printed observation token
-/
namespace IceProofs.C11ForcedView
open IceSpec.LineProto IceProofs.LineProto IceSpec.C11.Forced IceSpec.C11.Forced.View

theorem parseFTok_printFTok (e : FEv) : parseFTok (printFTok e) = some e := by
  unfold printFTok
  split <;> simp [parseFTok, natTok, natList?, toNat?_digits, splitC_joinC, parseNats_printNats,
    mem_digits, mem_printNats, mem_joinC_cons, mem_joinC_one, ne_single]

theorem printFTok_free (e : FEv) : ' ' ∉ (printFTok e).toList := by
  unfold printFTok
  split <;> simp [mem_digits, mem_printNats, mem_joinC_cons, mem_joinC_one]

theorem monitorObs_print (evs : List FEv) (hne : evs ≠ []) : monitorObs (printObsF evs) = monitorForced evs := by
  unfold monitorObs printObsF
  rw [splitC_joinC ' ' _ (by simpa using hne), mapM_print parseFTok printFTok parseFTok_printFTok]
  intro s hs
  obtain ⟨e, _, rfl⟩ := List.mem_map.mp hs
  exact printFTok_free e

end IceProofs.C11ForcedView

import IceModel.Gather
import IceProofs.Basic
import IceProofs.GatherUnits
/-!
What the composed model `IceModel.Gather.step` is made of.  A running unit (`exec`) is a sequence of six elementary
moves (`exec_ind`).  A gathering pass is a fold of `startUnit` (or of parking at the gate) over a list that is a pure
function of the state the pass starts from (`runCycleUnits_eq`, `runHost_eq`): no gatherer writes what the list is
computed from (`Keeps`).  `resume` detaches the units it answers and runs them one after the other (`resume_ind`).
Every operation is built from these, `dropCands`, and updates of the cycle machine, the monitor, the counters (`Book`)
and the clock: a predicate kept by these is kept by every operation but `ifaces` (`Closed.of_step`); the part of the
call tree that never moves the clock needs no clock move (`Quiet`).
-/
namespace IceProofs.GatherClosed
open IceModel.Gather

/-! `exec` is a sequence of six elementary moves on the pair (agent state, unit): the unit parks or returns, an answer is
consumed, a resource is acquired, a slot is released, the slots of a duplicate are closed, a candidate is started by a
live unit that passed the `publishable` guard.  A relation between agent and unit that the six moves keep is kept by
`exec`. -/

theorem exec_ind (M : MState → Job → Prop)
    (park : ∀ {s j} p, M s j → M s { j with prog := p })
    (ans : ∀ {s j}, M s j → M s { j with answer := none })
    (acq : ∀ {s j} r mg, M s j →
      M { s with opens := s.opens + 1, muxGets := mg } { j with slots := j.slots ++ [(r, .held)], answer := none })
    (rel : ∀ {s j} i, M s j → M { s with closes := s.closes + (j.take i .released).2.length } (j.take i .released).1)
    (dup : ∀ {s j} is, M s j →
      M { s with closes := s.closes + (j.takeAll is .dupClosed).2.length } (j.takeAll is .dupClosed).1)
    (own : ∀ {s j} ci is, M s j → jobLive s j = true → publishable s.cfg (unitCand s.cfg j.unit ci j.m) = true →
      M { s with cands := s.cands ++ [{ d := unitCand s.cfg j.unit ci j.m, gen := s.cyc.gen,
                                        res := (j.takeAll is (.owned ci)).2 }],
                 evs := if (unitCand s.cfg j.unit ci j.m).hidden then s.evs
                        else s.evs ++ [(unitCand s.cfg j.unit ci j.m, s.cyc.gen)] }
        (j.takeAll is (.owned ci)).1) :
    ∀ (p : Prog) (s : MState) (j : Job), M s j → M (exec s j p).1 (exec s j p).2 := by
  intro p
  induction p with
  | ret => intro s j h; exact park _ h
  | acquire l k a b iha ihb =>
    intro s j h; simp only [exec]; split
    · exact park _ h
    · exact ihb _ _ (ans h)
    · exact iha _ _ (acq _ _ h)
  | step l a b iha ihb =>
    intro s j h; simp only [exec]; split
    · exact park _ h
    · exact iha _ _ (ans h)
    · exact ihb _ _ (ans h)
  | release i n ih => intro s j h; simp only [exec]; exact ih _ _ (rel i h)
  | addCand ci is st fl ihs ihf =>
    intro s j h; simp only [exec]; split
    · exact ihf _ _ h
    · rename_i hg
      simp only [Bool.or_eq_true, Bool.not_eq_true', not_or, Bool.not_eq_false] at hg
      split
      · exact ihs _ _ (dup is h)
      · exact ihs _ _ (own ci is h hg.1 hg.2)

/-- what the gatherers never touch; the candidate list only grows -/
structure Keeps (s s' : MState) : Prop where
  cyc : s'.cyc = s.cyc
  cfg : s'.cfg = s.cfg
  ifs : s'.ifs = s.ifs
  gate : s'.gateClosed = s.gateClosed
  now : s'.now = s.now
  mon : s'.mon = s.mon
  mono : ∀ c ∈ s.cands, c ∈ s'.cands

theorem Keeps.refl (s : MState) : Keeps s s := ⟨rfl, rfl, rfl, rfl, rfl, rfl, fun _ h => h⟩

theorem Keeps.trans {a b c : MState} (h1 : Keeps a b) (h2 : Keeps b c) : Keeps a c :=
  ⟨h2.cyc.trans h1.cyc, h2.cfg.trans h1.cfg, h2.ifs.trans h1.ifs, h2.gate.trans h1.gate, h2.now.trans h1.now,
   h2.mon.trans h1.mon, fun x hx => h2.mono x (h1.mono x hx)⟩

theorem exec_keeps (p : Prog) (s : MState) (j : Job) : Keeps s (exec s j p).1 :=
  exec_ind (fun s' _ => Keeps s s') (fun _ h => h) (fun h => h)
    (fun _ _ h => h.trans ⟨rfl, rfl, rfl, rfl, rfl, rfl, fun _ h => h⟩)
    (fun _ h => h.trans ⟨rfl, rfl, rfl, rfl, rfl, rfl, fun _ h => h⟩)
    (fun _ h => h.trans ⟨rfl, rfl, rfl, rfl, rfl, rfl, fun _ h => h⟩)
    (fun _ _ h _ _ => h.trans ⟨rfl, rfl, rfl, rfl, rfl, rfl, fun _ h => List.mem_append_left _ h⟩)
    p s j (Keeps.refl s)

theorem settle_keeps (p : MState × Job) : Keeps p.1 (settle p) := by
  unfold settle; split <;> exact ⟨rfl, rfl, rfl, rfl, rfl, rfl, fun _ h => h⟩

theorem forall_settle {s : MState} {j : Job} {φ : Job → Prop} (h : ∀ x ∈ s.jobs, φ x) (hj : j.prog ≠ .ret → φ j) :
    ∀ x ∈ (settle (s, j)).jobs, φ x := by
  unfold settle
  split
  · exact h
  · rename_i hne
    intro x hx
    rcases List.mem_append.1 hx with hx | hx
    · exact h x hx
    · rw [List.mem_singleton.1 hx]; exact hj hne

theorem exec_jobs (p : Prog) (s : MState) (j : Job) : (exec s j p).1.jobs = s.jobs :=
  exec_ind (fun s' _ => s'.jobs = s.jobs) (fun _ h => h) (fun h => h) (fun _ _ h => h) (fun _ h => h)
    (fun _ h => h) (fun _ _ h _ _ => h) p s j rfl

theorem forall_run {s : MState} {j : Job} {p : Prog} {φ : Job → Prop} (h : ∀ x ∈ s.jobs, φ x)
    (hj : (exec s j p).2.prog ≠ .ret → φ (exec s j p).2) : ∀ x ∈ (settle (exec s j p)).jobs, φ x :=
  forall_settle (s := (exec s j p).1) (j := (exec s j p).2) (by rw [exec_jobs]; exact h) hj

theorem run_keeps (s : MState) (j : Job) (p : Prog) : Keeps s (settle (exec s j p)) :=
  (exec_keeps p s j).trans (settle_keeps _)

theorem startUnit_keeps (s : MState) (c gen : Nat) (u : GUnit) : Keeps s (startUnit s c gen u) := by
  unfold startUnit
  exact run_keeps _ _ _

theorem foldl_keeps {α : Type} (f : MState → α → MState) (hf : ∀ s a, Keeps s (f s a)) :
    ∀ (l : List α) (s : MState), Keeps s (l.foldl f s) :=
  fun l s => List.foldl_inv (Keeps s) f l s (Keeps.refl s) (fun b a h => h.trans (hf b a))

/-- the listen addresses of the UDP mux that `runHostMux` starts a unit for: `existingConfigs` reads only the
configuration and the cycle machine -/
def muxRun (cfg : Config) (cyc : Cycle.State) (c : Nat) : List GUnit → List CandD → List GUnit
  | [], _ => []
  | u :: us, seen =>
    if seen.contains (muxKey cfg u) then muxRun cfg cyc c us seen
    else u :: muxRun cfg cyc c us
      (if !cyc.closed && ((cyc.cycles[c]?).map (fun y => !y.cancelled)).getD false
          && publishable cfg (unitCand cfg u 0 0) then muxKey cfg u :: seen else seen)

theorem muxRun_sub {cfg : Config} {cyc : Cycle.State} {c : Nat} {u : GUnit} :
    ∀ {us : List GUnit} {seen : List CandD}, u ∈ muxRun cfg cyc c us seen → u ∈ us := by
  intro us
  induction us with
  | nil => intro seen h; simp [muxRun] at h
  | cons v us ih =>
    intro seen h
    simp only [muxRun] at h
    split at h
    · exact List.mem_cons_of_mem _ (ih h)
    · rcases List.mem_cons.1 h with h | h
      · exact h ▸ List.mem_cons_self
      · exact List.mem_cons_of_mem _ (ih h)

theorem runHostMux_eq (c gen : Nat) : ∀ (us : List GUnit) (seen : List CandD) (s : MState),
    runHostMux s c gen us seen = (muxRun s.cfg s.cyc c us seen).foldl (fun s u => startUnit s c gen u) s := by
  intro us
  induction us with
  | nil => intro seen s; rfl
  | cons u us ih =>
    intro seen s
    simp only [runHostMux, muxRun]
    split
    · exact ih _ _
    · rw [ih, (startUnit_keeps s c gen u).cfg, (startUnit_keeps s c gen u).cyc]; rfl

/-- the units the host gatherer starts -/
def hostRun (s : MState) (c : Nat) : List GUnit :=
  muxRun s.cfg s.cyc c (hostMuxUnits s.cfg) [] ++ hostIfaceUnits s.cfg s.ifs

theorem runHost_eq (s : MState) (c gen : Nat) :
    runHost s c gen = (hostRun s c).foldl (fun s u => startUnit s c gen u) s := by
  have k := foldl_keeps _ (fun s u => startUnit_keeps s c gen u) (muxRun s.cfg s.cyc c (hostMuxUnits s.cfg) []) s
  unfold runHost hostRun
  simp only [List.foldl_append, runHostMux_eq, k.cfg, k.ifs]

inductive PassStep where
  | start (u : GUnit)
  /-- the host gatherer parks at the gate of the fake mux -/
  | hold

def doStep (c gen : Nat) (s : MState) : PassStep → MState
  | .start u => startUnit s c gen u
  | .hold => { s with heldCycles := s.heldCycles ++ [c] }

def passOf (s : MState) (c : Nat) : CandType → List PassStep
  | .host => if s.gateClosed && s.cfg.udpMux.isSome then [.hold] else (hostRun s c).map .start
  | .srflx => (srflxAllUnits s.cfg s.ifs).map .start
  | .relay => (relayUnits s.cfg s.ifs).map .start

/-- what one pass of cycle `c` does, in order -/
def passSteps (s : MState) (c : Nat) : List PassStep := s.cfg.candTypes.flatMap (passOf s c)

theorem doStep_keeps (c gen : Nat) (s : MState) (p : PassStep) : Keeps s (doStep c gen s p) := by
  cases p with
  | start u => exact startUnit_keeps s c gen u
  | hold => exact ⟨rfl, rfl, rfl, rfl, rfl, rfl, fun _ h => h⟩

theorem passOf_congr {s s' : MState} (h : Keeps s s') (c : Nat) (t : CandType) : passOf s' c t = passOf s c t := by
  cases t <;> simp only [passOf, hostRun, h.gate, h.cfg, h.ifs, h.cyc]

theorem foldl_map_start (c gen : Nat) (us : List GUnit) (s : MState) :
    (us.map PassStep.start).foldl (doStep c gen) s = us.foldl (fun s u => startUnit s c gen u) s := by
  rw [List.foldl_map]; rfl

theorem foldl_flatMap_eq {α β : Type} {s : MState} (f : MState → α → MState) (g : MState → β → MState)
    (steps : α → List β) (hg : ∀ s b, Keeps s (g s b)) (h : ∀ s' a, Keeps s s' → f s' a = (steps a).foldl g s') :
    ∀ (l : List α) (s' : MState), Keeps s s' → l.foldl f s' = (l.flatMap steps).foldl g s' := by
  intro l
  induction l with
  | nil => intro s' _; rfl
  | cons a l ih =>
    intro s' hk
    rw [List.foldl_cons, List.flatMap_cons, List.foldl_append, h s' a hk]
    exact ih _ (hk.trans (foldl_keeps g hg _ s'))

theorem runCycleUnits_eq (s : MState) (c gen : Nat) :
    runCycleUnits s c gen = (passSteps s c).foldl (doStep c gen) s := by
  unfold runCycleUnits passSteps
  refine foldl_flatMap_eq _ (doStep c gen) (passOf s c) (doStep_keeps c gen) (fun s' t hk => ?_) _ s (Keeps.refl s)
  -- the pass has not changed what `passOf` reads
  rw [← passOf_congr hk]
  cases t with
  | host => simp only [passOf]; split; rfl; rw [foldl_map_start, runHost_eq]
  | srflx => exact (foldl_map_start c gen _ s').symm
  | relay => exact (foldl_map_start c gen _ s').symm

/-- every unit a pass starts is a unit of the cycle; the pass parks at the gate only for the host type -/
def PassStep.Of (s : MState) : PassStep → Prop
  | .start u => u ∈ allUnits s.cfg s.ifs
  | .hold => s.cfg.candTypes.contains .host = true

theorem mem_passSteps {s : MState} {c : Nat} {p : PassStep} (h : p ∈ passSteps s c) : p.Of s := by
  unfold passSteps at h
  obtain ⟨t, ht, hp⟩ := List.mem_flatMap.1 h
  have htc : s.cfg.candTypes.contains t = true := List.contains_iff_mem.2 ht
  cases t with
  | host =>
    simp only [passOf] at hp
    split at hp
    · rw [List.mem_singleton.1 hp]; exact htc
    · obtain ⟨u, hu, rfl⟩ := List.mem_map.1 hp
      exact GatherUnits.mem_allUnits.2 (.inl ⟨htc, (List.mem_append.1 hu).imp_left muxRun_sub⟩)
  | srflx =>
    obtain ⟨u, hu, rfl⟩ := List.mem_map.1 hp
    exact GatherUnits.mem_allUnits.2 (.inr (.inl ⟨htc, hu⟩))
  | relay =>
    obtain ⟨u, hu, rfl⟩ := List.mem_map.1 hp
    exact GatherUnits.mem_allUnits.2 (.inr (.inr ⟨htc, hu⟩))

theorem start_mem_passSteps {s : MState} {c : Nat} {u : GUnit} (hh : s.cfg.candTypes.contains .host = true)
    (hg : (s.gateClosed && s.cfg.udpMux.isSome) = false) (hu : u ∈ hostIfaceUnits s.cfg s.ifs) :
    PassStep.start u ∈ passSteps s c :=
  List.mem_flatMap.2 ⟨.host, List.contains_iff_mem.1 hh, by
    simp only [passOf, hg, Bool.false_eq_true, ↓reduceIte, hostRun]
    exact List.mem_map.2 ⟨u, List.mem_append_right _ hu, rfl⟩⟩

theorem foldl_ind {α : Type} {P : MState → Prop} {s : MState} (f : MState → α → MState) (hf : ∀ s a, Keeps s (f s a))
    (l : List α) (step : ∀ s', Keeps s s' → P s' → ∀ a ∈ l, P (f s' a)) (h : P s) : P (l.foldl f s) := by
  suffices key : ∀ (m : List α) (s' : MState), (∀ a ∈ m, a ∈ l) → Keeps s s' → P s' → P (m.foldl f s') from
    key l s (fun _ ha => ha) (Keeps.refl s) h
  intro m
  induction m with
  | nil => intro s' _ _ h'; exact h'
  | cons a m ih =>
    intro s' hm hk h'
    exact ih _ (fun b hb => hm b (List.mem_cons_of_mem _ hb)) (hk.trans (hf s' a))
      (step s' hk h' a (hm a List.mem_cons_self))

theorem runCycleUnits_ind {P : MState → Prop} {s : MState} (c gen : Nat)
    (start : ∀ s', Keeps s s' → P s' → ∀ u ∈ allUnits s.cfg s.ifs, P (startUnit s' c gen u))
    (hold : ∀ s', Keeps s s' → P s' → s.cfg.candTypes.contains .host = true →
      P { s' with heldCycles := s'.heldCycles ++ [c] })
    (h : P s) : P (runCycleUnits s c gen) := by
  rw [runCycleUnits_eq]
  refine foldl_ind _ (doStep_keeps c gen) _ (fun s' hk h' p hp => ?_) h
  have hm := mem_passSteps hp
  cases p with
  | start u => exact start s' hk h' u hm
  | hold => exact hold s' hk h' hm

theorem runHost_ind {P : MState → Prop} {s : MState} (c gen : Nat)
    (start : ∀ s', Keeps s s' → P s' → ∀ u, u ∈ hostMuxUnits s.cfg ∨ u ∈ hostIfaceUnits s.cfg s.ifs →
      P (startUnit s' c gen u))
    (h : P s) : P (runHost s c gen) := by
  rw [runHost_eq]
  exact foldl_ind _ (fun s u => startUnit_keeps s c gen u) _
    (fun s' hk h' u hu => start s' hk h' u ((List.mem_append.1 hu).imp_left muxRun_sub)) h

theorem runHost_of_start {P : MState → Prop} (start : ∀ {s}, P s → ∀ c gen u, P (startUnit s c gen u))
    {s : MState} (h : P s) (c gen : Nat) : P (runHost s c gen) :=
  runHost_ind c gen (fun _ _ h' u _ => start h' c gen u) h

theorem runCycleUnits_of_start {P : MState → Prop} (start : ∀ {s}, P s → ∀ c gen u, P (startUnit s c gen u))
    (hold : ∀ {s}, P s → ∀ c, P { s with heldCycles := s.heldCycles ++ [c] })
    {s : MState} (h : P s) (c gen : Nat) : P (runCycleUnits s c gen) :=
  runCycleUnits_ind c gen (fun _ _ h' u _ => start h' c gen u) (fun _ _ h' _ => hold h' c) h

theorem runHost_keeps (s : MState) (c gen : Nat) : Keeps s (runHost s c gen) :=
  runHost_eq s c gen ▸ foldl_keeps _ (fun s u => startUnit_keeps s c gen u) _ s

theorem runCycleUnits_keeps (s : MState) (c gen : Nat) : Keeps s (runCycleUnits s c gen) :=
  runCycleUnits_eq s c gen ▸ foldl_keeps _ (doStep_keeps c gen) _ s

theorem gate_keeps (s : MState) :
    Keeps { s with gateClosed := false, heldCycles := [] }
      (s.heldCycles.foldl (fun s c => runHost s c (((s.cyc.cycles[c]?).map (·.gen)).getD 0))
        { s with gateClosed := false, heldCycles := [] }) := by
  -- the record and the list as variables: comparing states written as updates of `s` is slow
  generalize ({ s with gateClosed := false, heldCycles := [] } : MState) = s0
  generalize s.heldCycles = l
  induction l generalizing s0 with
  | nil => exact Keeps.refl _
  | cons c l ih => exact (runHost_keeps s0 c _).trans (ih _)

/-- `resume` detaches the units it answers and runs them one after the other; `I D s'` = what holds of the agent `s'`
while the units `D` are detached -/
theorem resume_ind {I : List Job → MState → Prop} (s : MState) (pick : Job → Option (Ans × Nat))
    (detach : I (s.jobs.filter (fun j => (pick j).isSome)) { s with jobs := s.jobs.filter (fun j => (pick j).isNone) })
    (run : ∀ (j : Job) (D : List Job) (s' : MState) (a : Ans) (m : Nat), j ∈ s.jobs → pick j = some (a, m) → I (j :: D) s' →
      I D (settle (exec s' { j with answer := some a, m := m } j.prog))) :
    I [] (resume s pick) := by
  unfold resume
  suffices key : ∀ (todo : List Job) (s' : MState), (∀ j ∈ todo, j ∈ s.jobs ∧ (pick j).isSome = true) → I todo s' →
      I [] (todo.foldl (fun s j =>
        match pick j with
        | none => s
        | some (a, m) => settle (exec s { j with answer := some a, m := m } j.prog)) s') from
    key _ _ (fun j hj => List.mem_filter.1 hj) detach
  intro todo
  induction todo with
  | nil => intro s' _ h; exact h
  | cons j todo ih =>
    intro s' ht h
    obtain ⟨hj, hs⟩ := ht j List.mem_cons_self
    refine ih _ (fun x hx => ht x (List.mem_cons_of_mem _ hx)) ?_
    cases hp : pick j with
    | none => rw [hp] at hs; cases hs
    | some am =>
      obtain ⟨a, m⟩ := am
      simp only [hp]
      exact run j todo s' a m hj hp h

theorem resume_keeps (s : MState) (pick : Job → Option (Ans × Nat)) : Keeps s (resume s pick) :=
  resume_ind (I := fun _ s' => Keeps s s') s pick ⟨rfl, rfl, rfl, rfl, rfl, rfl, fun _ h => h⟩
    (fun _ _ _ _ _ _ _ h => h.trans (run_keeps _ _ _))

/-- `s'` is `s` up to the cycle machine, the gate flag, the monitor, `lastKnown` and the counters of mux calls,
nil candidates and failures -/
def Book (s s' : MState) : Prop :=
  s' = { s with cyc := s'.cyc, gateClosed := s'.gateClosed, muxGets := s'.muxGets, nilOp := s'.nilOp,
                nilsGen := s'.nilsGen, failed := s'.failed, lastKnown := s'.lastKnown, mon := s'.mon }

theorem Book.cfg {s s' : MState} (h : Book s s') : s'.cfg = s.cfg :=
  (congrArg MState.cfg h :)
theorem Book.ifs {s s' : MState} (h : Book s s') : s'.ifs = s.ifs :=
  (congrArg MState.ifs h :)
theorem Book.now {s s' : MState} (h : Book s s') : s'.now = s.now :=
  (congrArg MState.now h :)
theorem Book.ifsHist {s s' : MState} (h : Book s s') : s'.ifsHist = s.ifsHist :=
  (congrArg MState.ifsHist h :)
theorem Book.cands {s s' : MState} (h : Book s s') : s'.cands = s.cands :=
  (congrArg MState.cands h :)
theorem Book.evs {s s' : MState} (h : Book s s') : s'.evs = s.evs :=
  (congrArg MState.evs h :)
theorem Book.jobs {s s' : MState} (h : Book s s') : s'.jobs = s.jobs :=
  (congrArg MState.jobs h :)
theorem Book.heldCycles {s s' : MState} (h : Book s s') : s'.heldCycles = s.heldCycles :=
  (congrArg MState.heldCycles h :)
theorem Book.opens {s s' : MState} (h : Book s s') : s'.opens = s.opens :=
  (congrArg MState.opens h :)
theorem Book.closes {s s' : MState} (h : Book s s') : s'.closes = s.closes :=
  (congrArg MState.closes h :)

/-- the agent model changes its cycle component through `Cycle.step` only -/
def CycMove (c c' : Cycle.State) : Prop := c' = c ∨ ∃ e, c' = (Cycle.step false c e).1

theorem finishCycle_book (s : MState) : Book s (finishCycle s) ∧ CycMove s.cyc (finishCycle s).cyc := by
  unfold finishCycle
  split
  · exact ⟨rfl, .inl rfl⟩
  · split
    · exact ⟨rfl, .inl rfl⟩
    · split
      · exact ⟨rfl, .inl rfl⟩
      · unfold startMonitorIf startMonitor
        split <;> exact ⟨rfl, .inr ⟨_, rfl⟩⟩

/-- kept by everything that happens while the clock stands still -/
structure Quiet (P : MState → Prop) : Prop where
  units : ∀ {s : MState}, P s → ∀ c gen, P (runCycleUnits s c gen)
  /-- the gate of the fake mux opens: the host gatherers of the held cycles run -/
  gate : ∀ {s : MState}, P s → P (s.heldCycles.foldl (fun s c => runHost s c (((s.cyc.cycles[c]?).map (·.gen)).getD 0))
    { s with gateClosed := false, heldCycles := [] })
  resume : ∀ {s : MState}, P s → ∀ pick, P (resume s pick)
  drop : ∀ {s : MState}, P s → P (dropCands s)
  upd : ∀ {s s' : MState}, P s → Book s s' → CycMove s.cyc s'.cyc → P s'

namespace Quiet
variable {P : MState → Prop} (hP : Quiet P)
include hP

theorem of_finishCycle {s : MState} (h : P s) : P (finishCycle s) :=
  hP.upd h (finishCycle_book s).1 (finishCycle_book s).2

theorem of_recordKnown {s : MState} (h : P s) : P (recordKnown s) := by
  unfold recordKnown
  split
  · exact hP.upd h rfl (.inl rfl)
  · exact h

theorem of_monPass {s : MState} (h : P s) (m : Mon) (c gen : Nat) : P (monPass s m c gen) := by
  unfold monPass
  have hd : P (detect s).1 := hP.upd h rfl (.inl rfl)
  split
  · exact hP.upd (hP.units hd c gen) rfl (.inl rfl)
  · exact hd

theorem of_monTick {s : MState} (h : P s) (m : Mon) : P (monTick s m) := by
  unfold monTick
  split
  · refine hP.of_monPass ?_ _ _ _
    exact hP.upd h rfl (.inr ⟨_, rfl⟩)
  · exact hP.upd h rfl (.inr ⟨_, rfl⟩)

theorem of_monKick {s : MState} (h : P s) : P (monKick s) := by
  unfold monKick
  split
  · exact h
  · split
    · exact h
    · split
      · refine hP.of_monTick ?_ _
        exact hP.upd h rfl (.inl rfl)
      · exact hP.upd h rfl (.inl rfl)

theorem of_tickDue {s : MState} (h : P s) : P (tickDue s) := by
  unfold tickDue
  split
  · exact h
  · split
    · exact h
    · split
      · exact hP.upd h rfl (.inl rfl)
      · refine hP.of_monTick ?_ _
        exact hP.upd h rfl (.inl rfl)

theorem of_expire {s : MState} (h : P s) : P (expire s) :=
  hP.of_monKick (hP.of_finishCycle (hP.resume h _))

theorem of_openGate {s : MState} (h : P s) : P (openGate s) :=
  hP.of_monKick (hP.of_finishCycle (hP.gate h))

theorem of_acceptGather {s : MState} (h : P s) : P (acceptGather s).1 := by
  simp only [acceptGather]
  split
  · exact hP.upd h rfl (.inr ⟨_, rfl⟩)
  · exact h
  · exact h

theorem of_startCycle {s : MState} (h : P s) (cg : Option (Nat × Nat)) : P (startCycle s cg) := by
  simp only [startCycle]
  split
  · exact h
  · rename_i c gen
    have hc : P { s with cyc := (Cycle.step false s.cyc (.start c)).1 } := hP.upd h rfl (.inr ⟨_, rfl⟩)
    split
    · exact hc
    · exact hP.of_finishCycle (hP.units (hP.of_recordKnown hc) _ _)

theorem of_restartOp {s : MState} (h : P s) : P (restartOp s).1 := by
  simp only [restartOp]
  split
  · refine hP.resume (hP.drop ?_) _
    exact hP.upd h rfl (.inr ⟨_, rfl⟩)
  · exact h

theorem of_applyFailed {s : MState} (h : P s) (n : Nat) : P (applyFailed s n) := by
  unfold applyFailed
  split
  · exact hP.upd (hP.drop h) rfl (.inl rfl)
  · exact h

end Quiet

/-- … and by the clock -/
structure Closed (P : MState → Prop) : Prop extends Quiet P where
  clock : ∀ {s : MState}, P s → ∀ t, P { s with now := t }

namespace Closed
variable {P : MState → Prop} (hP : Closed P)
include hP

theorem of_atTime {s : MState} (h : P s) (t : Nat) : P (atTime s t) :=
  hP.of_tickDue (hP.of_expire (hP.clock h _))

theorem of_advLoop : ∀ (fuel : Nat) {s : MState}, P s → ∀ target, P (advLoop fuel s target) := by
  intro fuel
  induction fuel with
  | zero => intro s h _; exact h
  | succ n ih =>
    intro s h target
    simp only [advLoop]
    split
    · exact h
    · exact ih (hP.of_atTime h _) target

theorem of_advTo {s : MState} (h : P s) (t : Nat) : P (advTo s t) := by
  unfold advTo advanceTo
  split
  · exact hP.of_atTime (hP.of_advLoop _ h _) _
  · exact hP.of_expire (hP.clock h _)

theorem of_closeWait {s : MState} (h : P s) (dl : Nat) : P (closeWait s dl) := by
  unfold closeWait
  split
  · exact hP.clock h _
  · exact h

theorem of_closeAgent {s : MState} (h : P s) : P (closeAgent s) := by
  unfold closeAgent
  refine hP.drop (hP.resume (hP.of_closeWait (hP.resume ?_ _) _) _)
  exact hP.upd (hP.of_openGate h) rfl (.inr ⟨_, rfl⟩)

theorem of_step {s : MState} (h : P s) (op : Op) (hop : ∀ t, op ≠ .ifaces t) : P (step s op).1 := by
  cases op with
  | ifaces t => exact absurd rfl (hop t)
  | hold => exact hP.upd h rfl (.inl rfl)
  | gather2 =>
    simp only [step]
    exact hP.of_startCycle (hP.of_startCycle (hP.of_acceptGather (hP.of_acceptGather h)) _) _
  | grg =>
    simp only [step]
    exact hP.of_startCycle (hP.of_startCycle (hP.of_acceptGather (hP.of_restartOp (hP.of_acceptGather h))) _) _
  | gather =>
    simp only [step]
    split
    · refine hP.of_finishCycle (hP.units (hP.of_recordKnown ?_) _ _)
      exact hP.upd (hP.upd (s' := { s with cyc := (Cycle.step false s.cyc .gather).1 }) h rfl (.inr ⟨_, rfl⟩)) rfl
        (.inr ⟨_, rfl⟩)
    · exact h
    · exact h
  | restart => exact hP.of_restartOp h
  | close => exact hP.of_closeAgent h
  | fail t n =>
    simp only [step]
    split
    · exact h
    · exact hP.of_applyFailed (hP.of_advTo h _) n
  | release => exact hP.of_openGate h
  | adv ms => exact hP.of_advTo h _
  | stunreply k m =>
    simp only [step]
    split
    · exact h
    · exact hP.of_monKick (hP.of_finishCycle (hP.resume h _))
  | turnreply k ok m =>
    simp only [step]
    split
    · exact h
    · exact hP.of_monKick (hP.of_finishCycle (hP.resume h _))

theorem of_any_step (hif : ∀ s t, P s → P (step s (.ifaces t)).1) {s : MState} (h : P s) (op : Op) : P (step s op).1 := by
  by_cases hop : ∃ t, op = .ifaces t
  · obtain ⟨t, rfl⟩ := hop
    exact hif s t h
  · exact hP.of_step h op (fun t ht => hop ⟨t, ht⟩)

end Closed

end IceProofs.GatherClosed

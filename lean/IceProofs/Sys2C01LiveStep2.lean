import IceProofs.Sys2C01LiveStep
import IceProofs.AgentC06Step
import IceProofs.AgentC06Read
/-!
# C01 liveness — the progress lemmas at the level of one `step` (inbound STUN followed by the forced tick,
if any) of a `Good` agent that satisfies the bookkeeping invariant of C06 (`AgentC06.Inv`: candidate identities
unique and below the counter, pair ends current).
-/
namespace IceProofs.C01Live
open IceModel.AgentCore IceProofs.C03 IceProofs.Agent

theorem endsOK_of_c06 {a : Agent} (h : IceProofs.AgentC06.Inv a) (hc : a.closed = false) : EndsOK a := by
  intro p hp
  obtain ⟨l, r, h1, h2, _⟩ := h.read_ends hc p hp
  exact ⟨by rw [h1]; rfl, by rw [h2]; rfl⟩

theorem uid_facts {a : Agent} (h : IceProofs.AgentC06.Inv a) {l : Cand} (hl : l ∈ a.locals) :
    (∃ l', a.localOf l.uid = some l' ∧ l'.equal l = true) ∧ (∀ c ∈ a.remotes, a.remoteOf c.uid = some c) ∧
    a.remoteOf a.nextUid = none := by
  obtain ⟨h1, h2, _, _, h5⟩ := h.read_uids
  refine ⟨⟨l, findCand_of_nodup h1 hl, by simp [Cand.equal, Cand.taEqual]⟩,
    fun c hc => findCand_of_nodup h2 hc, ?_⟩
  unfold Agent.remoteOf findCand
  rw [List.find?_eq_none]
  intro c hc
  have := h5 c hc
  simp only [beq_iff_eq]
  omega

theorem findPair_congr (a : Agent) {l l' r r' : Cand} (hl : ckey l' = ckey l) (hr : ckey r' = ckey r) :
    a.findPair l' r' = a.findPair l r :=
  Prog.findPair_congr rfl (Prog.CandSame.refl a) hl hr

theorem slot_of_pair {a : Agent} (hloc : CandsOK a.locals) (hrem : CandsOK a.remotes) {p : Pair} (hp : p ∈ a.checklist)
    {l r : Cand} (hl : a.localOf p.l = some l) (hr : a.remoteOf p.r = some r) :
    a.localByAddr l.addr = some l ∧ a.findRemote 0 r.addr = some r ∧ ∃ q, a.findPair l r = some q := by
  have hlm := (findCand_listed hl).1
  have hrm := (findCand_listed hr).1
  refine ⟨?_, ?_, ?_⟩
  · cases hf : a.localByAddr l.addr with
    | none =>
      unfold Agent.localByAddr at hf
      rw [List.find?_eq_none] at hf
      exact absurd (by simp) (hf l hlm)
    | some l1 =>
      obtain ⟨h1, h2⟩ := localByAddr_listed hf
      rw [Prog.pairwise_inj_mem (f := Cand.addr) hloc.2 h1 hlm h2]
  · cases hf : a.findRemote 0 r.addr with
    | none =>
      unfold Agent.findRemote at hf
      rw [List.find?_eq_none] at hf
      exact absurd (by simp [(hrem.1 r hrm).1]) (hf r hrm)
    | some r1 =>
      obtain ⟨h1, h2⟩ := IceProofs.C01.findRemote_spec hf
      rw [Prog.pairwise_inj_mem (f := Cand.addr) hrem.2 h1 hrm h2]
  · cases hf : a.findPair l r with
    | some q => exact ⟨q, rfl⟩
    | none =>
      exfalso
      unfold Agent.findPair at hf
      rw [List.find?_eq_none] at hf
      have := hf p hp
      rw [hl, hr] at this
      simp [Cand.equal, Cand.taEqual] at this

section
variable {T0 H now : Nat} {a : Agent}

theorem step_request_answered (hg : Good T0 H a) {la src : Nat} {m : Msg} {l : Cand}
    (hl : a.localByAddr la = some l) (ha : AuthRequest a m) (hnc : NoConflict a m)
    (hflt : a.cfg.blockedIPs.contains (ipOf src) = false) :
    Out.dgram la src (respMsg a m) ∈ (step a (.inbound now la src m)).2 := by
  rw [hg.step_inbound hl]
  have := request_answered a now l src m ha hnc (Or.inr hflt)
  rw [(IceProofs.Agent.localByAddr_listed hl).2] at this
  exact List.mem_append_left _ this

theorem step_request_nominates (h0 : T0 ≤ now) (hn : now ≤ H) (hg : Good T0 H a) (hc6 : IceProofs.AgentC06.Inv a)
    {la src : Nat} {m : Msg} {l : Cand}
    (hl : a.localByAddr la = some l) (ha : AuthRequest a m) (hnc : NoConflict a m)
    (hflt : a.cfg.blockedIPs.contains (ipOf src) = false) (hctl : a.controlling = false)
    (huc : m.useCand = true) (hnom : m.nom = none) :
    (step a (.inbound now la src m)).1.selected.isSome = true ∨
    ∃ l' rc q mt, (step a (.inbound now la src m)).1.localByAddr la = some l' ∧
      (step a (.inbound now la src m)).1.findRemote 0 src = some rc ∧
      (step a (.inbound now la src m)).1.findPair l' rc = some q ∧ q.nomOnSuccess = true ∧
      Out.dgram la src mt ∈ (step a (.inbound now la src m)).2 ∧ IsReq a false mt ∧
      (step a (.inbound now la src m)).1.pending.find? (·.tid == mt.tid) = some (pendOf mt.tid la src 0 false now) := by
  obtain ⟨hlm, hla⟩ := IceProofs.Agent.localByAddr_listed hl
  have hnet : l.net = 0 := (hg.locOK.1 l hlm).1
  obtain ⟨u1, u2, u3⟩ := uid_facts hc6 hlm
  have hok : AuthRequest a m → m.nom = none ∧ NoConflict a m := fun _ => ⟨hnom, hnc⟩
  have k1 := (handleInbound_walk (T0 := T0) (now := now) a l src m h0 hnet hg.full hg.linv hlm hok).lk
  have id1 := handleInbound_sameId a now l src m (fun h => (hok h).2)
  have g1 := handleInbound_good0 (now := now) h0 hg l hlm src m hok
  obtain ⟨_, k2, _⟩ := inbound_runForced h0 hn hg l hlm src m hok
  have he1 : EndsOK (a.handleInbound now l src m).1 :=
    endsOK_of_c06 (hc6.handleInbound hg.open_ now l src m hlm) (by rw [id1.closed]; exact hg.open_)
  rw [hg.step_inbound hl]
  rcases request_nominates a now l src m ha hnc (Or.inr hflt) hg.full hctl huc hnom hg.linv u1 u2 u3 with
    h | ⟨rc, q, mt, f1, f2, f3, _, f5, f6, f7⟩
  · exact Or.inl (k2.sel h)
  · obtain ⟨l1, hl1, e1⟩ := k1.localByAddr hl
    obtain ⟨l2, hl2, e2⟩ := k2.localByAddr hl1
    rw [hnet] at f1
    obtain ⟨rc2, hrc2, krc⟩ := k2.findRemote f1
    obtain ⟨q2, hq2, kq⟩ := k2.findPair he1 (e2.trans e1) krc.key f2
    rw [hla] at f5 f7
    rw [hnet] at f7
    rcases kq.nomOn f3 with hmark | hsel
    · right
      refine ⟨l2, rc2, q2, mt, hl2, hrc2, hq2, hmark, List.mem_append_left _ f5, f6, ?_⟩
      exact k2.pend _ _ f7 (by simp [pendOf, maxBindingRequestTimeout]) (by simp)
    · exact Or.inl (hsel g1.linv)

theorem step_response_validates (h0 : T0 ≤ now) (hn : now ≤ H) (hg : Good T0 H a) {la src : Nat} {m : Msg}
    {l r : Cand} {pd : Pending} {p : Pair}
    (hl : a.localByAddr la = some l) (hcls : m.cls = 2) (hmeth : m.method = 1) (hkey : m.key = some a.remotePwd)
    (hr : a.findRemote 0 src = some r) (hpd : a.pending.find? (·.tid == m.tid) = some pd)
    (hyoung : now - pd.ts < maxBindingRequestTimeout) (hnet : pd.net = 0) (hdest : pd.dest = src)
    (hsrc : pd.src = la) (hp : a.findPair l r = some p) :
    (∃ p' ∈ (step a (.inbound now la src m)).1.checklist, p'.state = .succeeded)
    ∧ (a.controlling = true → pd.useCand = true → pd.nom = none → (step a (.inbound now la src m)).1.selected.isSome = true)
    ∧ (a.controlling = false → p.nomOnSuccess = true → (step a (.inbound now la src m)).1.selected.isSome = true) := by
  obtain ⟨hlm, hla⟩ := IceProofs.Agent.localByAddr_listed hl
  have hnet0 : l.net = 0 := (hg.locOK.1 l hlm).1
  have hok : AuthRequest a m → m.nom = none ∧ NoConflict a m := by
    intro h; exfalso; have := h.2.1; rw [hcls] at this; cases this
  obtain ⟨_, k2, _⟩ := inbound_runForced h0 hn hg l hlm src m hok
  rw [hg.step_inbound hl]
  rw [← hnet0] at hr
  obtain ⟨v1, v2, v3⟩ := response_validates a now l src m r pd p hcls hmeth hkey hr hpd hyoung (by rw [hnet, hnet0]) hdest
    (by rw [hsrc, hla]) hp
  refine ⟨?_, fun x y z => k2.sel (v2 x y z), fun x y => k2.sel (v3 x y (hg.linv.noDefer p ((findPair_listed hp).1)))⟩
  obtain ⟨p', hp', _, hs⟩ := v1
  obtain ⟨p'', hp'', kp⟩ := k2.mem_pair hp'
  exact ⟨p'', hp'', kp.succ hs⟩

theorem step_response_noop (hg : Good T0 H a) {la src : Nat} {m : Msg} (hcls : m.cls = 2)
    (h : m.method ≠ 1 ∨ m.key ≠ some a.remotePwd ∨ ∀ l, a.localByAddr la = some l → a.findRemote l.net src = none) :
    step a (.inbound now la src m) = (a, []) := by
  cases hl : a.localByAddr la with
  | none => exact hg.step_inbound_none hl now src m
  | some l =>
    rw [hg.step_inbound hl]
    have hi : a.handleInbound now l src m = (a, []) := by
      rw [handleInbound_stages]
      rcases h with h | h | h
      · have : (m.method == 1) = false := by simp [h]
        simp [this]
      · split
        · rfl
        · simp only [hcls, beq_self_eq_true, if_true]
          have : (m.key != some a.remotePwd) = true := by simp [h]
          simp [this]
      · split
        · rfl
        · simp only [hcls, beq_self_eq_true, if_true]
          split
          · rfl
          · rw [h l hl]
    rw [hi]
    rw [runForced_of_noForce a now hg.noForce]
    rfl

end

end IceProofs.C01Live

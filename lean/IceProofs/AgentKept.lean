import IceProofs.AgentMoves
/-!
# What the moves below the selectors' decisions leave alone

`Agent.kept` projects an agent on the fields that are written only by the session calls, by the selectors when they
record a nomination value or switch role in a role conflict, by the automatic renomination, by the tick loop and by
`Read`.  Every move of another kind — on candidates, pairs, transactions, the selection, the connection state, the send
path — leaves it alone (`kept_move`), hence so does every helper made of such moves (`kept_*`).  A projection of the agent that reads
it through `kept` only inherits all of these at once; for the helpers that do write `kept`, `*_kept` says which of its
fields the projection must not read.
-/
namespace IceProofs.Agent
open IceModel.AgentCore

structure Kept where
  cfg : Config
  tieBreaker : Nat
  tag : Nat
  controlling : Bool
  started : Bool
  closed : Bool
  localUfrag : String
  localPwd : String
  remoteUfrag : String
  remotePwd : String
  selStart : Nat
  lastNomination : Option Nat
  answeredNomination : Option Nat
  lastSeen : ConnState
  checkingStart : Nat
  checkingTimeout : Nat
  nextTick : Option Nat
  connBytesRecv : Nat
  generation : Nat
  nomIssued : List (Nat × Nat × Nat)
  lastRenomTime : Option Nat
  nomCounter : Nat
end IceProofs.Agent
namespace IceModel.AgentCore
def Agent.kept (a : Agent) : IceProofs.Agent.Kept :=
  ⟨a.cfg, a.tieBreaker, a.tag, a.controlling, a.started, a.closed, a.localUfrag, a.localPwd, a.remoteUfrag, a.remotePwd,
   a.selStart, a.lastNomination, a.answeredNomination, a.lastSeen, a.checkingStart, a.checkingTimeout, a.nextTick,
   a.connBytesRecv, a.generation, a.nomIssued, a.lastRenomTime, a.nomCounter⟩
end IceModel.AgentCore
namespace IceProofs.Agent
open IceModel.AgentCore

theorem kept_sendRequest (a : Agent) (now : Nat) (l r : Cand) (u : Bool) (n : Option Nat) :
    (a.sendRequest now l r u n).1.kept = a.kept := by
  rw [sendRequest_fst_eq]
  rfl

variable {β : Type}

/-- `f` does not read the role and the selector's fields -/
def IgnoresSelector (f : Kept → β) : Prop :=
  ∀ k c s ln an, f { k with controlling := c, selStart := s, lastNomination := ln, answeredNomination := an } = f k

/-- `f` does not read the bookkeeping of the automatic renomination -/
def IgnoresAuto (f : Kept → β) : Prop :=
  ∀ k t n l, f { k with lastRenomTime := t, nomCounter := n, nomIssued := l } = f k

/-- `f` does not read the fields of the tick loop -/
def IgnoresTick (f : Kept → β) : Prop :=
  ∀ k s c t, f { k with lastSeen := s, checkingStart := c, nextTick := t } = f k

/-- What a projection `f` of `kept` must not read for moves of kind `k` to leave it alone: the kinds that write `kept` are
the selectors' records (the value answered; the value accepted, when a request is in hand), the role switch in a role
conflict, the automatic renomination, the tick loop's own fields, `Read` (the bytes received) — and the session calls,
which no `f` tolerates: a context in which a session move may occur has no `kept` lemma, even for a field that no session
call writes. -/
def Tolerates (cx : Ctx) (f : Kept → β) : Kind → Prop
  | .accept => (∀ k an, f { k with answeredNomination := an } = f k) ∧
      ((∃ now l src m, cx.answers now l src m) → ∀ k ln, f { k with lastNomination := ln } = f k)
  | .role => (∃ now l src m, cx.refuses now l src m) → IgnoresSelector f
  | .auto | .renom => IgnoresAuto f
  | .timer => IgnoresTick f
  | .read => ∀ k n, f { k with connBytesRecv := n } = f k
  | .session => False
  | _ => True

theorem kept_move {cx : Ctx} (f : Kept → β) (hk : ∀ k, cx.may k → Tolerates cx f k) {a : Agent} {r : Agent × List Out}
    (h : Move cx a r) : f r.1.kept = f a.kept := by
  cases h with
  | select id => rw [select_update]; rfl
  | request now l r uc => exact congrArg f (kept_sendRequest a now l r uc none)
  | issue now l r v _ _ _ _ h =>
    have ha : IgnoresAuto f := h.elim (hk _) (hk _)
    exact (ha _ _ _ _).trans (congrArg f (kept_sendRequest a now l r true _))
  | answered v h => exact (hk _ h).1 a.kept v
  | lastNomination now l src m hm h => exact (hk _ h).2 ⟨now, l, src, m, hm⟩ a.kept _
  | switch now l src m hm h => exact hk _ h ⟨now, l, src, m, hm⟩ a.kept (!a.controlling) now none none
  | renomTime now _ h => exact hk _ h a.kept (some now) a.nomCounter a.nomIssued
  | nomCounter _ h => exact hk _ h a.kept a.lastRenomTime (a.nomCounter + 1) a.nomIssued
  | sawState _ h => exact hk _ h a.kept a.connState a.checkingStart a.nextTick
  | checkingStart now _ h => exact hk _ h a.kept a.lastSeen now a.nextTick
  | nextTick t _ h => exact hk _ h a.kept a.lastSeen a.checkingStart (some t)
  | read _ _ _ h => exact hk _ h a.kept _
  | armChecks h => exact (hk _ h).elim
  | start _ _ _ _ h => exact (hk _ h).elim
  | creds _ _ h => exact (hk _ h).elim
  | restart _ _ _ h => exact (hk _ h).elim
  | close h => exact (hk _ h).elim
  | _ => rfl

theorem kept_chain {cx : Ctx} (f : Kept → β) (hk : ∀ k, cx.may k → Tolerates cx f k) {a : Agent} {r : Agent × List Out}
    (h : Chain cx a r) : f r.1.kept = f a.kept :=
  Chain.ind (R := fun a r => f r.1.kept = f a.kept) (fun _ => rfl) (fun _ _ => kept_move f hk) (fun h1 h2 => h2.trans h1) h

theorem IgnoresSelector.answered {f : Kept → β} (h : IgnoresSelector f) (k : Kept) (an : Option Nat) :
    f { k with answeredNomination := an } = f k := h k k.controlling k.selStart k.lastNomination an

theorem IgnoresSelector.last {f : Kept → β} (h : IgnoresSelector f) (k : Kept) (ln : Option Nat) :
    f { k with lastNomination := ln } = f k := h k k.controlling k.selStart ln k.answeredNomination

/-- the kinds of moves that leave `kept` alone -/
abbrev quiet (k : Kind) : Prop := k = .tick ∨ k = .data ∨ k = .locals ∨ k = .remotes ∨ k = .select ∨ k = .forced

theorem kept_quiet {a : Agent} {r : Agent × List Out} (h : Chain (.only quiet) a r) : r.1.kept = a.kept :=
  kept_chain id (by rintro k (rfl | rfl | rfl | rfl | rfl | rfl) <;> trivial) h

theorem kept_setConnState (a : Agent) (s : ConnState) : (a.setConnState s).1.kept = a.kept := by
  unfold Agent.setConnState
  split
  · rfl
  · split <;> rfl

theorem kept_select (a : Agent) (id : Nat) : (a.select id).1.kept = a.kept := by rw [select_update]; rfl

theorem kept_ping (a : Agent) (now : Nat) (l r : Cand) : (a.ping now l r).1.kept = a.kept :=
  kept_sendRequest a now l r false none

theorem kept_sendSuccess (a : Agent) (now : Nat) (m : Msg) (l r : Cand) : (a.sendSuccess now m l r).1.kept = a.kept :=
  kept_quiet (.sendSuccess a now m l r (src := 0) trivial nofun)

theorem kept_pingAll (a : Agent) (now : Nat) : (a.pingAll now).1.kept = a.kept := kept_quiet (.pingAll a now)

theorem kept_validateSelected (a : Agent) (now : Nat) : (a.validateSelected now).1.kept = a.kept :=
  kept_quiet (.validateSelected a now)

theorem kept_nominate (a : Agent) (now : Nat) (p : Pair) : (a.nominate now p).1.kept = a.kept :=
  kept_quiet (.nominate a now p nofun)

theorem kept_keepalive (a : Agent) (now : Nat) : (a.keepalive now).1.kept = a.kept := kept_quiet (.keepalive a now)

theorem kept_addRemoteCandidate (a : Agent) (c : Cand) : (a.addRemoteCandidate c).1.kept = a.kept :=
  kept_quiet (.addRemoteCandidate a c trivial)

theorem kept_addLocalCandidate (a : Agent) (c : Cand) : (a.addLocalCandidate c).1.kept = a.kept :=
  kept_quiet (.addLocalCandidate a c trivial)

theorem kept_takePending (a : Agent) (now tid : Nat) : (a.takePending now tid).1.kept = a.kept :=
  kept_quiet (.takePending a now tid)

theorem kept_ctlHandleRequest (a : Agent) (now : Nat) (m : Msg) (l r : Cand) :
    (a.ctlHandleRequest now m l r).1.kept = a.kept :=
  kept_quiet (.ctlHandleRequest a now m l r (src := 0) trivial nofun nofun)

theorem kept_cldNominate (a : Agent) (m : Msg) (id : Nat) : (cldNominate a m id).1.kept = a.kept :=
  kept_quiet (.cldNominate a m id (now := 0) (l := default) (src := 0) trivial nofun)

theorem kept_cldProceed (a : Agent) (now : Nat) (m : Msg) (l r : Cand) (id : Nat) :
    (cldProceed a now m l r id).1.kept = a.kept :=
  kept_quiet (.cldProceed a now m l r id (src := 0) trivial nofun nofun)

theorem kept_ensurePair (a : Agent) (l r : Cand) : (ensurePair a l r).1.kept = a.kept :=
  kept_quiet (.ensurePair a l r nofun)

theorem kept_write (a : Agent) (now len : Nat) (s : Bool) : (a.write now len s).1.kept = a.kept :=
  kept_quiet (.write a now len s)

theorem kept_writeToPair (a : Agent) (now id len : Nat) (s : Bool) : (a.writeToPair now id len s).1.kept = a.kept :=
  kept_quiet (.writeToPair a now id len s)

theorem kept_inboundData (a : Agent) (now : Nat) (l : Cand) (src len : Nat) :
    (a.inboundData now l src len).1.kept = a.kept :=
  kept_quiet (.inboundData a now l src len nofun)

theorem handleInbound_kept (f : Kept → β) (hf : IgnoresSelector f) (a : Agent) (now : Nat) (l : Cand) (src : Nat)
    (m : Msg) : f (a.handleInbound now l src m).1.kept = f a.kept :=
  kept_chain (cx := .only fun k => k = .remotes ∨ k = .select ∨ k = .accept ∨ k = .role ∨ k = .forced) f
    (by
      rintro k (rfl | rfl | rfl | rfl | rfl)
      · trivial
      · trivial
      · exact ⟨hf.answered, fun _ => hf.last⟩
      · exact fun _ => hf
      · trivial)
    (.handleInbound a now l src m (fun _ _ _ _ => trivial) (fun _ => trivial) (fun _ _ _ _ _ _ _ _ _ _ => trivial)
      (fun _ _ => trivial) nofun)

theorem handleInbound_unauth_kept (f : Kept → β) (hf : ∀ k an, f { k with answeredNomination := an } = f k) (a : Agent)
    (now : Nat) (l : Cand) (src : Nat) (m : Msg) (h : ¬ AuthRequest a m) : f (a.handleInbound now l src m).1.kept = f a.kept :=
  kept_chain (cx := { Ctx.only (fun k => k = .remotes ∨ k = .select ∨ k = .accept ∨ k = .role ∨ k = .forced) with
      answers := fun _ _ _ _ => False, refuses := fun _ _ _ _ => False }) f
    (by
      rintro k (rfl | rfl | rfl | rfl | rfl)
      · trivial
      · trivial
      · exact ⟨hf, fun ⟨_, _, _, _, h⟩ => h.elim⟩
      · exact fun ⟨_, _, _, _, h⟩ => h.elim
      · trivial)
    (.handleInbound a now l src m (fun ha => absurd ha h) (fun ha => absurd ha h) (fun _ _ _ _ _ _ _ _ _ _ => trivial)
      (fun _ _ => trivial) nofun)

theorem handleSuccess_kept (f : Kept → β) (hf : ∀ k an, f { k with answeredNomination := an } = f k) (a : Agent) (now : Nat)
    (m : Msg) (l r : Cand) (src : Nat) : f (a.handleSuccess now m l r src).1.kept = f a.kept :=
  kept_chain (cx := { Ctx.only (fun k => k = .select ∨ k = .accept) with answers := fun _ _ _ _ => False }) f
    (by
      rintro k (rfl | rfl)
      · trivial
      · exact ⟨hf, fun ⟨_, _, _, _, h⟩ => h.elim⟩)
    (.handleSuccess a now m l r src fun _ _ _ _ _ => trivial)

/-- the kinds of moves of a tick -/
abbrev ticking (k : Kind) : Prop := k = .tick ∨ k = .timer ∨ k = .auto ∨ k = .forced

theorem kept_ticking (f : Kept → β) (ha : IgnoresAuto f) (ht : IgnoresTick f) {a : Agent} {r : Agent × List Out}
    (h : Chain (.only ticking) a r) : f r.1.kept = f a.kept :=
  kept_chain f (by
    rintro k (rfl | rfl | rfl | rfl)
    · trivial
    · exact ht
    · exact ha
    · trivial) h

/-- the tick's moves but for the loop's own bookkeeping -/
abbrev checking (k : Kind) : Prop := k = .tick ∨ k = .auto

theorem kept_checking (f : Kept → β) (hf : IgnoresAuto f) {a : Agent} {r : Agent × List Out}
    (h : Chain (.only checking) a r) : f r.1.kept = f a.kept :=
  kept_chain f (by
    rintro k (rfl | rfl)
    · trivial
    · exact hf) h

theorem contactCandidates_kept (f : Kept → β) (hf : IgnoresAuto f) (a : Agent) (now : Nat) :
    f (a.contactCandidates now).1.kept = f a.kept :=
  kept_checking f hf (.contactCandidates a now)

theorem contact_kept (f : Kept → β) (ha : IgnoresAuto f) (ht : IgnoresTick f) (a : Agent) (now : Nat) :
    f (a.contact now).1.kept = f a.kept := kept_ticking f ha ht (.contact a now)

theorem runForced_kept (f : Kept → β) (ha : IgnoresAuto f) (ht : IgnoresTick f) (a : Agent) (now : Nat) :
    f (a.runForced now).1.kept = f a.kept := kept_ticking f ha ht (.runForced a now)

theorem runTimers_kept (f : Kept → β) (ha : IgnoresAuto f) (ht : IgnoresTick f) (a : Agent) (now fuel : Nat) :
    f (a.runTimers now fuel).1.kept = f a.kept := kept_ticking f ha ht (.runTimers a now fuel)

end IceProofs.Agent

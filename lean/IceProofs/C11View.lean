import IceProofs.LineProto
import IceSpec.C11View
/-!
# C11: every typed event is read back from its printed history token
-/
namespace IceProofs.C11View
open IceSpec.LineProto IceProofs.LineProto IceSpec.C11 IceSpec.C11.View

theorem parseTok_printTok (e : HEv) : parseTok (printTok e) = some e := by
  cases e with
  | closeCall j g => cases g <;> simp [printTok, parseTok, splitC_joinC, mem_digits]
  | _ => simp [printTok, parseTok, natTok, toNat?_digits, splitC_joinC, mem_digits]

theorem parseGTok_printGTok (e : GEv) : parseGTok (printGTok e) = some e := by
  unfold printGTok
  split <;> simp [parseGTok, natTok, toNat?_digits]

theorem monitorToks_print (evs : List HEv) : monitorToks (evs.map printTok) = monitorStream evs := by
  unfold monitorToks
  rw [mapM_print parseTok printTok parseTok_printTok]

theorem monitorGToks_print (needCand : Bool) (evs : List GEv) :
    monitorGToks needCand (evs.map printGTok) = monitorGather needCand evs := by
  unfold monitorGToks
  rw [mapM_print parseGTok printGTok parseGTok_printGTok]

end IceProofs.C11View

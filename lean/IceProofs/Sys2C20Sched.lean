import IceProofs.Sys2C20Inv
/-!
# C20 on `Sys2` — induction principle over the schedules of an exchange

`sched_run`: a predicate `R h s` on (history, system state) that implies `Session`, is indifferent to the clock and to
the removal of datagrams in flight, and is preserved by one agent event — an API call, a timer tick, or the delivery of
a datagram about which `R` knows `D` — is preserved by every system event that is neither Restart nor Close, keeps the
session and issues no nomination with value 0.
-/
namespace IceProofs.C20S
open IceModel.AgentCore IceModel.Sys2 IceProofs.Sys2Run IceProofs.Agent IceProofs.Sys2C05

/-- a filter on API events, lifted to system events (hub events always pass) -/
def sysK (K : Ev → Bool) : SysEv → Bool
  | .api _ e => K e
  | _ => true

/-- Restart and Close are outside an exchange -/
def sysKeeps : SysEv → Bool := sysK keeps

theorem keeps_of_not_api {ev : Ev} (h : ev.isApi = false) : keeps ev = true := by
  cases ev <;> first | rfl | cases h

theorem hstepSys_drop (h : Hist) (s : Sys) (k : Nat) : hstepSys h s (.drop k) = h := rfl

theorem agentEv_nat' (s : Sys) (X : Bool) (e : Ev) : (s.agentEv X e).1.nat = s.nat := (agentEv_topo s X e).1

section
variable (K : Ev → Bool) (R : Hist → Sys → Prop) (D : Hist → Sys → Dgram → Prop) (Z : List Nomination → Prop)

/-- what `sched_run` asks of `R` (`K` = the API events allowed; hub events are always allowed; `Z` = what is assumed of the
log of issued nominations after the event) -/
structure SchedOKZ : Prop where
  hub : ∀ ev, ev.isApi = false → K ev = true
  sess : ∀ h s, R h s → Session s
  dgram : ∀ h s, R h s → ∀ d ∈ s.inflight, D h s d
  dframe : ∀ h s s' d, Hub s s' → D h s d → D h s' d
  frame : ∀ h s s', Hub s s' → R h s → R h s'
  agent : ∀ h s X ev, R h s → K ev = true →
    ((∀ now la src m, ev ≠ .inbound now la src m) ∨ ∃ d, D h s d ∧ ev = evOf s d) →
    Session (s.agentEv X ev).1 → Z (hstep h X (s.agent X) ev).issued →
    R (hstep h X (s.agent X) ev) (s.agentEv X ev).1

/-- … with "every value issued is positive" for `Z` -/
abbrev SchedOK : Prop := SchedOKZ K R D (fun l => ∀ x ∈ l, 0 < x.1)

variable {K R D Z}

theorem sched_run (ok : SchedOKZ K R D Z) {h : Hist} {s : Sys} (q : R h s) (e : SysEv)
    (hk : sysK K e = true) (hsess : Session (Sys.run s e)) (hz : Z (hstepSys h s e).issued) :
    R (hstepSys h s e) (Sys.run s e) := by
  have fr : ∀ s0, Hub s s0 → R h s0 := fun s0 hub => ok.frame h s s0 hub q
  have ni : ∀ now n la src m, Ev.advance now ≠ .inbound n la src m := fun _ _ _ _ _ he => by cases he
  refine run_rule (P := fun e s' => sysK K e = true → Session s' → Z (hstepSys h s e).issued → R (hstepSys h s e) s') s
    ?_ ?_ ?_ e hk hsess hz
  · intro e s0 hub hm _ _ _
    simp only [hstepSys, hm, List.foldl_nil]
    exact fr s0 hub
  · intro e s0 X ev hub hm hv hk hsess hz
    simp only [hstepSys, hm, List.foldl_cons, List.foldl_nil] at hz ⊢
    rw [← hub.agent X] at hz ⊢
    have hK : K ev = true := by
      rcases hv.isApi with ⟨_, rfl⟩ | h
      · exact hk
      · exact ok.hub _ h
    exact ok.agent h s0 X ev (fr s0 hub) hK (hv.cases.imp id fun ⟨d, hd, he⟩ =>
      ⟨d, ok.dframe h s s0 d hub (ok.dgram h s q d hd), he⟩) hsess hz
  · intro now s0 hub _ hm _ hsess hz
    simp only [hstepSys, hm, List.foldl_cons, List.foldl_nil] at hz ⊢
    have hb1 := (agentEv_other s0 false (.advance now)).trans (hub.agent true)
    rw [← hub.agent false, ← hb1] at hz ⊢
    have hK : K (.advance now) = true := ok.hub _ rfl
    -- A's tick: its post-state is A's state in the final state, B is as before
    have hsA : Session (s0.agentEv false (.advance now)).1 := by
      have hA := session_postA hsess
      rw [agentEv_a_true] at hA
      exact session_iff.2 ⟨hA, by rw [agentEv_b_false]; exact session_postB (ok.sess h s0 (fr s0 hub))⟩
    exact ok.agent _ _ true _ (ok.agent h s0 false _ (fr s0 hub) hK (Or.inl (ni now)) hsA hz) hK (Or.inl (ni now)) hsess hz

end

end IceProofs.C20S

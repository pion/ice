import IceProofs.AgentC20
/-!
# `lastNomination` along arbitrary event sequences

`step_lastNomination`: in one step `lastNomination` is reset (effective start / restart / lost role
conflict), or passed through `shouldAcceptNomination` (a request handed to the controlled selector), or
untouched.  By induction over the event list: between resets it is the maximum of the accepted values and
a valued nomination is accepted iff it exceeds all of them.
-/
namespace IceProofs.Agent
open IceModel.AgentCore

/-- the nomination value the event offers to the controlled selector, if any -/
def offer (a : Agent) (ev : Ev) : Option Nat := (cldDeliversEv a ev).bind (·.nom)

theorem step_lastNomination (a : Agent) (ev : Ev) :
    (step a ev).1.lastNomination =
      if resetsSelector a ev then none
      else match cldDeliversEv a ev with
        | some m => (shouldAcceptNomination m.nom a.lastNomination).1
        | none => a.lastNomination := by
  rw [← core_lastNomination (step a ev).1]
  cases core_step a ev with
  | same hr hd hc => rw [hc, hr, hd]; rfl
  | start _ _ _ _ _ h hc => rw [hc, show resetsSelector a ev = true by simp [resetsSelector, h]]; rfl
  | restart _ _ _ he h hc =>
    subst he; rw [hc, show resetsSelector a _ = true by simp [resetsSelector, restartTakesEffect, h]]; rfl
  | creds _ _ he hc => subst he; rw [hc]; rfl
  | close he hc => subst he; rw [hc]; rfl
  | switch _ h hc => rw [hc, show resetsSelector a ev = true by simp [resetsSelector, h]]; rfl
  | deliver m he hs hd hc =>
    obtain ⟨now, la, src, rfl⟩ := he
    have hr : resetsSelector a (.inbound now la src m) = false := hs
    rw [hc, hr, hd]; rfl

theorem step_lastNomination_offer (a : Agent) (ev : Ev) (hr : resetsSelector a ev = false) :
    (step a ev).1.lastNomination =
      match offer a ev with
      | some v => (shouldAcceptNomination (some v) a.lastNomination).1
      | none => a.lastNomination := by
  rw [step_lastNomination, hr]
  simp only [Bool.false_eq_true, if_false]
  unfold offer
  cases hd : cldDeliversEv a ev with
  | none => rfl
  | some m =>
    simp only [Option.bind_some]
    cases hn : m.nom with
    | none => rfl
    | some v => rfl

/-- the value accepted at this step, if any (the decision of `shouldAcceptNomination` in the arrival state) -/
def accepted (a : Agent) (ev : Ev) : Option Nat :=
  match offer a ev with
  | some v => if (shouldAcceptNomination (some v) a.lastNomination).2 then some v else none
  | none => none

/-- values accepted along a run, oldest first -/
def acceptedLog (a : Agent) : List Ev → List Nat
  | [] => []
  | e :: es => (accepted a e).toList ++ acceptedLog (step a e).1 es

/-- no event of the run installs a fresh selector -/
def stable (a : Agent) : List Ev → Bool
  | [] => true
  | e :: es => !resetsSelector a e && stable (step a e).1 es

/-- order on `Option Nat` with `none` (nothing accepted yet) at the bottom -/
def optLe : Option Nat → Option Nat → Prop
  | none, _ => True
  | some _, none => False
  | some x, some y => x ≤ y

instance : DecidableRel optLe := fun a b => by
  cases a <;> cases b <;> unfold optLe <;> infer_instance

theorem optLe_refl (x : Option Nat) : optLe x x := by cases x <;> simp [optLe]
theorem optLe_trans {x y z : Option Nat} (h1 : optLe x y) (h2 : optLe y z) : optLe x z := by
  cases x <;> cases y <;> cases z <;> simp_all [optLe]
  omega

/-- maximum of an optional start value and a list -/
def maxStep (acc : Option Nat) (v : Nat) : Option Nat :=
  match acc with
  | none => some v
  | some x => some (max x v)

def optMax (init : Option Nat) (l : List Nat) : Option Nat := l.foldl maxStep init

theorem step_accept (a : Agent) (ev : Ev) (hr : resetsSelector a ev = false) :
    (step a ev).1.lastNomination = optMax a.lastNomination (accepted a ev).toList := by
  rw [step_lastNomination_offer a ev hr]
  unfold accepted
  cases ho : offer a ev with
  | none => rfl
  | some v =>
    simp only []
    rw [accept_some_fst]
    cases hacc : (shouldAcceptNomination (some v) a.lastNomination).2 with
    | false => rfl
    | true =>
      have := (accept_some_iff v a.lastNomination).1 hacc
      simp only [if_true, Option.toList_some, optMax, List.foldl_cons, List.foldl_nil, maxStep]
      cases hl : a.lastNomination with
      | none => rfl
      | some last =>
        have := this last hl
        simp only []
        congr 1
        omega

theorem optMax_append (init : Option Nat) (xs ys : List Nat) :
    optMax init (xs ++ ys) = optMax (optMax init xs) ys := by
  unfold optMax; rw [List.foldl_append]

theorem run_lastNomination (a : Agent) (evs : List Ev) (hst : stable a evs = true) :
    (run a evs).lastNomination = optMax a.lastNomination (acceptedLog a evs) := by
  induction evs generalizing a with
  | nil => rfl
  | cons e es ih =>
    simp only [stable, Bool.and_eq_true, Bool.not_eq_true'] at hst
    show (run (step a e).1 es).lastNomination = _
    rw [ih _ hst.2, step_accept a e hst.1]
    simp only [acceptedLog]
    rw [optMax_append]

theorem optMax_ge_init (init : Option Nat) (l : List Nat) : optLe init (optMax init l) := by
  induction l generalizing init with
  | nil => exact optLe_refl _
  | cons x xs ih =>
    show optLe init (optMax _ xs)
    refine optLe_trans ?_ (ih _)
    cases init <;> simp [optLe, maxStep]
    omega

theorem optMax_spec (init : Option Nat) (l : List Nat) :
    (∀ w ∈ l, optLe (some w) (optMax init l)) ∧
    (∀ x, optMax init l = some x → init = some x ∨ x ∈ l) := by
  induction l generalizing init with
  | nil => exact ⟨by simp, fun x h => Or.inl h⟩
  | cons y ys ih =>
    have hstep : optMax init (y :: ys) = optMax (maxStep init y) ys := rfl
    rw [hstep]
    obtain ⟨h1, h2⟩ := ih (maxStep init y)
    refine ⟨?_, ?_⟩
    · intro w hw
      simp only [List.mem_cons] at hw
      rcases hw with rfl | hw
      · refine optLe_trans ?_ (optMax_ge_init _ ys)
        cases init <;> simp [optLe, maxStep]
        omega
      · exact h1 w hw
    · intro x hx
      rcases h2 x hx with h | h
      · cases init with
        | none =>
          simp only [maxStep, Option.some.injEq] at h
          right; simp [h]
        | some i =>
          simp only [maxStep, Option.some.injEq] at h
          by_cases hle : i ≤ y
          · right
            have : x = y := by omega
            simp [this]
          · left
            have : x = i := by omega
            rw [this]
      · right; simp [h]

theorem run_lastNomination_mono (a : Agent) (evs : List Ev) (hst : stable a evs = true) :
    optLe a.lastNomination (run a evs).lastNomination := by
  rw [run_lastNomination a evs hst]
  exact optMax_ge_init _ _

theorem accepted_iff_greater (a0 : Agent) (pre : List Ev) (ev : Ev) (v : Nat) (hst : stable a0 pre = true)
    (hoff : offer (run a0 pre) ev = some v) :
    accepted (run a0 pre) ev = some v ↔
      (∀ w ∈ acceptedLog a0 pre, w < v) ∧ (∀ l0, a0.lastNomination = some l0 → l0 < v) := by
  have hmax := run_lastNomination a0 pre hst
  obtain ⟨hub, hatt⟩ := optMax_spec a0.lastNomination (acceptedLog a0 pre)
  have hinit := optMax_ge_init a0.lastNomination (acceptedLog a0 pre)
  rw [← hmax] at hub hatt hinit
  unfold accepted
  rw [hoff]
  simp only []
  have hiff := accept_some_iff v (run a0 pre).lastNomination
  constructor
  · intro h
    have hacc : (shouldAcceptNomination (some v) (run a0 pre).lastNomination).2 = true := by
      cases hx : (shouldAcceptNomination (some v) (run a0 pre).lastNomination).2 <;> simp [hx] at h ⊢
    have hgt := hiff.1 hacc
    refine ⟨?_, ?_⟩
    · intro w hw
      have := hub w hw
      cases hl : (run a0 pre).lastNomination with
      | none => rw [hl] at this; simp [optLe] at this
      | some last =>
        rw [hl] at this
        have h2 := hgt last hl
        simp only [optLe] at this
        omega
    · intro l0 hl0
      rw [hl0] at hinit
      cases hl : (run a0 pre).lastNomination with
      | none => rw [hl] at hinit; simp [optLe] at hinit
      | some last =>
        rw [hl] at hinit
        have h2 := hgt last hl
        simp only [optLe] at hinit
        omega
  · rintro ⟨h1, h2⟩
    have hacc : (shouldAcceptNomination (some v) (run a0 pre).lastNomination).2 = true := by
      apply hiff.2
      intro last hl
      rcases hatt last hl with h | h
      · exact h2 last h
      · exact h1 last h
    simp [hacc]

end IceProofs.Agent

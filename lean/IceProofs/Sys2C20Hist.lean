import IceProofs.Sys2C20Defs
import IceProofs.Sys2C05
/-!
# C20 on `Sys2` — the history of an exchange

`Hist`: the monotone history
the two-agent theorems speak about — the log of nominations the controlling agent A issued, the log of those whose
success response A processed, the nomination value B accepted last (with the address pair it arrived on).
`hist s evs`: the history accumulated along a schedule, over the agent events `microEvs s e` of each system event
(`Sys2Run`; at most one per agent), every agent event judged in the state the agent executes it in.
-/
namespace IceProofs.C20S
open IceModel.AgentCore IceModel.Sys2 IceProofs.Sys2Run IceProofs.Agent IceProofs.Sys2C05

/-- `(value, local address, remote address)` -/
abbrev Nomination := Nat × Nat × Nat

structure Hist where
  /-- nominations issued by A — `RenominateCandidate` not refused, and the automatic check of A's controlling selector
  (`issuesOf`: what the step appends to A's ghost log) —, oldest first -/
  issued : List Nomination := []
  /-- the nominations of A whose success response A has processed (transaction matched, pair found), oldest first -/
  answered : List Nomination := []
  /-- the value B accepted last, with B's local address and the source address it arrived from -/
  accepted : Option Nomination := none
  deriving Repr, DecidableEq

/-- the nomination an answered transaction belongs to (a USE-CANDIDATE check that carried a value) -/
def answeredNom (a : Agent) (ev : Ev) : Option Nomination :=
  match answerOf a ev with
  | some (pd, _) => if pd.useCand then pd.nom.map fun v => (v, pd.src, pd.dest) else none
  | none => none

/-- history after agent `X` (`false` = A, `true` = B) executes `ev` in state `a` -/
def hstep (h : Hist) (X : Bool) (a : Agent) (ev : Ev) : Hist :=
  if X then { h with accepted := (acceptAt a ev).orElse fun _ => h.accepted }
  else { h with issued := h.issued ++ issuesOf a ev,
                answered := h.answered ++ (answeredNom a ev).toList }

/-- every agent executes at most one of them, so each can be judged in the agent's state before the system event -/
def hstepSys (h : Hist) (s : Sys) (e : SysEv) : Hist :=
  (microEvs s e).foldl (fun h x => hstep h x.1 (s.agent x.1) x.2) h

def histFrom (h : Hist) (s : Sys) : List SysEv → Hist
  | [] => h
  | e :: es => histFrom (hstepSys h s e) (Sys.run s e) es

/-- the history of schedule `evs` run from `s` -/
def hist (s : Sys) (evs : List SysEv) : Hist := histFrom {} s evs

theorem histFrom_append (h : Hist) (s : Sys) (e1 e2 : List SysEv) :
    histFrom h s (e1 ++ e2) = histFrom (histFrom h s e1) (Sys.runs s e1) e2 := by
  induction e1 generalizing h s with
  | nil => rfl
  | cons e es ih =>
    simp only [List.cons_append, histFrom, Sys.runs, List.foldl_cons]
    exact ih _ _

theorem hist_snoc (s : Sys) (es : List SysEv) (e : SysEv) :
    hist s (es ++ [e]) = hstepSys (hist s es) (Sys.runs s es) e := by
  unfold hist
  rw [histFrom_append]
  rfl

theorem hstep_issued_prefix (h : Hist) (X : Bool) (a : Agent) (ev : Ev) : h.issued <+: (hstep h X a ev).issued := by
  unfold hstep
  cases X
  · simp
  · simp

theorem hstepSys_issued_prefix (h : Hist) (s : Sys) (e : SysEv) : h.issued <+: (hstepSys h s e).issued := by
  unfold hstepSys
  generalize microEvs s e = l
  induction l generalizing h with
  | nil => exact List.prefix_refl _
  | cons x xs ih => exact List.IsPrefix.trans (hstep_issued_prefix h x.1 _ x.2) (ih _)

theorem histFrom_issued_prefix (h : Hist) (s : Sys) (es : List SysEv) : h.issued <+: (histFrom h s es).issued := by
  induction es generalizing h s with
  | nil => exact List.prefix_refl _
  | cons e es ih => exact List.IsPrefix.trans (hstepSys_issued_prefix h s e) (ih _ _)

theorem hist_issued_prefix (s : Sys) (e1 e2 : List SysEv) : (hist s e1).issued <+: (hist s (e1 ++ e2)).issued := by
  unfold hist
  rw [histFrom_append]
  exact histFrom_issued_prefix _ _ _

end IceProofs.C20S

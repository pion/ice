import IceProofs.AgentSuccessDecision
import IceProofs.AgentLookups
/-!
# Case rules for the large helpers of `AgentCore.step`

A fact about `handleInbound` or `handleSuccess` is seldom about their control flow: it is a predicate that every
way out of the function has to satisfy.  The rules below list those ways out once, with the predicate `Q` a variable,
so that an invariant of the agent, a property of the datagrams sent, a frame condition … is proved for the function by
proving it for each outcome from the corresponding lemmas about the sub-helpers, without unfolding the function again.
`handleInbound` is cut into `resolveSource` (the source of an authenticated request, `AuthRequest`, is looked up, or listed
as the peer-reflexive candidate `prflxCand`), `afterResolve` (the role conflict) and `toSelector` (`handleInbound_stages`);
the stages of `handleSuccess` are those of `AgentSuccessDecision.lean` (`successDecide`, `handleSuccess_nf`).
-/
namespace IceProofs.Agent
open IceModel.AgentCore

/-- A Binding request that passes the authentication of `handleInbound`: USERNAME is
`localUfrag:remoteUfrag` and MESSAGE-INTEGRITY verifies under the local password. -/
def AuthRequest (a : Agent) (m : Msg) : Prop :=
  m.method = 1 ∧ m.cls = 0 ∧ m.user = some (a.localUfrag ++ ":" ++ a.remoteUfrag) ∧ m.key = some a.localPwd

instance (a : Agent) (m : Msg) : Decidable (AuthRequest a m) := by unfold AuthRequest; infer_instance

/-- the peer-reflexive candidate `handleInbound` builds for an unknown source -/
def prflxCand (l : Cand) (src : Nat) (m : Msg) : Cand :=
  { uid := 0, ty := 3, net := l.net, addr := src, comp := l.comp, rel := some 0,
    prio := match m.prio with | some p => if p == 0 then prflxPriority l.net l.comp else p | none => prflxPriority l.net l.comp }

/-! ## `handleInbound` in stages

The authenticated-request branch of `handleInbound`, cut where its sub-helpers are called: resolve the source
(`resolveSource`), test for a role conflict (`afterResolve`), hand the request to the selector of the agent's role and
refresh the remote's timestamp (`toSelector`).  Results are in projection form. -/

def toSelector (a : Agent) (now : Nat) (l r : Cand) (m : Msg) (o0 : List Out) : Agent × List Out :=
  ((if a.controlling then a.ctlHandleRequest now m l r else a.cldHandleRequest now m l r).1.seenRemoteRecv r.uid now,
    o0 ++ (if a.controlling then a.ctlHandleRequest now m l r else a.cldHandleRequest now m l r).2)

/-- what `handleInbound` does with an authenticated request once its source is resolved to `r` in state `a` -/
def afterResolve (a : Agent) (now : Nat) (l : Cand) (m : Msg) (o0 : List Out) (r : Cand) : Agent × List Out :=
  match m.role with
  | some (ctl, tb) =>
    if ctl == a.controlling then
      if roleConflictKeeps a.controlling a.tieBreaker tb then
        (a.seenLocalSent l.uid now, o0 ++ [.dgram l.addr r.addr
          { cls := 3, tid := m.tid, key := some a.localPwd, errCode := some 487 }])
      else (({ a with controlling := !a.controlling }).resetSelector now, o0)
    else toSelector a now l r m o0
  | none => toSelector a now l r m o0

/-- Source resolution of an authenticated request: the known remote candidate with this transport address,
else a peer-reflexive candidate added through `addRemoteCandidate` (which the remote filter may reject). -/
def resolveSource (a : Agent) (l : Cand) (src : Nat) (m : Msg) : Agent × List Out × Option Cand :=
  match a.findRemote l.net src with
  | some r => (a, [], some r)
  | none => a.addRemoteCandidate (prflxCand l src m)

theorem handleInbound_stages (a : Agent) (now : Nat) (l : Cand) (src : Nat) (m : Msg) :
    a.handleInbound now l src m =
      if !(m.method == 1 && (m.cls == 2 || m.cls == 0 || m.cls == 1)) then (a, [])
      else if m.cls == 2 then
        if m.key != some a.remotePwd then (a, [])
        else match a.findRemote l.net src with
          | none => (a, [])
          | some r => ((a.handleSuccess now m l r src).1.seenRemoteRecv r.uid now, (a.handleSuccess now m l r src).2)
      else if m.cls == 0 then
        if m.user != some (a.localUfrag ++ ":" ++ a.remoteUfrag) then (a, [])
        else if m.key != some a.localPwd then (a, [])
        else match (resolveSource a l src m).2.2 with
          | none => ((resolveSource a l src m).1, (resolveSource a l src m).2.1)
          | some r => afterResolve (resolveSource a l src m).1 now l m (resolveSource a l src m).2.1 r
      else match a.findRemote l.net src with
        | some r => (a.seenRemoteRecv r.uid now, [])
        | none => (a, []) := by
  unfold Agent.handleInbound resolveSource afterResolve toSelector prflxCand
  cases a.findRemote l.net src <;> rfl

theorem handleInbound_success (a : Agent) (now : Nat) (l : Cand) (src : Nat) (m : Msg) (r : Cand)
    (hm : m.method = 1) (hc : m.cls = 2) (hk : m.key = some a.remotePwd) (hr : a.findRemote l.net src = some r) :
    a.handleInbound now l src m =
      ((a.handleSuccess now m l r src).1.seenRemoteRecv r.uid now, (a.handleSuccess now m l r src).2) := by
  rw [handleInbound_stages, if_neg (by rw [hc, hm]; decide), if_pos (by rw [hc]; rfl), if_neg (by rw [hk]; simp), hr]

theorem resolveSource_cases (a : Agent) (l : Cand) (src : Nat) (m : Msg) :
    (∃ r, a.findRemote l.net src = some r ∧ resolveSource a l src m = (a, [], some r)) ∨
    (a.findRemote l.net src = none ∧ resolveSource a l src m = a.addRemoteCandidate (prflxCand l src m)) := by
  unfold resolveSource
  cases a.findRemote l.net src with
  | some r => exact Or.inl ⟨r, rfl, rfl⟩
  | none => exact Or.inr ⟨rfl, rfl⟩

theorem toSelector_rule {Q : Agent × List Out → Prop} (a : Agent) (now : Nat) (l r : Cand) (m : Msg) (o0 : List Out)
    (ctl : a.controlling = true →
      Q ((a.ctlHandleRequest now m l r).1.seenRemoteRecv r.uid now, o0 ++ (a.ctlHandleRequest now m l r).2))
    (cld : a.controlling = false →
      Q ((a.cldHandleRequest now m l r).1.seenRemoteRecv r.uid now, o0 ++ (a.cldHandleRequest now m l r).2)) :
    Q (toSelector a now l r m o0) := by
  unfold toSelector
  cases hc : a.controlling
  · exact cld hc
  · exact ctl hc

/-- the tie-breaker of the sender when the request carries the receiver's own role -/
def roleConflict (a : Agent) (m : Msg) : Option Nat :=
  match m.role with
  | some (ctl, tb) => if ctl == a.controlling then some tb else none
  | none => none

theorem afterResolve_rule {Q : Agent × List Out → Prop} (a : Agent) (now : Nat) (l : Cand) (m : Msg) (o0 : List Out) (r : Cand)
    (keep : ∀ tb, roleConflict a m = some tb → roleConflictKeeps a.controlling a.tieBreaker tb = true →
      Q (a.seenLocalSent l.uid now, o0 ++ [.dgram l.addr r.addr
          { cls := 3, tid := m.tid, key := some a.localPwd, errCode := some 487 }]))
    (flip : ∀ tb, roleConflict a m = some tb → roleConflictKeeps a.controlling a.tieBreaker tb = false →
      Q (({ a with controlling := !a.controlling }).resetSelector now, o0))
    (sel : roleConflict a m = none → Q (toSelector a now l r m o0)) :
    Q (afterResolve a now l m o0 r) := by
  unfold afterResolve
  unfold roleConflict at keep flip sel
  split
  · rename_i c tb hrole
    simp only [hrole] at keep flip sel
    split
    · rename_i hc
      simp only [hc, if_true, Option.some.injEq, forall_eq'] at keep flip
      split
      · rename_i hk; exact keep hk
      · rename_i hk; exact flip (by simpa using hk)
    · rename_i hc
      exact sel (by simp only [hc]; rfl)
  · rename_i hrole
    exact sel (by simp only [hrole])

/-- The ways out of `handleInbound`: the message is dropped; a success response of a known remote keyed with the
remote password goes to `handleSuccess`; an indication of a known remote refreshes its timestamp; an authenticated
request first resolves its source and is then dropped (the source could not be added) or dispatched. -/
theorem handleInbound_rule {Q : Agent × List Out → Prop} (a : Agent) (now : Nat) (l : Cand) (src : Nat) (m : Msg)
    (drop : Q (a, []))
    (resp : ∀ r, m.cls = 2 → m.key = some a.remotePwd → a.findRemote l.net src = some r →
      Q ((a.handleSuccess now m l r src).1.seenRemoteRecv r.uid now, (a.handleSuccess now m l r src).2))
    (ind : ∀ r, a.findRemote l.net src = some r → Q (a.seenRemoteRecv r.uid now, []))
    (unres : AuthRequest a m → (resolveSource a l src m).2.2 = none → Q ((resolveSource a l src m).1, (resolveSource a l src m).2.1))
    (req : AuthRequest a m → ∀ r, (resolveSource a l src m).2.2 = some r →
      Q (afterResolve (resolveSource a l src m).1 now l m (resolveSource a l src m).2.1 r)) :
    Q (a.handleInbound now l src m) := by
  rw [handleInbound_stages]
  split
  · exact drop
  rename_i hm
  simp only [Bool.not_eq_true, Bool.not_eq_false', Bool.and_eq_true, beq_iff_eq] at hm
  split
  · rename_i hc
    split
    · exact drop
    rename_i hk
    split
    · exact drop
    · rename_i r hr
      exact resp r (by simpa using hc) (by simpa using hk) hr
  split
  · rename_i hc
    split
    · exact drop
    rename_i hu
    split
    · exact drop
    rename_i hk
    have hauth : AuthRequest a m := ⟨hm.1, by simpa using hc, by simpa using hu, by simpa using hk⟩
    split
    · rename_i h; exact unres hauth h
    · rename_i r h; exact req hauth r h
  · split
    · rename_i r hr
      exact ind r hr
    · exact drop

theorem successDecide_why {Q : Agent × List Out → Prop} (a : Agent) (pd : Pending) (p : Pair)
    (skip : Q (a, []))
    (ctl : a.controlling = true → ∀ v,
      ctlSuccessDecision pd.useCand pd.nom a.answeredNomination a.selected.isSome = (v, true) →
      Q (({ a with answeredNomination := v }).select p.id))
    (cld : a.controlling = false → p.nomOnSuccess = true → ∀ ao,
      ao = a.select p.id ∧ cldSuccessDecision p.deferredNom a.lastNomination (cldAtoms a p).1 (cldAtoms a p).2.1
        (needsPrioCheck a.cfg) (cldAtoms a p).2.2 (a.pairPrio p) = true ∨ ao = (a, []) →
      Q (ao.1.modPair p.id fun p => { p with nomOnSuccess := false, deferredNom := none }, ao.2)) :
    Q (successDecide a pd p) := by
  unfold successDecide
  by_cases hc : a.controlling = true
  · rw [if_pos hc]
    dsimp only
    split
    · rename_i hd
      exact ctl hc _ (Prod.ext rfl hd)
    · exact skip
  · rw [if_neg hc]
    have hc : a.controlling = false := by simpa using hc
    split
    · rename_i hn
      dsimp only
      split
      · rename_i hd
        exact cld hc hn _ (Or.inl ⟨rfl, hd⟩)
      · exact cld hc hn _ (Or.inr rfl)
    · exact skip

theorem successDecide_rule {Q : Agent × List Out → Prop} (a : Agent) (pd : Pending) (p : Pair)
    (skip : Q (a, []))
    (ctl : a.controlling = true → ∀ v, Q (({ a with answeredNomination := v }).select p.id))
    (cld : a.controlling = false → ∀ ao, ao = a.select p.id ∨ ao = (a, []) →
      Q (ao.1.modPair p.id fun p => { p with nomOnSuccess := false, deferredNom := none }, ao.2)) :
    Q (successDecide a pd p) :=
  successDecide_why a pd p skip (fun hc v _ => ctl hc v) fun hc _ ao hao => cld hc ao (hao.imp And.left id)

/-- The ways out of `handleSuccess`: no matching transaction, the response is not symmetric or has no pair — only the
transaction is taken; else — the response came back on the network type, from the address and to the local address its
request `pd` was sent with — the pair is marked Succeeded, the selector decides, and the response is counted. -/
theorem handleSuccess_sym_rule {Q : Agent × List Out → Prop} (a : Agent) (now : Nat) (m : Msg) (l r : Cand) (src : Nat)
    (skip : Q ((a.takePending now m.tid).1, []))
    (found : ∀ pd p, (a.takePending now m.tid).2 = some pd →
      (pd.net == l.net && pd.dest == src && pd.src == l.addr) = true →
      (a.takePending now m.tid).1.findPair l r = some p →
      Q ((successDecide ((a.takePending now m.tid).1.modPair p.id fun p =>
            { p with state := .succeeded, gResp := true, gRespUC := p.gRespUC || pd.useCand }) pd p).1.modPair p.id
              (Pair.gotResponse now pd.ts),
         (successDecide ((a.takePending now m.tid).1.modPair p.id fun p =>
            { p with state := .succeeded, gResp := true, gRespUC := p.gRespUC || pd.useCand }) pd p).2)) :
    Q (a.handleSuccess now m l r src) := by
  rw [handleSuccess_nf]
  split
  · exact skip
  · rename_i pd hpd
    split
    · exact skip
    · rename_i hsym
      split
      · exact skip
      · rename_i p hp
        exact found pd p hpd (by simpa using hsym) hp

theorem handleSuccess_rule {Q : Agent × List Out → Prop} (a : Agent) (now : Nat) (m : Msg) (l r : Cand) (src : Nat)
    (skip : Q ((a.takePending now m.tid).1, []))
    (found : ∀ pd p, (a.takePending now m.tid).2 = some pd → (a.takePending now m.tid).1.findPair l r = some p →
      Q ((successDecide ((a.takePending now m.tid).1.modPair p.id fun p =>
            { p with state := .succeeded, gResp := true, gRespUC := p.gRespUC || pd.useCand }) pd p).1.modPair p.id
              (Pair.gotResponse now pd.ts),
         (successDecide ((a.takePending now m.tid).1.modPair p.id fun p =>
            { p with state := .succeeded, gResp := true, gRespUC := p.gRespUC || pd.useCand }) pd p).2)) :
    Q (a.handleSuccess now m l r src) :=
  handleSuccess_sym_rule a now m l r src skip fun pd p hpd _ hp => found pd p hpd hp

end IceProofs.Agent

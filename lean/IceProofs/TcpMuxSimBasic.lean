import IceProofs.TcpMuxSimQuiet
/-!
# Building blocks of the simulation proof

How the relation `SimU` / `NRead` follows single changes of the model state and the matching
bookkeeping of the monitor: quiet transformations, a new TCP connection, a change of one connection
and its client record, the registration of a connection with a packet connection.
-/
namespace IceProofs.TcpMux
open IceModel.TcpMux IceSpec.C15 IceSpec.C15.View

/-- client records that agree except for `closed` and `nread` -/
def ClientsEqv (l l' : List MClient) : Prop :=
  l'.length = l.length ∧ ∀ (k : Nat) (c c' : MClient), l[k]? = some c → l'[k]? = some c' →
    c' = { c with closed := c'.closed, nread := c'.nread }

theorem ClientsEqv.back {l l' : List MClient} (h : ClientsEqv l l') {k : Nat} {c' : MClient} (hc' : l'[k]? = some c') :
    ∃ c, l[k]? = some c ∧ c' = { c with closed := c'.closed, nread := c'.nread } := by
  have hlt : k < l.length := by rw [← h.1]; exact getElem?_lt hc'
  obtain ⟨c, hc⟩ := getElem?_of_lt hlt
  exact ⟨c, hc, h.2 k c c' hc hc'⟩

theorem simU_congr {s : State} {m : Mon} (hs : SimU s m) (l' : List MClient) (r : Bool)
    (he : ClientsEqv m.clients l') : SimU s { m with clients := l', returned := r } := by
  obtain ⟨hd, cl, o, b⟩ := simU_iff.1 hs
  have sq : seqOf { m with clients := l', returned := r } = seqOf m := by
    funext k
    apply seqOf_eq
    intro j
    show (l'[j]?).map MClient.seq = _
    cases hj : l'[j]? with
    | none =>
      have : m.clients[j]? = none := by
        rw [List.getElem?_eq_none_iff] at hj ⊢; rw [← he.1]; exact hj
      rw [this]
    | some c' =>
      obtain ⟨c, hc, e⟩ := he.back hj
      rw [hc, e]; rfl
  refine simU_iff.2 ⟨⟨hd.active, hd.t1, hd.t2, hd.now, hd.called, hd.ctime, hd.pcs, hd.handles⟩, ⟨he.1.trans cl.len, ?_⟩,
    sq ▸ o, b⟩
  intro k t c' ht hc'
  obtain ⟨c, hc, e⟩ := he.back hc'
  have r := cl.rel k t c ht hc
  rw [e]
  exact ⟨r.ip, r.port, r.lip, r.pend, r.first, r.target, r.done, r.gone, r.sent, r.acc⟩

theorem clientsEqv_refl (l : List MClient) : ClientsEqv l l :=
  ⟨rfl, fun k c c' h h' => by rw [h] at h'; cases h'; rfl⟩

theorem clientsEqv_setAt (l : List MClient) (k : Nat) (f : MClient → MClient)
    (hf : ∀ c, f c = { c with closed := (f c).closed, nread := (f c).nread }) : ClientsEqv l (setAt l k f) := by
  refine ⟨by simp [setAt], ?_⟩
  intro j c c' hc hc'
  unfold setAt at hc'
  rw [getElem?_modify_map, hc] at hc'
  simp only [Option.map_some, Option.some.injEq] at hc'
  subst hc'
  split
  · exact hf c
  · rfl

theorem clientsEqv_mapIdx (l : List MClient) (f : Nat → MClient → MClient)
    (hf : ∀ k c, f k c = { c with closed := (f k c).closed, nread := (f k c).nread }) : ClientsEqv l (l.mapIdx f) := by
  refine ⟨by simp, ?_⟩
  intro j c c' hc hc'
  rw [List.getElem?_mapIdx, hc] at hc'
  simp only [Option.map_some, Option.some.injEq] at hc'
  subst hc'
  exact hf j c

theorem nread_quiet {s s' : State} {m m' : Mon} (q : Quiet s s') (rl : RLSame s s') (h2 : Inv2 s)
    (hn : NRead s m) (hcl : m'.clients = m.clients) : NRead s' m' := by
  intro k t' c ht' hc
  rw [hcl] at hc
  obtain ⟨t, ht, tq⟩ := q.tback ht'
  rw [hn k t c ht hc]
  unfold nreadOf
  rw [tq.pc]
  cases hpc : t.pc with
  | none => rfl
  | some p =>
    simp only
    obtain ⟨pc, hp⟩ := (h2.tcp k t ht).ref p hpc
    obtain ⟨pc', hp', e⟩ := rl p pc hp
    rw [hp, hp']
    simp only [e]

theorem quiet_step {s s' : State} {m : Mon} (q : Quiet s s') (rl : RLSame s s') (hi : Inv s) (h2 : Inv2 s)
    (hs : SimU s m) (hn : NRead s m) : SimU s' (reread m s') ∧ NRead s' (reread m s') :=
  ⟨quiet_simU q hi h2 hs, nread_quiet q rl h2 hn rfl⟩

theorem loose_appendTcp (s : State) {tn : Tcp} (hpc : tn.pc = none) (hph : ∀ p, tn.phase ≠ .attached p) :
    Loose s { s with tcps := s.tcps ++ [tn] } := by
  refine ⟨?_, ?_, ?_, ?_⟩
  · intro k t' ht'
    rcases getElem?_snoc ht' with h | ⟨_, rfl⟩
    · exact Or.inl ⟨t', h, TcpL.refl t'⟩
    · exact Or.inr ⟨hpc, hph⟩
  · intro p pc hp
    exact ⟨pc, hp, fun h => h, [], by simp, nofun⟩
  · intro p pc' hle hp'
    have := getElem?_lt (show s.pcs[p]? = some pc' from hp')
    omega
  · intro k t t' p pc' ht hp ht' hcl _
    rw [getElem?_append_old _ _ _ _ ht] at ht'; cases ht'
    rw [hp] at hcl; cases hcl

theorem appendTcp_simU {s : State} {m : Mon} (hs : SimU s m) (hn : NRead s m) (hi : Inv s) (h2 : Inv2 s) (tn : Tcp)
    (cn : MClient) (hpc : tn.pc = none) (hph : ∀ p, tn.phase ≠ .attached p) (hrd : tn.reader = .none) (hin : tn.inbox = [])
    (hrel : CRel tn cn) (hnr : cn.nread = 0) :
    SimU { s with tcps := s.tcps ++ [tn] } { m with clients := m.clients ++ [cn] } ∧
    NRead { s with tcps := s.tcps ++ [tn] } { m with clients := m.clients ++ [cn] } := by
  obtain ⟨hd, cl, o, b⟩ := simU_iff.1 hs
  have pair : ∀ (k : Nat) (t : Tcp) (c : MClient), (s.tcps ++ [tn])[k]? = some t → (m.clients ++ [cn])[k]? = some c →
      (s.tcps[k]? = some t ∧ m.clients[k]? = some c) ∨ (t = tn ∧ c = cn) := by
    intro k t c ht hc
    rcases getElem?_snoc ht with h | ⟨e, rfl⟩
    · rw [List.getElem?_append_left (by rw [cl.len]; exact getElem?_lt h)] at hc; exact Or.inl ⟨h, hc⟩
    · rw [e, ← cl.len, List.getElem?_concat_length] at hc; cases hc; exact Or.inr ⟨rfl, rfl⟩
  have o' : Ord s (seqOf { m with clients := m.clients ++ [cn] }) m.stamp := by
    refine o.congr h2 (fun k hk => ?_)
    unfold seqOf
    show (match (m.clients ++ [cn])[k]? with | some c => c.seq | none => 0) = _
    rw [List.getElem?_append_left (by rw [cl.len]; exact hk)]; rfl
  refine ⟨simU_iff.2 ⟨⟨hd.active, hd.t1, hd.t2, hd.now, hd.called, hd.ctime, hd.pcs, hd.handles⟩, ⟨by simp [cl.len], ?_⟩,
    loose_ord (loose_appendTcp s hpc hph) hi h2 o', b.pl, ?_, ?_⟩, ?_⟩
  · intro k t c ht hc
    rcases pair k t c ht hc with ⟨h, h'⟩ | ⟨rfl, rfl⟩
    · exact cl.rel k t c h h'
    · exact hrel
  · intro k t bp ht hb
    rcases getElem?_snoc ht with h | ⟨_, rfl⟩
    · exact b.plb k t bp h hb
    · rw [hrd] at hb; cases hb
  · intro k t a b' it ht hin' he
    rcases getElem?_snoc ht with h | ⟨_, rfl⟩
    · exact b.endLast k t a b' it h hin' he
    · rw [hin] at hin'; exact absurd hin' (by simp)
  · intro k t c ht hc
    rcases pair k t c ht hc with ⟨h, h'⟩ | ⟨rfl, rfl⟩
    · exact hn k t c h h'
    · rw [hnr]; unfold nreadOf; rw [hpc]

theorem loose_setTcp {s : State} {k : Nat} {t : Tcp} (g : Tcp → Tcp) (ht : s.tcps[k]? = some t) (l : TcpL t (g t))
    (hnd : ∀ p, t.phase = .attached p → (g t).phase = .attached p) : Loose s (setTcp s k g) := by
  refine ⟨?_, ?_, ?_, ?_⟩
  · intro j tj' hj'
    rcases modify_cases g ht hj' with ⟨_, hj⟩ | ⟨rfl, rfl⟩
    · exact Or.inl ⟨tj', hj, TcpL.refl tj'⟩
    · exact Or.inl ⟨t, ht, l⟩
  · intro p pc hp
    exact ⟨pc, hp, fun h => h, [], by simp, nofun⟩
  · intro p pc' hle hp'
    have := getElem?_lt (show s.pcs[p]? = some pc' from hp')
    omega
  · intro j tj tj' p pc' hj hph hj' hcl _
    rcases modify_cases g ht hj' with ⟨_, h0⟩ | ⟨rfl, rfl⟩
    · rw [hj] at h0; cases h0; rw [hph] at hcl; cases hcl
    · rw [ht] at hj; cases hj; rw [hnd p hph] at hcl; cases hcl

theorem modify_simU {s : State} {m : Mon} (hs : SimU s m) (hn : NRead s m) (hi : Inv s) (h2 : Inv2 s) (k : Nat) (t : Tcp)
    (c : MClient) (g : Tcp → Tcp) (h : MClient → MClient)
    (ht : s.tcps[k]? = some t) (hc : m.clients[k]? = some c)
    (hpeer : (g t).peer = t.peer) (hpc : (g t).pc = t.pc)
    (hphase : (g t).phase = t.phase ∨ ((∃ d, t.phase = .pending d) ∧ (g t).phase = .closed))
    (hsent : t.phase = .closed → (g t).sent = t.sent)
    (hrd : (g t).reader = t.reader)
    (hin : ∀ (a b : List Item) (it : Item), (g t).inbox = a ++ it :: b → isEnd it = true → b = [])
    (hrel : CRel (g t) (h c)) (hseq : (h c).seq = c.seq) (hnr : (h c).nread = c.nread) :
    SimU (setTcp s k g) { m with clients := setAt m.clients k h } ∧
    NRead (setTcp s k g) { m with clients := setAt m.clients k h } := by
  obtain ⟨hd, cl, o, b⟩ := simU_iff.1 hs
  obtain ⟨ck, ckk⟩ := modify_lookup (l := m.clients) h hc
  have pair : ∀ (j : Nat) (tj : Tcp) (cj : MClient), (setTcp s k g).tcps[j]? = some tj → (setAt m.clients k h)[j]? = some cj →
      (j = k ∧ tj = g t ∧ cj = h c) ∨ (j ≠ k ∧ s.tcps[j]? = some tj ∧ m.clients[j]? = some cj) := by
    intro j tj cj htj hcj
    rcases modify_cases g ht htj with ⟨hjk, h0⟩ | ⟨rfl, rfl⟩
    · exact Or.inr ⟨hjk, h0, by rw [← ck j hjk]; exact hcj⟩
    · rw [show (setAt m.clients j h)[j]? = some (h c) from ckk] at hcj; cases hcj; exact Or.inl ⟨rfl, rfl, rfl⟩
  have L : Loose s (setTcp s k g) := loose_setTcp g ht
    ⟨hpeer, hpc, hphase.elim Or.inl (fun x => Or.inr x.2), hsent⟩
    (fun p hp => hphase.elim (fun e => e.trans hp) (fun ⟨⟨d, hd⟩, _⟩ => by rw [hp] at hd; cases hd))
  have o' : Ord s (seqOf { m with clients := setAt m.clients k h }) m.stamp := by
    refine o.congr h2 (fun j _ => ?_)
    unfold seqOf
    show (match (setAt m.clients k h)[j]? with | some c => c.seq | none => 0) = _
    by_cases hjk : j = k
    · subst hjk; rw [show (setAt m.clients j h)[j]? = some (h c) from ckk, hc]; exact hseq
    · rw [show (setAt m.clients k h)[j]? = m.clients[j]? from ck j hjk]; rfl
  refine ⟨simU_iff.2 ⟨⟨hd.active, hd.t1, hd.t2, hd.now, hd.called, hd.ctime, hd.pcs, hd.handles⟩,
    ⟨by simp [setAt, setTcp, cl.len], ?_⟩, loose_ord L hi h2 o', b.pl, ?_, ?_⟩, ?_⟩
  · intro j tj cj htj hcj
    rcases pair j tj cj htj hcj with ⟨_, rfl, rfl⟩ | ⟨_, h0, hc0⟩
    · exact hrel
    · exact cl.rel j tj cj h0 hc0
  · intro j tj bp htj hb
    rcases modify_cases g ht htj with ⟨_, h0⟩ | ⟨rfl, rfl⟩
    · exact b.plb j tj bp h0 hb
    · rw [hrd] at hb; exact b.plb j t bp ht hb
  · intro j tj a b' it htj hin' he
    rcases modify_cases g ht htj with ⟨_, h0⟩ | ⟨rfl, rfl⟩
    · exact b.endLast j tj a b' it h0 hin' he
    · exact hin a b' it hin' he
  · intro j tj cj htj hcj
    rcases pair j tj cj htj hcj with ⟨rfl, rfl, rfl⟩ | ⟨_, h0, hc0⟩
    · rw [hnr, hn j t c ht hc]; unfold nreadOf; rw [hpc]; rfl
    · exact hn j tj cj h0 hc0

/-- the monitor after it has routed client `k` to record `p` -/
def routed (m : Mon) (p k fid len : Nat) : Mon :=
  { m with stamp := m.stamp + 1, clients := setAt m.clients k (fun c =>
    { c with hasFirst := true, target := some p, seq := m.stamp, sent := [⟨fid, len⟩] }) }

theorem register_simU {s : State} {m : Mon} (hs : SimU s m) (hn : NRead s m) (hi : Inv s) (h2 : Inv2 s)
    (k p d : Nat) (t : Tcp) (c : MClient) (pc : PConn) (fr : Frame)
    (ht : s.tcps[k]? = some t) (hc : m.clients[k]? = some c) (hph : t.phase = .pending d)
    (hp : s.pcs[p]? = some pc) (hopen : pc.closed = false) (hdup : lookupConn pc.conns t.peer = none)
    (hlen : fr.len ≤ 512) :
    SimU (registered s p k t.peer fr) (routed m p k fr.fid fr.len) ∧
    NRead (registered s p k t.peer fr) (routed m p k fr.fid fr.len) := by
  obtain ⟨hpcn, hsentn, _⟩ := (h2.tcp k t ht).fresh d hph
  let g : PConn → PConn := fun pc => { pc with conns := pc.conns ++ [(t.peer, k)] }
  let f : Tcp → Tcp := fun t => { t with phase := .attached p, reader := .idle, pc := some p, inbox := [.frame fr], sent := t.sent ++ [fr] }
  let hcl : MClient → MClient := fun c => { c with hasFirst := true, target := some p, seq := m.stamp, sent := [⟨fr.fid, fr.len⟩] }
  obtain ⟨tk, tkk⟩ := modify_lookup (l := s.tcps) f ht
  have ck : ∀ j, j ≠ k → (setAt m.clients k hcl)[j]? = m.clients[j]? := fun j hj => getElem?_modify_ne _ _ _ _ hj
  have ckk : (setAt m.clients k hcl)[k]? = some (hcl c) := by unfold setAt; rw [getElem?_modify_eq, hc]; rfl
  have pget : ∀ (q : Nat) (qc' : PConn), (s.pcs.modify p g)[q]? = some qc' → ∃ qc, s.pcs[q]? = some qc ∧
      qc'.hist = qc.hist ∧ qc'.readLog = qc.readLog ∧ qc'.closed = qc.closed := by
    intro q qc' hq'
    rw [getElem?_modify_map] at hq'
    cases hq : s.pcs[q]? with
    | none => rw [hq] at hq'; cases hq'
    | some qc =>
      rw [hq] at hq'
      simp only [Option.map_some, Option.some.injEq] at hq'
      subst hq'
      refine ⟨qc, rfl, ?_, ?_, ?_⟩ <;> split <;> rfl
  have tcase : ∀ (j : Nat) (tj : Tcp), (s.tcps.modify k f)[j]? = some tj →
      (j ≠ k ∧ s.tcps[j]? = some tj) ∨ (j = k ∧ tj = f t) := fun _ _ => modify_cases f ht
  have sqk : seqOf (routed m p k fr.fid fr.len) k = m.stamp := by
    unfold seqOf routed
    show (match (setAt m.clients k hcl)[k]? with | some c => c.seq | none => 0) = _
    rw [ckk]
  have sqo : ∀ j, j ≠ k → seqOf (routed m p k fr.fid fr.len) j = seqOf m j := by
    intro j hj
    unfold seqOf routed
    show (match (setAt m.clients k hcl)[j]? with | some c => c.seq | none => 0) = _
    rw [ck j hj]; rfl
  have nok : ∀ (q : Nat) (qc : PConn) (x : Pkt), s.pcs[q]? = some qc → x ∈ qc.hist → x.conn ≠ k := by
    intro q qc x hq hx hk
    obtain ⟨tx, htx, hpx, _⟩ := (h2.pc q qc hq).src x hx
    rw [hk, ht] at htx; cases htx
    rw [hpcn] at hpx; cases hpx
  show SimU { s with pcs := s.pcs.modify p g, tcps := s.tcps.modify k f } (routed m p k fr.fid fr.len) ∧
    NRead { s with pcs := s.pcs.modify p g, tcps := s.tcps.modify k f } (routed m p k fr.fid fr.len)
  obtain ⟨hd, _, o, _⟩ := simU_iff.1 hs
  refine ⟨simU_iff.2 ⟨⟨hd.active, hd.t1, hd.t2, hd.now, hd.called, hd.ctime, ?_, hd.handles⟩, ⟨?_, ?_⟩, ⟨?_, ?_, ?_, ?_, ?_⟩,
    ⟨?_, ?_, ?_⟩⟩, ?_⟩
  · show m.pcs = (s.pcs.modify p g).map absPc
    rw [map_modify_at absPc g hp rfl]; exact hs.pcs
  · show (setAt m.clients k hcl).length = (s.tcps.modify k f).length
    simp [setAt, hs.len]
  · intro j tj cj htj hcj
    rcases tcase j tj htj with ⟨hjk, h0⟩ | ⟨rfl, rfl⟩
    · rw [show (routed m p k fr.fid fr.len).clients[j]? = m.clients[j]? from ck j hjk] at hcj
      exact hs.cl j tj cj h0 hcj
    · rw [show (routed m p j fr.fid fr.len).clients[j]? = some (hcl c) from ckk] at hcj
      cases hcj
      have r := hs.cl j t c ht hc
      constructor
      · exact r.ip
      · exact r.port
      · exact r.lip
      · intro d' hd'; cases hd'
      · intro hf; cases hf
      · rfl
      · exact r.done
      · show c.gone = (t.cEnd || (true && big (f t)))
        rw [r.gone, hpcn]
        have : big (f t) = false := by
          simp only [big, f, hsentn, List.nil_append, List.any_cons, List.any_nil, Bool.or_false, decide_eq_false_iff_not]
          omega
        rw [this]; simp
      · intro _
        show [(⟨fr.fid, fr.len⟩ : MFrame)] = mframes (t.sent ++ [fr])
        rw [hsentn]; rfl
      · intro ha
        have := (r.pend d hph).1
        rw [this] at ha; cases ha
  · intro j tj q htj hpj
    show seqOf (routed m p k fr.fid fr.len) j < m.stamp + 1
    rcases tcase j tj htj with ⟨hjk, h0⟩ | ⟨rfl, rfl⟩
    · rw [sqo j hjk]; have := o.stamp j tj q h0 hpj; omega
    · rw [sqk]; omega
  · intro j j' tj tj' q q' htj htj' hpj hpj' hseq
    rcases tcase j tj htj with ⟨hjk, h0⟩ | ⟨rfl, rfl⟩ <;> rcases tcase j' tj' htj' with ⟨hjk', h0'⟩ | ⟨rfl, rfl⟩
    · rw [sqo j hjk, sqo j' hjk'] at hseq; exact o.uniq j j' tj tj' q q' h0 h0' hpj hpj' hseq
    · rw [sqo j hjk, sqk] at hseq; have := o.stamp j tj q h0 hpj; omega
    · rw [sqk, sqo j' hjk'] at hseq; have := o.stamp j' tj' q' h0' hpj'; omega
    · rfl
  · intro j j' tj tj' q htj htj' hphj hpcj' hpe hne
    rcases tcase j tj htj with ⟨hjk, h0⟩ | ⟨rfl, rfl⟩
    · rcases tcase j' tj' htj' with ⟨hjk', h0'⟩ | ⟨rfl, rfl⟩
      · rw [sqo j hjk, sqo j' hjk']
        exact hs.last j j' tj tj' q h0 h0' hphj hpcj' hpe hne
      · -- `tj` is attached to `q = p` with the peer of `t`: excluded by `hdup`
        exfalso
        have hqp : q = p := by
          have : (f t).pc = some q := hpcj'
          simp only [f, Option.some.injEq] at this; exact this.symm
        subst hqp
        obtain ⟨_, pc2, hp2, _, hm⟩ := hi.att h0 hphj
        rw [hp] at hp2; cases hp2
        exact lookupConn_none hdup _ hm hpe.symm
    · -- the newly attached connection has the largest stamp
      rw [sqk]
      have hqp : q = p := by
        have : (f t).phase = .attached q := hphj
        simp only [f, Phase.attached.injEq] at this; exact this.symm
      subst hqp
      rcases tcase j' tj' htj' with ⟨hjk', h0'⟩ | ⟨rfl, _⟩
      · rw [sqo j' hjk']
        exact o.stamp j' tj' q h0' hpcj'
      · exact absurd rfl hne
  · intro q qc' h1 h2' x y hq' hh hy hxe hye hsrc hne
    obtain ⟨qc, hq, e1, _, _⟩ := pget q qc' hq'
    rw [e1] at hh
    have hx : x ∈ qc.hist := by rw [hh]; simp
    have hy' : y ∈ qc.hist := by rw [hh]; simp [hy]
    rw [sqo _ (nok q qc x hq hx), sqo _ (nok q qc y hq hy')]
    exact hs.ho q qc h1 h2' x y hq hh hy hxe hye hsrc hne
  · intro j tj q qc' htj hpcj hclj hq'
    obtain ⟨qc, hq, e1, _, e3⟩ := pget q qc' hq'
    rcases tcase j tj htj with ⟨hjk, h0⟩ | ⟨rfl, rfl⟩
    · rcases hs.cc j tj q qc h0 hpcj hclj hq with hcc | ⟨hc1, hc2⟩
      · left
        intro ff hff
        apply hcc ff
        rw [← e1]; exact hff
      · right
        refine ⟨by rw [e3]; exact hc1, ?_⟩
        intro k' t' ht' hpc' hpe'
        rcases tcase k' t' ht' with ⟨hk', h0'⟩ | ⟨rfl, rfl⟩
        · rw [sqo j hjk, sqo k' hk']
          exact hc2 k' t' h0' hpc' hpe'
        · exfalso
          have hqp : q = p := by
            have : (f t).pc = some q := hpc'
            simp only [f, Option.some.injEq] at this; exact this.symm
          subst hqp
          rw [hp] at hq; cases hq
          rw [hopen] at hc1; cases hc1
    · have : (f t).phase = .closed := hclj
      simp [f] at this
  · intro q qc' pkt hq' hmem herr
    obtain ⟨qc, hq, e1, _, _⟩ := pget q qc' hq'
    rw [e1] at hmem
    exact hs.pl q qc pkt hq hmem herr
  · intro j tj bp htj hb
    rcases tcase j tj htj with ⟨_, h0⟩ | ⟨rfl, rfl⟩
    · exact hs.plb j tj bp h0 hb
    · simp [f] at hb
  · intro j tj a b it htj hin' he
    rcases tcase j tj htj with ⟨_, h0⟩ | ⟨rfl, rfl⟩
    · exact hs.endLast j tj a b it h0 hin' he
    · have hin2 : [Item.frame fr] = a ++ it :: b := hin'
      cases a with
      | nil =>
        simp only [List.nil_append, List.cons.injEq] at hin2
        rw [← hin2.1] at he; cases he
      | cons a0 as =>
        simp only [List.cons_append, List.cons.injEq] at hin2
        have := hin2.2
        cases as <;> simp at this
  · intro j tj cj htj hcj
    rcases tcase j tj htj with ⟨hjk, h0⟩ | ⟨rfl, rfl⟩
    · rw [show (routed m p k fr.fid fr.len).clients[j]? = m.clients[j]? from ck j hjk] at hcj
      rw [hn j tj cj h0 hcj]
      unfold nreadOf
      cases hpcj : tj.pc with
      | none => rfl
      | some q =>
        simp only
        show _ = (match (s.pcs.modify p g)[q]? with | some pc => _ | none => 0)
        rw [getElem?_modify_map]
        cases hq : s.pcs[q]? with
        | none => rfl
        | some qc =>
          simp only [Option.map_some]
          split <;> rfl
    · rw [show (routed m p j fr.fid fr.len).clients[j]? = some (hcl c) from ckk] at hcj
      cases hcj
      show c.nread = _
      rw [hn j t c ht hc]
      unfold nreadOf
      rw [hpcn]
      show 0 = (match (s.pcs.modify p g)[p]? with | some pc => (dataIds (fromConn j pc.readLog)).length | none => 0)
      rw [getElem?_modify_eq, hp]
      simp only [Option.map_some]
      have : fromConn j pc.readLog = [] := by
        apply fromConn_none
        intro x hx
        exact nok p pc x hp (by rw [(h2.pc p pc hp).fifo]; simp [hx])
      show 0 = (dataIds (fromConn j pc.readLog)).length
      rw [this]; rfl

end IceProofs.TcpMux

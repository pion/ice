import IceModel.Gather
/-!
Characterisation of `localAddrs` and of the gather units of every candidate type (layer 2 of
`IceModel.Gather`): which interface addresses they come from and which configuration facts hold for
them.  Used by the soundness and completeness theorems of C18.
-/
namespace IceProofs.GatherUnits
open IceModel.Gather

theorem mem_allNetTypes (n : NetType) : n ∈ allNetTypes := by cases n <;> simp [allNetTypes]

theorem mem_configured {l : List NetType} {n : NetType} : n ∈ configured l ↔ (l = [] ∨ n ∈ l) := by
  unfold configured
  cases l with
  | nil => simp [mem_allNetTypes]
  | cons a t => simp [List.mem_eraseDups]

theorem contains_configured {l : List NetType} {n : NetType} :
    (configured l).contains n = true ↔ (l = [] ∨ n ∈ l) := by
  rw [List.contains_iff_mem]; exact mem_configured

theorem mem_localAddrs {cfg : Config} {nts : List NetType} {ifs : List Iface} {a : Addr} {n : Nat} :
    (a, n) ∈ localAddrs cfg nts ifs ↔
      ∃ i ∈ ifs, ifaceAccepted cfg i = true ∧ i.name = n ∧ a ∈ i.addrs ∧ addrAccepted cfg nts a = true := by
  unfold localAddrs
  simp only [List.mem_flatMap]
  constructor
  · rintro ⟨i, hi, h⟩
    split at h
    · rename_i hacc
      simp only [List.mem_map, List.mem_filter, Prod.mk.injEq] at h
      obtain ⟨b, ⟨hb1, hb2⟩, hb3⟩ := h
      obtain ⟨rfl, rfl⟩ := hb3
      exact ⟨i, hi, hacc, rfl, hb1, hb2⟩
    · simp at h
  · rintro ⟨i, hi, hacc, rfl, ha, hok⟩
    refine ⟨i, hi, ?_⟩
    simp only [hacc, ↓reduceIte, List.mem_map, List.mem_filter, Prod.mk.injEq]
    exact ⟨a, ⟨ha, hok⟩, rfl, trivial⟩

/-- an address that `localInterfaces` returns, forgetting the interface name -/
def Local (cfg : Config) (nts : List NetType) (ifs : List Iface) (a : Addr) : Prop :=
  ∃ i ∈ ifs, ifaceAccepted cfg i = true ∧ a ∈ i.addrs ∧ addrAccepted cfg nts a = true

theorem local_of_mem {cfg : Config} {nts : List NetType} {ifs : List Iface} {p : Addr × Nat}
    (h : p ∈ localAddrs cfg nts ifs) : Local cfg nts ifs p.1 := by
  obtain ⟨a, n⟩ := p
  obtain ⟨i, hi, hacc, _, ha, hok⟩ := mem_localAddrs.1 h
  exact ⟨i, hi, hacc, ha, hok⟩

theorem mem_hostIfaceUnits {cfg : Config} {ifs : List Iface} {u : GUnit} (hq : cfg.quirks = []) :
    u ∈ hostIfaceUnits cfg ifs ↔
      ∃ a ifc m, (a, ifc) ∈ localAddrs cfg (configured cfg.netTypes) ifs ∧ m ∈ hostMapped cfg a ifc ∧
        u.bind = a ∧ u.mapped = m ∧ u.url = 0 ∧ u.n = 1 ∧ u.ifc = ifc ∧ (m.cls.is6 = true → m.cls.supported6 = true) ∧
        ((u.kind = .hostTcp ∧ u.net = NetType.ofTransport true m.cls.is6 ∧
            (configured cfg.netTypes).contains u.net = true ∧ tcpMuxAccepts cfg a = true)
         ∨ (u.kind = .hostUdp ∧ u.net = NetType.ofTransport false m.cls.is6 ∧
            (configured cfg.netTypes).contains u.net = true ∧ cfg.udpMux = none)) := by
  have hq13 : cfg.has 1 = false := by simp [Config.has, hq]
  have hq8 : cfg.has 8 = false := by simp [Config.has, hq]
  unfold hostIfaceUnits
  simp only [List.mem_flatMap, hq13, Bool.or_false, hostPubOk, hq8]
  constructor
  · rintro ⟨⟨a, n⟩, hp, m, hm, h⟩
    simp only [List.mem_append] at h
    rcases h with h | h
    · split at h
      · rename_i hc
        simp only [Bool.and_eq_true, hostNetEnabled, Bool.or_eq_true, Bool.not_eq_true'] at hc
        simp only [List.mem_singleton] at h
        subst h
        refine ⟨a, n, m, hp, hm, rfl, rfl, rfl, rfl, rfl, ?_, Or.inl ⟨rfl, rfl, hc.1.1.2, hc.2⟩⟩
        intro h6; rcases hc.1.2 with h | h
        · simp [h6] at h
        · exact h
      · simp at h
    · split at h
      · rename_i hc
        simp only [Bool.and_eq_true, hostNetEnabled, Option.isNone_iff_eq_none, Bool.or_eq_true, Bool.not_eq_true'] at hc
        simp only [List.mem_singleton] at h
        subst h
        refine ⟨a, n, m, hp, hm, rfl, rfl, rfl, rfl, rfl, ?_, Or.inr ⟨rfl, rfl, hc.1.2, hc.1.1.2⟩⟩
        intro h6; rcases hc.2 with h | h
        · simp [h6] at h
        · exact h
      · simp at h
  · rintro ⟨a, ifc, m, hp, hm, hb, hmp, hu0, hn1, hifc, hsup, h⟩
    refine ⟨(a, ifc), hp, m, hm, ?_⟩
    obtain ⟨kind, net, bind, url, n, mapped, uifc⟩ := u
    simp only at hb hmp hu0 hn1 hifc h
    subst hb hmp hu0 hn1 hifc
    have hs : (!mapped.cls.is6 || mapped.cls.supported6) = true := by
      cases h6 : mapped.cls.is6
      · rfl
      · simpa using hsup h6
    simp only [List.mem_append]
    rcases h with ⟨hk, hnet, hen, hmux⟩ | ⟨hk, hnet, hen, hmux⟩
    · left
      subst hk hnet
      have hT : (configured cfg.netTypes).any (·.isTCP) = true := by
        rw [List.any_eq_true]
        exact ⟨_, List.contains_iff_mem.1 hen, by cases mapped.cls.is6 <;> rfl⟩
      simp [hT, hostNetEnabled, List.contains_iff_mem.1 hen, hmux, hs]
    · right
      subst hk hnet
      have hU : (configured cfg.netTypes).any (fun t => !t.isTCP) = true := by
        rw [List.any_eq_true]
        exact ⟨_, List.contains_iff_mem.1 hen, by cases mapped.cls.is6 <;> rfl⟩
      simp [hU, hostNetEnabled, List.contains_iff_mem.1 hen, hmux, hs]

theorem mem_hostMuxUnits {cfg : Config} {u : GUnit} (hq : cfg.quirks = []) :
    u ∈ hostMuxUnits cfg ↔
      ∃ addrs a m, cfg.udpMux = some addrs ∧ a ∈ addrs ∧ m ∈ muxMapped cfg a ∧
        u = { kind := .hostMux, net := NetType.ofTransport false m.cls.is6, bind := a, mapped := m }
        ∧ (configured cfg.netTypes).contains (NetType.ofTransport false m.cls.is6) = true
        ∧ (m.cls.is6 = true → m.cls.supported6 = true) := by
  have hq2 : cfg.has 2 = false := by simp [Config.has, hq]
  have hq5 : cfg.has 5 = false := by simp [Config.has, hq]
  unfold hostMuxUnits
  cases hm : cfg.udpMux with
  | none => simp
  | some addrs =>
    simp only [List.mem_flatMap, List.mem_map, List.mem_filter, hq2, hq5, Bool.or_false, Bool.and_eq_true, hostNetEnabled,
      Option.some.injEq]
    constructor
    · rintro ⟨a, ha, m, ⟨hm, hen, hs⟩, rfl⟩
      refine ⟨addrs, a, m, rfl, ha, hm, rfl, hen, ?_⟩
      intro h6
      simpa [h6] using hs
    · rintro ⟨addrs', a, m, rfl, ha, hm, rfl, hen, hs⟩
      refine ⟨a, ha, m, ⟨hm, hen, ?_⟩, rfl⟩
      cases h6 : m.cls.is6 <;> simp_all

theorem mem_allUnits {cfg : Config} {ifs : List Iface} {u : GUnit} :
    u ∈ allUnits cfg ifs ↔
      (cfg.candTypes.contains .host = true ∧ (u ∈ hostMuxUnits cfg ∨ u ∈ hostIfaceUnits cfg ifs))
      ∨ (cfg.candTypes.contains .srflx = true ∧ u ∈ srflxAllUnits cfg ifs)
      ∨ (cfg.candTypes.contains .relay = true ∧ u ∈ relayUnits cfg ifs) := by
  unfold allUnits
  cases cfg.candTypes.contains .host <;> cases cfg.candTypes.contains .srflx <;> cases cfg.candTypes.contains .relay <;>
    simp [or_assoc]

theorem mem_udpTypes {nts : List NetType} {t : NetType} : t ∈ udpTypes nts ↔ t ∈ nts ∧ t.isTCP = false := by
  simp [udpTypes]

theorem mem_srflxUnits {cfg : Config} {ifs : List Iface} {u : GUnit} (h : u ∈ srflxUnits cfg ifs) :
    u.kind = .srflx ∧ u.net ∈ configured cfg.netTypes ∧ u.net.isTCP = false ∧
      (if useFilteredLocalAddrs cfg then Local cfg (configured cfg.netTypes) ifs u.bind
       else u.bind = unspec u.net.is6) := by
  unfold srflxUnits at h
  simp only [List.mem_flatMap] at h
  obtain ⟨nt, hnt, k, _, h⟩ := h
  have hnt' := mem_udpTypes.1 hnt
  split at h
  · rename_i hf
    simp only [List.mem_map, List.mem_filter] at h
    obtain ⟨p, ⟨hp, _⟩, rfl⟩ := h
    simpa [hf, hnt'.1, hnt'.2] using local_of_mem hp
  · rename_i hf
    simp only [List.mem_singleton] at h
    subst h
    simp [hf, hnt'.1, hnt'.2]

theorem mem_srflxMuxUnits {cfg : Config} {u : GUnit} (h : u ∈ srflxMuxUnits cfg) :
    u.kind = .srflxMux ∧ u.net ∈ configured cfg.netTypes ∧ u.net.isTCP = false ∧ cfg.srflxMux.isSome = true := by
  unfold srflxMuxUnits at h
  cases hm : cfg.srflxMux with
  | none => simp [hm] at h
  | some addrs =>
    simp only [hm, List.mem_flatMap, List.mem_map] at h
    obtain ⟨nt, hnt, k, _, a, _, rfl⟩ := h
    have hnt' := mem_udpTypes.1 hnt
    simp [hnt'.1, hnt'.2]

theorem mem_srflxMappedUnits {cfg : Config} {ifs : List Iface} {u : GUnit} (hq : cfg.quirks = [])
    (h : u ∈ srflxMappedUnits cfg ifs) :
    u.kind = .srflxMapped ∧ u.net ∈ configured cfg.netTypes ∧ u.net.isTCP = false ∧
      (if useFilteredLocalAddrs cfg then Local cfg (configured cfg.netTypes) ifs u.bind ∧ u.bind.cls.is6 = u.net.is6
       else u.bind = unspec u.net.is6) := by
  have hq4 : cfg.has 4 = false := by simp [Config.has, hq]
  unfold srflxMappedUnits at h
  split at h
  · simp at h
  · simp only [List.mem_flatMap, hq4, Bool.not_false, Bool.and_true, List.mem_map] at h
    obtain ⟨nt, hnt, b, hb, rfl⟩ := h
    have hnt' := mem_udpTypes.1 hnt
    split at hb
    · rename_i hf
      simp only [List.mem_map, List.mem_filter] at hb
      obtain ⟨p, ⟨hp, hfam⟩, rfl⟩ := hb
      simp only [hf, ↓reduceIte, hnt'.1, hnt'.2, true_and]
      exact ⟨local_of_mem hp, by simpa using hfam⟩
    · rename_i hf
      simp only [List.mem_singleton] at hb
      subst hb
      simp [hf, hnt'.1, hnt'.2]

theorem mem_relayUnits {cfg : Config} {ifs : List Iface} {u : GUnit} (h : u ∈ relayUnits cfg ifs) :
    u.kind = .relay ∧ u.net = .udp4 ∧
      (if useFilteredLocalAddrs cfg then Local cfg cfg.netTypes ifs u.bind else u.bind = unspec false) := by
  unfold relayUnits at h
  simp only at h
  split at h
  · simp at h
  · split at h
    · simp at h
    · simp only [List.mem_flatMap] at h
      obtain ⟨k, _, h⟩ := h
      split at h
      · rename_i hf
        simp only [List.mem_map, List.mem_filter] at h
        obtain ⟨p, ⟨hp, _⟩, rfl⟩ := h
        simpa [hf] using local_of_mem hp
      · rename_i hf
        simp only [List.mem_singleton] at h
        subst h
        simp [hf]

theorem getD_self_or_mem {α : Type} (l : List α) (i : Nat) (b : α) : (l[i]?).getD b = b ∨ (l[i]?).getD b ∈ l := by
  cases h : l[i]? with
  | none => exact .inl rfl
  | some a => exact .inr (List.mem_of_getElem? h)

theorem mappedAddr_cases (cfg : Config) (b : Addr) (ci : Nat) :
    (((srflxMappedAddrs cfg b).getD [])[ci]?).getD b = b
    ∨ (((((srflxMappedAddrs cfg b).getD [])[ci]?).getD b).cls = AddrClass.x4 ∧ b.cls.is6 = false)
    ∨ (∃ r exts, cfg.srflxPinned = some (r, exts) ∧ (((srflxMappedAddrs cfg b).getD [])[ci]?).getD b ∈ exts) := by
  rcases getD_self_or_mem ((srflxMappedAddrs cfg b).getD []) ci b with h | h
  · exact .inl h
  · revert h
    generalize (((srflxMappedAddrs cfg b).getD [])[ci]?).getD b = A
    unfold srflxMappedAddrs
    intro h
    split at h
    · rename_i r exts hp
      split at h
      · exact .inr (.inr ⟨r, exts, hp, h⟩)
      · exact .inl (List.mem_singleton.1 h)
    · split at h
      · exact .inl (List.mem_singleton.1 h)
      · rename_i h6
        have h6' : b.cls.is6 = false := by simpa using h6
        cases hr : cfg.srflxRewrite <;> simp only [hr, Option.getD_some, Option.getD_none, List.mem_cons, List.not_mem_nil, or_false] at h
        · exact .inl h
        · exact .inr (.inl ⟨by rw [h], h6'⟩)
        · exact .inr (.inl ⟨by rcases h with h | h <;> rw [h], h6'⟩)
        · exact .inr (.inl ⟨by rw [h], h6'⟩)

theorem relayAddr_cases (cfg : Config) (m ci : Nat) :
    ((((relayAddrs cfg m).getD [])[ci]?).getD ⟨.r4, m⟩).cls = AddrClass.r4 ∨
      ((((relayAddrs cfg m).getD [])[ci]?).getD ⟨.r4, m⟩).cls = AddrClass.x4 := by
  unfold relayAddrs
  cases cfg.relayRewrite <;> rcases ci with _ | _ | ci <;> simp

end IceProofs.GatherUnits

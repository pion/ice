import IceProofs.CloseSysStep
/-! # CloseSys — what no transition undoes (`Stays`), and the state once a `Close` has returned -/
namespace IceProofs.CloseSys
open IceModel.CloseSys

/-- handler tables and drainer threads are the same in `s'` as in `s`. -/
def StreamsCk (s s' : State) : Prop :=
  ∀ (j : Nat) (st' : Stream), s'.streams[j]? = some st' → ∃ st : Stream, s.streams[j]? = some st ∧
    st'.hdl = st.hdl ∧ st'.th = st.th

theorem StreamsCk.of_eq {s s' : State} (h : s'.streams = s.streams) : StreamsCk s s' :=
  fun j st' hj => ⟨st', by rw [← h]; exact hj, rfl, rfl⟩

theorem setNdone_ck (s : State) (i : Nat) : StreamsCk s (setNdone s i) := by
  intro j st' hj
  obtain ⟨st, h1, h2, _, _, h5, h6⟩ := setNdone_streams s i j st' hj
  refine ⟨st, h1, ?_, h2⟩
  simp only [setNdone, List.getElem?_modify, h1] at hj
  simp at hj; subst hj; split <;> rfl

theorem enqueue_ck (s : State) (i e : Nat) : StreamsCk s (enqueue s i e) := by
  intro j st' hj
  obtain ⟨st, h1, h2, _, h4, _⟩ := enqueue_stream s i e j st' hj
  exact ⟨st, h1, h4, h2⟩

theorem loopStep_frame {s s' : State} (hs : loopStep s = some s') :
    s'.done = s.done ∧ s'.tasksRun = s.tasksRun ∧ s'.closeRet = s.closeRet ∧ s'.gcloseRet = s.gcloseRet ∧
      StreamsCk s s' := by
  apply loopStep_cases hs
  case enq =>
    intro o i e ops _
    have hck := enqueue_ck { s with loop := .task o ops } i e
    obtain ⟨_, _, he⟩ := enqueue_eq { s with loop := .task o ops } i e
    rw [he] at hck ⊢
    exact ⟨rfl, rfl, rfl, rfl, hck⟩
  case ocNotify =>
    intro _
    have hck := enqueue_ck s 0 0
    obtain ⟨_, _, he⟩ := enqueue_eq s 0 0
    rw [he] at hck ⊢
    exact ⟨rfl, rfl, rfl, rfl, hck⟩
  case gather =>
    intro o _ ops _ _ _ _
    obtain ⟨_, he⟩ := cancelCur_eq { s with loop := .task o ops }
    rw [he]; exact ⟨rfl, rfl, rfl, rfl, .of_eq rfl⟩
  case cancelGather =>
    intro o ops _
    obtain ⟨_, he⟩ := cancelCur_eq { s with loop := .task o ops }
    rw [he]; exact ⟨rfl, rfl, rfl, rfl, .of_eq rfl⟩
  case ocCancel =>
    intro _
    obtain ⟨_, he⟩ := cancelCur_eq s
    rw [he]; exact ⟨rfl, rfl, rfl, rfl, .of_eq rfl⟩
  case tclose =>
    intro _ _ s1 fin _ hd
    obtain ⟨cands, rfl⟩ := delStep_frame hd
    exact ⟨rfl, rfl, rfl, rfl, .of_eq rfl⟩
  case ocDel =>
    intro s1 fin _ hd
    obtain ⟨cands, rfl⟩ := delStep_frame hd
    exact ⟨rfl, rfl, rfl, rfl, .of_eq rfl⟩
  all_goals intros; exact ⟨rfl, rfl, rfl, rfl, .of_eq rfl⟩

/-- what no transition undoes: `done` stays closed and from then on no task is handed to the loop (R1), the
ghost flags stay set. -/
structure Stays (s s' : State) : Prop where
  done : s.done = true → s'.done = true
  tasksRun : s.done = true → s'.tasksRun = s.tasksRun
  closeRet : s.closeRet = true → s'.closeRet = true
  gcloseRet : s.gcloseRet = true → s'.gcloseRet = true

theorem Stays.of_eq {s s' : State} (h1 : s'.done = s.done) (h2 : s'.tasksRun = s.tasksRun)
    (h3 : s'.closeRet = s.closeRet) (h4 : s'.gcloseRet = s.gcloseRet) : Stays s s' :=
  ⟨fun h => h1 ▸ h, fun _ => h2, fun h => h3 ▸ h, fun h => h4 ▸ h⟩

theorem Stays.setTh {s s1 : State} (h : Stays s s1) (t : Tid) (x : Th) : Stays s (setTh s1 t x) :=
  ⟨by simpa using h.done, by simpa using h.tasksRun, by simpa using h.closeRet, by simpa using h.gcloseRet⟩

theorem callStep_stays {s s1 : State} {t : Tid} {th th' : Th} {alt : Bool}
    (hs : callStep s t th alt = some (s1, th')) : Stays s s1 ∧ StreamsCk s s1 := by
  apply callStep_cases hs
  case handoff => exact fun _ _ _ _ hd _ => ⟨⟨by simp [hd], by simp [hd], id, id⟩, .of_eq rfl⟩
  case takeOnce => exact fun _ _ _ => ⟨⟨fun _ => rfl, fun _ => rfl, id, id⟩, .of_eq rfl⟩
  case closeNotif => exact fun _ i _ _ => ⟨.of_eq rfl rfl rfl rfl, setNdone_ck s i⟩
  case closed => exact fun _ _ _ _ => ⟨⟨id, fun _ => rfl, fun _ => rfl, fun h => by simp [h]⟩, .of_eq rfl⟩
  all_goals intros; exact ⟨.of_eq rfl rfl rfl rfl, .of_eq rfl⟩

theorem step_stays {s s' : State} {a : Action} (hs : step s a = some s') : Stays s s' := by
  unfold step at hs
  split at hs
  · obtain ⟨h1, h2, h3, h4, _⟩ := loopStep_frame hs
    exact .of_eq h1 h2 h3 h4
  · apply thStep_cases hs
    case call => exact fun _ _ _ _ _ hc => (callStep_stays hc).1.setTh _ _
    case drExit => intros; exact .of_eq rfl rfl rfl rfl
    all_goals intros; apply Stays.setTh; exact .of_eq rfl rfl rfl rfl
  · apply rlStep_cases hs
    case handoff => exact fun _ _ _ _ hd _ => ⟨by simp [hd], by simp [hd], id, id⟩
    all_goals intros; exact .of_eq rfl rfl rfl rfl
  · apply envStep_cases hs
    case thRet => intros; apply Stays.setTh; exact .of_eq rfl rfl rfl rfl
    all_goals intros; exact .of_eq rfl rfl rfl rfl

/-- the state of the agent once some `Close` has returned. -/
structure AfterClose (s : State) : Prop where
  done : s.done = true
  /-- `taskLoopDone` is closed: the loop goroutine has run onClose and is gone -/
  loopGone : s.loop = .exited
  /-- every receive loop has returned (`closedCh` closed) and every candidate's I/O is aborted -/
  recvGone : ∀ (c : Nat) (cd : Cand), s.cands[c]? = some cd → cd.rl = .exited ∧ cd.aborted = true
  /-- the gather cycle awaited by onClose has ended -/
  gatherGone : gatherFinished s = true
  bufClosed : s.bufClosed = true
  /-- the last state accepted by the connection-state notifier is Closed (event 0) -/
  lastClosed : ∀ st : Stream, s.streams[0]? = some st → s.lastAcc = some 0
  notifClosed : ∀ (i : Nat) (st : Stream), s.streams[i]? = some st → st.ndone = true

theorem Inv.afterClose {s : State} (h : Inv s) (hc : s.closeRet = true) : AfterClose s := by
  obtain ⟨hl, hn⟩ := h.ghost.1 hc
  have h8 : stage s.loop = 8 := by rw [hl]; rfl
  refine ⟨h.closing (by omega), hl, ?_, h.stages.2.2 (by omega), h.stages.1 (by omega), h.stages.2.1 (by omega), hn⟩
  intro c cd hcd
  obtain ⟨_, a2, a3⟩ := h.candOK c cd hcd
  exact ⟨a3 (by omega), a2 (a3 (by omega))⟩

/-- a blocked or new state-dependent call returns at once, with an error, without touching the shared state. -/
def ErrReturn (s : State) (t : Tid) (th : Th) : Prop :=
  ∃ r : Ret, (r = .closed ∨ r = .ioerr) ∧ callStep s t th false = some (s, th.ret r)

/-- the calls the property speaks about: a new `Run`/`Read`/`Write`, or one blocked in `Run`, `Read`, `Write`,
`AwaitConnect`. -/
def StateCall (th : Th) : Prop :=
  (th.loc = .idle ∧ ∃ r, (∃ c task, th.prog = .run c task :: r) ∨ th.prog = .read :: r ∨ (∃ c, th.prog = .write c :: r)) ∨
  (∃ c task, th.loc = .rSel c task) ∨ th.loc = .rdBlk ∨ (∃ c, th.loc = .wrBlk c) ∨ th.loc = .awBlk

theorem AfterClose.errReturn {s : State} (h : AfterClose s) (t : Tid) (th : Th) (hc : StateCall th) : ErrReturn s t th := by
  have hd := h.done
  have hb := h.bufClosed
  unfold ErrReturn callStep
  rcases hc with ⟨hl, r, ⟨c, task, hp⟩ | hp | ⟨c, hp⟩⟩ | ⟨c, task, hl⟩ | hl | ⟨c, hl⟩ | hl
  · exact ⟨.closed, Or.inl rfl, by simp [hl, hp, hd]⟩
  · exact ⟨.closed, Or.inl rfl, by simp [hl, hp, hd]⟩
  · exact ⟨.closed, Or.inl rfl, by simp [hl, hp, hd]⟩
  · exact ⟨.closed, Or.inl rfl, by simp [hl, hd]⟩
  · exact ⟨.ioerr, Or.inr rfl, by simp [hl, hb]⟩
  · refine ⟨.ioerr, Or.inr rfl, ?_⟩
    cases hcd : s.cands[c]? with
    | none => simp [hl, sockFree, hcd]
    | some cd => simp [hl, sockFree, hcd, (h.recvGone c cd hcd).2]
  · exact ⟨.closed, Or.inl rfl, by simp [hl, hd]⟩

end IceProofs.CloseSys

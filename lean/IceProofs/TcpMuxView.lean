import IceProofs.LineProto
import IceSpec.C15
/-!
# C15: the monitor's parser reads back every observation printed by `printObs`
-/
namespace IceProofs.TcpMuxView
open IceSpec.LineProto IceProofs.LineProto IceSpec.C15

theorem parseOut_printOut (e : Nat × String) (h : ':' ∉ e.2.toList) : parseOut (printOut e) = some e := by
  simp [parseOut, printOut, splitC_joinC, mem_digits, h]

theorem parseOuts_print (l : List (Nat × String)) (h : ∀ e ∈ l, ',' ∉ e.2.toList ∧ ':' ∉ e.2.toList) :
    parseOuts (joinC ',' (l.map printOut)) = some l := by
  apply sepList parseOut printOut ',' l (fun e he => parseOut_printOut e (h e he).2)
  · intro e he; simp [printOut, mem_joinC_cons, mem_joinC_one, mem_digits, (h e he).1]
  · intro e _; exact ne_empty_of_mem (d := ':') (by simp [printOut, mem_joinC_cons])

theorem parseFlag_print (pre : String) (b : Bool) : parseFlag pre (pre ++ printFlag b) = some b := by
  cases b <;> simp [parseFlag, tagged_append, printFlag]

theorem wf_iff (o : Obs) : o.wf = true ↔
    o.g ≠ [] ∧ ∀ e ∈ o.outs, ' ' ∉ e.2.toList ∧ ',' ∉ e.2.toList ∧ ':' ∉ e.2.toList := by
  simp [Obs.wf, free, and_assoc]

theorem obsToks_free (o : Obs) (h : o.wf = true) : ∀ t ∈ obsToks o, ' ' ∉ t.toList := by
  obtain ⟨_, ho⟩ := (wf_iff o).mp h
  have hflag : ∀ b, ' ' ∉ (printFlag b).toList := by intro b; cases b <;> decide
  simp [obsToks, printOut, mem_printNats, mem_joinC_ne, hflag]
  rintro _ n e he rfl
  simp [mem_joinC_cons, mem_joinC_one, mem_digits, (ho (n, e) he).1]

theorem parseObsRev_print (rt : List String) (o : Obs) (h : o.wf = true) :
    parseObsRev (rt ++ obsToks o).reverse = some { o with res := parseRes rt } := by
  obtain ⟨hg, ho⟩ := (wf_iff o).mp h
  have h1 : (rt ++ obsToks o).reverse = ("ret=" ++ printFlag o.ret) :: ";" :: ("L=" ++ printFlag o.listenerClosed) :: ";"
      :: ("g=" ++ printNats '/' o.g) :: ";" :: ("o=" ++ joinC ',' (o.outs.map printOut)) :: ";"
      :: ("c=" ++ printNats ',' o.closed) :: ";" :: rt.reverse := by
    simp [obsToks]
  rw [h1]
  simp only [parseObsRev, and_self, if_true, tagged_append, Option.bind_some, parseFlag_print, parseNatList,
    parseNats_printNats ',' (by decide), parseOuts_print o.outs (fun e he => (ho e he).2),
    splitC_printNats '/' (by decide) o.g hg, List.reverse_reverse]

/-- THE round trip of C15: every well-formed observation, printed with any result tokens free of
spaces, is read back by the monitor's line parser — with the result the parser reads from the tokens -/
theorem parseLine_printObs (rt : List String) (o : Obs) (h : o.wf = true) (hrt : ∀ t ∈ rt, ' ' ∉ t.toList) :
    parseLine (printObs rt o) = .obs { o with res := parseRes rt } := by
  have hsplit : splitC (printObs rt o) ' ' = rt ++ obsToks o := by
    unfold printObs
    apply splitC_joinC
    · simp [obsToks]
    · intro s hs
      rcases List.mem_append.mp hs with hs | hs
      · exact hrt s hs
      · exact obsToks_free o h s hs
  have hlen : (splitC (printObs rt o) ' ').length ≥ 10 := by
    rw [hsplit]; simp [obsToks]
  have hne : ∀ w : String, (splitC w ' ').length < 10 → printObs rt o ≠ w := by
    intro w hw he
    rw [he] at hlen; omega
  unfold parseLine
  rw [if_neg]
  · unfold parseObs
    rw [hsplit, parseObsRev_print rt o h]
  · intro hh
    rcases hh with hh | hh
    · exact hne _ (by decide) hh
    · exact hne _ (by decide) hh

end IceProofs.TcpMuxView

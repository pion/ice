import IceProofs.AgentC03Cand
/-!
# C03 — the STUN handlers: the only places where a NEW pair gets selected

`HSel wp a r`: running from `a` with result `r` keeps `Inv3`, is `Rel wp`, keeps the configuration;
every Binding request emitted carries the role of the RESULT state (USE-CANDIDATE only if controlling);
and if a pair becomes selected, the role did not change and the pair carries the nomination proof of
that role.
-/
namespace IceProofs.C03
open IceModel.AgentCore

/-- the nomination proof a role needs -/
def NomProof (ctl : Bool) (p : Pair) : Prop := if ctl then p.gRespUC = true else p.gNomReq = true

structure HSel (wp : Prop) (a : Agent) (r : Agent × List Out) : Prop where
  inv : Inv3 a → Inv3 r.1
  rel : Inv3 a → Rel wp a r.1
  cfg : r.1.cfg = a.cfg
  out : OutR r.1.controlling r.2
  sel : Inv3 a → ∀ id, r.1.selected = some id → a.selected ≠ some id →
    r.1.controlling = a.controlling ∧ ∃ p' ∈ r.1.checklist, p'.id = id ∧ NomProof a.controlling p'
  /-- unless the selection ends up cleared (wipe), no pair is dropped -/
  fwd : Inv3 a → r.1.selected ≠ none → Fwd a r.1

theorem HOK.hsel {wp ex : Prop} {a : Agent} {r : Agent × List Out} (h : HOK wp ex a r) : HSel wp a r := by
  refine ⟨fun hi => (h.pres hi).1, fun hi => (h.pres hi).2.toRel, h.cfg, by rw [h.ctl]; exact h.out, ?_, ?_⟩
  · intro hi id hs hn
    rcases (h.pres hi).2.sel with e | e
    · rw [e.1] at hs; exact absurd hs hn
    · rw [e.2] at hs; cases hs
  · intro hi hne
    rcases (h.pres hi).2.sel with e | e
    · exact e.2
    · exact absurd e.2 hne

theorem HSel.weaken {wp wp' : Prop} {a : Agent} {r : Agent × List Out} (h : HSel wp a r) (hw : wp' → wp) :
    HSel wp' a r := ⟨h.inv, fun hi => (h.rel hi).weaken hw, h.cfg, h.out, h.sel, h.fwd⟩

theorem Rel.flag_transfer {wp : Prop} {a b : Agent} (hr : Rel wp a b) (hia : Inv3 a) {p : Pair}
    (hp : p ∈ a.checklist) {q : Pair} (hq : q ∈ b.checklist) (e : q.id = p.id) : PLe p q := by
  obtain ⟨p0, hp0, hid, hle, _⟩ := hr.old q hq (by rw [e]; exact hia.ids.le p hp)
  have : p0 = p := mem_unique hia.ids hp0 hp (hid.trans e)
  exact this ▸ hle

theorem NomProof.mono {c : Bool} {p q : Pair} (h : PLe p q) (hp : NomProof c p) : NomProof c q := by
  unfold NomProof at *
  cases c
  · exact h.gNomReq hp
  · exact h.gRespUC hp

theorem HSel.seq_hok {wp ex : Prop} {a a1 a2 : Agent} {o1 o2 : List Out} (h1 : HSel wp a (a1, o1))
    (h2 : HOK wp ex a1 (a2, o2)) : HSel wp a (a2, o1 ++ o2) := by
  refine ⟨fun hi => (h2.pres (h1.inv hi)).1, fun hi => (h1.rel hi).trans (h2.pres (h1.inv hi)).2.toRel,
    h2.cfg.trans h1.cfg, ?_, ?_, ?_⟩
  · show OutR a2.controlling (o1 ++ o2)
    rw [h2.ctl]
    exact h1.out.append h2.out
  · intro hi id hs hn
    have hi1 := h1.inv hi
    have hq := (h2.pres hi1).2
    have hs1 : a1.selected = some id := by
      rcases hq.sel with e | e
      · exact e.1 ▸ hs
      · have hs' : a2.selected = some id := hs
        rw [e.2] at hs'; cases hs'
    obtain ⟨hc, p1, hp1, hid1, hn1⟩ := h1.sel hi id hs1 hn
    refine ⟨h2.ctl.trans hc, ?_⟩
    obtain ⟨p2, hp2, hid2, _⟩ := (h2.pres hi1).1.sel id hs
    exact ⟨p2, hp2, hid2, hn1.mono (hq.toRel.flag_transfer hi1 hp1 hp2 (hid2.trans hid1.symm))⟩
  · intro hi hne
    have hi1 := h1.inv hi
    rcases (h2.pres hi1).2.sel with e | e
    · have hne1 : a1.selected ≠ none := by
        have : a2.selected ≠ none := hne
        rw [e.1] at this; exact this
      exact (h1.fwd hi hne1).trans e.2
    · exact absurd e.2 hne

theorem HSel.after_hok {wp : Prop} {a a1 a2 : Agent} {o1 o2 : List Out} (h1 : HOK wp True a (a1, o1))
    (hn1 : NoReq o1) (h2 : HSel wp a1 (a2, o2)) : HSel wp a (a2, o1 ++ o2) := by
  refine ⟨fun hi => h2.inv (h1.pres hi).1, fun hi => (h1.pres hi).2.toRel.trans (h2.rel (h1.pres hi).1),
    h2.cfg.trans h1.cfg, (hn1.outR _).append h2.out, ?_, ?_⟩
  · intro hi id hs hn
    have hq := (h1.pres hi).2
    have hn1' : a1.selected ≠ some id := by
      rcases hq.sel with e | e
      · rw [e.1]; exact hn
      · rw [e.2]; exact fun h => by cases h
    obtain ⟨hc, p, hp, hid, hnp⟩ := h2.sel (h1.pres hi).1 id hs hn1'
    exact ⟨hc.trans h1.ctl, p, hp, hid, h1.ctl ▸ hnp⟩
  · intro hi hne
    rcases (h1.pres hi).2.sel with e | e
    · exact e.2.trans (h2.fwd (h1.pres hi).1 hne)
    · exact absurd trivial e.1

theorem HSel.andThen {wp : Prop} {a a1 a2 : Agent} {o1 : List Out} (h1 : HSel wp a (a1, o1))
    (hp : Pres wp True a1 a2) (hc : a2.cfg = a1.cfg) (hr : a2.controlling = a1.controlling) :
    HSel wp a (a2, o1) := by
  have := h1.seq_hok (HOK.silent hp hc hr)
  simpa using this

theorem HSel.of_pres {wp : Prop} {a a' : Agent} (hp : Pres wp True a a') (hc : a'.cfg = a.cfg) :
    HSel wp a (a', []) := by
  refine ⟨fun hi => (hp hi).1, fun hi => (hp hi).2.toRel, hc, OutR.nil _, ?_, ?_⟩
  · intro hi id hs hn
    rcases (hp hi).2.sel with e | e
    · rw [e.1] at hs; exact absurd hs hn
    · exact absurd trivial e.1
  · intro hi _
    rcases (hp hi).2.sel with e | e
    · exact e.2
    · exact absurd trivial e.1

/-! ## The selectors' handlers

`Sel a r`: what a handler of one selector does, seen from outside.  It is `HSel` with the role kept and no pair dropped,
and so — unlike `HSel`, which also describes steps that switch role or fail the connection — closed under sequencing. -/

structure Sel (a : Agent) (r : Agent × List Out) : Prop where
  cfg : r.1.cfg = a.cfg
  ctl : r.1.controlling = a.controlling
  out : OutR a.controlling r.2
  inv : Inv3 a → Inv3 r.1
  rel : Inv3 a → Rel True a r.1
  fwd : Inv3 a → Fwd a r.1
  /-- a newly selected pair carries the nomination proof of the role -/
  sel : Inv3 a → ∀ id, r.1.selected = some id → a.selected ≠ some id →
    ∃ p' ∈ r.1.checklist, p'.id = id ∧ NomProof a.controlling p'

theorem HOK.sel {a : Agent} {r : Agent × List Out} (h : HOK True True a r) : Sel a r := by
  have hq : ∀ hi : Inv3 a, r.1.selected = a.selected ∧ Fwd a r.1 := fun hi =>
    (h.pres hi).2.sel.resolve_right fun e => e.1 trivial
  exact ⟨h.cfg, h.ctl, h.out, fun hi => (h.pres hi).1, fun hi => (h.pres hi).2.toRel, fun hi => (hq hi).2,
    fun hi id hs hn => absurd ((hq hi).1.symm.trans hs) hn⟩

theorem Sel.seq {a : Agent} {r1 r2 : Agent × List Out} (h1 : Sel a r1) (h2 : Sel r1.1 r2) : Sel a (r2.1, r1.2 ++ r2.2) := by
  refine ⟨h2.cfg.trans h1.cfg, h2.ctl.trans h1.ctl, h1.out.append (h1.ctl ▸ h2.out), fun hi => h2.inv (h1.inv hi),
    fun hi => (h1.rel hi).trans (h2.rel (h1.inv hi)), fun hi => (h1.fwd hi).trans (h2.fwd (h1.inv hi)),
    fun hi id hs hn => ?_⟩
  have hi1 := h1.inv hi
  by_cases h1s : r1.1.selected = some id
  · -- selected by the first part: the second keeps its flags
    obtain ⟨p1, hp1, hid1, hn1⟩ := h1.sel hi id h1s hn
    obtain ⟨p2, hp2, hid2, _⟩ := (h2.inv hi1).sel id hs
    exact ⟨p2, hp2, hid2, hn1.mono ((h2.rel hi1).flag_transfer hi1 hp1 hp2 (hid2.trans hid1.symm))⟩
  · obtain ⟨p2, hp2, hid2, hn2⟩ := h2.sel hi1 id hs h1s
    exact ⟨p2, hp2, hid2, h1.ctl ▸ hn2⟩

theorem Sel.hsel {a : Agent} {r : Agent × List Out} (h : Sel a r) : HSel True a r :=
  ⟨h.inv, h.rel, h.cfg, h.ctl ▸ h.out, fun hi id hs hn => ⟨h.ctl, h.sel hi id hs hn⟩, fun hi _ => h.fwd hi⟩

end IceProofs.C03

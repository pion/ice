import IceProofs.AgentC03Send
import IceProofs.AgentMoves
/-!
# C03 — the quiet moves: timers, candidate bookkeeping and the data plane never select and never validate a pair

`hok_move`: in a context in which no message is in hand and no session call is served (`Mute`, `Calm`), every move is `HOK`: it
keeps the invariant, ghost flags, configuration, role and selection (a tick may clear it), and a Binding request it
emits carries the agent's role.  `HOK` is closed under sequencing, so every helper of `step` whose chain lives in such
a context is `HOK` (`hok_chain`).
-/
namespace IceProofs.C03
open IceModel.AgentCore
open IceProofs.Agent (Ctx Kind Move Chain PairUpd SelectWhy StateWhy)

theorem Pres.of_eq_np {ex : Prop} {a a' : Agent} (hc : a'.cfg = a.cfg) (hn : a'.nextPairID = a.nextPairID)
    (hl : a'.checklist = a.checklist) (hs : a'.selected = a.selected) : Pres False ex a a' :=
  fun h => ⟨h.of_eq hc hn hl (Or.inl hs),
    ⟨⟨hc, by omega, fun p' hp' _ => ⟨p', hl ▸ hp', rfl, PLe.refl _, False.elim⟩⟩, Or.inl ⟨hs, Fwd.of_eq hl⟩⟩⟩

theorem modPair_state_pres {wp ex : Prop} (a : Agent) (id : Nat) (p : Pair) (s : PairState)
    (hp : a.pairById id = some p) (hps : p.state ≠ .succeeded) (hs : s ≠ .succeeded) :
    Pres wp ex a (a.modPair id fun q => { q with state := s }) := by
  intro hi
  have hq : ∀ q ∈ a.checklist, q.id = id → q.state ≠ .succeeded := by
    intro q hqm e
    have := pairById_of_mem hi.ids hqm
    rw [e, hp] at this
    cases this; exact hps
  exact modPair_pres a id _ (fun _ => rfl)
    (fun q hqm e => ⟨fun x => x, fun x => x, fun x => x, fun x => x, fun h => absurd h (hq q hqm e)⟩)
    (fun _ q _ _ => ⟨rfl, rfl, rfl, rfl⟩)
    (fun q _ _ h => ⟨fun h' => absurd h' hs, h.deferred, h.respUC⟩)
    (fun _ q hq' e h => absurd h.succ (hq q hq' e)) hi

theorem modPair_flag_pres {wp ex : Prop} (a : Agent) (id : Nat) (f : Pair → Pair) (hid : ∀ p, (f p).id = p.id)
    (hle : ∀ p, PLe p (f p)) (hpr : ∀ p, PrioF p (f p))
    (hok : ∀ p ∈ a.checklist, p.id = id → PairOK a.cfg.lite p → PairOK a.cfg.lite (f p))
    (hsel : ∀ p, SelPair p → SelPair (f p)) : Pres wp ex a (a.modPair id f) :=
  modPair_pres a id f hid (fun p _ _ => hle p) (fun _ p _ _ => hpr p) hok (fun _ p _ _ => hsel p)

theorem nominated_pres {wp ex : Prop} (a : Agent) (id : Nat) :
    Pres wp ex a (a.modPair id fun p => { p with nominated := true }) :=
  modPair_flag_pres a id _ (fun _ => rfl) (fun _ => ⟨fun h => h, fun h => h, fun h => h, fun h => h, fun h => h⟩) (fun _ => ⟨rfl, rfl, rfl, rfl⟩)
    (fun _ _ _ h => ⟨h.valid, h.deferred, h.respUC⟩) (fun _ h => ⟨h.succ, rfl, h.nom⟩)

theorem countReq_pres {wp ex : Prop} (a : Agent) (id : Nat) (m : Msg) : Pres wp ex a (a.modPair id (Agent.countReq m)) :=
  modPair_flag_pres a id _ (fun _ => rfl)
    (fun _ => ⟨fun _ => rfl, fun h => by simp [Agent.countReq, h], fun h => h, fun h => h, fun h => h⟩) (fun _ => ⟨rfl, rfl, rfl, rfl⟩)
    (fun q _ _ h => ⟨fun hs => (h.valid hs).imp (fun h => h) (fun ⟨h1, h2⟩ => ⟨h1, by simp [Agent.countReq, h2]⟩),
      fun hn => by simp [Agent.countReq, h.deferred hn], h.respUC⟩)
    (fun _ h => ⟨h.succ, h.nominated, h.nom.imp (fun h => h) (fun h => by simp [Agent.countReq, h])⟩)

theorem succeeded_pres {wp ex : Prop} (a : Agent) (id : Nat) (uc : Bool) :
    Pres wp ex a (a.modPair id fun p => { p with state := .succeeded, gResp := true, gRespUC := p.gRespUC || uc }) :=
  modPair_flag_pres a id _ (fun _ => rfl)
    (fun _ => ⟨fun h => h, fun h => h, fun _ => rfl, fun h => by simp [h], fun _ => rfl⟩) (fun _ => ⟨rfl, rfl, rfl, rfl⟩)
    (fun _ _ _ h => ⟨fun _ => Or.inl rfl, h.deferred, fun _ => rfl⟩)
    (fun _ h => ⟨rfl, h.nominated, h.nom.imp (fun h => by simp [h]) fun h => h⟩)

theorem undefer_pres {wp ex : Prop} (a : Agent) (id : Nat) :
    Pres wp ex a (a.modPair id fun p => { p with nomOnSuccess := false, deferredNom := none }) :=
  modPair_flag_pres a id _ (fun _ => rfl) (fun _ => ⟨fun h => h, fun h => h, fun h => h, fun h => h, fun h => h⟩) (fun _ => ⟨rfl, rfl, rfl, rfl⟩)
    (fun _ _ _ h => ⟨h.valid, fun hn => Bool.noConfusion hn, h.respUC⟩) (fun _ h => ⟨h.succ, h.nominated, h.nom⟩)

theorem defer_pres {wp ex : Prop} (a : Agent) (id : Nat) (nom : Option Nat)
    (hg : ∀ q ∈ a.checklist, q.id = id → q.gNomReq = true) :
    Pres wp ex a (a.modPair id fun p => { p with nomOnSuccess := true, deferredNom := nom }) :=
  modPair_flag_pres a id _ (fun _ => rfl) (fun _ => ⟨fun h => h, fun h => h, fun h => h, fun h => h, fun h => h⟩) (fun _ => ⟨rfl, rfl, rfl, rfl⟩)
    (fun q hq e h => ⟨h.valid, fun _ => hg q hq e, h.respUC⟩) (fun _ h => ⟨h.succ, h.nominated, h.nom⟩)

theorem liteValid_pres {wp ex : Prop} (a : Agent) (id : Nat) (hl : a.cfg.lite = true)
    (hg : ∀ q ∈ a.checklist, q.id = id → q.gNomReq = true) :
    Pres wp ex a (a.modPair id fun p => { p with state := .succeeded }) :=
  modPair_flag_pres a id _ (fun _ => rfl) (fun _ => ⟨fun h => h, fun h => h, fun h => h, fun h => h, fun _ => rfl⟩) (fun _ => ⟨rfl, rfl, rfl, rfl⟩)
    (fun q hq e h => ⟨fun _ => Or.inr ⟨hl, hg q hq e⟩, h.deferred, h.respUC⟩) (fun _ h => ⟨rfl, h.nominated, h.nom⟩)

theorem setConnState_noReq (a : Agent) (s : ConnState) : NoReq (a.setConnState s).2 := by
  unfold Agent.setConnState
  split
  · exact NoReq.nil
  · intro f t m hm; simp at hm

theorem setConnState_hok {wp : Prop} (a : Agent) (s : ConnState) : HOK wp False a (a.setConnState s) :=
  ⟨setConnState_pres a s, (setConnState_cc a s).1, (setConnState_cc a s).2, (setConnState_noReq a s).outR _⟩

theorem select_noReq (a : Agent) (id : Nat) : NoReq (a.select id).2 := by
  obtain ⟨x, y, h⟩ := Agent.select_snd_eq a id
  rw [h]
  exact NoReq.of_no_dgram fun f t m hm => by split at hm <;> simp at hm

theorem select_same_hok {wp ex : Prop} (a : Agent) (id : Nat) (hs : a.selected = some id) :
    HOK wp ex a (a.select id) :=
  ⟨select_same_pres a id hs, (select_cc a id).1, (select_cc a id).2, (select_noReq a id).outR _⟩

/-- No session call is served and the role is not switched; if `wp`, no candidate is listed or dropped; if `ex`, no
tick runs (which could find the connection failed). -/
structure Calm (cx : Ctx) (wp ex : Prop) : Prop where
  session : ¬ cx.may .session
  role : ¬ cx.may .role
  cands : wp → ¬ cx.may .locals ∧ ¬ cx.may .remotes
  tick : ex → ¬ cx.may .tick

theorem move_cases {cx : Ctx} {wp ex : Prop} (hq : Calm cx wp ex) (hr : cx.roles) {a : Agent} {r : Agent × List Out}
    (h : Move cx a r) :
    HOK wp ex a r ∨ ∃ id, r = a.select id ∧ SelectWhy cx a id ∧ cx.may .select := by
  refine Classical.or_iff_not_imp_right.mpr fun hns => ?_
  -- what `Inv3` and `Quiet` do not look at
  have eq : ∀ {a' : Agent}, a'.cfg = a.cfg → a'.controlling = a.controlling → a'.nextPairID = a.nextPairID →
      a'.checklist = a.checklist → a'.selected = a.selected → (∀ p, a'.pairPrio p = a.pairPrio p) → HOK wp ex a (a', []) :=
    fun hc hr hn hl hs hp => HOK.silent (Pres.of_eq hc hn hl hs hp) hc hr
  -- the candidate tables change: no claim about priorities
  have np : ¬ wp → ∀ {a' : Agent}, a'.cfg = a.cfg → a'.controlling = a.controlling → a'.nextPairID = a.nextPairID →
      a'.checklist = a.checklist → a'.selected = a.selected → HOK wp ex a (a', []) :=
    fun hw _ hc hr hn hl hs => HOK.silent ((Pres.of_eq_np hc hn hl hs).weaken hw fun e => e) hc hr
  have out : ∀ {o : List Out}, (∀ f t m, Out.dgram f t m ∉ o) → HOK wp ex a (a, o) :=
    fun ho => (HOK.refl wp ex a).with_out ((NoReq.of_no_dgram ho).outR _)
  have core : ∀ id (f : Pair → Pair), (∀ p, CoreSame p (f p)) → HOK wp ex a (a.modPair id f, []) :=
    fun id f hf => HOK.silent (modPair_core a id f hf) rfl rfl
  cases h with
  | pair id f hf =>
    cases hf with
    | nominated => exact HOK.silent (nominated_pres a id) rfl rfl
    | inProgress hl =>
      obtain ⟨p, hp, hw⟩ := hl
      exact HOK.silent (modPair_state_pres a id p _ hp (by rw [hw]; decide) (by decide)) rfl rfl
    | failed hl =>
      obtain ⟨p, hp, hs, _⟩ := hl
      exact HOK.silent (modPair_state_pres a id p _ hp (by rw [hs]; decide) (by decide)) rfl rfl
    | succeeded => exact HOK.silent (succeeded_pres a id _) rfl rfl
    | undefer => exact HOK.silent (undefer_pres a id) rfl rfl
    | countReq m => exact HOK.silent (countReq_pres a id m) rfl rfl
    | liteValid _ _ _ _ hl _ _ hg => exact HOK.silent (liteValid_pres a id hl (hg hr)) rfl rfl
    | defer _ _ _ m _ _ hg => exact HOK.silent (defer_pres a id m.nom (hg hr)) rfl rfl
    | retarget old c p hm =>
      exact HOK.silent (modPair_pres a id _ (fun _ => rfl) (fun _ _ _ => ⟨fun h => h, fun h => h, fun h => h, fun h => h, fun h => h⟩)
        (fun w => absurd hm (hq.cands w).2) (fun _ _ _ h => ⟨h.valid, h.deferred, h.respUC⟩)
        (fun _ _ _ _ h => ⟨h.succ, h.nominated, h.nom⟩)) rfl rfl
    | _ => exact core _ _ fun _ => ⟨rfl, rfl, rfl, rfl, rfl, rfl, rfl, rfl, rfl, rfl, rfl, rfl⟩
  | addPair l r _ => exact HOK.silent (addPair_pres a l r) rfl rfl
  | connState s =>
    refine (eq (a' := { a with connState := s }) rfl rfl rfl rfl rfl fun _ => rfl).with_out (NoReq.outR ?_ _)
    intro f t m hm; simp at hm
  | failed _ hw =>
    have ht : cx.may .tick := hw.failed_tick
    have h2 : Pres wp False a.wipe { a.wipe with connState := .failed } := Pres.of_eq rfl rfl rfl rfl fun _ => rfl
    refine ⟨((wipe_pres a).trans h2).weaken (fun w => w) fun e => hq.tick e ht, rfl, rfl, NoReq.outR ?_ _⟩
    intro f t m hm; simp at hm
  | select id hw hs => exact absurd ⟨id, rfl, hw, hs⟩ hns
  | request now l r uc _ hn => exact sendRequest_hok a now l r uc none fun hu => (hn hr hu).controlling
  | issue now l r v _ _ _ hc =>
    exact (sendRequest_hok a now l r true _ fun _ => hc).andThen (Pres.of_eq rfl rfl rfl rfl fun _ => rfl) rfl rfl
  | seenLocalSent uid now => exact HOK.silent (seenLocalSent_pres a uid now) rfl rfl
  | seenRemoteRecv uid now => exact HOK.silent (seenRemoteRecv_pres a uid now) rfl rfl
  | newLocal c _ _ hl => exact np (fun w => (hq.cands w).1 hl) rfl rfl rfl rfl rfl
  | newRemote c _ hm => exact np (fun w => (hq.cands w).2 hm) rfl rfl rfl rfl rfl
  | dropRemotes old hm => exact np (fun w => (hq.cands w).2 hm) rfl rfl rfl rfl rfl
  | switch _ _ _ _ _ hm => exact absurd hm hq.role
  | start _ _ _ _ hs => exact absurd hs hq.session
  | creds _ _ hs => exact absurd hs hq.session
  | restart _ _ _ hs => exact absurd hs hq.session
  | close hs => exact absurd hs hq.session
  | armChecks hs => exact absurd hs hq.session
  | res s => exact out fun f t m hm => by simp at hm
  | cbCand x => exact out fun f t m hm => by simp at hm
  | data f t len => exact out fun f t m hm => by simp at hm
  | answer f t now l src m =>
    refine (HOK.refl wp ex a).with_out fun f t m' hm h0 => ?_
    simp only [List.mem_singleton, Out.dgram.injEq] at hm
    rw [hm.2.2] at h0; cases h0
  | refuse f t now l src m =>
    refine (HOK.refl wp ex a).with_out fun f t m' hm h0 => ?_
    simp only [List.mem_singleton, Out.dgram.injEq] at hm
    rw [hm.2.2] at h0; cases h0
  | _ => exact eq rfl rfl rfl rfl rfl fun _ => rfl

/-- the selectors do not act, or no message is in hand -/
def Mute (cx : Ctx) : Prop := cx.may .select → cx.Silent

theorem hok_move {cx : Ctx} {wp ex : Prop} (hq : Calm cx wp ex) (hr : cx.roles) (hm : Mute cx) {a : Agent}
    {r : Agent × List Out} (h : Move cx a r) : HOK wp ex a r := by
  obtain h | ⟨id, rfl, hw, hs⟩ := move_cases hq hr h
  · exact h
  · exact select_same_hok a id (hw.again_of_silent (hm hs))

theorem hok_chain {cx : Ctx} {wp ex : Prop} (hq : Calm cx wp ex) (hr : cx.roles) (hm : Mute cx) {a : Agent}
    {r : Agent × List Out} (h : Chain cx a r) : HOK wp ex a r :=
  h.ind (fun a => HOK.refl wp ex a) (fun _ _ => hok_move hq hr hm) fun h1 h2 => HOK.seq h1 h2

/-- a helper called on any candidates, in the agent's role, with no message in hand; the moves of the kinds `P` may occur -/
def quiet (P : Kind → Prop) : Ctx :=
  { Ctx.idle with may := P, addsLocal := fun _ => True, addsRemote := fun _ => True, strict := False }

theorem hok_quiet {P : Kind → Prop} {wp ex : Prop} (hs : ¬ P .session) (hr : ¬ P .role) (hc : wp → ¬ P .locals ∧ ¬ P .remotes)
    (ht : ex → ¬ P .tick) {a : Agent} {r : Agent × List Out} (h : Chain (quiet P) a r) : HOK wp ex a r :=
  hok_chain ⟨hs, hr, hc, ht⟩ trivial (fun _ => ⟨fun _ _ _ _ _ _ _ h => h, fun _ _ _ _ h => h, fun _ _ _ _ h => h⟩) h

theorem hok_idle {wp : Prop} {a : Agent} {r : Agent × List Out} (h : Chain Ctx.idle a r) : HOK wp False a r :=
  have hq : Calm Ctx.idle wp False := ⟨nofun, nofun, fun _ => ⟨nofun, nofun⟩, False.elim⟩
  hok_chain hq trivial (fun _ => Agent.Ctx.idle_silent) h

theorem contact_hok {wp : Prop} (a : Agent) (now : Nat) : HOK wp False a (a.contact now) :=
  hok_idle (Chain.contact a now)

theorem runForced_hok {wp : Prop} (a : Agent) (now : Nat) : HOK wp False a (a.runForced now) :=
  hok_idle (Chain.runForced a now)

theorem runTimers_hok {wp : Prop} (a : Agent) (now fuel : Nat) : HOK wp False a (a.runTimers now fuel) :=
  hok_idle (Chain.runTimers a now fuel)

/-- the block "validateSelectedPair; checkKeepalive" shared by both full selectors -/
def valKeep (a : Agent) (now : Nat) : Agent × List Out :=
  let (a, o, ok) := a.validateSelected now
  if ok then let (a, o') := a.keepalive now; (a, o ++ o') else (a, o)

/-- the block "validateSelectedPair; checkKeepalive; automatic renomination" of the controlling selector -/
def valKeepAuto (a : Agent) (now : Nat) : Agent × List Out :=
  let (a, o, ok) := a.validateSelected now
  if ok then let (a, o') := a.keepalive now; let (a, o'') := a.autoRenom now; (a, o ++ o' ++ o'') else (a, o)

theorem validateSelected_noReq (a : Agent) (now : Nat) : NoReq (a.validateSelected now).2.1 := by
  unfold Agent.validateSelected
  split
  · exact NoReq.nil
  · exact setConnState_noReq a _

theorem contactCandidates_noReq (a : Agent) (now : Nat) (hl : a.cfg.lite = true) (hc : a.controlling = false) :
    NoReq (a.contactCandidates now).2 := by
  unfold Agent.contactCandidates
  simp only [hc, hl, Bool.false_eq_true, if_false, if_true]
  exact validateSelected_noReq a now

theorem chk_cc (a : Agent) (now : Nat) : (chk a now).cfg = a.cfg ∧ (chk a now).controlling = a.controlling := by
  unfold chk
  split <;> exact ⟨rfl, rfl⟩

theorem contact_noReq (a : Agent) (now : Nat) (hl : a.cfg.lite = true) (hc : a.controlling = false) :
    NoReq (a.contact now).2 := by
  have fin : ∀ {x : Agent × List Out}, NoReq x.2 → NoReq (finish x).2 := fun h => h
  exact Agent.contact_rule (Q := fun x => NoReq x.2) a now (fun _ => NoReq.nil) (fun _ => fin NoReq.nil)
    (fun _ => fin (setConnState_noReq _ _))
    (fun _ => fin (contactCandidates_noReq _ now ((chk_cc a now).1.symm ▸ hl) ((chk_cc a now).2.trans hc)))
    (fun _ => fin (contactCandidates_noReq a now hl hc))

theorem runForced_noReq (a : Agent) (now : Nat) (hl : a.cfg.lite = true) (hc : a.controlling = false) :
    NoReq (a.runForced now).2 :=
  Agent.runForced_rule (Q := fun x => NoReq x.2) a now NoReq.nil fun _ _ =>
    contact_noReq { a with forcePending := false } now hl hc

theorem runTimers_noReq (a : Agent) (now fuel : Nat) (hl : a.cfg.lite = true) (hc : a.controlling = false) :
    NoReq (a.runTimers now fuel).2 :=
  Agent.runTimers_ind (Q := fun a r => a.cfg.lite = true → a.controlling = false → NoReq r.2) now
    (fun _ _ _ => NoReq.nil)
    (fun a t _ _ _ _ ih hl hc =>
      have hh := contact_hok (wp := True) a t
      (contact_noReq a t hl hc).append (ih ((congrArg Config.lite hh.cfg).trans hl) (hh.ctl.trans hc))) fuel a hl hc

end IceProofs.C03

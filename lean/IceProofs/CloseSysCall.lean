import IceProofs.CloseSysTh
/-! # CloseSys — the kinds of statement of a user thread (thread-local; the writes of `Agent.close`) preserve `Inv` -/
namespace IceProofs.CloseSys
open IceModel.CloseSys

theorem Inv.owner_loc {s : State} (h : Inv s) {t : Tid} {k : Nat} {th : Th} (ho : s.once = .running t k)
    (hget : getTh s t = some th) : ∃ g, th.loc = .cPre g := by
  obtain ⟨tho, g, h1, h2⟩ := h.owner ho
  rw [hget] at h1; cases h1
  exact ⟨g, h2⟩

theorem Inv.thSimple {s : State} (h : Inv s) {t : Tid} {th : Th} (hget : getTh s t = some th) (x : Th)
    (c4 : ThOK s t x) (c5 : x.kind = th.kind ∧ x.live = th.live) (c6 : ThLocal s t x)
    (c7 : (∃ g, th.loc = .cPre g) → ∃ g, x.loc = .cPre g) (c9 : ∀ n, t = .api n → th.finished = false) :
    Inv (setTh s t x) :=
  h.thMove hget x s.done s.once s.snap h.doneOnce id (Or.inl rfl) c4 c5 c6
    (fun _ ho => c7 (h.owner_loc ho hget)) h.onceNum c9 (fun hf => h.writesSnap hf)

theorem GProg.tail {p : List UOp} (h : GProg p) : GProg p.tail := fun u hu => h u (List.mem_of_mem_tail hu)

theorem not_finished {th : Th} (h : th.loc = .idle → th.prog ≠ []) : th.finished = false := by
  by_cases hl : th.loc = .idle
  · cases hp : th.prog with
    | nil => exact absurd hp (h hl)
    | cons u r => simp [Th.finished, hp]
  · simp [Th.finished, hl]

theorem ThLocal.next {s : State} {t : Tid} {th x : Th} (hl : ThLocal s t th) (ha : Active s t th)
    (hk : x.kind = th.kind) (hlv : x.live = th.live)
    (hg : ∀ n, t = .api n → th.kind = .gather → GProg x.prog ∧ GLoc x.loc) : ThLocal s t x := by
  cases t with
  | api n => exact ⟨fun _ => by rw [hlv]; exact ha, fun e => hg n rfl (hk ▸ e)⟩
  | dr i => intro st hst _; exact ha st hst
  | rl c => exact hl

theorem ThLocal.gk {s : State} {t : Tid} {th : Th} (hl : ThLocal s t th) :
    ∀ n, t = .api n → th.kind = .gather → GProg th.prog ∧ GLoc th.loc := by
  intro n e; subst e; exact hl.2

theorem inv_call_simple {s : State} (h : Inv s) {t : Tid} {th : Th} (hget : getTh s t = some th) (ha : Active s t th)
    (x : Th) (hk : x.kind = th.kind ∧ x.live = th.live) (hnf : th.finished = false)
    (hpre : ∀ g, th.loc ≠ .cPre g)
    (c4 : ThOK s t x)
    (hg : (GProg th.prog ∧ GLoc th.loc) → GProg x.prog ∧ GLoc x.loc) : Inv (setTh s t x) := by
  have hl := h.thLocal hget
  exact h.thSimple hget x c4 hk (hl.next ha hk.1 hk.2 (fun n e k => hg (hl.gk n e k)))
    (fun ⟨g, e⟩ => absurd e (hpre g)) (fun _ _ => hnf)

/-- taskloop.go:77-80 + agent.go:1547-1552: the first closer takes the once, closes `done`, snapshots. -/
theorem inv_call_takeOnce {s : State} (h : Inv s) {t : Tid} {th : Th} (hget : getTh s t = some th) (ha : Active s t th)
    {g : Bool} (hloc : th.loc = .cOnce g) (hfree : s.once = .free) :
    Inv (setTh { s with once := .running t 0, done := true, snap := s.cands.length } t { th with loc := .cPre g }) := by
  have hl := h.thLocal hget
  refine h.thMove hget { th with loc := .cPre g } true (.running t 0) s.cands.length (by simp) (fun _ => rfl)
    (Or.inr (Or.inl ⟨hfree, rfl⟩)) ?_ ⟨rfl, rfl⟩ ?_ (fun k _ => ⟨g, rfl⟩) ?_ (fun _ _ => not_finished (by simp [hloc])) ?_
  · simp [ThOK]
  · refine hl.next ha rfl rfl (fun n e k => ?_)
    have := (hl.gk n e k).2; simp [hloc, GLoc] at this
  · simp [OnceNum]
  · intro _ c hc; exact h.writesLen c hc

/-- taskloop.go:84: preStop has aborted every snapshotted candidate; the once is over. -/
theorem inv_call_finishOnce {s : State} (h : Inv s) {t : Tid} {th : Th} (hget : getTh s t = some th) (ha : Active s t th)
    {g : Bool} {k : Nat} (hloc : th.loc = .cPre g) (ho : s.once = .running t k) (hk : ¬ k < s.snap) :
    Inv (setTh { s with once := .finished } t { th with loc := .cWaitLoop g }) := by
  have hl := h.thLocal hget
  have hd : s.done = true := h.doneOnce.2 (by simp [ho])
  have hn := h.onceNum
  simp only [ho, OnceNum] at hn
  have hks : k = s.snap := by omega
  refine h.thMove hget { th with loc := .cWaitLoop g } s.done .finished s.snap (by simp [hd]) id
    (Or.inr (Or.inr (Or.inl ⟨k, ho, rfl⟩))) ?_ ⟨rfl, rfl⟩ ?_ (fun k e => by cases e) ?_
    (fun _ _ => not_finished (by simp [hloc])) ?_
  · simp [ThOK]
  · refine hl.next ha rfl rfl (fun n e k => ?_)
    have := (hl.gk n e k).2; simp [hloc, GLoc] at this
  · exact ⟨hn.2.1, hks ▸ hn.2.2⟩
  · intro _ c hc; exact h.writesSnap (by simp [ho]) c hc

/-- candidate_base.go:428-456 (M2): one candidate's I/O is aborted; nothing else changes. -/
theorem Inv.abort {s : State} (h : Inv s) (k : Nat) : Inv (abortCand s k) := by
  refine h.setTables (abortCand s k).cands s.streams (.of_eq rfl) ?_ (abortCand_mono s k)
  intro j cd' hj
  obtain ⟨cd, h1, h2, h3, h4, _⟩ := abortCand_cands s k j cd' hj
  obtain ⟨a1, a2, a3⟩ := h.candOK j cd h1
  exact ⟨⟨fun e => by rw [h2]; exact a1 (h3 ▸ e), fun e => h4 (a2 (h2 ▸ e))⟩, fun e => by rw [h2]; exact a3 e⟩

/-- agent.go:1554-1556: `c.abortIO()` for the next snapshotted candidate. -/
theorem inv_call_abortNext {s : State} (h : Inv s) {t : Tid} {th : Th} (hget : getTh s t = some th)
    {g : Bool} {k : Nat} (hloc : th.loc = .cPre g) (ho : s.once = .running t k) (hk : k < s.snap) :
    Inv (setTh { abortCand s k with once := .running t (k + 1) } t th) := by
  have h2 := h.abort k
  have hget2 : getTh (abortCand s k) t = some th := by cases t <;> exact hget
  have hd : s.done = true := h.doneOnce.2 (by simp [ho])
  have hn := h.onceNum
  simp only [ho, OnceNum] at hn
  have hl := h2.thLocal hget2
  refine h2.thMove hget2 th s.done (.running t (k + 1)) s.snap (by simp [hd]) id
    (Or.inr (Or.inr (Or.inr ⟨k, ho, rfl⟩))) ?_ ⟨rfl, rfl⟩ hl (fun _ _ => ⟨g, hloc⟩) ?_
    (fun _ _ => not_finished (by simp [hloc])) ?_
  · simp [ThOK, hloc]
  · refine ⟨by omega, by simpa [abortCand] using hn.2.1, ?_⟩
    intro i cd' hi hc
    obtain ⟨cd, h1, _, _, h4, h5⟩ := abortCand_cands s k i cd' hc
    rcases Nat.lt_or_ge i k with h6 | h6
    · exact h4 (hn.2.2 i cd h6 h1)
    · exact h5 (by omega)
  · intro _ c hc; exact h.writesSnap (by simp [ho]) c hc

theorem setNdone_streams (s : State) (i j : Nat) (st' : Stream) (h : (setNdone s i).streams[j]? = some st') :
    ∃ st : Stream, s.streams[j]? = some st ∧ st'.th = st.th ∧ st'.running = st.running ∧
      (st.ndone = true → st' = st) ∧ (j = i → st'.ndone = true) ∧ (j ≠ i → st' = st) := by
  simp only [setNdone, List.getElem?_modify] at h
  cases hx : s.streams[j]? with
  | none => simp [hx] at h
  | some st =>
    simp [hx] at h; subst h
    refine ⟨st, rfl, ?_⟩
    split
    · subst_vars
      refine ⟨rfl, rfl, fun e => ?_, fun _ => rfl, fun e => absurd rfl e⟩
      cases st; simp_all
    · exact ⟨rfl, rfl, fun _ => rfl, fun e => absurd e.symm ‹_›, fun _ => rfl⟩

theorem getTh_setNdone {s : State} {t : Tid} {th : Th} (i : Nat) (hget : getTh s t = some th) :
    getTh (setNdone s i) t = some th := by
  cases t with
  | api n => exact hget
  | dr j =>
    simp only [getTh, setNdone, List.getElem?_modify] at hget ⊢
    cases hx : s.streams[j]? with
    | none => simp [hx] at hget
    | some st => simp [hx] at hget ⊢; subst hget; split <;> rfl
  | rl c => exact hget

/-- agent_handlers.go:76-86: a notifier is closed (only after `taskLoopDone`). -/
theorem Inv.ndone {s : State} (h : Inv s) (hl : s.loop = .exited) (i : Nat) : Inv (setNdone s i) := by
  have hss : StreamsSame s (setNdone s i) := by
    refine ⟨by simp [setNdone], ?_⟩
    intro j st' hj
    obtain ⟨st, h1, h2, h3, h4, _, _⟩ := setNdone_streams s i j st' hj
    exact ⟨st, h1, h2, fun _ => Or.inr hl, fun e => Or.inl (by rw [h3]; exact e), fun e => by rw [h4 e]; exact ⟨e, id⟩⟩
  exact h.setTables s.cands (setNdone s i).streams hss (h.candsKeep rfl id) (.of_eq rfl)

/-- agent.go:1526: `close` returns (ghost flags). -/
theorem Inv.retClose {s : State} (h : Inv s) (g : Bool) (hl : s.loop = .exited)
    (hq : ∀ (j : Nat) (st : Stream), s.streams[j]? = some st → st.ndone = true ∧ (g = true → st.running = false)) :
    Inv { s with closeRet := true, gcloseRet := s.gcloseRet || g } := by
  refine ⟨h.doneOnce, h.closing, h.apiOK, h.drOK, h.candOK, h.onceOK, h.writesLen, h.writesSnap, h.rlTask, h.stages,
    h.gcurOK, ⟨fun _ => ⟨hl, fun j st hj => (hq j st hj).1⟩, ?_⟩⟩
  intro hx j st hj
  simp at hx
  rcases hx with hx | hx
  · exact h.ghost.2 hx j st hj
  · exact ⟨(hq j st hj).1, (hq j st hj).2 hx⟩

end IceProofs.CloseSys

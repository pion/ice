import IceProofs.UdpMuxStep
/-!
The state invariant `Inv` of the sequential UDP-mux model, `Inv init`, one preservation lemma per
elementary state change of `UdpMuxStep`, and `StepTo.inv` over the outcomes of `StepTo` (`inv_step`).  The two family maps
are treated together through `famMap` (`Inv.fam`, `Inv.ofFam`).
-/
namespace IceProofs.UdpMux
open IceModel.UdpMux

/-- the family map of the connection's own key still points to it -/
def registered (m : Mux) (c : Nat) : Prop :=
  m.conns4.get? (m.conn c).key = some c ∨ m.conns6.get? (m.conn c).key = some c

def openCount (m : Mux) (c : Nat) : Nat :=
  cnt (fun h => decide (m.hconn h = c) && !m.hclosed h) m.nhandles

structure Inv (m : Mux) : Prop where
  /-- family maps have no duplicate keys -/
  wf4 : AMap.WF m.conns4
  wf6 : AMap.WF m.conns6
  /-- family maps are consistent: an entry `u ↦ c` points to an existing connection created under
  `u` in that family -/
  fam4 : ∀ u c, m.conns4.get? u = some c → c < m.nconns ∧ (m.conn c).key = u ∧ (m.conn c).v6 = false
  fam6 : ∀ u c, m.conns6.get? u = some c → c < m.nconns ∧ (m.conn c).key = u ∧ (m.conn c).v6 = true
  /-- an address-map entry points to an existing connection whose address list contains the address -/
  amap : ∀ a c, m.addrMap a = some c → c < m.nconns ∧ a ∈ (m.conn c).addrs
  /-- the address-list entries of a registered connection map back to it (a taken-over address
  leaves the list) -/
  back : ∀ c a, c < m.nconns → registered m c → a ∈ (m.conn c).addrs → m.addrMap a = some c
  hnd : ∀ h, h < m.nhandles → m.hconn h < m.nconns
  /-- `refs` counts the open handles -/
  refs : ∀ c, c < m.nconns → (m.conn c).refs = (openCount m c : Int)
  /-- a closed connection holds no packet -/
  cfifo : ∀ c, (m.conn c).closed = true → (m.conn c).fifo = []
  /-- once its watcher has run, a connection is closed, unregistered and owns no address binding -/
  watched : ∀ c, c < m.nconns → (m.conn c).watched = true →
    (m.conn c).closed = true ∧ ¬ registered m c ∧ ∀ a, m.addrMap a ≠ some c
  /-- an open connection is registered -/
  openReg : ∀ c, c < m.nconns → (m.conn c).closed = false → registered m c
  muxClosed : m.closed = true → m.conns4 = [] ∧ m.conns6 = []

theorem inv_init : Inv init := by
  constructor <;> simp [init, AMap.WF, AMap.get?_nil, emptyConn]

theorem registered_congr {m m' : Mux} (c : Nat) (h4 : m'.conns4 = m.conns4) (h6 : m'.conns6 = m.conns6)
    (hk : (m'.conn c).key = (m.conn c).key) : registered m' c ↔ registered m c := by
  simp [registered, h4, h6, hk]

theorem registered_iff (m : Mux) (c : Nat) :
    registered m c ↔ ∃ f, (famMap m f).get? (m.conn c).key = some c := by
  constructor
  · rintro (h | h)
    · exact ⟨false, h⟩
    · exact ⟨true, h⟩
  · rintro ⟨f, h⟩
    cases f
    · exact Or.inl h
    · exact Or.inr h

theorem Inv.wf {m : Mux} (hi : Inv m) (f : Bool) : AMap.WF (famMap m f) := by
  cases f
  · exact hi.wf4
  · exact hi.wf6

theorem Inv.fam {m : Mux} (hi : Inv m) (f : Bool) (u : Name) (c : Nat) (h : (famMap m f).get? u = some c) :
    c < m.nconns ∧ (m.conn c).key = u ∧ (m.conn c).v6 = f := by
  cases f
  · exact hi.fam4 u c h
  · exact hi.fam6 u c h

theorem Inv.ofFam {m : Mux} (wf : ∀ f, AMap.WF (famMap m f))
    (fam : ∀ f u c, (famMap m f).get? u = some c → c < m.nconns ∧ (m.conn c).key = u ∧ (m.conn c).v6 = f)
    (amap : ∀ a c, m.addrMap a = some c → c < m.nconns ∧ a ∈ (m.conn c).addrs)
    (back : ∀ c a, c < m.nconns → registered m c → a ∈ (m.conn c).addrs → m.addrMap a = some c)
    (hnd : ∀ h, h < m.nhandles → m.hconn h < m.nconns)
    (refs : ∀ c, c < m.nconns → (m.conn c).refs = (openCount m c : Int))
    (cfifo : ∀ c, (m.conn c).closed = true → (m.conn c).fifo = [])
    (watched : ∀ c, c < m.nconns → (m.conn c).watched = true →
      (m.conn c).closed = true ∧ ¬ registered m c ∧ ∀ a, m.addrMap a ≠ some c)
    (openReg : ∀ c, c < m.nconns → (m.conn c).closed = false → registered m c)
    (muxClosed : m.closed = true → ∀ f, famMap m f = []) : Inv m :=
  ⟨wf false, wf true, fam false, fam true, amap, back, hnd, refs, cfifo, watched, openReg,
    fun h => ⟨muxClosed h false, muxClosed h true⟩⟩

theorem Inv.famNil {m : Mux} (hi : Inv m) (h : m.closed = true) (f : Bool) : famMap m f = [] := by
  cases f
  · exact (hi.muxClosed h).1
  · exact (hi.muxClosed h).2

theorem registered_famMap (m : Mux) (hi : Inv m) (c : Nat) :
    registered m c ↔ (famMap m (m.conn c).v6).get? (m.conn c).key = some c := by
  rw [registered_iff]
  constructor
  · rintro ⟨f, h⟩
    rw [(hi.fam f _ c h).2.2]; exact h
  · intro h; exact ⟨_, h⟩

theorem openCount_ge (m : Mux) (hi : Inv m) (c : Nat) (hc : m.nconns ≤ c) : openCount m c = 0 := by
  unfold openCount
  rw [cnt_zero_iff]
  intro h hh
  have := hi.hnd h hh
  have : m.hconn h ≠ c := by omega
  simp [this]

theorem all_closed_of_muxClosed (m : Mux) (hi : Inv m) (hc : m.closed = true) (c : Nat) (h : c < m.nconns) :
    (m.conn c).closed = true := by
  cases hcl : (m.conn c).closed
  · obtain ⟨f, hf⟩ := (registered_iff m c).mp (hi.openReg c h hcl)
    rw [hi.famNil hc f] at hf; cases hf
  · rfl

theorem inv_frame (m m' : Mux) (hi : Inv m)
    (e4 : m'.conns4 = m.conns4) (e6 : m'.conns6 = m.conns6) (en : m'.nconns = m.nconns)
    (ea : m'.addrMap = m.addrMap) (ec : m'.closed = m.closed)
    (hkey : ∀ c, (m'.conn c).key = (m.conn c).key) (hv6 : ∀ c, (m'.conn c).v6 = (m.conn c).v6)
    (haddrs : ∀ c, (m'.conn c).addrs = (m.conn c).addrs)
    (hwatched : ∀ c, (m'.conn c).watched = (m.conn c).watched)
    (hclosed : ∀ c, (m.conn c).closed = true → (m'.conn c).closed = true)
    (hfifo : ∀ c, (m'.conn c).closed = true → (m'.conn c).fifo = [])
    (hhnd : ∀ h, h < m'.nhandles → m'.hconn h < m.nconns)
    (hrefs : ∀ c, c < m.nconns → (m'.conn c).refs = (openCount m' c : Int)) : Inv m' := by
  have hreg : ∀ c, registered m' c ↔ registered m c := fun c => registered_congr c e4 e6 (hkey c)
  constructor
  · rw [e4]; exact hi.wf4
  · rw [e6]; exact hi.wf6
  · intro u c h; rw [e4] at h; rw [en, hkey, hv6]; exact hi.fam4 u c h
  · intro u c h; rw [e6] at h; rw [en, hkey, hv6]; exact hi.fam6 u c h
  · intro a c h; rw [ea] at h; rw [en, haddrs]; exact hi.amap a c h
  · intro c a h1 h2 h3
    rw [en] at h1; rw [hreg] at h2; rw [haddrs] at h3; rw [ea]
    exact hi.back c a h1 h2 h3
  · intro h hh; rw [en]; exact hhnd h hh
  · intro c h; rw [en] at h; exact hrefs c h
  · exact hfifo
  · intro c h1 h2
    rw [en] at h1; rw [hwatched] at h2
    obtain ⟨w1, w2, w3⟩ := hi.watched c h1 h2
    rw [hreg, ea]
    exact ⟨hclosed c w1, w2, w3⟩
  · intro c h1 h2
    rw [en] at h1; rw [hreg]
    apply hi.openReg c h1
    cases hc : (m.conn c).closed
    · rfl
    · rw [hclosed c hc] at h2; cases h2
  · intro h; rw [ec] at h; rw [e4, e6]; exact hi.muxClosed h

theorem inv_conn_update (m : Mux) (hi : Inv m) (f : Nat → Conn)
    (hkey : ∀ c, (f c).key = (m.conn c).key) (hv6 : ∀ c, (f c).v6 = (m.conn c).v6)
    (haddrs : ∀ c, (f c).addrs = (m.conn c).addrs) (hrefs : ∀ c, (f c).refs = (m.conn c).refs)
    (hwatched : ∀ c, (f c).watched = (m.conn c).watched)
    (hclosed : ∀ c, (m.conn c).closed = true → (f c).closed = true)
    (hfifo : ∀ c, (f c).closed = true → (f c).fifo = []) : Inv { m with conn := f } :=
  inv_frame m _ hi rfl rfl rfl rfl rfl hkey hv6 haddrs hwatched hclosed hfifo hi.hnd
    (fun c h => (hrefs c).trans (hi.refs c h))

theorem inv_closeSet (m : Mux) (hi : Inv m) (p : Nat → Prop) [DecidablePred p] :
    Inv { m with conn := fun i => if p i then closeC (m.conn i) else m.conn i } := by
  apply inv_conn_update m hi
  · exact fun c => closeIf_proj Conn.key (fun _ _ _ => rfl) _ _
  · exact fun c => closeIf_proj Conn.v6 (fun _ _ _ => rfl) _ _
  · exact fun c => closeIf_proj Conn.addrs (fun _ _ _ => rfl) _ _
  · exact fun c => closeIf_proj Conn.refs (fun _ _ _ => rfl) _ _
  · exact fun c => closeIf_proj Conn.watched (fun _ _ _ => rfl) _ _
  · intro c h; split
    · exact closeC_closed _
    · exact h
  · intro c h; split
    · exact closeC_fifo _ (hi.cfifo c)
    · next hp => rw [if_neg hp] at h; exact hi.cfifo c h

theorem inv_setFifo (m : Mux) (hi : Inv m) (c : Nat) (q : List Pkt) (hop : (m.conn c).closed = false) :
    Inv (setFifo m c q) := by
  have hcl : ∀ c', (upd m.conn c { m.conn c with fifo := q } c').closed = (m.conn c').closed :=
    upd_proj Conn.closed _ _ _ rfl
  apply inv_conn_update m hi
  · exact upd_proj Conn.key _ _ _ rfl
  · exact upd_proj Conn.v6 _ _ _ rfl
  · exact upd_proj Conn.addrs _ _ _ rfl
  · exact upd_proj Conn.refs _ _ _ rfl
  · exact upd_proj Conn.watched _ _ _ rfl
  · intro c' h; exact (hcl c').trans h
  · intro c' h
    rw [hcl c'] at h
    rw [upd_ne _ _ (fun e => by rw [e, hop] at h; cases h)]
    exact hi.cfifo c' h

theorem addHandle_openCount (m : Mux) (c c' : Nat) :
    openCount (addHandle m c) c' = openCount m c' + (if c' = c then 1 else 0) := by
  unfold openCount
  simp only [addHandle_nhandles, cnt]
  have h1 : cnt (fun h => decide ((addHandle m c).hconn h = c') && !(addHandle m c).hclosed h) m.nhandles
      = cnt (fun h => decide (m.hconn h = c') && !m.hclosed h) m.nhandles := by
    apply cnt_congr
    intro i hi
    have : i ≠ m.nhandles := by omega
    simp [addHandle, upd_ne, this]
  rw [h1]
  simp only [addHandle, upd_same]
  by_cases h : c' = c
  · subst h; simp
  · have : ¬ c = c' := fun e => h e.symm
    simp [h, this]

theorem inv_addHandle (m : Mux) (hi : Inv m) (c : Nat) (hc : c < m.nconns) : Inv (addHandle m c) := by
  apply inv_frame m (addHandle m c) hi rfl rfl rfl rfl rfl
  · exact addHandle_proj Conn.key (fun _ _ => rfl) m c
  · exact addHandle_proj Conn.v6 (fun _ _ => rfl) m c
  · exact addHandle_proj Conn.addrs (fun _ _ => rfl) m c
  · exact addHandle_proj Conn.watched (fun _ _ => rfl) m c
  · intro c' h; rw [addHandle_proj Conn.closed (fun _ _ => rfl)]; exact h
  · intro c' h
    rw [addHandle_proj Conn.closed (fun _ _ => rfl)] at h
    rw [addHandle_proj Conn.fifo (fun _ _ => rfl)]; exact hi.cfifo c' h
  · intro h hh
    simp only [addHandle_nhandles] at hh
    simp only [addHandle, upd_apply]
    split
    · exact hc
    · exact hi.hnd h (by omega)
  · intro c' h
    rw [addHandle_openCount, addHandle_conn]
    have := hi.refs c' h
    by_cases e : c' = c
    · subst e; simp [this]
    · simp [e, this]

theorem mkConn_registered_old (m : Mux) (u : Name) (v6 : Bool)
    (hfree : (famMap m v6).get? u = none) (c : Nat) (h : c < m.nconns) :
    registered (mkConn m u v6) c ↔ registered m c := by
  rw [registered_iff, registered_iff, mkConn_conn_old m u v6 c h]
  constructor
  · rintro ⟨f, hf⟩
    rw [famMap_mkConn_get] at hf
    split at hf
    · injection hf with hf; omega
    · exact ⟨f, hf⟩
  · rintro ⟨f, hf⟩
    refine ⟨f, ?_⟩
    rw [famMap_mkConn_get, if_neg]
    · exact hf
    · rintro ⟨rfl, hk⟩
      rw [hk, hfree] at hf; cases hf

theorem inv_mkConn (m : Mux) (hi : Inv m) (u : Name) (v6 : Bool) (hcl : m.closed = false)
    (hfree : (famMap m v6).get? u = none) : Inv (mkConn m u v6) := by
  -- every connection is the new one (an empty record) or an old one (`mkConn_old`), unchanged
  apply Inv.ofFam
  · intro f
    rw [famMap_mkConn]; split
    · exact AMap.wf_set _ (hi.wf f) _ _
    · exact hi.wf f
  · intro f x c h
    rw [famMap_mkConn_get] at h
    split at h
    · next hh =>
      injection h with h; subst h
      rw [mkConn_conn_new]
      exact ⟨Nat.lt_succ_self _, hh.2.symm, hh.1.symm⟩
    · obtain ⟨h1, h2, h3⟩ := hi.fam f x c h
      rw [mkConn_conn_old m u v6 c h1]
      exact ⟨Nat.lt_succ_of_lt h1, h2, h3⟩
  · intro a c h
    obtain ⟨h1, h2⟩ := hi.amap a c h
    rw [mkConn_conn_old m u v6 c h1]
    exact ⟨Nat.lt_succ_of_lt h1, h2⟩
  · intro c a h1 h2 h3
    by_cases e : c = m.nconns
    · subst e; rw [mkConn_conn_new] at h3; cases h3
    · have hc := mkConn_old h1 e
      rw [mkConn_conn_old m u v6 c hc] at h3
      exact hi.back c a hc ((mkConn_registered_old m u v6 hfree c hc).mp h2) h3
  · intro h hh
    exact Nat.lt_succ_of_lt (hi.hnd h hh)
  · intro c h
    show _ = (openCount m c : Int)
    by_cases e : c = m.nconns
    · subst e; rw [mkConn_conn_new, openCount_ge m hi _ (Nat.le_refl _)]; rfl
    · rw [mkConn_conn_old m u v6 c (mkConn_old h e)]; exact hi.refs c (mkConn_old h e)
  · intro c h
    by_cases e : c = m.nconns
    · subst e; rw [mkConn_conn_new]; rfl
    · simp only [mkConn, upd_ne _ _ e] at h ⊢; exact hi.cfifo c h
  · intro c h1 h2
    by_cases e : c = m.nconns
    · subst e; rw [mkConn_conn_new] at h2; cases h2
    · have hc := mkConn_old h1 e
      rw [mkConn_conn_old m u v6 c hc] at h2 ⊢
      rw [mkConn_registered_old m u v6 hfree c hc]
      exact hi.watched c hc h2
  · intro c h1 h2
    by_cases e : c = m.nconns
    · subst e
      rw [registered_iff, mkConn_conn_new]
      exact ⟨v6, by rw [famMap_mkConn_get, if_pos ⟨rfl, rfl⟩]⟩
    · have hc := mkConn_old h1 e
      rw [mkConn_conn_old m u v6 c hc] at h2
      rw [mkConn_registered_old m u v6 hfree c hc]
      exact hi.openReg c hc h2
  · intro h
    have : m.closed = true := h
    rw [hcl] at this; cases this

theorem inv_addAddress (m : Mux) (hi : Inv m) (c : Nat) (a : Addr) (hcl : m.closed = false)
    (hc : c < m.nconns) (hopen : (m.conn c).closed = false) (hnew : a ∉ (m.conn c).addrs) :
    Inv (addAddress m c a) := by
  have hnotc : m.addrMap a ≠ some c := fun h => hnew (hi.amap a c h).2
  rw [addAddress_eq m c a hcl hopen hnew]
  have hreg : ∀ c', registered { m with conn := addrConn m c a, addrMap := fun k => if k = a then some c else m.addrMap k } c'
      ↔ registered m c' :=
    fun c' => registered_congr c' rfl rfl (addrConn_proj Conn.key (fun _ _ => rfl) m c a c')
  exact
  { hi with
    fam4 := fun u c' h => by
      show _ ∧ (addrConn m c a c').key = u ∧ (addrConn m c a c').v6 = false
      rw [addrConn_proj Conn.key (fun _ _ => rfl), addrConn_proj Conn.v6 (fun _ _ => rfl)]
      exact hi.fam4 u c' h
    fam6 := fun u c' h => by
      show _ ∧ (addrConn m c a c').key = u ∧ (addrConn m c a c').v6 = true
      rw [addrConn_proj Conn.key (fun _ _ => rfl), addrConn_proj Conn.v6 (fun _ _ => rfl)]
      exact hi.fam6 u c' h
    amap := fun k c' h => by
      dsimp only at h ⊢
      rw [addrConn_mem m c a hnotc]
      by_cases hk : k = a
      · subst hk
        simp only [if_true, Option.some.injEq] at h
        subst h
        exact ⟨hc, Or.inr ⟨rfl, rfl⟩, fun h' => absurd h' hnotc⟩
      · simp only [hk, if_false] at h
        obtain ⟨h1, h2⟩ := hi.amap k c' h
        exact ⟨h1, Or.inl h2, fun _ => hk⟩
    back := fun c' x h1 h2 h3 => by
      dsimp only at h1 h3 ⊢
      rw [hreg] at h2
      rw [addrConn_mem m c a hnotc] at h3
      obtain ⟨h3a, h3b⟩ := h3
      by_cases hx : x = a
      · subst hx
        simp only [if_true, Option.some.injEq]
        rcases h3a with h | ⟨h, _⟩
        · exact absurd rfl (h3b (hi.back c' x h1 h2 h))
        · exact h.symm
      · simp only [hx, if_false]
        rcases h3a with h | ⟨_, h⟩
        · exact hi.back c' x h1 h2 h
        · exact absurd h hx
    refs := fun c' h => by
      show (addrConn m c a c').refs = _
      rw [addrConn_proj Conn.refs (fun _ _ => rfl)]
      exact hi.refs c' h
    cfifo := fun c' h => by
      dsimp only at h ⊢
      rw [addrConn_proj Conn.closed (fun _ _ => rfl)] at h
      rw [addrConn_proj Conn.fifo (fun _ _ => rfl)]; exact hi.cfifo c' h
    watched := fun c' h1 h2 => by
      dsimp only at h1 h2 ⊢
      rw [addrConn_proj Conn.watched (fun _ _ => rfl)] at h2
      rw [addrConn_proj Conn.closed (fun _ _ => rfl), hreg]
      obtain ⟨w1, w2, w3⟩ := hi.watched c' h1 h2
      refine ⟨w1, w2, ?_⟩
      intro k
      by_cases hk : k = a
      · subst hk
        simp only [if_true, ne_eq, Option.some.injEq]
        intro e; subst e; rw [hopen] at w1; cases w1
      · simp only [hk, if_false]; exact w3 k
    openReg := fun c' h1 h2 => by
      dsimp only at h1 h2 ⊢
      rw [addrConn_proj Conn.closed (fun _ _ => rfl)] at h2
      rw [hreg]; exact hi.openReg c' h1 h2 }

theorem open_of_conn_open (m : Mux) (hi : Inv m) (c : Nat) (hc : c < m.nconns) (hop : (m.conn c).closed = false) :
    m.closed = false := by
  cases hm : m.closed
  · rfl
  · rw [all_closed_of_muxClosed m hi hm c hc] at hop; cases hop

theorem open_of_fifo (m : Mux) (hi : Inv m) (c : Nat) (p : Pkt) (rest : List Pkt) (hq : (m.conn c).fifo = p :: rest) :
    (m.conn c).closed = false := by
  cases hc : (m.conn c).closed
  · rfl
  · have := hi.cfifo _ hc; rw [hq] at this; cases this

theorem dropRef_openCount (m : Mux) (h : Nat) (hh : h < m.nhandles) (hop : m.hclosed h = false) (c' : Nat) :
    openCount (dropRef m h) c' + (if c' = m.hconn h then 1 else 0) = openCount m c' := by
  unfold openCount
  by_cases e : c' = m.hconn h
  · subst e
    simp only [if_true]
    apply cnt_off _ _ _ h hh
    · simp [hop]
    · simp [dropRef]
    · intro i hi; simp only [dropRef, upd_ne _ _ hi]; rfl
  · simp only [e, if_false, Nat.add_zero]
    apply cnt_congr
    intro i _
    by_cases hi : i = h
    · subst hi
      have : ¬ m.hconn i = c' := fun x => e x.symm
      simp [dropRef, this]
    · simp only [dropRef, upd_ne _ _ hi]; rfl

theorem inv_dropRef (m : Mux) (hi : Inv m) (h : Nat) (hh : h < m.nhandles) (hop : m.hclosed h = false) :
    Inv (dropRef m h) := by
  apply inv_frame m (dropRef m h) hi rfl rfl rfl rfl rfl
  · exact dropRef_proj Conn.key (fun _ _ => rfl) m h
  · exact dropRef_proj Conn.v6 (fun _ _ => rfl) m h
  · exact dropRef_proj Conn.addrs (fun _ _ => rfl) m h
  · exact dropRef_proj Conn.watched (fun _ _ => rfl) m h
  · intro c' hc; rw [dropRef_proj Conn.closed (fun _ _ => rfl)]; exact hc
  · intro c' hc
    rw [dropRef_proj Conn.closed (fun _ _ => rfl)] at hc
    rw [dropRef_proj Conn.fifo (fun _ _ => rfl)]; exact hi.cfifo c' hc
  · exact hi.hnd
  · intro c' hc
    have h1 := dropRef_openCount m h hh hop c'
    have h2 := hi.refs c' hc
    rw [dropRef_conn]
    by_cases e : c' = m.hconn h
    · subst e
      simp only [if_true] at h1 ⊢
      omega
    · simp only [e, if_false, Nat.add_zero] at h1 ⊢
      rw [h2, h1]

theorem inv_closeOpen (m : Mux) (hi : Inv m) (h : Nat) (hh : h < m.nhandles) (hop : m.hclosed h = false) :
    Inv (closeOpen m h) :=
  inv_closeSet _ (inv_dropRef m hi h hh hop) _

theorem reap_registered (m : Mux) (c c' : Nat) : registered (reap m c) c' ↔ registered m c' ∧ c' ≠ c := by
  rw [registered_iff, registered_iff, reap_proj Conn.key (fun _ _ => rfl)]
  constructor
  · rintro ⟨f, h⟩
    rw [famMap_reap_get] at h
    split at h
    · cases h
    · next hn => exact ⟨⟨f, h⟩, fun e => by subst e; exact hn ⟨rfl, h⟩⟩
  · rintro ⟨⟨f, h⟩, hne⟩
    refine ⟨f, ?_⟩
    rw [famMap_reap_get, if_neg]
    · exact h
    · rintro ⟨e1, e2⟩
      rw [← e1, h] at e2; injection e2 with e2; exact hne e2

theorem inv_reap (m : Mux) (hi : Inv m) (c : Nat) (hc : c < m.nconns) (hcl : (m.conn c).closed = true) :
    Inv (reap m c) := by
  apply Inv.ofFam
  · intro f; rw [famMap_reap]; exact wmap_wf _ (hi.wf f) _ _
  · intro f u c' h
    rw [famMap_reap_get] at h; split at h
    · cases h
    · rw [reap_proj Conn.key (fun _ _ => rfl), reap_proj Conn.v6 (fun _ _ => rfl)]; exact hi.fam f u c' h
  · intro a c' h
    rw [reap_proj Conn.addrs (fun _ _ => rfl)]; exact hi.amap a c' (reap_addrMap m c a c' h).1
  · intro c' a h1 h2 h3
    rw [reap_registered] at h2
    rw [reap_proj Conn.addrs (fun _ _ => rfl)] at h3
    have := hi.back c' a h1 h2.1 h3
    simp only [reap]
    rw [if_neg]
    · exact this
    · rintro ⟨_, e⟩
      rw [this] at e; injection e with e; exact h2.2 e
  · exact hi.hnd
  · intro c' h; rw [reap_proj Conn.refs (fun _ _ => rfl)]; exact hi.refs c' h
  · intro c' h
    rw [reap_proj Conn.closed (fun _ _ => rfl)] at h
    rw [reap_proj Conn.fifo (fun _ _ => rfl)]; exact hi.cfifo c' h
  · intro c' h1 h2
    rw [reap_proj Conn.closed (fun _ _ => rfl), reap_registered]
    rw [reap_watched] at h2
    by_cases e : c' = c
    · subst e
      refine ⟨hcl, fun h => h.2 rfl, ?_⟩
      intro a h
      obtain ⟨h, hn⟩ := reap_addrMap m c' a c' h
      exact hn ⟨(hi.amap a c' h).2, rfl⟩
    · simp only [e, if_false] at h2
      obtain ⟨w1, w2, w3⟩ := hi.watched c' h1 h2
      exact ⟨w1, fun h => w2 h.1, fun a h => w3 a (reap_addrMap m c a c' h).1⟩
  · intro c' h1 h2
    rw [reap_proj Conn.closed (fun _ _ => rfl)] at h2
    rw [reap_registered]
    refine ⟨hi.openReg c' h1 h2, ?_⟩
    intro e; subst e; rw [hcl] at h2; cases h2
  · intro h f
    rw [famMap_reap, hi.famNil h f]
    unfold wmap; split <;> rfl

theorem registered_mem_vals (m : Mux) (c : Nat) (h : registered m c) : c ∈ m.conns4.vals ++ m.conns6.vals := by
  rcases h with h | h
  · exact List.mem_append_left _ (List.mem_map.mpr ⟨(_, c), AMap.mem_of_get? _ _ _ h, rfl⟩)
  · exact List.mem_append_right _ (List.mem_map.mpr ⟨(_, c), AMap.mem_of_get? _ _ _ h, rfl⟩)

theorem mem_vals_registered (m : Mux) (hi : Inv m) (c : Nat) (h : c ∈ m.conns4.vals ++ m.conns6.vals) :
    registered m c ∧ c < m.nconns := by
  rcases List.mem_append.mp h with h | h
  · obtain ⟨k, hk⟩ := (AMap.mem_vals_iff _ hi.wf4 c).mp h
    obtain ⟨h1, h2, _⟩ := hi.fam4 k c hk
    exact ⟨Or.inl (by rw [h2]; exact hk), h1⟩
  · obtain ⟨k, hk⟩ := (AMap.mem_vals_iff _ hi.wf6 c).mp h
    obtain ⟨h1, h2, _⟩ := hi.fam6 k c hk
    exact ⟨Or.inr (by rw [h2]; exact hk), h1⟩

theorem inv_clearMaps (m : Mux) (hi : Inv m) (hall : ∀ c, c < m.nconns → (m.conn c).closed = true) :
    Inv { m with conns4 := [], conns6 := [], closed := true } := by
  have hreg : ∀ c, ¬ registered { m with conns4 := [], conns6 := [], closed := true } c := by
    intro c h; simp [registered, AMap.get?_nil] at h
  exact
  { hi with
    wf4 := AMap.wf_nil
    wf6 := AMap.wf_nil
    fam4 := fun u c h => by simp [AMap.get?_nil] at h
    fam6 := fun u c h => by simp [AMap.get?_nil] at h
    back := fun c a _ h2 _ => absurd h2 (hreg c)
    watched := fun c h1 h2 => ⟨(hi.watched c h1 h2).1, hreg c, (hi.watched c h1 h2).2.2⟩
    openReg := fun c h1 h2 => by
      have := hall c h1
      dsimp only at h2; rw [h2] at this; cases this
    muxClosed := fun _ => ⟨rfl, rfl⟩ }

theorem closeMux_all_closed (m : Mux) (hi : Inv m) (c : Nat) (hc : c < m.nconns) :
    (if c ∈ m.conns4.vals ++ m.conns6.vals then closeC (m.conn c) else m.conn c).closed = true := by
  split
  · exact closeC_closed _
  · next hn =>
    cases hcl : (m.conn c).closed
    · exact absurd (registered_mem_vals m c (hi.openReg c hc hcl)) hn
    · rfl

theorem inv_closeAll (m : Mux) (hi : Inv m) : Inv (closeAll m) :=
  inv_clearMaps _ (inv_closeSet m hi _) (closeMux_all_closed m hi)

theorem inv_closeOpt (m : Mux) (hi : Inv m) (r : Option Nat) : Inv (closeOpt m r) := by
  rw [closeOpt_eq]; exact inv_closeSet m hi _

/-- a binding that survives `RemoveConnByUfrag` was there before and is not one of a removed connection: the
ownership test of `delOwned` never fails for them (`Inv.amap`) -/
theorem removeByUfrag_addrMap_sub (m : Mux) (hi : Inv m) (u : Name) (a : Addr) (c : Nat)
    (h : (removeByUfrag m u).addrMap a = some c) : m.addrMap a = some c ∧ ¬ regUnder m u c := by
  rw [removeByUfrag_addrMap] at h
  dsimp only at h
  by_cases n4 : a ∈ addrsOf m (m.conns4.get? u) ∧ m.addrMap a = m.conns4.get? u ∧ (m.conns4.get? u).isSome
  · rw [if_pos n4] at h; split at h <;> cases h
  · rw [if_neg n4] at h
    split at h
    · cases h
    · next n6 =>
      refine ⟨h, ?_⟩
      have ha := (hi.amap a c h).2
      rintro ⟨f, hf⟩
      cases f
      · exact n4 ⟨by rw [show m.conns4.get? u = some c from hf]; exact ha, by rw [h]; exact hf.symm,
          by rw [show m.conns4.get? u = some c from hf]; rfl⟩
      · exact n6 ⟨by rw [show m.conns6.get? u = some c from hf]; exact ha, by rw [h]; exact hf.symm,
          by rw [show m.conns6.get? u = some c from hf]; rfl⟩

theorem removeByUfrag_fam (m : Mux) (hi : Inv m) (u : Name) (f : Bool) (x : Name) (c : Nat) :
    (famMap (removeByUfrag m u) f).get? x = some c ↔ (famMap m f).get? x = some c ∧ ¬ regUnder m u c := by
  rw [famMap_removeByUfrag, AMap.get?_del]
  constructor
  · intro h
    split at h
    · cases h
    · next hx =>
      refine ⟨h, ?_⟩
      rintro ⟨f', hf'⟩
      exact hx ((hi.fam f x c h).2.1.symm.trans (hi.fam f' u c hf').2.1)
  · rintro ⟨h, hn⟩
    rw [if_neg (fun e => hn ⟨f, by rw [← e]; exact h⟩)]; exact h

theorem removeByUfrag_registered (m : Mux) (hi : Inv m) (u : Name) (c : Nat) :
    registered (removeByUfrag m u) c ↔ registered m c ∧ ¬ regUnder m u c := by
  rw [registered_iff, registered_iff, removeByUfrag_proj Conn.key (fun _ _ _ => rfl)]
  constructor
  · rintro ⟨f, h⟩; exact ⟨⟨f, ((removeByUfrag_fam m hi u f _ c).mp h).1⟩, ((removeByUfrag_fam m hi u f _ c).mp h).2⟩
  · rintro ⟨⟨f, h⟩, hn⟩; exact ⟨f, (removeByUfrag_fam m hi u f _ c).mpr ⟨h, hn⟩⟩

theorem inv_removeByUfrag (m : Mux) (hi : Inv m) (u : Name) : Inv (removeByUfrag m u) := by
  obtain ⟨e1, e2, e3, e4, e5⟩ := removeByUfrag_frame m u
  apply Inv.ofFam
  · intro f; rw [famMap_removeByUfrag]; exact AMap.wf_del _ (hi.wf f) _
  · intro f x c h
    rw [e1, removeByUfrag_proj Conn.key (fun _ _ _ => rfl), removeByUfrag_proj Conn.v6 (fun _ _ _ => rfl)]
    exact hi.fam f x c ((removeByUfrag_fam m hi u f x c).mp h).1
  · intro a c h
    rw [e1, removeByUfrag_proj Conn.addrs (fun _ _ _ => rfl)]
    exact hi.amap a c (removeByUfrag_addrMap_sub m hi u a c h).1
  · intro c a h1 h2 h3
    rw [e1] at h1; rw [removeByUfrag_registered m hi] at h2
    rw [removeByUfrag_proj Conn.addrs (fun _ _ _ => rfl)] at h3
    exact removeByUfrag_addrMap_keep m u a c (hi.back c a h1 h2.1 h3) h2.2
  · intro h hh
    rw [e2] at hh; rw [e1, e3]; exact hi.hnd h hh
  · intro c h
    rw [e1] at h
    rw [removeByUfrag_proj Conn.refs (fun _ _ _ => rfl), hi.refs c h]
    unfold openCount; rw [e3, e4, e2]
  · intro c h
    rw [removeByUfrag_conn] at h ⊢
    exact (inv_closeOpt _ (inv_closeOpt m hi _) _).cfifo c h
  · intro c h1 h2
    rw [e1] at h1; rw [removeByUfrag_proj Conn.watched (fun _ _ _ => rfl)] at h2
    obtain ⟨w1, w2, w3⟩ := hi.watched c h1 h2
    refine ⟨by rw [removeByUfrag_closed, w1]; simp, ?_, fun a h => w3 a (removeByUfrag_addrMap_sub m hi u a c h).1⟩
    rw [removeByUfrag_registered m hi]; exact fun h => w2 h.1
  · intro c h1 h2
    rw [e1] at h1
    have hD : ¬ regUnder m u c := fun d => by rw [regUnder_closed m u c d] at h2; cases h2
    rw [removeByUfrag_conn_other m u c hD] at h2
    rw [removeByUfrag_registered m hi]
    exact ⟨hi.openReg c h1 h2, hD⟩
  · intro h f
    rw [e5] at h; rw [famMap_removeByUfrag, hi.famNil h f]; rfl

theorem lookupDest_lt (m : Mux) (hi : Inv m) (src : Addr) (k : Kind) (c : Nat) (h : lookupDest m src k = some c) :
    c < m.nconns := by
  unfold lookupDest at h
  cases hm : m.addrMap (canonAddr src) with
  | some c' => rw [hm] at h; injection h with h; subst h; exact (hi.amap _ _ hm).1
  | none =>
    rw [hm] at h
    cases k with
    | stunUser n => exact (hi.fam _ _ c h).1
    | stunNoUser => cases h
    | stunBad => cases h
    | nonStun => cases h

theorem StepTo.inv {m m' : Mux} {op : Op} {o : Out} (st : StepTo m op m' o) (hi : Inv m) : Inv m' := by
  cases st with
  | getOld u v6 c _ hg => exact inv_addHandle m hi c (hi.fam v6 u c hg).1
  | getNew u v6 hcl hg => exact inv_addHandle _ (inv_mkConn m hi u v6 hcl hg) _ (Nat.lt_succ_self _)
  | wrNew h dst h1 _ h3 hcl hnew => exact inv_addAddress m hi _ _ hcl (hi.hnd h h1) h3 hnew
  | delivered src k pid c hd => exact inv_setFifo m hi _ _ ((dest_eq_some_iff m src k c).mp hd).2.2
  | removed u => exact inv_removeByUfrag m hi u
  | chDrop h h1 h2 => exact inv_closeOpen m hi h h1 h2
  | waRun c hc hcl _ => exact inv_reap m hi c hc hcl
  | cmRun _ => exact inv_closeAll m hi
  | rdPkt h pid src rest _ _ hq => exact inv_setFifo m hi _ _ (open_of_fifo m hi _ _ rest hq)
  | _ => exact hi

theorem inv_step (m : Mux) (hi : Inv m) (op : Op) : Inv (step m op).1 := (step_to m op).inv hi

theorem inv_run (ops : List Op) : ∀ m, Inv m → Inv (run m ops).1 := by
  induction ops with
  | nil => intro m h; exact h
  | cons op ops ih => intro m h; rw [run_cons]; exact ih _ (inv_step m h op)

end IceProofs.UdpMux

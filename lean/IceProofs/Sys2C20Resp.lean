import IceProofs.Sys2C20Defs
import IceProofs.Sys2C20RespQ
/-!
# C20 on `Sys2` — where success responses and transaction ids come from 
-/
namespace IceProofs.C20S
open IceModel.AgentCore IceProofs.Agent

/-- A Binding success response is emitted only while an inbound Binding request with the same transaction id is handled
by a selector: the request is not a role conflict, and on a controlled agent it is the request handed to the controlled
selector (`cldDeliversEv`).  Any state, any event. -/
theorem step_out_resp (a : Agent) (e : Ev) (f t : Nat) (m : Msg)
    (hm : Out.dgram f t m ∈ (step a e).2) (hc : m.cls = 2) :
    ∃ now la src m', e = .inbound now la src m' ∧ m'.cls = 0 ∧ m'.tid = m.tid ∧ roleConflict a m' = none ∧
      (a.controlling = false → cldDeliversEv a e = some m') := by
  by_cases hin : ∃ now la src m', e = .inbound now la src m'
  · obtain ⟨now, la, src, m', rfl⟩ := hin
    rw [step_inbound_proj] at hm
    split at hm
    · simp at hm
    · rename_i hg
      split at hm
      · simp at hm
      · rename_i l hl
        rcases List.mem_append.mp hm with hm | hm
        · obtain ⟨ha, hs, hn, ht⟩ := handleInbound_resp a now l src m' f t m hm hc
          refine ⟨now, la, src, m', rfl, ha.2.1, ht.symm, hn, ?_⟩
          intro hctl
          have hd : cldDelivers a l src m' = true :=
            (cldDelivers_iff a l src m').2 ⟨ha, hs, hctl, (roleConflict_eq_none a m').1 hn⟩
          simp [cldDeliversEv, inboundOn, hg, hl, hd]
        · exact ((r_runForced _ now (fun _ => False)).mem hm hc).elim
  · exact ((step_noresp a e (fun now la src m' h => hin ⟨now, la, src, m', h⟩) (fun _ => False)).mem hm hc).elim

theorem step_tids (a : Agent) (e : Ev) :
    a.nextTid ≤ (step a e).1.nextTid ∧
    (∀ f t m, Out.dgram f t m ∈ (step a e).2 → m.cls = 0 →
      ∃ k, m.tid = 2 * k + a.tag ∧ a.nextTid ≤ k ∧ k < (step a e).1.nextTid) ∧
    (∀ pd ∈ (step a e).1.pending, pd ∈ a.pending ∨
      ∃ k, pd.tid = 2 * k + a.tag ∧ a.nextTid ≤ k ∧ k < (step a e).1.nextTid) := by
  have h := tx_step a e
  refine ⟨h.le, fun f t m hm hc => ?_, fun pd hpd => h.fresh hpd⟩
  obtain ⟨k, h1, h2, h3⟩ := h.ord.mem hm hc
  exact ⟨k, h1, h2, by rw [h.next]; exact h3⟩

theorem step_issue_tid (a : Agent) (e : Ev) (v la ra : Nat) (h : issueOf a e = some (v, la, ra)) :
    (∀ f t m, Out.dgram f t m ∈ (step a e).2 → m.cls = 0 →
      m.tid = 2 * a.nextTid + a.tag ∧ m.useCand = true ∧ m.nom = (if 0 < v then some v else none)) ∧
    (∀ pd ∈ (step a e).1.pending, pd ∈ a.pending ∨ pd.tid = 2 * a.nextTid + a.tag) := by
  obtain ⟨now, ri, l, r, rfl, hc, hen, hl, hr, hp, _⟩ := issueOf_inv h
  rw [step_renominate_ok a now la ri v l r hc hen hl hr hp]
  constructor
  · intro f t m hm _
    rw [sendRequest_snd_eq] at hm
    simp only [List.cons_append, List.nil_append, List.mem_cons, Out.dgram.injEq, reduceCtorEq, List.not_mem_nil,
      or_false] at hm
    obtain ⟨_, _, rfl⟩ := hm
    exact ⟨rfl, rfl, rfl⟩
  · intro pd hpd
    change pd ∈ (a.sendRequest now l r true (if v > 0 then some v else none)).1.pending at hpd
    rw [sendRequest_pending] at hpd
    rcases List.mem_append.mp hpd with hpd | hpd
    · exact Or.inl (mem_invalidatePending hpd)
    · right
      rw [List.mem_singleton.mp hpd]

end IceProofs.C20S

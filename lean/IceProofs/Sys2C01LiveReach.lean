import IceProofs.Sys2C01LiveMain
/-!
# C01 liveness — reachable states; the rounds as a schedule

* the bookkeeping invariant of C06 holds for both agents in every state of the two-agent system (`c06_runs`);
* the rounds are a schedule: `rounds c n s = Sys.runs s (roundsEvs c n s)` — one clock advance and three times "as
  many `deliver 0` as datagrams in flight" per round; no loss, no duplication.
-/
namespace IceProofs.C01Live
open IceModel.AgentCore IceModel.Sys2 IceProofs.Sys2Run IceProofs.C01 IceProofs.Agent

theorem c06_runs {s : Sys} (h : ∀ x, IceProofs.AgentC06.Inv (s.agent x)) (evs : List SysEv) :
    ∀ x, IceProofs.AgentC06.Inv ((Sys.runs s evs).agent x) :=
  Sys.runs_agents (fun _ e h => h.step e) h evs

/-- the initial state has no selection bookkeeping left over (in addition to `Sys.Init`) -/
def FreshSel (s : Sys) : Prop :=
  s.a.caches = [] ∧ s.a.nominatedPair = none ∧ s.b.caches = [] ∧ s.b.nominatedPair = none

instance (s : Sys) : Decidable (FreshSel s) := by unfold FreshSel; infer_instance

theorem c06_init {s0 : Sys} (hi : Sys.Init s0) (hf : FreshSel s0) : ∀ x, IceProofs.AgentC06.Inv (s0.agent x) := by
  intro x
  cases x
  · exact IceProofs.AgentC06.Inv.init ⟨hi.a_checklist, hi.a_locals, hi.a_remotes, hf.1, hi.a_selected, hf.2.1⟩
  · exact IceProofs.AgentC06.Inv.init ⟨hi.b_checklist, hi.b_locals, hi.b_remotes, hf.2.2.1, hi.b_selected, hf.2.2.2⟩

/-- the events of a wave -/
def waveEvs (s : Sys) : List SysEv := List.replicate s.inflight.length (.deliver 0)

theorem wave_runs (s : Sys) : wave s = Sys.runs s (waveEvs s) := flushN_runs _ _

/-- the events of a round: one clock advance, three waves -/
def roundEvs (c : Bool) (s : Sys) : List SysEv :=
  let s1 := Sys.run s (.advance (roundT c s))
  let s2 := wave s1
  let s3 := wave s2
  [.advance (roundT c s)] ++ waveEvs s1 ++ waveEvs s2 ++ waveEvs s3

theorem round_runs (c : Bool) (s : Sys) : round c s = Sys.runs s (roundEvs c s) := by
  unfold round roundEvs
  simp only [Sys.runs_append]
  have e : Sys.runs s [SysEv.advance (roundT c s)] = Sys.run s (.advance (roundT c s)) := rfl
  rw [e, ← wave_runs, ← wave_runs, ← wave_runs]
  rfl

def roundsEvs (c : Bool) : Nat → Sys → List SysEv
  | 0, _ => []
  | n + 1, s => roundEvs c s ++ roundsEvs c n (round c s)

theorem rounds_runs (c : Bool) (n : Nat) (s : Sys) : rounds c n s = Sys.runs s (roundsEvs c n s) := by
  induction n generalizing s with
  | zero => rfl
  | succ n ih =>
    show rounds c n (round c s) = _
    rw [ih, roundsEvs, Sys.runs_append, round_runs]

/-- the schedule of the rounds is loss-free and duplication-free: clock advances and deliveries only -/
def isFairEv : SysEv → Bool
  | .advance _ => true
  | .deliver _ => true
  | _ => false

theorem roundsEvs_fair (c : Bool) (n : Nat) (s : Sys) : ∀ e ∈ roundsEvs c n s, isFairEv e = true := by
  induction n generalizing s with
  | zero => intro e he; cases he
  | succ n ih =>
    intro e he
    rw [roundsEvs] at he
    rcases List.mem_append.mp he with he | he
    · unfold roundEvs waveEvs at he
      simp only [List.mem_append, List.mem_singleton, List.mem_replicate] at he
      rcases he with ((rfl | ⟨_, rfl⟩) | ⟨_, rfl⟩) | ⟨_, rfl⟩ <;> rfl
    · exact ih _ e he

end IceProofs.C01Live

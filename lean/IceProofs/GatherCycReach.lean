import IceModel.Gather
import IceProofs.GatherAgent
/-!
The cycle component of the composed model `IceModel.Gather.step` (C18) is always a state of its cycle machine
`IceModel.Gather.Cycle` reached from the initial state: the agent model changes it through `Cycle.step` only.  Hence
every theorem about `Cycle.run false { continual := k } evs` (`IceProofs.GatherCyc`) applies to the agent model that is
compared with the implementation.
-/
namespace IceProofs.GatherCycReach
open IceModel.Gather IceProofs.GatherAgent IceProofs.GatherClosed

/-- reached by the cycle machine from the initial state of an agent with gathering policy `k` -/
def Reach (k : Bool) (c : Cycle.State) : Prop := ∃ evs : List Cycle.Ev, c = (Cycle.run false { continual := k } evs).1

theorem run_append (r : Bool) : ∀ (a b : List Cycle.Ev) (s : Cycle.State),
    (Cycle.run r s (a ++ b)).1 = (Cycle.run r (Cycle.run r s a).1 b).1 := by
  intro a
  induction a with
  | nil => intro b s; rfl
  | cons e a ih => intro b s; simp only [List.cons_append, Cycle.run]; exact ih b _

theorem reach_step {k : Bool} {c : Cycle.State} (h : Reach k c) (e : Cycle.Ev) : Reach k (Cycle.step false c e).1 := by
  obtain ⟨evs, rfl⟩ := h
  refine ⟨evs ++ [e], ?_⟩
  rw [run_append]
  simp [Cycle.run]

theorem reach_init (k : Bool) : Reach k ({ continual := k } : Cycle.State) := ⟨[], rfl⟩

theorem resume_cyc (s : MState) (pick : Job → Option (Ans × Nat)) : (resume s pick).cyc = s.cyc :=
  (resume_keeps s pick).cyc

theorem runCycleUnits_cyc (s : MState) (c gen : Nat) : (runCycleUnits s c gen).cyc = s.cyc :=
  (runCycleUnits_keeps s c gen).cyc

theorem reach_closed (k : Bool) : GatherClosed.Closed (fun s => Reach k s.cyc) where
  units {s} h c gen := by
    show Reach k (runCycleUnits s c gen).cyc
    rw [runCycleUnits_cyc]; exact h
  gate {s} h := by
    show Reach k (MState.cyc _)
    rw [(gate_keeps s).cyc]; exact h
  resume {s} h pick := by
    show Reach k (resume s pick).cyc
    rw [resume_cyc]; exact h
  drop h := h
  upd {s s'} h _ hc := by
    show Reach k s'.cyc
    rcases hc with hc | ⟨e, hc⟩
    · rw [hc]; exact h
    · rw [hc]; exact reach_step h e
  clock h _ := h

theorem step_reach {k : Bool} {s : MState} (h : Reach k s.cyc) (op : Op) : Reach k (step s op).1.cyc :=
  (reach_closed k).of_any_step (fun _ _ h => h) h op

theorem runOps_reach {k : Bool} : ∀ (ops : List Op) {s : MState}, Reach k s.cyc → Reach k (runOps s ops).cyc := by
  intro ops
  induction ops with
  | nil => intro s h; exact h
  | cons op ops ih => intro s h; exact ih (step_reach h op)

theorem init_reach (cfg : Config) (ifs : List Iface) (s : MState) (h : newAgent cfg ifs = .ok s) : Reach cfg.continual s.cyc := by
  rw [IceProofs.GatherAgent.newAgent_ok h]
  exact reach_init _

end IceProofs.GatherCycReach

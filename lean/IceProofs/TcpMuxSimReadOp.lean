import IceProofs.TcpMuxSimRead
/-!
# The `read` operation
-/
namespace IceProofs.TcpMux
open IceModel.TcpMux IceSpec.C15 IceSpec.C15.View

theorem blocked_facts {s : State} {m : Mon} (hu : SimU s m) (hi : Inv s) (h2 : Inv2 s) {p k : Nat} {t : Tcp} {bp : Pkt} {fin : Bool}
    (ht : s.tcps[k]? = some t) (hrd : t.reader = .blocked bp fin) (htpc : t.pc = some p) :
    bp.conn = k ∧ bp.src = t.peer ∧ (bp.err = none → fin = false ∧ t.phase = .attached p ∧ bp.len ≤ 8192) := by
  obtain ⟨b1, b2, b3, b4⟩ := (h2.tcp k t ht).blk.ok bp fin hrd
  refine ⟨b1, b2, ?_⟩
  intro herr
  have hfin : fin = false := by
    cases fin with
    | false => rfl
    | true => exact absurd herr (b4 rfl)
  subst hfin
  obtain ⟨p', hph⟩ := (hi.blocked ht hrd).2
  obtain rfl := hi.att_eq ht hph htpc
  exact ⟨rfl, hph, hu.plb k t bp ht hrd⟩

theorem op_read {s : State} {m : Mon} (hs : Sim s m) (hi : Inv s) (h2 : Inv2 s) (hdr : Drained s) (h : Nat)
    (hnb : (step s (.read h)).2 ≠ .bad) :
    BookOK s (step s (.read h)).1 m
      (book m (.read h) (obsOf s.tcps (step s (.read h)).1 (oresOf (.read h) (step s (.read h)).2))) := by
  refine book_cases (.read h) (fun s' r hx hdo => ?_)
  cases hdo with
  | readBad _ hh => rw [hx] at hnb; exact absurd rfl hnb
  | readClosed _ hd hh hc =>
    refine bookOK_of_core hs hi h2 (.read h) nofun hx (fun _ => ?_)
    show Core s (bookRead m (obsOf s.tcps s (oresOf (.read h) .errClosed)) h)
    rw [bookRead_other m _ h rfl]
    exact Core.same hs hi
  | read _ hd hh hc =>
    have hmh : m.handles[h]? = some (absH hd) := by rw [handle_abs hs.u, hh]; rfl
    have hst0 : step s (.read h) = readPc s hd.pc := hx
    rw [hst0] at hnb
    -- nothing is read and nothing changes
    have still : ∀ r : Res, readPc s hd.pc = (s, r) →
        bookRead m (obsOf s.tcps s (oresOf (.read h) r)) h = (m, none, false) →
        BookOK s (readPc s hd.pc).1 m
          (book m (.read h) (obsOf s.tcps (readPc s hd.pc).1 (oresOf (.read h) (readPc s hd.pc).2))) :=
      fun r hst hb => by
        rw [hst]
        exact bookOK_of_core hs hi h2 (.read h) nofun (hst0.trans hst)
          (fun _ => (show book m (mopOf (.read h)) _ = _ from hb) ▸ Core.same hs hi)
    cases hp : s.pcs[hd.pc]? with
    | none => unfold readPc at hnb; simp [hp] at hnb
    | some pc =>
      have hfifo := (h2.pc hd.pc pc hp).fifo
      -- the final assembly, common to all cases that return a packet
      have finish : ∀ (s' : State) (pkt : Pkt), readPc s hd.pc = (s', .pkt pkt) →
          SimU s' (bump m pkt) → NRead s' (bump m pkt) →
          (pkt.err = none → ∃ t0, s.tcps[pkt.conn]? = some t0 ∧ t0.pc = some hd.pc ∧ pkt.src = t0.peer ∧ pkt.len ≤ 8192 ∧
            (sentIds t0.sent)[(dataIds (fromConn pkt.conn pc.readLog)).length]? = some (pkt.fid, pkt.len) ∧
            ∃ q, pc.hist = pc.readLog ++ q ∧
              ∀ y, y ∈ q → y.err = none → y.src = pkt.src → y.conn ≠ pkt.conn → seqOf m pkt.conn < seqOf m y.conn) →
          BookOK s (readPc s hd.pc).1 m
            (book m (.read h) (obsOf s.tcps (readPc s hd.pc).1 (oresOf (.read h) (readPc s hd.pc).2))) := by
        intro s' pkt hst hu hn hdata
        rw [hst]
        refine bookOK_of_core hs hi h2 (.read h) nofun (hst0.trans hst) (fun hi' => ?_)
        show Core s' (bookRead m (obsOf s.tcps s' (oresOf (.read h) (.pkt pkt))) h)
        rw [bookRead_bump hs hi h2 h hd hh hc pc hp pkt _ rfl hdata]
        exact Core.of_inv rfl hu hn hi'
      cases hq : pc.recvQ with
      | cons pkt q =>
        have hmem : pkt ∈ pc.hist := by rw [hfifo, hq]; simp
        have hdata : pkt.err = none → ∃ t0, s.tcps[pkt.conn]? = some t0 ∧ t0.pc = some hd.pc ∧ pkt.src = t0.peer ∧ pkt.len ≤ 8192 ∧
            (sentIds t0.sent)[(dataIds (fromConn pkt.conn pc.readLog)).length]? = some (pkt.fid, pkt.len) ∧
            ∃ q', pc.hist = pc.readLog ++ q' ∧
              ∀ y, y ∈ q' → y.err = none → y.src = pkt.src → y.conn ≠ pkt.conn → seqOf m pkt.conn < seqOf m y.conn := by
          intro herr
          obtain ⟨t0, ht0, hpc0, hsrc⟩ := (h2.pc hd.pc pc hp).src pkt hmem
          refine ⟨t0, ht0, hpc0, hsrc, hs.u.pl hd.pc pc pkt hp hmem herr, ?_, pkt :: q, by rw [hfifo, hq], ?_⟩
          · have hpre := ((h2.tcp pkt.conn t0 ht0).order hd.pc pc hpc0 hp).2
            rw [hfifo, hq, fromConn_append, dataIds_append] at hpre
            have : dataIds (fromConn pkt.conn (pkt :: q)) = (pkt.fid, pkt.len) :: dataIds (fromConn pkt.conn q) := by
              simp [fromConn, dataIds, herr]
            rw [this] at hpre
            exact prefix_getElem? hpre
          · intro y hy hye hys hyc
            rcases List.mem_cons.1 hy with rfl | hy'
            · exact absurd rfl hyc
            · exact hs.u.ho hd.pc pc pc.readLog q pkt y hp (by rw [hfifo, hq]) hy' herr hye hys.symm (fun e => hyc e.symm)
        have hsrcD : pkt.err = none → ∃ t0, s.tcps[pkt.conn]? = some t0 ∧ t0.pc = some hd.pc := by
          intro _
          obtain ⟨t0, ht0, hpc0, _⟩ := (h2.pc hd.pc pc hp).src pkt hmem
          exact ⟨t0, ht0, hpc0⟩
        obtain ⟨qA, absA⟩ := setPc_stage s hd.pc (popQ q pkt) pc hp [] (by simp [popQ]) rfl rfl (by simp)
        have hu0 := quiet_simU qA hi h2 hs.u
        have hmA : reread m (setPc s hd.pc (popQ q pkt)) = m := mon_reread (by rw [absA]; exact hs.u.pcs) hs.u.handles hs.u.now
        rw [hmA] at hu0
        have huA := simU_bump hu0 pkt
        have hnA := nread_pop hs.nread hd.pc pc hp (popQ q pkt) pkt rfl hsrcD
        cases hb : pc.blockedQ with
        | nil =>
          exact finish _ pkt (readPc_a s hd.pc pc pkt q hp hq hb) huA hnA hdata
        | cons k bq =>
          obtain ⟨t, bp, fin, ht, hrd, htpc, hbl⟩ := blocked_first hi hp hb
          obtain ⟨b1, b2, b3⟩ := blocked_facts hs.u hi h2 ht hrd htpc
          have hi1 : Inv (setPc s hd.pc (popQ q pkt)) :=
            setPc_irrel_inv s hd.pc _ (fun pc => ⟨rfl, rfl, rfl, rfl, Or.inl rfl⟩) hi
          have h21 : Inv2 (setPc s hd.pc (popQ q pkt)) := by
            apply setPc_fifo_inv2 s hd.pc _ h2
            intro pc' hp'
            rw [hp] at hp'; cases hp'
            refine ⟨rfl, ?_, rfl, rfl, rfl, rfl, rfl⟩
            simp only [popQ]
            rw [hfifo, hq]; simp
          have hpA : (setPc s hd.pc (popQ q pkt)).pcs[hd.pc]? = some (popQ q pkt pc) := by
            rw [getElem?_setPc, hp]; simp
          obtain ⟨qC, absC, rlC⟩ := unblock_stage (setPc s hd.pc (popQ q pkt)) hd.pc k fin (pushB bq bp) (popQ q pkt pc) hpA
            [bp] rfl rfl rfl (by
              intro y hy hye
              rw [List.mem_singleton] at hy; subst hy
              obtain ⟨_, hph, hl⟩ := b3 hye
              exact ⟨hl, t, by rw [b1]; exact ht, hph, b2⟩) hi1
          obtain ⟨huC0, hnC⟩ := quiet_step qC (rlC rfl) hi1 h21 huA hnA
          have hmC : reread (bump m pkt) (setTcp (setPc (setPc s hd.pc (popQ q pkt)) hd.pc (pushB bq bp)) k (wake fin)) = bump m pkt := by
            apply mon_reread
            · rw [(bump_misc m pkt).2.1, absC, absA]; exact hs.u.pcs
            · rw [(bump_misc m pkt).2.2.1]; exact hs.u.handles
            · rw [(bump_misc m pkt).2.2.2]; exact hs.u.now
          rw [hmC] at huC0 hnC
          have hiC : Inv (setTcp (setPc (setPc s hd.pc (popQ q pkt)) hd.pc (pushB bq bp)) k (wake fin)) :=
            unblock_inv _ hi1 k hd.pc t (popQ q pkt pc) bq bp fin ht hrd hpA hb (pushB bq bp) ⟨rfl, rfl, rfl, rfl, rfl⟩
          have h2C : Inv2 (setTcp (setPc (setPc s hd.pc (popQ q pkt)) hd.pc (pushB bq bp)) k (wake fin)) := by
            refine unblock_inv2 _ hi1 h21 k hd.pc t (popQ q pkt pc) bq bp fin ht hrd hpA hb (pushB bq bp) ⟨rfl, ?_, rfl, rfl, rfl, rfl, rfl⟩
            simp only [pushB, popQ]
            rw [hfifo, hq]; simp
          obtain ⟨hu, hn⟩ := reader_chain k hiC h2C huC0 hnC
          exact finish _ pkt (readPc_b s hd.pc k pc pkt bp q bq fin hp hq hb hbl) hu hn hdata
      | nil =>
        cases hb : pc.blockedQ with
        | nil =>
          have hst := readPc_d s hd.pc pc hp hq hb
          rcases Bool.eq_false_or_eq_true pc.closed with hcl | hcl
          · rw [hcl] at hst
            simp only [if_true] at hst
            exact still _ hst (bookRead_other m _ h rfl)
          · rw [hcl] at hst
            simp only [Bool.false_eq_true, if_false] at hst
            apply still _ hst
            -- nothing to read: every open connection routed here has had all its frames delivered
            have hany : (liveOn m (absH hd).pc).any (fun x => decide (x.2.nread < x.2.sent.length)) = false := by
              rw [List.any_eq_false]
              intro x hx
              obtain ⟨k, c⟩ := x
              unfold liveOn at hx
              rw [List.mem_filter, mem_indexed] at hx
              obtain ⟨hck, hcond⟩ := hx
              simp only [Bool.and_eq_true, beq_iff_eq, Bool.not_eq_true'] at hcond
              obtain ⟨t, ht, hph, r⟩ := live_attached hs.u hs.flags hi h2 hck hcond.1 hcond.2
              have hpc : t.pc = some hd.pc := by rw [← r.target]; exact hcond.1
              simp only [decide_eq_true_eq, Nat.not_lt]
              have hidle : t.reader = .idle := by
                cases hrd : t.reader with
                | idle => rfl
                | none => exact absurd hph (hi.noReader ht hrd hd.pc)
                | blocked bp fin =>
                  obtain ⟨⟨p0, pc0, e0, hp0, _, hm0⟩, _⟩ := hi.blocked ht hrd
                  rw [hpc] at e0; cases e0
                  rw [hp] at hp0; cases hp0
                  rw [hb] at hm0; cases hm0
              have ho := ((h2.tcp k t ht).order hd.pc pc hpc hp).1 hd.pc hph
              rw [hidle, hdr k t ht hidle] at ho
              simp only [blkIds, frameIds, List.filterMap_nil, List.append_nil] at ho
              rw [nread_eq hs.nread ht hck hpc hp, r.sent (by rw [hpc]; rfl)]
              have hrl : pc.hist = pc.readLog := by rw [hfifo, hq]; simp
              rw [← hrl, ho]
              simp [mframes, sentIds]
            unfold bookRead
            rw [hmh]
            have hres : (obsOf s.tcps s (oresOf (.read h) .empty)).res = .empty := rfl
            simp only [hres, show (absH hd).closed = false from hc, Bool.false_eq_true, if_false, hany, Bool.false_and]
        | cons k bq =>
          obtain ⟨t, bp, fin, ht, hrd, htpc, hbl⟩ := blocked_first hi hp hb
          obtain ⟨b1, b2, b3⟩ := blocked_facts hs.u hi h2 ht hrd htpc
          have hrl : pc.hist = pc.readLog := by rw [hfifo, hq]; simp
          obtain ⟨qC, absC, _⟩ := unblock_stage s hd.pc k fin (passB bq bp) pc hp [bp] rfl rfl rfl (by
              intro y hy hye
              rw [List.mem_singleton] at hy; subst hy
              obtain ⟨_, hph, hl⟩ := b3 hye
              exact ⟨hl, t, by rw [b1]; exact ht, hph, b2⟩) hi
          have hu0 := quiet_simU qC hi h2 hs.u
          have hmC : reread m (setTcp (setPc s hd.pc (passB bq bp)) k (wake fin)) = m :=
            mon_reread (by rw [absC]; exact hs.u.pcs) hs.u.handles hs.u.now
          rw [hmC] at hu0
          have huC := simU_bump hu0 bp
          have hnC : NRead (setTcp (setPc s hd.pc (passB bq bp)) k (wake fin)) (bump m bp) :=
            nread_setTcp (nread_pop hs.nread hd.pc pc hp (passB bq bp) bp rfl
              (fun _ => ⟨t, by rw [b1]; exact ht, htpc⟩)) k (wake fin) (fun _ => rfl)
          have hiC : Inv (setTcp (setPc s hd.pc (passB bq bp)) k (wake fin)) :=
            unblock_inv s hi k hd.pc t pc bq bp fin ht hrd hp hb (passB bq bp) ⟨rfl, rfl, rfl, rfl, rfl⟩
          have h2C : Inv2 (setTcp (setPc s hd.pc (passB bq bp)) k (wake fin)) := by
            refine unblock_inv2 s hi h2 k hd.pc t pc bq bp fin ht hrd hp hb (passB bq bp) ⟨rfl, ?_, rfl, rfl, rfl, rfl, rfl⟩
            simp only [passB]
            rw [hfifo, hq]; simp
          obtain ⟨hu, hn⟩ := reader_chain k hiC h2C huC hnC
          apply finish _ bp (readPc_c s hd.pc k pc bp bq fin hp hq hb hbl) hu hn ?_
          · intro herr
            obtain ⟨hfin, hph, hl⟩ := b3 herr
            subst hfin
            refine ⟨t, by rw [b1]; exact ht, htpc, b2, hl, ?_, [], by rw [hrl]; simp, by intro y hy; cases hy⟩
            have ho := ((h2.tcp k t ht).order hd.pc pc htpc hp).1 hd.pc hph
            rw [hrd] at ho
            simp only [blkIds] at ho
            rw [b1, ← hrl, ← ho, List.append_assoc]
            exact prefix_getElem? (List.prefix_refl _)

end IceProofs.TcpMux

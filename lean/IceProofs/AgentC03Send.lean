import IceProofs.AgentC03Basic
/-!
# C03 — the sending helpers keep the invariant, the role and the selection

`HOK wp ex a r`: running a helper from `a` with result `r = (a', outputs)` keeps `Inv3`, is `Quiet`,
keeps configuration and role, and every Binding request among the outputs carries the agent's role
(and USE-CANDIDATE only when that role is controlling).
-/
namespace IceProofs.C03
open IceModel.AgentCore

/-- every Binding request in `o` carries role `ctl`, and USE-CANDIDATE only if `ctl` -/
def OutR (ctl : Bool) (o : List Out) : Prop :=
  ∀ f t m, Out.dgram f t m ∈ o → m.cls = 0 → (∃ tb, m.role = some (ctl, tb)) ∧ (m.useCand = true → ctl = true)

/-- no Binding request in `o` -/
def NoReq (o : List Out) : Prop := ∀ f t m, Out.dgram f t m ∈ o → m.cls ≠ 0

theorem OutR.nil (c : Bool) : OutR c [] := by intro f t m h; cases h
theorem NoReq.nil : NoReq [] := by intro f t m h; cases h
theorem OutR.append {c : Bool} {o1 o2 : List Out} (h1 : OutR c o1) (h2 : OutR c o2) : OutR c (o1 ++ o2) := by
  intro f t m h
  rcases List.mem_append.mp h with h | h
  · exact h1 f t m h
  · exact h2 f t m h
theorem NoReq.append {o1 o2 : List Out} (h1 : NoReq o1) (h2 : NoReq o2) : NoReq (o1 ++ o2) := by
  intro f t m h
  rcases List.mem_append.mp h with h | h
  · exact h1 f t m h
  · exact h2 f t m h
theorem NoReq.outR {o : List Out} (h : NoReq o) (c : Bool) : OutR c o :=
  fun f t m hm h0 => absurd h0 (h f t m hm)
theorem NoReq.of_no_dgram {o : List Out} (h : ∀ f t m, Out.dgram f t m ∉ o) : NoReq o :=
  fun f t m hm => absurd hm (h f t m)

structure HOK (wp ex : Prop) (a : Agent) (r : Agent × List Out) : Prop where
  pres : Pres wp ex a r.1
  cfg : r.1.cfg = a.cfg
  ctl : r.1.controlling = a.controlling
  out : OutR a.controlling r.2

theorem HOK.refl (wp ex : Prop) (a : Agent) : HOK wp ex a (a, []) :=
  ⟨Pres.refl _ _ _, rfl, rfl, OutR.nil _⟩

theorem HOK.seq {wp ex : Prop} {a a1 a2 : Agent} {o1 o2 : List Out} (h1 : HOK wp ex a (a1, o1))
    (h2 : HOK wp ex a1 (a2, o2)) : HOK wp ex a (a2, o1 ++ o2) :=
  ⟨h1.pres.trans h2.pres, h2.cfg.trans h1.cfg, h2.ctl.trans h1.ctl,
   h1.out.append (by have := h2.out; rw [h1.ctl] at this; exact this)⟩

theorem HOK.andThen {wp ex : Prop} {a a1 a2 : Agent} {o1 : List Out} (h1 : HOK wp ex a (a1, o1))
    (hp : Pres wp ex a1 a2) (hc : a2.cfg = a1.cfg) (hr : a2.controlling = a1.controlling) :
    HOK wp ex a (a2, o1) :=
  ⟨h1.pres.trans hp, hc.trans h1.cfg, hr.trans h1.ctl, h1.out⟩

theorem HOK.silent {wp ex : Prop} {a a' : Agent} (hp : Pres wp ex a a') (hc : a'.cfg = a.cfg)
    (hr : a'.controlling = a.controlling) : HOK wp ex a (a', []) := ⟨hp, hc, hr, OutR.nil _⟩

theorem HOK.with_out {wp ex : Prop} {a a' : Agent} {o o' : List Out} (h : HOK wp ex a (a', o))
    (ho : OutR a.controlling o') : HOK wp ex a (a', o') := ⟨h.pres, h.cfg, h.ctl, ho⟩

theorem seenLocalSent_pres {wp ex : Prop} (a : Agent) (uid now : Nat) : Pres wp ex a (a.seenLocalSent uid now) :=
  Pres.of_eq rfl rfl rfl rfl (Agent.seenLocalSent_pairPrio a uid now)

theorem seenRemoteRecv_pres {wp ex : Prop} (a : Agent) (uid now : Nat) : Pres wp ex a (a.seenRemoteRecv uid now) :=
  Pres.of_eq rfl rfl rfl rfl (Agent.seenRemoteRecv_pairPrio a uid now)

theorem sendRequest_hok {wp ex : Prop} (a : Agent) (now : Nat) (l r : Cand) (uc : Bool) (nom : Option Nat)
    (huc : uc = true → a.controlling = true) : HOK wp ex a (a.sendRequest now l r uc nom) := by
  unfold Agent.sendRequest
  simp only []
  split
  · refine ⟨?_, rfl, rfl, ?_⟩
    · refine Pres.trans ?_ (seenLocalSent_pres _ _ _)
      refine Pres.trans ?_ (modPair_core _ _ _ fun p => ⟨rfl, rfl, rfl, rfl, rfl, rfl, rfl, rfl, rfl, rfl, rfl, rfl⟩)
      exact Pres.of_eq rfl rfl rfl rfl fun _ => rfl
    · intro f t m hm h0
      simp only [List.mem_singleton, Out.dgram.injEq] at hm
      obtain ⟨_, _, rfl⟩ := hm
      exact ⟨⟨_, rfl⟩, huc⟩
  · refine ⟨?_, rfl, rfl, ?_⟩
    · refine Pres.trans ?_ (seenLocalSent_pres _ _ _)
      exact Pres.of_eq rfl rfl rfl rfl fun _ => rfl
    · intro f t m hm h0
      simp only [List.mem_singleton, Out.dgram.injEq] at hm
      obtain ⟨_, _, rfl⟩ := hm
      exact ⟨⟨_, rfl⟩, huc⟩

theorem ping_hok {wp ex : Prop} (a : Agent) (now : Nat) (l r : Cand) : HOK wp ex a (a.ping now l r) :=
  sendRequest_hok a now l r false none (fun h => by cases h)

theorem sendSuccess_hok {wp ex : Prop} (a : Agent) (now : Nat) (m : Msg) (l r : Cand) :
    HOK wp ex a (a.sendSuccess now m l r) := by
  unfold Agent.sendSuccess
  simp only []
  split
  · refine ⟨?_, rfl, rfl, ?_⟩
    · refine Pres.trans ?_ (seenLocalSent_pres _ _ _)
      exact modPair_core _ _ _ fun p => ⟨rfl, rfl, rfl, rfl, rfl, rfl, rfl, rfl, rfl, rfl, rfl, rfl⟩
    · intro f t m hm h0
      simp only [List.mem_singleton, Out.dgram.injEq] at hm
      obtain ⟨_, _, rfl⟩ := hm
      cases h0
  · refine ⟨seenLocalSent_pres _ _ _, rfl, rfl, ?_⟩
    intro f t m hm h0
    simp only [List.mem_singleton, Out.dgram.injEq] at hm
    obtain ⟨_, _, rfl⟩ := hm
    cases h0

theorem sendSuccess_noReq (a : Agent) (now : Nat) (m : Msg) (l r : Cand) : NoReq (a.sendSuccess now m l r).2 := by
  intro f t m' hm
  simp only [Agent.sendSuccess, List.mem_singleton, Out.dgram.injEq] at hm
  obtain ⟨_, _, rfl⟩ := hm
  simp

theorem sendSuccess_selected (a : Agent) (now : Nat) (m : Msg) (l r : Cand) :
    (a.sendSuccess now m l r).1.selected = a.selected := by
  unfold Agent.sendSuccess
  simp only []
  split <;> rfl

end IceProofs.C03

import IceProofs.AgentC03Down
/-!
# C03 — reachability, and the lite controlled agent's selection on an authenticated nomination
-/
namespace IceProofs.C03
open IceModel.AgentCore IceProofs.Agent

/-- an initial agent: nothing gathered, nothing signalled, nothing selected (any configuration, role,
credentials, counters) -/
def IsInit (a : Agent) : Prop := a.checklist = [] ∧ a.locals = [] ∧ a.remotes = [] ∧ a.selected = none

/-- the state after an event list -/
def run (a : Agent) (evs : List Ev) : Agent := evs.foldl (fun s e => (step s e).1) a

def Reachable (a : Agent) : Prop := ∃ a0 evs, IsInit a0 ∧ a = run a0 evs

theorem Inv3_init {a : Agent} (h : IsInit a) : Inv3 a := by
  obtain ⟨h1, _, _, h4⟩ := h
  refine ⟨⟨by simp [h1], by simp [h1]⟩, by simp [h1], by simp [h4]⟩

theorem Inv3_step {a : Agent} (e : Ev) (h : Inv3 a) : Inv3 (step a e).1 := (step_hsel a e).inv h

theorem Inv3_run {a : Agent} (evs : List Ev) (h : Inv3 a) : Inv3 (run a evs) := by
  induction evs generalizing a with
  | nil => exact h
  | cons e es ih => exact ih (Inv3_step e h)

theorem Inv3_reachable {a : Agent} (h : Reachable a) : Inv3 a := by
  obtain ⟨a0, evs, h0, rfl⟩ := h
  exact Inv3_run evs (Inv3_init h0)

theorem Reachable.step {a : Agent} (h : Reachable a) (e : Ev) : Reachable (IceModel.AgentCore.step a e).1 := by
  obtain ⟨a0, evs, h0, rfl⟩ := h
  exact ⟨a0, evs ++ [e], h0, by simp [run, List.foldl_append]⟩

/-- `controlledSelector.shouldAcceptNomination` as a predicate of the pre-state -/
def acceptsNomination (a : Agent) (m : Msg) : Bool :=
  match m.nom with
  | none => true
  | some v =>
    match a.lastNomination with
    | none => true
    | some last => decide (v > last)

theorem cldAccept_snd (a : Agent) (m : Msg) (hn : (m.useCand || m.nom.isSome) = true) :
    (cldAccept a m).2 = acceptsNomination a m := by
  unfold cldAccept acceptsNomination
  simp only [hn, Bool.not_true, Bool.false_eq_true, if_false]
  repeat' split
  all_goals simp_all

theorem cldPre_lastNomination (a : Agent) (m : Msg) (l r : Cand) :
    (cldPre a m l r).1.lastNomination = a.lastNomination := by
  unfold cldPre
  split <;> rfl

theorem acceptsNomination_congr {a b : Agent} (m : Msg) (h : b.lastNomination = a.lastNomination) :
    acceptsNomination b m = acceptsNomination a m := by
  unfold acceptsNomination; rw [h]

theorem cldNom_lite (a : Agent) (id : Nat) (m : Msg) (hl : a.cfg.lite = true)
    (hn : (m.useCand || m.nom.isSome) = true) (p : Pair) (hp : (cldLite a id).pairById id = some p) :
    cldNom a id m = if cldSw (cldLite a id) id m p then (cldLite a id).select id else (cldLite a id, []) := by
  have hs : p.state = .succeeded := cldLite_valid a id hl p (pairById_listed hp).1 (pairById_listed hp).2
  unfold cldNom
  rw [if_pos hn]
  simp only [hp, hs, beq_self_eq_true, if_true]

/-- the id of the pair (l, r) an inbound request is attributed to (found, else created) -/
def reqPairId (a : Agent) (l r : Cand) : Nat :=
  match a.findPair l r with
  | some p => p.id
  | none => a.nextPairID + 1

theorem cldPre_snd (a : Agent) (m : Msg) (l r : Cand) : (cldPre a m l r).2 = reqPairId a l r := by
  unfold cldPre reqPairId
  cases a.findPair l r <;> rfl

/-- the state in which `shouldSwitchSelectedPair` is evaluated by a lite controlled agent -/
def liteDecisionState (a : Agent) (m : Msg) (l r : Cand) : Agent :=
  cldLite (cldAccept (cldPre a m l r).1 m).1 (reqPairId a l r)

theorem sendSuccess_fwd (a : Agent) (now : Nat) (m : Msg) (l r : Cand) {p : Pair} (hp : p ∈ a.checklist) :
    ∃ p' ∈ (a.sendSuccess now m l r).1.checklist, p'.id = p.id ∧ p'.state = p.state ∧ p'.gNomReq = p.gNomReq := by
  unfold Agent.sendSuccess
  simp only []
  split
  · rename_i q _
    refine ⟨_, updPair_mem (id := q.id) (f := fun p => { p with respSent := p.respSent + 1 }) hp, ?_⟩
    split <;> exact ⟨rfl, rfl, rfl⟩
  · exact ⟨p, hp, rfl, rfl, rfl⟩

theorem cldPing_lite (a : Agent) (now : Nat) (l r : Cand) (id : Nat) (hl : a.cfg.lite = true) :
    cldPing a now l r id = (a, []) := by
  unfold cldPing
  split
  · simp only [hl, Bool.not_true, Bool.false_and, Bool.false_eq_true, if_false]
  · rfl

/-- Lite agent, controlled role, an authenticated accepted nomination on pair (l, r): after the handler
the pair is valid (state succeeded, without any check of the agent's own), carries the ghost mark of the
nomination, it is selected iff `shouldSwitchSelectedPair` (`cldSw`) says so — otherwise the selection is
unchanged — and no Binding request was emitted. -/
theorem cldHandleRequest_lite (a : Agent) (now : Nat) (m : Msg) (l r : Cand) (hi : Inv3 a)
    (hl : a.cfg.lite = true) (hc : a.controlling = false)
    (hn : (m.useCand || m.nom.isSome) = true) (hacc : acceptsNomination a m = true) :
    (∃ q ∈ (a.cldHandleRequest now m l r).1.checklist, q.id = reqPairId a l r ∧ q.state = .succeeded ∧
        q.gNomReq = true) ∧
    (∃ p, (liteDecisionState a m l r).pairById (reqPairId a l r) = some p ∧
      (a.cldHandleRequest now m l r).1.selected =
        if cldSw (liteDecisionState a m l r) (reqPairId a l r) m p then some (reqPairId a l r) else a.selected) ∧
    NoReq (a.cldHandleRequest now m l r).2 := by
  suffices key : (∃ q ∈ (a.cldHandleRequest now m l r).1.checklist, q.id = reqPairId a l r ∧ q.state = .succeeded ∧
        q.gNomReq = true) ∧
    (∃ p, (liteDecisionState a m l r).pairById (reqPairId a l r) = some p ∧
      (a.cldHandleRequest now m l r).1.selected =
        if cldSw (liteDecisionState a m l r) (reqPairId a l r) m p then some (reqPairId a l r) else a.selected) from
    ⟨key.1, key.2, cldHandleRequest_noReq a now m l r hl⟩
  unfold liteDecisionState
  rw [← cldPre_snd a m l r, cldHandleRequest_eq]
  obtain ⟨h1, hm1⟩ := cldPre_hok a m l r
  have hi1 := (h1.pres hi).1
  have hs1 : (cldPre a m l r).1.selected = a.selected := h1.selected_eq hi
  have hacc1 : (cldAccept (cldPre a m l r).1 m).2 = true := by
    rw [cldAccept_snd _ _ hn, acceptsNomination_congr m (cldPre_lastNomination a m l r)]; exact hacc
  generalize (cldPre a m l r).1 = a1 at h1 hm1 hi1 hs1 hacc1 ⊢
  generalize (cldPre a m l r).2 = id at hm1 ⊢
  have hcond : ((m.useCand || m.nom.isSome) && !(cldAccept a1 m).2) = false := by rw [hn, hacc1]; rfl
  rw [hcond]
  simp only [Bool.false_eq_true, if_false]
  have h2 := cldAccept_hok (wp := True) (ex := True) a1 m
  have hm2 := cldAccept_marked a1 m id hm1
  have hi2 := (h2.pres hi1).1
  have hs2 : (cldAccept a1 m).1.selected = a.selected := (cldAccept_selected a1 m).trans hs1
  have hl2 : (cldAccept a1 m).1.cfg.lite = true := by rw [h2.cfg, h1.cfg]; exact hl
  have hc2 : (cldAccept a1 m).1.controlling = false := (h2.ctl.trans h1.ctl).trans hc
  generalize (cldAccept a1 m).1 = a2 at h2 hm2 hi2 hs2 hl2 hc2 ⊢
  have hg : ∀ q ∈ a2.checklist, q.id = id → q.gNomReq = true := fun q hq e => (hm2.2 q hq e).2 hn
  have hd : Inv3 (cldLite a2 id) := ((cldLite_pres (wp := True) (ex := True) a2 id hg) hi2).1
  obtain ⟨q0, hq0, hq0id⟩ := hm2.1
  have hq0L : ∃ q ∈ (cldLite a2 id).checklist, q.id = id := by
    unfold cldLite
    rw [if_pos hl2]
    exact ⟨_, updPair_mem (id := id) (f := fun p => { p with state := .succeeded }) hq0, by
      split <;> simp [hq0id]⟩
  obtain ⟨p, hpm, hpid⟩ := hq0L
  have hp : (cldLite a2 id).pairById id = some p := hpid ▸ pairById_of_mem hd.ids hpm
  have hps : p.state = .succeeded := cldLite_valid a2 id hl2 p hpm hpid
  have hpg : p.gNomReq = true := cldLite_flag a2 id hg p hpm hpid
  have hnom := cldNom_lite a2 id m hl2 hn p hp
  -- the nomination block's result: listed valid pair, selection
  have hN : (∃ q ∈ (cldNom a2 id m).1.checklist, q.id = id ∧ q.state = .succeeded ∧ q.gNomReq = true) ∧
      (cldNom a2 id m).1.selected = (if cldSw (cldLite a2 id) id m p then some id else a.selected) ∧
      (cldNom a2 id m).1.cfg.lite = true := by
    rw [hnom]
    split
    · exact ⟨⟨_, select_mem hpm hpid, hpid, hps, hpg⟩, select_selected _ _,
        by rw [(select_cc _ _).1, (cldLite_frame a2 id).1]; exact hl2⟩
    · exact ⟨⟨p, hpm, hpid, hps, hpg⟩, (cldLite_frame a2 id).2.2.trans hs2,
        by rw [(cldLite_frame a2 id).1]; exact hl2⟩
  obtain ⟨⟨q, hqm, hqid, hqs, hqg⟩, hsel, hlN⟩ := hN
  -- the tail: success response only
  have htail : (cldTail (cldNom a2 id m).1 now m l r id (cldNom a2 id m).2).1 =
      ((cldNom a2 id m).1.sendSuccess now m l r).1 := by
    unfold cldTail
    rw [cldPing_lite _ now l r id (by
      rw [(sendSuccess_hok (wp := True) (ex := True) _ now m l r).cfg]; exact hlN)]
  rw [htail]
  obtain ⟨q', hq'm, hq'id, hq's, hq'g⟩ := sendSuccess_fwd (cldNom a2 id m).1 now m l r hqm
  exact ⟨⟨q', hq'm, hq'id.trans hqid, hq's.trans hqs, hq'g.trans hqg⟩, p, hp,
    (sendSuccess_selected _ now m l r).trans hsel⟩

theorem handleInbound_auth_request (a : Agent) (now : Nat) (l : Cand) (src : Nat) (m : Msg) (r : Cand)
    (hmeth : m.method = 1) (h0 : m.cls = 0)
    (huser : m.user = some (a.localUfrag ++ ":" ++ a.remoteUfrag)) (hkey : m.key = some a.localPwd)
    (hr : a.findRemote l.net src = some r)
    (hrole : ∀ c tb, m.role = some (c, tb) → c ≠ a.controlling) :
    a.handleInbound now l src m = Agent.toSelector a now l r m [] := by
  rw [Agent.handleInbound_stages]
  have hd : Agent.resolveSource a l src m = (a, [], some r) := by unfold Agent.resolveSource; rw [hr]
  simp only [hmeth, h0, huser, hkey, hd, bne_self_eq_false, beq_self_eq_true, Bool.true_and, Bool.or_true,
    Bool.true_or, Bool.not_true, Bool.false_eq_true, if_false, if_true, Nat.reduceBEq]
  unfold Agent.afterResolve
  split
  · rename_i c tb hm
    have : (c == a.controlling) = false := by simpa using hrole c tb hm
    simp only [this, Bool.false_eq_true, if_false]
  · rfl

theorem handleInbound_lite_nomination (a : Agent) (now : Nat) (l : Cand) (src : Nat) (m : Msg) (r : Cand)
    (hi : Inv3 a) (hl : a.cfg.lite = true) (hc : a.controlling = false)
    (hmeth : m.method = 1) (h0 : m.cls = 0)
    (huser : m.user = some (a.localUfrag ++ ":" ++ a.remoteUfrag)) (hkey : m.key = some a.localPwd)
    (hr : a.findRemote l.net src = some r)
    (hrole : ∀ c tb, m.role = some (c, tb) → c ≠ a.controlling)
    (hn : (m.useCand || m.nom.isSome) = true) (hacc : acceptsNomination a m = true) :
    (∃ q ∈ (a.handleInbound now l src m).1.checklist, q.id = reqPairId a l r ∧ q.state = .succeeded ∧
        q.gNomReq = true) ∧
    (∃ p, (liteDecisionState a m l r).pairById (reqPairId a l r) = some p ∧
      (a.handleInbound now l src m).1.selected =
        if cldSw (liteDecisionState a m l r) (reqPairId a l r) m p then some (reqPairId a l r) else a.selected) ∧
    NoReq (a.handleInbound now l src m).2 := by
  rw [handleInbound_auth_request a now l src m r hmeth h0 huser hkey hr hrole]
  have h := cldHandleRequest_lite a now m l r hi hl hc hn hacc
  unfold Agent.toSelector
  simp only [hc, Bool.false_eq_true, if_false, List.nil_append]
  exact h

end IceProofs.C03

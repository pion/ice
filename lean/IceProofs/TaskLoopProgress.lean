import IceProofs.TaskLoopSteps
/-!
# Progress (no deadlock) of the task-loop model when `Run` is never called from inside a task

`CanStep s`: some NON-environment transition is enabled (a statement of taskloop.go can execute, or the
task / callback in progress can return — tasks and callbacks are assumed to terminate).
`progress`: in a state satisfying the invariant in which the loop thread is not blocked in a nested
`Run`, as long as any `Run` or `Close` call is in progress, `CanStep`.  The guards that stand for
"closing a closed channel panics" (`closePriv`, `closeTLD`, `closeDoneCh`) therefore never block.
-/
namespace IceProofs.TaskLoop
open IceModel.TaskLoop

def CanStep (s : State) : Prop := ∃ a, a.isEnv = false ∧ (step s a).isSome = true

def subActive (u : Sub) : Bool :=
  match u.pc with
  | .check | .select | .handedOff => true
  | _ => false

def closerActive (c : Closer) : Bool :=
  match c.pc with
  | .idle | .returned => false
  | _ => true

def notNested : LoopPc → Bool
  | .nested _ _ => false
  | _ => true

theorem loop_can_step {s : State} (h : Inv s) (hn : notNested s.loop = true)
    (hl : s.loop ≠ .exited) (hsel : s.loop = .select → s.done = true) : CanStep s := by
  cases hlp : s.loop with
  | select => exact ⟨.loopDone, rfl, by simp [step, hlp, hsel hlp]⟩
  | got i => exact ⟨.start i, rfl, by simp [step, hlp]⟩
  | running i => exact ⟨.finish i, rfl, by simp [step, hlp]⟩
  | nested i k => simp [hlp, notNested] at hn
  | closePriv i =>
    have hi := h.subs i
    rw [hlp] at hi; simp only [view, if_true, SubOK] at hi
    exact ⟨.closePriv i, rfl, by simp [step, hlp, hi.2.2.2.1]⟩
  | leaving => exact ⟨.onClose, rfl, by simp [step, hlp]⟩
  | inOnClose => exact ⟨.onCloseEnd, rfl, by simp [step, hlp]⟩
  | closeTLD =>
    obtain ⟨_, g2, _⟩ := h.glob
    have : s.tld = false := by
      cases ht : s.tld
      · rfl
      · have := g2.mp ht; rw [hlp] at this; cases this
    exact ⟨.closeTLD, rfl, by simp [step, hlp, this]⟩
  | exited => exact absurd hlp hl

theorem inOnce_can_step {s : State} (h : Inv s) (j : Nat) (hj : inOnce (s.closers j).pc = true) : CanStep s := by
  have hc := h.closers j
  cases hpc : (s.closers j).pc <;> simp [hpc, inOnce] at hj
  · exact ⟨.storeErr j, rfl, by simp [step, hpc]⟩
  · simp only [CloserOK, hpc] at hc
    exact ⟨.closeDoneCh j, rfl, by simp [step, hpc, hc.2.1]⟩
  · cases hp : (s.closers j).hasPre
    · exact ⟨.preStopNil j, rfl, by simp [step, hpc, hp]⟩
    · exact ⟨.preStopRun j, rfl, by simp [step, hpc, hp]⟩
  · exact ⟨.onceExit j, rfl, by simp [step, hpc]⟩

theorem sub_progress {s : State} (h : Inv s) (hn : notNested s.loop = true) (i : Nat)
    (ha : subActive (s.subs i) = true) : CanStep s := by
  have hi := h.subs i
  obtain ⟨g1, g2, _⟩ := h.glob
  cases hpc : (s.subs i).pc <;> simp [subActive, hpc] at ha
  · -- check
    cases hd : s.done
    · exact ⟨.errCheckPass i, rfl, by simp [step, hpc, hd]⟩
    · exact ⟨.errCheckFail i, rfl, by simp [step, hpc, hd]⟩
  · -- select
    cases hd : s.done
    · by_cases hsel : s.loop = .select
      · exact ⟨.handoff i, rfl, by simp [step, hpc, hsel]⟩
      · apply loop_can_step h hn
        · intro he; have := g1 (by rw [he]; rfl); rw [hd] at this; cases this
        · intro e; exact absurd e hsel
    · exact ⟨.selDone i, rfl, by simp [step, hpc, hd]⟩
  · -- handedOff
    cases hpd : (s.subs i).privDone
    · -- the loop still holds the task
      have hv : view s.loop i ≠ .other := by
        intro hv; rw [hv] at hi; simp [SubOK, hpc, hpd] at hi
      apply loop_can_step h hn
      · intro he; rw [he] at hv; simp [view] at hv
      · intro he; rw [he] at hv; simp [view] at hv
    · exact ⟨.wake i, rfl, by simp [step, hpc, hpd]⟩

theorem closer_progress {s : State} (h : Inv s) (hn : notNested s.loop = true) (j : Nat)
    (ha : closerActive (s.closers j) = true) : CanStep s := by
  have hc := h.closers j
  obtain ⟨g1, g2, _, _, g4, _⟩ := h.glob
  cases hpc : (s.closers j).pc <;> simp [closerActive, hpc] at ha
  · -- atOnce
    cases ho : s.once with
    | fresh => exact ⟨.onceWin j, rfl, by simp [step, hpc, ho]⟩
    | finished => exact ⟨.onceSkip j, rfl, by simp [step, hpc, ho]⟩
    | running j' => rw [ho] at g4; exact inOnce_can_step h j' g4
  · exact inOnce_can_step h j (by simp [hpc, inOnce])
  · exact inOnce_can_step h j (by simp [hpc, inOnce])
  · exact inOnce_can_step h j (by simp [hpc, inOnce])
  · exact inOnce_can_step h j (by simp [hpc, inOnce])
  · -- waitTLD
    simp only [CloserOK, hpc] at hc
    rw [hc] at g4
    cases ht : s.tld
    · apply loop_can_step h hn
      · intro he; have := g2.mpr he; rw [ht] at this; cases this
      · intro _; exact g4
    · exact ⟨.waitTLD j, rfl, by simp [step, hpc, ht]⟩

theorem progress {s : State} (h : Inv s) (hn : notNested s.loop = true)
    (hact : (∃ i, subActive (s.subs i) = true) ∨ (∃ j, closerActive (s.closers j) = true)) : CanStep s := by
  rcases hact with ⟨i, hi⟩ | ⟨j, hj⟩
  · exact sub_progress h hn i hi
  · exact closer_progress h hn j hj

/-- Only `callNested` can put the loop thread into a nested `Run`: a `Run` that returns resumes the task that waited for
it, every other action leaves the loop thread where it is or moves it to a location outside a nested call. -/
theorem notNested_step {s s' : State} (a : Action) (as : List Action) (hs : step s a = some s')
    (ha : noReentry (a :: as) = true) (hn : notNested s.loop = true) :
    notNested s'.loop = true ∧ noReentry as = true := by
  have hres : ∀ k, notNested (resume s.loop k) = true := by
    intro k; rcases resume_cases s.loop k with e | ⟨i, _, e2⟩
    · rw [e]; exact hn
    · rw [e2]; rfl
  cases a with
  | callNested i k => cases ha
  | cancel i => cases hs; exact ⟨hn, ha⟩
  | errCheckFail i | selCtx i | selDone i | wake i =>
    dsimp only [step] at hs; split at hs <;> cases hs; exact ⟨hres i, ha⟩
  | handoff i | loopDone | start i | finish i | closePriv i | onClose | onCloseEnd | closeTLD =>
    dsimp only [step] at hs; split at hs <;> cases hs; exact ⟨rfl, ha⟩
  | _ => dsimp only [step] at hs; split at hs <;> cases hs; exact ⟨hn, ha⟩

theorem notNested_run {s s' : State} (as : List Action) (hs : run s as = some s')
    (ha : noReentry as = true) (hn : notNested s.loop = true) : notNested s'.loop = true := by
  have h := isRun.exec hs; clear hs
  induction h with
  | nil => exact hn
  | cons h1 _ ih => obtain ⟨hn1, ha1⟩ := notNested_step _ _ h1 ha hn; exact ih ha1 hn1

end IceProofs.TaskLoop

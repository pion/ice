import IceProofs.AgentC05Frame
import IceProofs.AgentC20Accept
import IceProofs.AgentRules
/-!
# `handleInbound` on authenticated Binding requests: normal form, source resolution, role conflict

Lemmas about `IceModel.AgentCore` only.
-/
namespace IceProofs.Agent
open IceModel.AgentCore

theorem handleInbound_request (a : Agent) (now : Nat) (l : Cand) (src : Nat) (m : Msg) (h : AuthRequest a m) :
    a.handleInbound now l src m =
      match resolveSource a l src m with
      | (a1, o0, none) => (a1, o0)
      | (a1, o0, some r) => afterResolve a1 now l m o0 r := by
  obtain ⟨hm, hc, hu, hk⟩ := h
  rw [handleInbound_stages]
  simp only [hm, hc, hu, hk, bne_self_eq_false, Bool.false_eq_true, if_false]
  rcases resolveSource a l src m with ⟨a1, o0, rc⟩
  cases rc <;> rfl

/-- everything of an agent except the checklist, the remote list and the counters/flag that go with
adding candidates and pairs -/
def stripPairs (a : Agent) : Agent :=
  { a with checklist := [], nextPairID := 0, forcePending := false, remotes := [], nextUid := 0 }

/-- a pair as `addPair` creates it: Waiting, not nominated, no deferred nomination, all counters zero -/
def FreshPair (p : Pair) : Prop := p = { id := p.id, l := p.l, r := p.r, controlling := p.controlling }

/-- `a1` is `a` after (possibly) discovering a peer-reflexive remote candidate: apart from an appended
remote candidate and appended fresh pairs (and `forcePending`, id counters) nothing differs. -/
structure Discovered (a a1 : Agent) : Prop where
  rest : stripPairs a1 = stripPairs a
  remotes : ∃ new, a1.remotes = a.remotes ++ new
  pairs : ∃ extra, a1.checklist = a.checklist ++ extra ∧ ∀ p ∈ extra, FreshPair p

theorem Discovered.refl (a : Agent) : Discovered a a :=
  ⟨rfl, ⟨[], by simp⟩, ⟨[], by simp⟩⟩

theorem addRemoteCandidate_prflx (a : Agent) (c : Cand) (hty : c.ty = 3) :
    Discovered a (a.addRemoteCandidate c).1 ∧ (a.addRemoteCandidate c).2.1 = [] := by
  unfold Agent.addRemoteCandidate
  split
  · exact ⟨Discovered.refl a, rfl⟩
  split
  · exact ⟨Discovered.refl a, rfl⟩
  simp only [hty]
  simp only [beq_self_eq_true, if_true, List.foldl_nil, List.any_nil, Bool.not_false]
  have hft : ∀ l : List Cand, l.filter (fun _ => true) = l := by intro l; simp
  rw [hft]
  refine ⟨?_, by first | rfl | trivial⟩
  refine IceProofs.List.foldl_inv (fun b : Agent => Discovered a b.requestCheck) _ _ _ ?_ ?_
  · exact ⟨rfl, ⟨_, rfl⟩, ⟨[], by simp [Agent.requestCheck]⟩⟩
  · intro b l h
    split
    · exact h
    · obtain ⟨h1, h2, extra, h3, h4⟩ := h
      refine ⟨h1, h2, extra ++ [{ id := b.nextPairID + 1, l := l.uid, r := a.nextUid, controlling := b.controlling }], ?_, ?_⟩
      · simp only [Agent.requestCheck] at h3
        simp [Agent.addPair, Agent.requestCheck, h3]
      · intro p hp
        simp only [List.mem_append, List.mem_singleton] at hp
        rcases hp with hp | hp
        · exact h4 p hp
        · subst hp; rfl

theorem resolveSource_discovered (a : Agent) (l : Cand) (src : Nat) (m : Msg) :
    Discovered a (resolveSource a l src m).1 ∧ (resolveSource a l src m).2.1 = [] := by
  unfold resolveSource
  split
  · exact ⟨Discovered.refl a, rfl⟩
  · exact addRemoteCandidate_prflx a _ rfl

@[simp] theorem core_resolveSource (a : Agent) (l : Cand) (src : Nat) (m : Msg) :
    (resolveSource a l src m).1.core = a.core := by
  unfold resolveSource
  split <;> simp

theorem Discovered.selected {a a1 : Agent} (h : Discovered a a1) : a1.selected = a.selected :=
  (congrArg Agent.selected h.rest : (stripPairs a1).selected = (stripPairs a).selected)
theorem Discovered.connState {a a1 : Agent} (h : Discovered a a1) : a1.connState = a.connState :=
  (congrArg Agent.connState h.rest : (stripPairs a1).connState = (stripPairs a).connState)
theorem Discovered.pending {a a1 : Agent} (h : Discovered a a1) : a1.pending = a.pending :=
  (congrArg Agent.pending h.rest : (stripPairs a1).pending = (stripPairs a).pending)
theorem Discovered.locals {a a1 : Agent} (h : Discovered a a1) : a1.locals = a.locals :=
  (congrArg Agent.locals h.rest : (stripPairs a1).locals = (stripPairs a).locals)
theorem Discovered.nominatedPair {a a1 : Agent} (h : Discovered a a1) : a1.nominatedPair = a.nominatedPair :=
  (congrArg Agent.nominatedPair h.rest : (stripPairs a1).nominatedPair = (stripPairs a).nominatedPair)
theorem Discovered.core {a a1 : Agent} (h : Discovered a a1) : a1.core = a.core := by
  have := congrArg Agent.core h.rest
  exact this

@[simp] theorem core_cldNominate (a : Agent) (m : Msg) (id : Nat) : (cldNominate a m id).1.core = a.core :=
  core_of_kept (kept_cldNominate a m id)

@[simp] theorem core_cldProceed (a : Agent) (now : Nat) (m : Msg) (l r : Cand) (id : Nat) :
    (cldProceed a now m l r id).1.core = a.core := core_of_kept (kept_cldProceed a now m l r id)

@[simp] theorem core_ensurePair (a : Agent) (l r : Cand) : (ensurePair a l r).1.core = a.core :=
  core_of_kept (kept_ensurePair a l r)

theorem core_setLastNomination (a : Agent) (x : Option Nat) :
    ({ a with lastNomination := x }).core = { a.core with lastNomination := x } := rfl

theorem core_cldHandleRequest (a : Agent) (now : Nat) (m : Msg) (l r : Cand) :
    (a.cldHandleRequest now m l r).1.core
      = { a.core with lastNomination := (shouldAcceptNomination m.nom a.lastNomination).1 } := by
  rw [cldHandleRequest_nf]
  simp only []
  generalize hA : (ensurePair a l r).1.modPair (ensurePair a l r).2.id (countReq m) = a1
  have hc : a1.core = a.core := by rw [← hA]; simp
  have hl : a1.lastNomination = a.lastNomination := congrArg Core.lastNomination hc
  rw [hl]
  split
  · rename_i h
    have hacc : (shouldAcceptNomination m.nom a.lastNomination).2 = false := by
      cases hx : (shouldAcceptNomination m.nom a.lastNomination).2 <;> simp [hx] at h ⊢
    rw [reject_fst _ _ hacc, core_sendSuccess, hc]
    rfl
  · rw [core_cldProceed]
    exact (core_setLastNomination a1 _).trans (by rw [hc])

/-- an authenticated request whose source resolves (known remote, or accepted peer-reflexive discovery) -/
def reachesSelector (a : Agent) (l : Cand) (src : Nat) (m : Msg) : Bool :=
  decide (AuthRequest a m) && (resolveSource a l src m).2.2.isSome

/-- … that is a role conflict the receiver loses (it switches role) -/
def conflictSwitch (a : Agent) (l : Cand) (src : Nat) (m : Msg) : Bool :=
  reachesSelector a l src m &&
    match roleConflict a m with
    | some tb => !roleConflictKeeps a.controlling a.tieBreaker tb
    | none => false

/-- … that is not a role conflict and is handled by the controlled selector -/
def cldDelivers (a : Agent) (l : Cand) (src : Nat) (m : Msg) : Bool :=
  reachesSelector a l src m && !a.controlling && (roleConflict a m).isNone

theorem core_afterResolve (a1 : Agent) (now : Nat) (l : Cand) (m : Msg) (o0 : List Out) (r : Cand) :
    (afterResolve a1 now l m o0 r).1.core =
      match roleConflict a1 m with
      | some tb =>
        if roleConflictKeeps a1.controlling a1.tieBreaker tb then a1.core
        else { a1.core with controlling := !a1.controlling, lastNomination := none }
      | none =>
        if a1.controlling then a1.core
        else { a1.core with lastNomination := (shouldAcceptNomination m.nom a1.lastNomination).1 } := by
  unfold afterResolve toSelector roleConflict
  cases hr : m.role with
  | none =>
    simp only []
    cases hc : a1.controlling <;> simp [core_cldHandleRequest, hc]
  | some ct =>
    obtain ⟨ctl, tb⟩ := ct
    simp only []
    by_cases hcc : (ctl == a1.controlling) = true
    · simp only [hcc, if_true]
      split <;> simp
    · simp only [hcc]
      cases hc : a1.controlling <;> simp [core_cldHandleRequest, hc]

theorem core_handleInbound_unauth (a : Agent) (now : Nat) (l : Cand) (src : Nat) (m : Msg) (h : ¬ AuthRequest a m) :
    (a.handleInbound now l src m).1.core = a.core :=
  handleInbound_unauth_kept Kept.core (fun _ _ => rfl) a now l src m h

theorem roleConflict_congr {a a1 : Agent} (h : a1.core = a.core) (m : Msg) : roleConflict a1 m = roleConflict a m := by
  have hc : a1.controlling = a.controlling := congrArg Core.controlling h
  unfold roleConflict
  rw [hc]

theorem core_handleInbound (a : Agent) (now : Nat) (l : Cand) (src : Nat) (m : Msg) :
    (a.handleInbound now l src m).1.core =
      if conflictSwitch a l src m then { a.core with controlling := !a.controlling, lastNomination := none }
      else if cldDelivers a l src m then
        { a.core with lastNomination := (shouldAcceptNomination m.nom a.lastNomination).1 }
      else a.core := by
  by_cases h : AuthRequest a m
  · rw [handleInbound_request a now l src m h]
    have hcr := core_resolveSource a l src m
    unfold conflictSwitch cldDelivers reachesSelector
    rcases hres : resolveSource a l src m with ⟨a1, o0, rc⟩
    rw [hres] at hcr
    simp only at hcr
    cases rc with
    | none => simp [hcr]
    | some r =>
      simp only [core_afterResolve, roleConflict_congr hcr]
      have hctl : a1.controlling = a.controlling := congrArg Core.controlling hcr
      have htb : a1.tieBreaker = a.tieBreaker := congrArg Core.tieBreaker hcr
      have hln : a1.lastNomination = a.lastNomination := congrArg Core.lastNomination hcr
      rw [hctl, htb, hln, hcr]
      cases hrc : roleConflict a m with
      | none => cases hc : a.controlling <;> simp [h]
      | some tb => cases hk : roleConflictKeeps a.controlling a.tieBreaker tb <;> simp [h, hk]
  · rw [core_handleInbound_unauth a now l src m h]
    simp [conflictSwitch, cldDelivers, reachesSelector, h]

theorem addRemoteCandidate_cases (a : Agent) (c : Cand) :
    a.addRemoteCandidate c = (a, [], none) ∨ (a.addRemoteCandidate c).2.2.isSome = true := by
  unfold Agent.addRemoteCandidate
  split
  · left; rfl
  · right
    split <;> rfl

theorem addRemoteCandidate_none (a : Agent) (c : Cand) (h : (a.addRemoteCandidate c).2.2 = none) :
    a.addRemoteCandidate c = (a, [], none) := by
  rcases addRemoteCandidate_cases a c with h1 | h1
  · exact h1
  · rw [h] at h1; simp at h1

theorem resolveSource_none (a : Agent) (l : Cand) (src : Nat) (m : Msg) (h : (resolveSource a l src m).2.2 = none) :
    resolveSource a l src m = (a, [], none) := by
  unfold resolveSource at h ⊢
  split
  · rename_i r hr; simp [hr] at h
  · rename_i hr
    simp only [hr] at h
    exact addRemoteCandidate_none a _ h

theorem handleInbound_unresolved (a : Agent) (now : Nat) (l : Cand) (src : Nat) (m : Msg) (h : AuthRequest a m)
    (hres : (resolveSource a l src m).2.2 = none) : a.handleInbound now l src m = (a, []) := by
  rw [handleInbound_request a now l src m h, resolveSource_none a l src m hres]

/-- An authenticated request carrying the receiver's own role, from a source that resolves to `r` in state `a1`
(`a1 = a` for a known remote; `a` plus the discovered peer-reflexive candidate and its fresh pairs otherwise):
either the role is kept, one 487 keyed with the local password is sent and only the local candidate's
last-sent time moves; or the role flips, the selector is reset, and nothing is sent. -/
theorem handleInbound_conflict (a : Agent) (now : Nat) (l : Cand) (src : Nat) (m : Msg) (tb : Nat)
    (h : AuthRequest a m) (hrole : m.role = some (a.controlling, tb))
    {a1 : Agent} {o0 : List Out} {r : Cand} (hres : resolveSource a l src m = (a1, o0, some r)) :
    a.handleInbound now l src m =
      if roleConflictKeeps a.controlling a.tieBreaker tb then
        (a1.seenLocalSent l.uid now,
          [.dgram l.addr r.addr { cls := 3, tid := m.tid, key := some a.localPwd, errCode := some 487 }])
      else
        ({ a1 with controlling := !a.controlling, selStart := now, nominatedPair := none, lastNomination := none,
                   answeredNomination := none }, []) := by
  rw [handleInbound_request a now l src m h, hres]
  have hcr := core_resolveSource a l src m
  have ho := (resolveSource_discovered a l src m).2
  rw [hres] at hcr ho
  simp only at hcr ho
  have hctl : a1.controlling = a.controlling := congrArg Core.controlling hcr
  have htb : a1.tieBreaker = a.tieBreaker := congrArg Core.tieBreaker hcr
  have hpw : a1.localPwd = a.localPwd := congrArg Core.localPwd hcr
  subst ho
  simp only [afterResolve, hrole, hctl, htb, hpw, beq_self_eq_true, if_true, List.nil_append]
  split <;> rfl

theorem core_quiet (a : Agent) (e : Ev) (he : ¬mayOf e .accept ∧ ¬mayOf e .role ∧ ¬mayOf e .session) :
    (step a e).1.core = a.core :=
  kept_chain Kept.core (cx := .step e a) (fun k h => by
    cases k
    case accept => exact absurd h he.1
    case role => exact absurd h he.2.1
    case session => exact absurd h he.2.2
    all_goals first | trivial | exact fun _ _ _ _ => rfl | exact fun _ _ => rfl) (step_chain a e)

def run (a : Agent) : List Ev → Agent
  | [] => a
  | e :: es => run (step a e).1 es

theorem run_append (a : Agent) (xs ys : List Ev) : run a (xs ++ ys) = run (run a xs) ys := by
  induction xs generalizing a with
  | nil => rfl
  | cons x xs ih => exact ih _

/-- `.start` that is not refused (first start of an open agent with non-empty remote credentials) -/
def startTakesEffect (a : Agent) : Ev → Bool
  | .start _ _ ru rp => !(a.closed || a.started || ru == "" || rp == "")
  | _ => false

/-- `.restart` that is not refused -/
def restartTakesEffect (a : Agent) : Ev → Bool
  | .restart _ _ _ => !a.closed
  | _ => false

/-- the event is an inbound STUN message that reaches `handleInbound` on local candidate `l` -/
def inboundOn (a : Agent) : Ev → Option (Nat × Cand × Nat × Msg)
  | .inbound now la src m =>
    if a.closed || !a.started then none else (a.localByAddr la).map fun l => (now, l, src, m)
  | _ => none

theorem inboundOn_iff (a : Agent) (e : Ev) (now : Nat) (l : Cand) (src : Nat) (m : Msg) :
    inboundOn a e = some (now, l, src, m) ↔
      ∃ la, e = .inbound now la src m ∧ a.closed = false ∧ a.started = true ∧ a.localByAddr la = some l := by
  cases e with
  | inbound now' la src' m' =>
    have hin : inboundOn a (.inbound now' la src' m')
        = if a.closed || !a.started then none else (a.localByAddr la).map fun l => (now', l, src', m') := rfl
    rw [hin]
    constructor
    · intro h
      split at h
      · cases h
      · rename_i hc
        simp only [Bool.or_eq_true, Bool.not_eq_true', not_or, Bool.not_eq_true, Bool.not_eq_false] at hc
        simp only [Option.map_eq_some_iff] at h
        obtain ⟨l', hl', heq⟩ := h
        simp only [Prod.mk.injEq] at heq
        obtain ⟨rfl, rfl, rfl, rfl⟩ := heq
        exact ⟨la, rfl, hc.1, hc.2, hl'⟩
    · rintro ⟨la', heq, hc, hs, hl⟩
      simp only [Ev.inbound.injEq] at heq
      obtain ⟨rfl, rfl, rfl, rfl⟩ := heq
      simp [hc, hs, hl]
  | _ =>
    constructor
    · intro h; cases h
    · rintro ⟨la, heq, _⟩; cases heq

/-- the event is a role conflict the agent loses: an authenticated request with the agent's own role, from a
source that resolves, with tie-breakers that make the receiver switch -/
def conflictSwitchEv (a : Agent) (ev : Ev) : Bool :=
  match inboundOn a ev with
  | some (_, l, src, m) => conflictSwitch a l src m
  | none => false

/-- the event hands a request to the controlled selector -/
def cldDeliversEv (a : Agent) (ev : Ev) : Option Msg :=
  match inboundOn a ev with
  | some (_, l, src, m) => if cldDelivers a l src m then some m else none
  | none => none

/-- the events that install a fresh selector (`lastNomination := none`) -/
def resetsSelector (a : Agent) (ev : Ev) : Bool :=
  startTakesEffect a ev || restartTakesEffect a ev || conflictSwitchEv a ev

theorem conflictSwitchEv_none {a : Agent} {ev : Ev} (h : inboundOn a ev = none) : conflictSwitchEv a ev = false := by
  unfold conflictSwitchEv; rw [h]

theorem conflictSwitchEv_some {a : Agent} {ev : Ev} {now : Nat} {l : Cand} {src : Nat} {m : Msg}
    (h : inboundOn a ev = some (now, l, src, m)) : conflictSwitchEv a ev = conflictSwitch a l src m := by
  unfold conflictSwitchEv; rw [h]

theorem cldDeliversEv_none {a : Agent} {ev : Ev} (h : inboundOn a ev = none) : cldDeliversEv a ev = none := by
  unfold cldDeliversEv; rw [h]

theorem cldDeliversEv_some {a : Agent} {ev : Ev} {now : Nat} {l : Cand} {src : Nat} {m : Msg}
    (h : inboundOn a ev = some (now, l, src, m)) :
    cldDeliversEv a ev = if cldDelivers a l src m then some m else none := by
  unfold cldDeliversEv; rw [h]

theorem conflictSwitch_not_cldDelivers (a : Agent) (l : Cand) (src : Nat) (m : Msg)
    (h : conflictSwitch a l src m = true) : cldDelivers a l src m = false := by
  unfold conflictSwitch at h
  unfold cldDelivers
  cases hr : roleConflict a m with
  | none => simp [hr] at h
  | some tb => simp

theorem roleConflict_eq_some (a : Agent) (m : Msg) (tb : Nat) :
    roleConflict a m = some tb ↔ m.role = some (a.controlling, tb) := by
  unfold roleConflict
  cases hr : m.role with
  | none => simp
  | some ct =>
    obtain ⟨ctl, t⟩ := ct
    by_cases hc : ctl = a.controlling
    · subst hc; simp
    · have : (ctl == a.controlling) = false := by simpa using hc
      simp [this, hc]

theorem roleConflict_eq_none (a : Agent) (m : Msg) :
    roleConflict a m = none ↔ ∀ tb, m.role ≠ some (a.controlling, tb) := by
  constructor
  · intro h tb hr
    rw [(roleConflict_eq_some a m tb).2 hr] at h
    cases h
  · intro h
    cases hrc : roleConflict a m with
    | none => rfl
    | some tb => exact absurd ((roleConflict_eq_some a m tb).1 hrc) (h tb)

theorem conflictSwitch_iff (a : Agent) (l : Cand) (src : Nat) (m : Msg) :
    conflictSwitch a l src m = true ↔
      AuthRequest a m ∧ (resolveSource a l src m).2.2.isSome = true ∧
      ∃ tb, m.role = some (a.controlling, tb) ∧ roleConflictKeeps a.controlling a.tieBreaker tb = false := by
  unfold conflictSwitch reachesSelector
  cases hrc : roleConflict a m with
  | none =>
    have := (roleConflict_eq_none a m).1 hrc
    simp
    intro _ _ tb htb
    exact absurd htb (this tb)
  | some tb =>
    have h1 := (roleConflict_eq_some a m tb).1 hrc
    simp only [Bool.and_eq_true, decide_eq_true_eq, Bool.not_eq_true']
    constructor
    · rintro ⟨⟨ha, hs⟩, hk⟩
      exact ⟨ha, hs, tb, h1, hk⟩
    · rintro ⟨ha, hs, tb', h2, hk⟩
      rw [h1] at h2
      have : tb = tb' := by simpa using h2
      subst this
      exact ⟨⟨ha, hs⟩, hk⟩

theorem cldDelivers_iff (a : Agent) (l : Cand) (src : Nat) (m : Msg) :
    cldDelivers a l src m = true ↔
      AuthRequest a m ∧ (resolveSource a l src m).2.2.isSome = true ∧ a.controlling = false ∧
      ∀ tb, m.role ≠ some (a.controlling, tb) := by
  unfold cldDelivers reachesSelector
  rw [← roleConflict_eq_none]
  cases hrc : roleConflict a m <;> simp [and_assoc]

/-- **The writers of the projection in `step`**, each with the test that decides it: nothing is written (`same`), or an
effective Start, `SetRemoteCredentials`, an effective Restart, Close, a lost role conflict, a request handed to the
controlled selector. -/
inductive CoreStep (a : Agent) (ev : Ev) (c : Core) : Prop
  | same (hr : resetsSelector a ev = false) (hd : cldDeliversEv a ev = none) (hc : c = a.core)
  | start (now : Nat) (ctl : Bool) (ru rp : String) (he : ev = .start now ctl ru rp) (h : startTakesEffect a ev = true)
      (hc : c = { a.core with controlling := ctl, lastNomination := none, remoteUfrag := ru, remotePwd := rp,
                              started := true })
  | creds (ru rp : String) (he : ev = .setRemoteCreds ru rp) (hc : c = { a.core with remoteUfrag := ru, remotePwd := rp })
  | restart (now : Nat) (u p : String) (he : ev = .restart now u p) (h : a.closed = false)
      (hc : c = { a.core with lastNomination := none, localUfrag := u, localPwd := p, remoteUfrag := "", remotePwd := "" })
  | close (he : ev = .close) (hc : c = { a.core with closed := true })
  | switch (he : ∃ now la src m, ev = .inbound now la src m) (h : conflictSwitchEv a ev = true)
      (hc : c = { a.core with controlling := !a.controlling, lastNomination := none })
  | deliver (m : Msg) (he : ∃ now la src, ev = .inbound now la src m) (hs : conflictSwitchEv a ev = false)
      (hd : cldDeliversEv a ev = some m)
      (hc : c = { a.core with lastNomination := (shouldAcceptNomination m.nom a.lastNomination).1 })

theorem core_step (a : Agent) (ev : Ev) : CoreStep a ev (step a ev).1.core := by
  cases ev with
  | addLocal | addRemote | advance | inboundData | write | writeToPair | read | renominate =>
    exact .same rfl rfl (core_quiet a _ (by simp [mayOf]))
  | start now c ru rp =>
    have hr : resetsSelector a (.start now c ru rp) = !(a.closed || a.started || ru == "" || rp == "") := by
      simp [resetsSelector, startTakesEffect, restartTakesEffect, conflictSwitchEv, inboundOn]
    simp only [step]
    by_cases h1 : a.closed = true
    · exact .same (by simp [hr, h1]) rfl (by simp [h1])
    by_cases h2 : a.started = true
    · exact .same (by simp [hr, h2]) rfl (by simp [h1, h2])
    by_cases h3 : (ru == "") = true
    · exact .same (by simp [hr, h3]) rfl (by simp [h1, h2, h3])
    by_cases h4 : (rp == "") = true
    · exact .same (by simp [hr, h4]) rfl (by simp [h1, h2, h3, h4])
    exact .start now c ru rp rfl (by simp [startTakesEffect, h1, h2, h3, h4]) (by simp [h1, h2, h3, h4])
  | setRemoteCreds ru rp =>
    simp only [step]
    split
    · exact .same rfl rfl rfl
    split
    · exact .same rfl rfl rfl
    split
    · exact .same rfl rfl rfl
    · exact .creds ru rp rfl rfl
  | restart now u p =>
    simp only [step]
    split
    · rename_i h; exact .same (by simp [resetsSelector, startTakesEffect, restartTakesEffect, conflictSwitchEv, inboundOn, h]) rfl rfl
    · rename_i h; exact .restart now u p rfl (by simpa using h) (core_doRestart a now u p)
  | close =>
    refine .close rfl ?_
    simp only [step]
    split
    · rename_i h; simp [Agent.core, h]
    · simp
  | inbound now la src m =>
    have hrs : resetsSelector a (.inbound now la src m) = conflictSwitchEv a (.inbound now la src m) := rfl
    simp only [step]
    split
    · rename_i h1
      have hin : inboundOn a (.inbound now la src m) = none := by simp only [inboundOn, if_pos h1]
      exact .same (hrs.trans (conflictSwitchEv_none hin)) (cldDeliversEv_none hin) rfl
    rename_i h1
    split
    · rename_i hl
      have hin : inboundOn a (.inbound now la src m) = none := by simp only [inboundOn, if_neg h1, hl, Option.map_none]
      exact .same (hrs.trans (conflictSwitchEv_none hin)) (cldDeliversEv_none hin) rfl
    rename_i l hl
    have hin : inboundOn a (.inbound now la src m) = some (now, l, src, m) := by
      simp only [inboundOn, if_neg h1, hl, Option.map_some]
    have hsw := conflictSwitchEv_some hin
    have hdl := cldDeliversEv_some hin
    -- the forced tick after the handler writes nothing of the projection
    refine (core_runForced _ now).symm ▸ ?_
    rw [core_handleInbound]
    by_cases hs : conflictSwitch a l src m = true
    · rw [if_pos hs]; exact .switch ⟨now, la, src, m, rfl⟩ (hsw.trans hs) rfl
    have hs' : conflictSwitch a l src m = false := by simpa using hs
    rw [if_neg hs]
    by_cases hd : cldDelivers a l src m = true
    · rw [if_pos hd]; exact .deliver m ⟨now, la, src, rfl⟩ (hsw.trans hs') (hdl.trans (if_pos hd)) rfl
    · rw [if_neg hd]; exact .same (hrs.trans (hsw.trans hs')) (hdl.trans (if_neg hd)) rfl

theorem step_controlling (a : Agent) (ev : Ev) :
    (step a ev).1.controlling =
      match ev with
      | .start _ c _ _ => if startTakesEffect a ev then c else a.controlling
      | _ => if conflictSwitchEv a ev then !a.controlling else a.controlling := by
  rw [← core_controlling (step a ev).1]
  cases core_step a ev with
  | same hr hd hc =>
    simp only [resetsSelector, Bool.or_eq_false_iff] at hr
    rw [hc]; cases ev <;> simp [hr.1.1, hr.2]
  | start _ _ _ _ he h hc => subst he; rw [hc]; simp [h]
  | restart _ _ _ he h hc => subst he; rw [hc]; rfl
  | creds _ _ he hc => subst he; rw [hc]; rfl
  | close he hc => subst he; rw [hc]; rfl
  | switch he h hc => obtain ⟨_, _, _, _, rfl⟩ := he; rw [hc]; simp [h]
  | deliver _ he hs _ hc => obtain ⟨_, _, _, rfl⟩ := he; rw [hc]; simp [hs]

theorem step_constants (a : Agent) (ev : Ev) :
    (step a ev).1.tieBreaker = a.tieBreaker ∧ (step a ev).1.cfg = a.cfg ∧ (step a ev).1.tag = a.tag := by
  rw [← core_tieBreaker (step a ev).1, ← core_cfg (step a ev).1, ← core_tag (step a ev).1]
  cases core_step a ev <;> (rename_i hc; rw [hc]; exact ⟨rfl, rfl, rfl⟩)

end IceProofs.Agent

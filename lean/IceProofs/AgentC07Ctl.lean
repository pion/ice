import IceProofs.AgentC07Frame
import IceProofs.AgentMoves
/-!
# C07 frame across the control plane: timer ticks, selectors, STUN handlers

A move that does not belong to the listing of remote candidates only moves timestamps of candidates and control fields
of pairs (never the four data counters), appends a pair of two listed candidates with a fresh id, or wipes — unless it
lists a local candidate, closes the agent or belongs to the data plane: what a move `Does` (`fr_move`).  Hence `Fr a r.1`
for every chain of moves without the three exceptions (`fr_chain`): the tick (`fr_idle`) and the handlers of a STUN
message whose source is known (`fr_sel`).  The part `Fr0` of the frame, which does not speak of candidates, holds of every
move outside the data plane (`fr0_move`).
-/
namespace IceProofs.AgentC07
open IceModel.AgentCore IceProofs.Agent

macro "fr_same" : tactic => `(tactic| exact Fr.of_fields rfl rfl rfl rfl rfl rfl rfl rfl rfl rfl)
macro "fr_mod" : tactic => `(tactic| exact Fr.modPair _ _ _ (fun _ => ⟨rfl, rfl, rfl, Or.inl rfl⟩))

theorem Fr_setConnState (a : Agent) (s : ConnState) : Fr a (a.setConnState s).1 := by
  unfold Agent.setConnState
  split
  · exact Fr.refl a
  · split
    · exact (Fr.wipe a).trans (by fr_same)
    · fr_same

theorem Fr_select (a : Agent) (id : Nat) : Fr a (a.select id).1 := by
  rw [select_update]
  exact Fr.trans (b := a.modPair id fun p => { p with nominated := true }) (by fr_mod) (by fr_same)

theorem Fr_invalidatePending (a : Agent) (now : Nat) : Fr a (a.invalidatePending now) := by fr_same

theorem Fr_sendRequest (a : Agent) (now : Nat) (l r : Cand) (uc : Bool) (nom : Option Nat) :
    Fr a (a.sendRequest now l r uc nom).1 := by
  unfold Agent.sendRequest
  dsimp only
  refine Fr.trans ?_ (Fr.seenLocalSent _ _ _)
  have h2 : Fr a { (a.invalidatePending now) with
      nextTid := (a.invalidatePending now).nextTid + 1,
      pending := (a.invalidatePending now).pending ++
        [{ tid := 2 * a.nextTid + a.tag, src := l.addr, dest := r.addr, net := r.net, useCand := uc, nom := nom, ts := now }] } := by
    fr_same
  split
  · exact h2.trans (by fr_mod)
  · exact h2

theorem foldl_Fr' {α : Type} (f : Agent → α → Agent) (xs : List α)
    (hf : ∀ a x, Fr a (f a x)) (a : Agent) : Fr a (xs.foldl f a) := by
  induction xs generalizing a with
  | nil => exact Fr.refl _
  | cons x xs ih => exact (hf a x).trans (ih _)

theorem Fr_doRestart (a : Agent) (now : Nat) (u p : String) : Fr a (a.doRestart now u p).1 := by
  unfold Agent.doRestart
  dsimp only
  generalize h0 : ({ a with localUfrag := u, localPwd := p, remoteUfrag := "", remotePwd := "" } : Agent) = a0
  have e0 : Fr a a0 := by subst h0; fr_same
  have h : Fr a { (a0.wipe.resetSelector now) with generation := (a0.wipe.resetSelector now).generation + 1 } :=
    e0.trans ((Fr.wipe a0).trans (by fr_same))
  split
  · exact h.trans (Fr_setConnState _ _)
  · exact h

/-- contexts where no remote candidate is listed and helpers are called as `step` calls them -/
structure Ctl (cx : Ctx) : Prop where
  remotes : ¬cx.may .remotes
  strict : cx.strict

/-- What a move does, as far as the data plane and its invariant can see: it frames the data plane, lists a local
candidate, closes the agent — or belongs to the data plane and moves the counters of a pair, the reader queue and the byte
counters of the connection, or caches a source validated for the first time. -/
inductive Does (cx : Ctx) (a : Agent) : Agent → Prop
  | frames {b : Agent} : Fr a b → Does cx a b
  | lists (c : Cand) : cx.may .locals → a.closed = false →
      Does cx a { a with nextUid := a.nextUid + 1, locals := a.locals ++ [{ c with uid := a.nextUid }] }
  | closes : cx.may .session → Does cx a { a with locals := [], remotes := [], caches := [], closed := true }
  | counts (id : Nat) (f : Pair → Pair) : cx.may .data → (∀ p, (f p).id = p.id ∧ (f p).l = p.l ∧ (f p).r = p.r) →
      Does cx a (a.modPair id f)
  | queues (b : Agent) : cx.may .data → (b.locals, b.remotes, b.caches, b.nextUid, b.checklist, b.nextPairID, b.closed) =
      (a.locals, a.remotes, a.caches, a.nextUid, a.checklist, a.nextPairID, a.closed) → Does cx a b
  | caches (l r : Cand) (src : Nat) : cx.may .data → a.findRemote l.net src = some r → l ∈ a.locals →
      Does cx a { a with caches := a.caches ++ [(l.uid, src, r.uid)] }

variable {cx : Ctx}

theorem uid_of_listed {cs : List Cand} {c : Cand} (h : Listed cs c) : c.uid ∈ cs.map (·.uid) :=
  let ⟨d, hd, hb⟩ := h
  List.mem_map.mpr ⟨d, hd, congrArg (·.uid) hb⟩

theorem fr_move (C : Ctl cx) {a : Agent} {r : Agent × List Out} (h : Move cx a r) : Does cx a r.1 := by
  cases h with
  | newLocal c _ hc hl => exact .lists c hl hc
  | close h => exact .closes h
  | pair id f hf =>
    cases hf with
    | retarget _ _ _ h => exact absurd h C.remotes
    | sent _ h => exact .counts id _ h fun _ => ⟨rfl, rfl, rfl⟩
    | received _ h => exact .counts id _ h fun _ => ⟨rfl, rfl, rfl⟩
    | _ => exact .frames (by fr_mod)
  | addPair l r hp =>
    have hp := hp C.strict
    exact .frames (Fr.addPair a l r (uid_of_listed hp.loc) (hp.rem.elim uid_of_listed fun h => absurd h.1 C.remotes))
  | failed => exact .frames ((Fr.wipe a).trans (by fr_same))
  | select id => exact .frames (Fr_select a id)
  | request now l r uc => exact .frames (Fr_sendRequest a now l r uc none)
  | issue now l r v => exact .frames ((Fr_sendRequest a now l r true _).trans (by fr_same))
  | seenLocalSent uid now => exact .frames (Fr.seenLocalSent a uid now)
  | seenRemoteRecv uid now => exact .frames (Fr.seenRemoteRecv a uid now)
  | restart now x p => exact .frames (Fr_doRestart a now x p)
  | newRemote _ _ h => exact absurd h C.remotes
  | dropRemotes _ h => exact absurd h C.remotes
  | recache _ _ h => exact absurd h C.remotes
  | cache l r src hf hl h => exact .caches l r src h hf (hl C.strict)
  | bytesSent _ h => exact .queues _ h rfl
  | queue _ h => exact .queues _ h rfl
  | read _ _ h => exact .queues _ h rfl
  | _ => exact .frames (by fr_same)

theorem fr_chain (C : Ctl cx) (hl : ¬cx.may .locals) (hs : ¬cx.may .session) (hd : ¬cx.may .data) {a : Agent}
    {r : Agent × List Out} (h : Chain cx a r) : Fr a r.1 := by
  refine Chain.ind (R := fun a r => Fr a r.1) Fr.refl (fun a r m => ?_) Fr.trans h
  obtain ⟨b, o⟩ := r
  have d : Does cx a b := fr_move C m
  cases d with
  | frames f => exact f
  | lists _ h => exact absurd h hl
  | closes h => exact absurd h hs
  | counts _ _ h => exact absurd h hd
  | queues _ h => exact absurd h hd
  | caches _ _ _ h => exact absurd h hd

theorem fr_idle {a : Agent} {r : Agent × List Out} (h : Chain .idle a r) : Fr a r.1 :=
  fr_chain (cx := .idle) ⟨by decide, trivial⟩ (by decide) (by decide) (by decide) h

/-- the kinds of moves that frame the data plane -/
abbrev framing (k : Kind) : Prop := k ≠ .data ∧ k ≠ .remotes ∧ k ≠ .locals ∧ k ≠ .session

/-- a STUN message from a known source is handled, by helpers called with candidates that are listed -/
@[reducible] def selCx : Ctx := { Ctx.only framing with strict := True }

theorem fr_sel {a : Agent} {r : Agent × List Out} (h : Chain selCx a r) : Fr a r.1 :=
  fr_chain (cx := selCx) ⟨by decide, trivial⟩ (by decide) (by decide) (by decide) h

theorem Fr_runTimers (a : Agent) (now fuel : Nat) : Fr a (a.runTimers now fuel).1 :=
  fr_idle (Chain.runTimers a now fuel)

theorem Fr_runForced (a : Agent) (now : Nat) : Fr a (a.runForced now).1 :=
  fr_idle (Chain.runForced a now)

theorem fr0_move (hd : ¬cx.may .data) {a : Agent} {r : Agent × List Out} (h : Move cx a r) : Fr0 a r.1 := by
  cases h with
  | pair id f hf =>
    cases hf with
    | sent _ h => exact absurd h hd
    | received _ h => exact absurd h hd
    | _ => exact Fr0.modPair a id _ fun _ => ⟨rfl, rfl⟩
  | addPair l r => exact Fr0.addPair a l r
  | failed => exact (Fr.wipe a).toFr0.trans (Fr0.of_fields rfl rfl rfl rfl rfl rfl)
  | select id => exact (Fr_select a id).toFr0
  | request now l r uc => exact (Fr_sendRequest a now l r uc none).toFr0
  | issue now l r v => exact (Fr_sendRequest a now l r true _).toFr0.trans (Fr0.of_fields rfl rfl rfl rfl rfl rfl)
  | restart now x p => exact (Fr_doRestart a now x p).toFr0
  | close => exact ⟨rfl, rfl, rfl, Nat.le_refl _, fun _ q hq => Or.inl ⟨q, hq, rfl⟩, id, fun _ => rfl⟩
  | cache _ _ _ _ _ h => exact absurd h hd
  | bytesSent _ h => exact absurd h hd
  | queue _ h => exact absurd h hd
  | read _ _ h => exact absurd h hd
  | _ => exact Fr0.of_fields rfl rfl rfl rfl rfl rfl

theorem fr0_chain (hd : ¬cx.may .data) {a : Agent} {r : Agent × List Out} (h : Chain cx a r) : Fr0 a r.1 :=
  Chain.ind (R := fun a r => Fr0 a r.1) Fr0.refl (fun _ _ => fr0_move hd) Fr0.trans h

theorem Fr_handleSuccess (a : Agent) (now : Nat) (m : Msg) (l r : Cand) (src : Nat) :
    Fr a (a.handleSuccess now m l r src).1 :=
  fr_sel (Chain.handleSuccess a now m l r src fun _ _ _ _ _ => trivial)

theorem Fr_afterResolve (a : Agent) (now : Nat) (l : Cand) (m : Msg) (o0 : List Out) (r : Cand) {src : Nat}
    (hrs : Resolved a l r src) : Fr a (afterResolve a now l m o0 r).1 :=
  afterResolve_rule (Q := fun x => Fr a x.1) a now l m o0 r (fun _ _ _ => Fr.seenLocalSent _ _ _) (fun _ _ _ => by fr_same)
    fun _ => toSelector_rule (Q := fun x => Fr a x.1) a now l r m o0
      (fun _ => (fr_sel (Chain.ctlHandleRequest a now m l r trivial (fun _ => hrs) nofun)).trans
        (Fr.seenRemoteRecv _ _ _))
      (fun _ => (fr_sel (Chain.cldHandleRequest a now m l r trivial (fun _ => hrs) nofun)).trans
        (Fr.seenRemoteRecv _ _ _))

end IceProofs.AgentC07

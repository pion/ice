import IceProofs.Sys2C01LiveStep2
import IceProofs.Sys2C01LiveOuts
import IceProofs.Sys2C01Main
/-!
# C01 liveness — the two-agent system on a loss-free suffix

`SysOK`: the invariant of the suffix (safety invariant `SInv` of C01, bookkeeping invariant of C06, `Good` for both
agents, opposite roles and each other's credentials, no role conflict / nomination value / filtered source in
flight).  It is preserved by every delivery, duplication and clock advance within the horizon.
-/
namespace IceProofs.C01Live
open IceModel.AgentCore IceModel.Sys2 IceProofs.Sys2Run IceProofs.C01 IceProofs.Agent

@[simp] theorem agent_setAgent_same (s : Sys) (z : Bool) (x : Agent) : (s.setAgent z x).agent z = x := by
  cases z <;> rfl

@[simp] theorem agent_setAgent_other (s : Sys) (z : Bool) (x : Agent) : (s.setAgent z x).agent (!z) = s.agent (!z) := by
  cases z <;> rfl

theorem agent_setAgent_ne (s : Sys) {z y : Bool} (x : Agent) (h : y ≠ z) : (s.setAgent z x).agent y = s.agent y := by
  cases z <;> cases y <;> first | rfl | exact absurd rfl h

theorem owner_eq (s : Sys) (x : Nat) :
    s.owner x = if (s.a.localByAddr x).isSome && !s.a.closed then some false
      else if s.hasB && (s.b.localByAddr x).isSome && !s.b.closed then some true else none := rfl

theorem handOver_cases (s : Sys) (d : Dgram) :
    ((s.handOver d).1 = s ∧ ((d.src, d.dst) ∈ s.blocked ∨ s.owner (s.unmapped d.dst) = none)) ∨
    ∃ z, (d.src, d.dst) ∉ s.blocked ∧ s.owner (s.unmapped d.dst) = some z ∧ (s.handOver d).1 = (s.agentEv z (evOf s d)).1 := by
  rw [handOver_eq]
  split
  · rename_i hb; exact Or.inl ⟨rfl, Or.inl (by simpa using hb)⟩
  · rename_i hb
    cases ho : s.owner (s.unmapped d.dst) with
    | none => exact Or.inl ⟨rfl, Or.inr rfl⟩
    | some z => exact Or.inr ⟨z, by simpa using hb, rfl, by cases z <;> rfl⟩

/-- no address carries a local candidate of both agents -/
def Disj (s : Sys) : Prop := ∀ l ∈ s.a.locals, ∀ l' ∈ s.b.locals, l.addr ≠ l'.addr

theorem localByAddr_none_of {a : Agent} {x : Nat} (h : ∀ l ∈ a.locals, l.addr ≠ x) : a.localByAddr x = none := by
  unfold Agent.localByAddr
  rw [List.find?_eq_none]
  intro l hl
  simpa using h l hl

theorem localByAddr_isSome_of {a : Agent} {l : Cand} (h : l ∈ a.locals) : (a.localByAddr l.addr).isSome = true := by
  unfold Agent.localByAddr
  rw [List.find?_isSome]
  exact ⟨l, h, by simp⟩

theorem owner_of_local (s : Sys) (hd : Disj s) (hb : s.hasB = true) (ha : s.a.closed = false) (hbc : s.b.closed = false)
    (z : Bool) {x : Nat} (h : ((s.agent z).localByAddr x).isSome = true) : s.owner x = some z := by
  rw [owner_eq]
  cases z with
  | false =>
    have : (s.a.localByAddr x).isSome = true := h
    simp [this, ha]
  | true =>
    have hB : (s.b.localByAddr x).isSome = true := h
    obtain ⟨l', hl'⟩ := Option.isSome_iff_exists.mp hB
    obtain ⟨hm, he⟩ := localByAddr_listed hl'
    have hA : s.a.localByAddr x = none := localByAddr_none_of (fun l hl => by rw [← he]; exact hd l hl l' hm)
    simp [hA, hB, hb, hbc]

/-- a check of agent `x` from its local address `la` to the remote address `ra` reaches the peer, and the peer's
answer (or its own check in the opposite direction) comes back: both directions open, the NAT round trips are the
identity, `x` listens at `la` and the peer at the real address behind `ra`. -/
structure Link (s : Sys) (x : Bool) (la ra : Nat) : Prop where
  fwd : (la, ra) ∉ s.blocked
  back : (s.unmapped ra, s.mapped la) ∉ s.blocked
  saneL : s.unmapped (s.mapped la) = la
  saneR : s.mapped (s.unmapped ra) = ra
  ownL : s.owner la = some x
  ownR : s.owner (s.unmapped ra) = some (!x)

instance (s : Sys) (x : Bool) (la ra : Nat) : Decidable (Link s x la ra) :=
  decidable_of_iff ((la, ra) ∉ s.blocked ∧ (s.unmapped ra, s.mapped la) ∉ s.blocked ∧ s.unmapped (s.mapped la) = la ∧
      s.mapped (s.unmapped ra) = ra ∧ s.owner la = some x ∧ s.owner (s.unmapped ra) = some (!x))
    ⟨fun ⟨a, b, c, d, e, f⟩ => ⟨a, b, c, d, e, f⟩, fun ⟨a, b, c, d, e, f⟩ => ⟨a, b, c, d, e, f⟩⟩

theorem Link.mirror {s : Sys} {x : Bool} {la ra : Nat} (h : Link s x la ra) : Link s (!x) (s.unmapped ra) (s.mapped la) :=
  ⟨h.back, by rw [h.saneL, h.saneR]; exact h.fwd, by rw [h.saneR], by rw [h.saneL], h.ownR, by rw [h.saneL, Bool.not_not]; exact h.ownL⟩

/-- the topology and the listeners agree -/
def SameNet (s s' : Sys) : Prop :=
  s'.nat = s.nat ∧ s'.blocked = s.blocked ∧ ∀ x, s'.owner x = s.owner x

theorem SameNet.link {s s' : Sys} (h : SameNet s s') {x : Bool} {la ra : Nat} (hl : Link s x la ra) : Link s' x la ra := by
  obtain ⟨h1, h2, h3⟩ := h
  have hm : ∀ y, s'.mapped y = s.mapped y := fun y => by simp [Sys.mapped, h1]
  have hu : ∀ y, s'.unmapped y = s.unmapped y := fun y => by simp [Sys.unmapped, h1]
  exact ⟨by rw [h2]; exact hl.fwd, by rw [h2, hm, hu]; exact hl.back, by rw [hm, hu]; exact hl.saneL,
    by rw [hm, hu]; exact hl.saneR, by rw [h3]; exact hl.ownL, by rw [hu, h3]; exact hl.ownR⟩

/-- opposite roles (`c` = the controlling agent), each other's credentials, distinct passwords, disjoint
local addresses -/
structure Paired (s : Sys) (c : Bool) : Prop where
  hasB : s.hasB = true
  role : ∀ x, (s.agent x).controlling = (x == c)
  ufrag : ∀ x, (s.agent x).remoteUfrag = (s.agent (!x)).localUfrag
  pwd : ∀ x, (s.agent x).remotePwd = (s.agent (!x)).localPwd
  pwdNe : s.a.localPwd ≠ s.b.localPwd
  disj : Disj s

theorem Paired.key_peer {s : Sys} {c : Bool} (hp : Paired s c) {z x : Bool}
    (h : (s.agent z).remotePwd = (s.agent x).localPwd) : x = !z := by
  by_cases hx : x = z
  · exfalso
    subst hx
    rw [hp.pwd] at h
    cases x
    · exact hp.pwdNe h.symm
    · exact hp.pwdNe h
  · cases x <;> cases z <;> first | rfl | exact absurd rfl hx

theorem Paired.noConflict {s : Sys} {c : Bool} (hp : Paired s c) {x uc : Bool} {m : Msg} (hreq : IsReq (s.agent x) uc m) :
    NoConflict (s.agent (!x)) m := by
  intro ctl tb hr
  rw [hreq.role] at hr
  simp only [Option.some.injEq, Prod.mk.injEq] at hr
  rw [← hr.1, hp.role, hp.role]
  cases x <;> cases c <;> decide

theorem Paired.auth {s : Sys} {c : Bool} (hp : Paired s c) {x uc : Bool} {m : Msg} (hreq : IsReq (s.agent x) uc m) :
    AuthRequest (s.agent (!x)) m := by
  have huy := hp.ufrag (!x)
  rw [Bool.not_not] at huy
  exact ⟨hreq.method, hreq.cls, by rw [hreq.user, hp.ufrag x, huy], by rw [hreq.key, hp.pwd x]⟩

/-- a datagram in flight: STUN only; a Binding request that verifies under the local password of an agent carries no
nomination value, no conflicting role attribute, and its source passes that agent's remote-IP filter -/
def DgOK (s : Sys) (d : Dgram) : Prop :=
  (∃ m, d.p = .stun m) ∧
  ∀ m, d.p = .stun m → m.cls = 0 → ∀ x : Bool, m.key = some (s.agent x).localPwd →
    m.nom = none ∧ NoConflict (s.agent x) m ∧ (s.agent x).cfg.blockedIPs.contains (ipOf (s.mapped d.src)) = false

def FlightOK (s : Sys) : Prop := ∀ d ∈ s.inflight, DgOK s d

/-- no agent filters out an address its peer can appear from -/
def FilterOK (s : Sys) : Prop :=
  ∀ x : Bool, ∀ l ∈ (s.agent (!x)).locals, (s.agent x).cfg.blockedIPs.contains (ipOf (s.mapped l.addr)) = false

/-- a Binding request in flight whose transaction is a pending USE-CANDIDATE transaction of the controlling agent
is that agent's nomination request, on the route recorded in the transaction, and the route is a `Link` -/
def PendAgree (s : Sys) (c : Bool) : Prop :=
  ∀ d ∈ s.inflight, ∀ m, d.p = .stun m → m.cls = 0 → ∀ pd ∈ (s.agent c).pending, pd.tid = m.tid → pd.useCand = true →
    IsReq (s.agent c) true m ∧ d.src = pd.src ∧ d.dst = pd.dest ∧ Link s c d.src d.dst

section
variable (nat blocked : List (Nat × Nat)) (SLA SLB SR : Nat → Prop) (liteA liteB : Bool)

/-- hypotheses on the abstract address predicates of the C01 safety invariant: local addresses survive the NAT
round trip and are admissible remote addresses once mapped; an agent cannot be answered from one of its own
addresses; every address the controlled agent ever had a local candidate at still carries one. -/
structure Topo (s : Sys) (c : Bool) : Prop where
  sane : ∀ x, SLor SLA SLB x → SaneAddr nat x
  sr : ∀ x, SLor SLA SLB x → SR (mappedL nat x)
  noSelf : ∀ la x, (if c then SLB else SLA) la → (if c then SLB else SLA) x → (x, mappedL nat la) ∈ blocked
  cur : ∀ x, (if c then SLA else SLB) x → ((s.agent (!c)).localByAddr x).isSome = true

/-- the invariant of a loss-free suffix with controlling agent `c`, from time `T0` up to the horizon `H`.  The seven
parameters are those of `SInv` (C01 safety, `Sys2C01Sys.lean`) and never change along a run: the topology `nat`, `blocked`,
the addresses at which A / B may have local candidates (`SLA`, `SLB`), the admissible remote addresses `SR`, the lite flags -/
structure SysOK (T0 H : Nat) (c : Bool) (s : Sys) : Prop where
  sinv : ∃ LA LB, SInv nat blocked SLA SLB SR liteA liteB s LA LB
  topo : Topo nat blocked SLA SLB SR s c
  c06 : ∀ x, IceProofs.AgentC06.Inv (s.agent x)
  good : ∀ x, Good T0 H (s.agent x)
  paired : Paired s c
  flight : FlightOK s
  filter : FilterOK s
  agree : PendAgree s c
  time0 : T0 ≤ s.now
  timeH : s.now ≤ H

end

theorem IsReq.congr {a a' : Agent} (h : SameId a a') {uc : Bool} {m : Msg} (hr : IsReq a uc m) : IsReq a' uc m :=
  ⟨hr.cls, hr.method, by rw [h.remoteUfrag, h.localUfrag]; exact hr.user, by rw [h.remotePwd]; exact hr.key,
   by rw [h.controlling, h.tieBreaker]; exact hr.role, hr.nom, hr.uc⟩

theorem find?_of_mem {l : List Pending} (hu : l.Pairwise (fun x y => x.tid ≠ y.tid)) {pd : Pending} (hpd : pd ∈ l) :
    l.find? (·.tid == pd.tid) = some pd := by
  cases hf : l.find? (·.tid == pd.tid) with
  | none =>
    rw [List.find?_eq_none] at hf
    exact absurd (by simp) (hf pd hpd)
  | some x => rw [find?_unique hu hf hpd rfl]

section
variable {nat blocked : List (Nat × Nat)} {SLA SLB SR : Nat → Prop} {liteA liteB : Bool}

theorem sinv_inv {s : Sys} {LA LB : Log} (h : SInv nat blocked SLA SLB SR liteA liteB s LA LB) (x : Bool) :
    ∃ Gd Sn lite, AInv Gd Sn SR (if x then 1 else 0) lite (view (s.agent x)) (if x then LB else LA) := by
  cases x
  · exact ⟨_, _, _, h.invA⟩
  · exact ⟨_, _, _, h.invB⟩

theorem sinv_tag {s : Sys} {LA LB : Log} (h : SInv nat blocked SLA SLB SR liteA liteB s LA LB) (x : Bool) :
    (s.agent x).tag = if x then 1 else 0 := by
  obtain ⟨_, _, _, hi⟩ := sinv_inv h x
  exact hi.tag_eq

theorem sinv_pend_tid {s : Sys} {LA LB : Log} (h : SInv nat blocked SLA SLB SR liteA liteB s LA LB) (x : Bool)
    {pd : Pending} (hpd : pd ∈ (s.agent x).pending) :
    ∃ n, n < (s.agent x).nextTid ∧ pd.tid = 2 * n + (if x then 1 else 0) := by
  obtain ⟨_, _, _, hi⟩ := sinv_inv h x
  have := hi.pendOK (pdv pd) (List.mem_map.mpr ⟨pd, hpd, rfl⟩)
  obtain ⟨n, hn, e⟩ := hi.logOK _ this
  exact ⟨n, hn, e⟩

theorem sinv_flight_tid {s : Sys} {LA LB : Log} (h : SInv nat blocked SLA SLB SR liteA liteB s LA LB)
    {d : Dgram} (hd : d ∈ s.inflight) {m : Msg} (hm : d.p = .stun m) (hc : m.cls = 0) :
    ∃ x n, n < (s.agent x).nextTid ∧ m.tid = 2 * n + (if x then 1 else 0) := by
  have := h.k0 d hd m hm hc
  rcases List.mem_append.mp this with hl | hl
  · obtain ⟨n, hn, e⟩ := h.invA.logOK _ hl
    exact ⟨false, n, hn, e⟩
  · obtain ⟨n, hn, e⟩ := h.invB.logOK _ hl
    exact ⟨true, n, hn, e⟩

theorem pending_old_step {s s' : Sys} {LA LB LA' LB' : Log} (hsi : SInv nat blocked SLA SLB SR liteA liteB s LA LB)
    (hsi' : SInv nat blocked SLA SLB SR liteA liteB s' LA' LB') {x : Bool} {ev : Ev}
    (hst : s'.agent x = (step (s.agent x) ev).1) {pd : Pending} (hpd : pd ∈ (s'.agent x).pending) {z : Bool} {n : Nat}
    (hn : n < (s.agent z).nextTid) (ht : pd.tid = 2 * n + (if z then 1 else 0)) : pd ∈ (s.agent x).pending := by
  have hpd0 := hpd
  rw [hst] at hpd
  rcases (IceProofs.AgentC02.tid_step (s.agent x) ev).pend pd hpd with hold | hnew
  · exact hold
  · exfalso
    rw [sinv_tag hsi x] at hnew
    obtain ⟨n', _, en'⟩ := sinv_pend_tid hsi' x hpd0
    by_cases hzx : z = x
    · subst hzx; omega
    · cases z <;> cases x <;> simp at hzx ht en' <;> omega

theorem link_of_succ {s : Sys} {c : Bool} {LA LB : Log} (hs : SInv nat blocked SLA SLB SR liteA liteB s LA LB)
    (ht : Topo nat blocked SLA SLB SR s c) (hp : Paired s c) (hopen : ∀ x, (s.agent x).closed = false)
    (hfull : (s.agent c).cfg.lite = false) {p : Pair} {l r : Cand} (hpm : p ∈ (s.agent c).checklist)
    (hsucc : p.state = .succeeded) (hl : (s.agent c).localOf p.l = some l) (hr : (s.agent c).remoteOf p.r = some r) :
    Link s c l.addr r.addr := by
  obtain ⟨la, ra, hg, h1, h2⟩ := (hs.agent_final c hfull).1 p hpm hsucc
  have ela := h1 l hl
  have era := h2 r hr
  rw [ela, era]
  obtain ⟨⟨hf, hb⟩, hsl, _, hsr, hany⟩ := hg
  have hun : ∀ x, s.unmapped x = unmappedL nat x := fun x => by rw [unmapped_eq, hs.nat_eq]
  have hma : ∀ x, s.mapped x = mappedL nat x := fun x => by rw [mapped_eq, hs.nat_eq]
  have hslor : SLor SLA SLB la := by
    cases c
    · exact Or.inl hsl
    · exact Or.inr hsl
  have hownL : s.owner la = some c := by
    apply owner_of_local s hp.disj hp.hasB (hopen false) (hopen true) c
    rw [← ela]
    exact localByAddr_isSome_of ((findCand_listed hl).1)
  have hownR : s.owner (unmappedL nat ra) = some (!c) := by
    apply owner_of_local s hp.disj hp.hasB (hopen false) (hopen true) (!c)
    apply ht.cur
    cases c with
    | false =>
      rcases hany with h | h
      · exact absurd (ht.noSelf la _ hsl h) hb
      · exact h
    | true =>
      rcases hany with h | h
      · exact h
      · exact absurd (ht.noSelf la _ hsl h) hb
  exact ⟨by rw [hs.blocked_eq]; exact hf, by rw [hs.blocked_eq, hun, hma]; exact hb, by rw [hma, hun]; exact ht.sane la hslor,
    by rw [hun, hma]; exact hsr, hownL, by rw [hun]; exact hownR⟩

end

theorem sameNet_of {s s' : Sys} (hn : s'.nat = s.nat) (hb : s'.blocked = s.blocked) (hh : s'.hasB = s.hasB)
    (hl : ∀ x, (s'.agent x).locals.map ckey = (s.agent x).locals.map ckey)
    (hc : ∀ x, (s'.agent x).closed = (s.agent x).closed) : SameNet s s' := by
  refine ⟨hn, hb, fun x => ?_⟩
  rw [owner_eq, owner_eq, hh]
  have ea := localByAddr_isSome_congr (hl false) x
  have eb := localByAddr_isSome_congr (hl true) x
  have ca := hc false
  have cb := hc true
  simp only [Sys.agent, Bool.false_eq_true, if_false, if_true] at ea eb ca cb
  rw [ea, eb, ca, cb]

theorem agentEv_frame (s : Sys) (z : Bool) (e : Ev) (hid : SameId (s.agent z) (step (s.agent z) e).1)
    (hloc : (step (s.agent z) e).1.locals.map ckey = (s.agent z).locals.map ckey) :
    (∀ x, SameId (s.agent x) ((s.agentEv z e).1.agent x)) ∧
    (∀ x, ((s.agentEv z e).1.agent x).locals.map ckey = (s.agent x).locals.map ckey) ∧ SameNet s (s.agentEv z e).1 := by
  obtain ⟨hnat, hblk, hhasB⟩ := agentEv_topo s z e
  have hidx := agentEv_each (P := fun x a' => SameId (s.agent x) a') s z e hid fun _ => SameId.refl _
  have hlocx := agentEv_each (P := fun x a' => a'.locals.map ckey = (s.agent x).locals.map ckey) s z e hloc fun _ => rfl
  exact ⟨hidx, hlocx, sameNet_of hnat hblk hhasB hlocx (fun x => (hidx x).closed)⟩

section
variable {nat blocked : List (Nat × Nat)} {SLA SLB SR : Nat → Prop} {liteA liteB : Bool} {T0 H : Nat} {c : Bool}

theorem SysOK.agentEv {s : Sys} (h : SysOK nat blocked SLA SLB SR liteA liteB T0 H c s) (z : Bool) (e : Ev)
    {ex : Option Nat}
    (hg : Good T0 H (step (s.agent z) e).1) (hk : LK T0 s.now ex (s.agent z) (step (s.agent z) e).1)
    (hid : SameId (s.agent z) (step (s.agent z) e).1)
    (hnd : ∀ f t n, Out.data f t n ∉ (step (s.agent z) e).2)
    (hreq : ∀ f t m, Out.dgram f t m ∈ (step (s.agent z) e).2 → m.cls = 0 → ReqOut (s.agent z) f t m)
    (hC : z = c → ReqsOK' (s.agent z) (step (s.agent z) e))
    (hs' : ∃ LA LB, SInv nat blocked SLA SLB SR liteA liteB (s.agentEv z e).1 LA LB) :
    SysOK nat blocked SLA SLB SR liteA liteB T0 H c (s.agentEv z e).1 := by
  obtain ⟨hnat, hblk, hhasB⟩ := agentEv_topo s z e
  have hnow := agentEv_now s z e
  have hsame := agentEv_same s z e
  have hother := agentEv_other s z e
  obtain ⟨hidx, hlocx, hnet⟩ := agentEv_frame s z e hid hk.locals
  have hmap : ∀ y, (s.agentEv z e).1.mapped y = s.mapped y := fun y => by simp [Sys.mapped, hnat]
  obtain ⟨LA, LB, hsi⟩ := h.sinv
  obtain ⟨LA', LB', hsi'⟩ := hs'
  have hgood' : ∀ x, Good T0 H ((s.agentEv z e).1.agent x) := agentEv_each (P := fun _ a' => Good T0 H a') s z e hg h.good
  have hpaired' : Paired (s.agentEv z e).1 c := by
    refine ⟨hhasB.trans h.paired.hasB, fun x => by rw [(hidx x).controlling]; exact h.paired.role x,
      fun x => by rw [(hidx x).remoteUfrag, (hidx (!x)).localUfrag]; exact h.paired.ufrag x,
      fun x => by rw [(hidx x).remotePwd, (hidx (!x)).localPwd]; exact h.paired.pwd x, ?_, ?_⟩
    · have e1 := (hidx false).localPwd
      have e2 := (hidx true).localPwd
      simp only [Sys.agent, Bool.false_eq_true, if_false, if_true] at e1 e2
      rw [e1, e2]; exact h.paired.pwdNe
    · intro l hl l' hl'
      obtain ⟨l0, hl0, e0⟩ := mem_of_map_ckey hl (hlocx false)
      obtain ⟨l1, hl1, e1⟩ := mem_of_map_ckey hl' (hlocx true)
      rw [ckey_addr e0, ckey_addr e1]
      exact h.paired.disj l0 hl0 l1 hl1
  have htopo' : Topo nat blocked SLA SLB SR (s.agentEv z e).1 c :=
    ⟨h.topo.sane, h.topo.sr, h.topo.noSelf, fun x hx => by
      rw [localByAddr_isSome_congr (hlocx (!c)) x]; exact h.topo.cur x hx⟩
  have hopen' : ∀ x, ((s.agentEv z e).1.agent x).closed = false := fun x => (hgood' x).open_
  refine ⟨⟨LA', LB', hsi'⟩, htopo', ?_, hgood', hpaired', ?_, ?_, ?_, by rw [hnow]; exact h.time0, by rw [hnow]; exact h.timeH⟩
  · exact agentEv_each (P := fun _ a' => IceProofs.AgentC06.Inv a') s z e ((h.c06 z).step e) h.c06
  · -- FlightOK
    intro d hd
    rw [agentEv_inflight] at hd
    rcases List.mem_append.mp hd with hd | hd
    · obtain ⟨hst, hdg⟩ := h.flight d hd
      refine ⟨hst, fun m hm hc x hkey => ?_⟩
      rw [(hidx x).localPwd] at hkey
      obtain ⟨h1, h2, h3⟩ := hdg m hm hc x hkey
      exact ⟨h1, h2.of_ctl (hidx x).controlling, by rw [(hidx x).cfg, hmap]; exact h3⟩
    · -- a datagram emitted by this step
      have hstun : ∃ m, d.p = .stun m := by
        unfold dgramsOf at hd
        obtain ⟨x, hx, hxd⟩ := List.mem_filterMap.mp hd
        cases x with
        | dgram f t m => simp at hxd; subst hxd; exact ⟨m, rfl⟩
        | data f t n => exact absurd hx (hnd f t n)
        | cbState _ => simp at hxd
        | cbPair _ _ => simp at hxd
        | cbCand _ => simp at hxd
        | res _ => simp at hxd
      refine ⟨hstun, fun m hmp hc x hkey => ?_⟩
      have hro := hreq _ _ _ (mem_dgramsOf_stun hd hmp) hc
      have hk1 := hro.isReq.key
      rw [hk1, (hidx x).localPwd] at hkey
      have hkey' : (s.agent z).remotePwd = (s.agent x).localPwd := by simpa using hkey
      have hxz : x = !z := h.paired.key_peer hkey'
      subst hxz
      refine ⟨hro.isReq.nom, (h.paired.noConflict hro.isReq).of_ctl (hidx (!z)).controlling, ?_⟩
      · obtain ⟨l, hl, hla⟩ := hro.src
        rw [(hidx (!z)).cfg, hmap, ← hla]
        have := h.filter (!z) l (by rw [Bool.not_not]; exact hl)
        exact this
  · -- FilterOK
    intro x l hl
    obtain ⟨l0, hl0, e0⟩ := mem_of_map_ckey hl (hlocx (!x))
    rw [(hidx x).cfg, hmap, ckey_addr e0]
    exact h.filter x l0 hl0
  · -- PendAgree
    intro d hd m hmp hc pd hpd htid huc
    rw [agentEv_inflight] at hd
    have htag := sinv_tag hsi
    rcases List.mem_append.mp hd with hd | hd
    · -- an old datagram
      by_cases hz : z = c
      · subst hz
        rw [hsame] at hpd ⊢
        obtain ⟨x, n, hn, en⟩ := sinv_flight_tid hsi hd hmp hc
        have hold := pending_old_step hsi hsi' hsame (by rw [hsame]; exact hpd) hn (htid.trans en)
        obtain ⟨q1, q2, q3, q4⟩ := h.agree d hd m hmp hc pd hold htid huc
        exact ⟨q1.congr hid, q2, q3, hnet.link q4⟩
      · have hcz : c = !z := Bool.eq_not_of_ne (fun e => hz e.symm)
        rw [hcz, hother] at hpd ⊢
        rw [← hcz] at hpd ⊢
        obtain ⟨q1, q2, q3, q4⟩ := h.agree d hd m hmp hc pd hpd htid huc
        exact ⟨q1, q2, q3, hnet.link q4⟩
    · -- a request emitted by this step
      have hro := hreq _ _ _ (mem_dgramsOf_stun hd hmp) hc
      obtain ⟨n, hn, en⟩ := hro.tid
      by_cases hz : z = c
      · subst hz
        rw [hsame] at hpd ⊢
        have hR := hC rfl
        obtain ⟨e1, e2, e3⟩ := hR.pend _ _ _ (mem_dgramsOf_stun hd hmp) hc pd hpd htid
        have hucm : m.useCand = true := e3.symm.trans huc
        have hiq := hro.isReq
        rw [hucm] at hiq
        refine ⟨hiq.congr hid, e1.symm, e2.symm, ?_⟩
        obtain ⟨p, l, r', hp1, hp2, hp3, hp4, hp5, hp6⟩ := hR.uc _ _ _ (mem_dgramsOf_stun hd hmp) hc hucm
        rw [← hp5, ← hp6]
        rw [← hsame] at hp1 hp3 hp4
        exact link_of_succ hsi' htopo' hpaired' hopen' (hgood' z).full hp1 hp2 hp3 hp4
      · exfalso
        have hcz : c = !z := Bool.eq_not_of_ne (fun e => hz e.symm)
        rw [hcz, hother] at hpd
        obtain ⟨n', _, en'⟩ := sinv_pend_tid hsi (!z) hpd
        rw [htid, en, htag z] at en'
        cases z <;> simp at en' <;> omega

end

section
variable {nat blocked : List (Nat × Nat)} {SLA SLB SR : Nat → Prop} {liteA liteB : Bool} {T0 H : Nat} {c : Bool}

theorem DgOK.hok {s : Sys} {d : Dgram} (hd : DgOK s d) {m : Msg} (hm : d.p = .stun m) (z : Bool) :
    AuthRequest (s.agent z) m → m.nom = none ∧ NoConflict (s.agent z) m := by
  intro ha
  obtain ⟨h1, h2, _⟩ := hd.2 m hm ha.2.1 z ha.2.2.2
  exact ⟨h1, h2⟩

theorem SysOK.sub {s s' : Sys} (h : SysOK nat blocked SLA SLB SR liteA liteB T0 H c s) (hub : Hub s s')
    (h0' : T0 ≤ s'.now) (hH' : s'.now ≤ H) : SysOK nat blocked SLA SLB SR liteA liteB T0 H c s' := by
  have hag := hub.agent
  have hnet : SameNet s s' := ⟨hub.topo.1, hub.topo.2.1, hub.owner⟩
  obtain ⟨LA, LB, hsi⟩ := h.sinv
  have hsi' := hsi.hub hub
  obtain ⟨ha, hb, ⟨hn, hbl, hh⟩, hi⟩ := hub
  have hm : ∀ y, s'.mapped y = s.mapped y := fun y => by simp [Sys.mapped, hn]
  refine ⟨⟨LA, LB, hsi'⟩, ⟨h.topo.sane, h.topo.sr, h.topo.noSelf, fun x hx => by rw [hag]; exact h.topo.cur x hx⟩,
    fun x => by rw [hag]; exact h.c06 x, fun x => by rw [hag]; exact h.good x, ?_, ?_, ?_, ?_, h0', hH'⟩
  · exact ⟨hh.trans h.paired.hasB, fun x => by rw [hag]; exact h.paired.role x, fun x => by rw [hag, hag]; exact h.paired.ufrag x,
      fun x => by rw [hag, hag]; exact h.paired.pwd x, by rw [ha, hb]; exact h.paired.pwdNe,
      by unfold Disj; rw [ha, hb]; exact h.paired.disj⟩
  · intro d hd
    obtain ⟨h1, h2⟩ := h.flight d (hi d hd)
    refine ⟨h1, fun m hm' hc x hk => ?_⟩
    rw [hag] at hk ⊢
    rw [hm]
    exact h2 m hm' hc x hk
  · intro x l hl
    rw [hag] at hl ⊢
    rw [hm]
    exact h.filter x l hl
  · intro d hd m hm' hc pd hpd ht hu
    rw [hag] at hpd ⊢
    obtain ⟨q1, q2, q3, q4⟩ := h.agree d (hi d hd) m hm' hc pd hpd ht hu
    exact ⟨q1, q2, q3, hnet.link q4⟩

theorem SysOK.handOver {s : Sys} (h : SysOK nat blocked SLA SLB SR liteA liteB T0 H c s) (d : Dgram) (hdg : DgOK s d)
    {LA LB : Log} (hsi : SInv nat blocked SLA SLB SR liteA liteB s LA LB)
    (hK : d ∈ s.inflight ∨
      ((∀ m, d.p = .stun m → m.cls = 0 → (m.tid, d.src, d.dst) ∈ LA ++ LB) ∧
       (∀ m, d.p = .stun m → m.cls = 2 →
          ∃ l0 r0, (m.tid, l0, r0) ∈ LA ++ LB ∧ d.src = unmappedL nat r0 ∧ d.dst = mappedL nat l0 ∧ (l0, r0) ∉ blocked ∧ SLor SLA SLB d.src))) :
    SysOK nat blocked SLA SLB SR liteA liteB T0 H c (s.handOver d).1 := by
  have hso := (IceProofs.C01.handOver_ok h.topo.sane h.topo.sr hsi d hK).1
  rcases handOver_cases s d with ⟨e, _⟩ | ⟨z, _, _, e⟩
  · rw [e]; exact h
  · rw [e] at hso ⊢
    obtain ⟨m, hm⟩ := hdg.1
    have hev : evOf s d = .inbound s.now (s.unmapped d.dst) (s.mapped d.src) m := by unfold evOf; rw [hm]
    have hok := hdg.hok hm z
    obtain ⟨g1, k1, i1⟩ := step_inbound_good h.time0 h.timeH (h.good z) (s.unmapped d.dst) (s.mapped d.src) m hok
    obtain ⟨r1, _⟩ := step_inbound_reqs h.time0 h.timeH (h.good z) (s.unmapped d.dst) (s.mapped d.src) m hok
    rw [hev] at hso ⊢
    exact h.agentEv z _ g1 k1 i1 (step_inbound_noData _ _ _ _ _) r1.req (fun _ => r1.weak g1.linv.pendOK.2) hso

theorem SysOK.deliver {s : Sys} (h : SysOK nat blocked SLA SLB SR liteA liteB T0 H c s) (k : Nat) (keep : Bool) :
    SysOK nat blocked SLA SLB SR liteA liteB T0 H c (s.deliver k keep).1 := by
  rw [deliver_eq]
  cases hd : s.inflight[k]? with
  | none => exact h
  | some d =>
    simp only []
    have hdm : d ∈ s.inflight := List.mem_of_getElem? hd
    cases keep with
    | true =>
      simp only [if_true]
      obtain ⟨LA, LB, hsi⟩ := h.sinv
      exact h.handOver d (h.flight d hdm) hsi (Or.inl hdm)
    | false =>
      simp only [Bool.false_eq_true, if_false]
      have hub := Hub.removeAt s k
      obtain ⟨LA, LB, hsi⟩ := h.sinv
      refine (h.sub hub h.time0 h.timeH).handOver d ?_ (hsi.hub hub) (Or.inr ⟨hsi.k0 d hdm, hsi.k2 d hdm⟩)
      obtain ⟨h1, h2⟩ := h.flight d hdm
      exact ⟨h1, h2⟩

end

section
variable {nat blocked : List (Nat × Nat)} {SLA SLB SR : Nat → Prop} {liteA liteB : Bool} {T0 H : Nat} {c : Bool}

theorem advance_reqsOK {a : Agent} {T : Nat} (h0 : T0 ≤ T) (hT : T ≤ H) (hg : Good T0 H a) {t : Nat}
    (ht : a.nextTick = some t) (hle : T ≤ t) : ReqsOK a T (step a (.advance T)) := by
  show ReqsOK a T (a.runTimers T (99998 + 2))
  by_cases he : t = T
  · subst he
    rw [runTimers_single a t 99998 hg.started hg.open_ ht]
    obtain ⟨r, _⟩ := contact_reqs hT hg.good0
    exact ⟨r.req, r.pend, r.uc⟩
  · have : a.runTimers T (99998 + 2) = (a, []) := by
      unfold Agent.runTimers
      rw [ht]
      have : ¬ (t ≤ T) := by omega
      simp [this]
    rw [this]
    exact ReqsOK.silent NoDgram.nil

theorem SysOK.advanceAgentAny {s : Sys} (h : SysOK nat blocked SLA SLB SR liteA liteB T0 H c s) (z : Bool) (T : Nat)
    (hT : s.now = T) : SysOK nat blocked SLA SLB SR liteA liteB T0 H c (s.agentEv z (.advance T)).1 := by
  subst hT
  obtain ⟨g1, k1, i1⟩ := step_advance_good h.timeH (h.good z)
  obtain ⟨LA, LB, hsi⟩ := h.sinv
  have hso := IceProofs.C01.agentEv_ok hsi z (.advance s.now) (by intro _ _ he; cases he) (by intro _ _ he; cases he)
    (by intro _ _ _ _ he; cases he) (by intro _ _ _ _ he; cases he) (respLogged_false _ _)
  exact h.agentEv z _ g1 k1 i1 (runTimers_noData _ _ _) (fun f t m hm hc0 => (runTimers_reqs' h.timeH _ (h.good z)).1.req f t m hm hc0)
    (fun _ => (runTimers_reqs' h.timeH 100000 (h.good z)).1) hso.1

theorem SysOK.advanceAgent' {s : Sys} (h : SysOK nat blocked SLA SLB SR liteA liteB T0 H c s) (z : Bool) (T : Nat)
    (hT : s.now = T) (hc : z = c → ∃ t, (s.agent c).nextTick = some t ∧ T ≤ t) :
    SysOK nat blocked SLA SLB SR liteA liteB T0 H c (s.agentEv z (.advance T)).1 := by
  have _ := hc
  exact h.advanceAgentAny z T hT

theorem SysOK.advanceAny {s : Sys} (h : SysOK nat blocked SLA SLB SR liteA liteB T0 H c s) (T : Nat) (h0 : T0 ≤ T) (hT : T ≤ H) :
    SysOK nat blocked SLA SLB SR liteA liteB T0 H c (s.advance T).1 := by
  have hs0 : SysOK nat blocked SLA SLB SR liteA liteB T0 H c { s with now := T } :=
    h.sub (Hub.setNow s T) h0 hT
  rw [advance_eq]
  have h1 := hs0.advanceAgentAny false T rfl
  have hb : (({ s with now := T } : Sys).agentEv false (.advance T)).1.hasB = true :=
    (agentEv_topo _ _ _).2.2.trans h.paired.hasB
  rw [if_pos hb]
  have hnow1 : (({ s with now := T } : Sys).agentEv false (.advance T)).1.now = T := agentEv_now _ _ _
  exact h1.advanceAgentAny true T hnow1

theorem SysOK.advance {s : Sys} (h : SysOK nat blocked SLA SLB SR liteA liteB T0 H c s) (T : Nat) (h0 : T0 ≤ T) (hT : T ≤ H)
    (hc : ∃ t, (s.agent c).nextTick = some t ∧ T ≤ t) :
    SysOK nat blocked SLA SLB SR liteA liteB T0 H c (s.advance T).1 := by
  have _ := hc
  exact h.advanceAny T h0 hT

end

end IceProofs.C01Live

import IceProofs.AgentMoves
import IceProofs.AgentC05Frame
/-!
# Relations closed under the moves of `step`

Many facts about `step` relate the state before to the state after and the outputs, are closed under running one helper
after the other, and do not care about most of the agent.  `Closed Ans R` lists what such a relation has to satisfy —
closure under sequencing, the updates that leave `fixed` (`core`, the projection of `AgentC05Frame.lean`: configuration,
credentials, role, `lastNomination`, flags; `nextTid`; the ghost log) alone, and the few moves that do not —; it then holds of every move (`Closed.move`),
hence of every chain and of every step (`Closed.of_chain`, `Closed.step`).
-/
namespace IceProofs.Agent
open IceModel.AgentCore

/-- what a quiet update leaves alone -/
def fixed (a : Agent) : Core × Nat × List (Nat × Nat × Nat) := (a.core, a.nextTid, a.nomIssued)

/-- `fixed` and the outstanding transactions -/
def frame (a : Agent) : (Core × Nat × List (Nat × Nat × Nat)) × List Pending := (fixed a, a.pending)

def isDgram : Out → Bool
  | .dgram _ _ _ => true
  | _ => false

/-- no STUN message among the outputs -/
def NoDgram (o : List Out) : Prop := o.all (fun x => !isDgram x) = true

structure Closed (Ans : Nat → Prop) (R : Agent → Agent × List Out → Prop) : Prop where
  seq : ∀ {a : Agent} {r1 r2 : Agent × List Out}, R a r1 → R r1.1 r2 → R a (r2.1, r1.2 ++ r2.2)
  /-- an update outside `fixed` that adds no transaction, with outputs other than STUN messages -/
  quiet : ∀ {a b : Agent} {o : List Out}, fixed b = fixed a → (∀ pd ∈ b.pending, pd ∈ a.pending) → NoDgram o → R a (b, o)
  /-- a Binding request without nomination value -/
  request : ∀ (a : Agent) (now : Nat) (l r : Cand) (uc : Bool), R a (a.sendRequest now l r uc none)
  /-- a nomination with its entry in the ghost log (`RenominateCandidate`, the automatic check) -/
  issue : ∀ (a : Agent) (now : Nat) (l r : Cand) (v : Nat),
    R a ({ (a.sendRequest now l r true (if v > 0 then some v else none)).1 with
        nomIssued := (a.sendRequest now l r true (if v > 0 then some v else none)).1.nomIssued ++ [(v, l.addr, r.addr)] },
      (a.sendRequest now l r true (if v > 0 then some v else none)).2)
  /-- a success response; `Ans` says which transaction ids may be answered -/
  answer : ∀ (a b : Agent) (f t tid : Nat), frame b = frame a → Ans tid →
    R a (b, [.dgram f t { cls := 2, tid := tid, key := some a.localPwd }])
  /-- the 487 answer to a role conflict -/
  refuse : ∀ (a b : Agent) (f t tid : Nat), frame b = frame a →
    R a (b, [.dgram f t { cls := 3, tid := tid, key := some a.localPwd, errCode := some 487 }])
  switch : ∀ (a : Agent) (now : Nat), R a (({ a with controlling := !a.controlling } : Agent).resetSelector now, [])
  accept : ∀ (a : Agent) (v : Option Nat), R a ({ a with lastNomination := v }, [])
  start : ∀ (a : Agent) (now : Nat) (ctl : Bool) (ru rp : String),
    R a (({ a with controlling := ctl, remoteUfrag := ru, remotePwd := rp, started := true } : Agent).resetSelector now, [])
  creds : ∀ (a : Agent) (ru rp : String), R a ({ a with remoteUfrag := ru, remotePwd := rp }, [])
  restart : ∀ (a : Agent) (now : Nat) (x p : String),
    R a ({ (({ a with localUfrag := x, localPwd := p, remoteUfrag := "", remotePwd := "" } : Agent).wipe.resetSelector now) with
      generation := a.generation + 1 }, [])
  close : ∀ (a : Agent), R a ({ a with locals := [], remotes := [], caches := [], closed := true }, [])

namespace Closed
variable {Ans : Nat → Prop} {R : Agent → Agent × List Out → Prop} (C : Closed Ans R)
include C

theorem refl (a : Agent) : R a (a, []) := C.quiet rfl (fun _ h => h) rfl

theorem pre {a b : Agent} {r : Agent × List Out} (h0 : R a (b, [])) (h : R b r) : R a r := C.seq h0 h

theorem still {a b : Agent} {o : List Out} (hb : frame b = frame a) (ho : NoDgram o) : R a (b, o) :=
  C.quiet (congrArg (·.1) hb) (fun _ hp => (congrArg (·.2) hb : b.pending = a.pending) ▸ hp) ho

theorem move {cx : Ctx} (hc : ∀ now l src m, cx.answers now l src m → Ans m.tid) {a : Agent} {r : Agent × List Out}
    (h : Move cx a r) : R a r := by
  cases h with
  | request now l r uc => exact C.request a now l r uc
  | issue now l r v => exact C.issue a now l r v
  | answer f t now l src m hm => exact C.answer a a f t m.tid rfl (hc now l src m hm)
  | refuse f t now l src m _ => exact C.refuse a a f t m.tid rfl
  | switch now => exact C.switch a now
  | lastNomination => exact C.accept a _
  | start now ctl ru rp => exact C.start a now ctl ru rp
  | creds ru rp => exact C.creds a ru rp
  | restart now x p =>
    refine C.pre (C.restart a now x p) (C.still (b := (a.doRestart now x p).1) (o := (a.doRestart now x p).2) ?_ ?_)
    · rw [doRestart_update]
      rfl
    · rw [doRestart_snd_eq]
      split <;> rfl
  | close => exact C.close a
  | failed => exact C.quiet rfl (fun _ h => by cases h) rfl
  | select id =>
    have h1 : frame (a.select id).1 = frame a := by rw [select_update]; rfl
    have h2 : NoDgram (a.select id).2 := by
      obtain ⟨x, y, e⟩ := select_snd_eq a id
      rw [e]
      split <;> rfl
    exact C.still (b := (a.select id).1) (o := (a.select id).2) h1 h2
  | expire now => exact C.quiet rfl (fun _ h => (List.mem_filter.mp h).1) rfl
  | take tid => exact C.quiet rfl (fun _ h => (List.mem_filter.mp h).1) rfl
  | _ => exact C.still rfl rfl

theorem of_chain {cx : Ctx} (hc : ∀ now l src m, cx.answers now l src m → Ans m.tid) {a : Agent} {r : Agent × List Out}
    (h : Chain cx a r) : R a r :=
  Chain.ind C.refl (fun _ _ => C.move hc) C.seq h

theorem step (a : Agent) (e : Ev) (he : ∀ now la src m, e = .inbound now la src m → Ans m.tid) : R a (step a e) :=
  C.of_chain (cx := .step e a) (fun now _ src m ⟨⟨la, h, _⟩, _⟩ => he now la src m h) (step_chain a e)

end Closed
end IceProofs.Agent

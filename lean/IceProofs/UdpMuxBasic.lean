import IceModel.UdpMux
/-!
Basic lemmas about the data structures of `IceModel.UdpMux`: pointwise update, the association-list
maps, open-handle counting, address canonicalisation.
-/
namespace IceProofs.UdpMux
open IceModel.UdpMux

@[simp] theorem upd_same {α : Type} (f : Nat → α) (i : Nat) (v : α) : upd f i v i = v := by simp [upd]
theorem upd_ne {α : Type} (f : Nat → α) {i j : Nat} (v : α) (h : j ≠ i) : upd f i v j = f j := by simp [upd, h]
theorem upd_apply {α : Type} (f : Nat → α) (i j : Nat) (v : α) : upd f i v j = if j = i then v else f j := rfl

theorem upd_proj {α β : Type} (g : α → β) (f : Nat → α) (i : Nat) (v : α) (h : g v = g (f i)) (j : Nat) :
    g (upd f i v j) = g (f j) := by
  rw [upd_apply]
  split
  · next e => rw [e, h]
  · rfl

theorem AMap.get?_nil (x : Name) : AMap.get? [] x = none := rfl

theorem AMap.get?_cons (k : Name) (v : Nat) (m : AMap) (x : Name) :
    AMap.get? ((k, v) :: m) x = if k = x then some v else AMap.get? m x := rfl

theorem AMap.get?_del_self (m : AMap) (x : Name) : AMap.get? (AMap.del m x) x = none := by
  induction m with
  | nil => rfl
  | cons e m ih =>
    obtain ⟨k, v⟩ := e
    by_cases h : k = x
    · simp [AMap.del, List.filter, h]; simpa [AMap.del] using ih
    · simp [AMap.del, List.filter, h, AMap.get?_cons]; simpa [AMap.del] using ih

theorem AMap.get?_del_ne (m : AMap) {x y : Name} (h : y ≠ x) : AMap.get? (AMap.del m x) y = AMap.get? m y := by
  induction m with
  | nil => rfl
  | cons e m ih =>
    obtain ⟨k, v⟩ := e
    by_cases hk : k = x
    · subst hk
      have : k ≠ y := fun e => h e.symm
      simp [AMap.del, List.filter, AMap.get?_cons, this]; simpa [AMap.del] using ih
    · simp [AMap.del, List.filter, hk, AMap.get?_cons]
      split
      · rfl
      · simpa [AMap.del] using ih

theorem AMap.get?_del (m : AMap) (x y : Name) :
    AMap.get? (AMap.del m x) y = if y = x then none else AMap.get? m y := by
  by_cases h : y = x
  · subst h; simp [AMap.get?_del_self]
  · simp [h, AMap.get?_del_ne m h]

theorem AMap.get?_set (m : AMap) (x y : Name) (v : Nat) :
    AMap.get? (AMap.set m x v) y = if y = x then some v else AMap.get? m y := by
  unfold AMap.set
  rw [AMap.get?_cons]
  by_cases h : x = y
  · subst h; simp
  · have h' : y ≠ x := fun e => h e.symm
    simp [h, h', AMap.get?_del_ne m h']

theorem AMap.mem_of_get? (m : AMap) (x : Name) (v : Nat) (h : AMap.get? m x = some v) : (x, v) ∈ m := by
  induction m with
  | nil => simp [AMap.get?_nil] at h
  | cons e m ih =>
    obtain ⟨k, w⟩ := e
    rw [AMap.get?_cons] at h
    split at h
    · next hk => subst hk; injection h with h; subst h; simp
    · exact List.mem_cons_of_mem _ (ih h)

def AMap.WF (m : AMap) : Prop := (m.map Prod.fst).Nodup

theorem AMap.wf_nil : AMap.WF [] := by simp [AMap.WF]

theorem AMap.get?_of_mem (m : AMap) (hw : AMap.WF m) (x : Name) (v : Nat) (h : (x, v) ∈ m) :
    AMap.get? m x = some v := by
  induction m with
  | nil => simp at h
  | cons e m ih =>
    obtain ⟨k, w⟩ := e
    simp only [AMap.WF, List.map_cons, List.nodup_cons] at hw
    rw [AMap.get?_cons]
    rcases List.mem_cons.mp h with h | h
    · injection h with h1 h2; subst h1; subst h2; simp
    · have : k ≠ x := by
        intro e; subst e
        exact hw.1 (List.mem_map.mpr ⟨(k, v), h, rfl⟩)
      simp [this]; exact ih hw.2 h

theorem AMap.wf_del (m : AMap) (hw : AMap.WF m) (x : Name) : AMap.WF (AMap.del m x) := by
  unfold AMap.WF AMap.del at *
  exact List.Nodup.sublist (List.Sublist.map _ List.filter_sublist) hw

theorem AMap.not_mem_keys_del (m : AMap) (x : Name) : x ∉ (AMap.del m x).map Prod.fst := by
  intro h
  obtain ⟨e, he, hx⟩ := List.mem_map.mp h
  simp [AMap.del, List.mem_filter] at he
  exact he.2 hx

theorem AMap.wf_set (m : AMap) (hw : AMap.WF m) (x : Name) (v : Nat) : AMap.WF (AMap.set m x v) := by
  unfold AMap.set AMap.WF
  simp only [List.map_cons, List.nodup_cons]
  exact ⟨AMap.not_mem_keys_del m x, AMap.wf_del m hw x⟩

theorem AMap.mem_vals_iff (m : AMap) (hw : AMap.WF m) (c : Nat) :
    c ∈ AMap.vals m ↔ ∃ k, AMap.get? m k = some c := by
  constructor
  · intro h
    obtain ⟨e, he, hc⟩ := List.mem_map.mp h
    obtain ⟨k, v⟩ := e
    simp at hc; subst hc
    exact ⟨k, AMap.get?_of_mem m hw k v he⟩
  · intro ⟨k, hk⟩
    exact List.mem_map.mpr ⟨(k, c), AMap.mem_of_get? m k c hk, rfl⟩

/-- number of `i < n` with `p i` -/
def cnt (p : Nat → Bool) : Nat → Nat
  | 0 => 0
  | n + 1 => cnt p n + (if p n then 1 else 0)

theorem cnt_congr (p q : Nat → Bool) (n : Nat) (h : ∀ i, i < n → p i = q i) : cnt p n = cnt q n := by
  induction n with
  | zero => rfl
  | succ n ih =>
    simp only [cnt]
    rw [ih (fun i hi => h i (Nat.lt_succ_of_lt hi)), h n (Nat.lt_succ_self n)]

theorem cnt_range (p : Nat → Bool) (n : Nat) : (List.range n).countP p = cnt p n := by
  induction n with
  | zero => rfl
  | succ n ih =>
    rw [List.range_succ, List.countP_append, ih]
    simp only [cnt, List.countP_cons, List.countP_nil]
    cases p n <;> simp

theorem cnt_off (p q : Nat → Bool) (n h : Nat) (hh : h < n) (hp : p h = true) (hq : q h = false)
    (hrest : ∀ i, i ≠ h → q i = p i) : cnt q n + 1 = cnt p n := by
  induction n with
  | zero => omega
  | succ n ih =>
    simp only [cnt]
    by_cases e : h = n
    · subst e
      rw [hp, hq, cnt_congr q p h (fun i hi => hrest i (by omega))]
      simp
    · rw [hrest n (fun e' => e e'.symm)]
      have := ih (by omega)
      omega

theorem cnt_zero_iff (p : Nat → Bool) (n : Nat) : cnt p n = 0 ↔ ∀ i, i < n → p i = false := by
  induction n with
  | zero => simp [cnt]
  | succ n ih =>
    simp only [cnt]
    constructor
    · intro h i hi
      have h1 : cnt p n = 0 := by omega
      have h2 : p n = false := by
        cases hp : p n
        · rfl
        · rw [hp] at h; simp at h
      by_cases e : i = n
      · subst e; exact h2
      · exact (ih.mp h1) i (by omega)
    · intro h
      rw [(ih.mpr (fun i hi => h i (by omega))), h n (by omega)]
      simp

theorem canonAddr_port (a : Addr) : (canonAddr a).port = a.port := rfl

/-- the address is an IPv4 address (4-byte form or `::ffff:a.b.c.d`) -/
def V4ish (ip : IP) : Prop := ip.is4 = true ∨ (ip.hi = 0 ∧ ip.lo / two32 = 65535)

instance (ip : IP) : Decidable (V4ish ip) := by unfold V4ish; exact inferInstance

theorem is4in6_eq (ip : IP) : is4in6 ip = (!ip.is4 && decide (ip.hi = 0 ∧ ip.lo / two32 = 65535)) := by
  by_cases h1 : ip.hi = 0 <;> by_cases h2 : ip.lo / two32 = 65535 <;> simp [is4in6, h1, h2]

theorem canonIP_eq (ip : IP) :
    canonIP ip =
      if V4ish ip then { is4 := true, hi := 0, lo := ip.lo % two32, zone := [] }
      else if llBits ip.hi = true then ip else { ip with zone := [] } := by
  obtain ⟨is4, hi, lo, zone⟩ := ip
  cases is4
  · by_cases h : hi = 0 ∧ lo / two32 = 65535
    · simp [canonIP, ofUDPAddr, unmap, is4in6_eq, V4ish, h, isLinkLocal6, withZone]
    · by_cases hl : llBits hi = true
      · simp [canonIP, ofUDPAddr, unmap, is4in6_eq, V4ish, h, isLinkLocal6, hl]
      · simp [canonIP, ofUDPAddr, unmap, is4in6_eq, V4ish, h, isLinkLocal6, withZone, hl]
  · simp [canonIP, ofUDPAddr, unmap, is4in6_eq, V4ish, isLinkLocal6, withZone]

theorem is4_false_of_not_V4ish {ip : IP} (h : ¬ V4ish ip) : ip.is4 = false := by
  cases hh : ip.is4
  · rfl
  · exact absurd (Or.inl hh) h

theorem canonIP_is4 (ip : IP) : (canonIP ip).is4 = decide (V4ish ip) := by
  rw [canonIP_eq]
  by_cases h : V4ish ip
  · simp [h]
  · have h4 := is4_false_of_not_V4ish h
    simp [h]; split <;> simp [h4]

theorem canonIP_idem (ip : IP) : canonIP (canonIP ip) = canonIP ip := by
  rw [canonIP_eq ip]
  by_cases h : V4ish ip
  · simp only [h, if_true]
    rw [canonIP_eq]
    simp [V4ish]
  · simp only [h, if_false]
    by_cases hl : llBits ip.hi = true
    · simp only [hl, if_true]
      rw [canonIP_eq]; simp [h, hl]
    · simp only [hl]
      rw [canonIP_eq]
      have h' : ¬ V4ish { ip with zone := [] } := by simpa [V4ish] using h
      simp [h', hl]

theorem canonAddr_idem (a : Addr) : canonAddr (canonAddr a) = canonAddr a := by
  simp [canonAddr, canonIP_idem]

end IceProofs.UdpMux

import IceProofs.AgentC07Ctl
import IceProofs.AgentC06Retarget
/-!
# The invariant of the data plane and its preservation by every event

`InvC a`: uids of current local / remote candidates are below `nextUid` and pairwise distinct, and every
cache entry `(l, s, r)` names a current local candidate `l` and a current remote candidate `r` with
`r.addr = s` and `r.net = l.net`.  It only looks at (uid, net, addr) of candidates (`ckey`), the caches and
`nextUid`, so it is carried along any `Fr` step.  `Inv`, the invariant of reachable states, is kept by every move that
lists no remote candidate (`inv_move`, by what the move `Does`).  The listing of a remote candidate (`addRemoteCandidate`,
with the supersession of peer-reflexive candidates and the rewriting of the caches) is no fact of single moves — that no
pair names a dropped candidate is the work of the whole loop —: it is read off the exact form of that loop
(`AgentC06.supersede_exact`; `InvA_listed`).  So every event keeps `Inv` (`step_inv`).  Outside the data plane EVERY move
frames the data plane (`fr0_move`), so every such event does (`fr0_step`).
-/
namespace IceProofs.AgentC07
open IceModel.AgentCore IceProofs.Agent

def InvK (ls rs cs : List (Nat × Nat × Nat)) (n : Nat) : Prop :=
  (∀ k ∈ ls, k.1 < n) ∧ ls.Pairwise (fun x y => x.1 ≠ y.1) ∧
  (∀ k ∈ rs, k.1 < n) ∧ rs.Pairwise (fun x y => x.1 ≠ y.1) ∧
  ∀ e ∈ cs, ∃ lk ∈ ls, lk.1 = e.1 ∧ (e.2.2, lk.2.1, e.2.1) ∈ rs

def InvC (a : Agent) : Prop := InvK (a.locals.map ckey) (a.remotes.map ckey) a.caches a.nextUid

theorem InvC_iff (a : Agent) : InvC a ↔
    (∀ c ∈ a.locals, c.uid < a.nextUid) ∧ a.locals.Pairwise (fun x y => x.uid ≠ y.uid) ∧
    (∀ c ∈ a.remotes, c.uid < a.nextUid) ∧ a.remotes.Pairwise (fun x y => x.uid ≠ y.uid) ∧
    ∀ e ∈ a.caches, ∃ l ∈ a.locals, l.uid = e.1 ∧ ∃ r ∈ a.remotes, r.uid = e.2.2 ∧ r.addr = e.2.1 ∧ r.net = l.net := by
  unfold InvC InvK
  rw [List.pairwise_map, List.pairwise_map]
  constructor
  · rintro ⟨h1, h2, h3, h4, h5⟩
    refine ⟨fun c hc => h1 _ (List.mem_map_of_mem hc), h2, fun c hc => h3 _ (List.mem_map_of_mem hc), h4, fun e he => ?_⟩
    obtain ⟨lk, hlk, e1, hrk⟩ := h5 e he
    obtain ⟨l, hl, rfl⟩ := List.mem_map.mp hlk
    obtain ⟨r, hr, er⟩ := List.mem_map.mp hrk
    simp only [ckey, Prod.mk.injEq] at er e1
    exact ⟨l, hl, e1, r, hr, er.1, er.2.2, er.2.1⟩
  · rintro ⟨h1, h2, h3, h4, h5⟩
    refine ⟨fun k hk => ?_, h2, fun k hk => ?_, h4, fun e he => ?_⟩
    · obtain ⟨c, hc, rfl⟩ := List.mem_map.mp hk
      exact h1 c hc
    · obtain ⟨c, hc, rfl⟩ := List.mem_map.mp hk
      exact h3 c hc
    · obtain ⟨l, hl, e1, r, hr, e2, e3, e4⟩ := h5 e he
      refine ⟨ckey l, List.mem_map_of_mem hl, e1, ?_⟩
      have : (e.2.2, (ckey l).2.1, e.2.1) = ckey r := by simp [ckey, e2, e3, e4]
      rw [this]
      exact List.mem_map_of_mem hr

theorem InvC_of_Fr {a b : Agent} (h : Fr a b) (hi : InvC a) : InvC b := by
  rcases h.cands with ⟨k1, k2, k3⟩ | ⟨w1, w2, w3⟩
  · unfold InvC at *
    rw [k1, k2, k3, h.nuid]
    exact hi
  · unfold InvC InvK
    rw [w1, w2, w3]
    simp

/-- the whole invariant of an open agent: cache invariant, pair ids issued and distinct, pairs resolvable -/
def InvA (a : Agent) : Prop := InvC a ∧ IdsBounded a ∧ Res a

/-- invariant of reachable states: cache invariant, pair ids issued and distinct, and — while the agent
is open — every listed pair resolvable. -/
def Inv (a : Agent) : Prop := InvC a ∧ IdsBounded a ∧ (a.closed = false → Res a)

theorem Inv_of_InvA {a : Agent} (h : InvA a) : Inv a := ⟨h.1, h.2.1, fun _ => h.2.2⟩

theorem Fr.invA {a b : Agent} (h : Fr a b) (hi : InvA a) : InvA b := ⟨InvC_of_Fr h hi.1, h.bnd hi.2.1, h.rsv hi.2.2⟩

/-- a closed agent stays closed, so that it need not resolve its pairs -/
theorem Fr.inv {a b : Agent} (h : Fr a b) (hi : Inv a) : Inv b :=
  ⟨InvC_of_Fr h hi.1, h.bnd hi.2.1, fun hb => h.rsv (hi.2.2 (by
    cases ha : a.closed with
    | false => rfl
    | true => rw [h.closed ha] at hb; cases hb))⟩

theorem InvC_addLocal_core (a : Agent) (c : Cand) (hi : InvC a) :
    InvC { a with nextUid := a.nextUid + 1, locals := a.locals ++ [{ c with uid := a.nextUid }] } := by
  rw [InvC_iff] at hi ⊢
  obtain ⟨h1, h2, h3, h4, h5⟩ := hi
  refine ⟨?_, ?_, ?_, h4, ?_⟩
  · intro x hx
    rcases List.mem_append.mp hx with hx | hx
    · exact Nat.lt_succ_of_lt (h1 x hx)
    · rw [List.mem_singleton.mp hx]; exact Nat.lt_succ_self _
  · refine List.pairwise_append.mpr ⟨h2, List.pairwise_singleton _ _, ?_⟩
    intro x hx y hy
    rw [List.mem_singleton.mp hy]
    exact Nat.ne_of_lt (h1 x hx)
  · intro x hx
    exact Nat.lt_succ_of_lt (h3 x hx)
  · intro e he
    obtain ⟨l, hl, e1, r, hr, e2⟩ := h5 e he
    exact ⟨l, List.mem_append_left _ hl, e1, r, hr, e2⟩

theorem Fr_requestCheck (b : Agent) : Fr b b.requestCheck := by fr_same

theorem Res_supersede (c : Cand) (olds : List Cand) (a : Agent) (hb : IdsBounded a) (hne : c.uid ∉ olds.map (·.uid))
    (hc : c.uid ∈ ruids a) (hr : Res a) :
    ∀ p ∈ (supersede a olds c).1.checklist, p.l ∈ luids a ∧ p.r ∈ ruids a ∧ p.r ∉ olds.map (·.uid) := by
  obtain ⟨h1, _, _⟩ := AgentC06.supersede_exact a olds c (List.pairwise_map.2 hb.2) hne
  rw [h1]
  intro p' hp'
  obtain ⟨p, hp, rfl⟩ := List.mem_map.mp hp'
  by_cases hs : (olds.map (·.uid)).contains p.r = true
  · rw [AgentC06.retarget_of_mem _ _ _ _ _ hs]
    exact ⟨(hr p hp).1, hc, hne⟩
  · rw [AgentC06.retarget_of_not_mem _ _ _ _ _ (by simpa using hs)]
    exact ⟨(hr p hp).1, (hr p hp).2, fun h => hs (List.contains_iff_mem.2 h)⟩

theorem InvC_supersede (a a4 : Agent) (c2 : Cand) (replaced : List Cand) (hi : InvC a)
    (hu : c2.uid = a.nextUid)
    (hrep : ∀ old ∈ replaced, old ∈ a.remotes ∧ old.net = c2.net ∧ old.addr = c2.addr)
    (hl : a4.locals = a.locals) (hn : a4.nextUid = a.nextUid + 1)
    (hr : a4.remotes = (a.remotes ++ [c2]).filter fun e => !(replaced.any fun x => x.uid == e.uid))
    (hc : a4.caches = a.caches.map (AgentC06.recache (replaced.map (·.uid)) c2.uid)) : InvC a4 := by
  rw [InvC_iff] at hi ⊢
  obtain ⟨h1, h2, h3, h4, h5⟩ := hi
  rw [hl, hn, hr, hc]
  have keep : ∀ r ∈ a.remotes ++ [c2], r.uid ∉ replaced.map (·.uid) →
      r ∈ (a.remotes ++ [c2]).filter fun e => !(replaced.any fun x => x.uid == e.uid) := fun r hr hno => by
    refine List.mem_filter.mpr ⟨hr, ?_⟩
    simp only [Bool.not_eq_true', List.any_eq_false, beq_iff_eq]
    exact fun x hx e => hno (List.mem_map.mpr ⟨x, hx, e⟩)
  have hc2 := keep c2 (List.mem_append_right _ List.mem_cons_self) fun h => by
    obtain ⟨x, hx, e⟩ := List.mem_map.mp h
    have := h3 x (hrep x hx).1
    omega
  refine ⟨fun x hx => Nat.lt_succ_of_lt (h1 x hx), h2, ?_, ?_, ?_⟩
  · intro x hx
    rcases List.mem_append.mp (List.mem_filter.mp hx).1 with hx | hx
    · exact Nat.lt_succ_of_lt (h3 x hx)
    · rw [List.mem_singleton.mp hx, hu]; exact Nat.lt_succ_self _
  · refine List.Pairwise.filter _ (List.pairwise_append.mpr ⟨h4, List.pairwise_singleton _ _, ?_⟩)
    intro x hx y hy
    rw [List.mem_singleton.mp hy, hu]
    exact Nat.ne_of_lt (h3 x hx)
  · intro e' he'
    obtain ⟨e, he, rfl⟩ := List.mem_map.mp he'
    obtain ⟨l, hl', el, r, hr', er1, er2, er3⟩ := h5 e he
    unfold AgentC06.recache
    split
    · -- the entry named a superseded candidate: it has the address and network type of `c2`
      rename_i hs
      obtain ⟨old, ho, hy⟩ := List.mem_map.mp (List.contains_iff_mem.1 hs)
      obtain ⟨m1, m2, m3⟩ := hrep old ho
      have : r = old := eq_of_key_nodup (k := Cand.uid) (List.pairwise_map.2 h4) hr' m1 (by rw [er1, hy])
      subst this
      exact ⟨l, hl', el, c2, hc2, rfl, by rw [← m3]; exact er2, by rw [← m2]; exact er3⟩
    · rename_i hs
      exact ⟨l, hl', el, r, keep r (List.mem_append_left _ hr') fun h => hs (List.contains_iff_mem.2 (er1 ▸ h)), er1, er2, er3⟩

theorem InvA_listed (a : Agent) (c1 : Cand) (olds : List Cand) (hi : InvA a) (hu : c1.uid = a.nextUid)
    (hrep : ∀ old ∈ olds, old ∈ a.remotes ∧ old.net = c1.net ∧ old.addr = c1.addr) :
    InvA (pairUp { (supersede { a with nextUid := a.nextUid + 1, remotes := a.remotes ++ [c1] } olds c1).1 with
      remotes := (supersede { a with nextUid := a.nextUid + 1, remotes := a.remotes ++ [c1] } olds c1).1.remotes.filter
        fun e => !(olds.any fun y => y.uid == e.uid) } c1).requestCheck := by
  obtain ⟨hic, hib, hir⟩ := hi
  have hlt := ((InvC_iff a).mp hic).2.2.1
  have hne : c1.uid ∉ olds.map (·.uid) := fun h => by
    obtain ⟨x, hx, e⟩ := List.mem_map.mp h
    have := hlt x (hrep x hx).1
    omega
  have hc1 : c1.uid ∈ ruids { a with nextUid := a.nextUid + 1, remotes := a.remotes ++ [c1] } :=
    List.mem_map_of_mem (f := Cand.uid) (a := c1) (List.mem_append_right _ List.mem_cons_self)
  have r2 : Res { a with nextUid := a.nextUid + 1, remotes := a.remotes ++ [c1] } := fun p hp =>
    ⟨(hir p hp).1, by
      show p.r ∈ List.map _ (a.remotes ++ [c1])
      rw [List.map_append]
      exact List.mem_append_left _ (hir p hp).2⟩
  have hib1 : IdsBounded { a with nextUid := a.nextUid + 1, remotes := a.remotes ++ [c1] } := hib
  have hres := Res_supersede c1 olds _ hib1 hne hc1 r2
  obtain ⟨h1, h2, h3⟩ := AgentC06.supersede_exact { a with nextUid := a.nextUid + 1, remotes := a.remotes ++ [c1] } olds c1
    (List.pairwise_map.2 hib.2) hne
  generalize supersede { a with nextUid := a.nextUid + 1, remotes := a.remotes ++ [c1] } olds c1 = x at hres h1 h2 h3 ⊢
  -- after the drop
  have i4 : InvC { x.1 with remotes := x.1.remotes.filter fun e => !(olds.any fun y => y.uid == e.uid) } :=
    InvC_supersede a _ c1 olds hic hu hrep h3.locals h3.nextUid (by show List.filter _ x.1.remotes = _; rw [h3.remotes]) h2
  have b4 : IdsBounded { x.1 with remotes := x.1.remotes.filter fun e => !(olds.any fun y => y.uid == e.uid) } := by
    unfold IdsBounded
    show (∀ p ∈ x.1.checklist, p.id ≤ x.1.nextPairID) ∧ x.1.checklist.Pairwise _
    rw [h1, h3.nextPairID, List.pairwise_map]
    exact ⟨fun p hp => by obtain ⟨q, hq, rfl⟩ := List.mem_map.mp hp; rw [AgentC06.retarget_id]; exact hib.1 q hq,
      hib.2.imp fun {p q} h => by rw [AgentC06.retarget_id, AgentC06.retarget_id]; exact h⟩
  have keepr : ∀ u ∈ ruids { a with nextUid := a.nextUid + 1, remotes := a.remotes ++ [c1] }, u ∉ olds.map (·.uid) →
      u ∈ ruids { x.1 with remotes := x.1.remotes.filter fun e => !(olds.any fun y => y.uid == e.uid) } := fun u hu hno => by
    obtain ⟨r, hr, rfl⟩ := List.mem_map.mp hu
    refine List.mem_map_of_mem (f := Cand.uid) (List.mem_filter.mpr ⟨h3.remotes ▸ hr, ?_⟩)
    simp only [Bool.not_eq_true', List.any_eq_false, beq_iff_eq]
    exact fun y hy e => hno (List.mem_map.mpr ⟨y, hy, e⟩)
  have r4 : Res { x.1 with remotes := x.1.remotes.filter fun e => !(olds.any fun y => y.uid == e.uid) } := fun p hp =>
    ⟨by show p.l ∈ List.map _ x.1.locals; rw [h3.locals]; exact (hres p hp).1, keepr _ (hres p hp).2.1 (hres p hp).2.2⟩
  -- the new candidate is paired up
  have f45 := pairUp_rule (P := fun y => Fr { x.1 with remotes := x.1.remotes.filter fun e => !(olds.any fun y => y.uid == e.uid) } y.1 ∧
      luids y.1 = luids { x.1 with remotes := x.1.remotes.filter fun e => !(olds.any fun y => y.uid == e.uid) } ∧
      ruids y.1 = ruids { x.1 with remotes := x.1.remotes.filter fun e => !(olds.any fun y => y.uid == e.uid) })
    _ c1 [] ⟨Fr.refl _, rfl, rfl⟩ fun b o l hl _ _ _ ⟨f, e1, e2⟩ =>
      ⟨f.trans (Fr.addPair b l c1 (e1 ▸ List.mem_map_of_mem hl) (e2 ▸ keepr _ hc1 hne)), e1, e2⟩
  have f := f45.1.trans (Fr_requestCheck _)
  exact ⟨InvC_of_Fr f i4, f.bnd b4, f.rsv r4⟩

theorem addRemote_inv (a : Agent) (c : Cand) (hi : InvA a) : InvA (a.addRemoteCandidate c).1 := by
  rw [addRemoteCandidate_stages]
  split
  · exact hi
  · split
    · exact hi
    · exact InvA_listed a (adopted a c) (superseded a { c with uid := a.nextUid }) hi
        (congrArg Cand.uid (adopted_bare a c)) fun old ho =>
          have h := mem_superseded ho
          ⟨h.1, h.2.2.1.trans (congrArg Cand.net (adopted_bare a c)).symm,
            h.2.2.2.1.trans (congrArg Cand.addr (adopted_bare a c)).symm⟩

theorem inv_handleInbound (a : Agent) (now : Nat) (l : Cand) (src : Nat) (m : Msg) (hc : a.closed = false)
    (hl : l ∈ a.locals) (hi : Inv a) : Inv (a.handleInbound now l src m).1 := by
  have hi : InvA a := ⟨hi.1, hi.2.1, hi.2.2 hc⟩
  have h1 : InvA (resolveSource a l src m).1 := by
    rcases resolveSource_cases a l src m with ⟨r, hr, he⟩ | ⟨_, he⟩ <;> rw [he]
    · exact hi
    · exact addRemote_inv a _ hi
  refine Inv_of_InvA (handleInbound_rule (Q := fun x => InvA x.1) a now l src m hi
    (fun r _ _ _ => ((Fr_handleSuccess a now m l r src).trans (Fr.seenRemoteRecv _ _ _)).invA hi)
    (fun r _ => (Fr.seenRemoteRecv _ _ _).invA hi) (fun _ _ => h1) fun _ r hr => ?_)
  obtain ⟨g1, g2, g3, g4⟩ := resolveSource_some hr
  exact (Fr_afterResolve (resolveSource a l src m).1 now l m (resolveSource a l src m).2.1 r
    (src := src) ⟨.of_mem (g4 ▸ hl), .of_mem g1, g2.symm, g3⟩).invA h1

/-- the four data-plane events -/
def isData : Ev → Bool
  | .write .. | .writeToPair .. | .inboundData .. | .read .. => true
  | _ => false

theorem isData_of_may {e : Ev} (h : mayOf e .data) : isData e = true := by
  cases e <;> simp [mayOf] at h <;> rfl

variable {cx : Ctx}

theorem inv_move (C : Ctl cx) {a : Agent} {r : Agent × List Out} (h : Move cx a r) (hi : Inv a) : Inv r.1 := by
  obtain ⟨i, bd, rs⟩ := hi
  obtain ⟨b, o⟩ := r
  have d : Does cx a b := fr_move C h
  cases d with
  | frames f => exact f.inv ⟨i, bd, rs⟩
  | lists c _ hc =>
    -- under a fresh uid
    refine ⟨InvC_addLocal_core a c i, bd, fun _ p hp => ⟨?_, (rs hc p hp).2⟩⟩
    show p.l ∈ List.map _ (a.locals ++ _)
    rw [List.map_append]
    exact List.mem_append_left _ (rs hc p hp).1
  | closes =>
    -- no candidates, no caches, and a closed agent need not resolve its pairs
    refine ⟨?_, bd, fun hb => by cases hb⟩
    unfold InvC InvK
    simp
  | counts id f hd hf =>
    exact ⟨i, IdsBounded_updPair a _ id f (fun p => (hf p).1) rfl rfl bd,
      fun hc => Res_updPair a _ id f (fun p => ⟨(hf p).2.1, Or.inl (hf p).2.2⟩) rfl rfl rfl (rs hc)⟩
  | queues b hd e =>
    simp only [Prod.mk.injEq] at e
    obtain ⟨e1, e2, e3, e4, e5, e6, e7⟩ := e
    refine ⟨by unfold InvC; rw [e1, e2, e3, e4]; exact i, by unfold IdsBounded; rw [e5, e6]; exact bd, fun hc => ?_⟩
    unfold Res luids ruids
    rw [e1, e2, e5]
    exact rs (e7 ▸ hc)
  | caches l r' src hd hf hl =>
    refine ⟨?_, bd, rs⟩
    -- the new entry names `l` and the remote candidate found at `src` on the network of `l`
    obtain ⟨i1, i2, i3, i4, i5⟩ := i
    refine ⟨i1, i2, i3, i4, fun e he => ?_⟩
    rcases List.mem_append.mp he with he | he
    · exact i5 e he
    · rw [List.mem_singleton.mp he]
      have hp := List.find?_some hf
      simp only [Bool.and_eq_true, beq_iff_eq] at hp
      refine ⟨ckey l, List.mem_map_of_mem hl, rfl, ?_⟩
      have : (r'.uid, (ckey l).2.1, src) = ckey r' := by simp [ckey, hp.1, hp.2]
      show (r'.uid, (ckey l).2.1, src) ∈ _
      rw [this]
      exact List.mem_map_of_mem (List.mem_of_find?_eq_some hf)

theorem inv_chain (C : Ctl cx) {a : Agent} {r : Agent × List Out} (h : Chain cx a r) (hi : Inv a) : Inv r.1 :=
  Chain.ind (R := fun a r => Inv a → Inv r.1) (fun _ hi => hi) (fun _ _ => inv_move C) (fun h1 h2 hi => h2 (h1 hi)) h hi

theorem fr0_step (a : Agent) (e : Ev) (hd : isData e = false) : Fr0 a (step a e).1 :=
  fr0_chain (cx := .step e a) (fun h => by rw [isData_of_may h] at hd; cases hd) (step_chain a e)

theorem step_inv (a : Agent) (e : Ev) (hi : Inv a) : Inv (step a e).1 := by
  have forced : ∀ (x : Agent × List Out) now, Inv x.1 → Inv (thenForced x now).1 := fun x now h =>
    (Fr_runForced x.1 now).inv h
  by_cases hr : mayOf e .remotes
  · cases e with
    | addRemote now c =>
      exact step_addRemote_rule (Q := fun x => Inv x.1) a now c (fun _ => hi) hi fun hc _ =>
        forced (_, _) now (Inv_of_InvA (addRemote_inv a c ⟨hi.1, hi.2.1, hi.2.2 hc⟩))
    | inbound now la src m =>
      exact step_inbound_rule (Q := fun x => Inv x.1) a now la src m hi fun hc _ l hl =>
        forced _ now (inv_handleInbound a now l src m hc (List.mem_of_find?_eq_some hl) hi)
    | _ => simp [mayOf] at hr
  · exact inv_chain (cx := .step e a) ⟨hr, trivial⟩ (step_chain a e) hi

end IceProofs.AgentC07

import IceProofs.Sys2C01LiveReach
/-!
# C01 liveness — the decidable start condition `ReadyD` of the rounds

`ReadyD`; `roundBound`.  (That a reachable `ReadyD` state satisfies the round invariant is `ready_rinv`, in `Sys2C01LiveWide`.)
-/
namespace IceProofs.C01Live
open IceModel.AgentCore IceModel.Sys2 IceProofs.Sys2Run IceProofs.C01 IceProofs.Agent IceProofs.C03

/-- the remote candidate of the selected pair (if any) was heard recently enough (decidable form of `Timely.sel`) -/
def SelHeard (H : Nat) (a : Agent) : Prop :=
  match a.selected with
  | none => True
  | some id =>
    match a.pairById id with
    | none => False
    | some p =>
      match a.remoteOf p.r with
      | none => False
      | some r =>
        match r.lastRecv with
        | none => False
        | some t => QuietFor a.cfg (H - t)

instance (H : Nat) (a : Agent) : Decidable (SelHeard H a) := by
  unfold SelHeard
  repeat' split
  all_goals infer_instance

/-- the timer is armed, not before `T0` -/
def TickFrom (T0 : Nat) (a : Agent) : Prop := match a.nextTick with | some t => T0 ≤ t | none => False

instance (T0 : Nat) (a : Agent) : Decidable (TickFrom T0 a) := by unfold TickFrom; split <;> infer_instance

/-- `Good`, as a decidable conjunction -/
def GoodD (T0 H : Nat) (a : Agent) : Prop :=
  a.cfg.lite = false ∧ a.started = true ∧ a.closed = false ∧ a.forcePending = false ∧ a.connState ≠ .failed ∧
  CandsOK a.locals ∧ (∀ p ∈ a.checklist, p.id ≤ a.nextPairID) ∧ a.checklist.Pairwise (fun p q => p.id ≠ q.id) ∧
  CandsOK a.remotes ∧ NoDefer a ∧ SuccEnds a ∧ NomOK a ∧ PendOK a ∧ SelConn a ∧
  (a.checkingTimeout = 0 ∨ (H - T0 ≤ a.checkingTimeout ∧ (a.lastSeen = .checking → H ≤ a.checkingStart + a.checkingTimeout))) ∧
  QuietFor a.cfg (H - T0) ∧ SelHeard H a ∧ TickFrom T0 a

instance (T0 H : Nat) (a : Agent) : Decidable (GoodD T0 H a) := by
  unfold GoodD CandsOK NoDefer SuccEnds NomOK PendOK SelConn
  infer_instance

theorem GoodD.good {T0 H : Nat} {a : Agent} (h : GoodD T0 H a) : Good T0 H a := by
  obtain ⟨h1, h2, h3, h4, h5, h6, h7, h8, h9, h10, h11, h12, h13, h14, h15, h16, h17, h18⟩ := h
  refine ⟨h1, h2, h3, h4, h5, h6, ⟨⟨h7, h8⟩, h9, h10, h11, h12, h13, h14⟩, ⟨h15, h16, ?_⟩, ?_⟩
  · intro sid hid
    unfold SelHeard at h17
    rw [hid] at h17
    simp only [] at h17
    cases hp : a.pairById sid with
    | none => rw [hp] at h17; exact h17.elim
    | some p =>
      rw [hp] at h17
      simp only [] at h17
      cases hr : a.remoteOf p.r with
      | none => rw [hr] at h17; exact h17.elim
      | some r =>
        rw [hr] at h17
        simp only [] at h17
        cases ht : r.lastRecv with
        | none => rw [ht] at h17; exact h17.elim
        | some t =>
          rw [ht] at h17
          exact ⟨p, r, t, rfl, hr, ht, h17⟩
  · unfold TickFrom at h18
    cases ht : a.nextTick with
    | none => rw [ht] at h18; exact h18.elim
    | some t => rw [ht] at h18; exact ⟨t, rfl, h18⟩

/-- `DgOK`, decidable -/
def DgOKd (s : Sys) (d : Dgram) : Prop :=
  match d.p with
  | .data _ => False
  | .stun m => m.cls = 0 → ∀ x : Bool, m.key = some (s.agent x).localPwd →
      m.nom = none ∧ NoConflict (s.agent x) m ∧ (s.agent x).cfg.blockedIPs.contains (ipOf (s.mapped d.src)) = false

instance (s : Sys) (d : Dgram) : Decidable (DgOKd s d) := by unfold DgOKd; split <;> infer_instance

theorem DgOKd.ok {s : Sys} {d : Dgram} (h : DgOKd s d) : DgOK s d := by
  unfold DgOKd at h
  cases hp : d.p with
  | data n => rw [hp] at h; exact h.elim
  | stun m =>
    rw [hp] at h
    exact ⟨⟨m, hp⟩, fun m' hm' => by rw [hp] at hm'; cases hm'; exact h⟩

/-- the timer of the controlling agent is due within the next two seconds -/
def TickSoon (now : Nat) (a : Agent) : Prop :=
  match a.nextTick with | some t => now ≤ t ∧ t ≤ now + 2000000000 | none => False

instance (now : Nat) (a : Agent) : Decidable (TickSoon now a) := by unfold TickSoon; split <;> infer_instance

/-- a pair of the controlling agent waiting / in progress, under its request budget, on a `Link` (decidable) -/
def BudgetPairD (c : Bool) (s : Sys) : Prop :=
  ∃ p ∈ (s.agent c).checklist, (p.state = .waiting ∨ p.state = .inProgress) ∧ p.reqCount ≤ (s.agent c).cfg.maxBindingRequests ∧
    match (s.agent c).localOf p.l, (s.agent c).remoteOf p.r with
    | some l, some r => Link s c l.addr r.addr
    | _, _ => False

instance (c : Bool) (s : Sys) : Decidable (BudgetPairD c s) := by
  unfold BudgetPairD
  refine @List.decidableBEx _ _ (fun p => ?_) _
  refine @instDecidableAnd _ _ _ (@instDecidableAnd _ _ _ ?_)
  split <;> infer_instance

theorem ends_some {a : Agent} {p : Pair} {P : Cand → Cand → Prop}
    (h : match a.localOf p.l, a.remoteOf p.r with
      | some l, some r => P l r
      | _, _ => False) : ∃ l r, a.localOf p.l = some l ∧ a.remoteOf p.r = some r ∧ P l r := by
  cases hl : a.localOf p.l with
  | none => rw [hl] at h; exact h.elim
  | some l =>
    cases hr : a.remoteOf p.r with
    | none => rw [hl, hr] at h; exact h.elim
    | some r => rw [hl, hr] at h; exact ⟨l, r, rfl, rfl, h⟩

theorem ticks_some {a b : Agent} {P : Nat → Nat → Prop}
    (h : match a.nextTick, b.nextTick with
      | some ta, some tb => P ta tb
      | _, _ => False) : ∃ ta tb, a.nextTick = some ta ∧ b.nextTick = some tb ∧ P ta tb := by
  cases ha : a.nextTick with
  | none => rw [ha] at h; exact h.elim
  | some ta =>
    cases hb : b.nextTick with
    | none => rw [ha, hb] at h; exact h.elim
    | some tb => rw [ha, hb] at h; exact ⟨ta, tb, rfl, rfl, h⟩

theorem BudgetPairD.budget {c : Bool} {s : Sys} (h : BudgetPairD c s) : BudgetPair c s := by
  obtain ⟨p, hp, h1, h2, h3⟩ := h
  obtain ⟨l, r, hl, hr, h3⟩ := ends_some h3
  exact ⟨p, hp, h1, h2, l, r, hl, hr, h3⟩

/-- **the start condition** (decidable): on the state `s` reached by the prefix `pre` — both agents present, in
opposite roles (`c` controls) with each other's credentials, distinct passwords, disjoint local addresses; both `GoodD`
(started, open, full, not Failed, UDP4 candidates of known types with pairwise distinct addresses, bookkeeping
invariants, timeouts beyond the horizon `H`); nothing but acceptable STUN in flight; no remote-IP filter hits the
peer; the controlling agent has no selected pair and no USE-CANDIDATE transaction pending; its timer is due within
2 s; it cannot be answered from one of its own addresses; every address the controlled agent ever had a local
candidate at still carries one. -/
def ReadyD (pre : List SysEv) (c : Bool) (T0 H : Nat) (s : Sys) : Prop :=
  s.hasB = true ∧ (∀ x, (s.agent x).controlling = (x == c)) ∧
  (∀ x, (s.agent x).remoteUfrag = (s.agent (!x)).localUfrag) ∧ (∀ x, (s.agent x).remotePwd = (s.agent (!x)).localPwd) ∧
  s.a.localPwd ≠ s.b.localPwd ∧ Disj s ∧
  (∀ x, GoodD T0 H (s.agent x)) ∧
  (∀ d ∈ s.inflight, DgOKd s d) ∧ FilterOK s ∧
  (s.agent c).selected = none ∧ (∀ pd ∈ (s.agent c).pending, pd.useCand = false) ∧
  T0 ≤ s.now ∧ s.now ≤ H ∧ TickSoon s.now (s.agent c) ∧
  (∀ la ∈ localAddrsOf c pre, ∀ x ∈ localAddrsOf c pre, (x, mappedL s.nat la) ∈ s.blocked) ∧
  (∀ x ∈ localAddrsOf (!c) pre, ((s.agent (!c)).localByAddr x).isSome = true)

instance (pre : List SysEv) (c : Bool) (T0 H : Nat) (s : Sys) : Decidable (ReadyD pre c T0 H s) := by
  unfold ReadyD Disj FilterOK
  infer_instance

theorem ReadyD.full {pre : List SysEv} {c : Bool} {T0 H : Nat} {s : Sys} (h : ReadyD pre c T0 H s) (x : Bool) :
    (s.agent x).cfg.lite = false := (h.2.2.2.2.2.2.1 x).1

/-- the round bound: `(nomTime − first tick) / minInterval + 1` ticks take the clock past `nomTime` -/
def roundBound (c : Bool) (s : Sys) : Nat := (nomTime c s - tickTime c 0 s) / Config.minInterval (s.agent c).cfg + 1

end IceProofs.C01Live

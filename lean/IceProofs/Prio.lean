import IceModel.Prio
import IceModel.Crc32
/-!
# Facts about `IceModel.Prio` and the foundation key used by the C17 theorems
-/
namespace IceProofs.Prio
open IceModel.Prio IceModel.Crc32

theorem pairPriorityGD_eq (g d : Nat) (hg : g < 2 ^ 32) (hd : d < 2 ^ 32) :
    pairPriorityGD g d = if g ≤ d then 4294967295 * g + 2 * d else 4294967295 * d + 2 * g + 1 := by
  by_cases h : g ≤ d
  · rw [if_pos h, pairPriorityGD, Nat.min_eq_left h, Nat.max_eq_right h, if_neg (by omega)]; omega
  · rw [if_neg h, pairPriorityGD, Nat.min_eq_right (by omega), Nat.max_eq_left (by omega), if_pos (by omega)]; omega

theorem typeStr_ne_nil : ∀ t < 5, 1 ≤ t → (typeStr t).toList.head?.isSome = true := by decide +kernel

theorem typeStr_head_inj : ∀ t1 < 5, ∀ t2 < 5, 1 ≤ t1 → 1 ≤ t2 →
    (typeStr t1).toList.head? = (typeStr t2).toList.head? → t1 = t2 := by decide +kernel

end IceProofs.Prio

import IceProofs.AgentC06Step
/-!
# C06 — every `step` is a chain of atomic bookkeeping transitions

`Trans e w a b` lists the only ways the bookkeeping of an agent changes while event `e` is handled; `step_chain`
shows that `step a e` is a finite chain of them (through states that all satisfy `Inv`).  Every further property
(no duplicate pair, id stability, no residue after Failed, …) is then proved once per constructor.

How `Trans` relates to the elementary moves of `IceProofs.Agent.Move`: `evo` covers the moves on pairs, transactions,
timestamps, the selection and the scalar fields; `addP` is `Move.addPair` TOGETHER WITH the fact that the pair is new;
`wf` is `Move.failed`, `local` `Move.newLocal`, `cache` `Move.cache`, `close` `Move.close`, `connState` `Move.connState`
in a session call, `restart` `Move.restart` WITHOUT its change of state (here the `connState` transition that follows
it); and `remote` is `Move.newRemote`, every `retarget`/`recache` of the supersession and `Move.dropRemotes` taken as ONE
transition.  That is why the chain here is not derived from `Agent.Chain`: a single `dropRemotes` keeps `Inv` only after
the loops before it have retargeted EVERY pair and cache entry of the dropped candidates, and a single `addPair` only
where the pair is new — facts of whole loops under the invariant (`AgentC06Retarget.sup_fold`, `arcA4_spec`,
`alA2_spec`), which no move can carry as a test the code made.
-/
namespace IceProofs.AgentC06
open IceModel.AgentCore IceProofs.Agent

/-- the wiped agent of `Restart`, before the final `updateConnectionState(Checking)` -/
def restartCore (a : Agent) (now : Nat) (u p : String) : Agent :=
  { ((({ a with localUfrag := u, localPwd := p, remoteUfrag := "", remotePwd := "" } : Agent).wipe).resetSelector now) with
      generation := a.generation + 1 }

def closeCore (a : Agent) : Agent := { a with locals := [], remotes := [], caches := [], closed := true }

inductive Trans (e : Ev) (w : Bool) : Agent → Agent → Prop
  /-- non-wiping helper work: same pairs / candidates / caches / counters -/
  | evo {a b : Agent} (h : Evo a b) : Trans e w a b
  /-- one new pair for two current candidates of the same network type that are not paired yet -/
  | addP {a b : Agent} (h : AddP a b) : Trans e w a b
  /-- transition to Failed: everything wiped (only on the timer path, `w = true`) -/
  | wf {a b : Agent} (hw : w = true) (h : WF a b) : Trans e w a b
  /-- only the connection state moves (start / restart / close) -/
  | connState {a : Agent} (s : ConnState) (hs : s ≠ .failed)
      (hn : a.nominatedPair = none ∨ a.closed = true) : Trans e w a { a with connState := s }
  /-- a new local candidate is appended -/
  | local {a : Agent} (c : Cand) (hc : a.closed = false)
      (hf : (a.locals.filter (·.net == c.net)).find? (·.equal c) = none) : Trans e w a (alA1 a c)
  /-- a new remote candidate is appended, superseding peer-reflexive ones with its transport address; it is
  either a discovered peer-reflexive candidate or the candidate of an `addRemote` event -/
  | remote {a : Agent} (c : Cand) (hc : a.closed = false)
      (hb : a.cfg.blockedIPs.contains (ipOf c.addr) = false)
      (hf : (a.remotes.filter (·.net == c.net)).find? (·.equal c) = none)
      (hsrc : (c.ty = 3 ∧ c.rel = some 0 ∧ c.form = 0 ∧ c.tt = 0) ∨ ∃ now, e = .addRemote now c) : Trans e w a (arcA3 a c)
  /-- a validated source address is cached -/
  | cache {a : Agent} (x : Nat × Nat × Nat) (hl : ∃ l ∈ lcsOf a, l.uid = x.1)
      (hr : ∃ r ∈ rcsOf a, r.uid = x.2.2) (hc : a.closed = false) :
      Trans e w a { a with caches := a.caches ++ [x] }
  | restart {a : Agent} (now : Nat) (u p : String) (hc : a.closed = false) (he : e = .restart now u p) :
      Trans e w a (restartCore a now u p)
  | close {a : Agent} (hc : a.closed = false) (he : e = .close) : Trans e w a (closeCore a)

theorem Inv.trans {e : Ev} {w : Bool} {a b : Agent} (h : Inv a) (t : Trans e w a b) : Inv b := by
  cases t with
  | evo h' => exact h.evo h'
  | addP h' => exact h.addP h'
  | wf _ h' => exact h.wf h'
  | connState s hs hn => exact h.connState s (hn.imp_right Or.inl)
  | «local» c hc hf => exact h.alA1 c hc hf
  | remote c hc hb hf _ => exact h.stage3 c hc hb hf
  | cache x hl hr hc => exact h.addCache x hl hr hc
  | restart now u p _ _ => exact h.wiped rfl rfl rfl rfl rfl rfl rfl rfl rfl (Or.inl rfl)
  | close _ _ => exact h.close

inductive Chain (e : Ev) (w : Bool) : Agent → Agent → Prop
  | refl {a : Agent} : Chain e w a a
  | step {a b c : Agent} (h : Chain e w a b) (t : Trans e w b c) : Chain e w a c

theorem Chain.trans {e : Ev} {w : Bool} {a b c : Agent} (h1 : Chain e w a b) (h2 : Chain e w b c) : Chain e w a c := by
  induction h2 with
  | refl => exact h1
  | step _ t ih => exact .step ih t

theorem Chain.one {e : Ev} {w : Bool} {a b : Agent} (t : Trans e w a b) : Chain e w a b := .step .refl t

theorem Inv.chain {e : Ev} {w : Bool} {a b : Agent} (h : Inv a) (c : Chain e w a b) : Inv b := by
  induction c with
  | refl => exact h
  | step _ t ih => exact ih.trans t

theorem Chain.preserves {e : Ev} {w : Bool} (P : Agent → Prop)
    (hP : ∀ b c, Inv b → P b → Trans e w b c → P c) {a a' : Agent} (hi : Inv a) (hp : P a)
    (c : Chain e w a a') : P a' := by
  induction c with
  | refl => exact hp
  | step c' t ih => exact hP _ _ (hi.chain c') ih t

theorem Chain.ofEvo {e : Ev} {w : Bool} {a b : Agent} (h : Evo a b) : Chain e w a b := .one (.evo h)
theorem Chain.ofSame {e : Ev} {w : Bool} {a b : Agent} (h : Same a b) : Chain e w a b := .one (.evo h.evo)

theorem Chain.ofEvoW {e : Ev} {a b : Agent} (h : EvoW a b) : Chain e true a b := by
  cases h with
  | evo h => exact .one (.evo h)
  | wf h => exact .one (.wf rfl h)

theorem Trans.lift {e : Ev} {a b : Agent} (t : Trans e false a b) : Trans e true a b := by
  cases t with
  | evo h => exact .evo h
  | addP h => exact .addP h
  | wf hw _ => cases hw
  | connState s hs hn => exact .connState s hs hn
  | «local» c hc hf => exact .local c hc hf
  | remote c hc hb hf hs => exact .remote c hc hb hf hs
  | cache x hl hr hc => exact .cache x hl hr hc
  | restart now u p hc he => exact .restart now u p hc he
  | close hc he => exact .close hc he

theorem Chain.lift {e : Ev} {a b : Agent} (c : Chain e false a b) : Chain e true a b := by
  induction c with
  | refl => exact .refl
  | step _ t ih => exact .step ih t.lift

theorem Chain.ofAddPs {e : Ev} {w : Bool} {a b : Agent} (h : AddPs a b) : Chain e w a b := by
  induction h with
  | refl => exact .refl
  | step _ p ih => exact .step ih (.addP p)

theorem Chain.ofHand {e : Ev} {w : Bool} {a b : Agent} (h : Hand a b) : Chain e w a b := by
  obtain ⟨a1, a2, h1, h2, h3⟩ := h
  exact ((Chain.ofEvo h1).step (.addP h2)).step (.evo h3)

theorem Chain.setConnState {e : Ev} {w : Bool} (a : Agent) (s : ConnState) (hs : s ≠ .failed)
    (hn : a.nominatedPair = none ∨ a.closed = true) : Chain e w a (a.setConnState s).1 := by
  rw [setConnState_fst a s hs]
  exact .one (.connState s hs hn)

theorem Chain.addRemoteCandidate {e : Ev} {w : Bool} {a : Agent} (hi : Inv a) (c : Cand) (hc : a.closed = false)
    (hsrc : (c.ty = 3 ∧ c.rel = some 0 ∧ c.form = 0 ∧ c.tt = 0) ∨ ∃ now, e = .addRemote now c) :
    Chain e w a (a.addRemoteCandidate c).1 :=
  arc_rule (Q := fun x => Chain e w a x.1) a c .refl (fun _ _ => .refl) fun hb hf =>
    ((Chain.one (.remote c hc hb hf hsrc)).trans (Chain.ofAddPs (arcA4_spec hi c hc hb hf).1)).trans
      (Chain.ofSame (Same.requestCheck _))

theorem Chain.addLocalCandidate {e : Ev} {w : Bool} {a : Agent} (hi : Inv a) (c : Cand) :
    Chain e w a (a.addLocalCandidate c).1 := by
  cases hc : a.closed with
  | true => rw [al_closed a c hc]; exact .refl
  | false =>
    cases hf : (a.locals.filter (·.net == c.net)).find? (·.equal c) with
    | some x => rw [al_dup a c x hc hf]; exact .refl
    | none =>
      rw [al_eq a c hc hf]
      exact ((Chain.one (.local c hc hf)).trans (Chain.ofAddPs (alA2_spec hi c hc hf))).trans
        (Chain.ofSame (Same.requestCheck _))

theorem Chain.handleInbound {e : Ev} {w : Bool} {a : Agent} (hi : Inv a) (hc : a.closed = false) (now : Nat) (l : Cand)
    (src : Nat) (m : Msg) (hl : l ∈ a.locals) : Chain e w a (a.handleInbound now l src m).1 := by
  obtain ⟨h1, h2, _, h4⟩ := resolveSource_spec hi hc l src m
  have hd : Chain e w a (resolveSource a l src m).1 := by
    rcases resolveSource_cases a l src m with ⟨r, _, he⟩ | ⟨_, he⟩ <;> rw [he]
    · exact .refl
    · exact Chain.addRemoteCandidate hi _ hc (Or.inl ⟨rfl, rfl, rfl, rfl⟩)
  refine handleInbound_rule (Q := fun x => Chain e w a x.1) a now l src m .refl
    (fun r _ _ _ => Chain.ofEvo ((Evo.handleSuccess a now m l r src).r_same (Same.seenRemoteRecv _ _ _)))
    (fun r _ => Chain.ofSame (Same.seenRemoteRecv _ _ _)) (fun _ _ => hd) fun _ r hr => ?_
  obtain ⟨h5, h6⟩ := h4 r hr
  exact hd.trans (Chain.ofHand (Hand.afterResolve _ h1 now l m _ r (h2 ▸ mem_lcsOf hl) h5 h6))

theorem Chain.ofDataSource {e : Ev} {w : Bool} {a : Agent} (hc : a.closed = false) (now : Nat) (l : Cand) (src : Nat)
    (hl : l ∈ a.locals) : ∀ b, dataSource a now l src = some b → Chain e w a b := by
  intro b hb
  unfold dataSource at hb
  split at hb
  · cases hb
    exact Chain.ofSame (Same.seenRemoteRecv _ _ _)
  · split at hb
    · rename_i r hr
      cases hb
      have e1 := (Same.seenRemoteRecv a r.uid now).evo
      exact (Chain.ofEvo e1).step (.cache (l.uid, src, r.uid) ⟨core l, e1.lcs ▸ mem_lcsOf hl, rfl⟩
        ⟨core r, e1.rcs ▸ mem_rcsOf (findRemote_listed hr).1, rfl⟩ (e1.closed ▸ hc))
    · cases hb

theorem Chain.inboundData {e : Ev} {w : Bool} {a : Agent} (hc : a.closed = false) (now : Nat) (l : Cand) (src len : Nat)
    (hl : l ∈ a.locals) : Chain e w a (a.inboundData now l src len).1 :=
  inboundData_rule (Q := fun x => Chain e w a x.1) a now l src len (fun _ => .refl)
    (fun b hb _ => Chain.ofDataSource hc now l src hl b hb)
    fun b hb _ => (Chain.ofDataSource hc now l src hl b hb).trans (Chain.ofEvo (Evo.enqueue b len))

theorem Chain.startCore {e : Ev} {w : Bool} (a : Agent) (now : Nat) (ctl : Bool) (ru rp : String) :
    Chain e w a (startCore a now ctl ru rp).1 := by
  have h1 : Evo a (({ a with controlling := ctl, remoteUfrag := ru, remotePwd := rp, started := true } :
      Agent).resetSelector now) := Evo.clearNominatedPair a _ rfl rfl rfl rfl rfl rfl rfl rfl rfl rfl rfl
  have h := (Chain.ofEvo (e := e) (w := w) h1).trans (Chain.setConnState _ .checking (by simp) (Or.inl rfl))
  unfold Agent.startCore
  generalize (({ a with controlling := ctl, remoteUfrag := ru, remotePwd := rp, started := true } :
      Agent).resetSelector now).setConnState .checking = sc at h ⊢
  exact h.trans (Chain.ofSame rfl)

theorem Chain.doRestart {w : Bool} (a : Agent) (now : Nat) (u p : String) (hc : a.closed = false) :
    Chain (.restart now u p) w a (a.doRestart now u p).1 := by
  have h1 : Chain (.restart now u p) w a (restartCore a now u p) := .one (.restart now u p hc rfl)
  unfold Agent.doRestart
  dsimp only
  split
  · exact h1.trans (Chain.setConnState _ .checking (by simp) (Or.inl rfl))
  · exact h1

/-- `x` is reached by atomic non-wiping bookkeeping transitions followed by an evolution or the Failed wipe -/
def SplitAt (e : Ev) (a : Agent) (x : Agent × List Out) : Prop := ∃ b, Chain e false a b ∧ EvoW b x.1

theorem SplitAt.chain {e : Ev} {a : Agent} {x : Agent × List Out} (c : Chain e false a x.1) : SplitAt e a x :=
  ⟨x.1, c, EvoW.refl _⟩

theorem SplitAt.forced {e : Ev} {a : Agent} {x : Agent × List Out} (c : Chain e false a x.1) (now : Nat) :
    SplitAt e a (thenForced x now) := ⟨x.1, c, EvoW.runForced _ now⟩

theorem step_split {a : Agent} (h : Inv a) (e : Ev) :
    ∃ b, Chain e false a b ∧ EvoW b (step a e).1 := by
  show SplitAt e a (step a e)
  have idle : ∀ o, SplitAt e a (a, o) := fun _ => .chain .refl
  cases e with
  | addLocal now c => rw [step_addLocal]; exact .forced (Chain.addLocalCandidate h c) now
  | addRemote now c =>
    exact step_addRemote_rule a now c (fun _ => idle _) (idle _) fun hc _ =>
      .forced (x := (_, _)) (Chain.addRemoteCandidate h c hc (Or.inr ⟨now, rfl⟩)) now
  | start now ctl ru rp =>
    exact step_start_rule a now ctl ru rp (fun _ => idle _) fun _ _ => .forced (Chain.startCore a now ctl ru rp) now
  | setRemoteCreds ru rp =>
    exact step_setRemoteCreds_rule a ru rp (fun _ => idle _) fun _ => .chain (Chain.ofSame rfl)
  | advance now => rw [step_advance]; exact ⟨a, .refl, EvoW.runTimers a now _⟩
  | inbound now la src m =>
    exact step_inbound_rule a now la src m (idle _) fun hc _ l hl =>
      .forced (Chain.handleInbound h hc now l src m (localByAddr_listed hl).1) now
  | inboundData now la src len s =>
    exact step_inboundData_rule a now la src len s (idle _) fun hc _ _ l hl =>
      .chain (Chain.inboundData hc now l src len (localByAddr_listed hl).1)
  | write now len s =>
    rw [step_write]
    exact write_rule a now len s (fun _ => idle _) fun p _ _ _ =>
      .chain (Chain.ofSame ((Same.writeVia a now p len).trans rfl))
  | writeToPair now id len s =>
    rw [step_writeToPair]
    exact writeToPair_rule a now id len s (fun _ => idle _) fun p _ _ _ _ => .chain (Chain.ofSame (Same.writeVia a now p len))
  | read cap => exact step_read_rule a cap (fun _ => idle _) fun _ _ _ _ => .chain (Chain.ofSame rfl)
  | renominate now la ri v =>
    exact step_renominate_rule a now la ri v (fun _ => idle _) fun _ _ l r _ _ _ _ =>
      .chain (Chain.ofSame ((Same.sendRequest a now l r true _).trans rfl))
  | restart now u p => exact step_restart_rule a now u p (fun _ => idle _) fun hc => .chain (Chain.doRestart a now u p hc)
  | close =>
    exact step_close_rule a (fun _ => idle _) fun hc =>
      .chain ((Chain.one (.close hc rfl)).trans (Chain.setConnState _ .closed (by simp) (Or.inr rfl)))

theorem step_chain {a : Agent} (h : Inv a) (e : Ev) : Chain e true a (step a e).1 := by
  obtain ⟨b, h1, h2⟩ := step_split h e
  exact h1.lift.trans (Chain.ofEvoW h2)

theorem Inv.handleInbound {a : Agent} (hi : Inv a) (hc : a.closed = false) (now : Nat) (l : Cand) (src : Nat)
    (m : Msg) (hl : l ∈ a.locals) : Inv (a.handleInbound now l src m).1 :=
  hi.chain (Chain.handleInbound (e := .close) (w := false) hi hc now l src m hl)

theorem Inv.inboundData {a : Agent} (hi : Inv a) (hc : a.closed = false) (now : Nat) (l : Cand) (src len : Nat)
    (hl : l ∈ a.locals) : Inv (a.inboundData now l src len).1 :=
  hi.chain (Chain.inboundData (e := .close) (w := false) hc now l src len hl)

theorem Inv.addLocalCandidate {a : Agent} (h : Inv a) (c : Cand) : Inv (a.addLocalCandidate c).1 :=
  h.chain (Chain.addLocalCandidate (e := .close) (w := false) h c)

theorem Inv.step {a : Agent} (h : Inv a) (e : Ev) : Inv (step a e).1 := by
  obtain ⟨b, h1, h2⟩ := step_split h e
  exact (h.chain h1).evoW h2

end IceProofs.AgentC06

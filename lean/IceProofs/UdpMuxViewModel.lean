import IceProofs.UdpMuxSim
import IceProofs.UdpMuxView
/-!
# C12: every output of the model can be carried by the output line

The only part of a typed output the line cannot carry in general is the raw source address of a read
datagram (`wfAddr`).  The model returns on a read a source it was given by an earlier `inbound`
operation, so it is enough that the sources of the `inbound` operations are well formed (`opWf`) — and
those are exactly what the driver's `parseAddr` yields on a space-free token (`wfAddr_parseAddr`).
-/
namespace IceProofs.UdpMuxView
open IceModel.UdpMux IceProofs.UdpMux IceSpec.C12View
open IceSpec.C12 (SState fupd)

/-- the operation can be written on an input line and its datagram source printed back -/
def opWf : Op → Bool
  | .inbound src _ _ => wfAddr src
  | _ => true

/-- every datagram the monitor's history holds as delivered and not yet read has a printable source -/
def QInv (s : SState) : Prop := ∀ c p, p ∈ s.queue c → wfAddr p.2 = true

theorem qinv_init : QInv SState.init := by
  intro c p hp
  simp [SState.init] at hp

theorem qinv_of_sub (s s' : SState) (h : QInv s) (hsub : ∀ c p, p ∈ s'.queue c → p ∈ s.queue c) : QInv s' :=
  fun c p hp => h c p (hsub c p hp)

theorem removeOne_queue (s : SState) (u : Name) (f : Bool) : (IceSpec.C12.removeOne s u f).queue = s.queue := by
  unfold IceSpec.C12.removeOne
  split <;> rfl

theorem qinv_step (s : SState) (hq : QInv s) (op : Op) (hop : opWf op = true) (o : Out) :
    QInv (IceSpec.C12.step s op o).1 := by
  cases op with
  | getConn u v6 =>
    cases o <;> try exact hq
    rename_i h c
    apply qinv_of_sub _ _ hq
    intro c' p hp
    simp only [IceSpec.C12.step] at hp
    split at hp
    · simp only [fupd] at hp
      split at hp
      · simp at hp
      · exact hp
    · exact hp
  | writeTo h dst =>
    apply qinv_of_sub _ _ hq
    intro c' p hp
    simp only [IceSpec.C12.step] at hp
    split at hp
    · split at hp <;> exact hp
    · exact hp
  | inbound src k pid =>
    cases o <;> try exact hq
    rename_i c
    intro c' p hp
    simp only [IceSpec.C12.step, fupd] at hp
    split at hp
    · rename_i hc
      rcases List.mem_append.mp hp with hp | hp
      · exact hq c p hp
      · simp only [List.mem_singleton] at hp
        rw [hp]
        exact hop
    · exact hq c' p hp
  | removeByUfrag u =>
    apply qinv_of_sub _ _ hq
    intro c' p hp
    simp only [IceSpec.C12.step, removeOne_queue] at hp
    exact hp
  | closeHandle h =>
    apply qinv_of_sub _ _ hq
    intro c' p hp
    simp only [IceSpec.C12.step] at hp
    split at hp
    · split at hp
      · split at hp
        · simp only [fupd] at hp
          split at hp
          · simp at hp
          · exact hp
        · exact hp
      · exact hp
    · exact hp
  | watcherRun c =>
    apply qinv_of_sub _ _ hq
    intro c' p hp
    simp only [IceSpec.C12.step] at hp
    split at hp <;> exact hp
  | closeMux =>
    apply qinv_of_sub _ _ hq
    intro c' p hp
    simp only [IceSpec.C12.step] at hp
    split at hp
    · exact hp
    · simp only at hp
      split at hp
      · simp at hp
      · exact hp
  | read h =>
    apply qinv_of_sub _ _ hq
    intro c' p hp
    simp only [IceSpec.C12.step] at hp
    split at hp
    · exact hp
    · split at hp
      · split at hp
        · rename_i c _ _ _ _ rest hqc
          simp only [fupd] at hp
          split at hp
          · rename_i hc
            rw [hc, hqc]
            exact List.mem_cons_of_mem _ hp
          · exact hp
        · exact hp
      · exact hp
      · exact hp

theorem wfOut_step {m m' : Mux} {op : Op} {o : Out} (st : StepTo m op m' o) {s : SState}
    (hi : Inv m) (hs : Sim m s) (hq : QInv s) : wfOut o = true := by
  cases st with
  | rdPkt h pid src rest h1 _ hf =>
    have hqq := hs.queue _ (hi.hnd h h1) (open_of_fifo m hi _ _ rest hf)
    rw [hf] at hqq
    exact hq (m.hconn h) (pid, src) (by rw [hqq]; simp)
  | _ => rfl

theorem out_shape {m m' : Mux} {op : Op} {o : Out} (st : StepTo m op m' o) {s : SState} (hs : Sim m s) :
    (o = .wrote ∨ o = .done → o = okOf op) ∧ ∀ h' c, o = .conn h' c → h' = s.nh := by
  -- an output that is neither a plain success nor a new handle
  have ne : ∀ {o : Out} {okIs : Out}, (o ≠ .wrote) → (o ≠ .done) → (∀ h' c, o ≠ .conn h' c) →
      ((o = .wrote ∨ o = .done → o = okIs) ∧ ∀ h' c, o = .conn h' c → h' = s.nh) :=
    fun n1 n2 n3 => ⟨fun h => h.elim (fun h => absurd h n1) (fun h => absurd h n2), fun h' c h => absurd h (n3 h' c)⟩
  have new : ∀ {okIs : Out} (c : Nat), ((Out.conn m.nhandles c = .wrote ∨ Out.conn m.nhandles c = .done → Out.conn m.nhandles c = okIs)
      ∧ ∀ h' c', Out.conn m.nhandles c = .conn h' c' → h' = s.nh) :=
    fun c => ⟨fun h => (by rcases h with h | h <;> cases h), fun h' c' h => (by injection h with h1 _; rw [← h1, hs.nh])⟩
  -- the operation's own plain success
  have ok : ∀ {o okIs : Out}, o = okIs → (∀ h' c, o ≠ .conn h' c) →
      ((o = .wrote ∨ o = .done → o = okIs) ∧ ∀ h' c, o = .conn h' c → h' = s.nh) :=
    fun e n3 => ⟨fun _ => e, fun h' c h => absurd h (n3 h' c)⟩
  cases st with
  | getOld _ _ c _ _ => exact new c
  | getNew _ _ _ _ => exact new _
  | wrKnown _ _ _ _ _ _ _ => exact ok rfl nofun
  | wrNew _ _ _ _ _ _ _ => exact ok rfl nofun
  | removed _ => exact ok rfl nofun
  | chIdle _ _ _ => exact ok rfl nofun
  | chDrop _ _ _ => exact ok rfl nofun
  | waIdle _ _ _ => exact ok rfl nofun
  | waRun _ _ _ _ => exact ok rfl nofun
  | cmIdle _ => exact ok rfl nofun
  | cmRun _ => exact ok rfl nofun
  | _ => exact ne nofun nofun nofun

theorem decode_step (m : Mux) (s : SState) (hi : Inv m) (hs : Sim m s) (hq : QInv s) (op : Op) (i g : Nat) :
    decode op s.nh (printOut i g (step m op).2) = some (step m op).2 := by
  obtain ⟨h1, h2⟩ := out_shape (step_to m op) hs
  unfold decode
  rw [parseWire_printOut i g _ (wfOut_step (step_to m op) hi hs hq), Option.bind_some]
  exact ofWire_toWire i g _ _ _ h1 h2

theorem wfOut_run (ops : List Op) : ∀ (m : Mux) (s : SState), Inv m → Sim m s → QInv s →
    (∀ op ∈ ops, opWf op = true) → ∀ e ∈ (run m ops).2, wfOut e.2 = true := by
  induction ops with
  | nil => intro m s _ _ _ _ e he; simp [run] at he
  | cons op ops ih =>
    intro m s hi hs hq hops e he
    rw [run_cons] at he
    simp only [List.mem_cons] at he
    rcases he with rfl | he
    · exact wfOut_step (step_to m op) hi hs hq
    · exact ih _ _ (inv_step m hi op) (sim_step m s hi hs op).1
        (qinv_step s hq op (hops op (by simp)) _) (fun x hx => hops x (List.mem_cons_of_mem _ hx)) e he

theorem qinv_run (ops : List Op) : ∀ (m : Mux) (s : SState), QInv s → (∀ op ∈ ops, opWf op = true) →
    QInv (IceSpec.C12.stateAfter s (run m ops).2) := by
  induction ops with
  | nil => intro m s hq _; exact hq
  | cons op ops ih =>
    intro m s hq hops
    rw [run_cons]
    exact ih _ _ (qinv_step s hq op (hops op (by simp)) _) (fun x hx => hops x (List.mem_cons_of_mem _ hx))

/-- the printed trace of a run: every output on its line, for any choice of socket index and session-wide
handle id per line -/
def printTrace (ig : Op × Out → Nat × Nat) (t : List (Op × Out)) : List (Op × String) :=
  t.map (fun e => (e.1, printOut (ig e).1 (ig e).2 e.2))

theorem lineVerdicts_run (ig : Op × Out → Nat × Nat) (ops : List Op) :
    ∀ (m : Mux) (s : SState), Inv m → Sim m s → QInv s → (∀ op ∈ ops, opWf op = true) →
    lineVerdicts s (printTrace ig (run m ops).2) = IceSpec.C12.verdicts s (run m ops).2 := by
  induction ops with
  | nil => intro m s _ _ _ _; rfl
  | cons op ops ih =>
    intro m s hi hs hq hops
    rw [run_cons]
    simp only [printTrace, List.map_cons, lineVerdicts, IceSpec.C12.verdicts]
    rw [decode_step m s hi hs hq op]
    simp only
    congr 1
    exact ih _ _ (inv_step m hi op) (sim_step m s hi hs op).1
      (qinv_step s hq op (hops op (by simp)) _) (fun x hx => hops x (List.mem_cons_of_mem _ hx))

end IceProofs.UdpMuxView

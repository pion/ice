import IceProofs.Sys2C01LiveDefs
/-!
# C01 liveness — inbound STUN never spends a pair's request budget

`BK a a'`: every pair of `a` is still at its position in `a'` with the same id, and either its `state` and
`reqCount` are unchanged or it has become Succeeded.  (`reqCount` is incremented, and `state` set to In-Progress /
Failed, only by `pingAllCandidates`, i.e. by a tick; inbound STUN only validates pairs.)
-/
namespace IceProofs.C01Live
open IceModel.AgentCore IceProofs.C03 IceProofs.Agent

/-- what may happen to one pair -/
structure BKp (p p' : Pair) : Prop where
  id : p'.id = p.id
  keep : (p'.state = p.state ∧ p'.reqCount = p.reqCount) ∨ p'.state = .succeeded

def BK (a a' : Agent) : Prop := IdxKeep BKp a.checklist a'.checklist

theorem BKp.refl (p : Pair) : BKp p p := ⟨rfl, Or.inl ⟨rfl, rfl⟩⟩

/-- NOT transitive in general (Succeeded followed by a state change); it is along `handleInbound`, where nothing
un-validates a pair: use `BKp.trans` with the side condition. -/
theorem BKp.trans {p q r : Pair} (h1 : BKp p q) (h2 : BKp q r) (hs : q.state = .succeeded → r.state = .succeeded) : BKp p r := by
  refine ⟨h2.id.trans h1.id, ?_⟩
  rcases h1.keep with ⟨e1, e2⟩ | e
  · rcases h2.keep with ⟨f1, f2⟩ | f
    · exact Or.inl ⟨f1.trans e1, f2.trans e2⟩
    · exact Or.inr f
  · exact Or.inr (hs e)

/-- the transitive walk relation: `BKp` plus "Succeeded stays Succeeded" -/
structure BK2p (p p' : Pair) : Prop where
  bk : BKp p p'
  succ : p.state = .succeeded → p'.state = .succeeded

theorem BK2p.refl (p : Pair) : BK2p p p := ⟨BKp.refl p, fun h => h⟩

theorem BK2p.trans {p q r : Pair} (h1 : BK2p p q) (h2 : BK2p q r) : BK2p p r :=
  ⟨BKp.trans h1.bk h2.bk h2.succ, fun h => h2.succ (h1.succ h)⟩

def BK2 (a a' : Agent) : Prop := IdxKeep BK2p a.checklist a'.checklist

theorem BK2.refl (a : Agent) : BK2 a a := IdxKeep.refl BK2p.refl _

theorem BK2.trans {a b c : Agent} (h1 : BK2 a b) (h2 : BK2 b c) : BK2 a c :=
  IdxKeep.trans (R := BK2p) (fun _ _ _ x y => BK2p.trans x y) h1 h2

theorem BK2.bk {a a' : Agent} (h : BK2 a a') : BK a a' := IdxKeep.mono (fun _ _ x => x.bk) h

theorem BK2.of_eq {a a' : Agent} (hc : a'.checklist = a.checklist) : BK2 a a' := by
  unfold BK2; rw [hc]; exact IdxKeep.refl BK2p.refl _

theorem BK2.modPair (a : Agent) (id : Nat) (f : Pair → Pair) (hid : ∀ p, (f p).id = p.id)
    (hrc : ∀ p, (f p).reqCount = p.reqCount) (hst : ∀ p, (f p).state = p.state ∨ (f p).state = .succeeded) :
    BK2 a (a.modPair id f) := by
  refine IdxKeep.map (fun p => if p.id == id then f p else p) a.checklist ?_
  intro p _
  split
  · refine ⟨⟨hid p, ?_⟩, ?_⟩
    · rcases hst p with h | h
      · exact Or.inl ⟨h, hrc p⟩
      · exact Or.inr h
    · intro hs
      rcases hst p with h | h
      · rw [h]; exact hs
      · exact h
  · exact BK2p.refl p

theorem BK2.modPair_keep (a : Agent) (id : Nat) (f : Pair → Pair) (hid : ∀ p, (f p).id = p.id)
    (hrc : ∀ p, (f p).reqCount = p.reqCount) (hst : ∀ p, (f p).state = p.state) : BK2 a (a.modPair id f) :=
  BK2.modPair a id f hid hrc (fun p => Or.inl (hst p))

theorem addPair_bk (a : Agent) (l r : Cand) : BK2 a (a.addPair l r).1 :=
  IdxKeep.append BK2p.refl _ _

theorem sendRequest_bk (a : Agent) (now : Nat) (l r : Cand) (uc : Bool) (nom : Option Nat) :
    BK2 a (a.sendRequest now l r uc nom).1 := by
  unfold Agent.sendRequest
  simp only []
  split
  · exact (BK2.of_eq rfl).trans (BK2.modPair_keep _ _ _ (fun _ => rfl) (fun _ => rfl) (fun _ => rfl))
  · exact BK2.of_eq rfl

theorem select_bk (a : Agent) (id : Nat) : BK2 a (a.select id).1 := by
  rw [select_fst]
  exact BK2.modPair_keep a id (fun p => { p with nominated := true }) (fun _ => rfl) (fun _ => rfl) (fun _ => rfl)

theorem bk_move {cx : Ctx} (ht : ¬ cx.may .tick) (hs : ¬ cx.may .session) {a : Agent} {r : Agent × List Out}
    (h : Move cx a r) : BK2 a r.1 := by
  cases h with
  | pair id f hf =>
    cases hf with
    | succeeded => exact BK2.modPair a id _ (fun _ => rfl) (fun _ => rfl) (fun _ => Or.inr rfl)
    | liteValid => exact BK2.modPair a id _ (fun _ => rfl) (fun _ => rfl) (fun _ => Or.inr rfl)
    | inProgress _ h => exact absurd h ht
    | failed _ h => exact absurd h ht
    | reqCount h => exact absurd h ht
    | _ => exact BK2.modPair_keep a id _ (fun _ => rfl) (fun _ => rfl) (fun _ => rfl)
  | addPair l r => exact addPair_bk a l r
  | failed _ hw => exact absurd hw.failed_tick ht
  | select id => exact select_bk a id
  | restart _ _ _ h => exact absurd h hs
  | request now l r uc => exact sendRequest_bk a now l r uc none
  | issue now l r v => exact (sendRequest_bk a now l r true _).trans (BK2.of_eq rfl)
  | _ => exact BK2.of_eq rfl

theorem bk_chain {cx : Ctx} (ht : ¬ cx.may .tick) (hs : ¬ cx.may .session) {a : Agent} {r : Agent × List Out}
    (h : Chain cx a r) : BK2 a r.1 :=
  Chain.ind (R := fun a r => BK2 a r.1) BK2.refl (fun _ _ => bk_move ht hs) BK2.trans h

/-- a STUN message is being handled, of which nothing is known: no tick runs, no call is served -/
@[reducible] def stun : Ctx :=
  { Ctx.any with may := fun k => k = .select ∨ k = .remotes ∨ k = .role ∨ k = .accept ∨ k = .forced }

theorem stun_tick : ¬ stun.may .tick := by decide
theorem stun_session : ¬ stun.may .session := by decide

theorem toSelector_bk (a : Agent) (now : Nat) (l r : Cand) (m : Msg) (o0 : List Out) :
    BK2 a (toSelector a now l r m o0).1 :=
  toSelector_rule (Q := fun x => BK2 a x.1) a now l r m o0
    (fun _ => (bk_chain stun_tick stun_session (Chain.ctlHandleRequest a now m l r (src := 0) trivial nofun nofun)).trans (BK2.of_eq rfl))
    (fun _ => (bk_chain stun_tick stun_session
      (Chain.cldHandleRequest a now m l r (src := 0) trivial nofun nofun)).trans (BK2.of_eq rfl))

theorem handleInbound_bk2 (a : Agent) (now : Nat) (l : Cand) (src : Nat) (m : Msg) :
    BK2 a (a.handleInbound now l src m).1 :=
  bk_chain stun_tick stun_session
    (Chain.handleInbound a now l src m (fun _ _ _ _ => trivial) (fun _ => trivial) (fun _ _ _ _ _ _ _ _ _ _ => trivial)
      (fun _ _ => trivial) nofun)

theorem handleInbound_bk (a : Agent) (now : Nat) (l : Cand) (src : Nat) (m : Msg) :
    BK a (a.handleInbound now l src m).1 := (handleInbound_bk2 a now l src m).bk

end IceProofs.C01Live

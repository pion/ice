import IceModel.AgentCore
/-!
# The renomination filter of the controlled selector as stand-alone model functions

`cldHandleRequest` has `shouldAcceptNomination` / `shouldSwitchSelectedPair` inline.  They are written
here as functions of their inputs and proved equal to the inline code; `IceTie/AgentNomination.lean`
proves the definitions regenerated from selection.go equal to these functions.
-/
namespace IceProofs.Agent
open IceModel.AgentCore

/-- Model of `shouldAcceptNomination`: (new `lastNomination`, accept?) for a request whose nomination
attribute is `nom` when the highest value accepted so far is `last`. -/
def shouldAcceptNomination (nom last : Option Nat) : Option Nat × Bool :=
  match nom with
  | none => (last, true)
  | some v =>
    match last with
    | none => (some v, true)
    | some l => if v > l then (some v, true) else (last, false)

/-- the inline code of `cldHandleRequest` (lines "shouldAcceptNomination"), as a function of the agent -/
def inlineAccept (a : Agent) (m : Msg) : Agent × Bool :=
  if !(m.useCand || m.nom.isSome) then (a, true) else
  match m.nom with
  | none => (a, true)
  | some v =>
    match a.lastNomination with
    | none => ({ a with lastNomination := some v }, true)
    | some last => if v > last then ({ a with lastNomination := some v }, true) else (a, false)

theorem shouldAcceptNomination_inline (a : Agent) (m : Msg) :
    inlineAccept a m = ({ a with lastNomination := (shouldAcceptNomination m.nom a.lastNomination).1 },
                        (shouldAcceptNomination m.nom a.lastNomination).2) := by
  unfold inlineAccept shouldAcceptNomination
  cases hn : m.nom with
  | none => simp
  | some v =>
    cases hl : a.lastNomination with
    | none => simp
    | some last =>
      by_cases h : v > last <;> simp [h, ← hl]

/-- Model of `shouldSwitchSelectedPair` (the `sw` of `cldHandleRequest`). -/
def shouldSwitch (hasSelected samePair hasValue hasLast needsPrio : Bool) (selectedPrio pairPrio : Nat) : Bool :=
  if !hasSelected then true
  else if samePair then false
  else if hasValue then true
  else if hasLast then false
  else !needsPrio || decide (selectedPrio < pairPrio)

/-- the inline `sw` of `cldHandleRequest` -/
def inlineSwitch (a : Agent) (id : Nat) (m : Msg) (p : Pair) : Bool :=
  match a.selected.bind a.pairById with
  | none => true
  | some sp =>
    if sp.id == id then false
    else if m.nom.isSome then true
    else if a.lastNomination.isSome then false
    else !needsPrioCheck a.cfg || a.pairPrio sp < a.pairPrio p

theorem shouldSwitch_inline (a : Agent) (id : Nat) (m : Msg) (p : Pair) :
    inlineSwitch a id m p =
      match a.selected.bind a.pairById with
      | none => shouldSwitch false false m.nom.isSome a.lastNomination.isSome (needsPrioCheck a.cfg) 0 (a.pairPrio p)
      | some sp => shouldSwitch true (sp.id == id) m.nom.isSome a.lastNomination.isSome (needsPrioCheck a.cfg)
          (a.pairPrio sp) (a.pairPrio p) := by
  unfold inlineSwitch shouldSwitch
  split <;> simp

theorem accept_some_iff (v : Nat) (last : Option Nat) :
    (shouldAcceptNomination (some v) last).2 = true ↔ ∀ l, last = some l → l < v := by
  unfold shouldAcceptNomination
  cases last with
  | none => simp
  | some l => by_cases h : l < v <;> simp [h]

theorem accept_some_fst (v : Nat) (last : Option Nat) :
    (shouldAcceptNomination (some v) last).1 = if (shouldAcceptNomination (some v) last).2 then some v else last := by
  unfold shouldAcceptNomination
  cases last with
  | none => simp
  | some l => by_cases h : l < v <;> simp [h]

theorem accept_none (last : Option Nat) : shouldAcceptNomination none last = (last, true) := rfl

/-- the pair a request is handled on: the existing pair of (local, remote), else a fresh one -/
def ensurePair (a : Agent) (l r : Cand) : Agent × Pair :=
  match a.findPair l r with
  | some p => (a, p)
  | none => a.addPair l r

/-- request counters (and ghost flags) of a pair on an inbound request -/
def countReq (m : Msg) (p : Pair) : Pair :=
  { p with reqRecv := p.reqRecv + 1, gReq := true, gNomReq := p.gNomReq || m.useCand || m.nom.isSome }

/-- the nomination effect of a request that was not rejected (`a` = state after counting the request and
recording an accepted value): on a valid pair switch the selection (`shouldSwitchSelectedPair`), on a
not-yet-valid pair remember the nomination (and its value) for when the pair's own check succeeds -/
def cldNominate (a : Agent) (m : Msg) (id : Nat) : Agent × List Out :=
  if m.useCand || m.nom.isSome then
    let a := if a.cfg.lite then a.modPair id fun p => { p with state := .succeeded } else a
    match a.pairById id with
    | none => (a, [])
    | some p =>
      if p.state == .succeeded then
        if inlineSwitch a id m p then a.select id else (a, [])
      else if m.nom.isSome || p.deferredNom.isNone then
        (a.modPair id fun p => { p with nomOnSuccess := true, deferredNom := m.nom }, [])
      else (a, [])
  else (a, [])

/-- what the controlled selector does with a request it did not reject: nomination effect, success
response, triggered check -/
def cldProceed (a : Agent) (now : Nat) (m : Msg) (l r : Cand) (id : Nat) : Agent × List Out :=
  let (a, o) := cldNominate a m id
  let (a, o1) := a.sendSuccess now m l r
  let (a, o2) :=
    match a.pairById id with
    | some p =>
      if !a.cfg.lite && (p.state != .succeeded || a.selected.isNone) then a.ping now l r else (a, [])
    | none => (a, [])
  (a, o ++ o1 ++ o2)

/-- the body of `cldHandleRequest` after the pair has been found or added and the request counted (verbatim copy; `cldHandleRequest_body`
is `rfl`) -/
def cldBody (a : Agent) (id : Nat) (now : Nat) (m : Msg) (l r : Cand) : Agent × List Out :=
  let nominated := m.useCand || m.nom.isSome
  let (a, accept) := inlineAccept a m
  if nominated && !accept then a.sendSuccess now m l r
  else
    let (a, o) :=
      if nominated then
        let a := if a.cfg.lite then a.modPair id fun p => { p with state := .succeeded } else a
        match a.pairById id with
        | none => (a, [])
        | some p =>
          if p.state == .succeeded then
            if inlineSwitch a id m p then a.select id else (a, [])
          else if m.nom.isSome || p.deferredNom.isNone then
            (a.modPair id fun p => { p with nomOnSuccess := true, deferredNom := m.nom }, [])
          else (a, [])
      else (a, [])
    let (a, o1) := a.sendSuccess now m l r
    let (a, o2) :=
      match a.pairById id with
      | some p =>
        if !a.cfg.lite && (p.state != .succeeded || a.selected.isNone) then a.ping now l r else (a, [])
      | none => (a, [])
    (a, o ++ o1 ++ o2)

theorem cldHandleRequest_body (a : Agent) (now : Nat) (m : Msg) (l r : Cand) :
    a.cldHandleRequest now m l r
      = cldBody ((ensurePair a l r).1.modPair (ensurePair a l r).2.id (countReq m)) (ensurePair a l r).2.id now m l r := rfl

theorem reject_fst (nom last : Option Nat) (h : (shouldAcceptNomination nom last).2 = false) :
    (shouldAcceptNomination nom last).1 = last := by
  unfold shouldAcceptNomination at h ⊢
  cases nom with
  | none => rfl
  | some v =>
    cases last with
    | none => simp at h
    | some l =>
      by_cases hg : v > l
      · simp [hg] at h
      · simp [hg]

theorem cldBody_nf (a1 : Agent) (id : Nat) (now : Nat) (m : Msg) (l r : Cand) :
    cldBody a1 id now m l r =
      if (m.useCand || m.nom.isSome) && !(shouldAcceptNomination m.nom a1.lastNomination).2 then a1.sendSuccess now m l r
      else cldProceed { a1 with lastNomination := (shouldAcceptNomination m.nom a1.lastNomination).1 } now m l r id := by
  unfold cldBody
  rw [shouldAcceptNomination_inline]
  cases hacc : (shouldAcceptNomination m.nom a1.lastNomination).2 with
  | true => simp only [Bool.not_true, Bool.and_false]; rfl
  | false =>
    have h1 := reject_fst _ _ hacc
    simp only [h1, Bool.not_false, Bool.and_true]
    cases hn : (m.useCand || m.nom.isSome) with
    | true => simp
    | false =>
      -- not nominated ⇒ no value ⇒ accepted: impossible
      exfalso
      have : m.nom = none := by
        cases hm : m.nom with
        | none => rfl
        | some v => simp [hm] at hn
      rw [this] at hacc
      simp [shouldAcceptNomination] at hacc

theorem cldHandleRequest_nf (a : Agent) (now : Nat) (m : Msg) (l r : Cand) :
    a.cldHandleRequest now m l r =
      let ap := ensurePair a l r
      let a1 := ap.1.modPair ap.2.id (countReq m)
      let acc := shouldAcceptNomination m.nom a1.lastNomination
      if (m.useCand || m.nom.isSome) && !acc.2 then a1.sendSuccess now m l r
      else cldProceed { a1 with lastNomination := acc.1 } now m l r ap.2.id := by
  rw [cldHandleRequest_body, cldBody_nf]

end IceProofs.Agent

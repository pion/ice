import IceProofs.Sys2C01LiveProgSend
import IceProofs.AgentRulesTimers
/-!
# C01 liveness — the frame `LK` across the elementary updates that a loss-free suffix performs
(inbound STUN, timer ticks; no API call, no role switch, no timeout): `LK.of_eq`, `LK.modPair`, `sendRequest_lk`,
`takePending_lk`, `handleSuccess_lk`, `resolveSource_lk` …; the timer path's own frame `W` (pair ids, id counter and selection
untouched; `LK` where pair ids are unique).  The helpers built from them are walked in `Sys2C01LiveWalk.lean`.
-/

namespace IceProofs.C01Live
open IceModel.AgentCore IceProofs.C03 IceProofs.Agent

variable {T0 now : Nat} {ex : Option Nat}

theorem findCand_isSome_congr {l l' : List Cand} (h : l'.map ckey = l.map ckey) (uid : Nat) :
    (findCand l' uid).isSome = (findCand l uid).isSome := by
  refine findCand_isSome_of_uids ?_ uid
  have := congrArg (List.map Cand.uid) h
  rwa [List.map_map, List.map_map] at this

theorem candsOK_ckey (l : List Cand) : CandsOK (l.map ckey) ↔ CandsOK l := by
  unfold CandsOK
  rw [List.pairwise_map]
  constructor
  · intro h
    exact ⟨fun c hc => h.1 (ckey c) (List.mem_map.mpr ⟨c, hc, rfl⟩), h.2⟩
  · intro h
    refine ⟨fun c hc => ?_, h.2⟩
    obtain ⟨d, hd, rfl⟩ := List.mem_map.mp hc
    exact h.1 d hd

theorem candsOK_congr {l l' : List Cand} (h : l'.map ckey = l.map ckey) (hl : CandsOK l) : CandsOK l' := by
  rw [← candsOK_ckey, h, candsOK_ckey]; exact hl

theorem findCand_append_isSome (l e : List Cand) (uid : Nat) (h : (findCand l uid).isSome = true) :
    (findCand (l ++ e) uid).isSome = true := by
  unfold findCand at h ⊢
  cases hf : l.find? (·.uid == uid) with
  | none => rw [hf] at h; cases h
  | some x => rw [find?_append_of_some hf e]; rfl

theorem findPair_ends {a : Agent} {l r : Cand} {p : Pair} (h : a.findPair l r = some p) :
    (a.localOf p.l).isSome = true ∧ (a.remoteOf p.r).isSome = true := by
  obtain ⟨_, pl, pr, h1, h2, _⟩ := findPair_listed h
  rw [h1, h2]
  exact ⟨rfl, rfl⟩

theorem LK.of_lists {a a' : Agent} (hl : a'.locals = a.locals) (hr : a'.remotes = a.remotes)
    (hc : a'.checklist = a.checklist) (hn : a'.nextPairID = a.nextPairID) (hss : a'.selStart = a.selStart)
    (hsel : a.selected.isSome = true → a'.selected.isSome = true)
    (hconn : a.connState ≠ .failed → a'.connState ≠ .failed)
    (hnotCk : a.connState ≠ .checking → a'.connState ≠ .checking)
    (hnom : ∀ id, a.nominatedPair = some id → a'.nominatedPair = some id)
    (hpend : ∀ tid pd, a.pending.find? (·.tid == tid) = some pd → now - pd.ts < maxBindingRequestTimeout →
      some tid ≠ ex → a'.pending.find? (·.tid == tid) = some pd)
    (hnomOK : LInv a → NomOK a') (hpendOK : LInv a → PendOK a') (hselConn : LInv a → SelConn a') :
    LK T0 now ex a a' := by
  refine ⟨by rw [hl], by rw [hr]; exact IdxKeep.refl (CKeep.refl T0) _, by rw [hc]; exact IdxKeep.refl PKeep.refl _,
    hss, hsel, hconn, hnotCk, hnom, hpend, ?_⟩
  intro h
  refine ⟨⟨?_, ?_⟩, ?_, ?_, ?_, hnomOK h, hpendOK h, hselConn h⟩
  · rw [hc, hn]; exact h.ids.le
  · rw [hc]; exact h.ids.uniq
  · rw [hr]; exact h.remOK
  · unfold NoDefer; rw [hc]; exact h.noDefer
  · unfold SuccEnds Agent.localOf Agent.remoteOf
    rw [hc, hl, hr]
    exact h.succEnds

/-- the fields through which `LK` reads the agent -/
def lkView (a : Agent) :=
  (a.locals, a.remotes, a.checklist, a.selStart, a.selected, a.connState, a.nominatedPair, a.pending, a.nextTid, a.tag,
    a.nextPairID)

theorem LK.of_eq {a a' : Agent} (h : lkView a' = lkView a) : LK T0 now ex a a' := by
  simp only [lkView, Prod.mk.injEq] at h
  obtain ⟨hl, hr, hc, hss, hs, hcs, hnp, hp, hnt, htag, hn⟩ := h
  refine LK.of_lists hl hr hc hn hss (by rw [hs]; exact fun h => h) (by rw [hcs]; exact fun h => h)
    (by rw [hcs]; exact fun h => h) (by rw [hnp]; exact fun _ h => h) (by rw [hp]; exact fun _ _ h _ _ => h) ?_ ?_ ?_
  · intro h; unfold NomOK; rw [hnp, hc]; exact h.nomOK
  · intro h; unfold PendOK; rw [hp, hnt, htag]; exact h.pendOK
  · intro h; unfold SelConn; rw [hs, hcs]; exact h.selConn

theorem LK.modPair_sel (a : Agent) (id : Nat) (f : Pair → Pair)
    (hid : ∀ p, (f p).id = p.id) (hl : ∀ p, (f p).l = p.l) (hr : ∀ p, (f p).r = p.r)
    (hnomOn : ∀ p ∈ a.checklist, p.id = id → p.nomOnSuccess = true →
      (f p).nomOnSuccess = true ∨ (LInv a → a.selected.isSome = true))
    (hsucc : ∀ p ∈ a.checklist, p.id = id → p.state = .succeeded → (f p).state = .succeeded)
    (hdef : ∀ p ∈ a.checklist, p.id = id → p.deferredNom = none → (f p).deferredNom = none)
    (hends : LInv a → ∀ p ∈ a.checklist, p.id = id → (f p).state = .succeeded →
      p.state = .succeeded ∨ ((a.localOf p.l).isSome = true ∧ (a.remoteOf p.r).isSome = true)) :
    LK T0 now ex a (a.modPair id f) := by
  refine ⟨rfl, IdxKeep.refl (CKeep.refl T0) _, ?_, rfl, fun h => h, fun h => h, fun h => h, fun _ h => h,
    fun _ _ h _ _ => h, ?_⟩
  · refine IdxKeep.map (fun p => if p.id == id then f p else p) a.checklist ?_
    intro p hp
    by_cases e : p.id = id
    · simp only [e, beq_self_eq_true, if_true]
      exact ⟨hid p, hl p, hr p, hsucc p hp e, hnomOn p hp e⟩
    · have e' : (p.id == id) = false := by simpa using e
      simp only [e', Bool.false_eq_true, if_false]
      exact PKeep.refl p
  · intro h
    refine ⟨modPair_idsOK a id f hid h.ids, h.remOK, ?_, ?_, ?_, h.pendOK, h.selConn⟩
    · intro q hq
      obtain ⟨p, hp, h' | h'⟩ := mem_modPair hq
      · rw [h'.2]; exact hdef p hp h'.1 (h.noDefer p hp)
      · rw [h'.2]; exact h.noDefer p hp
    · intro q hq hs
      obtain ⟨p, hp, h' | h'⟩ := mem_modPair hq
      · rw [h'.2] at hs ⊢
        rw [hl, hr]
        rcases hends h p hp h'.1 hs with h2 | h2
        · exact h.succEnds p hp h2
        · exact h2
      · rw [h'.2] at hs ⊢
        exact h.succEnds p hp hs
    · intro nid hn
      obtain ⟨p, hp, hpid, hps⟩ := h.nomOK nid hn
      refine ⟨_, updPair_mem (id := id) (f := f) hp, ?_, ?_⟩
      · split <;> simp [hid, hpid]
      · by_cases e : p.id = id
        · simp only [e, beq_self_eq_true, if_true]
          exact hsucc p hp e hps
        · have e' : (p.id == id) = false := by simpa using e
          simp only [e', Bool.false_eq_true, if_false]
          exact hps

theorem LK.modPair (a : Agent) (id : Nat) (f : Pair → Pair)
    (hid : ∀ p, (f p).id = p.id) (hl : ∀ p, (f p).l = p.l) (hr : ∀ p, (f p).r = p.r)
    (hnomOn : ∀ p, p.nomOnSuccess = true → (f p).nomOnSuccess = true)
    (hsucc : ∀ p ∈ a.checklist, p.id = id → p.state = .succeeded → (f p).state = .succeeded)
    (hdef : ∀ p ∈ a.checklist, p.id = id → p.deferredNom = none → (f p).deferredNom = none)
    (hends : LInv a → ∀ p ∈ a.checklist, p.id = id → (f p).state = .succeeded →
      p.state = .succeeded ∨ ((a.localOf p.l).isSome = true ∧ (a.remoteOf p.r).isSome = true)) :
    LK T0 now ex a (a.modPair id f) :=
  LK.modPair_sel a id f hid hl hr (fun p _ _ h => Or.inl (hnomOn p h)) hsucc hdef hends

theorem LK.modPair_keep (a : Agent) (id : Nat) (f : Pair → Pair)
    (hid : ∀ p, (f p).id = p.id) (hl : ∀ p, (f p).l = p.l) (hr : ∀ p, (f p).r = p.r)
    (hst : ∀ p, (f p).state = p.state) (hno : ∀ p, (f p).nomOnSuccess = p.nomOnSuccess)
    (hdn : ∀ p, (f p).deferredNom = p.deferredNom) :
    LK T0 now ex a (a.modPair id f) :=
  LK.modPair a id f hid hl hr (fun p h => by rw [hno]; exact h) (fun p _ _ h => by rw [hst]; exact h)
    (fun p _ _ h => by rw [hdn]; exact h) (fun _ p _ _ h => Or.inl (by rw [hst] at h; exact h))

theorem LK.setState (a : Agent) (id : Nat) (s : PairState) (hs : s ≠ .succeeded)
    (hq : ∀ x ∈ a.checklist, x.id = id → x.state ≠ .succeeded) :
    LK T0 now ex a (a.modPair id fun q => { q with state := s }) :=
  LK.modPair a id (fun q => { q with state := s }) (fun _ => rfl) (fun _ => rfl) (fun _ => rfl) (fun _ h => h)
    (fun p hp e h => absurd h (hq p hp e)) (fun _ _ _ h => h) (fun _ _ _ _ h => absurd h hs)

theorem seenLocalSent_lk (a : Agent) (uid t : Nat) : LK T0 now ex a (a.seenLocalSent uid t) := by
  have hk : (a.seenLocalSent uid t).locals.map ckey = a.locals.map ckey :=
    updCand_map ckey a.locals uid _ (fun _ => rfl)
  refine ⟨hk, IdxKeep.refl (CKeep.refl T0) _, IdxKeep.refl PKeep.refl _, rfl, fun h => h, fun h => h, fun h => h,
    fun _ h => h, fun _ _ h _ _ => h, ?_⟩
  intro h
  refine ⟨⟨h.ids.le, h.ids.uniq⟩, h.remOK, h.noDefer, ?_, h.nomOK, h.pendOK, h.selConn⟩
  intro p hp hs
  have := h.succEnds p hp hs
  refine ⟨?_, this.2⟩
  show (findCand (a.seenLocalSent uid t).locals p.l).isSome = true
  rw [findCand_isSome_congr hk]
  exact this.1

theorem seenRemoteRecv_lk (a : Agent) (uid t : Nat) (h0 : T0 ≤ t) : LK T0 now ex a (a.seenRemoteRecv uid t) := by
  have hk : (a.seenRemoteRecv uid t).remotes.map ckey = a.remotes.map ckey :=
    updCand_map ckey a.remotes uid _ (fun _ => rfl)
  refine ⟨rfl, ?_, IdxKeep.refl PKeep.refl _, rfl, fun h => h, fun h => h, fun h => h,
    fun _ h => h, fun _ _ h _ _ => h, ?_⟩
  · refine IdxKeep.map (fun c => if c.uid == uid then { c with lastRecv := some t } else c) a.remotes ?_
    intro c _
    split
    · exact ⟨rfl, Or.inr ⟨t, h0, rfl⟩⟩
    · exact CKeep.refl T0 c
  · intro h
    refine ⟨⟨h.ids.le, h.ids.uniq⟩, candsOK_congr hk h.remOK, h.noDefer, ?_, h.nomOK, h.pendOK, h.selConn⟩
    intro p hp hs
    have := h.succEnds p hp hs
    refine ⟨this.1, ?_⟩
    show (findCand (a.seenRemoteRecv uid t).remotes p.r).isSome = true
    rw [findCand_isSome_congr hk]
    exact this.2

theorem setConnected_lk (a : Agent) : LK T0 now ex a (a.setConnState .connected).1 := by
  rw [setConnState_fst _ _ (by decide)]
  refine LK.of_lists rfl rfl rfl rfl rfl (fun h => h) (fun _ => by simp) (fun _ => by simp) (fun _ h => h)
    (fun _ _ h _ _ => h) (fun h => h.nomOK) (fun h => h.pendOK) (fun _ _ => rfl)

theorem setConnected_selected (a : Agent) : (a.setConnState .connected).1.selected = a.selected := by
  rw [setConnState_fst _ _ (by decide)]

theorem select_lk (a : Agent) (id : Nat) : LK T0 now ex a (a.select id).1 := by
  rw [select_fst]
  refine (LK.modPair_keep a id (fun p => { p with nominated := true }) (fun _ => rfl) (fun _ => rfl) (fun _ => rfl)
    (fun _ => rfl) (fun _ => rfl) (fun _ => rfl)).trans ?_
  refine LK.of_lists rfl rfl rfl rfl rfl (fun _ => rfl) (fun _ => by simp) (fun _ => by simp) (fun _ h => h)
    (fun _ _ h _ _ => h) (fun h => h.nomOK) (fun h => h.pendOK) (fun _ _ => rfl)

theorem addPair_lk (a : Agent) (l r : Cand) : LK T0 now ex a (a.addPair l r).1 := by
  have hnew : ∀ q ∈ (a.addPair l r).1.checklist, q ∈ a.checklist ∨
      q = { id := a.nextPairID + 1, l := l.uid, r := r.uid, controlling := a.controlling } := by
    intro q hq
    simp only [Agent.addPair, List.mem_append, List.mem_singleton] at hq
    exact hq
  refine ⟨rfl, IdxKeep.refl (CKeep.refl T0) _, IdxKeep.append PKeep.refl _ _, rfl, fun h => h, fun h => h,
    fun h => h, fun _ h => h, fun _ _ h _ _ => h, ?_⟩
  intro h
  refine ⟨Prog.addPair_idsOK a l r h.ids, h.remOK, ?_, ?_, ?_, h.pendOK, h.selConn⟩
  · intro q hq
    rcases hnew q hq with hq | rfl
    · exact h.noDefer q hq
    · rfl
  · intro q hq hs
    rcases hnew q hq with hq | rfl
    · exact h.succEnds q hq hs
    · cases hs
  · intro nid hn
    obtain ⟨p, hp, hpid, hps⟩ := h.nomOK nid hn
    exact ⟨p, by simp [Agent.addPair, hp], hpid, hps⟩

theorem srBase_lk (a : Agent) (pd : Pending) (hpd : pd.tid = 2 * a.nextTid + a.tag) :
    LK T0 now ex a (Prog.srBase a now pd) :=
  LK.of_lists rfl rfl rfl rfl rfl (fun h => h) (fun h => h) (fun h => h) (fun _ h => h)
    (fun tid q hf hy _ => Prog.srBase_pend a now pd tid q hf hy) (fun h => h.nomOK)
    (fun h => Prog.srBase_pendOK a now pd hpd h.pendOK) (fun h => h.selConn)

theorem sendRequest_lk (a : Agent) (l r : Cand) (uc : Bool) (nom : Option Nat) :
    LK T0 now ex a (a.sendRequest now l r uc nom).1 := by
  rw [Prog.sendRequest_fst]
  refine ((srBase_lk a (requestPending a now l r uc nom) rfl).trans ?_).trans (seenLocalSent_lk _ _ _)
  unfold Prog.srMark
  split
  · exact LK.modPair_keep _ _ _ (fun _ => rfl) (fun _ => rfl) (fun _ => rfl) (fun _ => rfl) (fun _ => rfl) (fun _ => rfl)
  · exact LK.refl _ _ _ _

theorem sendSuccess_lk (a : Agent) (m : Msg) (l r : Cand) : LK T0 now ex a (a.sendSuccess now m l r).1 := by
  unfold Agent.sendSuccess
  simp only []
  split
  · refine LK.trans ?_ (seenLocalSent_lk _ _ _)
    exact LK.modPair_keep _ _ _ (fun _ => rfl) (fun _ => rfl) (fun _ => rfl) (fun _ => rfl) (fun _ => rfl)
      (fun _ => rfl)
  · exact seenLocalSent_lk _ _ _

theorem takePending_lk (a : Agent) (tid : Nat) : LK T0 now (some tid) a (a.takePending now tid).1 := by
  rw [takePending_eq_find]
  refine LK.of_lists rfl rfl rfl rfl rfl (fun h => h) (fun h => h) (fun h => h) (fun _ h => h) ?_
    (fun h => h.nomOK) ?_ (fun h => h.selConn)
  · intro t q hf hy hne
    refine find?_filter_of_some (find?_filter_of_some hf (by simpa using hy)) ?_
    have ht := List.find?_some hf
    simp only [beq_iff_eq] at ht
    simp only [bne_iff_ne, ne_eq]
    intro e
    exact hne (by rw [← ht, e])
  · intro h
    have hs : List.Sublist ((a.invalidatePending now).pending.filter (·.tid != tid)) a.pending :=
      List.filter_sublist.trans List.filter_sublist
    exact ⟨fun pd hpd => h.pendOK.1 pd (hs.subset hpd), h.pendOK.2.sublist hs⟩

theorem LK.setNominated (a : Agent) (id : Nat) (hn : a.nominatedPair = none)
    (hp : ∃ q ∈ a.checklist, q.id = id ∧ q.state = .succeeded) :
    LK T0 now ex a { a with nominatedPair := some id } := by
  refine LK.of_lists rfl rfl rfl rfl rfl (fun h => h) (fun h => h) (fun h => h) ?_ (fun _ _ h _ _ => h)
    ?_ (fun h => h.pendOK) (fun h => h.selConn)
  · intro i hi; rw [hn] at hi; cases hi
  · intro _ i hi
    have : id = i := by simpa using hi
    subst this
    exact hp

theorem LK.addRemote (a : Agent) (c : Cand) (n : Nat) (hnet : c.net = 0) (hty : 1 ≤ c.ty ∧ c.ty ≤ 4)
    (hfresh : CandsOK a.remotes → ∀ x ∈ a.remotes, x.addr ≠ c.addr) :
    LK T0 now ex a { a with nextUid := n, remotes := a.remotes ++ [c] } := by
  refine ⟨rfl, IdxKeep.append (CKeep.refl T0) _ _, IdxKeep.refl PKeep.refl _, rfl, fun h => h, fun h => h,
    fun h => h, fun _ h => h, fun _ _ h _ _ => h, ?_⟩
  intro h
  refine ⟨⟨h.ids.le, h.ids.uniq⟩, ?_, h.noDefer, ?_, h.nomOK, h.pendOK, h.selConn⟩
  · refine ⟨?_, ?_⟩
    · intro x hx
      rcases List.mem_append.mp hx with hx | hx
      · exact h.remOK.1 x hx
      · simp only [List.mem_singleton] at hx
        subst hx
        exact ⟨hnet, hty⟩
    · show (a.remotes ++ [c]).Pairwise _
      rw [List.pairwise_append]
      refine ⟨h.remOK.2, by simp, ?_⟩
      intro x hx y hy
      simp only [List.mem_singleton] at hy
      subst hy
      exact hfresh h.remOK x hx
  · intro p hp hs
    have := h.succEnds p hp hs
    exact ⟨this.1, findCand_append_isSome _ _ _ this.2⟩

/-- `validateSelectedPair` finds the selected pair's remote candidate heard recently enough: it reports Connected; and the
controlling selector's automatic-renomination block is off (`QuietFor`). -/
def ValOK (a : Agent) (now : Nat) : Prop :=
  (∀ p, a.selected.bind a.pairById = some p →
    stateForDisconnection a.cfg a.connState ((a.remoteOf p.r).bind (silence now))
      (if a.cfg.failedTimeout != 0 then a.cfg.failedTimeout + a.cfg.disconnectedTimeout else 0) = .connected) ∧
  (a.cfg.autoRenom && a.cfg.enableRenomination) = false

/-- the checking deadline does not fire at a tick at `now`. -/
def CkOK (a : Agent) (now : Nat) : Prop :=
  a.connState = .checking →
    ((chk a now).checkingTimeout != 0 && now - (chk a now).checkingStart > (chk a now).checkingTimeout) = false

/-- what the timer path never touches: pair ids, the id counter, the selection -/
structure Fr (a b : Agent) : Prop where
  ids : b.checklist.map (·.id) = a.checklist.map (·.id)
  npid : b.nextPairID = a.nextPairID
  sel : b.selected = a.selected

theorem Fr.refl (a : Agent) : Fr a a := ⟨rfl, rfl, rfl⟩
theorem Fr.trans {a b c : Agent} (h1 : Fr a b) (h2 : Fr b c) : Fr a c :=
  ⟨h2.ids.trans h1.ids, h2.npid.trans h1.npid, h2.sel.trans h1.sel⟩

theorem Fr.modPair (a : Agent) (id : Nat) (f : Pair → Pair) (hid : ∀ p, (f p).id = p.id) : Fr a (a.modPair id f) :=
  ⟨updPair_ids hid, rfl, rfl⟩

theorem Fr.idsOK {a b : Agent} (h : Fr a b) (hi : IdsOK a) : IdsOK b :=
  have h' := issued_of_keys (k := Pair.id) (k' := Pair.id) h.ids (Nat.le_of_eq h.npid.symm) ⟨hi.le, hi.uniq⟩
  ⟨h'.1, h'.2⟩

/-- the timer-path frame: `Fr` always, `LK` when pair ids are unique -/
def W (T0 now : Nat) (ex : Option Nat) (a b : Agent) : Prop := Fr a b ∧ (IdsOK a → LK T0 now ex a b)

theorem W.refl (a : Agent) : W T0 now ex a a := ⟨Fr.refl a, fun _ => LK.refl _ _ _ _⟩
theorem W.trans {a b c : Agent} (h1 : W T0 now ex a b) (h2 : W T0 now ex b c) : W T0 now ex a c :=
  ⟨h1.1.trans h2.1, fun hi => (h1.2 hi).trans (h2.2 (h1.1.idsOK hi))⟩
theorem W.of {a b : Agent} (hf : Fr a b) (hl : LK T0 now ex a b) : W T0 now ex a b := ⟨hf, fun _ => hl⟩

theorem W.of_eq {a b : Agent} (h : lkView b = lkView a) : W T0 now ex a b := by
  have hk := LK.of_eq (T0 := T0) (now := now) (ex := ex) h
  simp only [lkView, Prod.mk.injEq] at h
  obtain ⟨_, _, hc, _, hs, _, _, _, _, _, hn⟩ := h
  exact W.of ⟨by rw [hc], hn, hs⟩ hk

theorem sendRequest_fr (a : Agent) (t : Nat) (l r : Cand) (uc : Bool) (nom : Option Nat) :
    Fr a (a.sendRequest t l r uc nom).1 := by
  unfold Agent.sendRequest
  simp only []
  split
  · exact ⟨updPair_ids (fun _ => rfl), rfl, rfl⟩
  · exact ⟨rfl, rfl, rfl⟩

theorem sendRequest_w (a : Agent) (l r : Cand) (uc : Bool) (nom : Option Nat) :
    W T0 now ex a (a.sendRequest now l r uc nom).1 := W.of (sendRequest_fr a now l r uc nom) (sendRequest_lk a l r uc nom)

theorem not_succ_of_pairById {a : Agent} {id : Nat} {p : Pair} (hi : IdsOK a) (hp : a.pairById id = some p)
    (hs : p.state ≠ .succeeded) : ∀ x ∈ a.checklist, x.id = id → x.state ≠ .succeeded := by
  intro x hx e
  have := pairById_of_mem hi hx
  rw [e, hp] at this
  cases this
  exact hs

theorem ValOK.of_eq {a a' : Agent} {t : Nat} (hs : a'.selected = a.selected) (hc : a'.checklist = a.checklist)
    (hcfg : a'.cfg = a.cfg) (hcs : a'.connState = a.connState) (hr : a'.remotes = a.remotes) (h : ValOK a t) :
    ValOK a' t := by
  unfold ValOK Agent.pairById Agent.remoteOf at *
  rw [hs, hc, hcfg, hcs, hr]
  exact h

theorem validateSelected_fst (a : Agent) (t : Nat) (hv : ValOK a t) :
    (a.validateSelected t).1 = a ∨ (a.validateSelected t).1 = (a.setConnState .connected).1 := by
  unfold Agent.validateSelected
  split
  · exact Or.inl rfl
  · rename_i p hp
    right
    simp only []
    rw [hv.1 p hp]

theorem validateSelected_w (a : Agent) (hv : ValOK a now) : W T0 now ex a (a.validateSelected now).1 := by
  rcases validateSelected_fst a now hv with h | h
  · rw [h]; exact W.refl a
  · rw [h]; exact W.of ⟨by rw [setConnState_fst _ _ (by decide)], by rw [setConnState_fst _ _ (by decide)],
      setConnected_selected a⟩ (setConnected_lk a)

theorem nominateBest_lk (a : Agent) (p : Pair) (hnone : a.nominatedPair = none) (hbest : a.bestValid = some p) :
    LK T0 now ex a ({ (a.modPair p.id fun p => { p with nominated := true }) with nominatedPair := some p.id } : Agent) ∧
    ({ p with nominated := true } : Pair) ∈ (a.modPair p.id fun p => { p with nominated := true }).checklist ∧
    p.state = .succeeded := by
  have hb := bestValid_some hbest
  have hps : p.state = .succeeded := hb.2
  have hmem : ({ p with nominated := true } : Pair) ∈
      (a.modPair p.id fun p => { p with nominated := true }).checklist :=
    mem_modPair_of_mem hb.1 (fun p : Pair => { p with nominated := true })
  exact ⟨(LK.modPair_keep a p.id (fun p => { p with nominated := true }) (fun _ => rfl) (fun _ => rfl)
      (fun _ => rfl) (fun _ => rfl) (fun _ => rfl) (fun _ => rfl)).trans
    (LK.setNominated _ p.id hnone ⟨{ p with nominated := true }, hmem, rfl, hps⟩), hmem, hps⟩

theorem chk_valOK (a : Agent) (t : Nat) (hv : ValOK a t) : ValOK (chk a t) t := by
  unfold chk
  split
  · exact ValOK.of_eq rfl rfl rfl rfl rfl hv
  · exact hv

theorem chk_forcePending (a : Agent) (t : Nat) :
    chk { a with forcePending := false } t = { chk a t with forcePending := false } := by
  unfold chk
  split <;> rfl

theorem hsMark_lk (a : Agent) (l r : Cand) (p : Pair) (pd : Pending) (hfp : a.findPair l r = some p) :
    LK T0 now ex a (a.modPair p.id (hsMark pd)) := by
  refine LK.modPair a p.id (hsMark pd) (fun _ => rfl) (fun _ => rfl) (fun _ => rfl) (fun _ h => h)
    (fun _ _ _ _ => rfl) (fun _ _ _ h => h) ?_
  intro hinv q hq e _
  have : q = p := mem_unique hinv.ids hq ((findPair_listed hfp).1) e
  subst this
  exact Or.inr (findPair_ends hfp)

theorem hsSel_lk (a : Agent) (p : Pair) (pd : Pending) : LK T0 now ex a (hsSel a p pd).1 := by
  rcases hsSel_cases a p pd with h | ⟨h, _⟩
  · rw [h]; exact LK.refl _ _ _ _
  · rw [h]; exact select_lk a p.id

theorem hsFin_lk (a2 : Agent) (p : Pair) (pd : Pending) (x : Agent)
    (hx : LInv x → a2.controlling = false → p.nomOnSuccess = true → x.selected.isSome = true) :
    LK T0 now ex x (hsFin a2 p pd x) := by
  unfold hsFin
  split
  · split
    · exact LK.of_eq rfl
    · exact LK.refl _ _ _ _
  · rename_i hc
    split
    · rename_i hn
      exact LK.modPair_sel x p.id hsClear (fun _ => rfl) (fun _ => rfl) (fun _ => rfl)
        (fun _ _ _ _ => Or.inr fun hi => hx hi (by simpa using hc) hn) (fun _ _ _ h => h) (fun _ _ _ _ => rfl)
        (fun _ _ _ _ h => Or.inl h)
    · exact LK.refl _ _ _ _

theorem handleSuccess_lk (a : Agent) (m : Msg) (l r : Cand) (src : Nat) :
    LK T0 now (some m.tid) a (a.handleSuccess now m l r src).1 := by
  rw [handleSuccess_eq]
  have h0 := takePending_lk (T0 := T0) (now := now) a m.tid
  generalize a.takePending now m.tid = tp at h0 ⊢
  obtain ⟨a1, pend⟩ := tp
  dsimp only at h0 ⊢
  cases pend with
  | none => exact h0
  | some pd =>
    dsimp only
    split
    · exact h0
    · split
      · exact h0
      · rename_i p hfind
        refine LK.trans (LK.trans (LK.trans (LK.trans h0 (hsMark_lk a1 l r p pd hfind)) (hsSel_lk _ p pd))
          (hsFin_lk (a1.modPair p.id (hsMark pd)) p pd _ ?_)) ?_
        · intro hi hc hn
          have hq : hsMark pd p ∈ (a1.modPair p.id (hsMark pd)).checklist :=
            mem_modPair_of_mem ((findPair_listed hfind).1) (hsMark pd)
          have hd : p.deferredNom = none := by
            rcases hsSel_cases (a1.modPair p.id (hsMark pd)) p pd with e | ⟨e, _⟩
            · rw [e] at hi; exact hi.noDefer (hsMark pd p) hq
            · rw [e] at hi
              exact hi.noDefer { hsMark pd p with nominated := true } (select_mem (id := p.id) hq rfl)
          exact hsSel_cld_sel _ p pd hc hn hd
        · exact LK.modPair_keep _ p.id (Pair.gotResponse now pd.ts) (fun _ => rfl) (fun _ => rfl)
            (fun _ => rfl) (fun _ => rfl) (fun _ => rfl) (fun _ => rfl)

theorem reqMark_lk (a : Agent) (id : Nat) (m : Msg) : LK T0 now ex a (a.modPair id (reqMark m)) :=
  LK.modPair_keep a id (reqMark m) (fun _ => rfl) (fun _ => rfl) (fun _ => rfl) (fun _ => rfl) (fun _ => rfl)
    (fun _ => rfl)

theorem countReq_lk (a : Agent) (id : Nat) (m : Msg) : LK T0 now ex a (a.modPair id (countReq m)) :=
  LK.modPair_keep a id (countReq m) (fun _ => rfl) (fun _ => rfl) (fun _ => rfl) (fun _ => rfl) (fun _ => rfl)
    (fun _ => rfl)

theorem ensurePair_lk (a : Agent) (m : Msg) (l r : Cand) :
    LK T0 now ex a ((ensurePair a l r).1.modPair (ensurePair a l r).2.id (countReq m)) ∧
    ((ensurePair a l r).1.modPair (ensurePair a l r).2.id (countReq m)).core = a.core ∧
    ((ensurePair a l r).1.modPair (ensurePair a l r).2.id (countReq m)).nextTid = a.nextTid :=
  ensurePair_rule (Q := fun x => LK T0 now ex a (x.1.modPair x.2.id (countReq m)) ∧
      (x.1.modPair x.2.id (countReq m)).core = a.core ∧ (x.1.modPair x.2.id (countReq m)).nextTid = a.nextTid) a l r
    (fun p _ => ⟨countReq_lk a p.id m, rfl, rfl⟩) (fun _ => ⟨(addPair_lk a l r).trans (countReq_lk _ _ m), rfl, rfl⟩)

theorem requestCheck_lk (a : Agent) : LK T0 now ex a a.requestCheck :=
  LK.of_eq rfl

theorem addRemoteCandidate_prflx_lk (a : Agent) (c : Cand) (hty : c.ty = 3) (hnet : c.net = 0)
    (hfresh : CandsOK a.remotes → ∀ x ∈ a.remotes, x.addr ≠ c.addr) :
    LK T0 now ex a (a.addRemoteCandidate c).1 := by
  unfold Agent.addRemoteCandidate
  split
  · exact LK.refl _ _ _ _
  split
  · exact LK.refl _ _ _ _
  simp only [hty]
  simp only [beq_self_eq_true, if_true, List.foldl_nil, List.any_nil, Bool.not_false]
  have hft : ∀ l : List Cand, l.filter (fun _ => true) = l := by intro l; simp
  rw [hft]
  refine LK.trans ?_ (requestCheck_lk _)
  refine IceProofs.List.foldl_inv (fun b : Agent => LK T0 now ex a b) _ _ _ ?_ ?_
  · exact LK.addRemote a { c with uid := a.nextUid, ty := 3 } (a.nextUid + 1) hnet ⟨by show 1 ≤ 3; decide, by show 3 ≤ 4; decide⟩ hfresh
  · intro b l h
    split
    · exact h
    · exact h.trans (addPair_lk b l _)

theorem resolveSource_lk (a : Agent) (l : Cand) (src : Nat) (m : Msg) (hnet : l.net = 0) :
    LK T0 now ex a (resolveSource a l src m).1 := by
  rcases resolveSource_cases a l src m with ⟨r, _, h⟩ | ⟨hf, h⟩ <;> rw [h]
  · exact LK.refl _ _ _ _
  · refine addRemoteCandidate_prflx_lk a _ rfl hnet ?_
    intro hc x hx e
    apply List.find?_eq_none.mp hf x hx
    have e' : x.addr = src := e
    simp [(hc.1 x hx).1, hnet, e']

/-! ## why the frame of `cldHandleRequest` / `handleInbound` (`cldHandleRequest_walk`, `handleInbound_walk`) needs a full agent

A lite controlled agent validates the pair a nomination arrives on (`cldLite`), even a pair that `cldPre` has just
created for candidates that are not listed: `SuccEnds` breaks, so `LK.inv` fails. -/

theorem linv_liteEmpty : LInv ({ cfg := { lite := true } } : Agent) := by
  refine ⟨⟨?_, List.Pairwise.nil⟩, ⟨?_, List.Pairwise.nil⟩, ?_, ?_, ?_, ⟨?_, List.Pairwise.nil⟩, ?_⟩
  · intro _ hp; cases hp
  · intro _ hp; cases hp
  · intro _ hp; cases hp
  · intro _ hp; cases hp
  · intro _ hn; cases hn
  · intro _ hp; cases hp
  · intro hs; cases hs

theorem cldHandleRequest_lk_needs_full :
    ¬ ∀ (T0 now : Nat) (ex : Option Nat) (a : Agent) (m : Msg) (l r : Cand), m.nom = none →
      LK T0 now ex a (a.cldHandleRequest now m l r).1 := by
  intro h
  have hk := h 0 0 none { cfg := { lite := true } } { cls := 0, tid := 5, useCand := true }
    { uid := 7, ty := 1, net := 0, addr := 16, prio := 1 } { uid := 9, ty := 1, net := 0, addr := 32, prio := 1 } rfl
  have hinv := linv_liteEmpty
  have := (hk.inv hinv).succEnds
  revert this
  unfold SuccEnds
  decide

theorem handleInbound_lk_needs_full :
    ¬ ∀ (T0 now : Nat) (a : Agent) (l : Cand) (src : Nat) (m : Msg), T0 ≤ now → l.net = 0 →
      (AuthRequest a m → m.nom = none ∧ NoConflict a m) →
      LK T0 now (if m.cls = 2 then some m.tid else none) a (a.handleInbound now l src m).1 := by
  intro h
  have hk := h 0 0 { cfg := { lite := true } } { uid := 7, ty := 1, net := 0, addr := 16, prio := 1 } 32
    { cls := 0, tid := 5, useCand := true, user := some ":", key := some "" } (Nat.le_refl 0) rfl
    (fun _ => ⟨rfl, fun _ _ hr => by cases hr⟩)
  have hinv := linv_liteEmpty
  have := (hk.inv hinv).succEnds
  revert this
  unfold SuccEnds
  decide

end IceProofs.C01Live

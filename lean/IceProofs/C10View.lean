import IceSpec.C10View
import IceProofs.LineProto
/-!
# C10: every recorded event is read back from its canonical token (core Lean only)
-/
namespace IceProofs.C10View
open IceModel.TaskLoop IceSpec.C10 IceSpec.C10.View

def rd (acc : Option Nat) (c : Char) : Option Nat :=
  match acc with
  | none => none
  | some n => if c.isDigit then some (n * 10 + (c.toNat - '0'.toNat)) else none

theorem natOfChars_eq (cs : List Char) : natOfChars cs = if cs.isEmpty then none else cs.foldl rd (some 0) := rfl

theorem foldl_rd (l : List Char) (h : ∀ c ∈ l, c.isDigit = true) (n : Nat) :
    l.foldl rd (some n) = some (Nat.ofDigitChars 10 l n) := by
  induction l generalizing n with
  | nil => rfl
  | cons c l ih =>
    simp only [List.foldl_cons, rd, h c (by simp), if_true, Nat.ofDigitChars_cons, Nat.mul_comm n 10]
    exact ih (fun d hd => h d (List.mem_cons_of_mem _ hd)) _

theorem foldl_digs (n : Nat) : (digs n).foldl rd (some 0) = some n := by
  rw [foldl_rd (digs n) fun c hc => Nat.isDigit_of_mem_toDigits (by omega) (by omega) hc]
  exact congrArg some Nat.ofDigitChars_ten_toDigits

theorem digs_ne_nil (n : Nat) : (digs n).isEmpty = false := by
  have := Nat.toDigits_ne_nil (n := n) (b := 10)
  unfold digs
  cases h : Nat.toDigits 10 n with
  | nil => exact absurd h this
  | cons _ _ => rfl

theorem natOfChars_digs (n : Nat) : natOfChars (digs n) = some n := by
  rw [natOfChars_eq, digs_ne_nil]
  exact foldl_digs n

theorem not_mem_digs (n : Nat) (c : Char) (hc : c.isDigit = false) : c ∉ digs n :=
  fun h => (LineProto.mem_digits hc n).mp h

theorem splitAt_append (sep : Char) (a b : List Char) (h : sep ∉ a) : splitAt sep (a ++ sep :: b) = (a, b) := by
  unfold splitAt
  induction a with
  | nil => simp
  | cons x a ih =>
    have hx : (x != sep) = true := by
      simp only [List.mem_cons, not_or] at h
      simpa [bne_iff_ne] using fun e => h.1 e.symm
    have ih := ih (fun hm => h (List.mem_cons_of_mem _ hm))
    simp only [List.cons_append, List.takeWhile_cons, List.dropWhile_cons, hx, if_true]
    simp only [Prod.mk.injEq] at ih ⊢
    exact ⟨by rw [ih.1], ih.2⟩

theorem parseTok_printH (e : HEv) : parseTok (printH e) = some e := by
  have hs : ∀ (c : Char) (n : Nat) (b : List Char), c.isDigit = false → splitAt c (digs n ++ c :: b) = (digs n, b) :=
    fun c n b hc => splitAt_append c _ _ (not_mem_digs n c hc)
  cases e with
  | ret i r => rcases r with _ | _ | _ | _ <;> simp [parseTok, printH, hs, natOfChars_digs, resChar]
  | ccall j pre => cases pre <;> simp [parseTok, printH, hs, natOfChars_digs]
  | _ => simp [parseTok, printH, hs, natOfChars_digs]

theorem toEv_hevOf (e : Ev) : toEv (hevOf e) = some e := by cases e <;> rfl

theorem retNone_hevOf (e : Ev) : retNone (hevOf e) = false := by cases e <;> rfl

theorem filterMap_hevOf (h : List Ev) : (h.map hevOf).filterMap toEv = h := by
  induction h with
  | nil => rfl
  | cons e h ih => simp [toEv_hevOf, ih]

theorem monitorToks_print (h : List Ev) : monitorToks ((h.map hevOf).map printH) = monitor h := by
  unfold monitorToks
  rw [LineProto.mapM_print parseTok printH parseTok_printH]
  have : (h.map hevOf).any retNone = false := by
    simp [List.any_eq_false, retNone_hevOf]
  simp only [monitorEvs, this, filterMap_hevOf]
  rfl

end IceProofs.C10View

import IceModel.AgentCore
import IceProofs.Basic
import IceProofs.AgentKept
/-!
# Frame lemmas for `AgentCore`: what no helper of `step` touches

`Agent.core` projects an agent on its configuration, tie-breaker, tag, role, `lastNomination`, credentials and the started/closed flags.  Every
helper function of the model below the selectors leaves this projection alone; the writers are `.start` (role,
started, remote credentials), `.setRemoteCreds`, `.restart` (credentials), `.close`, the switching branch of a role
conflict (role flip) and `shouldAcceptNomination` inside `cldHandleRequest` (`lastNomination`).  Used by
C05 (`controlling` changes only through a conflict) and C20 (`lastNomination` only grows).  The lemmas for the helpers
below the selectors are read off `IceProofs.AgentKept`.
-/
namespace IceProofs.Agent
open IceModel.AgentCore

structure Core where
  cfg : Config
  tieBreaker : Nat
  tag : Nat
  controlling : Bool
  lastNomination : Option Nat
  localUfrag : String
  localPwd : String
  remoteUfrag : String
  remotePwd : String
  started : Bool
  closed : Bool

end IceProofs.Agent

namespace IceModel.AgentCore
def Agent.core (a : Agent) : IceProofs.Agent.Core :=
  ⟨a.cfg, a.tieBreaker, a.tag, a.controlling, a.lastNomination, a.localUfrag, a.localPwd, a.remoteUfrag, a.remotePwd,
   a.started, a.closed⟩
end IceModel.AgentCore

namespace IceProofs.Agent
open IceModel.AgentCore

@[simp] theorem core_mk (cfg tieBreaker controlling started closed connState localUfrag localPwd remoteUfrag remotePwd
    locals remotes checklist nextPairID nextUid nextTid tag pending selected selStart nominatedPair lastNomination answeredNomination
    lastSeen checkingStart checkingTimeout forcePending nextTick caches rx connBytesSent connBytesRecv
    onConnectedFired generation nomIssued lastRenomTime nomCounter) :
    (Agent.mk cfg tieBreaker controlling started closed connState localUfrag localPwd remoteUfrag remotePwd
    locals remotes checklist nextPairID nextUid nextTid tag pending selected selStart nominatedPair lastNomination answeredNomination
    lastSeen checkingStart checkingTimeout forcePending nextTick caches rx connBytesSent connBytesRecv
    onConnectedFired generation nomIssued lastRenomTime nomCounter).core = ⟨cfg, tieBreaker, tag, controlling, lastNomination, localUfrag, localPwd,
      remoteUfrag, remotePwd, started, closed⟩ := rfl

@[simp] theorem core_eta (y : Agent) : Core.mk y.cfg y.tieBreaker y.tag y.controlling y.lastNomination y.localUfrag
    y.localPwd y.remoteUfrag y.remotePwd y.started y.closed = y.core := rfl
@[simp] theorem core_cfg (a : Agent) : a.core.cfg = a.cfg := rfl
@[simp] theorem core_tieBreaker (a : Agent) : a.core.tieBreaker = a.tieBreaker := rfl
@[simp] theorem core_tag (a : Agent) : a.core.tag = a.tag := rfl
@[simp] theorem core_controlling (a : Agent) : a.core.controlling = a.controlling := rfl
@[simp] theorem core_lastNomination (a : Agent) : a.core.lastNomination = a.lastNomination := rfl
@[simp] theorem core_localUfrag (a : Agent) : a.core.localUfrag = a.localUfrag := rfl
@[simp] theorem core_localPwd (a : Agent) : a.core.localPwd = a.localPwd := rfl
@[simp] theorem core_remoteUfrag (a : Agent) : a.core.remoteUfrag = a.remoteUfrag := rfl
@[simp] theorem core_remotePwd (a : Agent) : a.core.remotePwd = a.remotePwd := rfl
@[simp] theorem core_started (a : Agent) : a.core.started = a.started := rfl
@[simp] theorem core_closed (a : Agent) : a.core.closed = a.closed := rfl

/-- stated on variables: applied to large agents, `congrArg Core.lastNomination` would have to unfold `Agent.core` of them -/
theorem lastNomination_of_core {a b : Agent} (h : a.core = b.core) : a.lastNomination = b.lastNomination :=
  congrArg Core.lastNomination h

theorem fst_core {α : Type} {x : Agent × α} {a' : Agent} {r : α} (h : x = (a', r)) : a'.core = x.1.core := by
  subst h; rfl

@[simp] theorem core_modPair (a : Agent) (id : Nat) (f : Pair → Pair) : (a.modPair id f).core = a.core := rfl
@[simp] theorem core_seenLocalSent (a : Agent) (u n : Nat) : (a.seenLocalSent u n).core = a.core := rfl
@[simp] theorem core_seenRemoteRecv (a : Agent) (u n : Nat) : (a.seenRemoteRecv u n).core = a.core := rfl
@[simp] theorem core_invalidatePending (a : Agent) (n : Nat) : (a.invalidatePending n).core = a.core := rfl
@[simp] theorem core_wipe (a : Agent) : a.wipe.core = a.core := rfl
@[simp] theorem core_requestCheck (a : Agent) : a.requestCheck.core = a.core := rfl

/-- the projection read off `Agent.kept` -/
def Kept.core (k : Kept) : Core :=
  ⟨k.cfg, k.tieBreaker, k.tag, k.controlling, k.lastNomination, k.localUfrag, k.localPwd, k.remoteUfrag, k.remotePwd,
   k.started, k.closed⟩

theorem core_of_kept {a b : Agent} (h : b.kept = a.kept) : b.core = a.core := congrArg Kept.core h

@[simp] theorem core_setConnState (a : Agent) (s : ConnState) : (a.setConnState s).1.core = a.core :=
  core_of_kept (kept_setConnState a s)

@[simp] theorem core_select (a : Agent) (id : Nat) : (a.select id).1.core = a.core := core_of_kept (kept_select a id)

@[simp] theorem core_sendRequest (a : Agent) (now : Nat) (l r : Cand) (u : Bool) (n : Option Nat) :
    (a.sendRequest now l r u n).1.core = a.core := core_of_kept (kept_sendRequest a now l r u n)

@[simp] theorem core_sendSuccess (a : Agent) (now : Nat) (m : Msg) (l r : Cand) :
    (a.sendSuccess now m l r).1.core = a.core := core_of_kept (kept_sendSuccess a now m l r)

@[simp] theorem core_validateSelected (a : Agent) (now : Nat) : (a.validateSelected now).1.core = a.core :=
  core_of_kept (kept_validateSelected a now)

@[simp] theorem core_contact (a : Agent) (now : Nat) : (a.contact now).1.core = a.core :=
  contact_kept Kept.core (fun _ _ _ _ => rfl) (fun _ _ _ _ => rfl) a now

@[simp] theorem core_runForced (a : Agent) (now : Nat) : (a.runForced now).1.core = a.core :=
  runForced_kept Kept.core (fun _ _ _ _ => rfl) (fun _ _ _ _ => rfl) a now

@[simp] theorem core_runTimers (a : Agent) (now fuel : Nat) : (a.runTimers now fuel).1.core = a.core :=
  runTimers_kept Kept.core (fun _ _ _ _ => rfl) (fun _ _ _ _ => rfl) a now fuel

@[simp] theorem core_addPair (a : Agent) (l r : Cand) : (a.addPair l r).1.core = a.core := rfl

@[simp] theorem core_addRemoteCandidate (a : Agent) (c : Cand) : (a.addRemoteCandidate c).1.core = a.core :=
  core_of_kept (kept_addRemoteCandidate a c)

@[simp] theorem core_addLocalCandidate (a : Agent) (c : Cand) : (a.addLocalCandidate c).1.core = a.core :=
  core_of_kept (kept_addLocalCandidate a c)

@[simp] theorem core_takePending (a : Agent) (now tid : Nat) : (a.takePending now tid).1.core = a.core :=
  core_of_kept (kept_takePending a now tid)

@[simp] theorem core_handleSuccess (a : Agent) (now : Nat) (m : Msg) (l r : Cand) (src : Nat) :
    (a.handleSuccess now m l r src).1.core = a.core :=
  handleSuccess_kept Kept.core (fun _ _ => rfl) a now m l r src

@[simp] theorem core_ctlHandleRequest (a : Agent) (now : Nat) (m : Msg) (l r : Cand) :
    (a.ctlHandleRequest now m l r).1.core = a.core := core_of_kept (kept_ctlHandleRequest a now m l r)

@[simp] theorem core_resetSelector (a : Agent) (now : Nat) :
    (a.resetSelector now).core = { a.core with lastNomination := none } := rfl

theorem core_doRestart (a : Agent) (now : Nat) (u p : String) :
    (a.doRestart now u p).1.core =
      { a.core with lastNomination := none, localUfrag := u, localPwd := p, remoteUfrag := "", remotePwd := "" } := by
  unfold Agent.doRestart
  dsimp only
  split
  · exact core_setConnState _ _
  · rfl

end IceProofs.Agent

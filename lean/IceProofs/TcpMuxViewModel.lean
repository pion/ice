import IceProofs.TcpMuxView
import IceSpec.C15View
/-!
# C15: every line the model prints is read back as the typed line of `IceSpec.C15.View`
-/
namespace IceProofs.TcpMuxView
open IceSpec.LineProto IceProofs.LineProto IceSpec.C15 IceSpec.C15.View IceModel.TcpMux

theorem showId_free (id len : Nat) (c : Char) (hc : c.isDigit = false) (hm : c ≠ '-') : c ∉ (showId id len).toList := by
  unfold showId
  split <;> simp [mem_digits, hc, hm]

theorem newReplies_ids (old new : List Tcp) : ∀ e ∈ newReplies old new, ∃ id len, e.2 = showId id len := by
  intro e he
  unfold newReplies at he
  simp only [List.mem_flatMap, List.mem_range] at he
  obtain ⟨k, _, he⟩ := he
  split at he
  · simp only [List.mem_map] at he
    obtain ⟨pl, _, rfl⟩ := he
    exact ⟨pl.1, pl.2, rfl⟩
  · cases he

theorem obsOf_wf (old : List Tcp) (s : State) (r : ORes) : (obsOf old s r).wf = true := by
  rw [wf_iff]
  refine ⟨by simp [obsOf, ledgerList], ?_⟩
  intro e he
  obtain ⟨id, len, h⟩ := newReplies_ids old s.tcps e he
  rw [h]
  exact ⟨showId_free _ _ _ (by decide) (by decide), showId_free _ _ _ (by decide) (by decide),
    showId_free _ _ _ (by decide) (by decide)⟩

theorem fmtAddr_free (a : Addr) : ' ' ∉ (fmtAddr a).toList := by
  simp [fmtAddr, mem_joinC_cons, mem_joinC_one, mem_digits]

theorem parseRes_handle (h : Nat) : parseRes ["h" ++ toString h] = .handle h := by
  simp [parseRes, parseRes1, tagged, dropPre, parseH, ← String.toList_inj, toNat?_digits]

theorem parseRes_wrote (n : Nat) : parseRes ["n=" ++ toString n] = .wrote (some n) := by
  simp [parseRes, parseRes1, tagged, dropPre, ← String.toList_inj, canonNat, toNat?_digits]

theorem parseRes_pkt (a : Addr) (id : String) (len : Nat) :
    parseRes ["pkt", fmtAddr a, id, toString len] = .pkt a.ip a.port id len := by
  simp [parseRes, parsePkt, fmtAddr, splitC_joinC, mem_digits, canonNat]

theorem parseRes_resToks (op : Op) (r : Res) (hr : r ≠ .bad) : parseRes (resToks op r) = oresOf op r := by
  cases r with
  | bad => exact absurd rfl hr
  | sent n => cases op <;> simp [resToks, fmtRes, oresOf, parseRes]
  | handle h => cases op <;> simp only [resToks, fmtRes, oresOf, parseRes_handle]
  | wrote n => cases op <;> simp only [resToks, fmtRes, oresOf, parseRes_wrote]
  | pkt p =>
    have : resToks op (.pkt p) = fmtRes (.pkt p) := by cases op <;> rfl
    rw [this]
    cases he : p.err with
    | none => simp only [fmtRes, oresOf, he, parseRes_pkt]
    | some e => cases e <;> simp [fmtRes, oresOf, he, parseRes, fmtErr]
  | _ => cases op <;> simp only [resToks, fmtRes, oresOf] <;> decide

theorem resToks_free (op : Op) (r : Res) : ∀ t ∈ resToks op r, ' ' ∉ t.toList := by
  have key : ∀ t ∈ fmtRes r, ' ' ∉ t.toList := by
    cases r with
    | pkt p =>
      have h1 := fmtAddr_free p.src
      have h2 := fun k i => showId_free k i ' ' (by decide) (by decide)
      cases he : p.err with
      | none => simp [fmtRes, he, mem_digits, h1, h2]
      | some e => cases e <;> simp [fmtRes, fmtErr, he, h1]
    | _ => simp [fmtRes, mem_digits]
  cases op <;> cases r <;> first | exact key | simp [resToks]

theorem parseLine_printedLine (s : State) (op : Op) : parseLine (printedLine s op) = lineOf s op := by
  unfold printedLine lineOf
  cases hr : (step s op).2 with
  | bad => rfl
  | _ =>
    simp only
    rw [parseLine_printObs _ _ (obsOf_wf _ _ _) (resToks_free _ _), parseRes_resToks _ _ (by simp)]
    rfl

theorem parseLine_printedStart (cfg : Config) :
    parseLine (printedStart cfg) = .obs (obsOf [] (init cfg) .ok) := by
  unfold printedStart
  rw [parseLine_printObs _ _ (obsOf_wf _ _ _) (by decide)]
  rfl

theorem parseLine_printedEnd (s : State) : parseLine (printedEnd s) = endLine s := by
  unfold printedEnd endLine
  show parseLine (printObs (if allDown (run s (endOps s)) = true then ["end", "ok"] else ["end", "LEAK"]) _) =
    Line.obs (obsOf s.tcps (run s (endOps s)) (if allDown (run s (endOps s)) = true then ORes.endOk else ORes.other))
  cases allDown (run s (endOps s))
  · rw [parseLine_printObs _ _ (obsOf_wf _ _ _) (by decide)]; rfl
  · rw [parseLine_printObs _ _ (obsOf_wf _ _ _) (by decide)]; rfl

theorem verdictsL_printedFrom (m : Mon) (s : State) (ops : List Op) (tail : List (MOp × String)) (tail' : List (MOp × Line))
    (ht : ∀ m', verdictsL m' tail = verdicts m' tail') :
    verdictsL m (printedFrom s ops ++ tail) = verdicts m (linesFrom s ops ++ tail') := by
  induction ops generalizing m s with
  | nil => exact ht m
  | cons op ops ih =>
    simp only [printedFrom, linesFrom, List.cons_append, verdictsL, verdicts, observeL, parseLine_printedLine]
    rw [ih]

theorem verdictsL_printedTrace (cfg : Config) (ops : List Op) (withEnd : Bool) :
    verdictsL {} (printedTrace cfg ops withEnd) = verdicts {} (traceOf cfg ops withEnd) := by
  unfold printedTrace traceOf
  show (observeL {} _ (printedStart cfg)).2 :: verdictsL (observeL {} _ (printedStart cfg)).1 _ =
    (observeT {} _ _).2 :: verdicts (observeT {} _ _).1 _
  unfold observeL
  rw [parseLine_printedStart]
  congr 1
  apply verdictsL_printedFrom
  intro m'
  cases withEnd
  · rfl
  · simp [verdictsL, verdicts, observeL, parseLine_printedEnd]

end IceProofs.TcpMuxView

import IceProofs.Sys2C01LiveDisc3
/-!
# C01 liveness — the controlled agent converges through its OWN retransmission (quiet network)

The controlling agent `c` is selected, the controlled agent `d = !c` is not, and `d`'s nomination-triggered check was
LOST (`NomSeenD ∧ ¬ DPYD`, excluded by `ReadyF`).  On a quiet network nothing happens until `d`'s timer fires; that tick
re-sends the check on the pair marked `nomOnSuccess` (`cld_tick_ping_pend`), which is `DPY` in the state after the
advance, and `converge_fair_from` takes over from there.
-/
namespace IceProofs.C01Live
open IceModel.AgentCore IceModel.Sys2 IceProofs.Sys2Run IceProofs.C01 IceProofs.Agent IceProofs.C03

section
variable {T0 H T t : Nat} {a : Agent}

theorem cld_tick_ping_pend (hg : Good T0 H a) (hT : T ≤ H) (htk : a.nextTick = some t) (hle : t ≤ T) (hc : a.controlling = false)
    (hs : a.selected = none) (hy : T - t < maxBindingRequestTimeout)
    {p0 : Pair} (hp0 : p0 ∈ a.checklist) (hst : p0.state = .waiting ∨ p0.state = .inProgress)
    (hb : p0.reqCount ≤ a.cfg.maxBindingRequests) {l r : Cand} (hl : a.localOf p0.l = some l) (hr : a.remoteOf p0.r = some r) :
    ∃ m, Out.dgram l.addr r.addr m ∈ (step a (.advance T)).2 ∧ IsReq a false m ∧
      (step a (.advance T)).1.pending.find? (·.tid == m.tid) = some (pendOf m.tid l.addr r.addr r.net false t) := by
  obtain ⟨x, e1, e2, _⟩ := tick_eq hg (Nat.le_trans hle hT) htk
  obtain ⟨m, q1, q2, q3⟩ := pingAll_emits (withCS a x) t ⟨hg.linv.ids.le, hg.linv.ids.uniq⟩ hg.linv.pendOK p0 hp0 hst hb l r hl hr
  obtain ⟨j1, j2, _, _⟩ := jump_split hg hT htk hle
  refine ⟨m, j1 _ ?_, q2.of_withCS, j2.pend _ _ ?_ hy (by simp)⟩
  · rw [e1, cc_cld (withCS a x) t hc hg.full hs]; exact q1
  · rw [e2, cc_cld (withCS a x) t hc hg.full hs]; exact q3

end

section
variable {nat blocked : List (Nat × Nat)} {SLA SLB SR : Nat → Prop} {liteA liteB : Bool} {T0 H J L : Nat} {c : Bool}

/-- the quiet start of a retransmission: `c` selected, `d` not; `d`'s pair `la → ra` on a `Link`, marked `nomOnSuccess`,
under budget; nothing deliverable in flight -/
structure RetxW (c : Bool) (la ra td : Nat) (s : Sys) : Prop where
  q : QuietC c td s
  selC : Sel s c
  selD : (s.agent (!c)).selected = none
  link : Link s (!c) la ra
  slot : Slot s (!c) la ra true
  pair : ∃ p ∈ (s.agent (!c)).checklist, (p.state = .waiting ∨ p.state = .inProgress) ∧
    p.reqCount ≤ (s.agent (!c)).cfg.maxBindingRequests ∧
    ∃ l r, (s.agent (!c)).localOf p.l = some l ∧ (s.agent (!c)).remoteOf p.r = some r ∧ l.addr = la ∧ r.addr = ra

theorem retx_converge {s : Sys} {es : List SysEv} {la ra td tc : Nat} (h : FInv nat blocked SLA SLB SR liteA liteB T0 H J c s)
    (hs : SufOK c H J s es) (hf : FairL L s es) (hL : J + 2 * L < maxBindingRequestTimeout) (hJ : J + 2 * L < 2000000000)
    (w : RetxW c la ra td s) (htc : (s.agent c).nextTick = some tc) (hle : td ≤ tc)
    (hend : validBound c L J (tc + J) s < (Sys.runs s es).now) :
    ∀ x, Sel (Sys.runs s es) x ∧ ((Sys.runs s es).agent x).connState = .connected := by
  have hmb : maxBindingRequestTimeout = 4000000000 := rfl
  obtain ⟨tc', htc', l1, l2⟩ := h.tick
  rw [htc] at htc'; cases htc'
  have hmax := Nat.le_max_left (tc + J) (nomTime c s)
  have hendtd : td < (Sys.runs s es).now := by unfold validBound at hend; omega
  obtain ⟨e1, T, e2, rfl, hag, hnet, hn1, hge, hTJ, hTH⟩ := quiet_prefix h hs w.q htc hle hendtd
  obtain ⟨h2, lt⟩ := (Suf.mk (L := L) h hs hf rfl).after
  have h1 := h.runs hs.head
  have hagd : (Sys.runs s e1).agent (!c) = s.agent (!c) := hag (!c)
  have htc1 : ((Sys.runs s e1).agent c).nextTick = some tc := by rw [hag c]; exact htc
  obtain ⟨_, eff, _, _, _⟩ := h1.advance hn1 hTH htc1 hTJ
  have hnowd := w.q.now
  have hy : T - td < maxBindingRequestTimeout := by omega
  obtain ⟨p, hp, hst, hb, l, r, hl, hr, ela, era⟩ := w.pair
  have hgd := h1.ok.good (!c)
  have hctl : ((Sys.runs s e1).agent (!c)).controlling = false := by rw [h1.ok.paired.role]; cases c <;> rfl
  obtain ⟨m, hout, hreq, hpend⟩ := cld_tick_ping_pend hgd hTH (by rw [hagd]; exact w.q.tick) hge hctl
    (by rw [hagd]; exact w.selD) hy (by rw [hagd]; exact hp) hst (by rw [hagd]; exact hb)
    (by rw [hagd]; exact hl) (by rw [hagd]; exact hr)
  have hrnet : r.net = 0 := by
    have hr' : ((Sys.runs s e1).agent (!c)).remoteOf p.r = some r := by rw [hagd]; exact hr
    exact (hgd.linv.remOK.1 r ((findCand_listed hr').1)).1
  rw [ela, era] at hout hpend
  have hslot1 : Slot (Sys.runs s e1) (!c) la ra true := by unfold Slot; rw [hagd]; exact w.slot
  have hob : Ob ((Sys.runs s e1).advance T).1 (!c) m.tid la ra false true td :=
    ⟨eff.net.link (hnet.link w.link), ⟨pendOf m.tid la ra r.net false td, by rw [eff.agent (!c)]; exact hpend, rfl, rfl, hrnet, rfl, rfl, rfl⟩,
      hslot1.lk h1.ok (eff.lk _), by rw [eff.now]; exact hy⟩
  have hin : ({ src := la, dst := ra, p := .stun m } : Dgram) ∈ ((Sys.runs s e1).advance T).1.inflight := by
    rw [eff.flight]
    have := mem_dgramsOf_of_dgram hout
    cases c
    · exact List.mem_append_right _ this
    · exact List.mem_append_left _ (List.mem_append_right _ this)
  have hdpy : DPY c L ((Sys.runs s e1).advance T).1 :=
    Or.inr ⟨m.tid, la, ra, td, Or.inr ⟨hob, _, hin, rfl, rfl, m, rfl, hreq.congr (eff.ids (!c)), rfl⟩, by rw [eff.now]; omega⟩
  have hsel2 : Sel ((Sys.runs s e1).advance T).1 c := (sel_runs h hs.head w.selC).adv eff
  have hrun : Sys.runs s (e1 ++ SysEv.advance T :: e2) = Sys.runs ((Sys.runs s e1).advance T).1 e2 := by
    rw [Sys.runs_append]; rfl
  rw [hrun]
  refine converge_fair_from (B := tc + J) h2.inv h2.ok h2.fair hL (fun _ => hdpy)
    (ValidBy.of_split (e1 := []) (e2 := e2) (Or.inr hsel2) (by show ((Sys.runs s e1).advance T).1.now ≤ _; rw [eff.now]; exact hTJ)) ?_
  rw [← hrun]
  unfold validBound at hend ⊢
  show max (tc + J) (nomTime c ((Sys.runs s e1).advance T).1) + _ + _ + _ < _
  rw [show nomTime c ((Sys.runs s e1).advance T).1 = nomTime c s from lt.nomTime c]
  exact hend

/-- **the quiet start condition of a retransmission** (decidable): the controlling agent is selected, the controlled
agent `!c` is not; nothing in flight is deliverable (its nomination-triggered check was lost); its timer is due not later
than the controlling agent's; it has a pair Waiting / In-Progress within its request budget on a `Link`, and responses
on that route are looked up to a pair marked `nomOnSuccess` (`SlotD … true`) -/
def RetxD (c : Bool) (s : Sys) : Prop :=
  (∀ dg ∈ s.inflight, Undeliv s dg) ∧ Sel s c ∧ (s.agent (!c)).selected = none ∧
  (match (s.agent (!c)).nextTick, (s.agent c).nextTick with
    | some td, some tc => s.now ≤ td ∧ td ≤ tc
    | _, _ => False) ∧
  ∃ p ∈ (s.agent (!c)).checklist, (p.state = .waiting ∨ p.state = .inProgress) ∧
    p.reqCount ≤ (s.agent (!c)).cfg.maxBindingRequests ∧
    match (s.agent (!c)).localOf p.l, (s.agent (!c)).remoteOf p.r with
    | some l, some r => Link s (!c) l.addr r.addr ∧ SlotD s (!c) l.addr r.addr true
    | _, _ => False

instance (c : Bool) (s : Sys) : Decidable (RetxD c s) := by
  unfold RetxD
  refine @instDecidableAnd _ _ _ (@instDecidableAnd _ _ _ (@instDecidableAnd _ _ _ (@instDecidableAnd _ _ ?_ ?_)))
  · split <;> infer_instance
  · refine @List.decidableBEx _ _ (fun p => ?_) _
    refine @instDecidableAnd _ _ _ (@instDecidableAnd _ _ _ ?_)
    split <;> infer_instance

theorem retx_converge_D {s : Sys} {es : List SysEv} (h : FInv nat blocked SLA SLB SR liteA liteB T0 H J c s)
    (hs : SufOK c H J s es) (hf : FairL L s es) (hL : J + 2 * L < maxBindingRequestTimeout) (hJ : J + 2 * L < 2000000000)
    (hd : RetxD c s) (hend : validBound c L J (ctlTick c s + J) s < (Sys.runs s es).now) :
    ∀ x, Sel (Sys.runs s es) x ∧ ((Sys.runs s es).agent x).connState = .connected := by
  obtain ⟨h1, hsc, h2, h3, p, hp, hst, hb, h4⟩ := hd
  obtain ⟨td, tc, htd, htc, h3⟩ := ticks_some h3
  obtain ⟨l, r, hl, hr, h4⟩ := ends_some h4
  have e : ctlTick c s = tc := by unfold ctlTick; rw [htc]; rfl
  rw [e] at hend
  exact retx_converge h hs hf hL hJ ⟨⟨h1, htd, h3.1⟩, hsc, h2, h4.1, h4.2.slot, p, hp, hst, hb, l, r, hl, hr, rfl, rfl⟩
    htc h3.2 hend

end

end IceProofs.C01Live

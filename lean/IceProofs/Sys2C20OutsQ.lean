import IceProofs.Sys2C20FrameG
import IceProofs.Sys2C05Outs
import IceProofs.Sys2C20LogQ
import IceProofs.AgentRulesTimers
import IceProofs.AgentClosure
/-!
# C20 on `Sys2` — the nomination content of the outputs of `step`

`OutsQ u o`: every datagram in `o` carries no nomination value, and (when `u = false`) is not a Binding request with
USE-CANDIDATE.  The work on a candidate or a message keeps a selection and then satisfies `OutsQ false` (`KS`, by
`ks_move` along every chain of such work); the tick does from a state in which a pair is selected (`PSel`: or the agent
has gone to Failed, after which the tick does nothing), up to the nominations it logs.
`TL u`: `OutsQ u` up to the nominations logged meanwhile; `TL true` is closed under the moves of `step` (`tl_closed`).
`step_shape` puts the two halves of a step together.
-/
namespace IceProofs.C20S
open IceModel.AgentCore IceProofs.Agent IceProofs.Sys2C05

/-- the message carries no nomination value; when `u = false` it is moreover no USE-CANDIDATE request -/
def MsgQ (u : Bool) (m : Msg) : Prop := m.nom = none ∧ (m.cls = 0 → m.useCand = true → u = true)

def OutQ (u : Bool) : Out → Prop
  | .dgram _ _ m => MsgQ u m
  | _ => True

def OutsQ (u : Bool) (o : List Out) : Prop := ∀ x ∈ o, OutQ u x

@[simp] theorem OutsQ_nil (u : Bool) : OutsQ u [] := by simp [OutsQ]
@[simp] theorem OutsQ_append (u : Bool) (o1 o2 : List Out) : OutsQ u (o1 ++ o2) ↔ OutsQ u o1 ∧ OutsQ u o2 := by
  simp only [OutsQ, List.mem_append]
  constructor
  · intro h; exact ⟨fun x hx => h x (Or.inl hx), fun x hx => h x (Or.inr hx)⟩
  · rintro ⟨h1, h2⟩ x (hx | hx)
    · exact h1 x hx
    · exact h2 x hx
@[simp] theorem OutsQ_cons (u : Bool) (x : Out) (o : List Out) : OutsQ u (x :: o) ↔ OutQ u x ∧ OutsQ u o := by
  simp [OutsQ]
@[simp] theorem OutQ_res (u : Bool) (s : String) : OutQ u (.res s) := trivial
@[simp] theorem OutQ_cbState (u : Bool) (s : ConnState) : OutQ u (.cbState s) := trivial
@[simp] theorem OutQ_cbPair (u : Bool) (x y : Nat) : OutQ u (.cbPair x y) := trivial
@[simp] theorem OutQ_cbCand (u : Bool) (x : Nat) : OutQ u (.cbCand x) := trivial
@[simp] theorem OutQ_data (u : Bool) (x y z : Nat) : OutQ u (.data x y z) := trivial
@[simp] theorem OutQ_dgram (u : Bool) (f t : Nat) (m : Msg) : OutQ u (.dgram f t m) ↔ MsgQ u m := Iff.rfl

theorem OutsQ.mono {o : List Out} (h : OutsQ false o) (u : Bool) : OutsQ u o := by
  intro x hx
  have := h x hx
  cases x <;> try trivial
  exact ⟨this.1, fun h0 h1 => absurd (this.2 h0 h1) (by simp)⟩

theorem OutsQ.app {u : Bool} {o1 o2 : List Out} (h1 : OutsQ u o1) (h2 : OutsQ u o2) : OutsQ u (o1 ++ o2) :=
  (OutsQ_append u o1 o2).2 ⟨h1, h2⟩

theorem OutsQ.mem {u : Bool} {o : List Out} (h : OutsQ u o) {f t : Nat} {m : Msg} (hm : Out.dgram f t m ∈ o) : MsgQ u m :=
  h _ hm

@[simp] theorem q_setConnState (a : Agent) (s : ConnState) (u : Bool) : OutsQ u (a.setConnState s).2 := by
  unfold Agent.setConnState
  split <;> simp

@[simp] theorem q_select (a : Agent) (id : Nat) (u : Bool) : OutsQ u (a.select id).2 := by
  unfold Agent.select
  simp

theorem q_sendRequest (a : Agent) (now : Nat) (l r : Cand) (uc u : Bool) (h : uc = true → u = true) :
    OutsQ u (a.sendRequest now l r uc none).2 := by
  rw [sendRequest_snd_eq]
  simp only [OutsQ_cons, OutsQ_nil, and_true, OutQ_dgram]
  exact ⟨rfl, fun _ h1 => h h1⟩

theorem q_writeVia (a : Agent) (now : Nat) (p : Pair) (len : Nat) (u : Bool) : OutsQ u (a.writeVia now p len).2 := by
  unfold Agent.writeVia
  split <;> simp

@[simp] theorem q_write (a : Agent) (now len : Nat) (s : Bool) (u : Bool) : OutsQ u (a.write now len s).2 :=
  write_rule (Q := fun x => OutsQ u x.2) a now len s (fun _ => by simp) fun p _ _ _ => q_writeVia a now p len u

@[simp] theorem q_writeToPair (a : Agent) (now id len : Nat) (s : Bool) (u : Bool) : OutsQ u (a.writeToPair now id len s).2 :=
  writeToPair_rule (Q := fun x => OutsQ u x.2) a now id len s (fun _ => by simp) fun p _ _ _ _ => q_writeVia a now p len u

@[simp] theorem q_inboundData (a : Agent) (now : Nat) (l : Cand) (src len : Nat) (u : Bool) :
    OutsQ u (a.inboundData now l src len).2 := by
  rw [inboundData_outs]
  exact OutsQ_nil u

@[simp] theorem q_doRestart (a : Agent) (now : Nat) (x p : String) (u : Bool) : OutsQ u (a.doRestart now x p).2 := by
  unfold Agent.doRestart
  dsimp only
  split
  · exact q_setConnState _ _ u
  · exact OutsQ_nil u

@[simp] theorem sel_modPair (a : Agent) (id : Nat) (f : Pair → Pair) : (a.modPair id f).selected = a.selected := rfl
@[simp] theorem sel_seenLocalSent (a : Agent) (x n : Nat) : (a.seenLocalSent x n).selected = a.selected := rfl
@[simp] theorem sel_seenRemoteRecv (a : Agent) (x n : Nat) : (a.seenRemoteRecv x n).selected = a.selected := rfl
@[simp] theorem sel_invalidatePending (a : Agent) (n : Nat) : (a.invalidatePending n).selected = a.selected := rfl
@[simp] theorem sel_requestCheck (a : Agent) : a.requestCheck.selected = a.selected := rfl
@[simp] theorem sel_addPair (a : Agent) (l r : Cand) : (a.addPair l r).1.selected = a.selected := rfl
@[simp] theorem sel_resetSelector (a : Agent) (n : Nat) : (a.resetSelector n).selected = a.selected := rfl
@[simp] theorem cs_modPair (a : Agent) (id : Nat) (f : Pair → Pair) : (a.modPair id f).connState = a.connState := rfl
@[simp] theorem cs_seenLocalSent (a : Agent) (x n : Nat) : (a.seenLocalSent x n).connState = a.connState := rfl
@[simp] theorem cs_invalidatePending (a : Agent) (n : Nat) : (a.invalidatePending n).connState = a.connState := rfl

@[simp] theorem sel_select (a : Agent) (id : Nat) : (a.select id).1.selected = some id := select_selected a id

attribute [simp] sel_sendRequest

@[simp] theorem cs_sendRequest (a : Agent) (now : Nat) (l r : Cand) (uc : Bool) (n : Option Nat) :
    (a.sendRequest now l r uc n).1.connState = a.connState := sendRequest_connState a now l r uc n

@[simp] theorem sel_sendSuccess (a : Agent) (now : Nat) (m : Msg) (l r : Cand) :
    (a.sendSuccess now m l r).1.selected = a.selected := C03.sendSuccess_selected a now m l r

@[simp] theorem sel_takePending (a : Agent) (now tid : Nat) : (a.takePending now tid).1.selected = a.selected := by
  unfold Agent.takePending
  dsimp only
  split <;> rfl

@[simp] theorem sel_replaceRemoteInPairs (a : Agent) (old c : Cand) : (a.replaceRemoteInPairs old c).1.selected = a.selected :=
  replaceRemoteInPairs_rule (P := fun x => x.1.selected = a.selected) a old c rfl (fun _ _ _ _ h => h)
    fun b _ id hs h => (sel_select b id).trans (hs.symm.trans h)

@[simp] theorem sel_addRemoteCandidate (a : Agent) (c : Cand) : (a.addRemoteCandidate c).1.selected = a.selected :=
  addRemoteCandidate_inv (I := fun b => b.selected = a.selected) a c rfl (fun _ _ _ hb => hb)
    (fun b old c' hb => (sel_replaceRemoteInPairs b old c').trans hb) (fun _ _ hb => hb) (fun _ _ _ hb => hb) fun _ hb => hb

/-! Outside the tick and the session events a selection is never cleared, and the one USE-CANDIDATE request without value
(`nominate`) goes out only while nothing is selected (`Nominating.unselected`). -/

theorem outsQ_of_noDgram (u : Bool) {o : List Out} (h : NoDgram o) : OutsQ u o := by
  intro x hx
  have := List.all_eq_true.mp h x hx
  cases x with
  | dgram f t m => cases this
  | _ => trivial

/-- a selection stays, and with it no USE-CANDIDATE request goes out -/
def KS (a : Agent) (r : Agent × List Out) : Prop :=
  a.selected.isSome = true → r.1.selected.isSome = true ∧ OutsQ false r.2

theorem KS.seq {a : Agent} {r1 r2 : Agent × List Out} (h1 : KS a r1) (h2 : KS r1.1 r2) : KS a (r2.1, r1.2 ++ r2.2) :=
  fun h => ⟨(h2 (h1 h).1).1, (h1 h).2.app (h2 (h1 h).1).2⟩

/-- the work on a candidate or on a message, as `step` calls it: no tick, no session event, no `RenominateCandidate` -/
structure Handling (cx : Ctx) : Prop where
  roles : cx.roles
  tick : ¬cx.may .tick
  session : ¬cx.may .session
  renom : ¬cx.may .renom

theorem ks_move {cx : Ctx} (hcx : Handling cx) {a : Agent} {r : Agent × List Out} (h : Move cx a r) : KS a r := by
  have why : ∀ s, ¬StateWhy cx a s := fun _ w => w.kind.elim hcx.tick hcx.session
  cases h with
  | connState s _ _ w => exact absurd w (why s)
  | failed _ w => exact absurd w (why _)
  | select id => exact fun _ => ⟨by rw [sel_select]; rfl, q_select a id false⟩
  | request now l r uc _ hn =>
    exact fun h => ⟨by rw [sel_sendRequest]; exact h, q_sendRequest a now l r uc false fun hu => by
      rw [(hn hcx.roles hu).unselected] at h; cases h⟩
  | issue now l r v hk => exact absurd hk fun hk => hk.elim hcx.tick hcx.renom
  | restart now x p hs => exact absurd hs hcx.session
  | answer f t now l src m => exact fun h => ⟨h, by simp [MsgQ]⟩
  | refuse f t now l src m => exact fun h => ⟨h, by simp [MsgQ]⟩
  | _ => exact fun h => ⟨h, outsQ_of_noDgram false rfl⟩

theorem ks_chain {cx : Ctx} (hcx : Handling cx) {a : Agent} {r : Agent × List Out} (h : Chain cx a r) : KS a r :=
  Chain.ind (R := KS) (fun _ h => ⟨h, OutsQ_nil _⟩) (fun _ _ => ks_move hcx) KS.seq h

/-- any such work -/
def Ctx.handling : Ctx :=
  { Ctx.any with roles := True, may := fun | .tick => False | .session => False | .renom => False | _ => True }

theorem Ctx.handling_ok : Handling Ctx.handling := ⟨trivial, fun h => h, fun h => h, fun h => h⟩

/-! The controlling selector's automatic check (`Agent.autoRenom`, inside every tick while a pair is selected) sends a
nomination of its own.  `OutL u s`: the message is as `MsgQ u` says, or it is a nomination logged in `s`: a USE-CANDIDATE
request from `f` to `t` whose value `v` (the attribute is there iff `v > 0`) has the entry `(v, f, t)`.
`TL u a r`: running from `a` with result `r`, the ghost log only grew and every datagram put on the wire is `OutL u` of what
was logged meanwhile. -/

def OutL (u : Bool) (s : List (Nat × Nat × Nat)) : Out → Prop
  | .dgram f t m =>
    MsgQ u m ∨ (m.cls = 0 ∧ m.useCand = true ∧ ∃ v, (v, f, t) ∈ s ∧ m.nom = (if v > 0 then some v else none))
  | _ => True

def OutsL (u : Bool) (s : List (Nat × Nat × Nat)) (o : List Out) : Prop := ∀ x ∈ o, OutL u s x

theorem OutsL.mono {u : Bool} {s s' : List (Nat × Nat × Nat)} {o : List Out} (h : OutsL u s o) (hs : ∀ x ∈ s, x ∈ s') :
    OutsL u s' o := by
  intro x hx
  have := h x hx
  cases x <;> try trivial
  rcases this with h1 | ⟨h1, h2, v, h3, h4⟩
  · exact Or.inl h1
  · exact Or.inr ⟨h1, h2, v, hs _ h3, h4⟩

theorem OutsQ.toL {u : Bool} {o : List Out} (h : OutsQ u o) (s : List (Nat × Nat × Nat)) : OutsL u s o := by
  intro x hx
  have := h x hx
  cases x <;> try trivial
  exact Or.inl this

theorem OutsL.append {u : Bool} {s : List (Nat × Nat × Nat)} {o1 o2 : List Out} (h1 : OutsL u s o1) (h2 : OutsL u s o2) :
    OutsL u s (o1 ++ o2) := by
  intro x hx
  rcases List.mem_append.mp hx with hx | hx
  · exact h1 x hx
  · exact h2 x hx

theorem OutsL.mem {u : Bool} {s : List (Nat × Nat × Nat)} {o : List Out} (h : OutsL u s o) {f t : Nat} {m : Msg}
    (hm : Out.dgram f t m ∈ o) :
    MsgQ u m ∨ (m.cls = 0 ∧ m.useCand = true ∧ ∃ v, (v, f, t) ∈ s ∧ m.nom = (if v > 0 then some v else none)) :=
  h _ hm

def TL (u : Bool) (a : Agent) (r : Agent × List Out) : Prop :=
  a.nomIssued <+: r.1.nomIssued ∧ OutsL u (logSfx a r.1) r.2

theorem TL.refl (u : Bool) (a : Agent) : TL u a (a, []) := ⟨List.prefix_refl _, fun _ h => by cases h⟩

theorem TL.still {u : Bool} {a b : Agent} {o : List Out} (hl : b.nomIssued = a.nomIssued) (hq : OutsQ u o) : TL u a (b, o) :=
  ⟨by rw [hl]; exact List.prefix_refl _, hq.toL _⟩

theorem TL.of_q {u : Bool} {a : Agent} {r : Agent × List Out} (hq : OutsQ u r.2) (hl : r.1.ilog = a.ilog) : TL u a r :=
  TL.still (ilog_field hl) hq

theorem TL.seq {u : Bool} {a : Agent} {r1 r2 : Agent × List Out} (h1 : TL u a r1) (h2 : TL u r1.1 r2) :
    TL u a (r2.1, r1.2 ++ r2.2) :=
  ⟨List.IsPrefix.trans h1.1 h2.1,
   OutsL.append (h1.2.mono fun _ hx => mem_logSfx_left h1.1 h2.1 hx) (h2.2.mono fun _ hx => mem_logSfx_right h1.1 h2.1 hx)⟩

theorem TL.weaken {a : Agent} {r : Agent × List Out} (h : TL false a r) (u : Bool) : TL u a r := by
  refine ⟨h.1, fun x hx => ?_⟩
  have := h.2 x hx
  cases x <;> try trivial
  rcases this with h1 | h1
  · exact Or.inl ⟨h1.1, fun h0 h2 => absurd (h1.2 h0 h2) (by simp)⟩
  · exact Or.inr h1

theorem tl_issue (u : Bool) (b : Agent) (now : Nat) (l r : Cand) (v : Nat) :
    TL u b (({ (b.sendRequest now l r true (if v > 0 then some v else none)).1 with
        nomIssued := (b.sendRequest now l r true (if v > 0 then some v else none)).1.nomIssued ++ [(v, l.addr, r.addr)] } : Agent),
      (b.sendRequest now l r true (if v > 0 then some v else none)).2) := by
  have hlog := ilog_field (ilog_sendRequest b now l r true (if v > 0 then some v else none))
  refine ⟨?_, ?_⟩
  · show b.nomIssued <+: (b.sendRequest now l r true (if v > 0 then some v else none)).1.nomIssued ++ _
    rw [hlog]; exact List.prefix_append _ _
  · have hs : logSfx b ({ (b.sendRequest now l r true (if v > 0 then some v else none)).1 with
        nomIssued := (b.sendRequest now l r true (if v > 0 then some v else none)).1.nomIssued ++ [(v, l.addr, r.addr)] } : Agent)
        = [(v, l.addr, r.addr)] := logSfx_of_append (by
          show (b.sendRequest now l r true (if v > 0 then some v else none)).1.nomIssued ++ _ = _
          rw [hlog])
    show OutsL u (logSfx b _) (b.sendRequest now l r true (if v > 0 then some v else none)).2
    rw [hs, sendRequest_snd_eq]
    intro x hx
    simp only [List.mem_singleton] at hx
    subst hx
    exact Or.inr ⟨rfl, rfl, v, by simp, rfl⟩

/-- a pair is selected, or the agent has gone to Failed (where the tick does nothing) -/
def PSel (a : Agent) : Prop := a.selected.isSome = true ∨ a.connState = .failed

/-- an agent that is Failed and has no pair selected has no local candidate either (all was released together) -/
def FL (a : Agent) : Prop := a.connState = .failed → a.selected = none → a.locals = []

/-- The tick from a state with a selected pair: the pair stays selected — or the agent goes to Failed, where no request
can go out for want of a local candidate —, and the only USE-CANDIDATE request is the logged nomination. -/
def PT (a : Agent) (r : Agent × List Out) : Prop := FL a → PSel a → (FL r.1 ∧ PSel r.1) ∧ TL false a r

theorem PT.quiet {a b : Agent} {o : List Out} (ht : TL false a (b, o)) (hs : b.selected = a.selected := by rfl)
    (hc : b.connState = a.connState := by rfl) (hl : a.locals = [] → b.locals = [] := by exact id) : PT a (b, o) :=
  fun fl ps => ⟨⟨fun hf hn => hl (fl (hc ▸ hf) (hs ▸ hn)), ps.imp (fun h => by rw [hs]; exact h) fun h => hc.trans h⟩, ht⟩

theorem PT.of_view {a b : Agent} {o : List Out} (ho : NoDgram o := by rfl)
    (h : (b.selected, b.connState, b.locals, b.nomIssued) = (a.selected, a.connState, a.locals, a.nomIssued) := by rfl) :
    PT a (b, o) := by
  simp only [Prod.mk.injEq] at h
  exact PT.quiet (TL.still h.2.2.2 (outsQ_of_noDgram false ho)) h.1 h.2.1 fun hl => h.2.2.1.trans hl

theorem PT.seq {a : Agent} {r1 r2 : Agent × List Out} (h1 : PT a r1) (h2 : PT r1.1 r2) : PT a (r2.1, r1.2 ++ r2.2) :=
  fun fl ps => ⟨(h2 (h1 fl ps).1.1 (h1 fl ps).1.2).1, TL.seq (h1 fl ps).2 (h2 (h1 fl ps).1.1 (h1 fl ps).1.2).2⟩

theorem sendRequest_locals_nil (a : Agent) (now : Nat) (l r : Cand) (uc : Bool) (n : Option Nat) (h : a.locals = []) :
    (a.sendRequest now l r uc n).1.locals = [] := by
  rw [sendRequest_fst_eq]
  show updCand a.locals _ _ = []
  rw [h]
  rfl

/-- a tick as `step` runs it: no decision of a selector, no session event, no local candidate -/
structure Ticking (cx : Ctx) : Prop where
  strict : cx.strict
  roles : cx.roles
  select : ¬cx.may .select
  session : ¬cx.may .session
  locals : ¬cx.may .locals

theorem pt_move {cx : Ctx} (hcx : Ticking cx) {a : Agent} {r : Agent × List Out} (h : Move cx a r) : PT a r := by
  cases h with
  | connState s _ hs w =>
    cases w with
    | validate now p _ hp =>
      -- `validateSelectedPair` looks at the selected pair: there is one
      have hsel : a.selected.isSome = true := by
        cases h : a.selected with
        | none => rw [h] at hp; cases hp
        | some _ => rfl
      exact fun _ _ => ⟨⟨fun hf => absurd hf hs, Or.inl hsel⟩, TL.still rfl (by simp)⟩
    | deadline now _ _ _ h => exact absurd h hs
    | checking h => exact absurd h hcx.session
    | close h => exact absurd h hcx.session
  | failed => exact fun _ _ => ⟨⟨fun _ _ => rfl, Or.inr rfl⟩, TL.still rfl (by simp)⟩
  | select id _ hk => exact absurd hk hcx.select
  | request now l r uc hs hr =>
    -- a USE-CANDIDATE request needs that nothing is selected, and a local candidate: neither holds here
    refine fun fl ps => PT.quiet (TL.of_q (q_sendRequest a now l r uc false fun hu => ?_) (ilog_sendRequest a now l r uc none))
      (sel_sendRequest ..) (cs_sendRequest ..) (sendRequest_locals_nil a now l r uc none) fl ps
    have hn := (hr hcx.roles hu).unselected
    rcases ps with h | h
    · rw [hn] at h; cases h
    · obtain ⟨d, hd, _⟩ := (hs hcx.strict).loc
      rw [fl h hn] at hd; cases hd
  | issue now l r v =>
    exact PT.quiet (tl_issue false a now l r v) (sel_sendRequest ..) (cs_sendRequest ..) (sendRequest_locals_nil a now l r true _)
  | seenLocalSent uid now =>
    exact PT.quiet (TL.still rfl (OutsQ_nil _)) rfl rfl fun h => by simp [Agent.seenLocalSent, updCand, h]
  | newLocal c _ _ hk => exact absurd hk hcx.locals
  | restart now x p hk => exact absurd hk hcx.session
  | close hk => exact absurd hk hcx.session
  | answer f t now l src m => exact PT.quiet (TL.still rfl (by simp [MsgQ]))
  | refuse f t now l src m => exact PT.quiet (TL.still rfl (by simp [MsgQ]))
  | _ => exact PT.of_view

theorem pt_chain {cx : Ctx} (hcx : Ticking cx) {a : Agent} {r : Agent × List Out} (h : Chain cx a r) : PT a r :=
  Chain.ind (R := PT) (fun _ => PT.quiet (TL.refl _ _)) (fun _ _ => pt_move hcx) PT.seq h

theorem tick_sel {a : Agent} {r : Agent × List Out} (h : Chain .idle a r) (hsel : a.selected.isSome = true) : TL false a r :=
  (pt_chain ⟨trivial, trivial, by simp, by simp, by simp⟩ h
    (fun _ hn => by rw [hn] at hsel; cases hsel) (Or.inl hsel)).2

theorem contactCandidates_sel_eq (a : Agent) (now : Nat) (h : a.selected.isSome = true) :
    a.contactCandidates now =
      if a.controlling then C03.valKeepAuto a now
      else if a.cfg.lite then ((a.validateSelected now).1, (a.validateSelected now).2.1)
      else C03.valKeep a now := by
  unfold Agent.contactCandidates C03.valKeep C03.valKeepAuto
  simp only [h, if_true]

theorem finish_ilog (r : Agent × List Out) : (C03.finish r).1.ilog = r.1.ilog := rfl

/-- the agent is controlled, or was built without renomination -/
def Off (a : Agent) : Prop := a.controlling = false ∨ a.cfg.enableRenomination = false

/-- such an agent stays so and writes neither the ghost log nor the value counter -/
def Quiet (a : Agent) (r : Agent × List Out) : Prop := Off a → Off r.1 ∧ r.1.ilog = a.ilog

theorem Quiet.of_eq {a b : Agent} {o : List Out} (hi : b.ilog = a.ilog) (hc : b.controlling = a.controlling) (hf : b.cfg = a.cfg) :
    Quiet a (b, o) := fun h => ⟨by unfold Off; rw [hc, hf]; exact h, hi⟩

theorem Quiet.of_view {a b : Agent} {o : List Out} (h : (b.ilog, b.controlling, b.cfg) = (a.ilog, a.controlling, a.cfg) := by rfl) :
    Quiet a (b, o) := by
  simp only [Prod.mk.injEq] at h
  exact Quiet.of_eq h.1 h.2.1 h.2.2

/-- Outside the role switch and the session events: a value is drawn and a nomination logged only by a controlling agent
with renomination enabled (`Move.nomCounter`, `Move.issue`). -/
theorem off_move {cx : Ctx} (hr : ¬cx.may .role) (hs : ¬cx.may .session) {a : Agent} {r : Agent × List Out} (h : Move cx a r) :
    Quiet a r := by
  have on : a.controlling = true → a.cfg.enableRenomination = true → Quiet a r := fun hc he ho =>
    absurd ho fun ho => ho.elim (fun h => by rw [hc] at h; cases h) fun h => by rw [he] at h; cases h
  cases h with
  | nomCounter _ _ hc he => exact on hc he
  | issue now l r v _ _ _ hc _ he => exact on hc he
  | request now l r uc =>
    exact Quiet.of_eq (ilog_sendRequest a now l r uc none) (congrArg Core.controlling (core_sendRequest a now l r uc none))
      (congrArg Core.cfg (core_sendRequest a now l r uc none))
  | select id =>
    exact Quiet.of_eq (ilog_of_kept (kept_select a id)) (congrArg Core.controlling (core_select a id))
      (congrArg Core.cfg (core_select a id))
  | switch now l src m _ hk => exact absurd hk hr
  | start now ctl ru rp hk => exact absurd hk hs
  | restart now x p hk => exact absurd hk hs
  | _ => exact Quiet.of_view

theorem off_chain {cx : Ctx} (hr : ¬cx.may .role) (hs : ¬cx.may .session) {a : Agent} {r : Agent × List Out} (h : Chain cx a r) :
    Quiet a r :=
  Chain.ind (R := Quiet) (fun _ => Quiet.of_view) (fun _ _ => off_move hr hs)
    (fun h1 h2 ho => ⟨(h2 (h1 ho).1).1, (h2 (h1 ho).1).2.trans (h1 ho).2⟩) h

theorem tick_off {a : Agent} {r : Agent × List Out} (h : Chain .idle a r)
    (hq : a.controlling = false ∨ a.cfg.enableRenomination = false) : r.1.ilog = a.ilog :=
  (off_chain (by simp) (by simp) h hq).2

theorem ilog_contactCandidates_off (a : Agent) (now : Nat)
    (hq : a.controlling = false ∨ a.cfg.enableRenomination = false) : (a.contactCandidates now).1.ilog = a.ilog :=
  tick_off (Chain.contactCandidates a now) hq

theorem ilog_contactCandidates_cld (a : Agent) (now : Nat) (hc : a.controlling = false) :
    (a.contactCandidates now).1.ilog = a.ilog := ilog_contactCandidates_off a now (Or.inl hc)

theorem chk_ilog (a : Agent) (now : Nat) : (C03.chk a now).ilog = a.ilog := by
  unfold C03.chk
  split <;> rfl

theorem startCore_eq (a : Agent) (now : Nat) (ctl : Bool) (ru rp : String) :
    startCore a now ctl ru rp = (C03.startA1 ((C03.startA0 a now ctl ru rp).setConnState .checking).1,
      ((C03.startA0 a now ctl ru rp).setConnState .checking).2 ++ [.res "ok"]) := rfl

theorem startA0_keeps (a : Agent) (now : Nat) (ctl : Bool) (ru rp : String) :
    (C03.startA0 a now ctl ru rp).ilog = a.ilog ∧ (C03.startA0 a now ctl ru rp).cfg = a.cfg ∧
      (C03.startA0 a now ctl ru rp).selected = a.selected := ⟨rfl, rfl, rfl⟩

theorem startA1_keeps (a : Agent) :
    (C03.startA1 a).ilog = a.ilog ∧ (C03.startA1 a).cfg = a.cfg ∧ (C03.startA1 a).selected = a.selected := ⟨rfl, rfl, rfl⟩

theorem handleInbound_cfg (a : Agent) (now : Nat) (l : Cand) (src : Nat) (m : Msg) :
    (a.handleInbound now l src m).1.cfg = a.cfg := by
  have h := congrArg Core.cfg (core_handleInbound a now l src m)
  simp only [core_cfg] at h
  rw [h]
  split
  · rfl
  · split <;> rfl

/-- **The shape of every step**, as far as nominations go.  The event is quiet (nothing logged, no USE-CANDIDATE request
sent); or it is the timer event; or a quiet piece of work `r` — which keeps a selection, and whose requests carry
USE-CANDIDATE only if nothing was selected — is followed by the forced tick; or it is a `RenominateCandidate` that is
not refused. -/
theorem step_shape {Q : Agent × List Out → Prop} (a : Agent) (e : Ev)
    (quiet : ∀ r : Agent × List Out, r.1.ilog = a.ilog → OutsQ false r.2 → Q r)
    (forced : ∀ (r : Agent × List Out) now, r.1.ilog = a.ilog → r.1.cfg = a.cfg →
      (a.selected.isSome = true → r.1.selected.isSome = true ∧ OutsQ false r.2) → Q (thenForced r now))
    (timers : ∀ now, Q (a.runTimers now 100000))
    (issue : ∀ now la ri v l r, e = .renominate now la ri v →
      Q ({ (a.sendRequest now l r true (if v > 0 then some v else none)).1 with
            nomIssued := (a.sendRequest now l r true (if v > 0 then some v else none)).1.nomIssued ++ [(v, l.addr, r.addr)] },
          (a.sendRequest now l r true (if v > 0 then some v else none)).2 ++ [.res "ok"])) : Q (step a e) := by
  have cfg_of : ∀ {b : Agent}, b.core = a.core → b.cfg = a.cfg := fun h => congrArg Core.cfg h
  have hres : ∀ (o : List Out) (s : String), OutsQ false o → OutsQ false (o ++ [.res s]) := fun o s h =>
    (OutsQ_append _ _ _).2 ⟨h, (OutsQ_cons _ _ _).2 ⟨trivial, OutsQ_nil _⟩⟩
  refine step_rule (Q := fun e' r => e = e' → Q r) a
    (fun _ s _ => quiet (a, [.res s]) rfl (hres [] s (OutsQ_nil _))) (fun _ _ => quiet (a, []) rfl (OutsQ_nil _))
    (fun now c _ => ?addLocal) (fun now c _ _ => ?addRemote) (fun now ctl ru rp _ _ _ => ?start)
    (fun ru rp _ => quiet ({ a with remoteUfrag := ru, remotePwd := rp }, [.res "ok"]) rfl (hres [] _ (OutsQ_nil _)))
    (fun now _ => timers now) (fun now la src m l _ _ hl _ => ?inbound)
    (fun now la src len sl l _ _ =>
      quiet (a.inboundData now l src len) (ilog_inboundData a now l src len) (q_inboundData a now l src len false))
    (fun now len sl _ => quiet (a.write now len sl) (ilog_write a now len sl) (q_write a now len sl false))
    (fun now id len sl _ =>
      quiet (a.writeToPair now id len sl) (ilog_writeToPair a now id len sl) (q_writeToPair a now id len sl false))
    (fun cap n rest s _ _ => quiet ({ a with rx := rest, connBytesRecv := a.connBytesRecv + min n cap }, [.res s]) rfl
      (hres [] s (OutsQ_nil _)))
    (fun now la ri v l r _ _ _ _ _ h => issue now la ri v l r h)
    (fun now u p _ _ => quiet ((a.doRestart now u p).1, (a.doRestart now u p).2 ++ [.res "ok"]) (ilog_doRestart a now u p)
      (hres _ _ (q_doRestart a now u p false)))
    (fun _ _ => ?close) e rfl
  case addLocal =>
    exact forced (a.addLocalCandidate c) now (ilog_addLocalCandidate a c) (cfg_of (core_addLocalCandidate a c))
      (ks_chain Ctx.handling_ok (Chain.addLocalCandidate a c trivial))
  case addRemote =>
    exact forced ((a.addRemoteCandidate c).1, (a.addRemoteCandidate c).2.1) now (ilog_addRemoteCandidate a c)
      (cfg_of (core_addRemoteCandidate a c)) (ks_chain Ctx.handling_ok (Chain.addRemoteCandidate a c trivial))
  case start =>
    -- every step explicit: unifying `(C03.startA1 b).ilog` with `b.ilog` for a composite `b` is slow
    rw [startCore_eq]
    have h0 := startA0_keeps a now ctl ru rp
    have h1 := startA1_keeps ((C03.startA0 a now ctl ru rp).setConnState .checking).1
    have hcfg : ((C03.startA0 a now ctl ru rp).setConnState .checking).1.cfg = (C03.startA0 a now ctl ru rp).cfg :=
      congrArg Core.cfg (core_setConnState (C03.startA0 a now ctl ru rp) .checking)
    have hsel : ((C03.startA0 a now ctl ru rp).setConnState .checking).1.selected = (C03.startA0 a now ctl ru rp).selected := by
      rw [IceProofs.Agent.setConnState_fst _ _ (by decide)]
    exact forced (C03.startA1 ((C03.startA0 a now ctl ru rp).setConnState .checking).1,
        ((C03.startA0 a now ctl ru rp).setConnState .checking).2 ++ [.res "ok"]) now
      (h1.1.trans ((ilog_setConnState (C03.startA0 a now ctl ru rp) .checking).trans h0.1))
      (h1.2.1.trans (hcfg.trans h0.2.1))
      fun h => ⟨(congrArg Option.isSome (h1.2.2.trans (hsel.trans h0.2.2))).trans h, hres _ _ (q_setConnState _ _ false)⟩
  case inbound =>
    exact forced (a.handleInbound now l src m) now (ilog_handleInbound a now l src m) (handleInbound_cfg a now l src m)
      (ks_chain Ctx.handling_ok (Chain.handleInbound a now l src m (fun _ _ _ _ => trivial) (fun _ => trivial)
        (fun _ _ _ _ _ _ _ _ _ _ => trivial) (fun _ _ => trivial) fun _ => .of_mem (List.mem_of_find?_eq_some hl)))
  case close =>
    exact quiet ((({ a with locals := [], remotes := [], caches := [], closed := true } : Agent).setConnState .closed).1,
        (({ a with locals := [], remotes := [], caches := [], closed := true } : Agent).setConnState .closed).2 ++ [.res "ok"])
      ((ilog_setConnState _ _).trans rfl) (hres _ _ (q_setConnState _ _ false))

/-- only `issue` touches the log, and it sends the logged nomination -/
theorem tl_closed : Closed (fun _ => True) (TL true) where
  seq := TL.seq
  quiet := fun hb _ ho => TL.still (congrArg (·.2.2) hb) (outsQ_of_noDgram true ho)
  request := fun a now l r uc => TL.of_q (q_sendRequest a now l r uc true (fun _ => rfl)) (ilog_sendRequest a now l r uc none)
  issue := tl_issue true
  answer := fun _ _ _ _ _ hb _ => TL.still (congrArg (·.1.2.2) hb) (by simp [MsgQ])
  refuse := fun _ _ _ _ _ hb => TL.still (congrArg (·.1.2.2) hb) (by simp [MsgQ])
  switch := fun _ _ => TL.still rfl (OutsQ_nil _)
  accept := fun _ _ => TL.still rfl (OutsQ_nil _)
  start := fun _ _ _ _ _ => TL.still rfl (OutsQ_nil _)
  creds := fun _ _ _ => TL.still rfl (OutsQ_nil _)
  restart := fun _ _ _ _ => TL.still rfl (OutsQ_nil _)
  close := fun _ => TL.still rfl (OutsQ_nil _)

/-- a `RenominateCandidate` that is not refused sends exactly one message: the USE-CANDIDATE request with the value (the
attribute is there iff the value is positive), from the local to the remote address of the nomination it logs -/
theorem step_renominate_out (a : Agent) (now la ri value : Nat) (f t : Nat) (m : Msg)
    (hm : Out.dgram f t m ∈ (step a (.renominate now la ri value)).2) :
    m.cls = 0 ∧ m.useCand = true ∧ m.nom = (if value > 0 then some value else none) ∧
      issueOf a (.renominate now la ri value) = some (value, f, t) := by
  revert hm
  refine step_renominate_rule (Q := fun x => Out.dgram f t m ∈ x.2 → _) a now la ri value (fun s h => by simp at h)
    fun hc hen l r p hl hr hp hm => ?_
  rw [sendRequest_snd_eq] at hm
  simp only [List.cons_append, List.nil_append, List.mem_cons, Out.dgram.injEq, reduceCtorEq, List.not_mem_nil, or_false] at hm
  obtain ⟨hf, ht, rfl⟩ := hm
  refine ⟨rfl, rfl, rfl, ?_⟩
  simp only [issueOf, hc, hen, Bool.and_self, if_true, hl, hr, hp, Option.isSome_some]
  rw [hf, ht, (localByAddr_listed hl).2]

/-- **Every event**: the ghost log only grows, and a datagram carries a nomination value only if it is a nomination
logged by this very step (`RenominateCandidate`, the automatic check). -/
theorem step_outs_all (a : Agent) (e : Ev) : TL true a (step a e) := tl_closed.step a e fun _ _ _ _ _ => trivial

theorem step_outs_t (a : Agent) (e : Ev) (hne : ∀ now la ri v, e ≠ .renominate now la ri v) : TL true a (step a e) :=
  step_outs_all a e

/-- a pair selected: no USE-CANDIDATE request except a logged nomination (`RenominateCandidate`, the automatic check) -/
theorem step_outs_sel (a : Agent) (e : Ev) (hsel : a.selected.isSome = true) : TL false a (step a e) :=
  step_shape (Q := TL false a) a e (fun _ hl hq => TL.of_q hq hl)
    (fun r now hl _ hs => TL.seq (TL.of_q (hs hsel).2 hl) (tick_sel (Chain.runForced r.1 now) (hs hsel).1))
    (fun now => tick_sel (Chain.runTimers a now 100000) hsel)
    fun now _ _ v l r _ => TL.seq (tl_issue false a now l r v) (TL.still (o := [.res "ok"]) rfl (by simp))

theorem step_outs_f (a : Agent) (e : Ev) (hst : a.started = true) (hk : keeps e = true) (hsel : a.selected.isSome = true)
    (hne : ∀ now la ri v, e ≠ .renominate now la ri v) : TL false a (step a e) := step_outs_sel a e hsel

theorem step_renominate_log (a : Agent) (now la ri value : Nat) :
    (step a (.renominate now la ri value)).1.nomIssued =
      a.nomIssued ++ (issueOf a (.renominate now la ri value)).toList := by
  by_cases hc : a.controlling = true
  · by_cases he : a.cfg.enableRenomination = true
    · cases hl : a.localByAddr la with
      | none => simp [step, issueOf, hc, he, hl]
      | some l =>
        cases hr : a.remotes[ri]? with
        | none => simp [step, issueOf, hc, he, hl, hr]
        | some r =>
          cases hp : a.findPair l r with
          | none => simp [step, issueOf, hc, he, hl, hr, hp]
          | some p =>
            have e1 : (step a (.renominate now la ri value)).1.nomIssued =
                (a.sendRequest now l r true (if value > 0 then some value else none)).1.nomIssued ++ [(value, l.addr, r.addr)] := by
              simp only [step, hc, he, hl, hr, hp, Bool.not_true, Bool.false_eq_true, if_false]
            have e2 : issueOf a (.renominate now la ri value) = some (value, la, r.addr) := by
              simp only [issueOf, hc, he, hl, hr, hp, Bool.and_self, if_true, Option.isSome_some]
            rw [e1, e2, ilog_field (ilog_sendRequest a now l r true _), (localByAddr_listed hl).2]
            rfl
    · have he' : a.cfg.enableRenomination = false := by simpa using he
      simp [step, issueOf, hc, he']
  · have hc' : a.controlling = false := by simpa using hc
    simp [step, issueOf, hc']

theorem issuesOf_renominate (a : Agent) (now la ri value : Nat) :
    issuesOf a (.renominate now la ri value) = (issueOf a (.renominate now la ri value)).toList :=
  logSfx_of_append (step_renominate_log a now la ri value)

theorem issuesOf_off (a : Agent) (e : Ev) (hq : (step a e).1.controlling = false ∨ a.cfg.enableRenomination = false) :
    issuesOf a e = [] := by
  by_cases hr : ∃ now la ri v, e = .renominate now la ri v
  · obtain ⟨now, la, ri, v, rfl⟩ := hr
    have hc : (step a (.renominate now la ri v)).1.controlling = a.controlling :=
      congrArg Core.controlling (core_quiet a (.renominate now la ri v) (by simp [mayOf]))
    rw [issuesOf_renominate]
    unfold issueOf
    rcases hq with h | h
    · rw [hc] at h; rw [h]; rfl
    · rw [h, Bool.and_false]; rfl
  · refine logSfx_of_eq (ilog_field ?_)
    refine step_shape (Q := fun r => (r.1.controlling = false ∨ a.cfg.enableRenomination = false) → r.1.ilog = a.ilog) a e
      (fun _ hl _ _ => hl) (fun r now hl hcfg _ hq => ?_) (fun now hq => ?_)
      (fun now la ri v _ _ h => absurd ⟨now, la, ri, v, h⟩ hr) hq
    · refine (tick_off (Chain.runForced r.1 now) ?_).trans hl
      have hc : (r.1.runForced now).1.controlling = r.1.controlling := congrArg Core.controlling (core_runForced r.1 now)
      rw [← hc, hcfg]; exact hq
    · refine tick_off (Chain.runTimers a now 100000) ?_
      have hc : (a.runTimers now 100000).1.controlling = a.controlling :=
        congrArg Core.controlling (core_runTimers a now 100000)
      rw [← hc]; exact hq

/-- `RenominateCandidate` is refused, and the automatic check belongs to the controlling selector (the role only changes
before the tick an event runs). -/
theorem issuesOf_controlled (a : Agent) (e : Ev) (hc : (step a e).1.controlling = false) : issuesOf a e = [] :=
  issuesOf_off a e (Or.inl hc)

theorem issueOf_mem_issuesOf {a : Agent} {e : Ev} {x : Nat × Nat × Nat} (h : issueOf a e = some x) : x ∈ issuesOf a e := by
  cases e with
  | renominate now la ri v => rw [issuesOf_renominate, h]; simp
  | _ => simp [issueOf] at h

theorem step_log_prefix (a : Agent) (e : Ev) : a.nomIssued <+: (step a e).1.nomIssued := (step_outs_all a e).1

theorem step_log_eq (a : Agent) (e : Ev) : (step a e).1.nomIssued = a.nomIssued ++ issuesOf a e := by
  obtain ⟨s, hs⟩ := step_log_prefix a e
  rw [issuesOf, logSfx_of_append hs.symm, hs]

end IceProofs.C20S

import IceProofs.Sys2C01LiveRound
/-!
# C01 liveness — one canonical fair round

* `RInv.after_round`: a round keeps the round invariant (system invariant, provenance of selections, timer in reach);
* `round_ping`: without a valid pair, a pair under budget on a `Link` is valid after the round;
* `round_final`: with a valid pair and the acceptance waits over, both agents have a selected pair after the round.
-/
namespace IceProofs.C01Live
open IceModel.AgentCore IceModel.Sys2 IceProofs.Sys2Run IceProofs.C01 IceProofs.Agent

section
variable {nat blocked : List (Nat × Nat)} {SLA SLB SR : Nat → Prop} {liteA liteB : Bool} {T0 H : Nat} {c : Bool}

/-- the first half of a round: the clock advance -/
structure RoundStart (nat blocked : List (Nat × Nat)) (SLA SLB SR : Nat → Prop) (liteA liteB : Bool) (T0 H : Nat) (c : Bool)
    (s : Sys) (T : Nat) : Prop where
  rt : roundT c s = T
  tk : (s.agent c).nextTick = some T
  yo : T - s.now ≤ 2000000000
  tH : T ≤ H
  fi1 : FInv nat blocked SLA SLB SR liteA liteB T0 H 0 c (s.advance T).1
  ct : CTick c T s (s.advance T).1
  eff : AdvEffect T0 T s (s.advance T).1
  wk : WavesKeep c (s.advance T).1 (round c s)
  ok4 : SysOK nat blocked SLA SLB SR liteA liteB T0 H c (round c s)

theorem round_start {s : Sys} (h : RInv nat blocked SLA SLB SR liteA liteB T0 H c s) (hH : roundT c s ≤ H) :
    ∃ T, RoundStart nat blocked SLA SLB SR liteA liteB T0 H c s T := by
  obtain ⟨t, htk, h1, h2⟩ := h.tick
  have hrt : roundT c s = t := by unfold roundT; rw [htk]; rfl
  rw [hrt] at hH
  obtain ⟨q0, q2, _, q3, _⟩ := h.finv.advance h1 hH htk (Nat.le_refl _)
  have q1 := q0.ok
  refine ⟨t, hrt, htk, by omega, hH, q0, q3 (Nat.le_refl _), q2, ?_, ?_⟩
  · unfold round; rw [hrt]
    exact ((wavesKeep_wave q1).trans (wavesKeep_wave q1.wave)).trans (wavesKeep_wave q1.wave.wave)
  · unfold round; rw [hrt]
    exact q1.wave.wave.wave

theorem RoundStart.dp {s : Sys} {T : Nat} (r : RoundStart nat blocked SLA SLB SR liteA liteB T0 H c s T)
    (h : SysOK nat blocked SLA SLB SR liteA liteB T0 H c s) (g : DP c s true) : Sel (round c s) (!c) := by
  have hs3 : Sel (wave (wave (s.advance T).1)) (!c) := wave_dp r.fi1 (g.adv h r.eff (young_lt r.yo))
  unfold IceProofs.C01Live.round; rw [r.rt]
  exact hs3.flushN r.fi1.ok.wave.wave _

theorem RInv.after_round {s : Sys} (h : RInv nat blocked SLA SLB SR liteA liteB T0 H c s) (hH : roundT c s ≤ H) :
    RInv nat blocked SLA SLB SR liteA liteB T0 H c (round c s) ∧
    (∀ x, HasSucc s x → HasSucc (round c s) x) ∧ (∀ x, Sel s x → Sel (round c s) x) ∧
    ((round c s).agent c).selStart = (s.agent c).selStart ∧ ((round c s).agent c).cfg = (s.agent c).cfg ∧
    (round c s).now = roundT c s ∧
    TickIn ((round c s).now + Config.minInterval (s.agent c).cfg) (round c s).now ((round c s).agent c) := by
  obtain ⟨T, r⟩ := round_start h hH
  have hsingle := advance_single (h.ok.good c) r.tH r.tk
  have htick1 : TickIn (T + Config.minInterval (s.agent c).cfg) (s.advance T).1.now ((s.advance T).1.agent c) := by
    rw [r.eff.now, r.eff.agent c]; exact hsingle.1
  have htick4 := r.wk.tick c (T + Config.minInterval (s.agent c).cfg)
    (by rw [r.eff.now, (r.eff.ids c).cfg]; exact Nat.le_refl _) htick1
  rw [r.eff.now] at htick4
  have hnow4 : (round c s).now = T := r.wk.now.trans r.eff.now
  have hmp := minInterval_pos (s.agent c).cfg
  refine ⟨⟨r.ok4, ?_, by
    obtain ⟨t', ht', l1, l2⟩ := htick4
    exact ⟨t', ht', by rw [hnow4]; omega, by rw [hnow4]; exact l2⟩⟩, ?_, ?_, ?_, ?_, by rw [hnow4, r.rt], by rw [hnow4]; exact htick4⟩
  · intro hseen4
    have hj1 : LinkedJ c (NomSeen c (s.advance T).1) (s.advance T).1 := fun hx => Or.inr hx
    rcases r.wk.linked _ hj1 hseen4 with g | hp0
    · exact g
    · have hs0 := NomSeen.adv_back h.ok r.tH r.fi1.ok r.eff (advance_single (h.ok.good c) r.tH r.tk).2 hp0
      exact Or.inl (r.dp h.ok (h.linked hs0))
  · intro x g; exact r.wk.succ x (g.adv r.eff)
  · intro x g; exact r.wk.sel x (g.adv r.eff)
  · rw [(r.wk.static c).1, (r.eff.lk c).selStart]
  · rw [(r.wk.static c).2, (r.eff.ids c).cfg]

theorem round_ping {s : Sys} (h : RInv nat blocked SLA SLB SR liteA liteB T0 H c s) (hH : roundT c s ≤ H)
    (hb : BudgetPair c s) : HasSucc (round c s) c ∨ Sel (round c s) c := by
  obtain ⟨T, r⟩ := round_start h hH
  rcases r.ct.ping (Or.inr (Or.inr hb)) with g | g | ⟨tid, la, ra, hch⟩
  · exact Or.inl (r.wk.succ c g)
  · exact Or.inr (r.wk.sel c g)
  · left
    have g3 := wave_ch2 r.fi1.wave (wave_ch1 r.fi1 hch)
    unfold IceProofs.C01Live.round; rw [r.rt]
    exact HasSucc.flushN r.fi1.ok.wave.wave _ g3.1

theorem round_final {s : Sys} (h : RInv nat blocked SLA SLB SR liteA liteB T0 H c s) (hH : roundT c s ≤ H)
    (hsucc : HasSucc s c ∨ Sel s c)
    (htime : (s.agent c).selStart + Config.maxWait (s.agent c).cfg ≤ roundT c s) :
    Sel (round c s) c ∧ Sel (round c s) (!c) := by
  obtain ⟨T, r⟩ := round_start h hH
  by_cases hsel : Sel s c
  · exact ⟨r.wk.sel c (hsel.adv r.eff), r.dp h.ok (h.linked (Or.inl hsel))⟩
  · have hs' : HasSucc s c := by
      rcases hsucc with g | g
      · exact g
      · exact absurd g hsel
    rw [r.rt] at htime
    obtain ⟨tid, la, ra, hch, hlink, d, hd, hnd⟩ := sys_tick_nominate h.ok r.tH r.eff r.tk hsel hs' htime
    have g3 := wave_ch2 r.fi1.wave (wave_ch1 r.fi1 hch)
    have hc3 : Sel (wave (wave (s.advance T).1)) c := g3.2 (by simp)
    have hdp2 := wave_nom r.fi1 hlink hd hnd
    have hd4 : Sel (wave (wave (wave (s.advance T).1))) (!c) := wave_dp r.fi1.wave hdp2
    unfold IceProofs.C01Live.round; rw [r.rt]
    exact ⟨hc3.flushN r.fi1.ok.wave.wave _, hd4⟩

/-- the tick time of the round after `n` rounds -/
def tickTime (c : Bool) (n : Nat) (s : Sys) : Nat := roundT c (rounds c n s)

end

end IceProofs.C01Live

import IceModel.AgentCore
import IceProofs.Basic
import IceProofs.AgentLookups
/-!
# C03 — basic definitions and the preservation toolkit

`Inv3` (the invariant), `PLe` (what may happen to one pair: ghost flags and validity only grow),
`Rel` / `Quiet` (what a helper may do to the agent), and the lemmas about the primitive updates
(`modPair`, `addPair`, `wipe`, `setConnState`, `select`) everything else is composed from.
-/
namespace IceProofs.C03
open IceModel.AgentCore IceProofs.Agent

/-- Ghost flags, validity and the two nomination marks of a pair only grow. -/
structure PLe (p p' : Pair) : Prop where
  gReq : p.gReq = true → p'.gReq = true
  gNomReq : p.gNomReq = true → p'.gNomReq = true
  gResp : p.gResp = true → p'.gResp = true
  gRespUC : p.gRespUC = true → p'.gRespUC = true
  succ : p.state = .succeeded → p'.state = .succeeded

theorem PLe.refl (p : Pair) : PLe p p := ⟨id, id, id, id, id⟩
theorem PLe.trans {p q r : Pair} (h1 : PLe p q) (h2 : PLe q r) : PLe p r :=
  ⟨fun h => h2.gReq (h1.gReq h), fun h => h2.gNomReq (h1.gNomReq h), fun h => h2.gResp (h1.gResp h),
   fun h => h2.gRespUC (h1.gRespUC h), fun h => h2.succ (h1.succ h)⟩

/-- the fields `pairPrio` reads from the pair -/
def PrioF (p q : Pair) : Prop :=
  q.l = p.l ∧ q.r = p.r ∧ q.prioOverride = p.prioOverride ∧ q.controlling = p.controlling

theorem pairPrio_congr (a : Agent) {p q : Pair} (h : PrioF p q) : a.pairPrio q = a.pairPrio p := by
  obtain ⟨h1, h2, h3, h4⟩ := h
  simp only [Agent.pairPrio, h1, h2, h3, h4]

/-- Per-pair part of the invariant. `lite` is the agent's configuration. -/
structure PairOK (lite : Bool) (p : Pair) : Prop where
  /-- a valid pair has an authenticated, transaction-matched success response (full agent), or — lite
  agent only — was made valid by an authenticated nomination -/
  valid : p.state = .succeeded → p.gResp = true ∨ (lite = true ∧ p.gNomReq = true)
  deferred : p.nomOnSuccess = true → p.gNomReq = true
  respUC : p.gRespUC = true → p.gResp = true

/-- What holds of the selected pair. -/
structure SelPair (p : Pair) : Prop where
  succ : p.state = .succeeded
  nominated : p.nominated = true
  nom : p.gRespUC = true ∨ p.gNomReq = true

/-- pair ids are unique and below the id counter -/
structure IdsOK (a : Agent) : Prop where
  le : ∀ p ∈ a.checklist, p.id ≤ a.nextPairID
  uniq : a.checklist.Pairwise (fun p q => p.id ≠ q.id)

/-- The invariant of C03. -/
structure Inv3 (a : Agent) : Prop where
  ids : IdsOK a
  pairs : ∀ p ∈ a.checklist, PairOK a.cfg.lite p
  sel : ∀ id, a.selected = some id → ∃ p ∈ a.checklist, p.id = id ∧ SelPair p

/-- What a helper may do to the agent: configuration fixed, id counter grows, every pair with an OLD id
in the new checklist stems from the pair of that id in the old one (`PLe`), and — when `wp` — has the
same `pairPrio`. (A wipe satisfies this vacuously; pairs added later have fresh ids.) -/
structure Rel (wp : Prop) (a a' : Agent) : Prop where
  cfg : a'.cfg = a.cfg
  npid : a.nextPairID ≤ a'.nextPairID
  old : ∀ p' ∈ a'.checklist, p'.id ≤ a.nextPairID →
    ∃ p ∈ a.checklist, p.id = p'.id ∧ PLe p p' ∧ (wp → a'.pairPrio p' = a.pairPrio p)

/-- every pair id listed in `a` is still listed in `a'` -/
def Fwd (a a' : Agent) : Prop := ∀ p ∈ a.checklist, ∃ p' ∈ a'.checklist, p'.id = p.id

theorem Fwd.refl (a : Agent) : Fwd a a := fun p hp => ⟨p, hp, rfl⟩
theorem Fwd.trans {a b c : Agent} (h1 : Fwd a b) (h2 : Fwd b c) : Fwd a c := fun p hp =>
  let ⟨p', hp', e'⟩ := h1 p hp
  let ⟨p'', hp'', e''⟩ := h2 p' hp'
  ⟨p'', hp'', e''.trans e'⟩
theorem Fwd.of_eq {a a' : Agent} (h : a'.checklist = a.checklist) : Fwd a a' := fun p hp => ⟨p, h ▸ hp, rfl⟩

/-- `Rel` + the selection is untouched and no pair is dropped (`ex`), or that / the selection is cleared
(`¬ex`: a wipe by connection state Failed, or Restart). -/
structure Quiet (wp ex : Prop) (a a' : Agent) : Prop extends Rel wp a a' where
  sel : (a'.selected = a.selected ∧ Fwd a a') ∨ (¬ex ∧ a'.selected = none)

/-- preservation statement used for every helper -/
def Pres (wp ex : Prop) (a a' : Agent) : Prop := Inv3 a → Inv3 a' ∧ Quiet wp ex a a'

theorem Rel.refl (wp : Prop) (a : Agent) : Rel wp a a :=
  ⟨rfl, Nat.le_refl _, fun p' hp' _ => ⟨p', hp', rfl, PLe.refl _, fun _ => rfl⟩⟩

theorem Rel.trans {wp : Prop} {a b c : Agent} (h1 : Rel wp a b) (h2 : Rel wp b c) : Rel wp a c := by
  refine ⟨h2.cfg.trans h1.cfg, Nat.le_trans h1.npid h2.npid, ?_⟩
  intro p'' hp'' hle
  obtain ⟨p', hp', hid', hle', hpr'⟩ := h2.old p'' hp'' (Nat.le_trans hle h1.npid)
  obtain ⟨p, hp, hid, hle0, hpr⟩ := h1.old p' hp' (by omega)
  exact ⟨p, hp, hid.trans hid', hle0.trans hle', fun w => (hpr' w).trans (hpr w)⟩

theorem Rel.weaken {wp wp' : Prop} {a b : Agent} (h : Rel wp a b) (hw : wp' → wp) : Rel wp' a b :=
  ⟨h.cfg, h.npid, fun p' hp' hle => by
    obtain ⟨p, hp, hid, hle', hpr⟩ := h.old p' hp' hle
    exact ⟨p, hp, hid, hle', fun w => hpr (hw w)⟩⟩

theorem Quiet.refl (wp ex : Prop) (a : Agent) : Quiet wp ex a a := ⟨Rel.refl wp a, Or.inl ⟨rfl, Fwd.refl a⟩⟩

theorem Quiet.trans {wp ex : Prop} {a b c : Agent} (h1 : Quiet wp ex a b) (h2 : Quiet wp ex b c) :
    Quiet wp ex a c := by
  refine ⟨h1.toRel.trans h2.toRel, ?_⟩
  rcases h2.sel with h | h
  · rcases h1.sel with h' | h'
    · exact Or.inl ⟨h.1.trans h'.1, h'.2.trans h.2⟩
    · exact Or.inr ⟨h'.1, h.1.trans h'.2⟩
  · exact Or.inr h

theorem Quiet.weaken {wp ex wp' ex' : Prop} {a b : Agent} (h : Quiet wp ex a b) (hw : wp' → wp)
    (he : ex' → ex) : Quiet wp' ex' a b :=
  ⟨h.toRel.weaken hw, h.sel.imp id fun ⟨h1, h2⟩ => ⟨fun e => h1 (he e), h2⟩⟩

theorem Pres.refl (wp ex : Prop) (a : Agent) : Pres wp ex a a := fun h => ⟨h, Quiet.refl _ _ _⟩

theorem Pres.trans {wp ex : Prop} {a b c : Agent} (h1 : Pres wp ex a b) (h2 : Pres wp ex b c) :
    Pres wp ex a c := fun h =>
  let ⟨hb, q1⟩ := h1 h
  let ⟨hc, q2⟩ := h2 hb
  ⟨hc, q1.trans q2⟩

theorem Pres.weaken {wp ex wp' ex' : Prop} {a b : Agent} (h : Pres wp ex a b) (hw : wp' → wp)
    (he : ex' → ex) : Pres wp' ex' a b := fun hi => ⟨(h hi).1, (h hi).2.weaken hw he⟩

theorem find_id_of_pairwise {l : List Pair} (hu : l.Pairwise (fun p q => p.id ≠ q.id)) {p : Pair}
    (hp : p ∈ l) : l.find? (·.id == p.id) = some p :=
  Agent.find?_key_of_mem (k := Pair.id) (List.pairwise_map.2 hu) hp

theorem pairById_of_mem {a : Agent} (hi : IdsOK a) {p : Pair} (hp : p ∈ a.checklist) :
    a.pairById p.id = some p := find_id_of_pairwise hi.uniq hp

theorem mem_unique {a : Agent} (hi : IdsOK a) {p q : Pair} (hp : p ∈ a.checklist) (hq : q ∈ a.checklist)
    (h : p.id = q.id) : p = q :=
  Agent.eq_of_key_nodup (k := Pair.id) (List.pairwise_map.2 hi.uniq) hp hq h

theorem updPair_ids {l : List Pair} {id : Nat} {f : Pair → Pair} (hid : ∀ p, (f p).id = p.id) :
    (updPair l id f).map (·.id) = l.map (·.id) := Agent.updPair_map (·.id) l id f hid

theorem pairwise_ids_iff (l : List Pair) :
    l.Pairwise (fun p q => p.id ≠ q.id) ↔ (l.map (·.id)).Pairwise (· ≠ ·) := by
  rw [List.pairwise_map]

theorem Inv3.of_eq {a a' : Agent} (hc : a'.cfg = a.cfg) (hn : a'.nextPairID = a.nextPairID)
    (hl : a'.checklist = a.checklist) (hs : a'.selected = a.selected ∨ a'.selected = none)
    (h : Inv3 a) : Inv3 a' := by
  refine ⟨⟨?_, ?_⟩, ?_, ?_⟩
  · rw [hl, hn]; exact h.ids.le
  · rw [hl]; exact h.ids.uniq
  · rw [hl, hc]; exact h.pairs
  · intro id hid
    rw [hl]
    rcases hs with hs | hs
    · exact h.sel id (hs ▸ hid)
    · rw [hs] at hid; cases hid

theorem Quiet.of_eq {wp ex : Prop} {a a' : Agent} (hc : a'.cfg = a.cfg) (hn : a'.nextPairID = a.nextPairID)
    (hl : a'.checklist = a.checklist) (hs : a'.selected = a.selected)
    (hp : ∀ p, a'.pairPrio p = a.pairPrio p) : Quiet wp ex a a' := by
  refine ⟨⟨hc, by omega, ?_⟩, Or.inl ⟨hs, Fwd.of_eq hl⟩⟩
  intro p' hp' _
  exact ⟨p', hl ▸ hp', rfl, PLe.refl _, fun _ => hp p'⟩

theorem Pres.of_eq {wp ex : Prop} {a a' : Agent} (hc : a'.cfg = a.cfg) (hn : a'.nextPairID = a.nextPairID)
    (hl : a'.checklist = a.checklist) (hs : a'.selected = a.selected)
    (hp : ∀ p, a'.pairPrio p = a.pairPrio p) : Pres wp ex a a' :=
  fun h => ⟨h.of_eq hc hn hl (Or.inl hs), Quiet.of_eq hc hn hl hs hp⟩

theorem modPair_quiet {wp ex : Prop} (a : Agent) (id : Nat) (f : Pair → Pair)
    (hid : ∀ p, (f p).id = p.id)
    (hle : ∀ p ∈ a.checklist, p.id = id → PLe p (f p))
    (hpr : wp → ∀ p ∈ a.checklist, p.id = id → PrioF p (f p)) :
    Quiet wp ex a (a.modPair id f) := by
  refine ⟨⟨rfl, Nat.le_refl _, ?_⟩, Or.inl ⟨rfl, fun p hp =>
    ⟨_, updPair_mem (id := id) (f := f) hp, by split <;> simp [hid]⟩⟩⟩
  intro q hq _
  obtain ⟨p, hp, h | h⟩ := mem_modPair hq
  · obtain ⟨e, rfl⟩ := h
    exact ⟨p, hp, (hid p).symm, hle p hp e, fun w => pairPrio_congr a (hpr w p hp e)⟩
  · obtain ⟨_, rfl⟩ := h
    exact ⟨q, hp, rfl, PLe.refl _, fun _ => rfl⟩

theorem modPair_idsOK (a : Agent) (id : Nat) (f : Pair → Pair) (hid : ∀ p, (f p).id = p.id)
    (h : IdsOK a) : IdsOK (a.modPair id f) :=
  have h' := Agent.issued_of_keys (k := Pair.id) (k' := Pair.id) (updPair_ids (l := a.checklist) (id := id) hid)
    (Nat.le_refl a.nextPairID) ⟨h.le, h.uniq⟩
  ⟨h'.1, h'.2⟩

theorem modPair_inv (a : Agent) (id : Nat) (f : Pair → Pair) (hid : ∀ p, (f p).id = p.id)
    (hok : ∀ p ∈ a.checklist, p.id = id → PairOK a.cfg.lite p → PairOK a.cfg.lite (f p))
    (hsel : a.selected = some id → ∀ p ∈ a.checklist, p.id = id → SelPair p → SelPair (f p))
    (h : Inv3 a) : Inv3 (a.modPair id f) := by
  refine ⟨modPair_idsOK a id f hid h.ids, ?_, ?_⟩
  · intro q hq
    obtain ⟨p, hp, h' | h'⟩ := mem_modPair hq
    · rw [h'.2]; exact hok p hp h'.1 (h.pairs p hp)
    · rw [h'.2]; exact h.pairs p hp
  · intro sid hs
    obtain ⟨p, hp, hpid, hsp⟩ := h.sel sid hs
    refine ⟨_, updPair_mem (id := id) (f := f) hp, ?_, ?_⟩
    · split <;> simp [hid, hpid]
    · by_cases e : p.id = id
      · simp only [e, beq_self_eq_true, if_true]
        have hs' : a.selected = some sid := hs
        exact hsel (by rw [hs', ← hpid, e]) p hp e hsp
      · simp only [beq_iff_eq, e, if_false]; exact hsp

theorem modPair_pres {wp ex : Prop} (a : Agent) (id : Nat) (f : Pair → Pair)
    (hid : ∀ p, (f p).id = p.id)
    (hle : ∀ p ∈ a.checklist, p.id = id → PLe p (f p))
    (hpr : wp → ∀ p ∈ a.checklist, p.id = id → PrioF p (f p))
    (hok : ∀ p ∈ a.checklist, p.id = id → PairOK a.cfg.lite p → PairOK a.cfg.lite (f p))
    (hsel : a.selected = some id → ∀ p ∈ a.checklist, p.id = id → SelPair p → SelPair (f p)) :
    Pres wp ex a (a.modPair id f) :=
  fun h => ⟨modPair_inv a id f hid hok hsel h, modPair_quiet a id f hid hle hpr⟩

/-- A modification of counters only (everything `PLe`, `PrioF`, `PairOK`, `SelPair` look at is kept). -/
structure CoreSame (p q : Pair) : Prop where
  id : q.id = p.id
  l : q.l = p.l
  r : q.r = p.r
  state : q.state = p.state
  nominated : q.nominated = p.nominated
  nomOnSuccess : q.nomOnSuccess = p.nomOnSuccess
  prioOverride : q.prioOverride = p.prioOverride
  controlling : q.controlling = p.controlling
  gReq : q.gReq = p.gReq
  gNomReq : q.gNomReq = p.gNomReq
  gResp : q.gResp = p.gResp
  gRespUC : q.gRespUC = p.gRespUC

theorem CoreSame.ple {p q : Pair} (h : CoreSame p q) : PLe p q :=
  ⟨by rw [h.gReq]; exact fun x => x, by rw [h.gNomReq]; exact fun x => x, by rw [h.gResp]; exact fun x => x,
   by rw [h.gRespUC]; exact fun x => x, by rw [h.state]; exact fun x => x⟩
theorem CoreSame.prioF {p q : Pair} (h : CoreSame p q) : PrioF p q := ⟨h.l, h.r, h.prioOverride, h.controlling⟩
theorem CoreSame.pairOK {p q : Pair} (h : CoreSame p q) {lite : Bool} (hp : PairOK lite p) : PairOK lite q :=
  ⟨by rw [h.state, h.gResp, h.gNomReq]; exact hp.valid, by rw [h.nomOnSuccess, h.gNomReq]; exact hp.deferred,
   by rw [h.gRespUC, h.gResp]; exact hp.respUC⟩
theorem CoreSame.selPair {p q : Pair} (h : CoreSame p q) (hp : SelPair p) : SelPair q :=
  ⟨by rw [h.state]; exact hp.succ, by rw [h.nominated]; exact hp.nominated,
   by rw [h.gRespUC, h.gNomReq]; exact hp.nom⟩

theorem modPair_core {wp ex : Prop} (a : Agent) (id : Nat) (f : Pair → Pair) (hf : ∀ p, CoreSame p (f p)) :
    Pres wp ex a (a.modPair id f) :=
  modPair_pres a id f (fun p => (hf p).id) (fun p _ _ => (hf p).ple) (fun _ p _ _ => (hf p).prioF)
    (fun p _ _ hp => (hf p).pairOK hp) (fun _ p _ _ hp => (hf p).selPair hp)

theorem addPair_pres {wp ex : Prop} (a : Agent) (l r : Cand) : Pres wp ex a (a.addPair l r).1 := by
  intro h
  have hnew : ∀ q ∈ (a.addPair l r).1.checklist, q ∈ a.checklist ∨
      q = { id := a.nextPairID + 1, l := l.uid, r := r.uid, controlling := a.controlling } := by
    intro q hq
    simp only [Agent.addPair, List.mem_append, List.mem_singleton] at hq
    exact hq
  refine ⟨⟨⟨?_, ?_⟩, ?_, ?_⟩, ⟨⟨rfl, by simp [Agent.addPair], ?_⟩,
    Or.inl ⟨rfl, fun p hp => ⟨p, by simp [Agent.addPair, hp], rfl⟩⟩⟩⟩
  · exact (Agent.issued_snoc (k := Pair.id) _ rfl ⟨h.ids.le, h.ids.uniq⟩).1
  · exact (Agent.issued_snoc (k := Pair.id) _ rfl ⟨h.ids.le, h.ids.uniq⟩).2
  · intro q hq
    rcases hnew q hq with hq | rfl
    · exact h.pairs q hq
    · exact ⟨by simp, by simp, by simp⟩
  · intro id hs
    obtain ⟨p, hp, hpid, hsp⟩ := h.sel id hs
    exact ⟨p, by simp [Agent.addPair, hp], hpid, hsp⟩
  · intro q hq hle
    rcases hnew q hq with hq | rfl
    · exact ⟨q, hq, rfl, PLe.refl _, fun _ => rfl⟩
    · exfalso
      have : a.nextPairID + 1 ≤ a.nextPairID := hle
      omega

theorem addPair_snd_id (a : Agent) (l r : Cand) : (a.addPair l r).2.id = a.nextPairID + 1 := rfl

theorem addPair_snd_mem (a : Agent) (l r : Cand) : (a.addPair l r).2 ∈ (a.addPair l r).1.checklist := by
  simp [Agent.addPair]

theorem wipe_pres {wp : Prop} (a : Agent) : Pres wp False a a.wipe := by
  intro _
  refine ⟨⟨⟨by simp [Agent.wipe], by simp [Agent.wipe]⟩, by simp [Agent.wipe], by simp [Agent.wipe]⟩,
    ⟨⟨rfl, Nat.le_refl _, by simp [Agent.wipe]⟩, Or.inr ⟨id, rfl⟩⟩⟩

theorem setConnState_pres {wp : Prop} (a : Agent) (s : ConnState) : Pres wp False a (a.setConnState s).1 := by
  unfold Agent.setConnState
  split
  · exact Pres.refl _ _ _
  · split
    · exact (wipe_pres a).trans (Pres.of_eq rfl rfl rfl rfl fun _ => rfl)
    · exact Pres.of_eq rfl rfl rfl rfl fun _ => rfl

theorem setConnState_pres_ne {wp ex : Prop} (a : Agent) (s : ConnState) (hs : s ≠ .failed) :
    Pres wp ex a (a.setConnState s).1 := by
  unfold Agent.setConnState
  split
  · exact Pres.refl _ _ _
  · have : (s == ConnState.failed) = false := by simpa using hs
    simp only [this]
    exact Pres.of_eq rfl rfl rfl rfl fun _ => rfl

theorem setConnState_cc (a : Agent) (s : ConnState) :
    (a.setConnState s).1.cfg = a.cfg ∧ (a.setConnState s).1.controlling = a.controlling := by
  unfold Agent.setConnState
  split
  · exact ⟨rfl, rfl⟩
  · split <;> exact ⟨rfl, rfl⟩

theorem select_fst (a : Agent) (id : Nat) :
    (a.select id).1 = { a with checklist := updPair a.checklist id fun p => { p with nominated := true },
                               selected := some id, onConnectedFired := true, connState := .connected } :=
  Agent.select_update a id

theorem select_cc (a : Agent) (id : Nat) :
    (a.select id).1.cfg = a.cfg ∧ (a.select id).1.controlling = a.controlling := by
  rw [select_fst]; exact ⟨rfl, rfl⟩

theorem select_inv (a : Agent) (id : Nat) (h : Inv3 a)
    (hp : ∃ p ∈ a.checklist, p.id = id ∧ p.state = .succeeded ∧ (p.gRespUC = true ∨ p.gNomReq = true)) :
    Inv3 (a.select id).1 := by
  have h1 : Inv3 (a.modPair id fun p => { p with nominated := true }) :=
    modPair_inv a id _ (fun _ => rfl)
      (fun p _ _ hp => ⟨hp.valid, hp.deferred, hp.respUC⟩) (fun _ p _ _ hp => ⟨hp.succ, rfl, hp.nom⟩) h
  rw [select_fst]
  refine ⟨⟨h1.ids.le, h1.ids.uniq⟩, h1.pairs, ?_⟩
  intro sid hs
  simp only [Option.some.injEq] at hs
  subst hs
  obtain ⟨p, hpm, hpid, hst, hn⟩ := hp
  refine ⟨_, updPair_mem (id := id) (f := fun p => { p with nominated := true }) hpm, ?_, ?_⟩
  · split <;> simp [hpid]
  · simp only [hpid, beq_self_eq_true, if_true]
    exact ⟨hst, rfl, hn⟩

theorem select_rel {wp : Prop} (a : Agent) (id : Nat) : Rel wp a (a.select id).1 := by
  have h1 : Quiet wp True a (a.modPair id fun p => { p with nominated := true }) :=
    modPair_quiet a id _ (fun _ => rfl) (fun p _ _ => ⟨fun x => x, fun x => x, fun x => x, fun x => x, fun x => x⟩) (fun _ p _ _ => ⟨rfl, rfl, rfl, rfl⟩)
  rw [select_fst]
  refine ⟨rfl, Nat.le_refl _, ?_⟩
  intro p' hp' hle
  obtain ⟨p, hp, hid, hle', hpr⟩ := h1.old p' hp' hle
  exact ⟨p, hp, hid, hle', hpr⟩

theorem select_fwd (a : Agent) (id : Nat) : Fwd a (a.select id).1 := by
  intro p hp
  rw [select_fst]
  exact ⟨_, updPair_mem (id := id) (f := fun p : Pair => { p with nominated := true }) hp, by
    split <;> rfl⟩

theorem select_same_pres {wp ex : Prop} (a : Agent) (id : Nat) (hs : a.selected = some id) :
    Pres wp ex a (a.select id).1 := by
  intro h
  obtain ⟨p, hp, hpid, hsp⟩ := h.sel id hs
  refine ⟨select_inv a id h ⟨p, hp, hpid, hsp.succ, hsp.nom⟩, ⟨select_rel a id, Or.inl ⟨?_, select_fwd a id⟩⟩⟩
  rw [select_selected, hs]

end IceProofs.C03

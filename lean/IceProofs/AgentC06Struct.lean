import IceProofs.AgentC06Inv
import IceProofs.AgentC06Retarget
/-!
# C06 — `StructOK` under the list operations of candidate arrival and supersession (pure list reasoning)
-/
namespace IceProofs.AgentC06
open IceModel.AgentCore IceProofs.Agent

/-- key of a pair after supersession of the remote uids `S` by `cu` -/
def rk (S : List Nat) (cu : Nat) (k : Key) : Key := if S.contains k.2.2 then (k.1, k.2.1, cu) else k

@[simp] theorem rk_fst (S cu) (k : Key) : (rk S cu k).1 = k.1 := by unfold rk; split <;> rfl
@[simp] theorem rk_snd_fst (S cu) (k : Key) : (rk S cu k).2.1 = k.2.1 := by unfold rk; split <;> rfl

theorem StructOK.uids_snoc {ks lc rc ca nu np bl cl} (h : StructOK ks lc rc ca nu np bl cl) (c0 : Cand) (hu : c0.uid = nu) :
    (((lc ++ rc) ++ [c0]).map (·.uid)).Nodup := by
  rw [List.map_append, List.nodup_append]
  refine ⟨h.uidsNodup, by simp, ?_⟩
  intro x hx y hy
  obtain ⟨z, hz, rfl⟩ := List.mem_map.1 hx
  have := h.uidsLt z hz
  simp at hy; omega

theorem StructOK.addLocal {ks lc rc ca nu np bl} (h : StructOK ks lc rc ca nu np bl false) (c0 : Cand)
    (hu : c0.uid = nu) (hne : ∀ x ∈ lc, x.equal c0 = false) :
    StructOK ks (lc ++ [c0]) rc ca (nu + 1) np bl false := by
  have hnd := h.uids_snoc c0 hu
  refine { h with uidsNodup := ?_, uidsLt := ?_, ends := ?_, closedEmpty := by simp, locNE := ?_, cachesOk := ?_ }
  · -- a permutation of the above; do it by hand
    rw [List.map_append, List.nodup_append] at hnd
    obtain ⟨h1, _, h3⟩ := hnd
    rw [List.map_append, List.nodup_append] at h1
    obtain ⟨hl, hr, hlr⟩ := h1
    rw [List.map_append, List.nodup_append]
    refine ⟨?_, hr, ?_⟩
    · rw [List.map_append, List.nodup_append]
      refine ⟨hl, by simp, ?_⟩
      intro x hx y hy
      exact h3 x (by rw [List.map_append]; exact List.mem_append_left _ hx) y hy
    · intro x hx y hy
      rw [List.map_append] at hx
      rcases List.mem_append.1 hx with hx | hx
      · exact hlr x hx y hy
      · intro e
        exact h3 y (by rw [List.map_append]; exact List.mem_append_right _ hy) x hx e.symm
  · intro c hc
    have : c ∈ lc ++ rc ∨ c = c0 := by
      simp only [List.mem_append, List.mem_singleton] at hc ⊢
      rcases hc with (hc | hc) | hc
      · exact Or.inl (Or.inl hc)
      · exact Or.inr hc
      · exact Or.inl (Or.inr hc)
    rcases this with hc | hc
    · have := h.uidsLt c hc; omega
    · subst hc; omega
  · intro hc k hk
    obtain ⟨l, hl, r, hr, h1⟩ := h.ends hc k hk
    exact ⟨l, List.mem_append_left _ hl, r, hr, h1⟩
  · rw [List.pairwise_append]
    exact ⟨h.locNE, List.pairwise_singleton _ _, fun x hx y hy => by simp at hy; subst hy; exact hne x hx⟩
  · intro x hx
    obtain ⟨⟨l, hl, h1⟩, h2⟩ := h.cachesOk x hx
    exact ⟨⟨l, List.mem_append_left _ hl, h1⟩, h2⟩

theorem StructOK.supersede {ks lc rc ca nu np bl} (h : StructOK ks lc rc ca nu np bl false) (c0 : Cand)
    (S : List Nat) (hu : c0.uid = nu)
    (hS : ∀ s ∈ S, ∃ e ∈ rc, e.uid = s ∧ e.net = c0.net)
    (hne : ∀ x ∈ rc, x.equal c0 = false)
    (hb : bl.contains (ipOf c0.addr) = false) :
    StructOK (ks.map (rk S nu)) lc ((rc ++ [c0]).filter (fun e => !S.contains e.uid))
      (ca.map (recache S nu)) (nu + 1) np bl false := by
  have hnS : S.contains nu = false := by
    cases hc : S.contains nu with
    | false => rfl
    | true =>
      obtain ⟨e, he, heu, _⟩ := hS nu (List.contains_iff_mem.1 hc)
      have := h.uidsLt e (List.mem_append_right _ he)
      omega
  have hc0 : c0 ∈ (rc ++ [c0]).filter (fun e => !S.contains e.uid) := by
    rw [List.mem_filter]
    exact ⟨List.mem_append_right _ (by simp), by rw [hu, hnS]; rfl⟩
  have hkeep : ∀ r ∈ rc, S.contains r.uid = false → r ∈ (rc ++ [c0]).filter (fun e => !S.contains e.uid) := by
    intro r hr hs
    rw [List.mem_filter]
    exact ⟨List.mem_append_left _ hr, by rw [hs]; rfl⟩
  have hrcNodup : (rc.map (·.uid)).Nodup := by
    have := h.uidsNodup
    rw [List.map_append, List.nodup_append] at this
    exact this.2.1
  have hnd := h.uids_snoc c0 hu
  have hsub : (lc ++ (rc ++ [c0]).filter (fun e => !S.contains e.uid)).Sublist ((lc ++ rc) ++ [c0]) := by
    rw [List.append_assoc]
    exact List.Sublist.append_left List.filter_sublist lc
  refine
    { idsNodup := ?_, idsLe := ?_, uidsNodup := ?_, uidsLt := ?_, ends := ?_, closedEmpty := by simp,
      remNE := ?_, locNE := h.locNE, notBlocked := ?_, cachesOk := ?_ }
  · rw [List.map_map]
    have : ((fun (x : Key) => x.1) ∘ rk S nu) = fun x => x.1 := by funext k; simp
    rw [this]; exact h.idsNodup
  · intro k' hk'
    obtain ⟨k, hk, rfl⟩ := List.mem_map.1 hk'
    simpa using h.idsLe k hk
  · exact List.Nodup.sublist (List.Sublist.map _ hsub) hnd
  · intro c hc
    have hc' := hsub.subset hc
    rcases List.mem_append.1 hc' with hc' | hc'
    · have := h.uidsLt c hc'; omega
    · simp at hc'; subst hc'; omega
  · intro _ k' hk'
    obtain ⟨k, hk, rfl⟩ := List.mem_map.1 hk'
    obtain ⟨l, hl, r, hr, h1, h2, h3⟩ := h.ends rfl k hk
    unfold rk
    split
    · rename_i hc
      obtain ⟨e, he, heu, hen⟩ := hS k.2.2 (List.contains_iff_mem.1 hc)
      have : r = e := eq_of_key_nodup hrcNodup hr he (h2.trans heu.symm)
      subst this
      exact ⟨l, hl, c0, hc0, h1, hu, h3.trans hen⟩
    · rename_i hc
      have hc' : S.contains r.uid = false := by rw [h2]; exact Bool.eq_false_iff.2 hc
      exact ⟨l, hl, r, hkeep r hr hc', h1, h2, h3⟩
  · refine List.Pairwise.sublist List.filter_sublist ?_
    rw [List.pairwise_append]
    exact ⟨h.remNE, List.pairwise_singleton _ _, fun x hx y hy => by simp at hy; subst hy; exact hne x hx⟩
  · intro r hr
    have := (List.mem_filter.1 hr).1
    rcases List.mem_append.1 this with hr' | hr'
    · exact h.notBlocked r hr'
    · simp at hr'; subst hr'; exact hb
  · intro x' hx'
    obtain ⟨x, hx, rfl⟩ := List.mem_map.1 hx'
    obtain ⟨⟨l, hl, h1⟩, ⟨r, hr, h2⟩⟩ := h.cachesOk x hx
    unfold recache
    split
    · exact ⟨⟨l, hl, h1⟩, ⟨c0, hc0, hu⟩⟩
    · rename_i hc
      have hc' : S.contains r.uid = false := by rw [h2]; exact Bool.eq_false_iff.2 hc
      exact ⟨⟨l, hl, h1⟩, ⟨r, hkeep r hr hc', h2⟩⟩

end IceProofs.AgentC06

import IceProofs.CloseSysCases
import IceProofs.CountP
/-! # CloseSys — frame lemmas: what the helper updates leave unchanged, and the workhorse `Inv.loopFrame` -/
namespace IceProofs.CloseSys
open IceModel.CloseSys

/-- every stream of `s'` comes from a stream of `s` at the same index, and a closed notifier stays closed and
stays without drainer. -/
def StreamsMono (s s' : State) : Prop :=
  ∀ (j : Nat) (st' : Stream), s'.streams[j]? = some st' → ∃ st : Stream, s.streams[j]? = some st ∧
    (st.ndone = true → st'.ndone = true ∧ (st.running = false → st'.running = false))

theorem StreamsMono.refl' {s s' : State} (h : s'.streams = s.streams) : StreamsMono s s' := by
  intro j st' hj; exact ⟨st', by rw [← h]; exact hj, fun h => ⟨h, id⟩⟩

theorem Quiet.mono {s s' : State} {i : Nat} {g : Bool} (h : Quiet s i g) (m : StreamsMono s s') : Quiet s' i g := by
  intro j st' hj hst'
  obtain ⟨st, hst, hm⟩ := m j st' hst'
  obtain ⟨h1, h2⟩ := h j st hj hst
  obtain ⟨h3, h4⟩ := hm h1
  exact ⟨h3, fun hg => h4 (h2 hg)⟩

theorem ThOK.frame {s s' : State} {tid : Tid} {th : Th} (h : ThOK s tid th) (ho : s'.once = s.once)
    (hl : s.loop = .exited → s'.loop = .exited) (m : StreamsMono s s') : ThOK s' tid th := by
  unfold ThOK at *
  split at h
  · rw [ho]; exact h
  · rw [ho]; exact h
  · obtain ⟨h1, h2, h3⟩ := h
    exact ⟨ho ▸ h1, hl h2, h3.mono m⟩
  · obtain ⟨h0, h1, h2, h3, h4⟩ := h
    refine ⟨h0, ho ▸ h1, hl h2, h3.mono m, ?_⟩
    intro st' hst'
    obtain ⟨st, hst, hm⟩ := m _ st' hst'
    exact (hm (h4 st hst)).1
  · trivial

theorem enqueue_eq (s : State) (i e : Nat) :
    ∃ (streams : List Stream) (lastAcc : Option Nat), enqueue s i e = { s with streams := streams, lastAcc := lastAcc } := by
  unfold enqueue
  split
  · exact ⟨_, _, rfl⟩
  · split <;> exact ⟨_, _, rfl⟩

theorem enqueue_stream (s : State) (i e j : Nat) (st' : Stream) (h : (enqueue s i e).streams[j]? = some st') :
    ∃ st : Stream, s.streams[j]? = some st ∧ st'.th = st.th ∧ st'.ndone = st.ndone ∧ st'.hdl = st.hdl ∧
      (st.running = true → st'.running = true) ∧ (st.ndone = true → st' = st) := by
  unfold enqueue at h
  split at h
  · exact ⟨st', h, rfl, rfl, rfl, id, fun _ => rfl⟩
  · rename_i st hi
    split at h
    · exact ⟨st', h, rfl, rfl, rfl, id, fun _ => rfl⟩
    · rename_i hnd
      simp only [List.getElem?_set] at h
      split at h
      · subst_vars
        split at h
        · simp at h; subst h
          exact ⟨st, hi, rfl, rfl, rfl, fun _ => rfl, fun h => absurd h hnd⟩
        · simp at h
      · exact ⟨st', h, rfl, rfl, rfl, id, fun _ => rfl⟩

theorem enqueue_mono (s : State) (i e : Nat) : StreamsMono s (enqueue s i e) := by
  intro j st' h
  obtain ⟨st, h1, _, h3, _, _, h6⟩ := enqueue_stream s i e j st' h
  exact ⟨st, h1, fun hd => by rw [h6 hd]; exact ⟨hd, id⟩⟩

theorem cancelCur_eq (s : State) : ∃ thr : List Th, cancelCur s = { s with thr := thr } := by
  unfold cancelCur; split <;> exact ⟨_, rfl⟩

theorem cancelCur_thr (s : State) (n : Nat) (th' : Th) (h : (cancelCur s).thr[n]? = some th') :
    ∃ th : Th, s.thr[n]? = some th ∧ th'.loc = th.loc ∧ th'.prog = th.prog ∧ th'.live = th.live ∧ th'.kind = th.kind := by
  unfold cancelCur at h
  split at h
  · exact ⟨th', h, rfl, rfl, rfl, rfl⟩
  · simp only [List.getElem?_modify] at h
    cases hs : s.thr[n]? with
    | none => simp [hs] at h
    | some th =>
      simp [hs] at h
      refine ⟨th, rfl, ?_⟩
      subst h
      split <;> simp

theorem ThOK.congr {s : State} {tid : Tid} {th th' : Th} (h : th'.loc = th.loc) (ok : ThOK s tid th) : ThOK s tid th' := by
  unfold ThOK at *; rw [h]; exact ok

def CandOK1 (cd : Cand) : Prop := (cd.listed = false → cd.rl = .exited) ∧ (cd.rl = .exited → cd.aborted = true)

/-- relation between the thread tables of `s` and `s'` when no thread moved. -/
def ThrSame (s s' : State) : Prop :=
  s'.thr.length = s.thr.length ∧
  ∀ (n : Nat) (th' : Th), s'.thr[n]? = some th' → ∃ th : Th, s.thr[n]? = some th ∧ th'.loc = th.loc ∧
    th'.prog = th.prog ∧ (th.live = true → th'.live = true) ∧ th'.kind = th.kind

def StreamsSame (s s' : State) : Prop :=
  s'.streams.length = s.streams.length ∧
  ∀ (j : Nat) (st' : Stream), s'.streams[j]? = some st' → ∃ st : Stream, s.streams[j]? = some st ∧
    st'.th = st.th ∧ (st'.ndone = true → st.ndone = true ∨ s.loop = .exited) ∧
    (st.running = true → st'.running = true ∨ (st'.th.loc = .idle ∧ st'.th.prog = [])) ∧
    (st.ndone = true → st'.ndone = true ∧ (st.running = false → st'.running = false))

def CandsMono (s s' : State) : Prop :=
  ∀ (i : Nat) (cd : Cand), s.cands[i]? = some cd → ∃ cd' : Cand, s'.cands[i]? = some cd' ∧
    (cd.aborted = true → cd'.aborted = true)

theorem StreamsSame.mono {s s' : State} (h : StreamsSame s s') : StreamsMono s s' := by
  intro j st' hj
  obtain ⟨st, h1, _, _, _, h5⟩ := h.2 j st' hj
  exact ⟨st, h1, h5⟩

theorem getElem?_of_length_eq {α β : Type} {l : List α} {l' : List β} (h : l'.length = l.length) {n : Nat} {a : α}
    (hn : l[n]? = some a) : ∃ b, l'[n]? = some b := by
  have : n < l.length := getElem?_lt hn
  exact ⟨l'[n]'(h ▸ this), by simp [h ▸ this]⟩

theorem getTh_same {s s' : State} (ht : ThrSame s s') (hs : StreamsSame s s') {o : Tid} {th : Th}
    (h : getTh s o = some th) : ∃ th' : Th, getTh s' o = some th' ∧ th'.loc = th.loc := by
  cases o with
  | api n =>
    simp only [getTh] at h ⊢
    obtain ⟨th', h'⟩ := getElem?_of_length_eq ht.1 h
    obtain ⟨th0, h0, hl, _⟩ := ht.2 n th' h'
    rw [h] at h0; cases h0
    exact ⟨th', h', hl⟩
  | dr i =>
    simp only [getTh] at h ⊢
    cases hi : s.streams[i]? with
    | none => simp [hi] at h
    | some st =>
      simp [hi] at h
      obtain ⟨st', h'⟩ := getElem?_of_length_eq hs.1 hi
      obtain ⟨st0, h0, hth, _⟩ := hs.2 i st' h'
      rw [hi] at h0; cases h0
      exact ⟨st'.th, by simp [h'], by rw [hth, h]⟩
  | rl c => simp [getTh] at h

theorem ThrSame.of_eq {s s' : State} (h : s'.thr = s.thr) : ThrSame s s' :=
  ⟨by rw [h], fun n th' hn => ⟨th', by rw [← h]; exact hn, rfl, rfl, id, rfl⟩⟩

theorem StreamsSame.of_eq {s s' : State} (h : s'.streams = s.streams) : StreamsSame s s' :=
  ⟨by rw [h], fun n st' hn => ⟨st', by rw [← h]; exact hn, rfl, Or.inl, Or.inl, fun h => ⟨h, id⟩⟩⟩

theorem CandsMono.of_eq {s s' : State} (h : s'.cands = s.cands) : CandsMono s s' :=
  fun i cd hi => ⟨cd, by rw [h]; exact hi, id⟩

theorem cancelCur_thrSame (s : State) : ThrSame s (cancelCur s) := by
  refine ⟨by simp only [cancelCur]; split <;> simp, fun n th' hn => ?_⟩
  obtain ⟨th, h1, h2, h3, h4, h5⟩ := cancelCur_thr s n th' hn
  exact ⟨th, h1, h2, h3, fun hx => by rw [h4]; exact hx, h5⟩

theorem enqueue_streams_length (s : State) (i e : Nat) : (enqueue s i e).streams.length = s.streams.length := by
  unfold enqueue; split <;> (try split) <;> simp

theorem enqueue_same (s : State) (i e : Nat) : StreamsSame s (enqueue s i e) :=
  ⟨enqueue_streams_length s i e, fun j st' hj => by
    obtain ⟨st, h1, h2, h3, _, h5, h6⟩ := enqueue_stream s i e j st' hj
    exact ⟨st, h1, h2, fun h => Or.inl (h3 ▸ h), fun h => Or.inl (h5 h), fun h => by rw [h6 h]; exact ⟨h, id⟩⟩⟩

theorem StreamsSame.setLoop {s s0 : State} {l : LoopLoc} (h : StreamsSame s s0) : StreamsSame s { s0 with loop := l } := h

theorem gatherFinished_congr {s s' : State} (h1 : s'.gcur = s.gcur) (h2 : s'.thr = s.thr) :
    gatherFinished s' = gatherFinished s := by
  unfold gatherFinished; rw [h1, h2]

theorem abortCand_cands (s : State) (k j : Nat) (cd' : Cand) (h : (abortCand s k).cands[j]? = some cd') :
    ∃ cd : Cand, s.cands[j]? = some cd ∧ cd'.rl = cd.rl ∧ cd'.listed = cd.listed ∧
      (cd.aborted = true → cd'.aborted = true) ∧ (j = k → cd'.aborted = true) := by
  simp only [abortCand, List.getElem?_modify] at h
  cases hx : s.cands[j]? with
  | none => simp [hx] at h
  | some cd =>
    simp [hx] at h; subst h
    refine ⟨cd, rfl, ?_⟩
    split <;> simp_all
    intro e; exact absurd e.symm ‹_›

theorem abortCand_mono (s : State) (k : Nat) : CandsMono s (abortCand s k) := by
  intro j cd hj
  simp only [abortCand, List.getElem?_modify, hj]
  refine ⟨_, rfl, ?_⟩
  split <;> simp

def OnceNum (o : Once) (snap : Nat) (cands : List Cand) : Prop :=
  match o with
  | .free => True
  | .running _ k => k ≤ snap ∧ snap ≤ cands.length ∧
      ∀ (i : Nat) (cd : Cand), i < k → cands[i]? = some cd → cd.aborted = true
  | .finished => snap ≤ cands.length ∧ ∀ (i : Nat) (cd : Cand), i < snap → cands[i]? = some cd → cd.aborted = true

theorem onceOK_iff (s : State) : OnceOK s ↔ OnceNum s.once s.snap s.cands ∧
    ∀ o k, s.once = .running o k → ∃ th g, getTh s o = some th ∧ th.loc = .cPre g := by
  unfold OnceOK OnceNum
  cases s.once <;> simp
  exact And.comm

theorem Inv.onceNum {s : State} (h : Inv s) : OnceNum s.once s.snap s.cands := ((onceOK_iff s).1 h.onceOK).1

theorem Inv.owner {s : State} (h : Inv s) {o : Tid} {k : Nat} (ho : s.once = .running o k) :
    ∃ th g, getTh s o = some th ∧ th.loc = .cPre g := ((onceOK_iff s).1 h.onceOK).2 o k ho

theorem CandsMono.length_le {s s' : State} (m : CandsMono s s') : s.cands.length ≤ s'.cands.length := by
  rcases Nat.lt_or_ge s'.cands.length s.cands.length with hlt | hge
  · obtain ⟨cd', h1, _⟩ := m _ _ (List.getElem?_eq_getElem hlt)
    simp at h1
  · exact hge

theorem OnceNum.mono {s s' : State} {o : Once} {snap : Nat} (h : OnceNum o snap s.cands) (m : CandsMono s s') :
    OnceNum o snap s'.cands := by
  have hlen := m.length_le
  have keep : ∀ n, n ≤ s.cands.length → (∀ (i : Nat) (cd : Cand), i < n → s.cands[i]? = some cd → cd.aborted = true) →
      ∀ (i : Nat) (cd' : Cand), i < n → s'.cands[i]? = some cd' → cd'.aborted = true := by
    intro n hn h0 i cd' hi hc
    obtain ⟨cd'', h3, h4⟩ := m i _ (List.getElem?_eq_getElem (by omega : i < s.cands.length))
    rw [hc] at h3; cases h3
    exact h4 (h0 i _ hi (List.getElem?_eq_getElem _))
  unfold OnceNum at *
  split at h
  · trivial
  · exact ⟨h.1, by omega, keep _ (by omega) h.2.2⟩
  · exact ⟨by omega, keep _ h.1 h.2⟩

theorem Inv.loopFrame {s s' : State} (h : Inv s)
    (hdone : s'.done = s.done) (honce : s'.once = s.once) (hsnap : s'.snap = s.snap) (hrt : s'.rtask = s.rtask)
    (hcr : s'.closeRet = s.closeRet) (hgr : s'.gcloseRet = s.gcloseRet)
    (hle : s.loop = .exited → s'.loop = .exited)
    (hcl : 1 ≤ stage s'.loop → s.done = true)
    (ht : ThrSame s s') (hs : StreamsSame s s')
    (hcands : ∀ (c : Nat) (cd' : Cand), s'.cands[c]? = some cd' → CandOK1 cd' ∧ (4 ≤ stage s'.loop → cd'.rl = .exited))
    (hmono : CandsMono s s')
    (hw : ∀ c, TOp.write c ∈ loopOps s'.loop → TOp.write c ∈ loopOps s.loop ∨ (s.once = .free ∧ c < s.cands.length))
    (hrl : (∀ c ops, s'.loop = .task (.rl c) ops → TOp.closeCands ∉ ops) ∧ (∀ c ops, s'.loop ≠ .tclose (.rl c) ops))
    (hst : (6 ≤ stage s'.loop → s'.bufClosed = true) ∧ (7 ≤ stage s'.loop → ∀ st : Stream, s'.streams[0]? = some st → s'.lastAcc = some 0) ∧
      (3 ≤ stage s'.loop → gatherFinished s' = true))
    (hg : ∀ t, s'.gcur = some t → ∃ th : Th, s'.thr[t]? = some th ∧ th.kind = .gather ∧ th.live = true) :
    Inv s' := by
  have hlen := hmono.length_le
  have hsm := hs.mono
  refine ⟨?_, ?_, ?_, ?_, ?_, ?_, ?_, ?_, ?_, hst, hg, ?_⟩
  · rw [hdone, honce]; exact h.doneOnce
  · intro h1; rw [hdone]; exact hcl h1
  · intro n th' hn
    obtain ⟨th, h1, hl, hp, hlv, hk⟩ := ht.2 n th' hn
    obtain ⟨a1, a2, a3⟩ := h.apiOK n th h1
    refine ⟨(a1.frame honce hle hsm).congr hl, ?_, ?_⟩
    · intro hx; exact hlv (a2 (hl ▸ hx))
    · intro hx; rw [hp, hl]; exact a3 (hk ▸ hx)
  · intro i st' hi
    obtain ⟨st, h1, hth, hnd, hr, _⟩ := hs.2 i st' hi
    obtain ⟨a1, a2, a3⟩ := h.drOK i st h1
    refine ⟨hth ▸ (a1.frame honce hle hsm), ?_, ?_⟩
    · intro hx
      rcases hr (a2 (hth ▸ hx)) with h5 | ⟨h5, h6⟩
      · exact h5
      · rcases hx with hx | hx
        · exact absurd h5 hx
        · exact absurd h6 hx
    · intro hx
      rcases hnd hx with h5 | h5
      · exact hle (a3 h5)
      · exact hle h5
  · intro c cd' hc
    obtain ⟨⟨a1, a2⟩, a3⟩ := hcands c cd' hc
    exact ⟨a1, a2, a3⟩
  · rw [onceOK_iff, honce, hsnap]
    refine ⟨h.onceNum.mono hmono, fun o k ho => ?_⟩
    obtain ⟨th, g, h1, h2⟩ := h.owner ho
    obtain ⟨th', h1', h2'⟩ := getTh_same ht hs h1
    exact ⟨th', g, h1', h2'.trans h2⟩
  · intro c hc
    rcases hw c hc with h1 | ⟨_, h1⟩
    · have := h.writesLen c h1
      omega
    · omega
  · intro hf c hc
    rw [hsnap]
    rcases hw c hc with h1 | ⟨h1, _⟩
    · exact h.writesSnap (honce ▸ hf) c h1
    · exact absurd h1 (honce ▸ hf)
  · exact ⟨hrl.1, hrl.2, hrt ▸ h.rlTask.2.2⟩
  · constructor
    · intro hx; rw [hcr] at hx
      refine ⟨hle (h.ghost.1 hx).1, ?_⟩
      intro i st' hi
      obtain ⟨st, h1, _, _, _, h6⟩ := hs.2 i st' hi
      exact (h6 ((h.ghost.1 hx).2 i st h1)).1
    · intro hx; rw [hgr] at hx
      intro i st' hi
      obtain ⟨st, h1, _, _, _, h6⟩ := hs.2 i st' hi
      have := h.ghost.2 hx i st h1
      exact ⟨(h6 this.1).1, (h6 this.1).2 this.2⟩

end IceProofs.CloseSys

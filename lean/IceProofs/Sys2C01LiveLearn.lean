import IceProofs.AgentC06Forms
import IceProofs.AgentC07Ctl
import IceProofs.Sys2C01LiveForced
/-!
# C01 liveness — what one agent learns from an inbound step

`step_learns_pings`: an inbound step after which a source address `x`, unknown before, is a known remote candidate is a
peer-reflexive discovery — the new candidate is paired with every local candidate of its network type (`DiscJ`, `DiscW`,
`fold_wit`) — and runs a forced tick, which checks the new pair (`tick_checks`) unless a pair is valid or selected.
`step_auth_known`: an authenticated request from an unfiltered source makes its source known.  `runTimers_unknown`: ticks
add no remote candidate.
-/

namespace IceProofs.C01Live
open IceModel.AgentCore IceProofs.Agent IceProofs.C03
open IceProofs.C01Live.Prog

theorem findRemote_isSome_rcs {a b : Agent} (h : IceProofs.AgentC06.rcsOf b = IceProofs.AgentC06.rcsOf a) (n x : Nat)
    (hb : (b.findRemote n x).isSome = true) : (a.findRemote n x).isSome = true := by
  obtain ⟨c, hc⟩ := Option.isSome_iff_exists.mp hb
  obtain ⟨hcm, hn, hx⟩ := IceProofs.Agent.findRemote_listed hc
  have hm : IceProofs.AgentC06.core c ∈ IceProofs.AgentC06.rcsOf b := List.mem_map.mpr ⟨c, hcm, rfl⟩
  rw [h] at hm
  obtain ⟨c', hc', e⟩ := List.mem_map.mp hm
  have e1 : c'.net = c.net := show (IceProofs.AgentC06.core c').net = (IceProofs.AgentC06.core c).net from congrArg Cand.net e
  have e2 : c'.addr = c.addr := show (IceProofs.AgentC06.core c').addr = (IceProofs.AgentC06.core c).addr from congrArg Cand.addr e
  obtain ⟨r', hr'⟩ := IceProofs.AgentC06.findRemote_of_mem hc' (e1.trans hn) (e2.trans hx)
  rw [hr']; rfl

/-- the state while the discovered candidate `c` is paired with the local candidates -/
structure DiscJ (a : Agent) (c : Cand) (b : Agent) : Prop where
  locals : b.locals = a.locals
  remotes : b.remotes = a.remotes ++ [c]
  pairs : ∀ q ∈ b.checklist, q ∈ a.checklist ∨ FreshPair q

/-- a Waiting pair without a request sent joins the local candidate at `lc` and the remote candidate at `x` -/
def DiscW (lc x : Nat) (b : Agent) : Prop :=
  ∃ q ∈ b.checklist, ∃ pl pr, b.localOf q.l = some pl ∧ b.remoteOf q.r = some pr ∧ pl.addr = lc ∧ pr.addr = x ∧
    q.state = .waiting ∧ q.reqCount = 0

theorem DiscJ.pairStep {a b : Agent} {c : Cand} (h : DiscJ a c b) (l : Cand) : DiscJ a c (pairStep c b l) := by
  unfold IceProofs.C03.pairStep
  split
  · exact h
  · refine ⟨h.locals, h.remotes, ?_⟩
    intro q hq
    simp only [Agent.addPair, List.mem_append, List.mem_singleton] at hq
    rcases hq with hq | rfl
    · exact h.pairs q hq
    · exact Or.inr rfl

theorem DiscW.pairStep {lc x : Nat} {b : Agent} (c : Cand) (h : DiscW lc x b) (l : Cand) : DiscW lc x (pairStep c b l) := by
  unfold IceProofs.C03.pairStep
  split
  · exact h
  · obtain ⟨q, hq, pl, pr, h1, h2, h3⟩ := h
    refine ⟨q, ?_, pl, pr, h1, h2, h3⟩
    simp only [Agent.addPair, List.mem_append, List.mem_singleton]
    exact Or.inl hq

theorem pairStep_wit {a b : Agent} {c : Cand} {x : Nat} (h : DiscJ a c b) (he : EndsOK a) (hrem : CandsOK a.remotes)
    (hca : c.addr = x) (hunk : a.findRemote 0 x = none) (hfresh : a.remoteOf c.uid = none) {l1 : Cand}
    (hl1 : a.localOf l1.uid = some l1) : DiscW l1.addr x (pairStep c b l1) := by
  unfold IceProofs.C03.pairStep
  split
  · rename_i q heq
    obtain ⟨hqm, pl, pr, hpl, hpr, e1, e2⟩ := IceProofs.C01.findPair_spec heq
    rcases h.pairs q hqm with hold | hf
    · exfalso
      obtain ⟨_, h2⟩ := he q hold
      obtain ⟨r0, hr0⟩ := Option.isSome_iff_exists.mp h2
      have hb : b.remoteOf q.r = some r0 := by
        unfold Agent.remoteOf findCand at hr0 ⊢
        rw [h.remotes, List.find?_append, hr0]; rfl
      rw [hb] at hpr
      cases hpr
      have hm := (IceProofs.Agent.findCand_listed hr0).1
      obtain ⟨r', hr'⟩ := IceProofs.AgentC06.findRemote_of_mem hm (hrem.1 _ hm).1 (e2.trans hca)
      rw [hunk] at hr'; cases hr'
    · exact ⟨q, hqm, pl, pr, hpl, hpr, e1, e2.trans hca, congrArg Pair.state hf, congrArg Pair.reqCount hf⟩
  · refine ⟨{ id := b.nextPairID + 1, l := l1.uid, r := c.uid, controlling := b.controlling }, ?_, l1, c, ?_, ?_, rfl, hca,
      rfl, rfl⟩
    · exact List.mem_append_right _ (List.mem_singleton.mpr rfl)
    · show findCand b.locals l1.uid = some l1
      rw [h.locals]; exact hl1
    · show findCand b.remotes c.uid = some c
      unfold Agent.remoteOf findCand at hfresh
      unfold findCand
      rw [h.remotes, List.find?_append, hfresh]
      simp

theorem fold_J {a : Agent} {c : Cand} (ls : List Cand) {b : Agent} (h : DiscJ a c b) :
    DiscJ a c (ls.foldl (pairStep c) b) := by
  induction ls generalizing b with
  | nil => exact h
  | cons y ys ih => exact ih (h.pairStep y)

theorem fold_W {lc x : Nat} (c : Cand) (ls : List Cand) {b : Agent} (h : DiscW lc x b) :
    DiscW lc x (ls.foldl (pairStep c) b) := by
  induction ls generalizing b with
  | nil => exact h
  | cons y ys ih => exact ih (h.pairStep c y)

theorem fold_wit {a : Agent} {c : Cand} {x : Nat} (he : EndsOK a) (hrem : CandsOK a.remotes)
    (hca : c.addr = x) (hunk : a.findRemote 0 x = none) (hfresh : a.remoteOf c.uid = none) {l1 : Cand}
    (hl1 : a.localOf l1.uid = some l1) (ls : List Cand) (hmem : l1 ∈ ls) {b : Agent} (h : DiscJ a c b) :
    DiscW l1.addr x (ls.foldl (pairStep c) b) := by
  induction ls generalizing b with
  | nil => cases hmem
  | cons y ys ih =>
    rw [List.foldl_cons]
    rcases List.mem_cons.mp hmem with e | hm
    · subst e
      exact fold_W c ys (pairStep_wit h he hrem hca hunk hfresh hl1)
    · exact ih hm (h.pairStep y)

section
variable {T0 H now : Nat} {a : Agent}

theorem step_learns_pings (h0 : T0 ≤ now) (hn : now ≤ H) (hg : Good T0 H a) (hc6 : IceProofs.AgentC06.Inv a)
    {la src : Nat} {m : Msg} (hok : AuthRequest a m → m.nom = none ∧ NoConflict a m) (hctl : a.controlling = true)
    {x : Nat} (hunk : a.findRemote 0 x = none)
    (hk : ((step a (.inbound now la src m)).1.findRemote 0 x).isSome = true)
    {lc : Nat} {l1 : Cand} (hl1 : a.localByAddr lc = some l1) :
    (step a (.inbound now la src m)).1.selected.isSome = true ∨
    (∃ p ∈ (step a (.inbound now la src m)).1.checklist, p.state = .succeeded) ∨
    ∃ mt, Out.dgram lc x mt ∈ (step a (.inbound now la src m)).2 ∧ mt.cls = 0 ∧ mt.useCand = false ∧
      ∃ l' r' q', (step a (.inbound now la src m)).1.localByAddr lc = some l' ∧
        (step a (.inbound now la src m)).1.findRemote 0 x = some r' ∧
        (step a (.inbound now la src m)).1.findPair l' r' = some q' := by
  cases hl0 : a.localByAddr la with
  | none =>
    exfalso
    rw [hg.step_inbound_none hl0, hunk] at hk; cases hk
  | some l0 =>
    obtain ⟨hlm, hla⟩ := IceProofs.Agent.localByAddr_listed hl0
    obtain ⟨hl1m, hl1a⟩ := IceProofs.Agent.localByAddr_listed hl1
    have hnet : l0.net = 0 := (hg.locOK.1 l0 hlm).1
    have hstepE : (step a (.inbound now la src m)).1 = ((a.handleInbound now l0 src m).1.runForced now).1 := by
      rw [hg.step_inbound hl0]
    -- the state after `handleInbound` knows `x`
    have hkB : ((a.handleInbound now l0 src m).1.findRemote 0 x).isSome = true := by
      rw [hstepE] at hk
      rcases (IceProofs.AgentC06.EvoW.runForced (a.handleInbound now l0 src m).1 now).rcs_or_wiped with h2 | h2
      · exact findRemote_isSome_rcs h2 0 x hk
      · have : ((a.handleInbound now l0 src m).1.runForced now).1.findRemote 0 x = none := by
          unfold Agent.findRemote; rw [h2]; rfl
        rw [this] at hk; cases hk
    have hrcs : IceProofs.AgentC06.rcsOf (a.handleInbound now l0 src m).1 = IceProofs.AgentC06.rcsOf a → False := by
      intro h
      have := findRemote_isSome_rcs h 0 x hkB
      rw [hunk] at this; cases this
    cases hfr : a.findRemote l0.net src with
    | some r0 => exact (hrcs (IceProofs.AgentC06.handleInbound_known_rcs hc6 now l0 src m hlm r0 hfr)).elim
    | none =>
      rcases handleInbound_cases a now l0 src m with e | ⟨r, _, _, hr, _⟩ | ⟨ha, e⟩ | ⟨r, hr, _⟩
      · exact (hrcs (by rw [e])).elim
      · rw [hfr] at hr; cases hr
      · obtain ⟨hnom, hnc⟩ := hok ha
        rcases resolveSource_spec a l0 src m with ⟨hd, _, _⟩ | ⟨a1, r, hd1, D⟩
        · exact (hrcs (by rw [e, hd])).elim
        · rcases D.remotes with ⟨_, hf'⟩ | ⟨_, hru, hrem1⟩
          · rw [hfr] at hf'; cases hf'
          have hb : a.cfg.blockedIPs.contains (ipOf src) = false := by
            cases hb : a.cfg.blockedIPs.contains (ipOf src) with
            | false => rfl
            | true =>
              have := resolveSource_blocked a l0 src m hfr hb
              rw [hd1] at this
              cases this
          have hd2 := resolveSource_new a l0 src m hfr hb
          rw [hd1] at hd2
          have ea : a1 = _ := congrArg Prod.fst hd2
          have er : r = prflxNew a l0 src m := Option.some.inj (congrArg (fun t => t.2.2) hd2)
          have hcore : a1.core = a.core := D.disc.core
          have hcc : a1.controlling = a.controlling := congrArg Core.controlling hcore
          have hcfg : a1.cfg = a.cfg := congrArg Core.cfg hcore
          have hB : a.handleInbound now l0 src m = toSelector a1 now l0 r m [] :=
            handleInbound_req_resolved a now l0 src m ha hnc hd1 hcc
          have hB2 := toSelector_ctl a1 now l0 r m [] (hcc.trans hctl)
          have hfp1 : a1.forcePending = true := by rw [ea]; rfl
          have hfpB : (a.handleInbound now l0 src m).1.forcePending = true := by
            rw [hB, hB2]
            show (a1.ctlHandleRequest now m l0 r).1.forcePending = true
            rw [(IceProofs.AgentC02.frame_ctlHandleRequest a1 now m l0 r).fp]
            exact hfp1
          -- the new address is the source
          have hxs : src = x := by
            obtain ⟨cB, hcB⟩ := Option.isSome_iff_exists.mp hkB
            obtain ⟨hcBm, hcBn, hcBa⟩ := IceProofs.Agent.findRemote_listed hcB
            have hBrem : (a.handleInbound now l0 src m).1.remotes =
                updCand (a.remotes ++ [r]) r.uid (fun c => { c with lastRecv := some now }) := by
              rw [hB, hB2]
              show updCand (a1.ctlHandleRequest now m l0 r).1.remotes _ _ = _
              rw [(ctlHandleRequest_selected _ now m _ _).2.1, hrem1]
            rw [hBrem] at hcBm
            unfold updCand at hcBm
            obtain ⟨c0, hc0, e0⟩ := List.mem_map.mp hcBm
            have e0a : cB.addr = c0.addr := by rw [← e0]; split <;> rfl
            have e0n : cB.net = c0.net := by rw [← e0]; split <;> rfl
            rcases List.mem_append.mp hc0 with h | h
            · obtain ⟨r', hr'⟩ := IceProofs.AgentC06.findRemote_of_mem h (e0n.symm.trans hcBn) (e0a.symm.trans hcBa)
              rw [hunk] at hr'; cases hr'
            · rw [List.mem_singleton] at h
              rw [h, er] at e0a
              exact e0a.symm.trans hcBa
          subst hxs
          -- the fresh pair for `l1` in `a1`
          obtain ⟨hu1, _, _, _, _⟩ := hc6.read_uids
          obtain ⟨_, _, hfresh⟩ := uid_facts hc6 hl1m
          have hw : DiscW lc src a1 := by
            rw [ea, ← hl1a]
            have hmem : l1 ∈ a.locals.filter (·.net == l0.net) :=
              List.mem_filter.mpr ⟨hl1m, by simp [(hg.locOK.1 l1 hl1m).1, hnet]⟩
            exact fold_wit (c := prflxNew a l0 src m) (endsOK_of_c06 hc6 hg.open_) hg.linv.remOK rfl hunk hfresh
              (findCand_of_nodup hu1 hl1m) _ hmem ⟨rfl, rfl, fun q hq => Or.inl hq⟩
          obtain ⟨q, hqm, pl, pr, hpl, hpr, epl, epr, hqs, hqc⟩ := hw
          -- frames from `a1` to `b'`
          obtain ⟨g0', id, hstep, hout⟩ := forced_core' h0 hg hok hl0 hfpB
          have k1 : LK T0 now none a1 (a.handleInbound now l0 src m).1 := by
            have := (resolved_walk (T0 := T0) (now := now) a l0 src m r h0 hnet hg.full hg.linv hlm hnom (by rw [hd1])).2.2.lk
            rw [hd1] at this
            rw [hB]; exact this
          have k : LK T0 now none a1 { (a.handleInbound now l0 src m).1 with forcePending := false } :=
            k1.trans (LK.of_eq rfl)
          have bk : BK a1 { (a.handleInbound now l0 src m).1 with forcePending := false } := by
            have := (toSelector_bk a1 now l0 r m []).bk
            rw [← hB] at this
            exact this
          obtain ⟨gc, kc, _, _⟩ := contact_good0 g0' h0 hn
          rw [hstep]
          rcases tick_checks g0' hn k bk (id.controlling.trans hctl) hqm (Or.inl hqs) (by rw [hqc]; exact Nat.zero_le _)
            hpl hpr with hsel | ⟨p, hp, hps⟩ | ⟨p1, l', r', mt, hp1m, hl', hr', el, er', hm, hreq⟩
          · exact Or.inl (kc.sel hsel)
          · obtain ⟨p', hp', kp⟩ := kc.mem_pair hp
            exact Or.inr (Or.inl ⟨p', hp', kp.succ hps⟩)
          · right; right
            rw [epl, epr] at hm
            obtain ⟨p2, hp2, kp2⟩ := kc.mem_pair hp1m
            obtain ⟨l'', hl'', el2⟩ := kc.localOf hl'
            obtain ⟨r'', hr'', er2⟩ := kc.remoteOf hr'
            obtain ⟨s1, s2, q', s3⟩ := slot_of_pair gc.locOK gc.linv.remOK hp2 (by rw [kp2.l]; exact hl'')
              (by rw [kp2.r]; exact hr'')
            rw [ckey_addr el2, ckey_addr el, epl] at s1
            rw [ckey_addr er2.key, ckey_addr er'.key, epr] at s2
            exact ⟨mt, hout _ hm, hreq.cls, hreq.uc, l'', r'', q', s1, s2, s3⟩
      · rw [hfr] at hr; cases hr

end

theorem find?_netAddr_none_of_key {l l' : List Cand}
    (h : l'.map IceProofs.AgentC07.ckey = l.map IceProofs.AgentC07.ckey) (net x : Nat)
    (hc : l.find? (fun c => c.net == net && c.addr == x) = none) :
    l'.find? (fun c => c.net == net && c.addr == x) = none := by
  induction l generalizing l' with
  | nil =>
    cases l' with
    | nil => rfl
    | cons _ _ => simp at h
  | cons y ys ih =>
    cases l' with
    | nil => simp at h
    | cons y' ys' =>
      simp only [List.map_cons, List.cons.injEq] at h
      obtain ⟨hy, hys⟩ := h
      have hn : y'.net = y.net := congrArg (fun k => k.2.1) hy
      have ha : y'.addr = y.addr := congrArg (fun k => k.2.2) hy
      rw [List.find?_cons] at hc ⊢
      rw [hn, ha]
      split at hc
      · cases hc
      · exact ih hys hc

theorem runTimers_unknown (a : Agent) (T fuel : Nat) {net x : Nat} (h : a.findRemote net x = none) :
    (a.runTimers T fuel).1.findRemote net x = none := by
  rcases (IceProofs.AgentC07.Fr_runTimers a T fuel).cands with hk | hw
  · exact find?_netAddr_none_of_key hk.2.1 net x h
  · unfold Agent.findRemote
    rw [hw.2.1]
    rfl

section
variable {T0 H T : Nat} {a : Agent}

set_option linter.unusedVariables false in
/-- `Good` and the horizon bound are not needed: the frame `AgentC07.Fr_runTimers` is unconditional -/
theorem advance_unknown (hg : Good T0 H a) (hT : T ≤ H) {net x : Nat} (h : a.findRemote net x = none) :
    (step a (.advance T)).1.findRemote net x = none :=
  runTimers_unknown a T 100000 h

end

end IceProofs.C01Live

namespace IceProofs.C01Live
open IceModel.AgentCore IceProofs.C03 IceProofs.Agent IceProofs.C01Live.Prog

section
variable {T0 H now : Nat} {a : Agent}

theorem step_auth_known (h0 : T0 ≤ now) (hn : now ≤ H) (hg : Good T0 H a) {la src : Nat} {m : Msg} {l : Cand}
    (hl : a.localByAddr la = some l) (ha : AuthRequest a m) (hnom : m.nom = none) (hnc : NoConflict a m)
    (hflt : a.cfg.blockedIPs.contains (ipOf src) = false) :
    ((step a (.inbound now la src m)).1.findRemote 0 src).isSome = true := by
  obtain ⟨hlm, hla⟩ := IceProofs.Agent.localByAddr_listed hl
  have hnet : l.net = 0 := (hg.locOK.1 l hlm).1
  have hok : AuthRequest a m → m.nom = none ∧ NoConflict a m := fun _ => ⟨hnom, hnc⟩
  obtain ⟨_, k2, _⟩ := inbound_runForced h0 hn hg l hlm src m hok
  rw [hg.step_inbound hl]
  -- the source resolves in the state after `handleInbound`
  have hfr : ∃ rc, (a.handleInbound now l src m).1.findRemote 0 src = some rc := by
    rcases handleInbound_auth a now l src m ha hnc with ⟨_, _, hb⟩ | ⟨a1, r, hd, D, e⟩
    · rw [hb] at hflt; cases hflt
    · have kq := (resolved_walk (T0 := T0) (now := now) a l src m r h0 hnet hg.full hg.linv hlm hnom (by rw [hd])).2.2.lk
      rw [hd] at kq
      rw [e]
      have hf := D.find
      rw [hnet] at hf
      obtain ⟨rc, hrc, _⟩ := kq.findRemote hf
      exact ⟨rc, hrc⟩
  obtain ⟨rc, hrc⟩ := hfr
  obtain ⟨rc2, hrc2, _⟩ := k2.findRemote hrc
  rw [hrc2]
  rfl

end

end IceProofs.C01Live

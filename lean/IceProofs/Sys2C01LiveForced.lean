import IceProofs.Sys2C01LiveTick
import IceProofs.Sys2C01LiveBudget
/-!
# C01 liveness — the forced tick inside an inbound step (one agent)

When `handleInbound` discovers a peer-reflexive candidate it sets `forcePending`; `step` then runs the tick closure
`contact` at the time of the delivery (`runForced`).  What `tick_ping` / `tick_nominate` say about `contact` on a `Good0`
agent therefore holds for the inbound step with a forced tick: `forced_ping` / `forced_nominate`.  An inbound message whose
source the agent knows makes it discover nothing, so there is no forced tick (`handleInbound_fp`, `step_inbound_quiet`).
-/
namespace IceProofs.C01Live
open IceModel.AgentCore IceProofs.Agent IceProofs.C03

section
variable {T0 H T : Nat} {a : Agent}

theorem contact_ping (hg : Good0 T0 H a) (hT : T ≤ H) (hc : a.controlling = true)
    (hs : a.selected = none) (hns : ∀ p ∈ a.checklist, p.state ≠ .succeeded)
    {p0 : Pair} (hp0 : p0 ∈ a.checklist) (hst : p0.state = .waiting ∨ p0.state = .inProgress)
    (hb : p0.reqCount ≤ a.cfg.maxBindingRequests) {l r : Cand} (hl : a.localOf p0.l = some l) (hr : a.remoteOf p0.r = some r) :
    ∃ m, Out.dgram l.addr r.addr m ∈ (a.contact T).2 ∧ IsReq a false m :=
  (tick_ping hg hT hc hs hns hp0 hst hb hl hr).imp fun _ h => ⟨h.1, h.2.1⟩

end

/-- the inbound message makes the agent discover a remote candidate: a forced tick follows within the step -/
def Forced (a : Agent) (now la src : Nat) (m : Msg) : Prop :=
  ∃ l, a.localByAddr la = some l ∧ (a.handleInbound now l src m).1.forcePending = true

theorem handleInbound_fp (a : Agent) (now : Nat) (l : Cand) (src : Nat) (m : Msg)
    (hk : AuthRequest a m → (a.findRemote l.net src).isSome = true) :
    (a.handleInbound now l src m).1.forcePending = a.forcePending := by
  have hres : AuthRequest a m → ∃ r, resolveSource a l src m = (a, [], some r) := by
    intro ha
    rcases resolveSource_cases a l src m with ⟨r, _, h⟩ | ⟨hn, _⟩
    · exact ⟨r, h⟩
    · have := hk ha
      rw [hn] at this
      cases this
  refine handleInbound_rule (Q := fun x => x.1.forcePending = a.forcePending) a now l src m rfl
    (fun r _ _ _ => ((IceProofs.AgentC02.frame_handleSuccess a now m l r src).trans
      (IceProofs.AgentC02.frame_seenRemoteRecv _ _ _)).fp) (fun _ _ => rfl) ?_ ?_
  · intro ha _
    obtain ⟨r, h⟩ := hres ha
    rw [h]
  · intro ha r' _
    obtain ⟨r, h⟩ := hres ha
    rw [h]
    exact afterResolve_rule (Q := fun x => x.1.forcePending = a.forcePending) a now l m [] r' (fun _ _ _ => rfl)
      (fun _ _ _ => rfl) fun _ => toSelector_rule (Q := fun x => x.1.forcePending = a.forcePending) a now l r' m []
        (fun _ => ((IceProofs.AgentC02.frame_ctlHandleRequest a now m l r').trans
          (IceProofs.AgentC02.frame_seenRemoteRecv _ _ _)).fp)
        (fun _ => ((IceProofs.AgentC02.frame_cldHandleRequest a now m l r').trans
          (IceProofs.AgentC02.frame_seenRemoteRecv _ _ _)).fp)

section
variable {T0 H : Nat} {a : Agent}

theorem step_inbound_quiet (hg : Good T0 H a) (now la src : Nat) (m : Msg)
    (hk : AuthRequest a m → (a.findRemote 0 src).isSome = true) :
    (step a (.inbound now la src m)).1.nextTick = a.nextTick ∧ BK a (step a (.inbound now la src m)).1 := by
  cases hl : a.localByAddr la with
  | none => rw [hg.step_inbound_none hl]; exact ⟨rfl, IdxKeep.refl BKp.refl _⟩
  | some l =>
    rw [hg.step_inbound hl]
    have hnet : l.net = 0 := (hg.locOK.1 l (localByAddr_listed hl).1).1
    have hfp := handleInbound_fp a now l src m (by rw [hnet]; exact hk)
    rw [runForced_of_noForce _ now (hfp.trans hg.noForce)]
    exact ⟨congrArg TF.nextTick (tf_handleInbound a now l src m), handleInbound_bk a now l src m⟩

end

section
variable {T0 H now : Nat} {a : Agent}

theorem step_inbound_qf (hg : Good T0 H a) (now la src : Nat) (m : Msg) :
    ((step a (.inbound now la src m)).1.nextTick = a.nextTick ∧ BK a (step a (.inbound now la src m)).1) ∨
    Forced a now la src m := by
  cases hl : a.localByAddr la with
  | none =>
    left
    rw [hg.step_inbound_none hl]
    exact ⟨rfl, IdxKeep.refl BKp.refl _⟩
  | some l =>
    cases hfp : (a.handleInbound now l src m).1.forcePending with
    | true => exact Or.inr ⟨l, hl, hfp⟩
    | false =>
      left
      rw [hg.step_inbound hl]
      rw [runForced_of_noForce _ now hfp]
      exact ⟨congrArg TF.nextTick (tf_handleInbound a now l src m), handleInbound_bk a now l src m⟩

/-- `forced_core` with the agent that ticks named (the one after `handleInbound`, its force flag cleared): `Learn` needs it -/
theorem forced_core' (h0 : T0 ≤ now) (hg : Good T0 H a) {la src : Nat} {m : Msg} {l0 : Cand}
    (hok : AuthRequest a m → m.nom = none ∧ NoConflict a m) (hl0 : a.localByAddr la = some l0)
    (hfp : (a.handleInbound now l0 src m).1.forcePending = true) :
    Good0 T0 H { (a.handleInbound now l0 src m).1 with forcePending := false } ∧
    SameId a { (a.handleInbound now l0 src m).1 with forcePending := false } ∧
      (step a (.inbound now la src m)).1 =
        { (Agent.contact { (a.handleInbound now l0 src m).1 with forcePending := false } now).1 with
          nextTick := some (now + (Agent.contact { (a.handleInbound now l0 src m).1 with forcePending := false } now).1.interval) } ∧
      ∀ o ∈ (Agent.contact { (a.handleInbound now l0 src m).1 with forcePending := false } now).2,
        o ∈ (step a (.inbound now la src m)).2 := by
  obtain ⟨hlm, _⟩ := IceProofs.Agent.localByAddr_listed hl0
  have g0 : Good0 T0 H (a.handleInbound now l0 src m).1 := handleInbound_good0 h0 hg l0 hlm src m hok
  have id1 := handleInbound_sameId a now l0 src m (fun h => (hok h).2)
  refine ⟨g0.forcePending false, id1.trans (SameId.of_core rfl), ?_, ?_⟩
  · rw [hg.step_inbound hl0, runForced_of_force _ now g0.started g0.open_ hfp]
  · intro o ho
    rw [hg.step_inbound hl0, runForced_of_force _ now g0.started g0.open_ hfp]
    exact List.mem_append_right _ ho

theorem forced_core (h0 : T0 ≤ now) (hg : Good T0 H a) {la src : Nat} {m : Msg}
    (hok : AuthRequest a m → m.nom = none ∧ NoConflict a m) (hf : Forced a now la src m) :
    ∃ b' : Agent, Good0 T0 H b' ∧ LK T0 now (if m.cls = 2 then some m.tid else none) a b' ∧ BK a b' ∧ SameId a b' ∧
      (step a (.inbound now la src m)).1 =
        { (b'.contact now).1 with nextTick := some (now + (b'.contact now).1.interval) } ∧
      ∀ o ∈ (b'.contact now).2, o ∈ (step a (.inbound now la src m)).2 := by
  obtain ⟨l0, hl0, hfp⟩ := hf
  obtain ⟨hlm, _⟩ := IceProofs.Agent.localByAddr_listed hl0
  obtain ⟨g0', id, hstep, hout⟩ := forced_core' h0 hg hok hl0 hfp
  exact ⟨_, g0', (handleInbound_walk a l0 src m h0 (hg.locOK.1 l0 hlm).1 hg.full hg.linv hlm hok).lk.trans (LK.of_eq rfl),
    handleInbound_bk a now l0 src m, id, hstep, hout⟩

theorem tick_checks {x b' : Agent} {ex : Option Nat} (g0' : Good0 T0 H b') (hn : now ≤ H) (k : LK T0 now ex x b')
    (bk : BK x b') (hc : b'.controlling = true) {p0 : Pair} (hp0 : p0 ∈ x.checklist)
    (hst : p0.state = .waiting ∨ p0.state = .inProgress) (hb : p0.reqCount ≤ b'.cfg.maxBindingRequests) {l r : Cand}
    (hl : x.localOf p0.l = some l) (hr : x.remoteOf p0.r = some r) :
    b'.selected.isSome = true ∨ (∃ p ∈ b'.checklist, p.state = .succeeded) ∨
    ∃ p1 l' r' mt, p1 ∈ b'.checklist ∧ b'.localOf p1.l = some l' ∧ b'.remoteOf p1.r = some r' ∧ ckey l' = ckey l ∧
      CKeep T0 r r' ∧ Out.dgram l.addr r.addr mt ∈ (b'.contact now).2 ∧ IsReq b' false mt := by
  by_cases hsel : b'.selected.isSome = true
  · exact Or.inl hsel
  by_cases hsu : ∃ p ∈ b'.checklist, p.state = .succeeded
  · exact Or.inr (Or.inl hsu)
  right; right
  have hs : b'.selected = none := by
    cases h : b'.selected with
    | none => rfl
    | some _ => rw [h] at hsel; exact absurd rfl hsel
  have hns : ∀ p ∈ b'.checklist, p.state ≠ .succeeded := fun p hp hps => hsu ⟨p, hp, hps⟩
  obtain ⟨i, hi⟩ := List.getElem?_of_mem hp0
  obtain ⟨p1, hp1, kp⟩ := k.pairs i p0 hi
  obtain ⟨p1', hp1', bp⟩ := bk i p0 hi
  cases hp1.symm.trans hp1'
  have hp1m : p1 ∈ b'.checklist := List.mem_of_getElem? hp1
  rcases bp.keep with ⟨e1, e2⟩ | e
  · obtain ⟨l', hl', el⟩ := k.localOf hl
    obtain ⟨r', hr', er⟩ := k.remoteOf hr
    obtain ⟨mt, hm, hreq⟩ := contact_ping g0' hn hc hs hns hp1m (by rw [e1]; exact hst) (by rw [e2]; exact hb)
      (by rw [kp.l]; exact hl') (by rw [kp.r]; exact hr')
    rw [ckey_addr el, ckey_addr er.key] at hm
    exact ⟨p1, l', r', mt, hp1m, by rw [kp.l]; exact hl', by rw [kp.r]; exact hr', el, er, hm, hreq⟩
  · exact absurd e (hns p1 hp1m)

theorem forced_ping (h0 : T0 ≤ now) (hn : now ≤ H) (hg : Good T0 H a) {la src : Nat} {m : Msg}
    (hok : AuthRequest a m → m.nom = none ∧ NoConflict a m) (hf : Forced a now la src m) (hc : a.controlling = true)
    {p0 : Pair} (hp0 : p0 ∈ a.checklist) (hst : p0.state = .waiting ∨ p0.state = .inProgress)
    (hb : p0.reqCount ≤ a.cfg.maxBindingRequests) {l r : Cand} (hl : a.localOf p0.l = some l) (hr : a.remoteOf p0.r = some r) :
    (step a (.inbound now la src m)).1.selected.isSome = true ∨
    (∃ p ∈ (step a (.inbound now la src m)).1.checklist, p.state = .succeeded) ∨
    ∃ mt, Out.dgram l.addr r.addr mt ∈ (step a (.inbound now la src m)).2 ∧ mt.cls = 0 ∧ mt.useCand = false := by
  obtain ⟨b', g0', k, bk, id, hstep, hout⟩ := forced_core h0 hg hok hf
  obtain ⟨_, k1, _, _⟩ := contact_good0 g0' h0 hn
  rw [hstep]
  rcases tick_checks g0' hn k bk (id.controlling.trans hc) hp0 hst (by rw [id.cfg]; exact hb) hl hr with
    hsel | ⟨p, hp, hps⟩ | ⟨_, _, _, mt, _, _, _, _, _, hm, hreq⟩
  · exact Or.inl (k1.sel hsel)
  · obtain ⟨p', hp', kp⟩ := k1.mem_pair hp
    exact Or.inr (Or.inl ⟨p', hp', kp.succ hps⟩)
  · exact Or.inr (Or.inr ⟨mt, hout _ hm, hreq.cls, hreq.uc⟩)

theorem forced_nominate (h0 : T0 ≤ now) (hn : now ≤ H) (hg : Good T0 H a) {la src : Nat} {m : Msg}
    (hok : AuthRequest a m → m.nom = none ∧ NoConflict a m) (hf : Forced a now la src m) (hc : a.controlling = true)
    (hsucc : ∃ p ∈ a.checklist, p.state = .succeeded) (htime : a.selStart + Config.maxWait a.cfg ≤ now) :
    (step a (.inbound now la src m)).1.selected.isSome = true ∨
    ∃ f t mt, Out.dgram f t mt ∈ (step a (.inbound now la src m)).2 ∧ mt.cls = 0 ∧ mt.useCand = true := by
  obtain ⟨b', g0', k, _, id, hstep, hout⟩ := forced_core h0 hg hok hf
  obtain ⟨_, k1, _, _⟩ := contact_good0 g0' h0 hn
  by_cases hsel : b'.selected.isSome = true
  · left
    rw [hstep]
    exact k1.sel hsel
  right
  have hs : b'.selected = none := by
    cases h : b'.selected with
    | none => rfl
    | some _ => rw [h] at hsel; exact absurd rfl hsel
  obtain ⟨p, hp, hps⟩ := hsucc
  obtain ⟨p', hp', kp⟩ := k.mem_pair hp
  obtain ⟨_, l, r, mt, _, _, _, _, hm, hreq, _⟩ := tick_nominate g0' hn (id.controlling.trans hc) hs ⟨p', hp', kp.succ hps⟩
    (by rw [k.selStart, id.cfg]; exact htime)
  exact ⟨l.addr, r.addr, mt, hout _ hm, hreq.cls, hreq.uc⟩

end

end IceProofs.C01Live

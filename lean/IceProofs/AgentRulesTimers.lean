import IceProofs.AgentRulesStep
/-!
# Case rules for the timer path, and the ways out of a whole `step`

`Agent.contact`, `Agent.runForced` and `Agent.runTimers` with the postcondition a variable, and `step_rule`, which puts
the rules for the single events together for facts that hold of every event.  The stages of `contact` are `C03.chk`
(the start of the checking period) and `C03.finish` (the state the tick saw).
-/
namespace IceProofs.C03
open IceModel.AgentCore

/-- `fin` of `Agent.contact` -/
def finish (x : Agent × List Out) : Agent × List Out := ({ x.1 with lastSeen := x.1.connState }, x.2)

/-- the `checkingStart` update of `Agent.contact` -/
def chk (a : Agent) (now : Nat) : Agent := if a.lastSeen != .checking then { a with checkingStart := now } else a

theorem contact_eq (a : Agent) (now : Nat) : a.contact now =
    if a.closed then (a, [])
    else match a.connState with
      | .failed => finish (a, [])
      | .checking =>
        if (chk a now).checkingTimeout != 0 && now - (chk a now).checkingStart > (chk a now).checkingTimeout then
          finish ((chk a now).setConnState .failed)
        else finish ((chk a now).contactCandidates now)
      | _ => finish (a.contactCandidates now) := by
  unfold Agent.contact chk finish
  rfl

end IceProofs.C03

namespace IceProofs.Agent
open IceModel.AgentCore

theorem contact_rule {Q : Agent × List Out → Prop} (a : Agent) (now : Nat)
    (closed : a.closed = true → Q (a, []))
    (failed : a.connState = .failed → Q (C03.finish (a, [])))
    (timeout : a.connState = .checking → Q (C03.finish ((C03.chk a now).setConnState .failed)))
    (checking : a.connState = .checking → Q (C03.finish ((C03.chk a now).contactCandidates now)))
    (run : a.connState ≠ .failed → Q (C03.finish (a.contactCandidates now))) :
    Q (a.contact now) := by
  rw [C03.contact_eq]
  split
  · rename_i h; exact closed h
  · split
    · rename_i h; exact failed h
    · rename_i h
      split
      · exact timeout h
      · exact checking h
    · rename_i h _
      exact run h

theorem runForced_rule {Q : Agent × List Out → Prop} (a : Agent) (now : Nat)
    (idle : Q (a, []))
    (tick : a.started = true → a.closed = false →
      Q ({ (({ a with forcePending := false } : Agent).contact now).1 with
            nextTick := some (now + (({ a with forcePending := false } : Agent).contact now).1.interval) },
         (({ a with forcePending := false } : Agent).contact now).2)) :
    Q (a.runForced now) := by
  unfold Agent.runForced
  split
  · rename_i h
    simp only [Bool.and_eq_true, Bool.not_eq_true'] at h
    exact tick h.1.1 h.1.2
  · exact idle

theorem runTimers_due {Q : Agent → Agent × List Out → Prop} (now : Nat)
    (stop : ∀ a, Q a (a, []))
    (tick : ∀ a t r, a.started = true → a.closed = false → a.nextTick = some t → t ≤ now →
      Q { (a.contact t).1 with nextTick := some (t + (a.contact t).1.interval) } r →
      Q a (r.1, (a.contact t).2 ++ r.2))
    (fuel : Nat) (a : Agent) : Q a (a.runTimers now fuel) := by
  induction fuel generalizing a with
  | zero => exact stop a
  | succ n ih =>
    unfold Agent.runTimers
    split
    · rename_i t ht
      split
      · rename_i h
        simp only [Bool.and_eq_true, Bool.not_eq_true', decide_eq_true_eq] at h
        exact tick a t _ h.1.1 h.1.2 ht h.2 (ih _)
      · exact stop a
    · exact stop a

theorem runTimers_ind {Q : Agent → Agent × List Out → Prop} (now : Nat)
    (stop : ∀ a, Q a (a, []))
    (tick : ∀ a t r, a.started = true → a.closed = false → a.nextTick = some t →
      Q { (a.contact t).1 with nextTick := some (t + (a.contact t).1.interval) } r →
      Q a (r.1, (a.contact t).2 ++ r.2))
    (fuel : Nat) (a : Agent) : Q a (a.runTimers now fuel) :=
  runTimers_due now stop (fun a t r h1 h2 h3 _ => tick a t r h1 h2 h3) fuel a

theorem thenForced_fst (r : Agent × List Out) (now : Nat) : (thenForced r now).1 = (r.1.runForced now).1 := rfl

/-- The ways out of `step`, all events at once.  `Q` takes the event as well, so that what is assumed of the event is
available in its branch.  `res` and `nop` stand for every way out that leaves the agent as it is and reports
something, or nothing. -/
theorem step_rule {Q : Ev → Agent × List Out → Prop} (a : Agent)
    (res : ∀ e s, Q e (a, [.res s]))
    (nop : ∀ e, Q e (a, []))
    (addLocal : ∀ now c, Q (.addLocal now c) (thenForced (a.addLocalCandidate c) now))
    (addRemote : ∀ now c, a.closed = false →
      Q (.addRemote now c) (thenForced ((a.addRemoteCandidate c).1, (a.addRemoteCandidate c).2.1) now))
    (start : ∀ now ctl ru rp, a.closed = false → a.started = false →
      Q (.start now ctl ru rp) (thenForced (startCore a now ctl ru rp) now))
    (creds : ∀ ru rp, Q (.setRemoteCreds ru rp) ({ a with remoteUfrag := ru, remotePwd := rp }, [.res "ok"]))
    (advance : ∀ now, Q (.advance now) (a.runTimers now 100000))
    (inbound : ∀ now la src m l, a.closed = false → a.started = true → a.localByAddr la = some l →
      Q (.inbound now la src m) (thenForced (a.handleInbound now l src m) now))
    (data : ∀ now la src len sl l, a.localByAddr la = some l →
      Q (.inboundData now la src len sl) (a.inboundData now l src len))
    (write : ∀ now len sl, Q (.write now len sl) (a.write now len sl))
    (writeToPair : ∀ now id len sl, Q (.writeToPair now id len sl) (a.writeToPair now id len sl))
    (read : ∀ cap n rest s, a.rx = n :: rest →
      Q (.read cap) ({ a with rx := rest, connBytesRecv := a.connBytesRecv + min n cap }, [.res s]))
    (renominate : ∀ now la ri v l r, a.controlling = true → a.cfg.enableRenomination = true →
      a.localByAddr la = some l → a.remotes[ri]? = some r → (a.findPair l r).isSome = true →
      Q (.renominate now la ri v)
        ({ (a.sendRequest now l r true (if v > 0 then some v else none)).1 with
            nomIssued := (a.sendRequest now l r true (if v > 0 then some v else none)).1.nomIssued ++ [(v, l.addr, r.addr)] },
          (a.sendRequest now l r true (if v > 0 then some v else none)).2 ++ [.res "ok"]))
    (restart : ∀ now u p, a.closed = false →
      Q (.restart now u p) ((a.doRestart now u p).1, (a.doRestart now u p).2 ++ [.res "ok"]))
    (close : a.closed = false → Q .close
      ((({ a with locals := [], remotes := [], caches := [], closed := true } : Agent).setConnState .closed).1,
        (({ a with locals := [], remotes := [], caches := [], closed := true } : Agent).setConnState .closed).2 ++ [.res "ok"]))
    (e : Ev) : Q e (step a e) := by
  cases e with
  | addLocal now c => rw [step_addLocal]; exact addLocal now c
  | addRemote now c => exact step_addRemote_rule a now c (res _) (nop _) fun h _ => addRemote now c h
  | start now ctl ru rp => exact step_start_rule a now ctl ru rp (res _) (start now ctl ru rp)
  | setRemoteCreds ru rp => exact step_setRemoteCreds_rule a ru rp (res _) fun _ => creds ru rp
  | advance now => rw [step_advance]; exact advance now
  | inbound now la src m => exact step_inbound_rule a now la src m (nop _) fun hc hs l hl => inbound now la src m l hc hs hl
  | inboundData now la src len sl =>
    exact step_inboundData_rule a now la src len sl (nop _) fun _ _ _ l hl => data now la src len sl l hl
  | write now len sl => rw [step_write]; exact write now len sl
  | writeToPair now id len sl => rw [step_writeToPair]; exact writeToPair now id len sl
  | read cap => exact step_read_rule a cap (res _) fun n rest _ h => read cap n rest _ h
  | renominate now la ri v =>
    exact step_renominate_rule a now la ri v (res _) fun hc he l r p hl hr hp =>
      renominate now la ri v l r hc he hl hr (by rw [hp]; rfl)
  | restart now u p => exact step_restart_rule a now u p (res _) (restart now u p)
  | close => exact step_close_rule a (res _) close

end IceProofs.Agent

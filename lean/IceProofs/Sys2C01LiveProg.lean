import IceProofs.Sys2C01LiveProgReq
/-!
# C01 liveness — PROGRESS lemmas for one agent (every state, every parameter)

A tick that runs `pingAll` sends an ordinary check on every waiting / in-progress pair under its request budget whose
ends resolve (`pingAll_emits`); the controlling agent nominates (`cc_cases`); an authenticated, non-conflicting
request from a source that resolves is answered (`request_answered`) and, with USE-CANDIDATE on a full controlled
agent, selects the pair or marks it and triggers a check of its own (`request_nominates`); a success response that
matches a live transaction validates the pair and, for a nomination, selects it (`response_validates`).
-/

namespace IceProofs.C01Live.Prog
open IceModel.AgentCore IceProofs.C03 IceProofs.Agent

theorem pingStep_fire (now : Nat) (b : Agent) (o : List Out) (id : Nat) (q : Pair) (l r : Cand)
    (hq : b.pairById id = some q) (hst : q.state = .waiting ∨ q.state = .inProgress)
    (hb : q.reqCount ≤ b.cfg.maxBindingRequests) (hl : b.localOf q.l = some l) (hr : b.remoteOf q.r = some r) :
    ∃ b1, Soft now (some id) b b1 ∧
      pingStep now (b, o) id = ((b1.sendRequest now l r false none).1.modPair id fun p => { p with reqCount := p.reqCount + 1 },
        o ++ (b1.sendRequest now l r false none).2) := by
  have hnb : ¬ (q.reqCount > b.cfg.maxBindingRequests) := Nat.not_lt.mpr hb
  unfold pingStep
  simp only [hq]
  rcases hst with hw | hip
  · have e : (q.state == PairState.waiting) = true := by simp [hw]
    simp only [e, if_true, Bool.not_true, Bool.false_eq_true, if_false]
    refine ⟨b.modPair id fun q => { q with state := .inProgress },
      modPair_soft_ex b id _ (fun _ => rfl) (fun _ => rfl) (fun _ => rfl), ?_⟩
    have hl' : (b.modPair id fun q => { q with state := PairState.inProgress }).localOf q.l = some l := hl
    have hr' : (b.modPair id fun q => { q with state := PairState.inProgress }).remoteOf q.r = some r := hr
    have hnb' : ¬ (q.reqCount > (b.modPair id fun q => { q with state := PairState.inProgress }).cfg.maxBindingRequests) := hnb
    rw [if_neg hnb', hl', hr']
    rfl
  · have e : (q.state == PairState.waiting) = false := by simp [hip]
    have e2 : (q.state == PairState.inProgress) = true := by simp [hip]
    simp only [e, e2, Bool.false_eq_true, if_false, Bool.not_true]
    refine ⟨b, Soft.refl _ _ _, ?_⟩
    rw [if_neg hnb, hl, hr]
    rfl

theorem pingFold_keep (now : Nat) (ids : List Nat) (acc : Agent × List Out) (x : Out) (tid : Nat) (pd : Pending)
    (hx : x ∈ acc.2) (hpd : acc.1.pending.find? (·.tid == tid) = some pd) (hy : now - pd.ts < maxBindingRequestTimeout) :
    x ∈ (ids.foldl (pingStep now) acc).2 ∧ (ids.foldl (pingStep now) acc).1.pending.find? (·.tid == tid) = some pd :=
  pingFold_steps (P := fun y => x ∈ y.2 ∧ y.1.pending.find? (·.tid == tid) = some pd) now ids acc ⟨hx, hpd⟩
    (fun _ _ _ _ _ h _ _ => h) (fun _ _ _ _ _ h _ _ _ => h)
    fun b _ _ _ l r _ h _ _ _ _ _ =>
      ⟨List.mem_append_left _ h.1, (sendRequest_soft (ex := none) b now l r false none).pend tid pd h.2 hy⟩

/-- what the iterations before the pair `j` keep of it and of the agent -/
structure PingInv (a : Agent) (j : Nat) (p0 : Pair) (b : Agent) : Prop where
  core : b.core = a.core
  remotes : b.remotes = a.remotes
  cands : CandSame a b
  pendOK : PendOK b
  pair : ∃ q, b.pairById j = some q ∧ PSame p0 q

theorem PingInv.soft {now : Nat} {a b b' : Agent} {j id : Nat} {p0 : Pair} (h : PingInv a j p0 b)
    (hs : Soft now (some id) b b') (hne : id ≠ j) : PingInv a j p0 b' := by
  obtain ⟨q, hq, hpq⟩ := h.pair
  obtain ⟨q', hq', _, _, _, hps⟩ := hs.pairById hq
  exact ⟨hs.core.trans h.core, hs.remotes.trans h.remotes, h.cands.trans hs.cands, hs.pendOK h.pendOK,
    ⟨q', hq', hpq.trans (hps fun e => hne (Option.some.inj e).symm)⟩⟩

theorem pingFold_pre (now : Nat) (a : Agent) (j : Nat) (p0 : Pair) (pre : List Nat) (hpre : ∀ x ∈ pre, x ≠ j)
    (acc : Agent × List Out) (h : PingInv a j p0 acc.1) : PingInv a j p0 (pre.foldl (pingStep now) acc).1 :=
  pingFold_steps (P := fun y => PingInv a j p0 y.1) now pre acc h
    (fun b _ id _ hi h _ _ => h.soft (now := now) (modPair_soft_ex b id _ (fun _ => rfl) (fun _ => rfl) (fun _ => rfl)) (hpre id hi))
    (fun b _ id _ hi h _ _ _ => h.soft (now := now) (modPair_soft_ex b id _ (fun _ => rfl) (fun _ => rfl) (fun _ => rfl)) (hpre id hi))
    fun b _ id _ l r hi h _ _ _ _ _ => h.soft (now := now) ((sendRequest_soft b now l r false none).trans
      (modPair_soft_ex _ id _ (fun _ => rfl) (fun _ => rfl) (fun _ => rfl))) (hpre id hi)

theorem pingAll_fire (a : Agent) (now : Nat) (hi : IdsOK a) (hp : PendOK a) (p0 : Pair) (hp0 : p0 ∈ a.checklist)
    (hst : p0.state = .waiting ∨ p0.state = .inProgress) (hb : p0.reqCount ≤ a.cfg.maxBindingRequests)
    (l r : Cand) (hl : a.localOf p0.l = some l) (hr : a.remoteOf p0.r = some r) :
    ∃ b1 l1, b1.core = a.core ∧ l1.addr = l.addr ∧
      Out.dgram l1.addr r.addr (srMsg b1 l1 false none) ∈ (a.pingAll now).2 ∧
      (a.pingAll now).1.pending.find? (·.tid == 2 * b1.nextTid + b1.tag) = some (requestPending b1 now l1 r false none) := by
  rw [pingAll_eq]
  have hmem : p0.id ∈ a.checklist.map (·.id) := List.mem_map_of_mem hp0
  obtain ⟨pre, post, hsplit⟩ := List.append_of_mem hmem
  have huniq : (a.checklist.map (·.id)).Pairwise (· ≠ ·) := (pairwise_ids_iff _).mp hi.uniq
  rw [hsplit] at huniq ⊢
  have hpre : ∀ x ∈ pre, x ≠ p0.id := by
    intro x hx
    exact (List.pairwise_append.mp huniq).2.2 x hx p0.id (by simp)
  rw [List.foldl_append, List.foldl_cons]
  have h0 : PingInv a p0.id p0 (a, ([] : List Out)).1 :=
    ⟨rfl, rfl, CandSame.refl a, hp, ⟨p0, pairById_of_mem hi hp0, PSame.refl p0⟩⟩
  have h1 := pingFold_pre now a p0.id p0 pre hpre (a, []) h0
  generalize pre.foldl (pingStep now) (a, []) = acc at h1 ⊢
  obtain ⟨b, o⟩ := acc
  obtain ⟨q, hq, hpq⟩ := h1.pair
  obtain ⟨l1, hl1, kl⟩ := h1.cands.localOf hl
  have hr1 : b.remoteOf p0.r = some r := by
    unfold Agent.remoteOf at hr ⊢; rw [h1.remotes]; exact hr
  have hcfg : b.cfg = a.cfg := congrArg Core.cfg h1.core
  obtain ⟨b1, hs1, hfire⟩ := pingStep_fire now b o p0.id q l1 r hq (by rw [hpq.state]; exact hst)
    (by rw [hpq.reqCount, hcfg]; exact hb) (by rw [hpq.l]; exact hl1) (by rw [hpq.r]; exact hr1)
  rw [hfire]
  have hp1 : PendOK b1 := hs1.pendOK h1.pendOK
  refine ⟨b1, l1, hs1.core.trans h1.core, ckey_addr kl, ?_⟩
  apply pingFold_keep
  · rw [sendRequest_snd]; simp
  · exact sendRequest_find_new b1 now l1 r false none hp1
  · show now - now < maxBindingRequestTimeout
    simp [maxBindingRequestTimeout]

end IceProofs.C01Live.Prog

namespace IceProofs.C01Live
open IceModel.AgentCore IceProofs.C03 IceProofs.Agent IceProofs.C01Live.Prog

/-- a Binding request as agent `a` sends it (`uc` = USE-CANDIDATE), without nomination value -/
structure IsReq (a : Agent) (uc : Bool) (m : Msg) : Prop where
  cls : m.cls = 0
  method : m.method = 1
  user : m.user = some (a.remoteUfrag ++ ":" ++ a.localUfrag)
  key : m.key = some a.remotePwd
  role : m.role = some (a.controlling, a.tieBreaker)
  nom : m.nom = none
  uc : m.useCand = uc

/-- the transaction `sendRequest` records for a check without nomination value -/
def pendOf (tid f t net : Nat) (uc : Bool) (now : Nat) : Pending :=
  { tid := tid, src := f, dest := t, net := net, useCand := uc, nom := none, ts := now }

/-- the success response to request `m` as agent `a` sends it -/
def respMsg (a : Agent) (m : Msg) : Msg := { cls := 2, tid := m.tid, key := some a.localPwd }

theorem isReq_of_core {a b : Agent} (hc : b.core = a.core) (l : Cand) (uc : Bool) : IsReq a uc (srMsg b l uc none) := by
  have h1 : b.remoteUfrag = a.remoteUfrag := congrArg Core.remoteUfrag hc
  have h2 : b.localUfrag = a.localUfrag := congrArg Core.localUfrag hc
  have h3 : b.remotePwd = a.remotePwd := congrArg Core.remotePwd hc
  have h4 : b.controlling = a.controlling := congrArg Core.controlling hc
  have h5 : b.tieBreaker = a.tieBreaker := congrArg Core.tieBreaker hc
  refine ⟨rfl, rfl, ?_, ?_, ?_, rfl, rfl⟩
  · show some (b.remoteUfrag ++ ":" ++ b.localUfrag) = _; rw [h1, h2]
  · show some b.remotePwd = _; rw [h3]
  · show some (b.controlling, b.tieBreaker) = _; rw [h4, h5]

theorem sendRequest_emits (a : Agent) (now : Nat) (l r : Cand) (uc : Bool) (hp : PendOK a) :
    ∃ m, (a.sendRequest now l r uc none).2 = [Out.dgram l.addr r.addr m] ∧ IsReq a uc m ∧
      m.tid = 2 * a.nextTid + a.tag ∧
      (a.sendRequest now l r uc none).1.pending.find? (·.tid == 2 * a.nextTid + a.tag)
        = some (pendOf (2 * a.nextTid + a.tag) l.addr r.addr r.net uc now) :=
  ⟨srMsg a l uc none, sendRequest_snd a now l r uc none, ⟨rfl, rfl, rfl, rfl, rfl, rfl, rfl⟩, rfl,
    sendRequest_find_new a now l r uc none hp⟩

theorem pingAll_emits (a : Agent) (now : Nat) (hi : IdsOK a) (hp : PendOK a) (p0 : Pair) (hp0 : p0 ∈ a.checklist)
    (hst : p0.state = .waiting ∨ p0.state = .inProgress) (hb : p0.reqCount ≤ a.cfg.maxBindingRequests)
    (l r : Cand) (hl : a.localOf p0.l = some l) (hr : a.remoteOf p0.r = some r) :
    ∃ m, Out.dgram l.addr r.addr m ∈ (a.pingAll now).2 ∧ IsReq a false m ∧
      (a.pingAll now).1.pending.find? (·.tid == m.tid) = some (pendOf m.tid l.addr r.addr r.net false now) := by
  obtain ⟨b1, l1, hc, hla, hout, hpend⟩ := pingAll_fire a now hi hp p0 hp0 hst hb l r hl hr
  refine ⟨srMsg b1 l1 false none, hla ▸ hout, isReq_of_core hc l1 false, ?_⟩
  have e : requestPending b1 now l1 r false none = pendOf (srMsg b1 l1 false none).tid l.addr r.addr r.net false now := by
    rw [← hla]; rfl
  rw [← e]
  exact hpend

theorem cc_cases (a : Agent) (now : Nat) (hc : a.controlling = true) (hs : a.selected = none) :
    (∃ id p, a.nominatedPair = some id ∧ a.pairById id = some p ∧ a.contactCandidates now = a.nominate now p)
    ∨ (∃ id, a.nominatedPair = some id ∧ a.pairById id = none ∧ a.contactCandidates now = (a, []))
    ∨ (a.nominatedPair = none ∧ a.contactCandidates now = a.pingAll now ∧
        ∀ p l r, a.bestValid = some p → a.localOf p.l = some l → a.remoteOf p.r = some r →
          (a.nominatable now l && a.nominatable now r) = false)
    ∨ (∃ p l r, a.nominatedPair = none ∧ a.bestValid = some p ∧ a.localOf p.l = some l ∧ a.remoteOf p.r = some r ∧
        (a.nominatable now l && a.nominatable now r) = true ∧
        a.contactCandidates now =
          ({ (a.modPair p.id fun p => { p with nominated := true }) with nominatedPair := some p.id } : Agent).nominate now p) := by
  cases hn : a.nominatedPair with
  | some id =>
    cases hp : a.pairById id with
    | some p => exact Or.inl ⟨id, p, rfl, hp, by unfold Agent.contactCandidates; simp [hc, hs, hn, hp]⟩
    | none => exact Or.inr (Or.inl ⟨id, rfl, hp, by unfold Agent.contactCandidates; simp [hc, hs, hn, hp]⟩)
  | none =>
    refine Or.inr (Or.inr ?_)
    by_cases key : ∀ p l r, a.bestValid = some p → a.localOf p.l = some l → a.remoteOf p.r = some r →
        (a.nominatable now l && a.nominatable now r) = false
    · refine Or.inl ⟨rfl, ?_, key⟩
      unfold Agent.contactCandidates
      simp only [hc, hs, hn, if_true, Option.isSome_none, Bool.false_eq_true, if_false, Option.bind_none]
      split
      · rename_i p hb
        split
        · rename_i l r hl hr
          rw [key p l r hb hl hr]
          simp
        · rfl
      · rfl
    · simp only [Classical.not_forall, exists_prop] at key
      obtain ⟨p, l, r, hb, hl, hr, hnm⟩ := key
      have hnm' : (a.nominatable now l && a.nominatable now r) = true := by simpa using hnm
      refine Or.inr ⟨p, l, r, rfl, hb, hl, hr, hnm', ?_⟩
      unfold Agent.contactCandidates
      simp only [hc, hs, hn, hb, hl, hr, hnm', if_true, Option.isSome_none, Bool.false_eq_true, if_false, Option.bind_none]

theorem nominate_eq (a : Agent) (now : Nat) (p : Pair) (l r : Cand) (hl : a.localOf p.l = some l)
    (hr : a.remoteOf p.r = some r) : a.nominate now p = a.sendRequest now l r true none := by
  unfold Agent.nominate
  rw [hl, hr]

theorem nominatable_of_time (a : Agent) (now : Nat) (c : Cand) (hty : 1 ≤ c.ty ∧ c.ty ≤ 4)
    (ht : a.selStart + max (max a.cfg.hostWait a.cfg.srflxWait) (max a.cfg.prflxWait a.cfg.relayWait) ≤ now) :
    a.nominatable now c = true := by
  unfold Agent.nominatable Config.waitFor
  have : c.ty = 1 ∨ c.ty = 2 ∨ c.ty = 3 ∨ c.ty = 4 := by omega
  rcases this with h | h | h | h <;> simp [h] <;> omega

/-- the source of a request resolves: it is a known remote candidate, or the remote IP filter lets a
peer-reflexive candidate through -/
def SrcOK (a : Agent) (l : Cand) (src : Nat) : Prop :=
  (a.findRemote l.net src).isSome = true ∨ a.cfg.blockedIPs.contains (ipOf src) = false

theorem request_answered (a : Agent) (now : Nat) (l : Cand) (src : Nat) (m : Msg) (ha : AuthRequest a m)
    (hnc : NoConflict a m) (hsrc : SrcOK a l src) :
    Out.dgram l.addr src (respMsg a m) ∈ (a.handleInbound now l src m).2 := by
  rcases handleInbound_auth a now l src m ha hnc with ⟨_, hf, hb⟩ | ⟨a1, r, _, D, e⟩
  · rcases hsrc with h | h
    · rw [hf] at h; cases h
    · rw [hb] at h; cases h
  · have hpw : a1.localPwd = a.localPwd := congrArg Core.localPwd D.disc.core
    obtain ⟨_, _, hraddr⟩ := findRemote_listed D.find
    rw [e]
    cases hc : a1.controlling
    · rw [toSelector_cld _ _ _ _ _ _ hc]
      have := (cldHandleRequest_frame a1 now m l r).2.2
      rw [hraddr, hpw] at this
      exact List.mem_append_right _ this
    · rw [toSelector_ctl _ _ _ _ _ _ hc]
      obtain ⟨_, _, o', ho⟩ := ctlHandleRequest_selected a1 now m l r
      rw [ho, sendSuccess_snd, hraddr, hpw]
      exact List.mem_append_right _ (List.mem_append_left _ (List.mem_singleton.mpr rfl))

/-- Without the three uid hypotheses the statement is FALSE: when no pair exists for `(l, r)` the handler creates
one with ends `l.uid`, `r.uid`; `findPair l rc` finds it afterwards only if these uids resolve to candidates `equal`
to `l` / `r` — e.g. `a.locals = []` refutes it.  `hl`, `hru`, `hfresh` follow from uid uniqueness and `uid < nextUid`. -/
theorem request_nominates (a : Agent) (now : Nat) (l : Cand) (src : Nat) (m : Msg) (ha : AuthRequest a m)
    (hnc : NoConflict a m) (hsrc : SrcOK a l src) (hfull : a.cfg.lite = false) (hctl : a.controlling = false)
    (huc : m.useCand = true) (hnom : m.nom = none) (hinv : LInv a)
    (hl : ∃ l', a.localOf l.uid = some l' ∧ l'.equal l = true)
    (hru : ∀ c ∈ a.remotes, a.remoteOf c.uid = some c)
    (hfresh : a.remoteOf a.nextUid = none) :
    (a.handleInbound now l src m).1.selected.isSome = true ∨
    ∃ rc q mt, (a.handleInbound now l src m).1.findRemote l.net src = some rc ∧
      (a.handleInbound now l src m).1.findPair l rc = some q ∧ q.nomOnSuccess = true ∧ q.deferredNom = none ∧
      Out.dgram l.addr src mt ∈ (a.handleInbound now l src m).2 ∧ IsReq a false mt ∧
      (a.handleInbound now l src m).1.pending.find? (·.tid == mt.tid) = some (pendOf mt.tid l.addr src l.net false now) := by
  rcases handleInbound_auth a now l src m ha hnc with ⟨_, hf, hb⟩ | ⟨a1, r, _, D, e⟩
  · rcases hsrc with h | h
    · rw [hf] at h; cases h
    · rw [hb] at h; cases h
  · have hcore : a1.core = a.core := D.disc.core
    have hcfg : a1.cfg = a.cfg := congrArg Core.cfg hcore
    obtain ⟨hr1, hnet1, haddr1⟩ := findRemote_listed D.find
    rw [e, toSelector_cld _ _ _ _ _ _ ((congrArg Core.controlling hcore).trans hctl)]
    have hl1 : ∃ l', a1.localOf l.uid = some l' ∧ l'.equal l = true := by
      unfold Agent.localOf at hl ⊢; rw [D.disc.locals]; exact hl
    have hr1' : ∃ r', a1.remoteOf r.uid = some r' ∧ r'.equal r = true := by
      rcases D.remotes with ⟨e1, hfa⟩ | ⟨_, hu, e1⟩
      · rw [e1]; exact ⟨r, hru r (findRemote_listed hfa).1, equal_self r⟩
      · refine ⟨r, ?_, equal_self r⟩
        unfold Agent.remoteOf findCand at hfresh ⊢
        rw [e1, List.find?_append, hu, hfresh]
        simp [hu]
    have hP1 : PendOK a1 := PendOK.of_eq D.disc.pending
      (congrArg Agent.nextTid D.disc.rest : (stripPairs a1).nextTid = (stripPairs a).nextTid)
      (congrArg Core.tag hcore) hinv.pendOK
    have hnd1 : NoDefer a1 := by
      obtain ⟨extra, he, hfresh'⟩ := D.disc.pairs
      intro p hp
      rw [he] at hp
      rcases List.mem_append.mp hp with hp | hp
      · exact hinv.noDefer p hp
      · rw [hfresh' p hp]
    rcases cldHandleRequest_nominates a1 now m l r (by rw [hcfg]; exact hfull) huc hnom hP1 hnd1 hl1 hr1' with
      hsel | ⟨q, b, hq, hq1, hq2, hbc, hout, hpend, hrem⟩
    · exact Or.inl hsel
    · right
      have hfr : (a1.cldHandleRequest now m l r).1.findRemote l.net src = some r := by
        have hfd := D.find
        unfold Agent.findRemote at hfd ⊢; rw [hrem]; exact hfd
      refine ⟨{ r with lastRecv := some now }, q, srMsg b l false none, ?_, ?_, hq1, hq2, ?_,
        isReq_of_core (hbc.trans hcore) l false, ?_⟩
      · rw [findRemote_seenRemoteRecv, hfr]
        simp
      · have := findPair_congr (a := (a1.cldHandleRequest now m l r).1)
          (b := (a1.cldHandleRequest now m l r).1.seenRemoteRecv r.uid now) rfl (seenRemoteRecv_candSame _ _ _)
          (l' := l) (l := l) rfl (r' := { r with lastRecv := some now }) (r := r) rfl
        exact this.trans hq
      · rw [← haddr1]
        exact List.mem_append_right _ hout
      · have e : requestPending b now l r false none = pendOf (srMsg b l false none).tid l.addr src l.net false now := by
          rw [← haddr1, ← hnet1]; rfl
        rw [← e]
        exact hpend

theorem response_validates (a : Agent) (now : Nat) (l : Cand) (src : Nat) (m : Msg) (r : Cand) (pd : Pending) (p : Pair)
    (hcls : m.cls = 2) (hmeth : m.method = 1) (hkey : m.key = some a.remotePwd)
    (hr : a.findRemote l.net src = some r) (hpd : a.pending.find? (·.tid == m.tid) = some pd)
    (hyoung : now - pd.ts < maxBindingRequestTimeout) (hnet : pd.net = l.net) (hdest : pd.dest = src)
    (hsrc : pd.src = l.addr) (hp : a.findPair l r = some p) :
    (∃ p' ∈ (a.handleInbound now l src m).1.checklist, p'.id = p.id ∧ p'.state = .succeeded)
    ∧ (a.controlling = true → pd.useCand = true → pd.nom = none → (a.handleInbound now l src m).1.selected.isSome = true)
    ∧ (a.controlling = false → p.nomOnSuccess = true → p.deferredNom = none →
        (a.handleInbound now l src m).1.selected.isSome = true) := by
  have hpd' := takePending_snd a now m.tid pd hpd hyoung
  rw [handleInbound_success a now l src m r hmeth hcls hkey hr,
    handleSuccess_match a now m l r src pd p hpd' hnet hdest hsrc hp]
  have hfr := takePending_frame a now m.tid
  have hctl : (a.takePending now m.tid).1.controlling = a.controlling :=
    congrArg Core.controlling (core_takePending a now m.tid)
  generalize (a.takePending now m.tid).1 = A at hfr hctl ⊢
  have hpA : p ∈ A.checklist := by rw [hfr.1]; exact (findPair_listed hp).1
  have hB : ∃ q ∈ (A.modPair p.id (hsMark pd)).checklist, q.id = p.id ∧ q.state = .succeeded :=
    ⟨hsMark pd p, mem_modPair_of_mem hpA (hsMark pd), rfl, rfl⟩
  refine ⟨?_, ?_, ?_⟩
  · exact succ_modPair p.id (Pair.gotResponse now pd.ts) (fun _ => rfl) (fun _ => rfl)
      (succ_hsFin _ p pd (succ_hsSel p pd hB))
  · intro hc hu hn
    exact (congrArg Option.isSome (hsFin_selected _ p pd _)).trans
      (hsSel_ctl_uc (A.modPair p.id (hsMark pd)) p pd (hctl.trans hc) hu hn)
  · intro hc hn hd
    exact (congrArg Option.isSome (hsFin_selected _ p pd _)).trans
      (hsSel_cld_sel (A.modPair p.id (hsMark pd)) p pd (hctl.trans hc) hn hd)

theorem ctl_select_needs_uc (a : Agent) (now : Nat) (l : Cand) (src : Nat) (m : Msg) (hc : a.controlling = true)
    (hnc : AuthRequest a m → NoConflict a m)
    (h : (a.handleInbound now l src m).1.selected.isSome = true) :
    a.selected.isSome = true ∨ (m.cls = 2 ∧ ∃ pd ∈ a.pending, pd.tid = m.tid ∧ pd.useCand = true) := by
  rcases handleInbound_cases a now l src m with e | ⟨r, hcls, _, _, e⟩ | ⟨ha, _⟩ | ⟨r, _, e⟩
  · rw [e] at h; exact Or.inl h
  · rw [e] at h
    have h' : (a.handleSuccess now m l r src).1.selected.isSome = true := h
    rcases (handleSuccess_sel a now m l r src).2 with hs | ⟨pd, p, hpd, _, _, hr⟩
    · rw [hs] at h'; exact Or.inl h'
    · rcases hr with ⟨_, hu⟩ | ⟨hcf, _⟩
      · obtain ⟨hmem, htid⟩ := takePending_mem a now m.tid pd hpd
        exact Or.inr ⟨hcls, pd, hmem, htid, hu⟩
      · rw [hc] at hcf; cases hcf
  · rcases handleInbound_auth a now l src m ha (hnc ha) with ⟨e', _⟩ | ⟨a1, r, _, D, e'⟩
    · rw [e'] at h; exact Or.inl h
    · rw [e', toSelector_ctl _ _ _ _ _ _ ((congrArg Core.controlling D.disc.core).trans hc)] at h
      have h' : (a1.ctlHandleRequest now m l r).1.selected.isSome = true := h
      rw [(ctlHandleRequest_selected a1 now m l r).1, D.disc.selected] at h'
      exact Or.inl h'
  · rw [e] at h; exact Or.inl h

theorem handleInbound_selFresh (a : Agent) (now : Nat) (l : Cand) (src : Nat) (m : Msg) (hinv : LInv a)
    (hnc : AuthRequest a m → NoConflict a m) (hnet : l.net = 0) (id : Nat)
    (h : (a.handleInbound now l src m).1.selected = some id) :
    a.selected = some id ∨
    ∃ p r, (a.handleInbound now l src m).1.pairById id = some p ∧ (a.handleInbound now l src m).1.remoteOf p.r = some r ∧
      r.lastRecv = some now := by
  rcases handleInbound_cases a now l src m with e | ⟨r, _, _, hr, e⟩ | ⟨ha, _⟩ | ⟨r, _, e⟩
  · rw [e] at h; exact Or.inl h
  · rw [e] at h ⊢
    have h' : (a.handleSuccess now m l r src).1.selected = some id := h
    obtain ⟨hE, hs⟩ := handleSuccess_sel a now m l r src
    rcases hs with hs | ⟨pd, p, _, hfp, hsp, _⟩
    · left; rw [← hs]; exact h'
    · right
      have hid : id = p.id := by rw [hsp] at h'; exact (Option.some.inj h').symm
      subst hid
      have hrem : a.remoteOf p.r = some r := findPair_remote hinv.remOK.2 (findRemote_listed hr).1 hfp
      obtain ⟨q', hq', _, _, hqr⟩ := hE.pairById (pairById_of_mem hinv.ids ((findPair_listed hfp).1))
      have hrem' : (a.handleSuccess now m l r src).1.remoteOf q'.r = some r := by
        unfold Agent.remoteOf at hrem ⊢; rw [hE.remotes, hqr]; exact hrem
      obtain ⟨c', hc', hlr⟩ := remoteOf_heard _ r.uid now q'.r r hrem' rfl
      exact ⟨q', c', hq', hc', hlr⟩
  · rcases handleInbound_auth a now l src m ha (hnc ha) with ⟨e', _⟩ | ⟨a1, r, _, D, e'⟩
    · rw [e'] at h; exact Or.inl h
    · rw [e'] at h ⊢
      cases hc : a1.controlling
      · rw [toSelector_cld _ _ _ _ _ _ hc] at h ⊢
        have h' : (a1.cldHandleRequest now m l r).1.selected = some id := h
        obtain ⟨hE, hs, _⟩ := cldHandleRequest_frame a1 now m l r
        rcases hs with hs | hs
        · left; rw [← D.disc.selected, ← hs]; exact h'
        · right
          have hid : id = (cldPre a1 m l r).2 := by rw [hs] at h'; exact (Option.some.inj h').symm
          subst hid
          obtain ⟨hr1, hnet1, haddr1⟩ := findRemote_listed D.find
          have hpw : a1.remotes.Pairwise (fun x y => x.addr ≠ y.addr) := by
            rcases D.remotes with ⟨e1, _⟩ | ⟨hfn, _, e1⟩
            · rw [e1]; exact hinv.remOK.2
            · rw [e1, List.pairwise_append]
              refine ⟨hinv.remOK.2, by simp, ?_⟩
              intro x hx y hy
              rw [List.mem_singleton] at hy; subst hy
              unfold Agent.findRemote at hfn
              rw [List.find?_eq_none] at hfn
              have hx0 := (hinv.remOK.1 x hx).1
              intro hxa
              apply hfn x hx
              simp [hx0, hnet, hxa, haddr1]
          obtain ⟨q, c, hq, hc', hcu⟩ := cldPre_pairById a1 m l r (D.ids hinv.ids) hpw hr1
          obtain ⟨q', hq', _, _, hqr⟩ := hE.pairById hq
          have hrem' : (a1.cldHandleRequest now m l r).1.remoteOf q'.r = some c := by
            unfold Agent.remoteOf at hc' ⊢
            rw [hE.remotes, (cldPre_frame a1 m l r).2.2.1, hqr]; exact hc'
          obtain ⟨c', hc'', hlr⟩ := remoteOf_heard _ r.uid now q'.r c hrem' hcu
          exact ⟨q', c', hq', hc'', hlr⟩
      · rw [toSelector_ctl _ _ _ _ _ _ hc] at h
        have h' : (a1.ctlHandleRequest now m l r).1.selected = some id := h
        rw [(ctlHandleRequest_selected a1 now m l r).1, D.disc.selected] at h'
        exact Or.inl h'
  · rw [e] at h; exact Or.inl h

end IceProofs.C01Live

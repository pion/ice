import IceProofs.Sys2C01LiveFair
import IceProofs.Sys2C01LiveJump
/-!
# C01 liveness — the invariant of a fair suffix and the ticks of the controlling agent

`FInv`: `SysOK` + the timer of the controlling agent `c` is due within 2 s.  `CTick c ts s s'`: what a tick of `c`
(the timer tick at `advance nextTick`, or the FORCED tick inside the delivery of a request from a source `c` did not
know — peer-reflexive discovery) achieves: a pair under budget is pinged, a valid pair is nominated once the acceptance
waits are over.  `FInv.deliver`: a delivery is quiet for `c` (timer and budget untouched) or a tick; `FInv.advance`.
`StepView` / `FInv.step`: one event of the suffix with all of that, for the inductions over a schedule.
-/
namespace IceProofs.C01Live
open IceModel.AgentCore IceModel.Sys2 IceProofs.Sys2Run IceProofs.C01 IceProofs.Agent IceProofs.C03

section
variable (nat blocked : List (Nat × Nat)) (SLA SLB SR : Nat → Prop) (liteA liteB : Bool)

/-- the invariant of a fair suffix (`J`: how far a clock advance may go beyond the next tick of `c`; the fuel of
`runTimers` covers the catch-up ticks of such a jump, and a transaction survives it) -/
structure FInv (T0 H J : Nat) (c : Bool) (s : Sys) : Prop where
  ok : SysOK nat blocked SLA SLB SR liteA liteB T0 H c s
  tick : ∃ t, (s.agent c).nextTick = some t ∧ s.now ≤ t ∧ t ≤ s.now + 2000000000
  fuel : J < 99998 * Config.minInterval (s.agent c).cfg
  jlt : J < maxBindingRequestTimeout

end

/-- what the controlling agent needs for its first valid pair: it has one (or even a selected pair), or a pair
waiting / in progress under its request budget on a `Link` -/
def Start (c : Bool) (s : Sys) : Prop := HasSucc s c ∨ Sel s c ∨ BudgetPair c s

/-- what a tick of the controlling agent at time `ts` achieves (`s` before the event, `s'` after) -/
structure CTick (c : Bool) (ts : Nat) (s s' : Sys) : Prop where
  ping : Start c s → HasSucc s' c ∨ Sel s' c ∨ ∃ tid la ra, Ch1 c s' c tid la ra false false ts
  nom : HasSucc s c → nomTime c s ≤ ts → Sel s' c ∨ ∃ tid la ra, Ch1 c s' c tid la ra true false ts

section
variable {nat blocked : List (Nat × Nat)} {SLA SLB SR : Nat → Prop} {liteA liteB : Bool} {T0 H J : Nat} {c : Bool}

theorem touched_req {s s' : Sys} (h : SysOK nat blocked SLA SLB SR liteA liteB T0 H c s) {hd : Dgram} {t : List Dgram}
    (he : Effect T0 s s' hd t) (hmem : hd ∈ s.inflight) {x : Bool} {m : Msg} (hm : hd.p = .stun m)
    (hst : s'.agent x = (step (s.agent x) (.inbound s.now (s.unmapped hd.dst) (s.mapped hd.src) m)).1)
    (hfl : s'.inflight = t ++ dgramsOf (step (s.agent x) (.inbound s.now (s.unmapped hd.dst) (s.mapped hd.src) m)).2)
    {f t' : Nat} {mt : Msg}
    (hout : Out.dgram f t' mt ∈ (step (s.agent x) (.inbound s.now (s.unmapped hd.dst) (s.mapped hd.src) m)).2)
    (hc : mt.cls = 0) (hlink : Link s' x f t') (hslot : Slot s' x f t' false) :
    Ch1 c s' x mt.tid f t' mt.useCand false s'.now := by
  have hok := (h.flight hd hmem).hok hm x
  obtain ⟨r, _⟩ := step_inbound_reqs h.time0 h.timeH (h.good x) (s.unmapped hd.dst) (s.mapped hd.src) m hok
  have hro := r.req f t' mt hout hc
  have hpe := r.pend f t' mt hout hc
  refine Or.inr ⟨⟨hlink, ⟨_, by rw [hst]; exact hpe, rfl, rfl, rfl, rfl, rfl, by rw [he.now]; rfl⟩, hslot, ?_⟩,
    { src := f, dst := t', p := .stun mt }, ?_, rfl, rfl, mt, rfl, hro.isReq.congr (he.ids x), rfl⟩
  · rw [Nat.sub_self]; unfold maxBindingRequestTimeout; omega
  · rw [hfl]
    exact List.mem_append_right _ (mem_dgramsOf_of_dgram hout)

theorem forced_ctick {s s' : Sys} (h : SysOK nat blocked SLA SLB SR liteA liteB T0 H c s)
    (h' : SysOK nat blocked SLA SLB SR liteA liteB T0 H c s') {hd : Dgram} {t : List Dgram}
    (he : Effect T0 s s' hd t) (hmem : hd ∈ s.inflight) {m : Msg} (hm : hd.p = .stun m)
    (hst : s'.agent c = (step (s.agent c) (.inbound s.now (s.unmapped hd.dst) (s.mapped hd.src) m)).1)
    (k : LK T0 s.now (if m.cls = 2 then some m.tid else none) (s.agent c) (s'.agent c))
    (hfl : s'.inflight = t ++ dgramsOf (step (s.agent c) (.inbound s.now (s.unmapped hd.dst) (s.mapped hd.src) m)).2)
    (hf : Forced (s.agent c) s.now (s.unmapped hd.dst) (s.mapped hd.src) m) : CTick c s.now s s' := by
  have hok := (h.flight hd hmem).hok hm c
  have hctl : (s.agent c).controlling = true := by rw [h.paired.role]; simp
  obtain ⟨r, _⟩ := step_inbound_reqs h.time0 h.timeH (h.good c) (s.unmapped hd.dst) (s.mapped hd.src) m hok
  refine ⟨?_, ?_⟩
  · rintro (g | g | ⟨p0, hp0, hstate, hbud, l, r0, hl, hr, hlink⟩)
    · exact Or.inl (g.keep he)
    · exact Or.inr (Or.inl (g.keep he))
    · rcases forced_ping h.time0 h.timeH (h.good c) hok hf hctl hp0 hstate hbud hl hr with g | ⟨p, hp, hps⟩ | ⟨mt, hout, hc, hu⟩
      · exact Or.inr (Or.inl (by unfold Sel; rw [hst]; exact g))
      · exact Or.inl ⟨p, by rw [hst]; exact hp, hps⟩
      · right; right
        have hg := h.good c
        obtain ⟨s1, s2, q, s3⟩ := slot_of_pair hg.locOK hg.linv.remOK hp0 hl hr
        obtain ⟨l', hl', el⟩ := k.localByAddr s1
        obtain ⟨r', hr', er⟩ := k.findRemote s2
        obtain ⟨q', hq', _⟩ := k.findPair (endsOK_of_c06 (h.c06 c) hg.open_) el er.key s3
        have := touched_req h he hmem hm hst hfl hout hc (he.net.link hlink) ⟨l', r', q', hl', hr', hq', fun hx => by cases hx⟩
        rw [hu, he.now] at this
        exact ⟨mt.tid, l.addr, r0.addr, this⟩
  · intro hsucc htime
    have htime' : (s.agent c).selStart + Config.maxWait (s.agent c).cfg ≤ s.now := htime
    rcases forced_nominate h.time0 h.timeH (h.good c) hok hf hctl hsucc htime' with g | ⟨f, t', mt, hout, hc, hu⟩
    · exact Or.inl (by unfold Sel; rw [hst]; exact g)
    · right
      obtain ⟨p, l, r', hp1, hp2, hp3, hp4, hp5, hp6⟩ := r.uc f t' mt hout hc hu
      rw [← hst] at hp1 hp3 hp4
      obtain ⟨LA', LB', hsi'⟩ := h'.sinv
      have hlink := link_of_succ hsi' h'.topo h'.paired (fun x => (h'.good x).open_) (h'.good c).full hp1 hp2 hp3 hp4
      obtain ⟨s1, s2, q, s3⟩ := slot_of_pair (h'.good c).locOK (h'.good c).linv.remOK hp1 hp3 hp4
      rw [hp5, hp6] at hlink
      rw [hp5] at s1
      rw [hp6] at s2
      have := touched_req h he hmem hm hst hfl hout hc hlink ⟨l, r', q, s1, s2, s3, fun hx => by cases hx⟩
      rw [hu, he.now] at this
      exact ⟨mt.tid, f, t', this⟩

theorem timer_ctick {s : Sys} (h : SysOK nat blocked SLA SLB SR liteA liteB T0 H c s) {t T : Nat} (hT : T ≤ H)
    (he : AdvEffect T0 T s (s.advance T).1) (htk : (s.agent c).nextTick = some t) (hle : t ≤ T)
    (hy : T - t < maxBindingRequestTimeout) : CTick c t s (s.advance T).1 := by
  have hg := h.good c
  have hctl : (s.agent c).controlling = true := by rw [h.paired.role]; simp
  have htH : t ≤ H := Nat.le_trans hle hT
  obtain ⟨j1, j2, _, _⟩ := jump_split hg hT htk hle
  refine ⟨?_, ?_⟩
  · intro hst
    by_cases hsel : Sel s c
    · exact Or.inr (Or.inl (hsel.adv he))
    by_cases hsucc : HasSucc s c
    · exact Or.inl (hsucc.adv he)
    have hs := sel_none hsel
    rcases hst with g | g | ⟨p0, hp0, hstate, hbud, l, r, hl, hr, hlink⟩
    · exact absurd g hsucc
    · exact absurd g hsel
    · obtain ⟨m, q1, q2, q3⟩ := agent_tick_ping hg htH htk hctl hs (fun p hp hps => hsucc ⟨p, hp, hps⟩) hp0 hstate hbud hl hr
      have q3' := j2.pend _ _ q3 hy (by simp)
      obtain ⟨ob, d, hd, hrd, _⟩ := tick_ob h he hp0 hl hr hlink (j1 _ q1) q2 q3' hy
      exact Or.inr (Or.inr ⟨m.tid, l.addr, r.addr, Or.inr ⟨ob, d, hd, hrd⟩⟩)
  · intro hsucc htime
    by_cases hsel : Sel s c
    · exact Or.inl (hsel.adv he)
    have hs := sel_none hsel
    obtain ⟨p, l, r, m, hp, hps, hl, hr, q1, q2, q3⟩ := agent_tick_nominate hg htH htk hctl hs hsucc htime
    obtain ⟨LA, LB, hsi⟩ := h.sinv
    have hlink := link_of_succ hsi h.topo h.paired (fun x => (h.good x).open_) (h.good c).full hp hps hl hr
    have q3' := j2.pend _ _ q3 hy (by simp)
    obtain ⟨ob, d, hd, hrd, _⟩ := tick_ob h he hp hl hr hlink (j1 _ q1) q2 q3' hy
    exact Or.inr ⟨m.tid, l.addr, r.addr, Or.inr ⟨ob, d, hd, hrd⟩⟩

theorem FInv.deliver {s : Sys} (h : FInv nat blocked SLA SLB SR liteA liteB T0 H J c s) {k : Nat} (keep : Bool) {hd : Dgram}
    (hk : s.inflight[k]? = some hd) :
    FInv nat blocked SLA SLB SR liteA liteB T0 H J c (s.deliver k keep).1 ∧
    Effect T0 s (s.deliver k keep).1 hd (restOf s k keep) ∧
    ((((s.deliver k keep).1.agent c).nextTick = (s.agent c).nextTick ∧ BK (s.agent c) ((s.deliver k keep).1.agent c)) ∨
      CTick c s.now s (s.deliver k keep).1) := by
  obtain ⟨hok', he⟩ := deliver_effect h.ok keep hk
  have hmem : hd ∈ s.inflight := List.mem_of_getElem? hk
  generalize (s.deliver k keep).1 = s' at hok' he ⊢
  have htick : ∃ t, (s'.agent c).nextTick = some t ∧ s'.now ≤ t ∧ t ≤ s'.now + 2000000000 := by
    rw [he.now]
    rcases he.agent_cases c with e | ⟨m, _, e⟩
    · rw [e]; exact h.tick
    · rw [e]; exact step_inbound_tickIn _ _ _ (Nat.le_add_right _ _) h.tick
  refine ⟨⟨hok', htick, by rw [(he.ids c).cfg]; exact h.fuel, h.jlt⟩, he, ?_⟩
  rcases he.touched c with e | ⟨m, hm, _, _, hst, _, k1, hfl⟩
  · rw [e]; exact Or.inl ⟨rfl, IdxKeep.refl BKp.refl _⟩
  · rcases step_inbound_qf (h.ok.good c) s.now (s.unmapped hd.dst) (s.mapped hd.src) m with hq | hf
    · rw [hst]; exact Or.inl hq
    · exact Or.inr (forced_ctick h.ok hok' he hmem hm hst k1 hfl hf)

theorem FInv.advance {s : Sys} (h : FInv nat blocked SLA SLB SR liteA liteB T0 H J c s) {T t : Nat} (hle : s.now ≤ T) (hH : T ≤ H)
    (ht : (s.agent c).nextTick = some t) (hT : T ≤ t + J) :
    FInv nat blocked SLA SLB SR liteA liteB T0 H J c (s.advance T).1 ∧ AdvEffect T0 T s (s.advance T).1 ∧
    (T < t → (s.advance T).1.agent c = s.agent c) ∧ (t ≤ T → CTick c t s (s.advance T).1) ∧
    ((s.advance T).1.agent c).selected = (s.agent c).selected := by
  obtain ⟨hok', he⟩ := advance_effect_any h.ok T (Nat.le_trans h.ok.time0 hle) hH
  have hearly : T < t → (s.advance T).1.agent c = s.agent c := by
    intro hlt
    rw [he.agent c, step_advance_early ht hlt]
  have hjl := h.jlt
  refine ⟨⟨hok', ?_, by rw [(he.ids c).cfg]; exact h.fuel, h.jlt⟩, he, hearly, fun e => ?_, ?_⟩
  · rw [he.now]
    rcases Nat.lt_or_ge T t with hlt | hge
    · obtain ⟨t0, ht0, _, h2⟩ := h.tick
      rw [ht] at ht0
      cases ht0
      exact ⟨t, by rw [hearly hlt]; exact ht, Nat.le_of_lt hlt, by omega⟩
    · have hf := h.fuel
      obtain ⟨t', h1, h2, h3⟩ := jump_done (h.ok.good c) hH ht hge (by omega)
      exact ⟨t', by rw [he.agent c]; exact h1, Nat.le_of_lt h2, h3⟩
  · exact timer_ctick h.ok hH he ht e (by omega)
  · rcases Nat.lt_or_ge T t with hlt | hge
    · rw [hearly hlt]
    · rw [he.agent c]; exact (jump_split (h.ok.good c) hH ht hge).2.2.2

/-- event `e` delivers (`keep = false`) or duplicates (`keep = true`) position `k` -/
def IsDlv (e : SysEv) (k : Nat) (keep : Bool) : Prop := (e = .deliver k ∧ keep = false) ∨ (e = .dup k ∧ keep = true)

theorem IsDlv.hits {e : SysEv} {k : Nat} {keep : Bool} (h : IsDlv e k keep) (i : Nat) :
    hits e i = (k == i) ∧ shift e i = (if keep = true then i else if k < i then i - 1 else i) := by
  rcases h with ⟨rfl, rfl⟩ | ⟨rfl, rfl⟩ <;> simp [IceProofs.C01Live.hits, shift]

/-- **one event of a loss-free suffix, with everything `FInv` says about it**: nothing (an index out of range); a
delivery / duplication with its `Effect`, quiet for the controlling agent or containing a forced tick; a clock advance with
its `AdvEffect`, before the tick of `c` or containing it -/
inductive StepView (c : Bool) (T0 H J : Nat) (s : Sys) (e : SysEv) (s' : Sys) : Prop
  | same (k : Nat) (keep : Bool) (he : IsDlv e k keep) (hk : s.inflight[k]? = none) (h : s' = s)
  | dlv (k : Nat) (keep : Bool) (hd : Dgram) (he : IsDlv e k keep) (hk : s.inflight[k]? = some hd)
      (eff : Effect T0 s s' hd (restOf s k keep))
      (ctl : ((s'.agent c).nextTick = (s.agent c).nextTick ∧ BK (s.agent c) (s'.agent c)) ∨ CTick c s.now s s')
  | adv (T t : Nat) (he : e = .advance T) (hle : s.now ≤ T) (hH : T ≤ H) (ht : (s.agent c).nextTick = some t) (hT : T ≤ t + J)
      (eff : AdvEffect T0 T s s') (hs : s' = (s.advance T).1)
      (early : T < t → s'.agent c = s.agent c) (tick : t ≤ T → CTick c t s s')
      (sel : (s'.agent c).selected = (s.agent c).selected)

theorem FInv.step {s : Sys} {e : SysEv} (h : FInv nat blocked SLA SLB SR liteA liteB T0 H J c s) (he : sufOK c H J s e) :
    FInv nat blocked SLA SLB SR liteA liteB T0 H J c (Sys.run s e) ∧ StepView c T0 H J s e (Sys.run s e) := by
  have key : ∀ (k : Nat) (keep : Bool), IsDlv e k keep → Sys.run s e = (s.deliver k keep).1 →
      FInv nat blocked SLA SLB SR liteA liteB T0 H J c (Sys.run s e) ∧ StepView c T0 H J s e (Sys.run s e) := by
    intro k keep hik hrun
    cases hk : s.inflight[k]? with
    | none =>
      have : Sys.run s e = s := by rw [hrun, deliver_eq, hk]
      rw [this]; exact ⟨h, .same k keep hik hk rfl⟩
    | some hd =>
      obtain ⟨h', eff, ctl⟩ := h.deliver keep hk
      rw [hrun]; exact ⟨h', .dlv k keep hd hik hk eff ctl⟩
  cases e with
  | api _ _ => exact he.elim
  | drop _ => exact he.elim
  | deliver k => exact key k false (Or.inl ⟨rfl, rfl⟩) rfl
  | dup k => exact key k true (Or.inr ⟨rfl, rfl⟩) rfl
  | advance T =>
    obtain ⟨h1, h2, t, ht, hT⟩ := he
    obtain ⟨h', eff, early, tick, sel⟩ := h.advance h1 h2 ht hT
    exact ⟨h', .adv T t rfl h1 h2 ht hT eff rfl early tick sel⟩

end

end IceProofs.C01Live

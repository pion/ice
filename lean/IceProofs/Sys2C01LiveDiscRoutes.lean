import IceProofs.Sys2C01LiveStep
import IceProofs.AgentC07Ctl
import IceProofs.Sys2C01LiveProgSend
/-!
# C01 liveness — every datagram a clock advance emits travels on a (local address, known remote address) route

A tick lists and drops no candidate: they stay, up to their timestamps, or go all at once when the connection fails
(`Kept`); and a Binding request goes from a listed local to a listed remote candidate (`Sends`).
-/
namespace IceProofs.C01Live
open IceModel.AgentCore IceProofs.Agent IceProofs.C03

/-- every datagram of `o` leaves a local candidate address of `a` for a remote candidate address of `a` -/
def Rt (a : Agent) (o : List Out) : Prop :=
  ∀ f t m, Out.dgram f t m ∈ o → (∃ l ∈ a.locals, l.addr = f) ∧ (∃ r ∈ a.remotes, r.addr = t)

theorem addr_of_key {xs ys : List Cand}
    (h : ys.map IceProofs.AgentC07.ckey = xs.map IceProofs.AgentC07.ckey) {c : Cand} (hc : c ∈ ys) :
    ∃ c0 ∈ xs, c0.addr = c.addr := by
  have h1 : IceProofs.AgentC07.ckey c ∈ xs.map IceProofs.AgentC07.ckey := h ▸ List.mem_map_of_mem hc
  obtain ⟨c0, h0, e⟩ := List.mem_map.mp h1
  exact ⟨c0, h0, congrArg (fun k => k.2.2) e⟩

theorem Rt.append {a : Agent} {o1 o2 : List Out} (h1 : Rt a o1) (h2 : Rt a o2) : Rt a (o1 ++ o2) := by
  intro f t m hm
  rcases List.mem_append.mp hm with hm | hm
  · exact h1 f t m hm
  · exact h2 f t m hm

/-- the candidates of `b` are those of `a` up to their timestamps, or `b` has none left -/
def Kept (a b : Agent) : Prop := SameCands a b ∨ (b.locals = [] ∧ b.remotes = [])

theorem Kept.refl (a : Agent) : Kept a a := .inl (SameCands.refl a)

theorem Kept.trans {a b c : Agent} (h1 : Kept a b) (h2 : Kept b c) : Kept a c := by
  rcases h2 with h2 | h2
  · rcases h1 with h1 | h1
    · exact .inl (h1.trans h2)
    · refine .inr ⟨List.map_eq_nil_iff.mp (h2.1.trans ?_), List.map_eq_nil_iff.mp (h2.2.trans ?_)⟩
      · rw [h1.1]; rfl
      · rw [h1.2]; rfl
  · exact .inr h2

theorem Kept.addr {a b : Agent} (h : Kept a b) {c : Cand} :
    (Listed b.locals c → ∃ l ∈ a.locals, l.addr = c.addr) ∧ (Listed b.remotes c → ∃ r ∈ a.remotes, r.addr = c.addr) := by
  rcases h with h | h
  · refine ⟨fun hc => ?_, fun hc => ?_⟩
    · obtain ⟨d, hd, e⟩ := hc.of_map (cs' := a.locals) h.1.symm
      exact ⟨d, hd, show d.bare.addr = c.bare.addr from congrArg Cand.addr e⟩
    · obtain ⟨d, hd, e⟩ := hc.of_map (cs' := a.remotes) h.2.symm
      exact ⟨d, hd, show d.bare.addr = c.bare.addr from congrArg Cand.addr e⟩
  · refine ⟨fun ⟨d, hd, _⟩ => ?_, fun ⟨d, hd, _⟩ => ?_⟩
    · rw [h.1] at hd; cases hd
    · rw [h.2] at hd; cases hd

theorem Rt.mono {a b : Agent} (h : Kept a b) {o : List Out} (ho : Rt b o) : Rt a o := by
  intro f t m hm
  obtain ⟨⟨l, hl, e1⟩, ⟨r, hr, e2⟩⟩ := ho f t m hm
  obtain ⟨l0, hl0, e3⟩ := h.addr.1 (.of_mem hl)
  obtain ⟨r0, hr0, e4⟩ := h.addr.2 (.of_mem hr)
  exact ⟨⟨l0, hl0, e3.trans e1⟩, ⟨r0, hr0, e4.trans e2⟩⟩

theorem routes_move {cx : Ctx} (hx : cx.strict) (hlo : ¬ cx.may .locals) (hre : ¬ cx.may .remotes) (hs : cx.Silent)
    {a : Agent} {r : Agent × List Out} (h : Move cx a r) : Kept a r.1 ∧ Rt a r.2 := by
  refine ⟨(Move.cands hlo hre h).imp_right (·.1), ?_⟩
  have req : ∀ now l r uc nom, Listed a.locals l → Listed a.remotes r → Rt a (a.sendRequest now l r uc nom).2 :=
    fun now l r uc nom hl hr f t m hm => by
      rw [Prog.sendRequest_snd] at hm
      simp only [List.mem_singleton, Out.dgram.injEq] at hm
      obtain ⟨rfl, rfl, _⟩ := hm
      exact ⟨(Kept.refl a).addr.1 hl, (Kept.refl a).addr.2 hr⟩
  cases h with
  | request now l r uc hs => exact req now l r uc none (hs hx).loc (hs hx).rem
  | issue now l r v _ hl hr => exact req now l r true _ hl hr
  | select id =>
    obtain ⟨x, y, e⟩ := select_snd_eq a id
    rw [e]
    intro f t m hm
    split at hm <;> simp at hm
  | restart now x p =>
    rw [doRestart_snd_eq]
    intro f t m hm
    split at hm <;> simp at hm
  | answer _ _ now l src m h => exact absurd h (hs.answers now l src m)
  | refuse _ _ now l src m h => exact absurd h (hs.refuses now l src m)
  | connState | failed | res | cbCand | data => exact fun _ _ _ hm => by cases List.mem_singleton.mp hm
  | _ => exact fun _ _ _ hm => by cases hm

theorem routes_chain {cx : Ctx} (hx : cx.strict) (hlo : ¬ cx.may .locals) (hre : ¬ cx.may .remotes) (hs : cx.Silent)
    {a : Agent} {r : Agent × List Out} (h : Chain cx a r) : Kept a r.1 ∧ Rt a r.2 :=
  Chain.ind (R := fun a r => Kept a r.1 ∧ Rt a r.2) (fun a => ⟨Kept.refl a, fun _ _ _ hm => by cases hm⟩)
    (fun _ _ => routes_move hx hlo hre hs) (fun h1 h2 => ⟨h1.1.trans h2.1, h1.2.append (Rt.mono h1.1 h2.2)⟩) h

theorem advance_routes {a : Agent} {T f t : Nat} {m : Msg} (h : Out.dgram f t m ∈ (step a (.advance T)).2) :
    (∃ l ∈ a.locals, l.addr = f) ∧ (∃ r ∈ a.remotes, r.addr = t) :=
  (routes_chain (cx := .idle) trivial (by decide) (by decide) Ctx.idle_silent (Chain.runTimers a T 100000)).2 f t m h

end IceProofs.C01Live

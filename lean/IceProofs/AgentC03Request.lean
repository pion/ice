import IceProofs.AgentC03Success
/-!
# C03 — `ctlHandleRequest` (never selects) and `cldHandleRequest` (selects a valid pair on an
authenticated nomination; a lite agent validates the pair by the nomination itself)
-/
namespace IceProofs.C03
open IceModel.AgentCore IceProofs.Agent

/-- the ghost/counter update both request handlers apply to the pair the request arrived on -/
def reqMark (m : Msg) (p : Pair) : Pair :=
  { p with reqRecv := p.reqRecv + 1, gReq := true, gNomReq := p.gNomReq || m.useCand || m.nom.isSome }

theorem ctlHandleRequest_hok (a : Agent) (now : Nat) (m : Msg) (l r : Cand) (hc : a.controlling = true) :
    HOK True True a (a.ctlHandleRequest now m l r) :=
  hok_chain (cx := { handling with may := fun _ => False })
    ⟨fun h => h, fun h => h, fun _ => ⟨fun h => h, fun h => h⟩, fun _ h => h⟩ trivial (fun h => h.elim)
    (Agent.Chain.ctlHandleRequest a now m l r (src := 0) trivial nofun fun _ => hc)

/-- `shouldAcceptNomination` as inlined in `cldHandleRequest` (verbatim) -/
def cldAccept (a : Agent) (m : Msg) : Agent × Bool :=
    if !(m.useCand || m.nom.isSome) then (a, true) else
    match m.nom with
    | none => (a, true)
    | some v =>
      match a.lastNomination with
      | none => ({ a with lastNomination := some v }, true)
      | some last => if v > last then ({ a with lastNomination := some v }, true) else (a, false)

/-- `shouldSwitchSelectedPair` as inlined in `cldHandleRequest` (verbatim) -/
def cldSw (a : Agent) (id : Nat) (m : Msg) (p : Pair) : Bool :=
            match a.selected.bind a.pairById with
              | none => true
              | some sp =>
                if sp.id == id then false
                else if m.nom.isSome then true
                else if a.lastNomination.isSome then false
                else !needsPrioCheck a.cfg || a.pairPrio sp < a.pairPrio p

/-- the lite agent's validation-by-nomination -/
def cldLite (a : Agent) (id : Nat) : Agent :=
  if a.cfg.lite then a.modPair id fun p => { p with state := .succeeded } else a

/-- the nomination block of `cldHandleRequest` (verbatim) -/
def cldNom (a : Agent) (id : Nat) (m : Msg) : Agent × List Out :=
      if m.useCand || m.nom.isSome then
        match (cldLite a id).pairById id with
        | none => (cldLite a id, [])
        | some p =>
          if p.state == .succeeded then
            if cldSw (cldLite a id) id m p then (cldLite a id).select id else (cldLite a id, [])
          else if m.nom.isSome || p.deferredNom.isNone then
            ((cldLite a id).modPair id fun p => { p with nomOnSuccess := true, deferredNom := m.nom }, [])
          else (cldLite a id, [])
      else (a, [])

/-- the triggered check of a full controlled agent (verbatim) -/
def cldPing (a : Agent) (now : Nat) (l r : Cand) (id : Nat) : Agent × List Out :=
      match a.pairById id with
      | some p =>
        if !a.cfg.lite && (p.state != .succeeded || a.selected.isNone) then a.ping now l r else (a, [])
      | none => (a, [])

/-- the tail of `cldHandleRequest`: success response, then (full agents) a triggered check -/
def cldTail (a : Agent) (now : Nat) (m : Msg) (l r : Cand) (id : Nat) (o : List Out) : Agent × List Out :=
    ((cldPing (a.sendSuccess now m l r).1 now l r id).1,
     o ++ (a.sendSuccess now m l r).2 ++ (cldPing (a.sendSuccess now m l r).1 now l r id).2)

/-- find or create the pair, mark it -/
def cldPre (a : Agent) (m : Msg) (l r : Cand) : Agent × Nat :=
  match a.findPair l r with
  | some p => (a.modPair p.id (reqMark m), p.id)
  | none => ((a.addPair l r).1.modPair (a.addPair l r).2.id (reqMark m), (a.addPair l r).2.id)

theorem cldHandleRequest_eq (a : Agent) (now : Nat) (m : Msg) (l r : Cand) :
    a.cldHandleRequest now m l r =
    if (m.useCand || m.nom.isSome) && !(cldAccept (cldPre a m l r).1 m).2 then
      (cldAccept (cldPre a m l r).1 m).1.sendSuccess now m l r
    else
      cldTail (cldNom (cldAccept (cldPre a m l r).1 m).1 (cldPre a m l r).2 m).1 now m l r (cldPre a m l r).2
        (cldNom (cldAccept (cldPre a m l r).1 m).1 (cldPre a m l r).2 m).2 := by
  unfold Agent.cldHandleRequest cldPre
  cases a.findPair l r <;> rfl

theorem reqMark_flag (a : Agent) (id : Nat) (m : Msg) :
    ∀ q ∈ (a.modPair id (reqMark m)).checklist, q.id = id →
      q.gReq = true ∧ ((m.useCand || m.nom.isSome) = true → q.gNomReq = true) := by
  intro q hq e
  obtain ⟨p, _, h | h⟩ := mem_modPair hq
  · rw [h.2]
    refine ⟨rfl, fun hn => ?_⟩
    simp only [reqMark]
    rw [Bool.or_assoc, hn, Bool.or_true]
  · rw [h.2] at e; exact absurd e h.1

/-- what `cldNom` needs to know about the pair the request arrived on -/
def Marked (a : Agent) (id : Nat) (m : Msg) : Prop :=
  (∃ q ∈ a.checklist, q.id = id) ∧
  ∀ q ∈ a.checklist, q.id = id → q.gReq = true ∧ ((m.useCand || m.nom.isSome) = true → q.gNomReq = true)

theorem cldPre_hok (a : Agent) (m : Msg) (l r : Cand) :
    HOK True True a ((cldPre a m l r).1, []) ∧ Marked (cldPre a m l r).1 (cldPre a m l r).2 m := by
  unfold cldPre
  split
  · rename_i p hf
    exact ⟨HOK.silent (countReq_pres a p.id m) rfl rfl,
      ⟨reqMark m p, Agent.mem_modPair_of_mem ((findPair_listed hf).1) _, rfl⟩, reqMark_flag a p.id m⟩
  · exact ⟨HOK.silent ((addPair_pres a l r).trans (countReq_pres _ _ m)) rfl rfl,
      ⟨reqMark m (a.addPair l r).2, Agent.mem_modPair_of_mem (addPair_snd_mem a l r) _, rfl⟩, reqMark_flag _ _ m⟩

theorem cldAccept_cases (a : Agent) (m : Msg) :
    (cldAccept a m).1 = a ∨ ∃ v, (cldAccept a m).1 = { a with lastNomination := some v } := by
  unfold cldAccept
  repeat' split
  all_goals first
    | exact Or.inl rfl
    | exact Or.inr ⟨_, rfl⟩

theorem cldAccept_hok {wp ex : Prop} (a : Agent) (m : Msg) : HOK wp ex a ((cldAccept a m).1, []) := by
  rcases cldAccept_cases a m with h | ⟨v, h⟩
  · rw [h]; exact HOK.refl _ _ _
  · rw [h]; exact HOK.silent (Pres.of_eq rfl rfl rfl rfl fun _ => rfl) rfl rfl

theorem cldAccept_marked (a : Agent) (m : Msg) (id : Nat) (h : Marked a id m) : Marked (cldAccept a m).1 id m := by
  rcases cldAccept_cases a m with e | ⟨v, e⟩
  · rw [e]; exact h
  · rw [e]; exact h

theorem cldAccept_selected (a : Agent) (m : Msg) : (cldAccept a m).1.selected = a.selected := by
  rcases cldAccept_cases a m with e | ⟨v, e⟩ <;> rw [e]

theorem cldLite_pres {wp ex : Prop} (a : Agent) (id : Nat)
    (hg : ∀ q ∈ a.checklist, q.id = id → q.gNomReq = true) : Pres wp ex a (cldLite a id) := by
  unfold cldLite
  split
  · rename_i hl
    exact liteValid_pres a id hl hg
  · exact Pres.refl _ _ _

theorem cldLite_frame (a : Agent) (id : Nat) :
    (cldLite a id).cfg = a.cfg ∧ (cldLite a id).controlling = a.controlling ∧
    (cldLite a id).selected = a.selected := by
  unfold cldLite
  split <;> exact ⟨rfl, rfl, rfl⟩

theorem cldLite_flag (a : Agent) (id : Nat) (hg : ∀ q ∈ a.checklist, q.id = id → q.gNomReq = true) :
    ∀ q ∈ (cldLite a id).checklist, q.id = id → q.gNomReq = true := by
  unfold cldLite
  split
  · intro q hq e
    obtain ⟨p, hp, h | h⟩ := mem_modPair hq
    · rw [h.2]; exact hg p hp h.1
    · rw [h.2]; exact hg p hp (h.2 ▸ e)
  · exact hg

theorem cldLite_valid (a : Agent) (id : Nat) (hl : a.cfg.lite = true) :
    ∀ q ∈ (cldLite a id).checklist, q.id = id → q.state = .succeeded := by
  unfold cldLite
  rw [if_pos hl]
  intro q hq e
  obtain ⟨p, hp, h | h⟩ := mem_modPair hq
  · rw [h.2]
  · rw [h.2] at e; exact absurd e h.1

theorem cldNom_cases (a : Agent) (id : Nat) (m : Msg) :
    (cldNom a id m = (a, []) ∧ (m.useCand || m.nom.isSome) = false) ∨
    ((m.useCand || m.nom.isSome) = true ∧
      (cldNom a id m = (cldLite a id, []) ∨
       (∃ p, (cldLite a id).pairById id = some p ∧ p.state = .succeeded ∧ cldSw (cldLite a id) id m p = true ∧
          cldNom a id m = (cldLite a id).select id) ∨
       (∃ p, (cldLite a id).pairById id = some p ∧ p.state ≠ .succeeded ∧
          cldNom a id m = ((cldLite a id).modPair id fun p => { p with nomOnSuccess := true, deferredNom := m.nom }, [])))) := by
  unfold cldNom
  split
  · rename_i hn
    refine Or.inr ⟨hn, ?_⟩
    split
    · exact Or.inl rfl
    · rename_i p hp
      split
      · rename_i hs
        have hs' : p.state = .succeeded := by simpa using hs
        split
        · rename_i hsw
          exact Or.inr (Or.inl ⟨p, hp, hs', hsw, rfl⟩)
        · exact Or.inl rfl
      · rename_i hs
        have hs' : p.state ≠ .succeeded := by simpa using hs
        split
        · exact Or.inr (Or.inr ⟨p, hp, hs', rfl⟩)
        · exact Or.inl rfl
  · rename_i hn
    exact Or.inl ⟨rfl, by simpa using hn⟩

theorem cldPing_hok {wp ex : Prop} (a : Agent) (now : Nat) (l r : Cand) (id : Nat) :
    HOK wp ex a (cldPing a now l r id) := by
  unfold cldPing
  split
  · split
    · exact ping_hok _ _ _ _
    · exact HOK.refl _ _ _
  · exact HOK.refl _ _ _

theorem cldPing_noReq (a : Agent) (now : Nat) (l r : Cand) (id : Nat) (hl : a.cfg.lite = true) :
    NoReq (cldPing a now l r id).2 := by
  unfold cldPing
  split
  · simp only [hl, Bool.not_true, Bool.false_and, Bool.false_eq_true, if_false]
    exact NoReq.nil
  · exact NoReq.nil

theorem cldTail_hok {wp ex : Prop} (a : Agent) (now : Nat) (m : Msg) (l r : Cand) (id : Nat) :
    HOK wp ex a (cldTail a now m l r id []) := by
  unfold cldTail
  have h1 := sendSuccess_hok (wp := wp) (ex := ex) a now m l r
  have h2 := cldPing_hok (wp := wp) (ex := ex) (a.sendSuccess now m l r).1 now l r id
  have := HOK.seq (a1 := (a.sendSuccess now m l r).1) (o1 := (a.sendSuccess now m l r).2) h1
    (a2 := (cldPing (a.sendSuccess now m l r).1 now l r id).1) (o2 := (cldPing (a.sendSuccess now m l r).1 now l r id).2) h2
  simpa using this

theorem cldTail_out (a : Agent) (now : Nat) (m : Msg) (l r : Cand) (id : Nat) (o : List Out) :
    (cldTail a now m l r id o).1 = (cldTail a now m l r id []).1 ∧
    (cldTail a now m l r id o).2 = o ++ (cldTail a now m l r id []).2 := by
  unfold cldTail
  simp [List.append_assoc]

theorem sel_cldHandleRequest (a : Agent) (now : Nat) (m : Msg) (l r : Cand) (hc : a.controlling = false) :
    Sel a (a.cldHandleRequest now m l r) :=
  sel_handling (Agent.Chain.cldHandleRequest a now m l r (src := 0) trivial nofun (fun _ => hc) (.inl rfl) (.inr rfl))

end IceProofs.C03

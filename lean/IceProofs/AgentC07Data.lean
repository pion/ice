import IceProofs.AgentC07Inv
import IceProofs.AgentBestBy
/-!
# C07 data plane: `Conn.Write`, `Conn.WriteToPair`, inbound payloads, `Conn.Read`

Exact effect of the four data-plane events of `step` on state and outputs.
-/
namespace IceProofs.AgentC07
open IceModel.AgentCore IceProofs.Agent

/-- the pair `Conn.Write` sends on: the selected pair, else the best validated pair -/
def route (a : Agent) : Option Pair := (a.selected.bind a.pairById).orElse fun _ => a.bestValid

theorem route_selected (a : Agent) (id : Nat) (p : Pair) (h1 : a.selected = some id) (h2 : a.pairById id = some p) :
    route a = some p := by
  unfold route; rw [h1]; simp [h2]

theorem route_unselected (a : Agent) (h : a.selected.bind a.pairById = none) : route a = a.bestValid := by
  unfold route; rw [h]; rfl

/-- state after an accepted send of `len` bytes on pair `pid` through local candidate `luid` -/
def wrote (a : Agent) (now pid luid len : Nat) : Agent :=
  if len > 0 then
    (a.seenLocalSent luid now).modPair pid fun p => { p with pktSent := p.pktSent + 1, bytesSent := p.bytesSent + len }
  else a.seenLocalSent luid now

theorem writeVia_ok (a : Agent) (now : Nat) (p : Pair) (len : Nat) (l r : Cand)
    (h1 : a.localOf p.l = some l) (h2 : a.remoteOf p.r = some r) :
    a.writeVia now p len = (wrote a now p.id l.uid len, [.data l.addr r.addr len, .res s!"ok:{len}"]) := by
  unfold Agent.writeVia wrote
  rw [h1, h2]

theorem writeVia_err (a : Agent) (now : Nat) (p : Pair) (len : Nat)
    (h : a.localOf p.l = none ∨ a.remoteOf p.r = none) :
    a.writeVia now p len = (a, [.res "err:nopairs"]) := by
  unfold Agent.writeVia
  rcases h with h | h
  · rw [h]
  · rw [h]; cases a.localOf p.l <;> rfl

theorem write_closed (a : Agent) (now len : Nat) (s : Bool) (h : a.closed = true) :
    step a (.write now len s) = (a, [.res "err:closed"]) := by
  show a.write now len s = _
  unfold Agent.write; rw [if_pos h]

theorem write_stun (a : Agent) (now len : Nat) (h : a.closed = false) :
    step a (.write now len true) = (a, [.res "err:stun"]) := by
  show a.write now len true = _
  unfold Agent.write; simp [h]

theorem write_noroute (a : Agent) (now len : Nat) (h : a.closed = false) (hr : route a = none) :
    step a (.write now len false) = (a, [.res "err:nopairs"]) := by
  show a.write now len false = _
  unfold Agent.write
  have hr' := hr
  simp only [route, Option.orElse_eq_or] at hr'
  simp [h, hr']

theorem write_routed (a : Agent) (now len : Nat) (p : Pair) (h : a.closed = false) (hr : route a = some p) :
    step a (.write now len false) =
      ({ (a.writeVia now p len).1 with connBytesSent := (a.writeVia now p len).1.connBytesSent + len },
       (a.writeVia now p len).2) := by
  show a.write now len false = _
  unfold Agent.write
  have hr' := hr
  simp only [route, Option.orElse_eq_or] at hr'
  simp [h, hr']

theorem writeToPair_closed (a : Agent) (now id len : Nat) (s : Bool) (h : a.closed = true) :
    step a (.writeToPair now id len s) = (a, [.res "err:closed"]) := by
  show a.writeToPair now id len s = _
  unfold Agent.writeToPair; rw [if_pos h]

theorem writeToPair_stun (a : Agent) (now id len : Nat) (h : a.closed = false) :
    step a (.writeToPair now id len true) = (a, [.res "err:stun"]) := by
  show a.writeToPair now id len true = _
  unfold Agent.writeToPair; simp [h]

theorem writeToPair_notfound (a : Agent) (now id len : Nat) (h : a.closed = false) (hp : a.pairById id = none) :
    step a (.writeToPair now id len false) = (a, [.res "err:notfound"]) := by
  show a.writeToPair now id len false = _
  unfold Agent.writeToPair; simp [h, hp]

theorem writeToPair_notsucceeded (a : Agent) (now id len : Nat) (p : Pair) (h : a.closed = false)
    (hp : a.pairById id = some p) (hs : p.state ≠ .succeeded) :
    step a (.writeToPair now id len false) = (a, [.res "err:notsucceeded"]) := by
  show a.writeToPair now id len false = _
  unfold Agent.writeToPair; simp [h, hp, hs]

theorem writeToPair_routed (a : Agent) (now id len : Nat) (p : Pair) (h : a.closed = false)
    (hp : a.pairById id = some p) (hs : p.state = .succeeded) :
    step a (.writeToPair now id len false) = a.writeVia now p len := by
  show a.writeToPair now id len false = _
  unfold Agent.writeToPair; simp [h, hp, hs]

/-- the receiving candidate's cache entry for `src`, if any (`validateSTUNTrafficCache`) -/
def cacheHit (a : Agent) (l : Cand) (src : Nat) : Option (Nat × Nat × Nat) :=
  a.caches.find? fun (lu, s, _) => lu == l.uid && s == src

/-- source validation of a non-STUN payload arriving on `l` from `src` -/
def accepts (a : Agent) (l : Cand) (src : Nat) : Bool :=
  (cacheHit a l src).isSome || (a.findRemote l.net src).isSome

/-- the counter update of an accepted payload on the currently selected pair -/
def recvBump (a : Agent) (len : Nat) : List Pair :=
  if len > 0 then
    match a.selected with
    | some id => updPair a.checklist id fun p => { p with pktRecv := p.pktRecv + 1, bytesRecv := p.bytesRecv + len }
    | none => a.checklist
  else a.checklist

/-- what an accepted payload does -/
structure Recvd (a b : Agent) (l : Cand) (src len : Nat) : Prop where
  rx : b.rx = a.rx ++ [len]
  sent : b.connBytesSent = a.connBytesSent
  recv : b.connBytesRecv = a.connBytesRecv
  npid : b.nextPairID = a.nextPairID
  sel : b.selected = a.selected
  closed : b.closed = a.closed
  nuid : b.nextUid = a.nextUid
  locals : b.locals = a.locals
  remotes : b.remotes.map ckey = a.remotes.map ckey
  checklist : b.checklist = recvBump a len
  caches : b.caches = a.caches ∨
    ∃ r, a.findRemote l.net src = some r ∧ b.caches = a.caches ++ [(l.uid, src, r.uid)]

/-- what a payload from a known source that does NOT fit into the receive buffer does: the source check has
refreshed the remote candidate's liveness and (first time) cached the source; nothing is queued, no counter moves -/
structure Dropped (a b : Agent) (l : Cand) (src : Nat) : Prop where
  rx : b.rx = a.rx
  sent : b.connBytesSent = a.connBytesSent
  recv : b.connBytesRecv = a.connBytesRecv
  npid : b.nextPairID = a.nextPairID
  sel : b.selected = a.selected
  closed : b.closed = a.closed
  nuid : b.nextUid = a.nextUid
  locals : b.locals = a.locals
  remotes : b.remotes.map ckey = a.remotes.map ckey
  checklist : b.checklist = a.checklist
  caches : b.caches = a.caches ∨
    ∃ r, a.findRemote l.net src = some r ∧ b.caches = a.caches ++ [(l.uid, src, r.uid)]

theorem dataSource_of_accepts (a : Agent) (now : Nat) (l : Cand) (src : Nat) (h : accepts a l src = true) :
    ∃ b, dataSource a now l src = some b ∧ Dropped a b l src := by
  unfold accepts cacheHit at h
  unfold dataSource
  cases hc : a.caches.find? (fun (lu, s, _) => lu == l.uid && s == src) with
  | some e =>
    obtain ⟨lu, s, ru⟩ := e
    exact ⟨_, rfl, ⟨rfl, rfl, rfl, rfl, rfl, rfl, rfl, rfl, updCand_map ckey _ _ _ (fun _ => rfl), rfl, Or.inl rfl⟩⟩
  | none =>
    cases hr : a.findRemote l.net src with
    | some r =>
      exact ⟨_, rfl, ⟨rfl, rfl, rfl, rfl, rfl, rfl, rfl, rfl, updCand_map ckey _ _ _ (fun _ => rfl), rfl,
        Or.inr ⟨r, hr, rfl⟩⟩⟩
    | none =>
      have hc' : a.caches.find? (fun x => match x with | (lu, s, _) => lu == l.uid && s == src) = none := hc
      rw [hc', hr] at h
      simp at h

theorem dataSource_none (a : Agent) (now : Nat) (l : Cand) (src : Nat) (h : accepts a l src = false) :
    dataSource a now l src = none := by
  unfold accepts cacheHit at h
  simp only [Bool.or_eq_false_iff, Option.isSome_eq_false_iff, Option.isNone_iff_eq_none] at h
  unfold dataSource
  have hc : a.caches.find? (fun (lu, s, _) => lu == l.uid && s == src) = none := h.1
  rw [hc, h.2]

theorem enqueue_rx (b : Agent) (len : Nat) : (b.enqueue len).rx = b.rx ++ [len] := by
  unfold Agent.enqueue
  dsimp only
  split
  · split <;> rfl
  · rfl

theorem inboundData_reject (a : Agent) (now : Nat) (l : Cand) (src len : Nat) (h : accepts a l src = false) :
    a.inboundData now l src len = (a, []) := by
  rw [inboundData_stages, dataSource_none a now l src h]

theorem inboundData_accept (a : Agent) (now : Nat) (l : Cand) (src len : Nat) (h : accepts a l src = true)
    (hf : rxFits a.rx len = true) :
    (a.inboundData now l src len).2 = [] ∧ Recvd a (a.inboundData now l src len).1 l src len := by
  obtain ⟨b, hv, d⟩ := dataSource_of_accepts a now l src h
  rw [inboundData_stages, hv]
  simp only [d.rx, hf, if_true]
  refine ⟨trivial, ?_⟩
  have hq : (b.enqueue len).checklist = recvBump a len := by
    unfold Agent.enqueue recvBump
    simp only
    rw [← d.sel, ← d.checklist]
    by_cases hl : len > 0
    · simp only [hl, if_true]
      cases hs : b.selected <;> simp [Agent.modPair]
    · simp only [hl, if_false]
  have hrest : (b.enqueue len).connBytesSent = b.connBytesSent ∧ (b.enqueue len).connBytesRecv = b.connBytesRecv ∧
      (b.enqueue len).nextPairID = b.nextPairID ∧ (b.enqueue len).selected = b.selected ∧
      (b.enqueue len).closed = b.closed ∧ (b.enqueue len).nextUid = b.nextUid ∧ (b.enqueue len).locals = b.locals ∧
      (b.enqueue len).remotes = b.remotes ∧ (b.enqueue len).caches = b.caches := by
    unfold Agent.enqueue
    simp only
    split
    · split <;> exact ⟨rfl, rfl, rfl, rfl, rfl, rfl, rfl, rfl, rfl⟩
    · exact ⟨rfl, rfl, rfl, rfl, rfl, rfl, rfl, rfl, rfl⟩
  obtain ⟨e1, e2, e3, e4, e5, e6, e7, e8, e9⟩ := hrest
  exact ⟨by rw [enqueue_rx, d.rx], e1.trans d.sent, e2.trans d.recv, e3.trans d.npid,
    e4.trans d.sel, e5.trans d.closed, e6.trans d.nuid, e7.trans d.locals, by rw [e8]; exact d.remotes, hq,
    by rw [e9]; exact d.caches⟩

theorem inboundData_full (a : Agent) (now : Nat) (l : Cand) (src len : Nat) (h : accepts a l src = true)
    (hf : rxFits a.rx len = false) :
    (a.inboundData now l src len).2 = [] ∧ Dropped a (a.inboundData now l src len).1 l src := by
  obtain ⟨b, hv, d⟩ := dataSource_of_accepts a now l src h
  rw [inboundData_stages, hv]
  simp only [d.rx, hf, Bool.false_eq_true, if_false]
  exact ⟨trivial, d⟩

theorem step_inboundData_drop (a : Agent) (now la src len : Nat) (stun : Bool)
    (h : a.closed = true ∨ a.started = false ∨ stun = true ∨ a.localByAddr la = none) :
    step a (.inboundData now la src len stun) = (a, []) := by
  unfold step
  dsimp only
  split
  · rfl
  · rename_i hn
    rcases h with h | h | h | h
    · simp [h] at hn
    · simp [h] at hn
    · simp [h] at hn
    · rw [h]

theorem step_inboundData (a : Agent) (now la src len : Nat) (l : Cand) (hc : a.closed = false)
    (hs : a.started = true) (hl : a.localByAddr la = some l) :
    step a (.inboundData now la src len false) = a.inboundData now l src len := by
  unfold step
  simp [hc, hs, hl]

theorem step_read_closed (a : Agent) (cap : Nat) (h : a.closed = true) : step a (.read cap) = (a, [.res "err:closed"]) := by
  unfold step; simp [h]

theorem step_read_empty (a : Agent) (cap : Nat) (h : a.closed = false) (hr : a.rx = []) :
    step a (.read cap) = (a, [.res "empty"]) := by
  unfold step; simp [h, hr]

theorem step_read_some (a : Agent) (cap n : Nat) (rest : List Nat) (h : a.closed = false) (hr : a.rx = n :: rest) :
    step a (.read cap) = ({ a with rx := rest, connBytesRecv := a.connBytesRecv + min n cap },
      [.res (if cap < n then s!"short:{cap}" else s!"read:{n}")]) := by
  unfold step; simp [h, hr]

theorem step_read_full (a : Agent) (cap n : Nat) (rest : List Nat) (h : a.closed = false) (hr : a.rx = n :: rest) (hn : n ≤ cap) :
    step a (.read cap) = ({ a with rx := rest, connBytesRecv := a.connBytesRecv + n }, [.res s!"read:{n}"]) := by
  rw [step_read_some a cap n rest h hr, Nat.min_eq_left hn, if_neg (by omega)]

theorem step_read_short (a : Agent) (cap n : Nat) (rest : List Nat) (h : a.closed = false) (hr : a.rx = n :: rest) (hn : cap < n) :
    step a (.read cap) = ({ a with rx := rest, connBytesRecv := a.connBytesRecv + cap }, [.res s!"short:{cap}"]) := by
  rw [step_read_some a cap n rest h hr, Nat.min_eq_right (by omega), if_pos hn]

end IceProofs.AgentC07

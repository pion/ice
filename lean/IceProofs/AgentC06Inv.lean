import IceProofs.AgentC06Lib
/-!
# C06 — the bookkeeping invariant `Inv` and its preservation by the building blocks
-/
namespace IceProofs.AgentC06
open IceModel.AgentCore IceProofs.Agent

/-- structural part of the invariant, as a predicate over the bookkeeping view -/
structure StructOK (ks : List Key) (lc rc : List Cand) (ca : List (Nat × Nat × Nat)) (nu np : Nat)
    (blocked : List Nat) (cl : Bool) : Prop where
  /-- (a) pair ids pairwise distinct -/
  idsNodup : (ks.map (·.1)).Nodup
  /-- (a) … and already handed out (`addPair` uses `nextPairID + 1`) -/
  idsLe : ∀ k ∈ ks, k.1 ≤ np
  /-- (b) candidate identities pairwise distinct, locals and remotes together -/
  uidsNodup : ((lc ++ rc).map (·.uid)).Nodup
  uidsLt : ∀ c ∈ lc ++ rc, c.uid < nu
  /-- (c) both ends of every pair are current candidates of the same network type -/
  ends : cl = false → ∀ k ∈ ks, ∃ l ∈ lc, ∃ r ∈ rc, l.uid = k.2.1 ∧ r.uid = k.2.2 ∧ l.net = r.net
  /-- after Close the candidate lists are empty (the checklist is left as it was, unobservable) -/
  closedEmpty : cl = true → lc = [] ∧ rc = [] ∧ ca = []
  /-- (f) remote candidates pairwise non-`Equal` -/
  remNE : rc.Pairwise (fun x y => x.equal y = false)
  locNE : lc.Pairwise (fun x y => x.equal y = false)
  /-- (f) no remote candidate has a filtered address -/
  notBlocked : ∀ r ∈ rc, blocked.contains (ipOf r.addr) = false
  /-- (g) cache entries reference current candidates -/
  cachesOk : ∀ x ∈ ca, (∃ l ∈ lc, l.uid = x.1) ∧ (∃ r ∈ rc, r.uid = x.2.2)

def InvS (a : Agent) : Prop :=
  StructOK (keysOf a) (lcsOf a) (rcsOf a) a.caches a.nextUid a.nextPairID a.cfg.blockedIPs a.closed

/-- selection / nomination part -/
structure InvC (a : Agent) : Prop where
  sel : ∀ id, a.selected = some id → id ∈ idsOf a
  selNom : ∀ id, a.selected = some id → ∀ p ∈ a.checklist, p.id = id → p.nominated = true
  nomLe : ∀ id, a.nominatedPair = some id → id ≤ a.nextPairID
  nom : ∀ id, a.nominatedPair = some id →
    id ∈ idsOf a ∨ a.connState = .failed ∨ a.selected.isSome ∨ a.closed = true

structure Inv (a : Agent) : Prop where
  s : InvS a
  c : InvC a

theorem mem_ids_iff_keys {a : Agent} {id : Nat} : id ∈ idsOf a ↔ ∃ k ∈ keysOf a, k.1 = id := by
  rw [← keys_ids]; simp

theorem mem_ids_iff {a : Agent} {id : Nat} : id ∈ idsOf a ↔ ∃ p ∈ a.checklist, p.id = id := by
  simp [idsOf]

theorem InvS.evo {a a' : Agent} (h : InvS a) (e : Evo a a') : InvS a' := by
  unfold InvS at *
  rw [e.keys, e.lcs, e.rcs, e.caches, e.nextUid, e.nextPairID, e.cfg, e.closed]
  exact h

theorem Inv.evo {a a' : Agent} (h : Inv a) (e : Evo a a') : Inv a' := by
  refine ⟨h.s.evo e, ?_, ?_, ?_, ?_⟩
  · intro id hid
    rw [e.ids]
    rcases e.sel id hid with h1 | ⟨h1, _⟩
    · exact h.c.sel id h1
    · exact h1
  · intro id hid p' hp' hpid
    rcases e.sel id hid with h1 | ⟨_, h2⟩
    · cases hn : p'.nominated with
      | true => rfl
      | false =>
        obtain ⟨p, hp, hi, hnn⟩ := e.nomMono p' hp' hn
        rw [h.c.selNom id h1 p hp (hi.trans hpid)] at hnn
        exact absurd hnn (by simp)
    · exact h2 p' hp' hpid
  · intro id hid
    rw [e.nextPairID]
    rcases e.nom with h1 | h1 | ⟨id', h1, hm⟩
    · exact h.c.nomLe id (h1 ▸ hid)
    · rw [h1] at hid; exact absurd hid (by simp)
    · rw [h1] at hid
      have : id' = id := by simpa using hid
      subst this
      obtain ⟨k, hk, hk1⟩ := mem_ids_iff_keys.1 hm
      exact hk1 ▸ h.s.idsLe k hk
  · intro id hid
    rw [e.ids, e.closed]
    rcases e.nom with h1 | h1 | ⟨id', h1, hm⟩
    · rcases h.c.nom id (h1 ▸ hid) with h2 | h2 | h2 | h2
      · exact Or.inl h2
      · rcases e.cs with h3 | ⟨_, h3⟩
        · exact Or.inr (Or.inl (h3.trans h2))
        · exact Or.inr (Or.inr (Or.inl h3))
      · exact Or.inr (Or.inr (Or.inl (e.selSome h2)))
      · exact Or.inr (Or.inr (Or.inr h2))
    · rw [h1] at hid; exact absurd hid (by simp)
    · rw [h1] at hid
      have : id' = id := by simpa using hid
      subst this
      exact Or.inl hm

theorem Inv.same {a a' : Agent} (h : Inv a) (e : Same a a') : Inv a' := h.evo e.evo

theorem keysOf_addPair (a : Agent) (l r : Cand) :
    keysOf (a.addPair l r).1 = keysOf a ++ [(a.nextPairID + 1, l.uid, r.uid)] := by
  simp [Agent.addPair, keysOf, key]

theorem idsOf_addPair (a : Agent) (l r : Cand) :
    idsOf (a.addPair l r).1 = idsOf a ++ [a.nextPairID + 1] := by
  simp [Agent.addPair, idsOf]

theorem StructOK.addKey {ks lc rc ca nu np blocked cl} (h : StructOK ks lc rc ca nu np blocked cl)
    (l r : Cand) (hl : l ∈ lc) (hr : r ∈ rc) (hn : l.net = r.net) :
    StructOK (ks ++ [(np + 1, l.uid, r.uid)]) lc rc ca nu (np + 1) blocked cl := by
  refine { h with idsNodup := ?_, idsLe := ?_, ends := ?_ }
  · rw [List.map_append, List.nodup_append]
    refine ⟨h.idsNodup, by simp, ?_⟩
    intro x hx y hy
    obtain ⟨k, hk, rfl⟩ := List.mem_map.1 hx
    have := h.idsLe k hk
    simp at hy; omega
  · intro k hk
    rcases List.mem_append.1 hk with hk | hk
    · have := h.idsLe k hk; omega
    · simp at hk; subst hk; simp
  · intro hc k hk
    rcases List.mem_append.1 hk with hk | hk
    · exact h.ends hc k hk
    · simp at hk; subst hk
      exact ⟨l, hl, r, hr, rfl, rfl, hn⟩

theorem Inv.addPair {a : Agent} (h : Inv a) (l r : Cand) (hl : core l ∈ lcsOf a) (hr : core r ∈ rcsOf a)
    (hn : l.net = r.net) : Inv (a.addPair l r).1 := by
  refine ⟨?_, ?_, ?_, ?_, ?_⟩
  · unfold InvS
    rw [keysOf_addPair]
    exact h.s.addKey (core l) (core r) hl hr hn
  · intro id hid
    rw [idsOf_addPair]
    exact List.mem_append_left _ (h.c.sel id hid)
  · intro id hid p hp hpid
    have hp' : p ∈ a.checklist ++ [_] := hp
    rcases List.mem_append.1 hp' with hp' | hp'
    · exact h.c.selNom id hid p hp' hpid
    · simp at hp'; subst hp'
      obtain ⟨k, hk, hk1⟩ := mem_ids_iff_keys.1 (h.c.sel id hid)
      have := h.s.idsLe k hk
      simp at hpid; omega
  · intro id hid
    have := h.c.nomLe id hid
    show id ≤ a.nextPairID + 1
    omega
  · intro id hid
    rw [idsOf_addPair]
    rcases h.c.nom id hid with h1 | h1
    · exact Or.inl (List.mem_append_left _ h1)
    · exact Or.inr h1

theorem StructOK.wiped {ks lc rc ca nu np blocked cl} (_h : StructOK ks lc rc ca nu np blocked cl) :
    StructOK [] [] [] [] nu np blocked cl :=
  { idsNodup := by simp, idsLe := by simp, uidsNodup := by simp, uidsLt := by simp, ends := by simp,
    closedEmpty := by simp, remNE := by simp, locNE := by simp, notBlocked := by simp, cachesOk := by simp }

theorem Inv.wiped {a a' : Agent} (h : Inv a) (h1 : a'.checklist = []) (h2 : a'.locals = [])
    (h3 : a'.remotes = []) (h4 : a'.caches = []) (h5 : a'.selected = none) (h6 : a'.nextUid = a.nextUid)
    (h7 : a'.nextPairID = a.nextPairID) (h8 : a'.cfg = a.cfg) (h9 : a'.closed = a.closed)
    (h10 : a'.nominatedPair = none ∨
      (a'.connState = .failed ∧ ∀ id, a'.nominatedPair = some id → id ≤ a.nextPairID)) :
    Inv a' := by
  refine ⟨?_, ?_, ?_, ?_, ?_⟩
  · unfold InvS keysOf lcsOf rcsOf
    rw [h1, h2, h3, h4, h6, h7, h8, h9]
    exact h.s.wiped
  · intro id hid; rw [h5] at hid; exact absurd hid (by simp)
  · intro id hid; rw [h5] at hid; exact absurd hid (by simp)
  · intro id hid
    rcases h10 with h10 | ⟨_, h10⟩
    · rw [h10] at hid; exact absurd hid (by simp)
    · rw [h7]; exact h10 id hid
  · intro id hid
    rcases h10 with h10 | ⟨h10, _⟩
    · rw [h10] at hid; exact absurd hid (by simp)
    · exact Or.inr (Or.inl h10)

/-- what `updateConnectionState(Failed)` leaves behind -/
def Wiped (a : Agent) : Prop :=
  a.checklist = [] ∧ a.locals = [] ∧ a.remotes = [] ∧ a.selected = none ∧ a.pending = [] ∧ a.caches = []

theorem Inv.setFailed {a : Agent} (h : Inv a) : Inv (a.setConnState .failed).1 := by
  by_cases hc : a.connState = .failed
  · rw [setConnState_same_eq a _ hc]; exact h
  · rw [setConnState_failed_eq a hc]
    exact h.wiped rfl rfl rfl rfl rfl rfl rfl rfl rfl (Or.inr ⟨rfl, h.c.nomLe⟩)

end IceProofs.AgentC06

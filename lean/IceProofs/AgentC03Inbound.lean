import IceProofs.AgentC03Request
import IceProofs.AgentRules
/-!
# C03 — `handleInbound`

`handleInbound_hsel`: the selectors' handlers are `Sel` as chains in `handling` (`sel_toSelector`), the discovery of the
source is `HOK` (`resolveSource_hok`), and the two compose by `HSel.after_hok` once the outputs of the first are split
off (`afterResolve_out`).  `hiDisc` is `Agent.resolveSource` (`hiDisc_eq`).
-/
namespace IceProofs.C03
open IceModel.AgentCore

theorem cldNom_noReq (a : Agent) (id : Nat) (m : Msg) : NoReq (cldNom a id m).2 := by
  rcases cldNom_cases a id m with ⟨h, _⟩ | ⟨_, h | ⟨p, _, _, _, h⟩ | ⟨p, _, _, h⟩⟩
  · rw [h]; exact NoReq.nil
  · rw [h]; exact NoReq.nil
  · rw [h]; exact select_noReq _ _
  · rw [h]; exact NoReq.nil

theorem cldNom_cfg (a : Agent) (id : Nat) (m : Msg) : (cldNom a id m).1.cfg = a.cfg := by
  rcases cldNom_cases a id m with ⟨h, _⟩ | ⟨_, h | ⟨p, _, _, _, h⟩ | ⟨p, _, _, h⟩⟩
  · rw [h]
  · rw [h]; exact (cldLite_frame a id).1
  · rw [h]; exact ((select_cc _ _).1).trans (cldLite_frame a id).1
  · rw [h]; exact (cldLite_frame a id).1

theorem cldHandleRequest_noReq (a : Agent) (now : Nat) (m : Msg) (l r : Cand) (hl : a.cfg.lite = true) :
    NoReq (a.cldHandleRequest now m l r).2 := by
  rw [cldHandleRequest_eq]
  split
  · exact sendSuccess_noReq _ _ _ _ _
  · unfold cldTail
    refine ((cldNom_noReq _ _ _).append (sendSuccess_noReq _ _ _ _ _)).append (cldPing_noReq _ _ _ _ _ ?_)
    rw [(sendSuccess_hok (wp := True) (ex := True) _ now m l r).cfg, cldNom_cfg,
      (cldAccept_hok (wp := True) (ex := True) _ m).cfg, (cldPre_hok a m l r).1.cfg]
    exact hl

/-- peer-reflexive discovery (verbatim) -/
def hiDisc (a : Agent) (l : Cand) (src : Nat) (m : Msg) : Agent × List Out × Option Cand :=
        match a.findRemote l.net src with
          | some r => (a, [], some r)
          | none =>
            let c : Cand := { uid := 0, ty := 3, net := l.net, addr := src, comp := l.comp, rel := some 0,
                              prio := match m.prio with | some p => if p == 0 then prflxPriority l.net l.comp else p | none => prflxPriority l.net l.comp }
            a.addRemoteCandidate c

theorem hiDisc_eq (a : Agent) (l : Cand) (src : Nat) (m : Msg) : hiDisc a l src m = Agent.resolveSource a l src m := by
  unfold hiDisc Agent.resolveSource Agent.prflxCand
  rfl

theorem sel_toSelector (a : Agent) (now : Nat) (l r : Cand) (m : Msg) : Sel a (Agent.toSelector a now l r m []) := by
  exact Agent.toSelector_rule (Q := Sel a) a now l r m []
    (fun hc => sel_handling ((Agent.Chain.ctlHandleRequest (cx := handling) a now m l r (src := 0) trivial nofun fun _ => hc).to
      (.seenRemoteRecv r.uid now)))
    (fun hc => sel_handling ((Agent.Chain.cldHandleRequest (cx := handling) a now m l r (src := 0) trivial nofun (fun _ => hc) (.inl rfl)
      (.inr rfl)).to (.seenRemoteRecv r.uid now)))

theorem toSelector_out (a : Agent) (now : Nat) (l r : Cand) (m : Msg) (o0 : List Out) :
    (Agent.toSelector a now l r m o0).1 = (Agent.toSelector a now l r m []).1 ∧
    (Agent.toSelector a now l r m o0).2 = o0 ++ (Agent.toSelector a now l r m []).2 := by
  unfold Agent.toSelector
  simp

theorem afterResolve_hsel (a : Agent) (now : Nat) (l r : Cand) (m : Msg) : HSel True a (Agent.afterResolve a now l m [] r) := by
  refine Agent.afterResolve_rule (Q := HSel True a) a now l m [] r (fun _ _ _ => ?_) (fun _ _ _ => ?_)
    fun _ => (sel_toSelector a now l r m).hsel
  · exact (sel_handling ((Agent.Chain.move (cx := handling) (.seenLocalSent l.uid now)).out
      (.refuse l.addr r.addr now l 0 m trivial))).hsel
  · exact HSel.of_pres (Pres.of_eq rfl rfl rfl rfl fun _ => rfl) rfl

theorem afterResolve_out (a : Agent) (now : Nat) (l r : Cand) (m : Msg) (o0 : List Out) :
    (Agent.afterResolve a now l m o0 r).1 = (Agent.afterResolve a now l m [] r).1 ∧
    (Agent.afterResolve a now l m o0 r).2 = o0 ++ (Agent.afterResolve a now l m [] r).2 := by
  unfold Agent.afterResolve
  have := toSelector_out a now l r m o0
  repeat' split
  all_goals first
    | exact this
    | exact ⟨rfl, by simp⟩

theorem resolveSource_hok (a : Agent) (l : Cand) (src : Nat) (m : Msg) :
    HOK False True a ((Agent.resolveSource a l src m).1, (Agent.resolveSource a l src m).2.1) ∧
      NoReq (Agent.resolveSource a l src m).2.1 := by
  unfold Agent.resolveSource
  split
  · exact ⟨HOK.refl _ _ _, NoReq.nil⟩
  · exact addRemoteCandidate_hok a _

theorem handleInbound_hsel (a : Agent) (now : Nat) (l : Cand) (src : Nat) (m : Msg) :
    HSel False a (a.handleInbound now l src m) := by
  have hrefl : HSel False a (a, []) := (HOK.refl False True a).hsel
  obtain ⟨hd, hn⟩ := resolveSource_hok a l src m
  refine Agent.handleInbound_rule a now l src m hrefl (fun r _ _ _ => ?_)
    (fun r _ => (HOK.silent (wp := False) (ex := True) (seenRemoteRecv_pres _ _ _) rfl rfl).hsel)
    (fun _ _ => hd.hsel) (fun _ r _ => ?_)
  · exact ((sel_handleSuccess a now m l r src).hsel.andThen (a1 := (a.handleSuccess now m l r src).1)
      (o1 := (a.handleSuccess now m l r src).2) (seenRemoteRecv_pres _ _ _) rfl rfl).weaken False.elim
  · generalize Agent.resolveSource a l src m = d at hd hn ⊢
    have e : Agent.afterResolve d.1 now l m d.2.1 r = ((Agent.afterResolve d.1 now l m [] r).1, d.2.1 ++ (Agent.afterResolve d.1 now l m [] r).2) :=
      Prod.ext (afterResolve_out d.1 now l r m d.2.1).1 (afterResolve_out d.1 now l r m d.2.1).2
    rw [e]
    exact HSel.after_hok hd hn ((afterResolve_hsel d.1 now l r m).weaken False.elim)

end IceProofs.C03

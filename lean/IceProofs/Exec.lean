/-!
# Executions of a transition function, once for every concurrent component

A concurrent component of the model is a function `step : σ → α → Option σ` (`none`: the action is not enabled) with a
`run : σ → List α → Option σ` written out beside it.  The models' own `run`s stay as they are written; a component
connects to this file by one line, `IsRun step run`, and then reads every fact about its executions off
`Exec step s as s'` by `induction`: the start state is an index, so nothing has to be generalized, unfolded or split.
-/
namespace IceProofs

variable {σ α : Type}

/-- `Exec step s as s'`: the schedule `as` is enabled from `s` action by action and leads to `s'`. -/
inductive Exec (step : σ → α → Option σ) : σ → List α → σ → Prop where
  | nil (s : σ) : Exec step s [] s
  | cons {s s1 s' : σ} {a : α} {as : List α} : step s a = some s1 → Exec step s1 as s' → Exec step s (a :: as) s'

/-- `run` is the executable form of `Exec step`. -/
structure IsRun (step : σ → α → Option σ) (run : σ → List α → Option σ) : Prop where
  nil : ∀ s, run s [] = some s
  cons : ∀ s a as, run s (a :: as) = match step s a with | some s1 => run s1 as | none => none

namespace IsRun
variable {step : σ → α → Option σ} {run : σ → List α → Option σ} (hr : IsRun step run)
include hr

theorem exec {s s' : σ} {as : List α} (h : run s as = some s') : Exec step s as s' := by
  induction as generalizing s with
  | nil => rw [hr.nil] at h; cases h; exact .nil _
  | cons a as ih =>
    rw [hr.cons] at h
    cases hs : step s a with
    | none => rw [hs] at h; cases h
    | some s1 => rw [hs] at h; exact .cons hs (ih h)

theorem of_exec {s s' : σ} {as : List α} (h : Exec step s as s') : run s as = some s' := by
  induction h with
  | nil s => exact hr.nil s
  | cons hs _ ih => rw [hr.cons, hs]; exact ih

theorem append (s : σ) (as bs : List α) : run s (as ++ bs) = (run s as).bind fun s1 => run s1 bs := by
  induction as generalizing s with
  | nil => rw [hr.nil]; rfl
  | cons a as ih => rw [List.cons_append, hr.cons, hr.cons]; cases step s a with
    | none => rfl
    | some s1 => exact ih s1

end IsRun

namespace Exec
variable {step : σ → α → Option σ} {s s' : σ} {as : List α}

theorem inv_mem {I : σ → Prop} (h : Exec step s as s')
    (hstep : ∀ {s a s1}, a ∈ as → I s → step s a = some s1 → I s1) : I s → I s' := by
  induction h with
  | nil => exact id
  | cons hs _ ih =>
    exact fun hi => ih (fun hm => hstep (List.mem_cons_of_mem _ hm)) (hstep List.mem_cons_self hi hs)

theorem inv {I : σ → Prop} (hstep : ∀ {s a s1}, I s → step s a = some s1 → I s1) (h : Exec step s as s') :
    I s → I s' :=
  h.inv_mem fun _ => hstep

end Exec

end IceProofs

import IceModel.TaskLoop
/-!
# The inductive invariant of the task-loop model (DESIGN Appendix D.2, J1–J5)

`Inv s` = every submitter satisfies `SubOK` relative to what the loop thread is doing with its task,
every closer satisfies `CloserOK`, and the shared flags satisfy `GlobOK`.  `inv_init`, and the shapes all
transitions share (`inv_sub_action`, `inv_sub_only`, `inv_closer_action`); the transitions themselves are
in `TaskLoopSteps`.
-/
namespace IceProofs.TaskLoop
open IceModel.TaskLoop

/-- What the loop thread is currently doing with the task of call `x`. -/
inductive View where
  | other | got | running | closing
  deriving DecidableEq, Repr

def view : LoopPc → Nat → View
  | .got i, x => if x = i then .got else .other
  | .running i, x => if x = i then .running else .other
  | .nested i _, x => if x = i then .running else .other
  | .closePriv i, x => if x = i then .closing else .other
  | _, _ => .other

/-- Local invariant of one submitter (J1–J3).  `v` = the loop's view of this submitter's task. -/
def SubOK (v : View) (u : Sub) : Prop :=
  u.returned = (match u.pc with | .ret r => some r | _ => none) ∧
  (match v with
   | .got => u.pc = .handedOff ∧ u.offered = true ∧ u.privDone = false ∧ u.taken = 1 ∧ u.started = 0 ∧ u.finished = 0
   | .running => u.pc = .handedOff ∧ u.offered = true ∧ u.privDone = false ∧ u.taken = 1 ∧ u.started = 1 ∧ u.finished = 0
   | .closing => u.pc = .handedOff ∧ u.offered = true ∧ u.privDone = false ∧ u.taken = 1 ∧ u.started = 1 ∧ u.finished = 1
   | .other =>
     match u.pc with
     | .handedOff | .ret .nil => u.offered = true ∧ u.privDone = true ∧ u.taken = 1 ∧ u.started = 1 ∧ u.finished = 1
     | .select => u.offered = true ∧ u.privDone = false ∧ u.taken = 0 ∧ u.started = 0 ∧ u.finished = 0
     | .ret .ctx => u.ctxDone = true ∧ u.privDone = false ∧ u.taken = 0 ∧ u.started = 0 ∧ u.finished = 0
     | _ => u.privDone = false ∧ u.taken = 0 ∧ u.started = 0 ∧ u.finished = 0)

/-- The loop thread has left its `for` (J4). -/
def left : LoopPc → Bool
  | .leaving | .inOnClose | .closeTLD | .exited => true
  | _ => false

/-- `onClose` has been called. -/
def onclosed : LoopPc → Bool
  | .inOnClose | .closeTLD | .exited => true
  | _ => false

/-- `onClose` has returned. -/
def oncloseEnded : LoopPc → Bool
  | .closeTLD | .exited => true
  | _ => false

/-- Local invariant of one closer (J5 and the `sync.Once` discipline). -/
def CloserOK (s : State) (j : Nat) (c : Closer) : Prop :=
  match c.pc with
  | .idle => True
  | .atOnce => s.anyCloseCalled = true
  | .inStore => s.once = .running j ∧ s.done = false ∧ s.prestopRuns = 0
  | .inCloseDone => s.once = .running j ∧ s.done = false ∧ s.prestopRuns = 0
  | .inPreStop => s.once = .running j ∧ s.done = true ∧ s.prestopRuns = 0
  | .inOnceExit => s.once = .running j ∧ s.done = true
  | .waitTLD => s.once = .finished
  | .returned => s.once = .finished ∧ s.tld = true

def inOnce : CloserPc → Bool
  | .inStore | .inCloseDone | .inPreStop | .inOnceExit => true
  | _ => false

def GlobOK (s : State) : Prop :=
  (left s.loop = true → s.done = true) ∧
  (s.tld = true ↔ s.loop = .exited) ∧
  (s.oncloseRuns = if onclosed s.loop then 1 else 0) ∧
  (s.oncloseEnds = if oncloseEnded s.loop then 1 else 0) ∧
  (match s.once with
   | .fresh => s.done = false ∧ s.prestopRuns = 0
   | .running j => inOnce (s.closers j).pc = true
   | .finished => s.done = true) ∧
  (s.once ≠ .fresh → s.anyCloseCalled = true) ∧
  (s.closeReturned = true → s.tld = true ∧ s.once = .finished) ∧
  s.prestopRuns ≤ 1

structure Inv (s : State) : Prop where
  subs : ∀ i, SubOK (view s.loop i) (s.subs i)
  closers : ∀ j, CloserOK s j (s.closers j)
  glob : GlobOK s

theorem inv_init : Inv init := by
  refine ⟨?_, ?_, ?_⟩
  · intro i; simp [init, view, SubOK]
  · intro j; simp [init, CloserOK]
  · simp [init, GlobOK, left, onclosed, oncloseEnded]

theorem SubOK.counts {v : View} {u : Sub} (h : SubOK v u) :
    u.started ≤ 1 ∧ u.finished ≤ u.started ∧ u.taken ≤ 1 ∧ (u.taken = 1 → u.offered = true) ∧
    ∀ r, u.returned = some r →
      (r = .nil ↔ u.started = 1 ∧ u.finished = 1) ∧ (r ≠ .nil ↔ u.started = 0 ∧ u.taken = 0) := by
  rcases u with ⟨pc, cd, pd, off, tk, st, fi, rt⟩
  cases v <;> rcases pc with _ | _ | _ | _ | ⟨_ | _ | _⟩ <;> simp_all [SubOK]

@[simp] theorem upd_same {α : Type} (f : Nat → α) (i : Nat) (v : α) : upd f i v i = v := by simp [upd]
theorem upd_other {α : Type} (f : Nat → α) {i x : Nat} (v : α) (h : x ≠ i) : upd f i v x = f x := by simp [upd, h]

theorem resume_cases (lp : LoopPc) (k : Nat) :
    resume lp k = lp ∨ ∃ i, lp = .nested i k ∧ resume lp k = .running i := by
  cases lp with
  | nested i k' =>
    by_cases h : k' = k
    · subst h; exact Or.inr ⟨i, rfl, by simp [resume]⟩
    · exact Or.inl (by simp [resume, h])
  | _ => exact Or.inl rfl

@[simp] theorem view_resume (lp : LoopPc) (k x : Nat) : view (resume lp k) x = view lp x := by
  rcases resume_cases lp k with h | ⟨i, h1, h2⟩
  · rw [h]
  · rw [h2, h1]; simp [view]

@[simp] theorem left_resume (lp : LoopPc) (k : Nat) : left (resume lp k) = left lp := by
  rcases resume_cases lp k with h | ⟨i, h1, h2⟩
  · rw [h]
  · rw [h2, h1]; simp [left]

@[simp] theorem onclosed_resume (lp : LoopPc) (k : Nat) : onclosed (resume lp k) = onclosed lp := by
  rcases resume_cases lp k with h | ⟨i, h1, h2⟩
  · rw [h]
  · rw [h2, h1]; simp [onclosed]

@[simp] theorem oncloseEnded_resume (lp : LoopPc) (k : Nat) : oncloseEnded (resume lp k) = oncloseEnded lp := by
  rcases resume_cases lp k with h | ⟨i, h1, h2⟩
  · rw [h]
  · rw [h2, h1]; simp [oncloseEnded]

@[simp] theorem resume_eq_exited (lp : LoopPc) (k : Nat) : (resume lp k = .exited) = (lp = .exited) := by
  rcases resume_cases lp k with h | ⟨i, h1, h2⟩
  · rw [h]
  · rw [h2, h1]; simp

theorem closerOK_step {s s' : State} {j' : Nat} {c : Closer} (hc : CloserOK s j' c)
    (hany : s.anyCloseCalled = true → s'.anyCloseCalled = true) (htld : s'.tld = s.tld)
    (hfin : s.once = .finished → s'.once = .finished)
    (hrun : s.once = .running j' → s'.once = s.once ∧ s'.done = s.done ∧ s'.prestopRuns = s.prestopRuns) :
    CloserOK s' j' c := by
  obtain ⟨pc, _⟩ := c
  unfold CloserOK at hc ⊢
  cases pc with
  | idle => trivial
  | atOnce => exact hany hc
  | inStore | inCloseDone | inPreStop =>
    obtain ⟨e1, e2, e3⟩ := hrun hc.1
    exact ⟨e1.trans hc.1, e2.trans hc.2.1, e3.trans hc.2.2⟩
  | inOnceExit =>
    obtain ⟨e1, e2, _⟩ := hrun hc.1
    exact ⟨e1.trans hc.1, e2.trans hc.2⟩
  | waitTLD => exact hfin hc
  | returned => exact ⟨hfin hc.1, htld.trans hc.2⟩

theorem closerOK_congr {s s' : State} (j : Nat) (c : Closer)
    (h1 : s'.once = s.once) (h2 : s'.done = s.done) (h3 : s'.prestopRuns = s.prestopRuns)
    (h4 : s'.tld = s.tld) (h5 : s'.anyCloseCalled = s.anyCloseCalled) (hc : CloserOK s j c) : CloserOK s' j c :=
  closerOK_step hc h5.trans h4 h1.trans fun _ => ⟨h1, h2, h3⟩

theorem globOK_congr {s s' : State}
    (h1 : s'.once = s.once) (h2 : s'.done = s.done) (h3 : s'.prestopRuns = s.prestopRuns)
    (h4 : s'.tld = s.tld) (h5 : s'.anyCloseCalled = s.anyCloseCalled) (h6 : s'.closeReturned = s.closeReturned)
    (h7 : s'.oncloseRuns = s.oncloseRuns) (h8 : s'.closers = s.closers) (h9 : s'.oncloseEnds = s.oncloseEnds)
    (hl : left s'.loop = left s.loop) (ho : onclosed s'.loop = onclosed s.loop)
    (hoe : oncloseEnded s'.loop = oncloseEnded s.loop)
    (he : (s'.loop = .exited) = (s.loop = .exited)) :
    GlobOK s → GlobOK s' := by
  simp [GlobOK, h1, h2, h3, h4, h5, h6, h7, h8, h9, hl, ho, hoe, he]

theorem inv_sub_action {s : State} (h : Inv s) (i : Nat) (u : Sub) (lp : LoopPc)
    (hview : ∀ x, x ≠ i → view lp x = view s.loop x) (hi : SubOK (view lp i) u)
    (hl : left lp = left s.loop) (ho : onclosed lp = onclosed s.loop)
    (hoe : oncloseEnded lp = oncloseEnded s.loop)
    (he : (lp = .exited) = (s.loop = .exited)) :
    Inv { s with subs := upd s.subs i u, loop := lp } := by
  refine ⟨?_, ?_, ?_⟩
  · intro x
    by_cases hx : x = i
    · subst hx; simpa using hi
    · simp only [upd_other _ _ hx, hview x hx]; exact h.subs x
  · intro j
    exact closerOK_congr (s := s) j _ rfl rfl rfl rfl rfl (h.closers j)
  · exact globOK_congr (s := s) rfl rfl rfl rfl rfl rfl rfl rfl rfl hl ho hoe he h.glob

theorem inv_sub_only {s : State} (h : Inv s) (i : Nat) (u : Sub) (hi : SubOK (view s.loop i) u) :
    Inv { s with subs := upd s.subs i u } :=
  inv_sub_action h i u s.loop (fun _ _ => rfl) hi rfl rfl rfl rfl

theorem inv_closer_action {s s' : State} (h : Inv s) (j : Nat) (c' : Closer)
    (hsubs : s'.subs = s.subs) (hloop : s'.loop = s.loop) (hcl : s'.closers = upd s.closers j c')
    (hany : s.anyCloseCalled = true → s'.anyCloseCalled = true) (htld : s'.tld = s.tld)
    (hfin : s.once = .finished → s'.once = .finished)
    (hrun : ∀ j', j' ≠ j → s.once = .running j' →
      s'.once = s.once ∧ s'.done = s.done ∧ s'.prestopRuns = s.prestopRuns)
    (hj : CloserOK s' j c') (hg : GlobOK s') : Inv s' := by
  refine ⟨?_, ?_, hg⟩
  · intro i; rw [hsubs, hloop]; exact h.subs i
  · intro j'
    rw [hcl]
    by_cases e : j' = j
    · subst e; rw [upd_same]; exact hj
    · rw [upd_other _ _ e]; exact closerOK_step (h.closers j') hany htld hfin (hrun j' e)

theorem once_running_unique {s : State} {j j' : Nat} (ho : s.once = .running j) (ho' : s.once = .running j') : j' = j :=
  (Once.running.inj (ho.symm.trans ho')).symm

end IceProofs.TaskLoop

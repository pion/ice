import IceProofs.TcpMuxSimFin
/-!
# Replies, and the state after `Close` has returned

`newReplies_*`: when the reply list the monitor computes from two connection tables is empty.
`Down s`: the mux is closed and nothing is left open; it follows from `closeReturned` and every
operation keeps it (`down_step`).
-/
namespace IceProofs.TcpMux
open IceModel.TcpMux IceSpec.C15 IceSpec.C15.View

theorem newReplies_nil {old new : List Tcp} (hl : new.length = old.length)
    (h : ∀ (k : Nat) (t : Tcp), old[k]? = some t → ∃ t', new[k]? = some t' ∧ t'.out = t.out) : newReplies old new = [] := by
  unfold newReplies
  rw [List.flatMap_eq_nil_iff]
  intro k hk
  rw [List.mem_range] at hk
  obtain ⟨t, ht⟩ := getElem?_of_lt (show k < old.length by omega)
  obtain ⟨t', ht', e⟩ := h k t ht
  rw [ht', ht]
  simp [e]

theorem newReplies_append_nil (old : List Tcp) (tn : Tcp) (h : tn.out = []) : newReplies old (old ++ [tn]) = [] := by
  unfold newReplies
  rw [List.flatMap_eq_nil_iff]
  intro k hk
  rw [List.mem_range] at hk
  by_cases hlt : k < old.length
  · obtain ⟨t, ht⟩ := getElem?_of_lt hlt
    rw [List.getElem?_append_left hlt, ht]
    simp
  · have : k = old.length := by simp at hk; omega
    subst this
    rw [List.getElem?_concat_length, List.getElem?_eq_none_iff.2 (Nat.le_refl _)]
    simp [h]

structure Down (s : State) : Prop where
  mux : s.muxClosed = true
  lis : s.listenerOpen = false
  tcps : ∀ (k : Nat) (t : Tcp), s.tcps[k]? = some t → t.phase = .closed
  pcs : ∀ (p : Nat) (pc : PConn), s.pcs[p]? = some pc → pc.closed = true

theorem closeReturned_of_down {s : State} (h : Down s) : closeReturned s = true :=
  (closeReturned_iff s).2 ⟨h.mux, h.lis, (fun k t ht d hd => by rw [h.tcps k t ht] at hd; cases hd), h.pcs⟩

theorem down_of_closeReturned {s : State} (hi : Inv s) (hret : closeReturned s = true) :
    Down s ∧ ledger s = ⟨0, 0, 0, 0, 0⟩ := by
  obtain ⟨hmux, hl, nopend, allpc⟩ := (closeReturned_iff s).1 hret
  -- a connection attached to a packet connection would keep that open
  have allclosed : ∀ (k : Nat) (t : Tcp), s.tcps[k]? = some t → t.phase = .closed := by
    intro k t ht
    cases hph : t.phase with
    | closed => rfl
    | pending d => exact absurd hph (nopend k t ht d)
    | attached p =>
      obtain ⟨_, pc, hp, hopen, _⟩ := hi.att ht hph
      rw [allpc p pc hp] at hopen; cases hopen
  have noreader : ∀ (k : Nat) (t : Tcp), s.tcps[k]? = some t → t.reader = .none := by
    intro k t ht
    have hcl := allclosed k t ht
    cases hrd : t.reader with
    | none => rfl
    | idle => obtain ⟨p, hp⟩ := hi.idle ht hrd; rw [hcl] at hp; cases hp
    | blocked pkt fin =>
      obtain ⟨⟨p, pc, _, hp, hopen, _⟩, _⟩ := hi.blocked ht hrd
      rw [allpc p pc hp] at hopen; cases hopen
  refine ⟨⟨hmux, hl, allclosed, allpc⟩, ?_⟩
  have zero : ∀ (f : Tcp → Bool), (∀ (k : Nat) (t : Tcp), s.tcps[k]? = some t → f t = false) → s.tcps.countP f = 0 := by
    intro f hf
    apply List.countP_eq_zero.2
    intro t ht
    obtain ⟨k, hk⟩ := List.mem_iff_getElem?.1 ht
    simp [hf k t hk]
  have hw : s.pcs.countP (fun pc => !pc.closed) = 0 := by
    apply List.countP_eq_zero.2
    intro pc hpc
    obtain ⟨p, hp⟩ := List.mem_iff_getElem?.1 hpc
    simp [allpc p pc hp]
  have hp : s.tcps.countP (·.isPending) = 0 := zero _ (fun k t ht => by simp [Tcp.isPending, allclosed k t ht])
  have hr : s.tcps.countP (·.hasReader) = 0 := zero _ (fun k t ht => by simp [Tcp.hasReader, noreader k t ht])
  have ha : s.tcps.countP (·.isAttached) = 0 := zero _ (fun k t ht => by simp [Tcp.isAttached, allclosed k t ht])
  simp only [ledger, hl, hw, hp, hr, ha]
  simp

theorem closePc1_down {s : State} (h : Down s) (p : Nat) : closePc1 s p = s :=
  closePc1_noop s p (fun pc hp => h.pcs p pc hp)

theorem down_setTcp {s : State} (h : Down s) (k : Nat) (g : Tcp → Tcp) (hg : ∀ t, (g t).phase = t.phase) :
    Down (setTcp s k g) := by
  refine ⟨h.mux, h.lis, ?_, h.pcs⟩
  intro j tj hj
  simp only [setTcp] at hj
  rw [getElem?_modify_map] at hj
  cases h0 : s.tcps[j]? with
  | none => rw [h0] at hj; cases hj
  | some t0 =>
    rw [h0] at hj
    simp only [Option.map_some, Option.some.injEq] at hj
    rw [← hj]
    split
    · rw [hg]; exact h.tcps j t0 h0
    · exact h.tcps j t0 h0

theorem down_setPc {s : State} (h : Down s) (p : Nat) (g : PConn → PConn) (hg : ∀ pc, (g pc).closed = pc.closed) :
    Down (setPc s p g) := by
  refine ⟨h.mux, h.lis, h.tcps, ?_⟩
  intro q qc hq
  simp only [setPc] at hq
  rw [getElem?_modify_map] at hq
  cases h0 : s.pcs[q]? with
  | none => rw [h0] at hq; cases hq
  | some q0 =>
    rw [h0] at hq
    simp only [Option.map_some, Option.some.injEq] at hq
    rw [← hq]
    split
    · rw [hg]; exact h.pcs q q0 h0
    · exact h.pcs q q0 h0

theorem down_handles {s : State} (h : Down s) (hs : List Handle) : Down { s with handles := hs } :=
  ⟨h.mux, h.lis, h.tcps, h.pcs⟩

theorem micro_down {s s' : State} (m : Micro s s') (hi : Inv s) (h : Down s) : Down s' := by
  have notPending : ∀ {k : Nat} {t : Tcp} {d : Nat}, s.tcps[k]? = some t → t.phase ≠ .pending d := fun ht hph => by
    rw [h.tcps _ _ ht] at hph; cases hph
  have notAttached : ∀ {k : Nat} {t : Tcp} {q : Nat}, s.tcps[k]? = some t → t.phase ≠ .attached q := fun ht hph => by
    rw [h.tcps _ _ ht] at hph; cases hph
  have notBlocked : ∀ {p : Nat} {pc : PConn} {k : Nat} {bq : List Nat}, s.pcs[p]? = some pc → pc.blockedQ ≠ k :: bq :=
      fun hp hbq => by
    rw [((hi.pc _ _ hp).2.2.2.2.1 (h.pcs _ _ hp)).2.1] at hbq; cases hbq
  cases m with
  | accept peer lip hl => rw [h.lis] at hl; cases hl
  | refuse peer lip =>
    refine ⟨h.mux, h.lis, ?_, h.pcs⟩
    intro k t hk
    rcases getElem?_snoc hk with hk | ⟨_, rfl⟩
    · exact h.tcps k t hk
    · rfl
  | reject k t d f ht hph => exact absurd hph (notPending ht)
  | hangup k t d ht hph => exact absurd hph (notPending ht)
  | stall k => exact down_setTcp h k _ (fun _ => rfl)
  | gone k => exact down_setTcp h k _ (fun _ => rfl)
  | wrote k pid len => exact down_setTcp h k _ (fun _ => rfl)
  | push k t q f ht hph => exact absurd hph (notAttached ht)
  | pushEnd k t q reset ht hph => exact absurd hph (notAttached ht)
  | provision key k t d ht hph hn => exact absurd hph (notPending ht)
  | register p k t d pc f ht hph hp ho hdup => exact absurd hph (notPending ht)
  | close p => rw [closePc1_down h]; exact h
  | tick now' hle hsp =>
    refine ⟨h.mux, h.lis, ?_, h.pcs⟩
    intro k t hk
    rw [List.getElem?_map] at hk
    cases h0 : s.tcps[k]? with
    | none => rw [h0] at hk; cases hk
    | some t0 =>
      rw [h0] at hk
      simp only [Option.map_some, Option.some.injEq] at hk
      rw [← hk]
      unfold expireTcp
      rw [h.tcps k t0 h0]
      exact h.tcps k t0 h0
  | claim key p hm hp => rw [h.mux] at hm; cases hm
  | create key hm hn => rw [h.mux] at hm; cases hm
  | closeH hh => exact down_handles h _
  | decRef p => exact down_setPc h p _ (fun _ => rfl)
  | pop p pc pkt q hp hq => exact down_setPc h p _ (fun _ => rfl)
  | unblockQ p k pc bq t bp fin hp hbq ht hrd => exact absurd hbq (notBlocked hp)
  | unblockE p k pc bq t bp fin hp hq hbq ht hrd => exact absurd hbq (notBlocked hp)
  | shut hm hall => rw [h.mux] at hm; cases hm

theorem down_step {s : State} (hi : Inv s) (h : Down s) (op : Op) : Down (step s op).1 :=
  ((step_chain s op).keeps (P := fun x => Inv x ∧ Down x)
    (fun _ _ m hx => ⟨micro_inv m hx.1, micro_down m hx.1 hx.2⟩) ⟨hi, h⟩).2

end IceProofs.TcpMux

import IceProofs.Sys2C20Step
import IceProofs.Sys2C20Sched
/-!
# C20 on `Sys2` — one system event preserves the invariant of the exchange

`qinv_stepB`: B executes an event; `qinv_run`: one system event.
-/
namespace IceProofs.C20S
open IceModel.AgentCore IceModel.Sys2 IceProofs.Sys2Run IceProofs.Agent IceProofs.Sys2C05

/-- B executes an event; a value it accepts was issued by A and travelled from the issuing pair (`hacc`: read off the
datagram by the caller). -/
theorem qinv_stepB {nat : List (Nat × Nat)} {h : Hist} {s : Sys} (q : QInv nat h s) (ev : Ev) (hk : keeps ev = true)
    (hpost : PostB (step s.b ev).1)
    (hacc : ∀ v la src, acceptAt s.b ev = some (v, la, src) →
      ∃ la' ra', (v, la', ra') ∈ h.issued ∧ la = unmappedL nat ra' ∧ src = mappedL nat la') :
    QInv nat (hstep h true s.b ev) (s.agentEv true ev).1 := by
  have hB := session_postB q.sess
  have hbinv := q.binv.step q.invB ev (hB.no_reset hk hpost) hacc (step_cld s.b ev q.invB hk hB hpost)
  refine ⟨(agentEv_nat s true ev).trans q.topo, q.invA, ?_, ?_, ?_, q.pendA, q.ansA, q.selA, ?_, ?_, ?_⟩
  · rw [agentEv_b_true]; exact q.invB.step ev
  · exact session_iff.2 ⟨by rw [agentEv_a_true]; exact session_postA q.sess, by rw [agentEv_b_true]; exact hpost⟩
  · -- datagrams in flight: B emits no values
    intro d hd m hm v hv
    rcases agentEv_stun hd hm with hd | hmem
    · exact q.fl d hd m hm v hv
    · obtain ⟨_, _, _, h4⟩ := step_out_nom s.b ev d.src d.dst m v hmem hv
      rw [issuesOf_controlled s.b ev hpost.controlled] at h4
      cases h4
  · rw [agentEv_b_true, hstepB_accepted]; exact hbinv.lastB
  · rw [agentEv_b_true, hstepB_accepted, hstepB_issued]; exact hbinv.accB
  · rw [agentEv_b_true]; exact hbinv.defB

theorem qinv_agentEv {nat : List (Nat × Nat)} {h : Hist} {s : Sys} (q : QInv nat h s) (X : Bool) (ev : Ev)
    (hk : keeps ev = true)
    (hadm : (∀ now la src m, ev ≠ .inbound now la src m) ∨ ∃ d, DgramOK h d ∧ ev = evOf s d)
    (hsess : Session (s.agentEv X ev).1) (hz : ∀ x ∈ (hstep h X (s.agent X) ev).issued, 0 < x.1) :
    QInv nat (hstep h X (s.agent X) ev) (s.agentEv X ev).1 := by
  cases X with
  | false =>
    have hpost := session_postA hsess
    rw [agentEv_a_false] at hpost
    exact qinv_stepA q ev hk hpost
  | true =>
    have hpost := session_postB hsess
    rw [agentEv_b_true] at hpost
    refine qinv_stepB q ev hk hpost ?_
    · intro v la src hat
      rcases hadm with hni | ⟨d, hd, rfl⟩
      · rw [acceptAt_not_inbound hni] at hat; cases hat
      · unfold evOf at hat
        cases hp : d.p with
        | data n => rw [hp] at hat; cases hat
        | stun m =>
          rw [hp] at hat
          obtain ⟨rfl, rfl, hn⟩ := acceptAt_inbound hat
          refine ⟨d.src, d.dst, (hd m hp v hn).2, ?_, ?_⟩
          · rw [unmapped_eq, q.topo]
          · rw [mapped_eq, q.topo]
theorem qinv_sched (nat : List (Nat × Nat)) : SchedOK keeps (QInv nat) (fun h _ d => DgramOK h d) where
  hub := fun _ h => keeps_of_not_api h
  sess := fun _ _ q => q.sess
  dgram := fun _ _ q d hd => q.fl d hd
  dframe := fun _ _ _ _ _ hd => hd
  frame := fun _ _ _ hub q => q.hub hub
  agent := fun _ _ X ev q hk hadm hs hz => qinv_agentEv q X ev hk hadm hs hz

theorem qinv_run {nat : List (Nat × Nat)} {h : Hist} {s : Sys} (q : QInv nat h s) (e : SysEv)
    (hk : sysKeeps e = true) (hsess : Session (Sys.run s e)) (hz : ∀ x ∈ (hstepSys h s e).issued, 0 < x.1) :
    QInv nat (hstepSys h s e) (Sys.run s e) :=
  sched_run (qinv_sched nat) q e hk hsess hz

end IceProofs.C20S

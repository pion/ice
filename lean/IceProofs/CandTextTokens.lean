import IceModel.CandText
/-! Decimal digits, tokenisers and split/join lemmas for `IceModel.CandText`. -/
namespace IceProofs.CandText
open IceModel.CandText

/-- the value `readDigits` accumulates -/
def digitsVal (ds : Str) (v : Nat) : Nat := ds.foldl (fun v c => v * 10 + (c - 48)) v

theorem digitsVal_append (a : Str) (d v : Nat) : digitsVal (a ++ [d]) v = digitsVal a v * 10 + (d - 48) := by
  simp [digitsVal, List.foldl_append]

theorem natToDigitsF_spec : ∀ (f n : Nat), n < f →
    digitsVal (natToDigitsF f n) 0 = n ∧ (∀ c ∈ natToDigitsF f n, isDigit c = true) ∧ natToDigitsF f n ≠ []
  | 0, n, h => by omega
  | f + 1, n, h => by
    unfold natToDigitsF
    split
    · rename_i h10
      refine ⟨by simp [digitsVal], ?_, by simp⟩
      intro c hc
      simp only [List.mem_singleton] at hc
      subst hc; simp only [isDigit, Bool.and_eq_true, decide_eq_true_eq]; omega
    · rename_i h10
      have hlt : n / 10 < f := by omega
      obtain ⟨h1, h2, _⟩ := natToDigitsF_spec f (n / 10) hlt
      refine ⟨?_, ?_, by simp⟩
      · rw [digitsVal_append, h1]; omega
      · intro c hc
        rcases List.mem_append.mp hc with hc | hc
        · exact h2 c hc
        · simp only [List.mem_singleton] at hc
          subst hc; simp only [isDigit, Bool.and_eq_true, decide_eq_true_eq]; omega

theorem natToDigitsF_length : ∀ (f n k : Nat), n < f → n < 10 ^ (k + 1) → (natToDigitsF f n).length ≤ k + 1
  | 0, n, k, h, _ => by omega
  | f + 1, n, k, h, hk => by
    unfold natToDigitsF
    split
    · simp
    · rename_i h10
      match k with
      | 0 => simp at hk; omega
      | k + 1 =>
        have : n / 10 < 10 ^ (k + 1) := by
          apply Nat.div_lt_of_lt_mul
          rw [Nat.pow_succ] at hk; omega
        have := natToDigitsF_length f (n / 10) k (by omega) this
        simp only [List.length_append, List.length_singleton]; omega

theorem natToDigits_val (n : Nat) : digitsVal (natToDigits n) 0 = n := (natToDigitsF_spec (n + 1) n (by omega)).1
theorem natToDigits_digits (n : Nat) : ∀ c ∈ natToDigits n, isDigit c = true := (natToDigitsF_spec (n + 1) n (by omega)).2.1
theorem natToDigits_ne_nil (n : Nat) : natToDigits n ≠ [] := (natToDigitsF_spec (n + 1) n (by omega)).2.2
theorem natToDigits_length (n k : Nat) (h : n < 10 ^ (k + 1)) : (natToDigits n).length ≤ k + 1 :=
  natToDigitsF_length (n + 1) n k (by omega) h

theorem natToDigits_nospace (n : Nat) : 32 ∉ natToDigits n := by
  intro h
  have := natToDigits_digits n 32 h
  simp [isDigit] at this

theorem readDigits_digits (limit : Nat) : ∀ (ds : Str) (i v : Nat), (∀ c ∈ ds, isDigit c = true) →
    i + ds.length ≤ limit → readDigits limit ds i v = some (digitsVal ds v)
  | [], _, _, _, _ => rfl
  | c :: cs, i, v, hd, hl => by
    simp only [List.length_cons] at hl
    unfold readDigits
    rw [if_neg (by omega)]
    have hc := hd c List.mem_cons_self
    simp only [hc, Bool.not_true, Bool.false_eq_true, if_false]
    rw [readDigits_digits limit cs (i + 1) _ (fun x hx => hd x (List.mem_cons_of_mem c hx)) (by omega)]
    rfl

/-- reading what `%d` printed (5-digit fields: component, port) -/
theorem readDigits5_natToDigits (n : Nat) (h : n < 100000) : readDigits 5 (natToDigits n) 0 0 = some n := by
  rw [readDigits_digits 5 _ 0 0 (natToDigits_digits n) (by have := natToDigits_length n 4 (by omega); omega),
    natToDigits_val]

/-- … and the 10-digit priority field -/
theorem readDigits10_natToDigits (n : Nat) (h : n < 10000000000) : readDigits 10 (natToDigits n) 0 0 = some n := by
  rw [readDigits_digits 10 _ 0 0 (natToDigits_digits n) (by have := natToDigits_length n 9 (by omega); omega),
    natToDigits_val]

theorem readPort_natToDigits (n : Nat) (h : n ≤ 65535) : readPort (natToDigits n) = some n := by
  unfold readPort
  rw [readDigits5_natToDigits n (by omega)]
  simp only
  rw [if_neg (by omega)]

theorem readDigits_bound (limit : Nat) : ∀ (ds : Str) (i v r : Nat), readDigits limit ds i v = some r →
    i ≤ limit → v < 10 ^ i → r < 10 ^ limit
  | [], i, v, r, h, hi, hv => by
    simp only [readDigits, Option.some.injEq] at h
    subst h
    exact Nat.lt_of_lt_of_le hv (Nat.pow_le_pow_right (by omega) hi)
  | c :: cs, i, v, r, h, hi, hv => by
    unfold readDigits at h
    split at h
    · cases h
    · rename_i hne
      split at h
      · cases h
      · rename_i hd
        have hd : isDigit c = true := by simpa using hd
        simp only [isDigit, Bool.and_eq_true, decide_eq_true_eq] at hd
        apply readDigits_bound limit cs (i + 1) _ r h (by omega)
        rw [Nat.pow_succ]; omega

theorem readChars_ok (limit : Nat) : ∀ (s : Str) (i : Nat), (∀ c ∈ s, isIceChar c = true) →
    i + s.length ≤ limit → readChars limit s i = true
  | [], _, _, _ => rfl
  | c :: cs, i, hd, hl => by
    simp only [List.length_cons] at hl
    unfold readChars
    rw [if_neg (by omega)]
    have hc := hd c List.mem_cons_self
    simp only [hc, Bool.not_true, Bool.false_eq_true, if_false]
    exact readChars_ok limit cs (i + 1) (fun x hx => hd x (List.mem_cons_of_mem c hx)) (by omega)

theorem readChars_true (limit : Nat) : ∀ (s : Str) (i : Nat), readChars limit s i = true → i ≤ limit →
    (∀ c ∈ s, isIceChar c = true) ∧ i + s.length ≤ limit
  | [], i, _, hi => ⟨by simp, by simpa using hi⟩
  | c :: cs, i, h, hi => by
    unfold readChars at h
    split at h
    · cases h
    · rename_i hne
      split at h
      · cases h
      · rename_i hc
        have hc : isIceChar c = true := by simpa using hc
        have := readChars_true limit cs (i + 1) h (by omega)
        refine ⟨?_, by simp only [List.length_cons]; omega⟩
        intro x hx
        rcases List.mem_cons.mp hx with rfl | hx
        · exact hc
        · exact this.1 x hx

theorem splitSp_ne_nil (s : Str) : splitSp s ≠ [] := by
  cases s with
  | nil => simp [splitSp]
  | cons c cs =>
    unfold splitSp
    split
    · simp
    · split <;> simp

theorem splitSp_append_space (t rest : Str) (h : 32 ∉ t) : splitSp (t ++ 32 :: rest) = t :: splitSp rest := by
  induction t with
  | nil => simp [splitSp]
  | cons c t ih =>
    have hc : c ≠ 32 := fun e => h (by simp [e])
    have ht : 32 ∉ t := fun e => h (List.mem_cons_of_mem c e)
    simp only [List.cons_append]
    rw [splitSp, if_neg hc, ih ht]

theorem splitSp_nospace (t : Str) (h : 32 ∉ t) : splitSp t = [t] := by
  induction t with
  | nil => rfl
  | cons c t ih =>
    have hc : c ≠ 32 := fun e => h (by simp [e])
    have ht : 32 ∉ t := fun e => h (List.mem_cons_of_mem c e)
    rw [splitSp, if_neg hc, ih ht]

theorem splitSp_joinSp : ∀ (toks : List Str), toks ≠ [] → (∀ t ∈ toks, 32 ∉ t) → splitSp (joinSp toks) = toks
  | [], h, _ => absurd rfl h
  | [t], _, hs => by simpa [joinSp] using splitSp_nospace t (hs t (by simp))
  | t :: t2 :: ts, _, hs => by
    simp only [joinSp]
    rw [splitSp_append_space t _ (hs t (by simp)),
      splitSp_joinSp (t2 :: ts) (by simp) (fun x hx => hs x (List.mem_cons_of_mem t hx))]

theorem splitSp_nospace_tokens : ∀ (s : Str), ∀ t ∈ splitSp s, 32 ∉ t
  | [], t, ht => by simp [splitSp] at ht; subst ht; simp
  | c :: cs, t, ht => by
    unfold splitSp at ht
    split at ht
    · rcases List.mem_cons.mp ht with rfl | ht
      · simp
      · exact splitSp_nospace_tokens cs t ht
    · rename_i hc
      have ih := splitSp_nospace_tokens cs
      split at ht
      · rename_i t0 ts heq
        rcases List.mem_cons.mp ht with rfl | ht
        · intro hm
          rcases List.mem_cons.mp hm with e | hm
          · exact hc e.symm
          · exact ih t0 (by rw [heq]; simp) hm
        · exact ih t (by rw [heq]; exact List.mem_cons_of_mem _ ht)
      · simp only [List.mem_singleton] at ht
        subst ht
        intro hm
        simp only [List.mem_singleton] at hm
        exact hc hm.symm

theorem stripZone_id (a : Str) (h : 37 ∉ a) : stripZone a = a := by
  unfold stripZone
  induction a with
  | nil => rfl
  | cons c a ih =>
    have hc : c ≠ 37 := fun e => h (by simp [e])
    have ha : 37 ∉ a := fun e => h (List.mem_cons_of_mem c e)
    simp only [List.takeWhile_cons, bne_iff_ne, ne_eq, hc, not_false_eq_true, ↓reduceIte, ih ha]

theorem stripZone_no37 (a : Str) : 37 ∉ stripZone a := by
  unfold stripZone
  induction a with
  | nil => simp
  | cons c a ih =>
    simp only [List.takeWhile_cons]
    split
    · rename_i hc
      have hc : c ≠ 37 := by simpa using hc
      intro hm
      rcases List.mem_cons.mp hm with e | hm
      · exact hc e.symm
      · exact ih hm
    · simp

theorem stripZone_sub (a : Str) (x : Nat) (h : x ∈ stripZone a) : x ∈ a := by
  unfold stripZone at h
  exact (List.takeWhile_sublist _).subset h

theorem prefix_append_sep {p f rest : Str} {a : Nat} (h : p <+: f ++ a :: rest) : p <+: f ∨ a ∈ p := by
  induction f generalizing p with
  | nil =>
    cases p with
    | nil => left; exact List.nil_prefix
    | cons x p =>
      simp only [List.nil_append, List.cons_prefix_cons] at h
      right; simp [h.1]
  | cons c f ih =>
    cases p with
    | nil => left; exact List.nil_prefix
    | cons x p =>
      simp only [List.cons_append, List.cons_prefix_cons] at h
      rcases ih h.2 with h2 | h2
      · left; rw [h.1]; exact List.cons_prefix_cons.mpr ⟨rfl, h2⟩
      · right; exact List.mem_cons_of_mem x h2

end IceProofs.CandText

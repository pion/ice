import IceProofs.AgentMoves
/-!
# Frames for C02: the flags and transaction ids across the moves of `step`

`Frame a b` relates a state `a` to a later state `b`: `started`, `closed`, `forcePending`, `tag` are equal,
`nextTid` has not decreased, and every pending transaction of `b` is either one of `a`'s or has an id
at least `2 * a.nextTid + a.tag` (the next id `a` would issue).  It is reflexive and transitive.
`TidFrame` is the part about transaction ids only: it holds of every move (`tid_move`), hence of every event; the
flags are kept by every move but the session calls and those that force a tick or run the forced one (`flags_move`).
-/
namespace IceProofs.AgentC02
open IceModel.AgentCore IceProofs.Agent

structure TidFrame (a b : Agent) : Prop where
  tag : b.tag = a.tag
  tid : a.nextTid ≤ b.nextTid
  pend : ∀ pd ∈ b.pending, pd ∈ a.pending ∨ 2 * a.nextTid + a.tag ≤ pd.tid

structure Frame (a b : Agent) : Prop extends TidFrame a b where
  started : b.started = a.started
  closed : b.closed = a.closed
  fp : b.forcePending = a.forcePending

theorem TidFrame.refl (a : Agent) : TidFrame a a := ⟨rfl, Nat.le_refl _, fun _ h => Or.inl h⟩
theorem Frame.refl (a : Agent) : Frame a a := ⟨TidFrame.refl a, rfl, rfl, rfl⟩

theorem TidFrame.trans {a b c : Agent} (h1 : TidFrame a b) (h2 : TidFrame b c) : TidFrame a c where
  tag := h2.tag.trans h1.tag
  tid := Nat.le_trans h1.tid h2.tid
  pend := fun pd h => by
    rcases h2.pend pd h with h | h
    · exact h1.pend pd h
    · right
      have := h1.tid; have := h1.tag
      omega

theorem Frame.trans {a b c : Agent} (h1 : Frame a b) (h2 : Frame b c) : Frame a c :=
  ⟨h1.toTidFrame.trans h2.toTidFrame, h2.started.trans h1.started, h2.closed.trans h1.closed, h2.fp.trans h1.fp⟩

theorem TidFrame.of_fields {a b : Agent} (h4 : b.tag = a.tag) (h5 : b.nextTid = a.nextTid)
    (h6 : ∀ pd ∈ b.pending, pd ∈ a.pending) : TidFrame a b :=
  ⟨h4, Nat.le_of_eq h5.symm, fun pd h => Or.inl (h6 pd h)⟩

theorem Frame.of_fields {a b : Agent} (h1 : b.started = a.started) (h2 : b.closed = a.closed)
    (h3 : b.forcePending = a.forcePending) (h4 : b.tag = a.tag) (h5 : b.nextTid = a.nextTid)
    (h6 : ∀ pd ∈ b.pending, pd ∈ a.pending) : Frame a b :=
  ⟨TidFrame.of_fields h4 h5 h6, h1, h2, h3⟩

/-- the fields `Frame` speaks of -/
def Frame.fields (a : Agent) := (a.started, a.closed, a.forcePending, a.tag, a.nextTid, a.pending)

theorem Frame.of_eq {a b : Agent} (h : Frame.fields b = Frame.fields a) : Frame a b := by
  simp only [Frame.fields, Prod.mk.injEq] at h
  obtain ⟨h1, h2, h3, h4, h5, h6⟩ := h
  exact Frame.of_fields h1 h2 h3 h4 h5 (fun _ hp => h6 ▸ hp)

theorem frame_setConnState (a : Agent) (s : ConnState) : Frame a (a.setConnState s).1 := by
  unfold Agent.setConnState
  split
  · exact Frame.refl a
  · split
    · exact Frame.of_fields rfl rfl rfl rfl rfl (fun _ h => nomatch h)
    · exact Frame.of_eq rfl

theorem frame_select (a : Agent) (id : Nat) : Frame a (a.select id).1 := by
  rw [select_update]
  exact Frame.of_eq rfl

theorem frame_seenLocalSent (a : Agent) (uid now : Nat) : Frame a (a.seenLocalSent uid now) :=
  Frame.of_eq rfl

theorem frame_seenRemoteRecv (a : Agent) (uid now : Nat) : Frame a (a.seenRemoteRecv uid now) :=
  Frame.of_eq rfl

theorem frame_sendRequest (a : Agent) (now : Nat) (l r : Cand) (uc : Bool) (nom : Option Nat) :
    Frame a (a.sendRequest now l r uc nom).1 := by
  unfold Agent.sendRequest
  dsimp only
  refine Frame.trans ?_ (frame_seenLocalSent _ _ _)
  have h2 : Frame a { (a.invalidatePending now) with
      nextTid := (a.invalidatePending now).nextTid + 1,
      pending := (a.invalidatePending now).pending ++
        [{ tid := 2 * a.nextTid + a.tag, src := l.addr, dest := r.addr, net := r.net, useCand := uc, nom := nom, ts := now }] } := by
    refine ⟨⟨rfl, Nat.le_succ _, ?_⟩, rfl, rfl, rfl⟩
    intro pd h
    rcases List.mem_append.mp h with h | h
    · exact Or.inl (List.mem_filter.mp h).1
    · right
      have : pd.tid = 2 * a.nextTid + a.tag := by
        rw [List.mem_singleton.mp h]
      omega
  split
  · exact h2.trans (Frame.of_eq rfl)
  · exact h2

theorem tid_move {cx : Ctx} {a : Agent} {r : Agent × List Out} (h : Move cx a r) : TidFrame a r.1 := by
  cases h with
  | request now l r uc => exact (frame_sendRequest a now l r uc none).toTidFrame
  | issue now l r v => exact (frame_sendRequest a now l r true _).toTidFrame.trans (TidFrame.of_fields rfl rfl fun _ h => h)
  | select id => rw [select_update]; exact TidFrame.of_fields rfl rfl fun _ h => h
  | failed => exact TidFrame.of_fields rfl rfl fun _ h => nomatch h
  | restart now x p => rw [doRestart_update]; exact TidFrame.of_fields rfl rfl fun _ h => nomatch h
  | expire now => exact TidFrame.of_fields rfl rfl fun _ h => (List.mem_filter.mp h).1
  | take tid => exact TidFrame.of_fields rfl rfl fun _ h => (List.mem_filter.mp h).1
  | _ => exact TidFrame.of_fields rfl rfl fun _ h => h

theorem tid_chain {cx : Ctx} {a : Agent} {r : Agent × List Out} (h : Chain cx a r) : TidFrame a r.1 :=
  Chain.ind (R := fun a r => TidFrame a r.1) TidFrame.refl (fun _ _ => tid_move) (fun h1 h2 => h1.trans h2) h

/-- the flags `Frame` adds to `TidFrame` -/
def flags (a : Agent) := (a.started, a.closed, a.forcePending)

theorem flags_move {cx : Ctx} (hk : ¬cx.may .session ∧ ¬cx.may .forced) {a : Agent} {r : Agent × List Out}
    (h : Move cx a r) : flags r.1 = flags a := by
  have req : ∀ now l r uc nom, flags (a.sendRequest now l r uc nom).1 = flags a := fun now l r uc nom => by
    rw [sendRequest_fst_eq]
    rfl
  cases h with
  | request now l r uc => exact req now l r uc none
  | issue now l r v => exact req now l r true _
  | select id => rw [select_update]; rfl
  | forcePending _ h => exact absurd h hk.2
  | armChecks h => exact absurd h hk.1
  | start _ _ _ _ h => exact absurd h hk.1
  | creds _ _ h => exact absurd h hk.1
  | restart _ _ _ h => exact absurd h hk.1
  | close h => exact absurd h hk.1
  | _ => rfl

theorem frame_move {cx : Ctx} (hk : ¬cx.may .session ∧ ¬cx.may .forced) {a : Agent} {r : Agent × List Out}
    (h : Move cx a r) : Frame a r.1 :=
  have hf := flags_move hk h
  ⟨tid_move h, congrArg (·.1) hf, congrArg (·.2.1) hf, congrArg (·.2.2) hf⟩

theorem frame_chain {cx : Ctx} (hk : ¬cx.may .session ∧ ¬cx.may .forced) {a : Agent} {r : Agent × List Out}
    (h : Chain cx a r) : Frame a r.1 :=
  Chain.ind (R := fun a r => Frame a r.1) Frame.refl (fun _ _ => frame_move hk) (fun h1 h2 => h1.trans h2) h

/-- the kinds of moves that keep the flags -/
abbrev steady (k : Kind) : Prop := k ≠ .session ∧ k ≠ .forced

theorem frame_steady {a : Agent} {r : Agent × List Out} (h : Chain (.only steady) a r) : Frame a r.1 :=
  frame_chain (by decide) h

theorem frame_validateSelected (a : Agent) (now : Nat) : Frame a (a.validateSelected now).1 :=
  frame_steady (.validateSelected a now)

theorem frame_contact (a : Agent) (now : Nat) : Frame a (a.contact now).1 := frame_steady (.contact a now)

theorem frame_runTimers (a : Agent) (now fuel : Nat) : Frame a (a.runTimers now fuel).1 :=
  frame_steady (.runTimers a now fuel)

theorem runForced_cases (a : Agent) (now : Nat) :
    (a.runForced now = (a, []) ∧ ¬ (a.started = true ∧ a.closed = false ∧ a.forcePending = true)) ∨
    ((a.runForced now).1.forcePending = false ∧ (a.runForced now).1.started = a.started ∧
      (a.runForced now).1.closed = a.closed) := by
  unfold Agent.runForced
  split
  · right
    dsimp only
    have h := frame_contact { a with forcePending := false } now
    exact ⟨h.fp, h.started, h.closed⟩
  · left
    rename_i h
    refine ⟨rfl, ?_⟩
    intro ⟨h1, h2, h3⟩
    simp [h1, h2, h3] at h

theorem frame_sendSuccess (a : Agent) (now : Nat) (m : Msg) (l r : Cand) : Frame a (a.sendSuccess now m l r).1 :=
  frame_steady (.sendSuccess a now m l r (src := 0) trivial nofun)

theorem frame_handleSuccess (a : Agent) (now : Nat) (m : Msg) (l r : Cand) (src : Nat) :
    Frame a (a.handleSuccess now m l r src).1 :=
  frame_steady (.handleSuccess a now m l r src fun _ _ _ _ _ => trivial)

theorem frame_ctlHandleRequest (a : Agent) (now : Nat) (m : Msg) (l r : Cand) :
    Frame a (a.ctlHandleRequest now m l r).1 :=
  frame_steady (.ctlHandleRequest a now m l r (src := 0) trivial nofun nofun)

theorem frame_cldHandleRequest (a : Agent) (now : Nat) (m : Msg) (l r : Cand) :
    Frame a (a.cldHandleRequest now m l r).1 :=
  frame_steady (.cldHandleRequest a now m l r (src := 0) trivial nofun nofun)

theorem frame_handleRequest (a : Agent) (now : Nat) (m : Msg) (l r : Cand) :
    Frame a (if a.controlling then a.ctlHandleRequest now m l r else a.cldHandleRequest now m l r).1 := by
  split
  · exact frame_ctlHandleRequest _ _ _ _ _
  · exact frame_cldHandleRequest _ _ _ _ _

theorem tid_handleInbound (a : Agent) (now : Nat) (l : Cand) (src : Nat) (m : Msg) :
    TidFrame a (a.handleInbound now l src m).1 :=
  tid_chain (cx := .any) (.handleInbound a now l src m (fun _ _ _ _ => trivial) (fun _ => trivial)
    (fun _ _ _ _ _ _ _ _ _ _ => trivial) (fun _ _ => trivial) nofun)

end IceProofs.AgentC02

import IceProofs.GatherCycle
/-!
# A cancelled cycle in any continuation

It stays cancelled, is never completed (used by `C11_cancelled_cycle_no_nil`) and publishes nothing (used by
`C11_cancelled_cycle_publishes_nothing`, `C11_restart_silences_old_cycles`): one statement about the effects of a
transition (`Eff.silent`), carried along runs (`quiet_run`).  Also the meaning of `nilLast`.
-/
namespace IceProofs.GatherCycle
open IceModel.GatherCycle

theorem nilLast_spec (i : Nat) (l pre post : List Pub) (h : nilLast i l = true) (hl : l = pre ++ Pub.nil i :: post) :
    ∀ t, Pub.cand i t ∉ post := by
  subst hl
  induction pre with
  | nil =>
    simp [nilLast] at h
    intro t ht
    have := h _ ht
    simp [Pub.isCandOf] at this
  | cons p pre ih =>
    cases p with
    | cand c t => simp [nilLast] at h; exact ih h
    | nil j =>
      by_cases hj : j = i
      · subst hj
        simp [nilLast, List.all_append] at h
        intro t ht
        have := h.2.2 _ ht
        simp [Pub.isCandOf] at this
      · simp [nilLast, hj] at h; exact ih h

theorem get_app_old {cs : List Cycle} {i : Nat} {cy x : Cycle} (h : cs[i]? = some cy) : (cs ++ [x])[i]? = some cy := by
  rw [List.getElem?_append_left (List.getElem?_eq_some_iff.1 h).1]; exact h

theorem cancelCur_keeps {s : State} {i : Nat} {cy : Cycle} (hget : s.cycles[i]? = some cy) (hc : cy.cancelled = true) :
    ∃ cy', (cancelCur s)[i]? = some cy' ∧ cy'.cancelled = true ∧ cy'.completed = cy.completed := by
  rw [get_cancelCur]
  split
  · exact ⟨cancelCycle cy, by simp [hget], rfl, rfl⟩
  · exact ⟨cy, hget, hc, rfl⟩

theorem set_keeps {cs : List Cycle} {c i : Nat} {cy0 cy cy' : Cycle} (h0 : cs[c]? = some cy0) (hget : cs[i]? = some cy)
    (hc : cy.cancelled = true) (hc' : cy'.cancelled = cy0.cancelled) (hm' : cy'.completed = cy0.completed) :
    ∃ x, (cs.set c cy')[i]? = some x ∧ x.cancelled = true ∧ x.completed = cy.completed :=
  GatherList.exists_set h0 hget ⟨hc, rfl⟩ (fun hic => by
    rw [hic, h0] at hget; cases hget; exact ⟨hc'.trans hc, hm'⟩)

theorem set_live {cs : List Cycle} {c i : Nat} {cy0 cy : Cycle} (h0 : cs[c]? = some cy0) (hget : cs[i]? = some cy)
    (hc : cy.cancelled = true) (h0c : cy0.cancelled = false) (x : Cycle) : c ≠ i ∧ (cs.set c x)[i]? = some cy := by
  have hne : c ≠ i := by
    intro hci; subst hci
    rw [h0] at hget; cases hget
    rw [hc] at h0c; cases h0c
  exact ⟨hne, by rw [GatherList.get_set_of_get h0, if_neg hne]; exact hget⟩

theorem Eff.silent {s s' : State} (h : Eff s s') {i : Nat} {cy : Cycle} (hget : s.cycles[i]? = some cy)
    (hc : cy.cancelled = true) :
    ∃ cy' ext, s'.cycles[i]? = some cy' ∧ cy'.cancelled = true ∧ cy'.completed = cy.completed
      ∧ s'.published = s.published ++ ext ∧ ∀ p ∈ ext, Pub.cycle p ≠ i := by
  cases h with
  | refused | close => exact ⟨cy, [], hget, hc, rfl, (List.append_nil _).symm, nofun⟩
  | accept =>
    obtain ⟨x, hx, h1, h2⟩ := cancelCur_keeps hget hc
    exact ⟨x, [], get_app_old hx, h1, h2, (List.append_nil _).symm, nofun⟩
  | restart u =>
    obtain ⟨x, hx, h1, h2⟩ := cancelCur_keeps hget hc
    exact ⟨x, [], hx, h1, h2, (List.append_nil _).symm, nofun⟩
  | move c cy0 cy' h0 _ hc' hm' =>
    obtain ⟨x, hx, h1, h2⟩ := set_keeps h0 hget hc hc' hm'
    exact ⟨x, [], hx, h1, h2, (List.append_nil _).symm, nofun⟩
  | start c cy0 h0 =>
    obtain ⟨x, hx, h1, h2⟩ := set_keeps (cy' := { cy0 with pc := .gathering }) h0 hget hc rfl rfl
    exact ⟨x, [], hx, h1, h2, (List.append_nil _).symm, nofun⟩
  | publish c cy0 h0 _ hl =>
    -- the in-task re-check: the publishing cycle is not cancelled, hence it is not cycle `i`
    obtain ⟨hne, hx⟩ := set_live h0 hget hc hl { cy0 with checked := cy0.checked - 1 }
    exact ⟨cy, _, hx, hc, rfl, rfl, fun p hp => by rw [List.mem_singleton.1 hp]; exact hne⟩
  | finish c cy0 h0 _ hl =>
    -- the Complete task is applied only to a cycle that is not cancelled
    obtain ⟨hne, hx⟩ := set_live h0 hget hc hl { cy0 with pc := .done, completed := true }
    refine ⟨cy, _, hx, hc, rfl, rfl, fun p hp => ?_⟩
    split at hp
    · rw [List.mem_singleton.1 hp]; exact hne
    · cases hp

theorem quiet_run {s s' : State} (as : List Action) {i : Nat} {cy : Cycle} (hget : s.cycles[i]? = some cy)
    (hc : cy.cancelled = true) (h : run s as = some s') :
    ∃ cy' ext, s'.cycles[i]? = some cy' ∧ cy'.cancelled = true ∧ cy'.completed = cy.completed
      ∧ s'.published = s.published ++ ext ∧ ∀ p ∈ ext, Pub.cycle p ≠ i := by
  induction as generalizing s cy with
  | nil => simp [run] at h; subst h; exact ⟨cy, [], hget, hc, rfl, by simp, by simp⟩
  | cons a as ih =>
    simp only [run] at h
    split at h
    · rename_i s1 hs
      obtain ⟨x, e1, hx, h1, hm1, hp1, hn1⟩ := (step_eff hs).silent hget hc
      obtain ⟨y, e2, hy, h2, hm2, hp2, hn2⟩ := ih hx h1 h
      refine ⟨y, e1 ++ e2, hy, h2, hm2.trans hm1, by rw [hp2, hp1, List.append_assoc], ?_⟩
      intro p hp
      rcases List.mem_append.mp hp with hp | hp
      · exact hn1 p hp
      · exact hn2 p hp
    · cases h

theorem grows_step {s s' : State} (a : Action) (h : step s a = some s') : ∃ ext, s'.published = s.published ++ ext := by
  cases step_eff h with
  | refused | accept | restart | close | move | start => exact ⟨[], (List.append_nil _).symm⟩
  | publish | finish => exact ⟨_, rfl⟩

theorem grows_run {s s' : State} (as : List Action) (h : run s as = some s') : ∃ ext, s'.published = s.published ++ ext := by
  induction as generalizing s with
  | nil => simp [run] at h; subst h; exact ⟨[], by simp⟩
  | cons a as ih =>
    simp only [run] at h
    split at h
    · rename_i s1 hs
      obtain ⟨e1, h1⟩ := grows_step a hs
      obtain ⟨e2, h2⟩ := ih h
      exact ⟨e1 ++ e2, by rw [h2, h1, List.append_assoc]⟩
    · cases h

theorem all_cancelled_run {s s' : State} (as : List Action)
    (hall : ∀ (i : Nat) (cy : Cycle), s.cycles[i]? = some cy → cy.cancelled = true) (h : run s as = some s') :
    ∃ ext, s'.published = s.published ++ ext ∧ ∀ p ∈ ext, s.cycles.length ≤ Pub.cycle p := by
  obtain ⟨ext, hext⟩ := grows_run as h
  refine ⟨ext, hext, ?_⟩
  intro p hp
  rcases Nat.lt_or_ge (Pub.cycle p) s.cycles.length with hlt | hge
  · have hget : s.cycles[Pub.cycle p]? = some s.cycles[Pub.cycle p] := by simp [hlt]
    obtain ⟨_, ext', _, _, _, hp', hn'⟩ := quiet_run as hget (hall _ _ hget) h
    have : ext = ext' := List.append_cancel_left (hext.symm.trans hp')
    subst this
    exact absurd rfl (hn' p hp)
  · exact hge

end IceProofs.GatherCycle

import IceProofs.AgentC03Inbound
import IceProofs.AgentAuto
import IceProofs.AgentKept
/-!
# C01 liveness — the timer fields (`nextTick`, `checkingTimeout`, `checkingStart`, `lastSeen`) are written by the
tick closure only: inbound STUN never touches them.
-/
namespace IceProofs.C01Live
open IceModel.AgentCore

structure TF where
  nextTick : Option Nat
  checkingTimeout : Nat
  checkingStart : Nat
  lastSeen : ConnState

end IceProofs.C01Live

namespace IceModel.AgentCore
def Agent.tf (a : Agent) : IceProofs.C01Live.TF := ⟨a.nextTick, a.checkingTimeout, a.checkingStart, a.lastSeen⟩
end IceModel.AgentCore

namespace IceProofs.C01Live
open IceModel.AgentCore

@[simp] theorem tf_mk (cfg tieBreaker controlling started closed connState localUfrag localPwd remoteUfrag remotePwd
    locals remotes checklist nextPairID nextUid nextTid tag pending selected selStart nominatedPair lastNomination answeredNomination
    lastSeen checkingStart checkingTimeout forcePending nextTick caches rx connBytesSent connBytesRecv
    onConnectedFired generation nomIssued lastRenomTime nomCounter) :
    (Agent.mk cfg tieBreaker controlling started closed connState localUfrag localPwd remoteUfrag remotePwd
    locals remotes checklist nextPairID nextUid nextTid tag pending selected selStart nominatedPair lastNomination answeredNomination
    lastSeen checkingStart checkingTimeout forcePending nextTick caches rx connBytesSent connBytesRecv
    onConnectedFired generation nomIssued lastRenomTime nomCounter).tf = ⟨nextTick, checkingTimeout, checkingStart, lastSeen⟩ := rfl

@[simp] theorem tf_eta (y : Agent) : TF.mk y.nextTick y.checkingTimeout y.checkingStart y.lastSeen = y.tf := rfl
theorem tf_nextTick (a : Agent) : a.tf.nextTick = a.nextTick := rfl
theorem tf_checkingTimeout (a : Agent) : a.tf.checkingTimeout = a.checkingTimeout := rfl
theorem tf_checkingStart (a : Agent) : a.tf.checkingStart = a.checkingStart := rfl
theorem tf_lastSeen (a : Agent) : a.tf.lastSeen = a.lastSeen := rfl

theorem fst_tf {α : Type} {x : Agent × α} {a' : Agent} {r : α} (h : x = (a', r)) : a'.tf = x.1.tf := by
  subst h; rfl

@[simp] theorem tf_modPair (a : Agent) (id : Nat) (f : Pair → Pair) : (a.modPair id f).tf = a.tf := rfl
@[simp] theorem tf_seenLocalSent (a : Agent) (u n : Nat) : (a.seenLocalSent u n).tf = a.tf := rfl
@[simp] theorem tf_seenRemoteRecv (a : Agent) (u n : Nat) : (a.seenRemoteRecv u n).tf = a.tf := rfl
@[simp] theorem tf_invalidatePending (a : Agent) (n : Nat) : (a.invalidatePending n).tf = a.tf := rfl
@[simp] theorem tf_requestCheck (a : Agent) : a.requestCheck.tf = a.tf := rfl
@[simp] theorem tf_addPair (a : Agent) (l r : Cand) : (a.addPair l r).1.tf = a.tf := rfl
@[simp] theorem tf_resetSelector (a : Agent) (now : Nat) : (a.resetSelector now).tf = a.tf := rfl

theorem tf_handleInbound (a : Agent) (now : Nat) (l : Cand) (src : Nat) (m : Msg) :
    (a.handleInbound now l src m).1.tf = a.tf :=
  IceProofs.Agent.handleInbound_kept (fun k => TF.mk k.nextTick k.checkingTimeout k.checkingStart k.lastSeen)
    (fun _ _ _ _ _ => rfl) a now l src m

@[simp] theorem tf_contactCandidates (a : Agent) (now : Nat) : (a.contactCandidates now).1.tf = a.tf :=
  IceProofs.Agent.contactCandidates_kept (fun k => TF.mk k.nextTick k.checkingTimeout k.checkingStart k.lastSeen)
    (fun _ _ _ _ => rfl) a now

end IceProofs.C01Live

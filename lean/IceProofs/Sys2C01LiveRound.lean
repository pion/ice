import IceProofs.Sys2C01LiveWave
/-!
# C01 liveness — the canonical fair round

`round c s` = advance the clock to the next timer tick of the controlling agent `c` (the controlled agent runs
every tick that is due by then), then three waves: deliver everything in flight, three times.  `RInv`: the invariant at
round boundaries — the invariant `FInv` of a fair suffix without clock jumps, and the provenance of a selection.
-/
namespace IceProofs.C01Live
open IceModel.AgentCore IceModel.Sys2 IceProofs.Sys2Run IceProofs.C01 IceProofs.Agent

/-- the time of the round: the controlling agent's next tick -/
def roundT (c : Bool) (s : Sys) : Nat := ((s.agent c).nextTick).getD s.now

/-- advance to the controlling agent's next tick, then three waves -/
def round (c : Bool) (s : Sys) : Sys := wave (wave (wave (s.advance (roundT c s)).1))

def rounds (c : Bool) : Nat → Sys → Sys
  | 0, s => s
  | n + 1, s => rounds c n (round c s)

section
variable {nat blocked : List (Nat × Nat)} {SLA SLB SR : Nat → Prop} {liteA liteB : Bool} {T0 H : Nat} {c : Bool}

/-- everything one noise event keeps -/
structure NoiseKeep (c : Bool) (s s' : Sys) : Prop where
  now : s'.now = s.now
  static : Static s s'
  succ : ∀ x, HasSucc s x → HasSucc s' x
  sel : ∀ x, Sel s x → Sel s' x
  tick : ∀ x lo, lo ≤ s.now + Config.minInterval (s.agent x).cfg → TickIn lo s.now (s.agent x) → TickIn lo s.now (s'.agent x)

theorem NoiseKeep.refl (c : Bool) (s : Sys) : NoiseKeep c s s := ⟨rfl, Static.refl s, fun _ g => g, fun _ g => g, fun _ _ _ g => g⟩

theorem NoiseKeep.trans {s1 s2 s3 : Sys} (h1 : NoiseKeep c s1 s2) (h2 : NoiseKeep c s2 s3) : NoiseKeep c s1 s3 :=
  ⟨h2.now.trans h1.now, h1.static.trans h2.static, fun x g => h2.succ x (h1.succ x g), fun x g => h2.sel x (h1.sel x g),
   fun x lo hlo g => by
     have := h2.tick x lo (by rw [h1.now, (h1.static x).2]; exact hlo) (by rw [h1.now]; exact h1.tick x lo hlo g)
     rw [h1.now] at this; exact this⟩

theorem effect_noiseKeep {s s' : Sys} {hd : Dgram} {t : List Dgram} (he : Effect T0 s s' hd t) : NoiseKeep c s s' := by
  refine ⟨he.now, ?_, fun _ g => g.keep he, fun _ g => g.keep he, ?_⟩
  · intro x
    obtain ⟨_, k⟩ := he.lk x
    exact ⟨k.selStart, (he.ids x).cfg⟩
  · intro x lo hlo g
    rcases he.agent_cases x with e | ⟨m, _, e⟩
    · rw [e]; exact g
    · rw [e]; exact step_inbound_tickIn _ _ _ hlo g

theorem noiseKeep_runs {s : Sys} (h : SysOK nat blocked SLA SLB SR liteA liteB T0 H c s) (ns : List SysEv)
    (hn : ∀ e ∈ ns, isNoise e = true) :
    SysOK nat blocked SLA SLB SR liteA liteB T0 H c (Sys.runs s ns) ∧ NoiseKeep c s (Sys.runs s ns) :=
  stable_noise (P := fun s' => NoiseKeep c s s') (fun _ _ _ _ _ _ he _ _ _ g => g.trans (effect_noiseKeep he)) h ns hn
    (NoiseKeep.refl c s)

/-- the invariant at round boundaries -/
structure RInv (nat blocked : List (Nat × Nat)) (SLA SLB SR : Nat → Prop) (liteA liteB : Bool) (T0 H : Nat) (c : Bool)
    (s : Sys) : Prop where
  ok : SysOK nat blocked SLA SLB SR liteA liteB T0 H c s
  linked : NomSeen c s → DP c s true
  tick : TickIn s.now s.now (s.agent c)

theorem RInv.finv {s : Sys} (h : RInv nat blocked SLA SLB SR liteA liteB T0 H c s) :
    FInv nat blocked SLA SLB SR liteA liteB T0 H 0 c s :=
  ⟨h.ok, h.tick, Nat.mul_pos (by decide) (minInterval_pos _), mbrt_pos⟩

/-- everything the three waves of a round keep -/
structure WavesKeep (c : Bool) (s1 s4 : Sys) : Prop where
  now : s4.now = s1.now
  static : Static s1 s4
  succ : ∀ x, HasSucc s1 x → HasSucc s4 x
  sel : ∀ x, Sel s1 x → Sel s4 x
  tick : ∀ x lo, lo ≤ s1.now + Config.minInterval (s1.agent x).cfg → TickIn lo s1.now (s1.agent x) → TickIn lo s1.now (s4.agent x)
  linked : ∀ P0, LinkedJ c P0 s1 → LinkedJ c P0 s4

theorem WavesKeep.of_noise {s s' : Sys} (k : NoiseKeep c s s') (l : ∀ P0, LinkedJ c P0 s → LinkedJ c P0 s') :
    WavesKeep c s s' := ⟨k.now, k.static, k.succ, k.sel, k.tick, l⟩

theorem WavesKeep.noise {s s' : Sys} (k : WavesKeep c s s') : NoiseKeep c s s' := ⟨k.now, k.static, k.succ, k.sel, k.tick⟩

theorem wavesKeep_wave {s : Sys} (h : SysOK nat blocked SLA SLB SR liteA liteB T0 H c s) : WavesKeep c s (wave s) := by
  refine .of_noise ?_ (fun _ g => g.flushN h _)
  unfold wave; rw [flushN_runs]
  exact (noiseKeep_runs h _ (isNoise_flush _)).2

theorem WavesKeep.trans {s1 s2 s3 : Sys} (h1 : WavesKeep c s1 s2) (h2 : WavesKeep c s2 s3) : WavesKeep c s1 s3 :=
  .of_noise (h1.noise.trans h2.noise) (fun P0 g => h2.linked P0 (h1.linked P0 g))

end

end IceProofs.C01Live

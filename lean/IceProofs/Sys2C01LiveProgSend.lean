import IceProofs.Sys2C01LiveDefs
import IceProofs.AgentBestBy
/-!
# C01 liveness — closed forms of `sendRequest` / `sendSuccess`, and the frame `Soft` of everything that
only counts, timestamps local candidates and records transactions
-/

namespace IceProofs.C01Live.Prog
open IceModel.AgentCore IceProofs.C03 IceProofs.Agent

theorem pairwise_inj_mem {α β : Type} {f : α → β} {l : List α} (h : l.Pairwise (fun x y => f x ≠ f y)) {x y : α}
    (hx : x ∈ l) (hy : y ∈ l) (e : f x = f y) : x = y := by
  induction l with
  | nil => cases hx
  | cons z zs ih =>
    rw [List.pairwise_cons] at h
    rcases List.mem_cons.mp hx with rfl | hx' <;> rcases List.mem_cons.mp hy with rfl | hy'
    · rfl
    · exact absurd e (h.1 y hy')
    · exact absurd e.symm (h.1 x hx')
    · exact ih h.2 hx' hy'

theorem find?_eq_none_of {α : Type} (l : List α) (P : α → Bool) (h : ∀ x ∈ l, P x = false) : l.find? P = none := by
  rw [List.find?_eq_none]
  intro x hx
  rw [h x hx]; simp

theorem findCand_of_mem {l : List Cand} {c : Cand} (h : c ∈ l) : ∃ c', findCand l c.uid = some c' ∧ c'.uid = c.uid := by
  obtain ⟨c', hc'⟩ := Option.isSome_iff_exists.mp (findCand_isSome.2 ⟨c, h, rfl⟩)
  exact ⟨c', hc', (findCand_listed hc').2⟩

theorem addPair_idsOK (a : Agent) (l r : Cand) (h : IdsOK a) : IdsOK (a.addPair l r).1 :=
  have h' := issued_snoc (k := Pair.id) { id := a.nextPairID + 1, l := l.uid, r := r.uid, controlling := a.controlling } rfl
    ⟨h.le, h.uniq⟩
  ⟨h'.1, h'.2⟩

theorem remoteOf_heard (b : Agent) (u now x : Nat) (c : Cand) (hc : b.remoteOf x = some c) (hu : c.uid = u) :
    ∃ c', (b.seenRemoteRecv u now).remoteOf x = some c' ∧ c'.lastRecv = some now := by
  have h1 : (b.seenRemoteRecv u now).remoteOf x =
      (b.remoteOf x).map (fun c => if c.uid == u then { c with lastRecv := some now } else c) :=
    updCand_findCand _ _ _ _ (fun _ => rfl)
  rw [h1, hc]
  refine ⟨_, rfl, ?_⟩
  simp [hu]

/-- the candidates of `b` are those of `a` up to activity timestamps -/
structure CandSame (a b : Agent) : Prop where
  loc : ∀ u, (b.localOf u).map ckey = (a.localOf u).map ckey
  rem : ∀ u, (b.remoteOf u).map ckey = (a.remoteOf u).map ckey

theorem CandSame.refl (a : Agent) : CandSame a a := ⟨fun _ => rfl, fun _ => rfl⟩
theorem CandSame.trans {a b c : Agent} (h1 : CandSame a b) (h2 : CandSame b c) : CandSame a c :=
  ⟨fun u => (h2.loc u).trans (h1.loc u), fun u => (h2.rem u).trans (h1.rem u)⟩
theorem CandSame.of_eq {a b : Agent} (hl : b.locals = a.locals) (hr : b.remotes = a.remotes) : CandSame a b :=
  ⟨fun u => by unfold Agent.localOf; rw [hl], fun u => by unfold Agent.remoteOf; rw [hr]⟩

theorem seenLocalSent_candSame (a : Agent) (uid now : Nat) : CandSame a (a.seenLocalSent uid now) :=
  ⟨fun _ => updCand_findCand_map ckey _ _ _ _ (fun _ => rfl) (fun _ => rfl), fun _ => rfl⟩

theorem seenRemoteRecv_candSame (a : Agent) (uid now : Nat) : CandSame a (a.seenRemoteRecv uid now) :=
  ⟨fun _ => rfl, fun _ => updCand_findCand_map ckey _ _ _ _ (fun _ => rfl) (fun _ => rfl)⟩

theorem some_of_map_ckey {x : Option Cand} {c : Cand} (h : x.map ckey = some (ckey c)) :
    ∃ c', x = some c' ∧ ckey c' = ckey c := by
  cases x with
  | none => cases h
  | some c' => exact ⟨c', rfl, Option.some.inj h⟩

theorem CandSame.localOf {a b : Agent} (h : CandSame a b) {u : Nat} {c : Cand} (hc : a.localOf u = some c) :
    ∃ c', b.localOf u = some c' ∧ ckey c' = ckey c :=
  some_of_map_ckey ((h.loc u).trans (congrArg (Option.map ckey) hc))

theorem CandSame.remoteOf {a b : Agent} (h : CandSame a b) {u : Nat} {c : Cand} (hc : a.remoteOf u = some c) :
    ∃ c', b.remoteOf u = some c' ∧ ckey c' = ckey c :=
  some_of_map_ckey ((h.rem u).trans (congrArg (Option.map ckey) hc))

/-- the predicate of `Agent.findPair` (verbatim) -/
def fpPred (a : Agent) (l r : Cand) (p : Pair) : Bool :=
    match a.localOf p.l, a.remoteOf p.r with
    | some pl, some pr => pl.equal l && pr.equal r
    | _, _ => false

theorem findPair_eq (a : Agent) (l r : Cand) : a.findPair l r = a.checklist.find? (fpPred a l r) := rfl

theorem map_equal_ckey (x : Option Cand) {l l' : Cand} (el : ckey l' = ckey l) :
    (x.map ckey).map (·.equal l') = x.map (·.equal l) := by
  cases x with
  | none => rfl
  | some c => exact congrArg some (ckey_equal rfl el)

theorem fpPred_congr {a b : Agent} {l r l' r' : Cand} {p p' : Pair}
    (hl : (b.localOf p'.l).map ckey = (a.localOf p.l).map ckey)
    (hr : (b.remoteOf p'.r).map ckey = (a.remoteOf p.r).map ckey)
    (el : ckey l' = ckey l) (er : ckey r' = ckey r) : fpPred b l' r' p' = fpPred a l r p := by
  have both : ∀ (c : Agent) (q : Pair) (u v : Cand), fpPred c u v q =
      match (c.localOf q.l).map (·.equal u), (c.remoteOf q.r).map (·.equal v) with
      | some x, some y => x && y
      | _, _ => false := fun c q u v => by
    unfold fpPred
    cases c.localOf q.l <;> cases c.remoteOf q.r <;> rfl
  rw [both, both, ← map_equal_ckey (b.localOf p'.l) rfl, ← map_equal_ckey (b.remoteOf p'.r) rfl, hl, hr,
    map_equal_ckey _ el, map_equal_ckey _ er]

theorem fpPred_same {a b : Agent} (h : CandSame a b) {l r l' r' : Cand} (el : ckey l' = ckey l) (er : ckey r' = ckey r)
    {p p' : Pair} (hpl : p'.l = p.l) (hpr : p'.r = p.r) : fpPred b l' r' p' = fpPred a l r p :=
  fpPred_congr (by rw [hpl]; exact h.loc _) (by rw [hpr]; exact h.rem _) el er

theorem findPair_congr {a b : Agent} (hc : b.checklist = a.checklist) (h : CandSame a b) {l r l' r' : Cand}
    (el : ckey l' = ckey l) (er : ckey r' = ckey r) : b.findPair l' r' = a.findPair l r := by
  rw [findPair_eq, findPair_eq, hc]
  exact find?_congr_on fun p _ => fpPred_same h el er rfl rfl

theorem findPair_remote {a : Agent} {l r : Cand} {p : Pair} (hpw : a.remotes.Pairwise (fun x y => x.addr ≠ y.addr))
    (hr : r ∈ a.remotes) (hfp : a.findPair l r = some p) : a.remoteOf p.r = some r := by
  obtain ⟨_, pl, pr, _, h2, _, he⟩ := findPair_listed hfp
  rw [h2, pairwise_inj_mem (f := Cand.addr) hpw (findCand_listed h2).1 hr (equal_addr he).2]

theorem findRemote_seenRemoteRecv (b : Agent) (u now net addr : Nat) :
    (b.seenRemoteRecv u now).findRemote net addr =
      (b.findRemote net addr).map (fun c => if c.uid == u then { c with lastRecv := some now } else c) := by
  unfold Agent.findRemote Agent.seenRemoteRecv updCand
  show List.find? _ (List.map _ b.remotes) = _
  rw [List.find?_map]
  have : ((fun c : Cand => c.net == net && c.addr == addr) ∘ fun c => if c.uid == u then { c with lastRecv := some now } else c)
      = fun c => c.net == net && c.addr == addr := by
    funext c; simp only [Function.comp]; split <;> rfl
  rw [this]

/-- expire, record -/
def srBase (a : Agent) (now : Nat) (pd : Pending) : Agent :=
  { (a.invalidatePending now) with nextTid := a.nextTid + 1, pending := (a.invalidatePending now).pending ++ [pd] }

/-- count the request on the pair -/
def srMark (b : Agent) (l r : Cand) : Agent :=
  match b.findPair l r with
  | some p => b.modPair p.id fun p => { p with reqSent := p.reqSent + 1 }
  | none => b

/-- the Binding request -/
def srMsg (a : Agent) (l : Cand) (uc : Bool) (nom : Option Nat) : Msg :=
  { cls := 0, tid := 2 * a.nextTid + a.tag, user := some (a.remoteUfrag ++ ":" ++ a.localUfrag), key := some a.remotePwd,
    prio := some l.prio, useCand := uc, role := some (a.controlling, a.tieBreaker), nom := nom }

theorem sendRequest_fst (a : Agent) (now : Nat) (l r : Cand) (uc : Bool) (nom : Option Nat) :
    (a.sendRequest now l r uc nom).1 = (srMark (srBase a now (requestPending a now l r uc nom)) l r).seenLocalSent l.uid now := by
  unfold Agent.sendRequest
  simp only []
  split <;> rename_i h
  · rename_i p
    have h' : (srBase a now (requestPending a now l r uc nom)).findPair l r = some p := h
    unfold srMark; rw [h']; rfl
  · have h' : (srBase a now (requestPending a now l r uc nom)).findPair l r = none := h
    unfold srMark; rw [h']; rfl

theorem sendRequest_snd (a : Agent) (now : Nat) (l r : Cand) (uc : Bool) (nom : Option Nat) :
    (a.sendRequest now l r uc nom).2 = [.dgram l.addr r.addr (srMsg a l uc nom)] :=
  sendRequest_snd_eq a now l r uc nom

/-- count the response on the pair -/
def ssMark (b : Agent) (l r : Cand) : Agent :=
  match b.findPair l r with
  | some p => b.modPair p.id fun p => { p with respSent := p.respSent + 1 }
  | none => b

theorem sendSuccess_fst (a : Agent) (now : Nat) (m : Msg) (l r : Cand) :
    (a.sendSuccess now m l r).1 = (ssMark a l r).seenLocalSent l.uid now := by
  unfold Agent.sendSuccess ssMark
  simp only []
  split <;> rename_i h <;> rw [h]

theorem sendSuccess_snd (a : Agent) (now : Nat) (m : Msg) (l r : Cand) :
    (a.sendSuccess now m l r).2 = [.dgram l.addr r.addr { cls := 2, tid := m.tid, key := some a.localPwd }] :=
  congrArg Prod.snd (sendSuccess_eq a now m l r)

/-- what a counters-only update keeps of a pair -/
structure PSame (p q : Pair) : Prop where
  id : q.id = p.id
  l : q.l = p.l
  r : q.r = p.r
  state : q.state = p.state
  nominated : q.nominated = p.nominated
  nomOnSuccess : q.nomOnSuccess = p.nomOnSuccess
  deferredNom : q.deferredNom = p.deferredNom
  reqCount : q.reqCount = p.reqCount

theorem PSame.refl (p : Pair) : PSame p p := ⟨rfl, rfl, rfl, rfl, rfl, rfl, rfl, rfl⟩
theorem PSame.trans {p q r : Pair} (h1 : PSame p q) (h2 : PSame q r) : PSame p r :=
  ⟨h2.id.trans h1.id, h2.l.trans h1.l, h2.r.trans h1.r, h2.state.trans h1.state, h2.nominated.trans h1.nominated,
   h2.nomOnSuccess.trans h1.nomOnSuccess, h2.deferredNom.trans h1.deferredNom, h2.reqCount.trans h1.reqCount⟩

/-- `b` is `a` up to: counters of pairs (anything but the ends of the pairs with id `ex`), timestamps of local
candidates, expired / appended transactions. -/
structure Soft (now : Nat) (ex : Option Nat) (a b : Agent) : Prop where
  core : b.core = a.core
  remotes : b.remotes = a.remotes
  cands : CandSame a b
  selected : b.selected = a.selected
  pairs : ∃ g : Pair → Pair, b.checklist = a.checklist.map g ∧
    ∀ p, (g p).id = p.id ∧ (g p).l = p.l ∧ (g p).r = p.r ∧ (some p.id ≠ ex → PSame p (g p))
  pend : ∀ tid pd, a.pending.find? (·.tid == tid) = some pd → now - pd.ts < maxBindingRequestTimeout →
    b.pending.find? (·.tid == tid) = some pd
  pendOK : PendOK a → PendOK b

theorem Soft.refl (now : Nat) (ex : Option Nat) (a : Agent) : Soft now ex a a :=
  ⟨rfl, rfl, CandSame.refl a, rfl, ⟨fun p => p, by simp, fun p => ⟨rfl, rfl, rfl, fun _ => PSame.refl p⟩⟩,
   fun _ _ h _ => h, fun h => h⟩

theorem Soft.trans {now : Nat} {ex : Option Nat} {a b c : Agent} (h1 : Soft now ex a b) (h2 : Soft now ex b c) :
    Soft now ex a c := by
  obtain ⟨g1, e1, k1⟩ := h1.pairs
  obtain ⟨g2, e2, k2⟩ := h2.pairs
  refine ⟨h2.core.trans h1.core, h2.remotes.trans h1.remotes, h1.cands.trans h2.cands, h2.selected.trans h1.selected,
    ⟨g2 ∘ g1, by rw [e2, e1, List.map_map], ?_⟩, fun tid pd h hy => h2.pend tid pd (h1.pend tid pd h hy) hy,
    fun h => h2.pendOK (h1.pendOK h)⟩
  intro p
  obtain ⟨a1, a2, a3, a4⟩ := k1 p
  obtain ⟨b1, b2, b3, b4⟩ := k2 (g1 p)
  refine ⟨b1.trans a1, b2.trans a2, b3.trans a3, fun hne => (a4 hne).trans (b4 (by rw [a1]; exact hne))⟩

theorem Soft.weaken {now : Nat} {ex : Option Nat} {a b : Agent} (h : Soft now none a b) : Soft now ex a b := by
  obtain ⟨g, e, k⟩ := h.pairs
  exact ⟨h.core, h.remotes, h.cands, h.selected,
    ⟨g, e, fun p => ⟨(k p).1, (k p).2.1, (k p).2.2.1, fun _ => (k p).2.2.2 (by simp)⟩⟩, h.pend, h.pendOK⟩

theorem Soft.of_eq {now : Nat} {ex : Option Nat} {a b : Agent} (hc : b.core = a.core) (hl : b.locals = a.locals)
    (hr : b.remotes = a.remotes) (hs : b.selected = a.selected) (hk : b.checklist = a.checklist)
    (hp : b.pending = a.pending) (hn : b.nextTid = a.nextTid) : Soft now ex a b := by
  refine ⟨hc, hr, CandSame.of_eq hl hr, hs, ⟨fun p => p, by simp [hk], fun p => ⟨rfl, rfl, rfl, fun _ => PSame.refl p⟩⟩,
    fun _ _ h _ => by rw [hp]; exact h, ?_⟩
  have ht : b.tag = a.tag := congrArg Core.tag hc
  unfold PendOK
  rw [hp, hn, ht]
  exact fun h => h

theorem updPair_eq_map (l : List Pair) (id : Nat) (f : Pair → Pair) :
    updPair l id f = l.map fun p => if p.id == id then f p else p := rfl

theorem modPair_soft {now : Nat} {ex : Option Nat} (a : Agent) (id : Nat) (f : Pair → Pair) (hf : ∀ p, PSame p (f p)) :
    Soft now ex a (a.modPair id f) := by
  refine ⟨rfl, rfl, CandSame.of_eq rfl rfl, rfl, ⟨fun p => if p.id == id then f p else p, rfl, ?_⟩, fun _ _ h _ => h, fun h => h⟩
  intro p
  dsimp only
  split
  · exact ⟨(hf p).id, (hf p).l, (hf p).r, fun _ => hf p⟩
  · exact ⟨rfl, rfl, rfl, fun _ => PSame.refl p⟩

theorem modPair_soft_ex {now : Nat} (a : Agent) (id : Nat) (f : Pair → Pair) (hid : ∀ p, (f p).id = p.id)
    (hl : ∀ p, (f p).l = p.l) (hr : ∀ p, (f p).r = p.r) : Soft now (some id) a (a.modPair id f) := by
  refine ⟨rfl, rfl, CandSame.of_eq rfl rfl, rfl, ⟨fun p => if p.id == id then f p else p, rfl, ?_⟩, fun _ _ h _ => h, fun h => h⟩
  intro p
  dsimp only
  split
  · rename_i h
    have e : p.id = id := by simpa using h
    exact ⟨hid p, hl p, hr p, fun hne => absurd (by rw [e]) hne⟩
  · exact ⟨rfl, rfl, rfl, fun _ => PSame.refl p⟩

theorem seenLocalSent_soft {now : Nat} {ex : Option Nat} (a : Agent) (uid t : Nat) : Soft now ex a (a.seenLocalSent uid t) :=
  ⟨rfl, rfl, seenLocalSent_candSame a uid t, rfl, ⟨fun p => p, by simp [Agent.seenLocalSent], fun p => ⟨rfl, rfl, rfl, fun _ => PSame.refl p⟩⟩,
   fun _ _ h _ => h, fun h => h⟩

theorem srBase_pendOK (a : Agent) (now : Nat) (pd : Pending) (ht : pd.tid = 2 * a.nextTid + a.tag) (h : PendOK a) :
    PendOK (srBase a now pd) := by
  obtain ⟨h1, h2⟩ := h
  have hf : ∀ x ∈ a.pending.filter (fun p => now - p.ts < maxBindingRequestTimeout), x.tid < 2 * a.nextTid + a.tag :=
    fun x hx => h1 x (List.mem_filter.mp hx).1
  refine ⟨?_, ?_⟩
  · intro x hx
    show x.tid < 2 * (a.nextTid + 1) + a.tag
    have hx' : x ∈ a.pending.filter (fun p => now - p.ts < maxBindingRequestTimeout) ++ [pd] := hx
    rcases List.mem_append.mp hx' with hx' | hx'
    · have := hf x hx'; omega
    · rw [List.mem_singleton] at hx'; subst hx'; omega
  · show (a.pending.filter (fun p => now - p.ts < maxBindingRequestTimeout) ++ [pd]).Pairwise _
    rw [List.pairwise_append]
    refine ⟨h2.filter _, by simp, ?_⟩
    intro x hx y hy
    rw [List.mem_singleton] at hy; subst hy
    have := hf x hx
    omega

theorem srBase_pend (a : Agent) (now : Nat) (pd0 : Pending) (tid : Nat) (pd : Pending)
    (h : a.pending.find? (·.tid == tid) = some pd) (hy : now - pd.ts < maxBindingRequestTimeout) :
    (srBase a now pd0).pending.find? (·.tid == tid) = some pd := by
  show (a.pending.filter (fun p => now - p.ts < maxBindingRequestTimeout) ++ [pd0]).find? _ = _
  exact find?_append_of_some (find?_filter_of_some h (by simpa using hy)) _

theorem srBase_find_new (a : Agent) (now : Nat) (pd : Pending) (ht : pd.tid = 2 * a.nextTid + a.tag) (h : PendOK a) :
    (srBase a now pd).pending.find? (·.tid == 2 * a.nextTid + a.tag) = some pd := by
  show (a.pending.filter (fun p => now - p.ts < maxBindingRequestTimeout) ++ [pd]).find? _ = _
  rw [List.find?_append, find?_eq_none_of]
  · simp [ht]
  · intro x hx
    have := h.1 x (List.mem_filter.mp hx).1
    have hne : x.tid ≠ 2 * a.nextTid + a.tag := by omega
    simpa using hne

theorem srBase_soft {ex : Option Nat} (a : Agent) (now : Nat) (pd : Pending) (ht : pd.tid = 2 * a.nextTid + a.tag) :
    Soft now ex a (srBase a now pd) :=
  ⟨rfl, rfl, CandSame.of_eq rfl rfl, rfl, ⟨fun p => p, by simp [srBase, Agent.invalidatePending], fun p => ⟨rfl, rfl, rfl, fun _ => PSame.refl p⟩⟩,
   fun tid pd' h hy => srBase_pend a now pd tid pd' h hy, srBase_pendOK a now pd ht⟩

theorem srMark_soft {now : Nat} {ex : Option Nat} (b : Agent) (l r : Cand) : Soft now ex b (srMark b l r) := by
  unfold srMark
  split
  · exact modPair_soft b _ _ fun p => ⟨rfl, rfl, rfl, rfl, rfl, rfl, rfl, rfl⟩
  · exact Soft.refl _ _ _

theorem ssMark_soft {now : Nat} {ex : Option Nat} (b : Agent) (l r : Cand) : Soft now ex b (ssMark b l r) := by
  unfold ssMark
  split
  · exact modPair_soft b _ _ fun p => ⟨rfl, rfl, rfl, rfl, rfl, rfl, rfl, rfl⟩
  · exact Soft.refl _ _ _

theorem sendRequest_soft {ex : Option Nat} (a : Agent) (now : Nat) (l r : Cand) (uc : Bool) (nom : Option Nat) :
    Soft now ex a (a.sendRequest now l r uc nom).1 := by
  rw [sendRequest_fst]
  exact ((srBase_soft a now _ rfl).trans (srMark_soft _ l r)).trans (seenLocalSent_soft _ _ _)

theorem sendSuccess_soft {now' : Nat} {ex : Option Nat} (a : Agent) (now : Nat) (m : Msg) (l r : Cand) :
    Soft now' ex a (a.sendSuccess now m l r).1 := by
  rw [sendSuccess_fst]
  exact (ssMark_soft a l r).trans (seenLocalSent_soft _ _ _)

theorem sendRequest_find_new (a : Agent) (now : Nat) (l r : Cand) (uc : Bool) (nom : Option Nat) (h : PendOK a) :
    (a.sendRequest now l r uc nom).1.pending.find? (·.tid == 2 * a.nextTid + a.tag) = some (requestPending a now l r uc nom) := by
  have h0 := srBase_find_new a now (requestPending a now l r uc nom) rfl h
  have h1 : (a.sendRequest now l r uc nom).1.pending = (srBase a now (requestPending a now l r uc nom)).pending := by
    rw [sendRequest_fst]
    show (srMark _ l r).pending = _
    unfold srMark
    split <;> rfl
  rw [h1]; exact h0

theorem Soft.cfg {now : Nat} {ex : Option Nat} {a b : Agent} (h : Soft now ex a b) : b.cfg = a.cfg :=
  congrArg Core.cfg h.core
theorem Soft.controlling {now : Nat} {ex : Option Nat} {a b : Agent} (h : Soft now ex a b) : b.controlling = a.controlling :=
  congrArg Core.controlling h.core

theorem Soft.pairById {now : Nat} {ex : Option Nat} {a b : Agent} (h : Soft now ex a b) {j : Nat} {q : Pair}
    (hq : a.pairById j = some q) :
    ∃ q', b.pairById j = some q' ∧ q'.id = q.id ∧ q'.l = q.l ∧ q'.r = q.r ∧ (some j ≠ ex → PSame q q') := by
  obtain ⟨g, e, k⟩ := h.pairs
  refine ⟨g q, ?_, (k q).1, (k q).2.1, (k q).2.2.1, fun hne => (k q).2.2.2 (by rw [(pairById_listed hq).2]; exact hne)⟩
  unfold Agent.pairById at hq ⊢
  rw [e, List.find?_map]
  have : ((fun x : Pair => x.id == j) ∘ g) = fun x => x.id == j := by
    funext p; simp only [Function.comp, (k p).1]
  rw [this, hq]; rfl

theorem Soft.pairById_none {now : Nat} {ex : Option Nat} {a b : Agent} (h : Soft now ex a b) {j : Nat}
    (hq : a.pairById j = none) : b.pairById j = none := by
  obtain ⟨g, e, k⟩ := h.pairs
  unfold Agent.pairById at hq ⊢
  rw [e, List.find?_map]
  have : ((fun x : Pair => x.id == j) ∘ g) = fun x => x.id == j := by
    funext p; simp only [Function.comp, (k p).1]
  rw [this, hq]; rfl

theorem Soft.findPair {now : Nat} {ex : Option Nat} {a b : Agent} (h : Soft now ex a b) {l r l' r' : Cand}
    (el : ckey l' = ckey l) (er : ckey r' = ckey r) {q : Pair} (hq : a.findPair l r = some q) :
    ∃ q', b.findPair l' r' = some q' ∧ q'.id = q.id ∧ q'.l = q.l ∧ q'.r = q.r ∧ (some q.id ≠ ex → PSame q q') := by
  obtain ⟨g, e, k⟩ := h.pairs
  refine ⟨g q, ?_, (k q).1, (k q).2.1, (k q).2.2.1, (k q).2.2.2⟩
  rw [findPair_eq] at hq ⊢
  rw [e, List.find?_map]
  have : (fpPred b l' r' ∘ g) = fpPred a l r := by
    funext p
    exact fpPred_same h.cands el er (k p).2.1 (k p).2.2.1
  rw [this, hq]; rfl

theorem Soft.findPair_none {now : Nat} {ex : Option Nat} {a b : Agent} (h : Soft now ex a b) {l r l' r' : Cand}
    (el : ckey l' = ckey l) (er : ckey r' = ckey r) (hq : a.findPair l r = none) : b.findPair l' r' = none := by
  obtain ⟨g, e, k⟩ := h.pairs
  rw [findPair_eq] at hq ⊢
  rw [e, List.find?_map]
  have : (fpPred b l' r' ∘ g) = fpPred a l r := by
    funext p
    exact fpPred_same h.cands el er (k p).2.1 (k p).2.2.1
  rw [this, hq]; rfl

theorem Soft.mem {now : Nat} {ex : Option Nat} {a b : Agent} (h : Soft now ex a b) {p : Pair} (hp : p ∈ a.checklist) :
    ∃ p' ∈ b.checklist, p'.id = p.id ∧ (some p.id ≠ ex → PSame p p') := by
  obtain ⟨g, e, k⟩ := h.pairs
  exact ⟨g p, by rw [e]; exact List.mem_map_of_mem hp, (k p).1, (k p).2.2.2⟩

end IceProofs.C01Live.Prog

namespace IceProofs.C01Live
open IceModel.AgentCore

theorem bestValid_some {a : Agent} {p : Pair} (h : a.bestValid = some p) : p ∈ a.checklist ∧ p.state = .succeeded :=
  ⟨(IceProofs.Agent.bestBy_listed h).1, by simpa using (IceProofs.Agent.bestBy_listed h).2⟩

theorem bestValid_isSome {a : Agent} {p : Pair} (hp : p ∈ a.checklist) (hs : p.state = .succeeded) :
    a.bestValid.isSome = true := by
  cases hb : a.bestValid with
  | some _ => rfl
  | none =>
    have := (IceProofs.AgentC07.bestBy_eq_none_iff a _).mp hb p hp
    simp [hs] at this

end IceProofs.C01Live

import IceProofs.AgentRules
import IceProofs.AgentC20Accept
import IceProofs.Basic
/-!
# Case rules for `handleSuccess`, the controlled selector's request handler, `replaceRemoteInPairs` and the data path;
invariant forms

In the style of `IceProofs.AgentRules`: `*_rule` lists the ways out of a helper for a predicate `Q` on its result, `*_why`
does so with the tests the helper made on the way, `*_inv` says that an invariant `I` of the agent kept by the record
updates and sub-helpers the helper is made of is kept by the helper, `*_outs_rule` does the same for a predicate on the
outputs alone.
-/
namespace IceProofs.Agent
open IceModel.AgentCore

theorem handleSuccess_outs_rule {P : List Out → Prop} (a : Agent) (now : Nat) (m : Msg) (l r : Cand) (src : Nat)
    (nil : P []) (sel : ∀ (b : Agent) id, P (b.select id).2) : P (a.handleSuccess now m l r src).2 := by
  refine handleSuccess_rule (Q := fun x => P x.2) a now m l r src nil fun pd p _ _ => ?_
  refine successDecide_rule (Q := fun x => P x.2) _ pd p nil (fun _ _ => sel _ _) fun _ ao hao => ?_
  rcases hao with rfl | rfl
  · exact sel _ _
  · exact nil

theorem ensurePair_inv {I : Agent → Prop} (a : Agent) (l r : Cand) (h : I a) (pair : I (a.addPair l r).1) :
    I (ensurePair a l r).1 := by
  unfold ensurePair
  split
  · exact h
  · exact pair

/-- `b` is `a`, or `a` after a lite agent has marked pair `id` valid -/
def LiteMarked (a : Agent) (id : Nat) (b : Agent) : Prop :=
  b = a ∨ a.cfg.lite = true ∧ b = a.modPair id (fun p => { p with state := .succeeded })

theorem cldNominate_why {Q : Agent × List Out → Prop} (a : Agent) (m : Msg) (id : Nat)
    (plain : (m.useCand || m.nom.isSome) = false → Q (a, []))
    (skip : (m.useCand || m.nom.isSome) = true → ∀ b, LiteMarked a id b → Q (b, []))
    (sel : ∀ b, LiteMarked a id b →
      (m.useCand || m.nom.isSome) = true →
      ∀ p, b.pairById id = some p → p.state = .succeeded → inlineSwitch b id m p = true → Q (b.select id))
    (defer : ∀ b, LiteMarked a id b →
      (m.useCand || m.nom.isSome) = true →
      ∀ p, b.pairById id = some p → p.state ≠ .succeeded →
      Q (b.modPair id fun p => { p with nomOnSuccess := true, deferredNom := m.nom }, [])) :
    Q (cldNominate a m id) := by
  unfold cldNominate
  split
  · rename_i hnom
    dsimp only
    generalize hb : (if a.cfg.lite then a.modPair id fun p => { p with state := .succeeded } else a) = b
    replace hb : LiteMarked a id b := by
      rw [← hb]
      split
      · rename_i hl; exact Or.inr ⟨hl, rfl⟩
      · exact Or.inl rfl
    split
    · exact skip hnom b hb
    · rename_i p hp
      split
      · rename_i hs
        split
        · rename_i hsw
          exact sel b hb hnom p hp (by simpa using hs) hsw
        · exact skip hnom b hb
      · rename_i hs
        split
        · exact defer b hb hnom p hp (by simpa using hs)
        · exact skip hnom b hb
  · rename_i hnom
    exact plain (by simpa using hnom)

theorem cldNominate_rule {Q : Agent × List Out → Prop} (a : Agent) (m : Msg) (id : Nat)
    (skip : ∀ b, LiteMarked a id b → Q (b, []))
    (sel : ∀ b, LiteMarked a id b →
      (m.useCand || m.nom.isSome) = true →
      ∀ p, b.pairById id = some p → p.state = .succeeded → inlineSwitch b id m p = true → Q (b.select id))
    (defer : ∀ b, LiteMarked a id b →
      (m.useCand || m.nom.isSome) = true →
      ∀ p, b.pairById id = some p → p.state ≠ .succeeded →
      Q (b.modPair id fun p => { p with nomOnSuccess := true, deferredNom := m.nom }, [])) :
    Q (cldNominate a m id) :=
  cldNominate_why a m id (fun _ => skip a (Or.inl rfl)) (fun _ => skip) sel defer

theorem cldNominate_inv {I : Agent → Prop} (a : Agent) (m : Msg) (id : Nat) (h : I a)
    (mod : ∀ b id f, I b → I (b.modPair id f)) (sel : ∀ b id, I b → I (b.select id).1) :
    I (cldNominate a m id).1 := by
  have hb : ∀ b, LiteMarked a id b → I b := by
    rintro b (rfl | ⟨_, rfl⟩)
    · exact h
    · exact mod _ _ _ h
  exact cldNominate_rule (Q := fun x => I x.1) a m id (fun b h => hb b h) (fun b h _ _ _ _ _ => sel _ _ (hb b h))
    (fun b h _ _ _ _ => mod _ _ _ (hb b h))

theorem cldProceed_rule {Q : Agent × List Out → Prop} (a : Agent) (now : Nat) (m : Msg) (l r : Cand) (id : Nat)
    (quiet : ∀ n s, n = cldNominate a m id → s = n.1.sendSuccess now m l r → Q (s.1, n.2 ++ s.2))
    (check : ∀ n s, n = cldNominate a m id → s = n.1.sendSuccess now m l r →
      Q ((s.1.ping now l r).1, n.2 ++ s.2 ++ (s.1.ping now l r).2)) :
    Q (cldProceed a now m l r id) := by
  have hq := quiet _ _ rfl rfl
  have hc := check _ _ rfl rfl
  unfold cldProceed
  dsimp only
  rw [← List.append_nil (_ ++ _)] at hq
  split
  · split
    · exact hc
    · exact hq
  · exact hq

theorem cldProceed_inv {I : Agent → Prop} (a : Agent) (now : Nat) (m : Msg) (l r : Cand) (id : Nat) (h : I a)
    (mod : ∀ b id f, I b → I (b.modPair id f)) (sel : ∀ b id, I b → I (b.select id).1)
    (succ : ∀ b, I b → I (b.sendSuccess now m l r).1) (ping : ∀ b, I b → I (b.ping now l r).1) :
    I (cldProceed a now m l r id).1 := by
  have hn := cldNominate_inv a m id h mod sel
  refine cldProceed_rule (Q := fun x => I x.1) a now m l r id ?_ ?_
  · rintro n s rfl rfl
    exact succ _ hn
  · rintro n s rfl rfl
    exact ping _ (succ _ hn)

theorem cldHandleRequest_rule {Q : Agent × List Out → Prop} (a : Agent) (now : Nat) (m : Msg) (l r : Cand)
    (reject : ∀ a1, a1 = (ensurePair a l r).1.modPair (ensurePair a l r).2.id (countReq m) →
      (m.useCand || m.nom.isSome) = true → (shouldAcceptNomination m.nom a1.lastNomination).2 = false →
      Q (a1.sendSuccess now m l r))
    (proceed : ∀ a1, a1 = (ensurePair a l r).1.modPair (ensurePair a l r).2.id (countReq m) →
      Q (cldProceed { a1 with lastNomination := (shouldAcceptNomination m.nom a1.lastNomination).1 } now m l r
        (ensurePair a l r).2.id)) :
    Q (a.cldHandleRequest now m l r) := by
  rw [cldHandleRequest_nf]
  dsimp only
  split
  · rename_i hr
    simp only [Bool.and_eq_true, Bool.not_eq_true'] at hr
    exact reject _ rfl hr.1 hr.2
  · exact proceed _ rfl

theorem cldHandleRequest_inv {I : Agent → Prop} (a : Agent) (now : Nat) (m : Msg) (l r : Cand) (h : I a)
    (pair : ∀ b, I b → I (b.addPair l r).1) (mod : ∀ b id f, I b → I (b.modPair id f))
    (last : ∀ b v, I b → I { b with lastNomination := v }) (sel : ∀ b id, I b → I (b.select id).1)
    (succ : ∀ b, I b → I (b.sendSuccess now m l r).1) (ping : ∀ b, I b → I (b.ping now l r).1) :
    I (a.cldHandleRequest now m l r).1 := by
  have h1 := mod _ (ensurePair a l r).2.id (countReq m) (ensurePair_inv a l r h (pair a h))
  refine cldHandleRequest_rule (Q := fun x => I x.1) a now m l r ?_ ?_
  · rintro a1 rfl _ _
    exact succ _ h1
  · rintro a1 rfl
    exact cldProceed_inv _ now m l r _ (last _ _ h1) mod sel succ ping

theorem replaceRemoteInPairs_rule {P : Agent × List Out → Prop} (a : Agent) (old c : Cand) (h : P (a, []))
    (mod : ∀ b o id f, P (b, o) → P (b.modPair id f, o))
    (sel : ∀ b o id, b.selected = some id → P (b, o) → P ((b.select id).1, o ++ (b.select id).2)) :
    P (a.replaceRemoteInPairs old c) := by
  unfold Agent.replaceRemoteInPairs
  refine IceProofs.List.foldl_inv P _ _ _ h ?_
  intro acc id h
  obtain ⟨b, o⟩ := acc
  dsimp only
  split
  · split
    · split
      · rename_i hs
        exact sel _ _ _ (by simpa using hs) (mod _ _ _ _ h)
      · exact mod _ _ _ _ h
    · exact h
  · exact h

theorem replaceRemoteInPairs_inv {I : Agent → Prop} (a : Agent) (old c : Cand) (h : I a)
    (mod : ∀ b id f, I b → I (b.modPair id f)) (sel : ∀ b id, I b → I (b.select id).1) :
    I (a.replaceRemoteInPairs old c).1 :=
  replaceRemoteInPairs_rule (P := fun x => I x.1) a old c h (fun _ _ _ _ h => mod _ _ _ h) fun _ _ _ _ h => sel _ _ h

/-- Validation of the source of a non-STUN datagram on local candidate `l`: the remote cached for (`l`, source), else
the remote candidate with this address, which is then cached; its last-received time is refreshed. -/
def dataSource (a : Agent) (now : Nat) (l : Cand) (src : Nat) : Option Agent :=
  match a.caches.find? fun (lu, s, _) => lu == l.uid && s == src with
  | some (_, _, ru) => some (a.seenRemoteRecv ru now)
  | none =>
    match a.findRemote l.net src with
    | some r => some { (a.seenRemoteRecv r.uid now) with caches := a.caches ++ [(l.uid, src, r.uid)] }
    | none => none

theorem inboundData_stages (a : Agent) (now : Nat) (l : Cand) (src len : Nat) :
    a.inboundData now l src len =
      match dataSource a now l src with
      | none => (a, [])
      | some b => if rxFits b.rx len then (b.enqueue len, []) else (b, []) := by
  unfold Agent.inboundData dataSource
  cases a.caches.find? _ with
  | some c =>
    dsimp only
    cases rxFits _ len <;> rfl
  | none =>
    dsimp only
    cases a.findRemote l.net src with
    | none => rfl
    | some r =>
      dsimp only
      cases rxFits _ len <;> rfl

theorem inboundData_rule {Q : Agent × List Out → Prop} (a : Agent) (now : Nat) (l : Cand) (src len : Nat)
    (unknown : dataSource a now l src = none → Q (a, []))
    (full : ∀ b, dataSource a now l src = some b → rxFits b.rx len = false → Q (b, []))
    (queued : ∀ b, dataSource a now l src = some b → rxFits b.rx len = true → Q (b.enqueue len, [])) :
    Q (a.inboundData now l src len) := by
  rw [inboundData_stages]
  split
  · rename_i h; exact unknown h
  · rename_i b h
    cases hf : rxFits b.rx len
    · exact full b h hf
    · exact queued b h hf

theorem inboundData_outs (a : Agent) (now : Nat) (l : Cand) (src len : Nat) : (a.inboundData now l src len).2 = [] :=
  inboundData_rule (Q := fun x => x.2 = []) a now l src len (fun _ => rfl) (fun _ _ _ => rfl) (fun _ _ _ => rfl)

end IceProofs.Agent

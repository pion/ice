import IceModel.SharedConn
import IceProofs.CountP
/-!
# Reference-counted handles: invariant, exactly-once close, sibling independence

All statements are about `IceModel.SharedConn` only; any number of handles, any operation sequence.
-/
namespace IceProofs.SharedConn
open IceModel.SharedConn IceProofs.CountP

def isOpenB (h : Handle) : Bool := !h.closed

theorem nOpen_eq (hs : List Handle) : nOpen hs = hs.countP isOpenB := rfl

/-- `refs` is the number of open handles; the underlying connection has been closed exactly when at
least one handle was handed out and all are closed — and then exactly once. -/
structure SInv (s : State) : Prop where
  refs : s.refs = (nOpen s.handles : Int)
  closes : s.uCloses = if 0 < s.handles.length ∧ nOpen s.handles = 0 then 1 else 0

theorem nOpen_set {hs : List Handle} {h : Nat} {hd : Handle} (hd' : Handle) (hg : hs[h]? = some hd) :
    nOpen (hs.set h hd') + (if isOpenB hd then 1 else 0) = nOpen hs + (if isOpenB hd' then 1 else 0) :=
  countP_set' isOpenB hd' hg

theorem nOpen_set_same {hs : List Handle} {h : Nat} {hd : Handle} (hd' : Handle) (hg : hs[h]? = some hd)
    (hc : hd'.closed = hd.closed) : nOpen (hs.set h hd') = nOpen hs := by
  have := nOpen_set hd' hg
  cases h1 : hd.closed <;> simp [isOpenB, hc, h1] at this <;> exact this

theorem nOpen_close {hs : List Handle} {h : Nat} {hd : Handle} (hd' : Handle) (hg : hs[h]? = some hd)
    (ho : hd.closed = false) (hc : hd'.closed = true) : nOpen (hs.set h hd') + 1 = nOpen hs := by
  have := nOpen_set hd' hg
  simp [isOpenB, ho, hc] at this
  omega

theorem sinv_init (fwd : Bool) (k : Nat) : SInv (State.initK fwd k) := ⟨by simp [State.initK, nOpen], by simp [State.initK]⟩

/-- The effect of one step on what the invariants below read (`handles`, `refs`, `uCloses`, `wdlPast`): nothing; a
fresh handle; one handle rewritten without being closed (`touched`: it is open, or only its parked read is released;
either its armed flag and the register stay, or the register follows the flag on a forwarding connection); an open
handle closed as the last one (`closedLast`) or with siblings left (`closedSome`: the register stays if the handle
held no deadline, and is cleared on a forwarding connection otherwise). -/
inductive Shape (s : State) (op : Op) (t : State) : Prop where
  | same : t.fwd = s.fwd → t.handles = s.handles → t.refs = s.refs → t.uCloses = s.uCloses → t.wdlPast = s.wdlPast → Shape s op t
  | opened : op = .open → t.fwd = s.fwd → t.handles = s.handles ++ [{ closed := false, pending := 0, rdlPast := false, wdArmed := false }] →
      t.refs = s.refs + 1 → t.uCloses = s.uCloses → t.wdlPast = s.wdlPast → Shape s op t
  | touched (h : Nat) (hd hd' : Handle) : t.fwd = s.fwd → s.handles[h]? = some hd → hd'.closed = hd.closed →
      (hd.closed = false ∨ hd'.pending = 0) → t.handles = s.handles.set h hd' → t.refs = s.refs →
      t.uCloses = s.uCloses →
      (hd'.wdArmed = hd.wdArmed ∧ t.wdlPast = s.wdlPast
        ∨ hd.closed = false ∧ t.wdlPast = (if s.fwd then hd'.wdArmed else s.wdlPast)) → Shape s op t
  | closedLast (h : Nat) (hd hd' : Handle) : t.fwd = s.fwd → s.handles[h]? = some hd → hd.closed = false → hd'.closed = true →
      hd'.pending = 0 → t.handles = s.handles.set h hd' → t.refs = s.refs - 1 → s.refs - 1 ≤ 0 →
      t.uCloses = s.uCloses + 1 → (s.fwd = false → t.wdlPast = s.wdlPast) → Shape s op t
  | closedSome (h : Nat) (hd hd' : Handle) : t.fwd = s.fwd → s.handles[h]? = some hd → hd.closed = false → hd'.closed = true →
      hd'.pending = 0 → t.handles = s.handles.set h hd' → t.refs = s.refs - 1 → ¬ s.refs - 1 ≤ 0 →
      t.uCloses = s.uCloses →
      (hd.wdArmed = false ∧ t.wdlPast = s.wdlPast ∨ t.wdlPast = (if s.fwd then false else s.wdlPast)) → Shape s op t

theorem step_shape (s : State) (op : Op) : Shape s op (step s op).1 := by
  have same : Shape s op s := .same rfl rfl rfl rfl rfl
  cases op with
  | «open» => exact .opened rfl rfl rfl rfl rfl rfl
  | close h =>
    cases hg : s.handles[h]? with
    | none => simp only [step, hg]; exact same
    | some hd =>
      cases hcl : hd.closed with
      | true => simp only [step, hg, hcl, if_true]; exact same
      | false =>
        simp only [step, hg, hcl, Bool.false_eq_true, if_false]
        by_cases hle : s.refs - 1 ≤ 0
        · simp only [hle, if_true]
          exact .closedLast h hd _ rfl hg hcl rfl rfl rfl rfl hle rfl fun _ => rfl
        · simp only [hle, if_false]
          cases hwa : hd.wdArmed with
          | true => simp only [if_true]; exact .closedSome h hd _ rfl hg hcl rfl rfl rfl rfl hle rfl (Or.inr rfl)
          | false =>
            simp only [Bool.false_eq_true, if_false]
            exact .closedSome h hd _ rfl hg hcl rfl rfl rfl rfl hle rfl (Or.inl ⟨hwa, rfl⟩)
  | abort h =>
    cases hg : s.handles[h]? with
    | none => simp only [step, hg]; exact same
    | some hd =>
      cases hcl : hd.closed with
      | true => simp only [step, hg, hcl, if_true]; exact same
      | false =>
        simp only [step, hg, hcl, Bool.false_eq_true, if_false]
        by_cases hle : s.refs - 1 ≤ 0
        · simp only [hle, if_true]
          exact .closedLast h hd _ rfl hg hcl rfl rfl rfl rfl hle rfl fun hf => by simp only [hf, Bool.false_eq_true, if_false]
        · simp only [hle, if_false]
          exact .closedSome h hd _ rfl hg hcl rfl rfl rfl rfl hle rfl (Or.inr rfl)
  | read h =>
    cases hg : s.handles[h]? with
    | none => simp only [step, hg]; exact same
    | some hd =>
      cases hcl : hd.closed with
      | true => simp only [step, hg, hcl, if_true]; exact same
      | false =>
        simp only [step, hg, hcl, Bool.false_eq_true, if_false]
        split
        · exact same
        · split
          · exact .same rfl rfl rfl rfl rfl
          · split
            · exact same
            · exact .touched h hd _ rfl hg hcl.symm (Or.inl hcl) rfl rfl rfl (Or.inl ⟨rfl, rfl⟩)
  | write h c =>
    cases hg : s.handles[h]? with
    | none => simp only [step, hg]; exact same
    | some hd => simp only [step, hg]; (repeat' split) <;> exact same
  | setrd h p =>
    cases hg : s.handles[h]? with
    | none => simp only [step, hg]; exact same
    | some hd =>
      cases hcl : hd.closed with
      | true => simp only [step, hg, hcl, if_true]; exact same
      | false =>
        simp only [step, hg, hcl, Bool.false_eq_true, if_false]
        exact .touched h hd _ rfl hg hcl.symm (Or.inl hcl) rfl rfl rfl (Or.inl ⟨rfl, rfl⟩)
  | setwd h p =>
    cases hg : s.handles[h]? with
    | none => simp only [step, hg]; exact same
    | some hd =>
      cases hcl : hd.closed with
      | true => simp only [step, hg, hcl, if_true]; exact same
      | false =>
        simp only [step, hg, hcl, Bool.false_eq_true, if_false]
        exact .touched h hd _ rfl hg hcl.symm (Or.inl hcl) rfl rfl rfl (Or.inr ⟨hcl, rfl⟩)
  | setd h p =>
    cases hg : s.handles[h]? with
    | none => simp only [step, hg]; exact same
    | some hd =>
      cases hcl : hd.closed with
      | true => simp only [step, hg, hcl, if_true]; exact same
      | false =>
        simp only [step, hg, hcl, Bool.false_eq_true, if_false]
        exact .touched h hd _ rfl hg hcl.symm (Or.inl hcl) rfl rfl rfl (Or.inr ⟨hcl, rfl⟩)
  | refuse c on =>
    simp only [step]
    split
    · exact same
    · exact .same rfl rfl rfl rfl rfl
  | feed =>
    simp only [step]
    split
    · exact same
    · split
      · exact .same rfl rfl rfl rfl rfl
      · split
        · split
          · split
            · rename_i hd hg
              exact .touched _ hd { hd with pending := 0 } rfl hg rfl (Or.inr rfl) rfl rfl rfl (Or.inl ⟨rfl, rfl⟩)
            · exact same
          · exact same
        · exact same

theorem sinv_step {s : State} {op : Op} (hi : SInv s) (hl : op.legal s = true) : SInv (step s op).1 := by
  obtain ⟨hr, hc⟩ := hi
  rcases step_shape s op with ⟨-, e1, e2, e3, -⟩ | ⟨rfl, -, e1, e2, e3, -⟩ | ⟨h, hd, hd', -, hg, hcl, -, e1, e2, e3, -⟩
    | ⟨h, hd, hd', -, hg, ho, hcl, -, e1, e2, hle, e3, -⟩ | ⟨h, hd, hd', -, hg, ho, hcl, -, e1, e2, hle, e3, -⟩
  · exact ⟨by rw [e1, e2]; exact hr, by rw [e1, e3]; exact hc⟩
  · -- a handle is requested only while the underlying connection is open
    have hn : nOpen (s.handles ++ [{ closed := false, pending := 0, rdlPast := false, wdArmed := false }])
        = nOpen s.handles + 1 := by simp [nOpen]
    refine ⟨by rw [e1, e2, hr, hn]; rfl, ?_⟩
    rw [e1, e3, hn, beq_iff_eq.mp hl, if_neg (fun h => Nat.succ_ne_zero _ h.2)]
  · have := nOpen_set_same hd' hg hcl
    exact ⟨by rw [e1, e2, this]; exact hr, by rw [e1, e3, this, List.length_set]; exact hc⟩
  · -- the last open handle goes: the underlying connection is closed, for the first time
    have hn := nOpen_close hd' hg ho hcl
    have hlt := getElem?_lt hg
    rw [hr] at hle
    refine ⟨by rw [e1, e2, hr]; omega, ?_⟩
    rw [e1, e3, hc, List.length_set, if_neg (fun h => by omega), if_pos ⟨by omega, by omega⟩]
  · have hn := nOpen_close hd' hg ho hcl
    rw [hr] at hle
    refine ⟨by rw [e1, e2, hr]; omega, ?_⟩
    rw [e1, e3, hc, List.length_set, if_neg (fun h => by omega), if_neg (fun h => by omega)]

theorem sinv_of_reachable {s : State} (h : Reachable s) : SInv s := by
  induction h with
  | init fwd k => exact sinv_init fwd k
  | step op _ hl ih => exact sinv_step ih hl

def NoParkedClosed (s : State) : Prop := ∀ hd ∈ s.handles, hd.closed = true → hd.pending = 0

theorem npc_set {hs : List Handle} {h : Nat} {hd' : Handle}
    (hp : ∀ hd ∈ hs, hd.closed = true → hd.pending = 0) (hn : hd'.closed = true → hd'.pending = 0) :
    ∀ hd ∈ hs.set h hd', hd.closed = true → hd.pending = 0 := by
  intro hd hm
  rcases List.mem_or_eq_of_mem_set hm with h1 | h1
  · exact hp hd h1
  · subst h1; exact hn

theorem npc_step {s : State} {op : Op} (hp : NoParkedClosed s) : NoParkedClosed (step s op).1 := by
  unfold NoParkedClosed at *
  rcases step_shape s op with ⟨-, e1, -⟩ | ⟨-, -, e1, -⟩ | ⟨h, hd, hd', -, hg, hcl, hpd, e1, -⟩
    | ⟨h, hd, hd', -, -, -, -, hpd, e1, -⟩ | ⟨h, hd, hd', -, -, -, -, hpd, e1, -⟩ <;> rw [e1]
  · exact hp
  · intro hd hm
    rcases List.mem_append.mp hm with h1 | h1
    · exact hp hd h1
    · cases List.mem_singleton.mp h1; intro hc; cases hc
  · refine npc_set hp fun hc => hpd.elim (fun ho => ?_) id
    rw [hcl, ho] at hc; cases hc
  · exact npc_set hp fun _ => hpd
  · exact npc_set hp fun _ => hpd

theorem npc_of_reachable {s : State} (h : Reachable s) : NoParkedClosed s := by
  induction h with
  | init fwd k => intro hd hm; simp [State.initK] at hm
  | step op _ _ ih => exact npc_step ih

theorem open_pos {hs : List Handle} {h : Nat} {hd : Handle} (hg : hs[h]? = some hd) (ho : hd.closed = false) :
    1 ≤ nOpen hs := by
  have := countP_ge_of_getElem? isOpenB hg
  rw [show isOpenB hd = true from by simp [isOpenB, ho]] at this
  simpa [nOpen_eq] using this

/-- What `Close` of the open handle `h` does, alone or as the last step of `abortIO` (`rd`: the read-deadline flag the
closed record keeps), and what it returns: nil, or the error of a refusing connection. -/
structure Closes (s : State) (h : Nat) (hd : Handle) (rd : Bool) (t : State) (out : Out) : Prop where
  handles : t.handles = s.handles.set h { closed := true, pending := 0, rdlPast := rd, wdArmed := false }
  fwd : t.fwd = s.fwd
  uCloses : t.uCloses = if nOpen s.handles = 1 then s.uCloses + 1 else s.uCloses
  conns : t.conns = s.conns ∨ ∃ v, t.conns = s.fan v
  sibl : nOpen s.handles ≠ 1 → t.queue = s.queue ∧
    (t.conns = s.conns ∧ t.wdlPast = s.wdlPast ∨ t.conns = s.fan false ∧ t.wdlPast = if s.fwd then false else s.wdlPast)
  out : out = .closed t.uCloses hd.pending ∨ s.refusing = true ∧ out = .closedErr t.uCloses hd.pending

theorem closes_close {s : State} (hi : SInv s) {h : Nat} {hd : Handle} (hg : s.handles[h]? = some hd)
    (ho : hd.closed = false) : Closes s h hd hd.rdlPast (step s (.close h)).1 (step s (.close h)).2 := by
  have hrefs := hi.refs
  have hpos := open_pos hg ho
  simp only [step, hg, ho, Bool.false_eq_true, if_false]
  by_cases hle : s.refs - 1 ≤ 0
  · have h1 : nOpen s.handles = 1 := by omega
    simp only [hle, if_true]
    exact ⟨rfl, rfl, by simp [h1], .inl rfl, fun hn => absurd h1 hn, .inl rfl⟩
  · have h1 : nOpen s.handles ≠ 1 := by omega
    simp only [hle, if_false]
    cases hwa : hd.wdArmed with
    | false => exact ⟨rfl, rfl, by simp [h1], .inl rfl, fun _ => ⟨rfl, .inl ⟨rfl, rfl⟩⟩, .inl rfl⟩
    | true =>
      refine ⟨rfl, rfl, by simp [h1], .inr ⟨false, rfl⟩, fun _ => ⟨rfl, .inr ⟨rfl, rfl⟩⟩, ?_⟩
      cases hrf : s.refusing <;> simp [Out.orRefused]

theorem closes_abort {s : State} (hi : SInv s) {h : Nat} {hd : Handle} (hg : s.handles[h]? = some hd)
    (ho : hd.closed = false) : Closes s h hd true (step s (.abort h)).1 (step s (.abort h)).2 := by
  have hrefs := hi.refs
  have hpos := open_pos hg ho
  simp only [step, hg, ho, Bool.false_eq_true, if_false]
  by_cases hle : s.refs - 1 ≤ 0
  · have h1 : nOpen s.handles = 1 := by omega
    simp only [hle, if_true]
    refine ⟨rfl, rfl, by simp [h1], .inr ⟨true, rfl⟩, fun hn => absurd h1 hn, ?_⟩
    cases hrf : s.refusing <;> simp [Out.orRefused]
  · have h1 : nOpen s.handles ≠ 1 := by omega
    simp only [hle, if_false]
    refine ⟨rfl, rfl, by simp [h1], .inr ⟨false, rfl⟩, fun _ => ⟨rfl, .inr ⟨rfl, rfl⟩⟩, ?_⟩
    cases hrf : s.refusing <;> simp [Out.orRefused]

theorem close_effect {s : State} (hr : Reachable s) (h : Nat) :
    (step s (.close h)).1.uCloses
      = s.uCloses + (if (∃ hd, s.handles[h]? = some hd ∧ hd.closed = false) ∧ nOpen s.handles = 1 then 1 else 0) := by
  cases hg : s.handles[h]? with
  | none => simp [step, hg]
  | some hd =>
    cases hcl : hd.closed with
    | true => simp [step, hg, hcl]
    | false =>
      rw [(closes_close (sinv_of_reachable hr) hg hcl).uCloses]
      by_cases h1 : nOpen s.handles = 1 <;> simp [h1, hcl]

theorem two_open {hs : List Handle} {h g : Nat} {hd gd : Handle} (hne : g ≠ h)
    (hh : hs[h]? = some hd) (hg : hs[g]? = some gd) (ho : hd.closed = false) (go : gd.closed = false) :
    2 ≤ nOpen hs := by
  have hn := nOpen_close { hd with closed := true, pending := 0, wdArmed := false } hh ho rfl
  have hg' : (hs.set h { hd with closed := true, pending := 0, wdArmed := false })[g]? = some gd := by
    rw [List.getElem?_set_ne (Ne.symm hne)]; exact hg
  have h3 := countP_ge_of_getElem? isOpenB hg'
  rw [show isOpenB gd = true from by simp [isOpenB, go]] at h3
  simp only [if_true] at h3
  have e1 := nOpen_eq hs
  have e2 := nOpen_eq (hs.set h { hd with closed := true, pending := 0, wdArmed := false })
  omega

theorem fan_refuse (v : Bool) (k : Conn) : (Conn.fan v k).refuse = k.refuse := by
  unfold Conn.fan; split <;> rfl

theorem fan_any_refuse (s : State) (v : Bool) : (s.fan v).any (·.refuse) = s.conns.any (·.refuse) := by
  unfold State.fan
  split
  · rw [List.any_map]
    congr 1
    funext k
    exact fan_refuse v k
  · rfl

theorem fan_fan (v w : Bool) (k : Conn) : Conn.fan w (Conn.fan v k) = Conn.fan w k := by
  rcases k with ⟨rf, d, wd⟩
  cases d <;> cases rf <;> simp [Conn.fan]

theorem map_fan_comp (v w : Bool) (cs : List Conn) : cs.map (Conn.fan w ∘ Conn.fan v) = cs.map (Conn.fan w) := by
  congr 1; funext k; exact fan_fan v w k

theorem map_fan_fan (v w : Bool) (cs : List Conn) : (cs.map (Conn.fan v)).map (Conn.fan w) = cs.map (Conn.fan w) := by
  rw [List.map_map]; congr 1; funext k; exact fan_fan v w k

theorem reg_fan {s s' : State} {v : Bool} (hc : s'.conns = s.fan v)
    (hw : s'.wdlPast = if s.fwd then v else s.wdlPast) (c : Nat) : s'.reg c = s.reg c ∨ s'.reg c = v := by
  unfold State.reg
  rw [hc, hw]
  unfold State.fan
  cases hf : s.fwd with
  | false => left; simp
  | true =>
    simp only [if_true, List.getElem?_map]
    cases hk : s.conns[c]? with
    | none => right; rfl
    | some k =>
      rcases k with ⟨rf, d, w⟩
      cases d <;> cases rf <;> simp [Conn.fan]

/-- What a sibling `g ≠ h` sees of the state after an operation on `h`: `g`'s record and the set of refusing
connections are untouched, every connection's write-deadline register is untouched or has been CLEARED, and either
nothing else changed or `g` is closed. -/
def SiblingView (s s' : State) (g : Nat) : Prop :=
  s'.handles[g]? = s.handles[g]? ∧ s'.refusing = s.refusing ∧
    ((s'.uCloses = s.uCloses ∧ s'.queue = s.queue ∧ ∀ c, s'.reg c = s.reg c ∨ s'.reg c = false)
      ∨ ∀ gd, s.handles[g]? = some gd → gd.closed = true)

theorem refusing_of {s s' : State} (hf : s'.fwd = s.fwd) (hc : s'.conns = s.conns ∨ ∃ v, s'.conns = s.fan v) :
    s'.refusing = s.refusing := by
  unfold State.refusing
  rw [hf]
  rcases hc with hc | ⟨v, hc⟩
  · rw [hc]
  · rw [hc, fan_any_refuse]

theorem Closes.sibling {s t : State} {h g : Nat} {hd : Handle} {rd : Bool} {out : Out} (hc : Closes s h hd rd t out)
    (hh : s.handles[h]? = some hd) (ho : hd.closed = false) (hne : g ≠ h) : SiblingView s t g := by
  refine ⟨by rw [hc.handles, List.getElem?_set_ne (Ne.symm hne)], refusing_of hc.fwd hc.conns, ?_⟩
  by_cases h1 : nOpen s.handles = 1
  · right
    intro gd hg
    cases hgc : gd.closed with
    | true => rfl
    | false => have := two_open hne hh hg ho hgc; omega
  · obtain ⟨hq, hreg⟩ := hc.sibl h1
    refine .inl ⟨by rw [hc.uCloses, if_neg h1], hq, fun c => ?_⟩
    rcases hreg with ⟨e1, e2⟩ | ⟨e1, e2⟩
    · left; simp [State.reg, e1, e2]
    · exact reg_fan e1 e2 c

theorem close_sibling_view {s : State} (hr : Reachable s) {h g : Nat} (hne : g ≠ h) :
    SiblingView s (step s (.close h)).1 g := by
  cases hh : s.handles[h]? with
  | none => simp [SiblingView, step, hh]
  | some hd =>
    cases hcl : hd.closed with
    | true => simp [SiblingView, step, hh, hcl]
    | false => exact (closes_close (sinv_of_reachable hr) hh hcl).sibling hh hcl hne

/-- The output of an I/O operation depends only on the target's record, the underlying close count,
the queue, the write-deadline registers and whether a connection refuses deadline calls. -/
def ioOut (hd : Option Handle) (uCloses queue : Nat) (reg : Nat → Bool) (refusing : Bool) : Op → Out
  | .read _ =>
    match hd with
    | none => .badHandle
    | some hd => if hd.closed then .errClosed else if uCloses > 0 then .errClosed
                 else if queue > 0 then .data else if hd.rdlPast then .errTimeout else .pending
  | .write _ c =>
    match hd with
    | none => .badHandle
    | some hd => if hd.closed then .errClosed else if uCloses > 0 then .errClosed
                 else if reg c then .errTimeout else .ok
  | .setrd _ _ =>
    match hd with
    | none => .badHandle
    | some hd => if hd.closed then .errClosed else .ok
  | .setwd _ _ | .setd _ _ =>
    match hd with
    | none => .badHandle
    | some hd => if hd.closed then .errClosed else Out.ok.orRefused refusing
  | _ => .skip

/-- the I/O operations addressed to handle `g` (reads, writes to any connection and the three deadline setters) -/
def Op.isIOOn (g : Nat) : Op → Bool
  | .read h | .write h _ | .setrd h _ | .setwd h _ | .setd h _ => h == g
  | _ => false

theorem step_io_out {s : State} {g : Nat} {op : Op} (hop : Op.isIOOn g op = true) :
    (step s op).2 = ioOut s.handles[g]? s.uCloses s.queue s.reg s.refusing op := by
  cases op with
  | read h =>
    simp [Op.isIOOn] at hop; subst hop
    simp only [step, ioOut]
    cases hh : s.handles[h]? with
    | none => rfl
    | some hd => simp only; (repeat' split) <;> rfl
  | write h c =>
    simp [Op.isIOOn] at hop; subst hop
    simp only [step, ioOut]
    cases hh : s.handles[h]? with
    | none => rfl
    | some hd => simp only; (repeat' split) <;> rfl
  | setrd h p =>
    simp [Op.isIOOn] at hop; subst hop
    simp only [step, ioOut]
    cases hh : s.handles[h]? with
    | none => rfl
    | some hd => simp only; (repeat' split) <;> rfl
  | setwd h p =>
    simp [Op.isIOOn] at hop; subst hop
    simp only [step, ioOut]
    cases hh : s.handles[h]? with
    | none => rfl
    | some hd => simp only; split <;> rfl
  | setd h p =>
    simp [Op.isIOOn] at hop; subst hop
    simp only [step, ioOut]
    cases hh : s.handles[h]? with
    | none => rfl
    | some hd => simp only; split <;> rfl
  | «open» => simp [Op.isIOOn] at hop
  | close h => simp [Op.isIOOn] at hop
  | abort h => simp [Op.isIOOn] at hop
  | refuse c on => simp [Op.isIOOn] at hop
  | feed => simp [Op.isIOOn] at hop

/-- `after` is `before`, or a write that timed out before succeeds now (a write deadline was cleared). -/
def SameOrCleared (before after : Out) : Prop := after = before ∨ (before = Out.errTimeout ∧ after = Out.ok)

theorem ioOut_cleared (hd : Option Handle) (u q : Nat) (r r' : Nat → Bool) (rf : Bool) (op : Op)
    (hr : ∀ c, r' c = r c ∨ r' c = false) : SameOrCleared (ioOut hd u q r rf op) (ioOut hd u q r' rf op) := by
  cases op <;> try exact Or.inl rfl
  rename_i h c
  cases hd with
  | none => exact Or.inl rfl
  | some hd =>
    simp only [ioOut, SameOrCleared]
    rcases hr c with h1 | h1
    · rw [h1]; exact Or.inl rfl
    · rw [h1]
      clear h1
      cases hrc : r c
      · exact Or.inl rfl
      · by_cases h1 : hd.closed = true
        · simp [h1]
        · by_cases h2 : u > 0
          · simp [h1, h2]
          · simp [h1, h2]

theorem io_of_view {s s' : State} {g : Nat} (hv : SiblingView s s' g) {op : Op} (hop : Op.isIOOn g op = true) :
    SameOrCleared (step s op).2 (step s' op).2 ∧ ((∀ c, s.reg c = false) → (step s' op).2 = (step s op).2) := by
  rw [step_io_out hop, step_io_out hop]
  obtain ⟨hsame, hrf, hrest⟩ := hv
  rw [hsame, hrf]
  have hclosedCase : (∀ gd, s.handles[g]? = some gd → gd.closed = true) →
      ∀ u q (w : Nat → Bool) u' q' (w' : Nat → Bool), ioOut s.handles[g]? u' q' w' s.refusing op = ioOut s.handles[g]? u q w s.refusing op := by
    intro hclosed u q w u' q' w'
    cases hg : s.handles[g]? with
    | none => cases op <;> simp [Op.isIOOn] at hop <;> simp [ioOut]
    | some gd =>
      have := hclosed gd hg
      cases op <;> simp [Op.isIOOn] at hop <;> simp only [ioOut, this, if_true]
  rcases hrest with ⟨hu, hq, hwd⟩ | hclosed
  · rw [hu, hq]
    refine ⟨ioOut_cleared _ _ _ _ _ _ _ hwd, fun h0 => ?_⟩
    have : s'.reg = s.reg := by
      funext c
      rcases hwd c with h1 | h1
      · exact h1
      · rw [h1, h0 c]
    rw [this]
  · have := hclosedCase hclosed s.uCloses s.queue s.reg s'.uCloses s'.queue s'.reg
    rw [this]; exact ⟨Or.inl rfl, fun _ => rfl⟩

theorem sibling_independent {s : State} (hr : Reachable s) {h g : Nat} (hne : g ≠ h) {op : Op}
    (hop : Op.isIOOn g op = true) :
    SameOrCleared (step s op).2 (step (step s (.close h)).1 op).2
    ∧ ((∀ c, s.reg c = false) → (step (step s (.close h)).1 op).2 = (step s op).2) :=
  io_of_view (close_sibling_view hr hne) hop

theorem closing_own_io_fails {s : State} (hr : Reachable s) {h : Nat} (hlt : h < s.handles.length) {op cl : Op}
    (hcl : cl = .close h ∨ cl = .abort h) (hop : Op.isIOOn h op = true) :
    (step (step s cl).1 op).2 = Out.errClosed
    ∧ ∃ hd, (step s cl).1.handles[h]? = some hd ∧ hd.closed = true ∧ hd.pending = 0 := by
  have hview : ∃ hd, (step s cl).1.handles[h]? = some hd ∧ hd.closed = true ∧ hd.pending = 0 := by
    cases hh : s.handles[h]? with
    | none => simp at hh; omega
    | some hd =>
      cases hc : hd.closed with
      | true =>
        refine ⟨hd, ?_, hc, npc_of_reachable hr hd (List.mem_of_getElem? hh) hc⟩
        rcases hcl with rfl | rfl <;> simp [step, hh, hc]
      | false =>
        have hi := sinv_of_reachable hr
        rcases hcl with rfl | rfl
        · exact ⟨_, by rw [(closes_close hi hh hc).handles, List.getElem?_set_self hlt], rfl, rfl⟩
        · exact ⟨_, by rw [(closes_abort hi hh hc).handles, List.getElem?_set_self hlt], rfl, rfl⟩
  refine ⟨?_, hview⟩
  obtain ⟨hd, hget, hc, _⟩ := hview
  rw [step_io_out hop, hget]
  cases op <;> simp [Op.isIOOn] at hop <;> simp [ioOut, hc]

theorem own_io_fails {s : State} (hr : Reachable s) {h : Nat} (hlt : h < s.handles.length) {op : Op}
    (hop : Op.isIOOn h op = true) :
    (step (step s (.close h)).1 op).2 = Out.errClosed
    ∧ ∃ hd, (step s (.close h)).1.handles[h]? = some hd ∧ hd.closed = true ∧ hd.pending = 0 :=
  closing_own_io_fails hr hlt (.inl rfl) hop

/-- `abort h` of an open handle is `SetDeadline(now)` followed by `Close`, as far as the state goes (the result of
the sequence is its FIRST error, the result of the second step alone would be the clear's). -/
theorem abort_eq {s : State} {h : Nat} {hd : Handle} (hg : s.handles[h]? = some hd) (ho : hd.closed = false) :
    (step s (.abort h)).1 = (step (step s (.setd h true)).1 (.close h)).1 := by
  have hlt := getElem?_lt hg
  simp only [step, hg, ho, Bool.false_eq_true, if_false, List.getElem?_set_self hlt, List.set_set, if_true, State.fan]
  cases hf : s.fwd <;> simp [map_fan_comp] <;> split <;> rfl

theorem abort_sibling_view {s : State} (hr : Reachable s) {h g : Nat} (hne : g ≠ h) :
    SiblingView s (step s (.abort h)).1 g := by
  cases hh : s.handles[h]? with
  | none => simp [SiblingView, step, hh]
  | some hd =>
    cases hcl : hd.closed with
    | true => simp [SiblingView, step, hh, hcl]
    | false => exact (closes_abort (sinv_of_reachable hr) hh hcl).sibling hh hcl hne

theorem abort_sibling_independent {s : State} (hr : Reachable s) {h g : Nat} (hne : g ≠ h) {op : Op}
    (hop : Op.isIOOn g op = true) :
    SameOrCleared (step s op).2 (step (step s (.abort h)).1 op).2
    ∧ ((∀ c, s.reg c = false) → (step (step s (.abort h)).1 op).2 = (step s op).2) :=
  io_of_view (abort_sibling_view hr hne) hop

theorem abort_own_io_fails {s : State} (hr : Reachable s) {h : Nat} (hlt : h < s.handles.length) {op : Op}
    (hop : Op.isIOOn h op = true) :
    (step (step s (.abort h)).1 op).2 = Out.errClosed
    ∧ ∃ hd, (step s (.abort h)).1.handles[h]? = some hd ∧ hd.closed = true ∧ hd.pending = 0 :=
  closing_own_io_fails hr hlt (.inr rfl) hop

/-- the handle is open and holds a write deadline (`writeDeadlineArmed`) -/
def armedOpen (hd : Handle) : Bool := !hd.closed && hd.wdArmed

def nHeld (hs : List Handle) : Nat := hs.countP armedOpen

/-- The register of the underlying connection is armed only while some OPEN handle holds the deadline (or after
the last handle has gone, when nobody can write any more); a connection that ignores write deadlines has no
armed register. -/
structure WInv (s : State) : Prop where
  nofwd : s.fwd = false → s.wdlPast = false
  held : s.wdlPast = true → (0 < s.handles.length ∧ nOpen s.handles = 0) ∨ 0 < nHeld s.handles

theorem winv_init (fwd : Bool) (k : Nat) : WInv (State.initK fwd k) := ⟨fun _ => rfl, by simp [State.initK]⟩

theorem nHeld_set {hs : List Handle} {h : Nat} {hd : Handle} (hd' : Handle) (hg : hs[h]? = some hd) :
    nHeld (hs.set h hd') + (if armedOpen hd then 1 else 0) = nHeld hs + (if armedOpen hd' then 1 else 0) :=
  countP_set' armedOpen hd' hg

theorem nHeld_set_same {hs : List Handle} {h : Nat} {hd : Handle} (hd' : Handle) (hg : hs[h]? = some hd)
    (he : armedOpen hd' = armedOpen hd) : nHeld (hs.set h hd') = nHeld hs := by
  have := nHeld_set hd' hg
  rw [he] at this
  omega

theorem wd_if {fwd p w : Bool} (h : (if fwd = true then p else w) = true) (hn : fwd = false → w = false) :
    fwd = true ∧ p = true := by
  cases fwd with
  | true => simpa using h
  | false => simp at h; simp [hn rfl] at h

theorem winv_same {s : State} (hw : WInv s) {h : Nat} {hd hd' : Handle} (hg : s.handles[h]? = some hd) (s' : State)
    (hh : s'.handles = s.handles.set h hd') (hc : hd'.closed = hd.closed) (ha : hd'.wdArmed = hd.wdArmed)
    (hf : s'.fwd = s.fwd) (hwd : s'.wdlPast = s.wdlPast) : WInv s' := by
  refine ⟨fun h0 => by rw [hwd]; exact hw.nofwd (by rw [← hf]; exact h0), fun h1 => ?_⟩
  rw [hwd] at h1
  rw [hh, List.length_set, nOpen_set_same hd' hg hc, nHeld_set_same hd' hg (by simp [armedOpen, hc, ha])]
  exact hw.held h1

theorem winv_step {s : State} {op : Op} (hi : SInv s) (hw : WInv s) (hl : op.legal s = true) : WInv (step s op).1 := by
  rcases step_shape s op with ⟨ef, e1, -, -, e4⟩ | ⟨rfl, ef, e1, -, -, e4⟩
    | ⟨h, hd, hd', ef, hg, hcl, -, e1, -, -, ⟨ea, e4⟩ | ⟨ho, e4⟩⟩
    | ⟨h, hd, hd', ef, hg, ho, hcl, -, e1, e2, hle, -, e4⟩
    | ⟨h, hd, hd', ef, hg, ho, hcl, -, e1, -, -, -, ⟨ea, e4⟩ | e4⟩
  · exact ⟨fun h0 => by rw [e4]; exact hw.nofwd (ef ▸ h0), fun h1 => by rw [e1]; exact hw.held (e4 ▸ h1)⟩
  · refine ⟨fun h0 => by rw [e4]; exact hw.nofwd (ef ▸ h0), fun h1 => ?_⟩
    rcases hw.held (e4 ▸ h1) with ⟨hlen, h0⟩ | hh
    · have := hi.closes
      rw [if_pos ⟨hlen, h0⟩, beq_iff_eq.mp hl] at this
      cases this
    · right
      rw [e1]; unfold nHeld at hh ⊢
      rw [List.countP_append]; omega
  · exact winv_same hw hg _ e1 hcl ea ef e4
  · -- the register follows the flag this handle now holds
    refine ⟨fun h0 => by rw [e4, ← ef, h0]; exact hw.nofwd (ef ▸ h0), fun h1 => Or.inr ?_⟩
    rw [e4] at h1
    obtain ⟨_, hp⟩ := wd_if h1 hw.nofwd
    have hge := countP_ge_of_getElem? armedOpen
      (show (step s op).1.handles[h]? = some hd' by rw [e1]; exact List.getElem?_set_self (getElem?_lt hg))
    rw [show armedOpen hd' = true by simp [armedOpen, hcl, ho, hp]] at hge
    exact hge
  · -- the last handle has gone
    refine ⟨fun h0 => by rw [e4 (ef ▸ h0)]; exact hw.nofwd (ef ▸ h0), fun _ => Or.inl ?_⟩
    have hn := nOpen_close hd' hg ho hcl
    have hlt := getElem?_lt hg
    rw [hi.refs] at hle
    rw [e1, List.length_set]
    exact ⟨by omega, by omega⟩
  · -- a handle that held no deadline goes: the holders are the same
    refine ⟨fun h0 => by rw [e4]; exact hw.nofwd (ef ▸ h0), fun h1 => Or.inr ?_⟩
    rcases hw.held (e4 ▸ h1) with ⟨_, h0⟩ | hp
    · have := open_pos hg ho; omega
    · have hh := nHeld_set hd' hg
      rw [show armedOpen hd = false by simp [armedOpen, ea], show armedOpen hd' = false by simp [armedOpen, hcl]] at hh
      rw [e1]; omega
  · -- the register is cleared on a forwarding connection
    refine ⟨fun h0 => by rw [e4, ← ef, h0]; exact hw.nofwd (ef ▸ h0), fun h1 => ?_⟩
    rw [e4] at h1
    have := (wd_if h1 hw.nofwd).2
    cases this

theorem winv_of_reachable {s : State} (h : Reachable s) : WInv s := by
  induction h with
  | init fwd k => exact winv_init fwd k
  | step op hr hl ih => exact winv_step (sinv_of_reachable hr) ih hl

end IceProofs.SharedConn

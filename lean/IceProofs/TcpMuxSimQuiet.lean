import IceProofs.TcpMuxSimDefs
/-!
# The helper transformations of the TCP-mux model are `Quiet`

`closePc1` / `closePcsWhere` (closing packet connections), `runReader` (the reader loop), the clock tick,
and pointwise updates that keep what the simulation relation talks about.  Beside `Quiet` every lemma
also records that the read logs are untouched (`RLSame`) and what happens to the abstraction of the packet
connections.  `Quiet` composes when the first leg creates no packet
connection (`Quiet.trans'`).  `does_calm`: no operation but a `write` writes to a client.
-/
namespace IceProofs.TcpMux
open IceModel.TcpMux IceSpec.C15 IceSpec.C15.View

/-- nothing was written to any client -/
def OutQ (s s' : State) : Prop :=
  ∀ (k : Nat) (t : Tcp), s.tcps[k]? = some t → ∃ t', s'.tcps[k]? = some t' ∧ t'.out = t.out

/-- nothing was read -/
def RLSame (s s' : State) : Prop :=
  ∀ (p : Nat) (pc : PConn), s.pcs[p]? = some pc → ∃ pc', s'.pcs[p]? = some pc' ∧ pc'.readLog = pc.readLog

theorem OutQ.refl (s : State) : OutQ s s := fun _ t h => ⟨t, h, rfl⟩
theorem RLSame.refl (s : State) : RLSame s s := fun _ pc h => ⟨pc, h, rfl⟩

theorem OutQ.trans {a b c : State} (h1 : OutQ a b) (h2 : OutQ b c) : OutQ a c := by
  intro k t ht
  obtain ⟨t', ht', e⟩ := h1 k t ht
  obtain ⟨t'', ht'', e'⟩ := h2 k t' ht'
  exact ⟨t'', ht'', e'.trans e⟩

theorem RLSame.trans {a b c : State} (h1 : RLSame a b) (h2 : RLSame b c) : RLSame a c := by
  intro p pc hp
  obtain ⟨pc', hp', e⟩ := h1 p pc hp
  obtain ⟨pc'', hp'', e'⟩ := h2 p pc' hp'
  exact ⟨pc'', hp'', e'.trans e⟩

theorem length_of_pointwise {α : Type} {l l' : List α} {g : Nat → α → α}
    (h : ∀ j : Nat, l'[j]? = (l[j]?).map (g j)) : l'.length = l.length := by
  apply Nat.le_antisymm
  · apply Nat.le_of_not_lt
    intro hlt
    have := h l.length
    rw [List.getElem?_eq_none_iff.2 (Nat.le_refl _)] at this
    obtain ⟨a, ha⟩ := getElem?_of_lt hlt
    rw [ha] at this; cases this
  · apply Nat.le_of_not_lt
    intro hlt
    have := h l'.length
    rw [List.getElem?_eq_none_iff.2 (Nat.le_refl _)] at this
    obtain ⟨a, ha⟩ := getElem?_of_lt hlt
    rw [ha] at this; cases this

structure DrainQ (k : Nat) (peer : Addr) (inbox : List Item) (pc : PConn) (d : Drain) : Prop where
  suffix : ∃ pre, inbox = pre ++ d.inbox
  blk : ∀ bp, d.reader = .blocked bp false → bp.len ≤ 8192
  ex : ∃ new, d.pc.hist = pc.hist ++ new ∧
    (∀ x, x ∈ new → x.conn = k ∧ x.src = peer ∧ (x.err = none → x.len ≤ 8192)) ∧
    (d.phase = .closed → (∀ (a b : List Item) (it : Item), inbox = a ++ it :: b → isEnd it = true → b = []) →
      ∃ rest, frameIds inbox = dataIds new ++ rest ∧ ∀ f, rest.head? = some f → 8192 < f.2)

theorem drainFail_q (cap k p : Nat) (peer : Addr) (e : ErrKind) (pc : PConn) (inbox : List Item)
    (hrest : (∀ (a b : List Item) (it : Item), inbox = a ++ it :: b → isEnd it = true → b = []) →
      ∀ f, (frameIds inbox).head? = some f → 8192 < f.2) :
    DrainQ k peer inbox pc (drainFail cap k p peer e pc) := by
  -- what enters the history are error packets of `k`: no data, so the first frame left is the one that failed
  have key : ∀ new : List Pkt, (∀ x, x ∈ new → x.conn = k ∧ x.src = peer ∧ x.err ≠ none) →
      (∀ x, x ∈ new → x.conn = k ∧ x.src = peer ∧ (x.err = none → x.len ≤ 8192)) ∧
      ((∀ (a b : List Item) (it : Item), inbox = a ++ it :: b → isEnd it = true → b = []) →
        ∃ rest, frameIds inbox = dataIds new ++ rest ∧ ∀ f, rest.head? = some f → 8192 < f.2) := by
    intro new hn
    refine ⟨fun x hx => ⟨(hn x hx).1, (hn x hx).2.1, fun h => absurd h (hn x hx).2.2⟩,
      fun hel => ⟨frameIds inbox, ?_, hrest hel⟩⟩
    have : dataIds new = [] := by
      unfold dataIds
      simp only [List.map_eq_nil_iff, List.filter_eq_nil_iff]
      intro x hx hnone
      have := (hn x hx).2.2
      cases h : x.err <;> simp [h] at hnone this
    rw [this, List.nil_append]
  unfold drainFail
  simp only
  split
  · split
    · have := key [{ src := peer, fid := 0, len := 0, err := some e, conn := k }] (by simp)
      exact ⟨⟨inbox, by simp⟩, by simp, _, by simp [enqueue], this.1, fun _ => this.2⟩
    · have := key [] (by simp)
      exact ⟨⟨inbox, by simp⟩, by simp, [], by simp, this.1, fun _ => this.2⟩
  · have := key [] (by simp)
    exact ⟨⟨inbox, by simp⟩, by simp, [], by simp, this.1, fun _ => this.2⟩

theorem drain_q (cap k p : Nat) (peer : Addr) (inbox : List Item) (pc : PConn) :
    DrainQ k peer inbox pc (drain cap k p peer inbox pc) := by
  induction inbox generalizing pc with
  | nil =>
    unfold drain
    exact ⟨⟨[], rfl⟩, by simp, [], by simp, by simp, by simp⟩
  | cons it rest ih =>
    cases it with
    | frame f =>
      unfold drain
      split
      · rename_i hbig
        apply drainFail_q
        intro _ g hg
        simp only [frameIds, List.filterMap_cons, frameId, List.head?_cons, Option.some.injEq] at hg
        rw [← hg]; exact hbig
      · rename_i hsmall
        have hle : f.len ≤ 8192 := by unfold receiveMTU at hsmall; omega
        simp only
        split
        · have h := ih (enqueue pc { src := peer, fid := f.fid, len := f.len, err := none, conn := k })
          obtain ⟨⟨pre, hpre⟩, hb, new, h1, h2, h3⟩ := h
          refine ⟨⟨.frame f :: pre, by rw [List.cons_append, ← hpre]⟩, hb,
            { src := peer, fid := f.fid, len := f.len, err := none, conn := k } :: new, ?_, ?_, ?_⟩
          · rw [h1]; simp [enqueue]
          · intro x hx
            rcases List.mem_cons.1 hx with rfl | hx
            · exact ⟨rfl, rfl, fun _ => hle⟩
            · exact h2 x hx
          · intro hc hel
            have hel' : ∀ (a b : List Item) (it : Item), rest = a ++ it :: b → isEnd it = true → b = [] := by
              intro a b it hab hit
              exact hel (.frame f :: a) b it (by rw [hab]; rfl) hit
            obtain ⟨r, hr1, hr2⟩ := h3 hc hel'
            refine ⟨r, ?_, hr2⟩
            simp only [frameIds, List.filterMap_cons, frameId, dataIds, List.filter_cons, Option.isNone_none, if_true,
              List.map_cons, List.cons_append] at hr1 ⊢
            rw [hr1]
        · refine ⟨⟨[.frame f], rfl⟩, ?_, [], by simp, by simp, by simp⟩
          intro bp hbp
          simp only [Reader.blocked.injEq, and_true] at hbp
          rw [← hbp]; exact hle
    | eof =>
      unfold drain
      apply drainFail_q
      intro hel g hg
      cases hel [] rest .eof rfl rfl
      simp [frameIds, frameId] at hg
    | reset =>
      unfold drain
      apply drainFail_q
      intro hel g hg
      cases hel [] rest .reset rfl rfl
      simp [frameIds, frameId] at hg

theorem drain_abs (cap k p : Nat) (peer : Addr) (inbox : List Item) (pc : PConn) :
    absPc (drain cap k p peer inbox pc).pc = absPc pc := by
  have h := drain_ok cap k p peer inbox pc
  unfold absPc
  rw [h.key, h.provisional, h.alive, h.refs, h.closed]

theorem quiet_of_pointwise {s s' : State} {g : Nat → Tcp → Tcp} {h : Nat → PConn → PConn} (pw : Pointwise s s' g h)
    (hcfg : s'.cfg = s.cfg) (hmux : s'.muxClosed = s.muxClosed) (hcat : s'.closedAt = s.closedAt)
    (hg : ∀ (j : Nat) (t : Tcp), s.tcps[j]? = some t → TcpQ t (g j t) ∧ ((g j t).phase = .closed → ∀ p, t.phase ≠ .attached p))
    (hh : ∀ (q : Nat) (pc : PConn), s.pcs[q]? = some pc → (pc.closed = true → (h q pc).closed = true) ∧
      ∃ new, (h q pc).hist = pc.hist ++ new ∧ ∀ y, y ∈ new → y.err = none →
        y.len ≤ 8192 ∧ ∃ t, s.tcps[y.conn]? = some t ∧ t.phase = .attached q ∧ y.src = t.peer) :
    Quiet s s' := by
  have plen : s'.pcs.length = s.pcs.length := length_of_pointwise pw.pcs
  constructor
  · exact hcfg
  · exact hmux
  · exact hcat
  · exact length_of_pointwise pw.tcps
  · intro k t ht
    exact ⟨g k t, pw.tfw ht, (hg k t ht).1⟩
  · omega
  · intro p pc hp
    exact ⟨h p pc, pw.pfw hp, hh p pc hp⟩
  · intro p pc' hle hp'
    have : p < s'.pcs.length := getElem?_lt hp'
    omega
  · intro k t t' p pc' ht hph ht' hcl _
    rw [pw.tfw ht] at ht'
    cases ht'
    exact absurd hph ((hg k t ht).2 hcl p)

theorem outQ_of_pointwise {s s' : State} {g : Nat → Tcp → Tcp} {h : Nat → PConn → PConn} (pw : Pointwise s s' g h)
    (hg : ∀ (j : Nat) (t : Tcp), (g j t).out = t.out) : OutQ s s' :=
  fun k t ht => ⟨g k t, pw.tfw ht, hg k t⟩

theorem getElem?_setTcp_eq (s : State) (k : Nat) (g : Tcp → Tcp) (t : Tcp) (ht : s.tcps[k]? = some t) :
    (setTcp s k g).tcps[k]? = some (g t) := by
  simp only [setTcp]; rw [getElem?_modify_eq, ht]; rfl

theorem getElem?_setTcp_ne (s : State) (k j : Nat) (g : Tcp → Tcp) (h : j ≠ k) :
    (setTcp s k g).tcps[j]? = s.tcps[j]? := by
  simp only [setTcp]; exact getElem?_modify_ne _ _ _ _ h

theorem outQ_setTcp (s : State) (k : Nat) (g : Tcp → Tcp) (hg : ∀ t, (g t).out = t.out) : OutQ s (setTcp s k g) := by
  intro j tj htj
  simp only [setTcp]
  rw [getElem?_modify_map, htj]
  refine ⟨_, rfl, ?_⟩
  split
  · exact hg tj
  · rfl

theorem rlSame_of_pointwise {s s' : State} {g : Nat → Tcp → Tcp} {h : Nat → PConn → PConn} (pw : Pointwise s s' g h)
    (hh : ∀ (q : Nat) (pc : PConn), (h q pc).readLog = pc.readLog) : RLSame s s' :=
  fun p pc hp => ⟨h p pc, pw.pfw hp, hh p pc⟩

theorem quiet_refl (s : State) : Quiet s s :=
  quiet_of_pointwise (Pointwise.same rfl rfl) rfl rfl rfl (fun _ t _ => ⟨TcpQ.refl t, fun h p hp => by rw [h] at hp; cases hp⟩)
    (fun _ pc _ => ⟨fun h => h, [], by simp, by simp⟩)

theorem TcpQ.trans {a b c : Tcp} (h1 : TcpQ a b) (h2 : TcpQ b c) : TcpQ a c :=
  ⟨h2.peer.trans h1.peer, h2.lip.trans h1.lip, h2.pc.trans h1.pc, h2.cEnd.trans h1.cEnd, h2.stuck.trans h1.stuck,
    h2.sent.trans h1.sent,
    (by rcases h2.phase with e | e
        · rw [e]; exact h1.phase
        · exact Or.inr e),
    (by obtain ⟨p1, e1⟩ := h1.inbox; obtain ⟨p2, e2⟩ := h2.inbox; exact ⟨p1 ++ p2, by rw [e1, e2, List.append_assoc]⟩),
    (fun bp h => by
      rcases h2.blk bp h with h | h
      · exact h1.blk bp h
      · exact Or.inr h)⟩

/-- `Quiet` composes when the first leg creates no packet connection (`Quiet.fresh` promises an empty history
for a packet connection that is new, and the second leg could fill it). -/
theorem Quiet.trans' {a b c : State} (h1 : Quiet a b) (h2 : Quiet b c) (hl : b.pcs.length = a.pcs.length) (hi : Inv a) :
    Quiet a c := by
  refine ⟨h2.cfg.trans h1.cfg, h2.mux.trans h1.mux, h2.cat.trans h1.cat, h2.tlen.trans h1.tlen, ?_,
    Nat.le_trans h1.plen h2.plen, ?_, ?_, ?_⟩
  · intro k t ht
    obtain ⟨t', ht', q1⟩ := h1.tcps k t ht
    obtain ⟨t'', ht'', q2⟩ := h2.tcps k t' ht'
    exact ⟨t'', ht'', q1.trans q2⟩
  · intro p pc hp
    obtain ⟨pc', hp', c1, new1, e1, n1⟩ := h1.pcs p pc hp
    obtain ⟨pc'', hp'', c2, new2, e2, n2⟩ := h2.pcs p pc' hp'
    refine ⟨pc'', hp'', fun h => c2 (c1 h), new1 ++ new2, by rw [e2, e1, List.append_assoc], ?_⟩
    intro y hy hye
    rcases List.mem_append.1 hy with h | h
    · exact n1 y h hye
    · -- a connection that is attached after the first leg was attached before it
      obtain ⟨hlen, t', ht', hph', hsrc⟩ := n2 y h hye
      obtain ⟨t, ht, tq⟩ := h1.tback ht'
      refine ⟨hlen, t, ht, ?_, by rw [hsrc, tq.peer]⟩
      rcases tq.phase with e | e
      · rw [← e]; exact hph'
      · rw [e] at hph'; cases hph'
  · intro p pc'' hge hp''
    exact h2.fresh p pc'' (by rw [hl]; exact hge) hp''
  · intro k t t'' p pc'' ht hph ht'' hph'' hp''
    obtain ⟨t', ht', q1⟩ := h1.tcps k t ht
    obtain ⟨_, pc, hp, _, _⟩ := hi.att ht hph
    obtain ⟨pc', hp', c1, new1, e1, n1⟩ := h1.pcs p pc hp
    obtain ⟨pc2, hp2, c2, new2, e2, n2⟩ := h2.pcs p pc' hp'
    rw [hp''] at hp2; cases hp2
    rcases q1.phase with e | e
    · exact h2.done k t' t'' p pc'' ht' (by rw [e]; exact hph) ht'' hph'' hp''
    · rcases h1.done k t t' p pc' ht hph ht' e hp' with hc | hc
      · -- closed after the first leg: the second leg adds nothing that came from `k`
        left
        obtain ⟨t2, ht2, q2⟩ := h2.tcps k t' ht'
        rw [ht''] at ht2; cases ht2
        intro f hf
        apply hc f
        rw [← q2.sent]
        rw [e2, dataIds_fromConn_append_irrel] at hf
        · exact hf
        · intro y hy hye hyk
          obtain ⟨_, ty, hty, hphy, _⟩ := n2 y hy hye
          rw [hyk, ht'] at hty; cases hty
          rw [e] at hphy; cases hphy
      · exact Or.inr (c2 hc)

theorem quiet_handles (s : State) (H : List Handle) :
    Quiet s { s with handles := H } ∧ RLSame s { s with handles := H } :=
  ⟨quiet_of_pointwise (s' := { s with handles := H }) (Pointwise.same rfl rfl) rfl rfl rfl
      (fun _ t _ => ⟨TcpQ.refl t, fun h p hp => by rw [h] at hp; cases hp⟩) (fun _ pc _ => ⟨fun h => h, [], by simp, by simp⟩),
    fun _ pc h => ⟨pc, h, rfl⟩⟩

theorem closeEffect_q (pc : PConn) (k : Nat) (t : Tcp) : TcpQ t (closeEffect pc k t) := by
  unfold closeEffect
  split
  · exact ⟨rfl, rfl, rfl, rfl, rfl, rfl, Or.inr rfl, ⟨t.inbox, by simp [closeTcp]⟩, by simp [closeTcp]⟩
  · split
    · exact ⟨rfl, rfl, rfl, rfl, rfl, rfl, Or.inl rfl, ⟨[], rfl⟩, by simp⟩
    · exact TcpQ.refl t

theorem closeEffect_out (pc : PConn) (k : Nat) (t : Tcp) : (closeEffect pc k t).out = t.out := by
  unfold closeEffect
  split
  · rfl
  · split <;> rfl

theorem closePc1_quiet (s : State) (p : Nat) (hi : Inv s) :
    Quiet s (closePc1 s p) ∧ RLSame s (closePc1 s p) := by
  refine closePc1_rule (R := fun x => Quiet s x ∧ RLSame s x) s p ⟨quiet_refl s, RLSame.refl s⟩ ?_
  intro pc hp hc
  have htc : ∀ j : Nat, (s.tcps.mapIdx (closeEffect pc))[j]? = (s.tcps[j]?).map (closeEffect pc j) := by
    intro j; rw [List.getElem?_mapIdx]
  have hpcs : ∀ q : Nat, (s.pcs.modify p closedPc)[q]? = (s.pcs[q]?).map (fun qc => if p = q then closedPc qc else qc) :=
    fun q => getElem?_modify_map ..
  refine ⟨?_, ?_⟩
  · constructor
    · rfl
    · rfl
    · rfl
    · simp
    · intro k t ht
      exact ⟨closeEffect pc k t, by rw [htc k, ht]; rfl, closeEffect_q pc k t⟩
    · simp
    · intro q qc hq
      refine ⟨if p = q then closedPc qc else qc, by rw [hpcs q, hq]; rfl, ?_, [], ?_, by simp⟩
      · intro h; split
        · rfl
        · exact h
      · split <;> simp [closedPc]
    · intro q qc' hle hq'
      have : q < (s.pcs.modify p closedPc).length := getElem?_lt hq'
      simp at this; omega
    · intro k t t' p0 pc' ht hph ht' hcl hp'
      right
      rw [htc k, ht] at ht'
      simp only [Option.map_some, Option.some.injEq] at ht'
      subst ht'
      -- `k` was closed by this operation, so it is in `conns` of `pc`, hence attached to `p`
      have hk : k ∈ pc.conns.map (·.2) := by
        apply Classical.byContradiction
        intro hk
        unfold closeEffect at hcl
        simp only [hk, if_false] at hcl
        split at hcl <;> (rw [hph] at hcl; cases hcl)
      obtain ⟨a, ha⟩ := mem_conns_snd.1 hk
      obtain ⟨t2, ht2, hph2, _⟩ := (hi.pc p pc hp).1 a k ha
      rw [ht] at ht2; cases ht2
      rw [hph] at hph2; cases hph2
      rw [hpcs p, hp] at hp'
      simp only [Option.map_some, if_true, Option.some.injEq] at hp'
      rw [← hp']; rfl
  · apply rlSame_of_pointwise (Pointwise.closePc1 s p pc)
    intro q qc; split <;> rfl

theorem runReader_quiet (s : State) (k : Nat) (hi : Inv s) (h2 : Inv2 s)
    (hel : ∀ (k : Nat) (t : Tcp) (a b : List Item) (it : Item), s.tcps[k]? = some t → t.inbox = a ++ it :: b →
      isEnd it = true → b = []) :
    Quiet s (runReader s k) ∧ RLSame s (runReader s k) ∧ (runReader s k).pcs.map absPc = s.pcs.map absPc := by
  refine runReader_rule (R := fun x => Quiet s x ∧ RLSame s x ∧ x.pcs.map absPc = s.pcs.map absPc) s k
    ⟨quiet_refl s, RLSame.refl s, rfl⟩ ?_
  intro t p pc d ht hph hrd hp hd
  have dok : DrainOk k p t.peer pc d := hd ▸ drain_ok ..
  have dq : DrainQ k t.peer t.inbox pc d := hd ▸ drain_q ..
  have dabs : absPc d.pc = absPc pc := hd ▸ drain_abs ..
  have htpc : t.pc = some p := (hi.att ht hph).1
  have htc : ∀ j : Nat, (s.tcps.modify k (fun t => { t with phase := d.phase, reader := d.reader, inbox := d.inbox }))[j]? =
      (s.tcps[j]?).map (fun a => if k = j then { a with phase := d.phase, reader := d.reader, inbox := d.inbox } else a) :=
    fun j => getElem?_modify_map ..
  have hpcs : ∀ q : Nat, (s.pcs.modify p (fun _ => d.pc))[q]? = (s.pcs[q]?).map (fun a => if p = q then d.pc else a) :=
    fun q => getElem?_modify_map ..
  have dphase : d.phase = .attached p ∨ d.phase = .closed := by
    rcases dok.shape with ⟨h, _⟩ | ⟨h, _⟩
    · exact Or.inl h
    · exact Or.inr h
  obtain ⟨new, hnew, hnprop, hnclosed⟩ := dq.ex
  refine ⟨?_, ?_, ?_⟩
  · constructor
    · rfl
    · rfl
    · rfl
    · simp
    · intro j tj htj
      refine ⟨_, by rw [htc j, htj]; rfl, ?_⟩
      by_cases hjk : k = j
      · subst hjk
        rw [ht] at htj; cases htj
        simp only [if_true]
        refine ⟨rfl, rfl, rfl, rfl, rfl, rfl, ?_, dq.suffix, fun bp hbp => Or.inr (dq.blk bp hbp)⟩
        rcases dphase with h | h
        · left; rw [hph]; exact h
        · right; exact h
      · simp only [hjk, if_false]; exact TcpQ.refl tj
    · simp
    · intro q qc hq
      refine ⟨_, by rw [hpcs q, hq]; rfl, ?_⟩
      by_cases hpq : p = q
      · subst hpq
        rw [hp] at hq; cases hq
        simp only [if_true]
        refine ⟨fun h => by rw [dok.closed]; exact h, new, hnew, ?_⟩
        intro y hy hye
        obtain ⟨yc, ys, yl⟩ := hnprop y hy
        exact ⟨yl hye, t, by rw [yc]; exact ht, hph, ys⟩
      · simp only [hpq, if_false]
        exact ⟨fun h => h, [], by simp, by simp⟩
    · intro q qc' hle hq'
      have : q < (s.pcs.modify p (fun _ => d.pc)).length := getElem?_lt hq'
      simp at this; omega
    · intro j tj tj' p0 pc' htj hphj htj' hcl hp'
      rw [htc j, htj] at htj'
      simp only [Option.map_some, Option.some.injEq] at htj'
      by_cases hjk : k = j
      · subst hjk
        rw [ht] at htj; cases htj
        rw [hph] at hphj; cases hphj
        simp only [if_true] at htj'
        subst htj'
        rw [hpcs p, hp] at hp'
        simp only [Option.map_some, if_true, Option.some.injEq] at hp'
        subst hp'
        left
        obtain ⟨rest, hr1, hr2⟩ := hnclosed hcl (hel k t · · · ht)
        have ho := ((h2.tcp k t ht).order p pc htpc hp).1 p hph
        rw [hrd] at ho
        simp only [blkIds, List.append_nil] at ho
        intro f hf
        apply hr2 f
        simp only at hf
        rw [← ho, hr1, hnew, fromConn_append, dataIds_append,
          fromConn_all (l := new) (fun x hx => (hnprop x hx).1)] at hf
        rw [← List.append_assoc, List.getElem?_append_right (Nat.le_refl _), Nat.sub_self] at hf
        rw [List.head?_eq_getElem?]; exact hf
      · simp only [hjk, if_false] at htj'
        subst htj'
        rw [hphj] at hcl; cases hcl
  · intro q qc hq
    refine ⟨_, by rw [hpcs q, hq]; rfl, ?_⟩
    by_cases hpq : p = q
    · subst hpq
      rw [hp] at hq; cases hq
      simp only [if_true]; exact dok.readLog
    · simp only [hpq, if_false]
  · exact map_modify_at absPc _ hp dabs

theorem runReader_flags (s : State) (k : Nat) : SameFlags s (runReader s k) :=
  runReader_rule s k ⟨rfl, rfl, rfl, rfl, rfl, rfl⟩ (fun _ _ _ _ _ _ _ _ _ => ⟨rfl, rfl, rfl, rfl, rfl, rfl⟩)

/-- nothing was written to any client and no connection appeared -/
def Calm (s s' : State) : Prop := OutQ s s' ∧ s'.tcps.length = s.tcps.length

theorem Calm.refl (s : State) : Calm s s := ⟨OutQ.refl s, rfl⟩
theorem Calm.trans {a b c : State} (h1 : Calm a b) (h2 : Calm b c) : Calm a c :=
  ⟨h1.1.trans h2.1, h2.2.trans h1.2⟩

theorem Calm.of_tcps {s s' : State} (h : s'.tcps = s.tcps) : Calm s s' := by
  unfold Calm OutQ; rw [h]; exact ⟨fun _ t ht => ⟨t, ht, rfl⟩, rfl⟩

theorem calm_setTcp (s : State) (k : Nat) (g : Tcp → Tcp) (hg : ∀ t, (g t).out = t.out) : Calm s (setTcp s k g) :=
  ⟨outQ_setTcp s k g hg, by simp [setTcp]⟩

theorem calm_runReader (s : State) (k : Nat) : Calm s (runReader s k) :=
  runReader_rule s k (Calm.refl s) (fun _ p _ d _ _ _ _ _ =>
    ⟨outQ_of_pointwise (Pointwise.drain s k p d) (by intro j tj; split <;> rfl), by simp⟩)

theorem calm_closePc1 (s : State) (p : Nat) : Calm s (closePc1 s p) :=
  closePc1_rule s p (Calm.refl s) (fun pc _ _ =>
    ⟨outQ_of_pointwise (Pointwise.closePc1 s p pc) (closeEffect_out pc), by simp⟩)

theorem calm_closePcsWhere (sel : PConn → Bool) (s : State) : Calm s (closePcsWhere sel s) :=
  closePcsWhere_rule sel s (Calm.refl s) (fun x p hx => hx.trans (calm_closePc1 x p))

theorem calm_registered (s : State) (p k : Nat) (peer : Addr) (f : Frame) :
    Calm s (runReader (registered s p k peer f) k) :=
  ((Calm.of_tcps (s' := setPc s p _) rfl).trans (calm_setTcp _ k _ (by intro _; rfl))).trans (calm_runReader _ k)

theorem calm_readPc (s : State) (p : Nat) : Calm s (readPc s p).1 := by
  have unblock : ∀ (x : State) (g : PConn → PConn) (k : Nat) (w : Tcp → Tcp), x.tcps = s.tcps → (∀ t, (w t).out = t.out) →
      Calm s (runReader (setTcp (setPc x p g) k w) k) := fun x g k w hx hw =>
    ((Calm.of_tcps (s' := setPc x p g) hx).trans (calm_setTcp _ k w hw)).trans (calm_runReader _ k)
  unfold readPc
  split
  · exact Calm.refl s
  · split
    · dsimp only
      split
      · exact Calm.of_tcps rfl
      · split
        · exact unblock _ _ _ _ rfl (by intro _; rfl)
        · exact Calm.of_tcps rfl
    · split
      · split
        · exact unblock _ _ _ _ rfl (by intro _; rfl)
        · exact Calm.refl s
      · split <;> exact Calm.refl s

theorem does_calm {s s' : State} {op : Op} {r : Res} (h : Does s op s' r) (hna : ∀ peer lip, op ≠ .accept peer lip)
    (hnw : ∀ h d p l, op = .write h d p l → s.handles[h]? = none) : Calm s s' := by
  cases h with
  | accept peer lip _ => exact absurd rfl (hna peer lip)
  | refuse peer lip _ => exact absurd rfl (hna peer lip)
  | wrote h dst pid len hd _ _ hh _ _ _ => rw [hnw h dst pid len rfl] at hh; cases hh
  | frameFirst k f t d _ _ _ _ _ ff =>
    cases ff with
    | bad _ => exact calm_setTcp s k _ (by intro _; rfl)
    | dup _ _ _ _ _ _ _ _ _ => exact calm_setTcp s k _ (by intro _; rfl)
    | join u p pc _ _ _ _ _ _ => exact calm_registered s p k t.peer f
    | fresh u _ _ => exact Calm.trans (b := { s with pcs := s.pcs ++ [_] }) (Calm.of_tcps rfl) (calm_registered _ _ k t.peer f)
  | framePush k f t q _ _ _ => exact (calm_setTcp s k _ (by intro _; rfl)).trans (calm_runReader _ k)
  | stall k t _ _ => exact calm_setTcp s k _ (by intro _; rfl)
  | gone k r t _ _ _ => exact calm_setTcp s k _ (by intro _; rfl)
  | hangup k r t d _ _ _ => exact calm_setTcp s k _ (by intro _; rfl)
  | pushEnd k r t q _ _ _ => exact (calm_setTcp s k _ (by intro _; rfl)).trans (calm_runReader _ k)
  | advance dt =>
    refine (calm_closePcsWhere _ s).trans ⟨outQ_of_pointwise (Pointwise.tick _ (s.now + dt)) (fun _ t => ?_), by simp [ticked]⟩
    unfold expireTcp
    split
    · split <;> rfl
    · rfl
  | claim key p _ _ => exact Calm.of_tcps rfl
  | create key _ _ => exact Calm.of_tcps rfl
  | remove u => exact calm_closePcsWhere _ s
  | closehNoPc h hd _ _ _ => exact Calm.of_tcps rfl
  | closehKeep h hd pc _ _ _ _ => exact Calm.of_tcps rfl
  | closehLast h hd pc _ _ _ _ => exact (Calm.of_tcps (s' := dropRef s h hd.pc) rfl).trans (calm_closePc1 _ hd.pc)
  | closepc h hd _ => exact calm_closePc1 s hd.pc
  | read h hd _ _ => exact calm_readPc s hd.pc
  | shut _ => exact (calm_closePcsWhere _ s).trans (Calm.of_tcps rfl)
  | _ => exact Calm.refl s

theorem expireTcp_q (now : Nat) (t : Tcp) : TcpQ t (expireTcp now t) := by
  unfold expireTcp
  split
  · split
    · exact ⟨rfl, rfl, rfl, rfl, rfl, rfl, Or.inr rfl, ⟨t.inbox, by simp [closeTcp]⟩, by simp [closeTcp]⟩
    · exact TcpQ.refl t
  · exact TcpQ.refl t

theorem tick_quiet (s : State) (now' : Nat) :
    Quiet s { s with now := now', tcps := s.tcps.map (expireTcp now') } ∧
    RLSame s { s with now := now', tcps := s.tcps.map (expireTcp now') } := by
  refine ⟨?_, ?_⟩
  · apply quiet_of_pointwise (Pointwise.tick s now') rfl rfl rfl
    · intro j t _
      refine ⟨expireTcp_q now' t, ?_⟩
      intro hcl p hp
      unfold expireTcp at hcl
      rw [hp] at hcl
      simp only at hcl
      rw [hp] at hcl; cases hcl
    · intro q pc _
      exact ⟨fun h => h, [], by simp, by simp⟩
  · exact rlSame_of_pointwise (Pointwise.tick s now') (fun _ _ => rfl)

theorem absPc_closedPc (pc : PConn) (h : pc.closed = false) : absPc (closedPc pc) = closeOne (absPc pc) := by
  simp [absPc, closedPc, closeOne, h]

theorem absPc_closed_closeOne (pc : PConn) (h : pc.closed = true) : closeOne (absPc pc) = absPc pc := by
  simp [absPc, closeOne, h]

theorem closeWhere_abs (sel : PConn → Bool) (msel : MPc → Bool) (pcs : List PConn)
    (h : ∀ pc, pc ∈ pcs → pc.closed = false → msel (absPc pc) = sel pc) :
    closeWhere (pcs.map absPc) msel = (pcs.map (closeSel sel)).map absPc := by
  unfold closeWhere
  rw [List.map_map, List.map_map]
  apply List.map_congr_left
  intro pc hpc
  simp only [Function.comp]
  unfold closeSel
  cases hc : pc.closed with
  | true =>
    simp only [Bool.true_eq_false, and_false, if_false]
    split
    · exact absPc_closed_closeOne pc hc
    · rfl
  | false =>
    rw [h pc hpc hc]
    by_cases hs : sel pc = true
    · simp only [hs, and_self, if_true]; exact (absPc_closedPc pc hc).symm
    · simp [hs]

theorem closePcsWhere_quiet (sel : PConn → Bool) (s : State) (hi : Inv s) :
    Quiet s (closePcsWhere sel s) ∧ RLSame s (closePcsWhere sel s) := by
  have := closePcsWhere_rule (R := fun x => Inv x ∧ x.pcs.length = s.pcs.length ∧ Quiet s x ∧ RLSame s x) sel s
    ⟨hi, rfl, quiet_refl s, RLSame.refl s⟩
    (fun x p ⟨ix, lx, qx, rx⟩ => by
      obtain ⟨q, r⟩ := closePc1_quiet x p ix
      exact ⟨closePc1_inv x p ix, by rw [closePc1_pcs_map, List.length_modify]; exact lx, qx.trans' q lx hi, rx.trans r⟩)
  exact this.2.2

end IceProofs.TcpMux

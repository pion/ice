import IceProofs.AgentC05
import IceProofs.AgentLookups
/-!
# Lemmas for C20: what the controlled selector does with nominations

About `IceModel.AgentCore` only.  `nv` is the nomination view of a pair (id, state, nominated,
nomOnSuccess, deferredNom); sending a response or a check moves counters only and leaves the view and the
selection alone.
-/
namespace IceProofs.Agent
open IceModel.AgentCore

/-- nomination view of a pair: everything except counters, candidates and ghost flags -/
def nv (p : Pair) : Nat × PairState × Bool × Bool × Option Nat :=
  (p.id, p.state, p.nominated, p.nomOnSuccess, p.deferredNom)

/-- selection and nomination view of the checklist -/
def nomView (a : Agent) : Option Nat × List (Nat × PairState × Bool × Bool × Option Nat) :=
  (a.selected, a.checklist.map nv)

theorem updPair_nv (l : List Pair) (id : Nat) (f : Pair → Pair) (hf : ∀ p, nv (f p) = nv p) :
    (updPair l id f).map nv = l.map nv := by
  unfold updPair
  rw [List.map_map]
  apply List.map_congr_left
  intro p _
  simp only [Function.comp]
  split
  · exact hf p
  · rfl

theorem nomView_modPair (a : Agent) (id : Nat) (f : Pair → Pair) (hf : ∀ p, nv (f p) = nv p) :
    nomView (a.modPair id f) = nomView a := by
  unfold nomView Agent.modPair
  simp only [updPair_nv _ _ _ hf]

@[simp] theorem nomView_seenLocalSent (a : Agent) (u n : Nat) : nomView (a.seenLocalSent u n) = nomView a := rfl
@[simp] theorem nomView_seenRemoteRecv (a : Agent) (u n : Nat) : nomView (a.seenRemoteRecv u n) = nomView a := rfl

@[simp] theorem nomView_sendSuccess (a : Agent) (now : Nat) (m : Msg) (l r : Cand) :
    nomView (a.sendSuccess now m l r).1 = nomView a := by
  unfold Agent.sendSuccess
  simp only []
  split
  · rw [nomView_seenLocalSent]
    refine (nomView_modPair _ _ _ ?_).trans rfl
    intro p; rfl
  · rfl

@[simp] theorem nomView_sendRequest (a : Agent) (now : Nat) (l r : Cand) (u : Bool) (n : Option Nat) :
    nomView (a.sendRequest now l r u n).1 = nomView a := by
  unfold Agent.sendRequest
  simp only []
  split
  · rw [nomView_seenLocalSent]
    refine (nomView_modPair _ _ _ ?_).trans rfl
    intro p; rfl
  · rfl

@[simp] theorem nomView_ping (a : Agent) (now : Nat) (l r : Cand) : nomView (a.ping now l r).1 = nomView a := by
  unfold Agent.ping; simp

theorem pairById_nv (a : Agent) (id : Nat) :
    (a.pairById id).map nv = (a.checklist.map nv).find? (fun x => x.1 == id) := by
  unfold Agent.pairById
  rw [List.find?_map]
  rfl

theorem pairById_nv_congr {a b : Agent} (h : nomView a = nomView b) (id : Nat) :
    (a.pairById id).map nv = (b.pairById id).map nv := by
  rw [pairById_nv, pairById_nv]
  have : a.checklist.map nv = b.checklist.map nv := congrArg Prod.snd h
  rw [this]

theorem selected_bind_self {a : Agent} {id : Nat} {sp : Pair} (h : a.selected.bind a.pairById = some sp)
    (hid : sp.id = id) : a.selected = some id := by
  cases hs : a.selected with
  | none => simp [hs] at h
  | some sid =>
    simp only [hs, Option.bind_some] at h
    rw [← hid, (pairById_listed h).2]

theorem handleInbound_cld (a : Agent) (now : Nat) (l : Cand) (src : Nat) (m : Msg) (h : AuthRequest a m)
    (hctl : a.controlling = false) (hnc : roleConflict a m = none)
    {a1 : Agent} {o0 : List Out} {r : Cand} (hres : resolveSource a l src m = (a1, o0, some r)) :
    a.handleInbound now l src m
      = ((a1.cldHandleRequest now m l r).1.seenRemoteRecv r.uid now, (a1.cldHandleRequest now m l r).2) := by
  rw [handleInbound_request a now l src m h, hres]
  have hcr := core_resolveSource a l src m
  have ho := (resolveSource_discovered a l src m).2
  rw [hres] at hcr ho
  simp only at hcr ho
  subst ho
  have hc1 : a1.controlling = false := (congrArg Core.controlling hcr).trans hctl
  have hnc1 : roleConflict a1 m = none := (roleConflict_congr hcr m).trans hnc
  unfold roleConflict at hnc1
  unfold afterResolve toSelector
  cases hr : m.role with
  | none => simp [hc1]
  | some ct =>
    obtain ⟨ctl, tb⟩ := ct
    simp only [hr] at hnc1
    by_cases hcc : (ctl == a1.controlling) = true
    · simp [hcc] at hnc1
    · have hct : ctl = true := by
        cases ctl
        · simp [hc1] at hcc
        · rfl
      subst hct
      simp [hc1]

/-- the state in which the controlled selector decides: pair found or added, request counted -/
def counted (a1 : Agent) (m : Msg) (l r : Cand) : Agent :=
  (ensurePair a1 l r).1.modPair (ensurePair a1 l r).2.id (countReq m)

theorem counted_lastNomination (a1 : Agent) (m : Msg) (l r : Cand) :
    (counted a1 m l r).lastNomination = a1.lastNomination :=
  congrArg Core.lastNomination (by unfold counted; simp : (counted a1 m l r).core = a1.core)

theorem countReq_nv (m : Msg) (p : Pair) : nv (countReq m p) = nv p := rfl

theorem cld_rejected (a1 : Agent) (now : Nat) (m : Msg) (l r : Cand) (v last : Nat)
    (hn : m.nom = some v) (hl : a1.lastNomination = some last) (hle : v ≤ last) :
    a1.cldHandleRequest now m l r = (counted a1 m l r).sendSuccess now m l r := by
  rw [cldHandleRequest_nf]
  simp only []
  have h1 := counted_lastNomination a1 m l r
  unfold counted at h1
  rw [h1, hl, hn]
  have : ¬ v > last := by omega
  simp [shouldAcceptNomination, this, counted]

theorem cld_accepted (a1 : Agent) (now : Nat) (m : Msg) (l r : Cand) (v : Nat)
    (hn : m.nom = some v) (hgt : ∀ last, a1.lastNomination = some last → last < v) :
    a1.cldHandleRequest now m l r
      = cldProceed { counted a1 m l r with lastNomination := some v } now m l r (ensurePair a1 l r).2.id := by
  rw [cldHandleRequest_nf]
  simp only []
  have h1 := counted_lastNomination a1 m l r
  unfold counted at h1
  rw [h1, hn]
  have hacc := (accept_some_iff v a1.lastNomination).2 hgt
  have hfst := accept_some_fst v a1.lastNomination
  rw [hacc] at hfst
  simp only [if_true] at hfst
  simp [hacc, hfst, counted]

theorem cldProceed_nomView (a : Agent) (now : Nat) (m : Msg) (l r : Cand) (id : Nat) :
    nomView (cldProceed a now m l r id).1 = nomView (cldNominate a m id).1 := by
  unfold cldProceed
  simp only []
  split
  · split
    · simp
    · simp
  · simp

theorem cldNominate_immediate (a : Agent) (m : Msg) (id v : Nat) (q : Pair) (hn : m.nom = some v)
    (hq : a.pairById id = some q) (hs : q.state = .succeeded ∨ a.cfg.lite = true) :
    (cldNominate a m id).1.selected = some id := by
  unfold cldNominate
  simp only [hn, Option.isSome_some, Bool.or_true, if_true]
  -- the pair as seen after the lite upgrade
  have key : ∀ b : Agent, ∀ q' : Pair, b.pairById id = some q' → q'.state = .succeeded →
      (match b.pairById id with
        | none => (b, [])
        | some p =>
          if p.state == PairState.succeeded then
            if inlineSwitch b id m p then b.select id else (b, ([] : List Out))
          else (b.modPair id fun p => { p with nomOnSuccess := true, deferredNom := some v }, [])).1.selected = some id := by
    intro b q' hb hst
    simp only [hb, hst, beq_self_eq_true, if_true]
    unfold inlineSwitch
    split
    · simp [select_selected]
    · rename_i sp hsp
      by_cases hid : (sp.id == id) = true
      · simp only [hid, if_true, Bool.false_eq_true, if_false]
        exact selected_bind_self hsp (by simpa using hid)
      · simp [hid, hn, select_selected]
  by_cases hl : a.cfg.lite = true
  · simp only [hl, if_true]
    have hb := modPair_pairById_self (a := a) (fun p => { p with state := PairState.succeeded }) (fun _ => rfl) hq
    exact key _ _ hb rfl
  · simp only [hl]
    rcases hs with hs | hs
    · exact key _ _ hq hs
    · exact absurd hs hl

theorem cldNominate_deferred (a : Agent) (m : Msg) (id v : Nat) (q : Pair) (hn : m.nom = some v)
    (hq : a.pairById id = some q) (hs : q.state ≠ .succeeded) (hl : a.cfg.lite = false) :
    cldNominate a m id = (a.modPair id fun p => { p with nomOnSuccess := true, deferredNom := some v }, []) := by
  unfold cldNominate
  have : (q.state == PairState.succeeded) = false := by
    cases hq' : q.state <;> simp_all
  simp [hn, hl, hq, this]

theorem ensurePair_spec (a : Agent) (l r : Cand) :
    (ensurePair a l r).1.selected = a.selected ∧
    ∃ extra, (ensurePair a l r).1.checklist = a.checklist ++ extra ∧ ∀ p ∈ extra, FreshPair p := by
  unfold ensurePair
  split
  · exact ⟨rfl, [], by simp, by simp⟩
  · refine ⟨rfl, [{ id := a.nextPairID + 1, l := l.uid, r := r.uid, controlling := a.controlling }], rfl, ?_⟩
    intro p hp
    simp only [List.mem_singleton] at hp
    subst hp; rfl

theorem ensurePair_pairById (a : Agent) (l r : Cand) :
    ∃ q, (ensurePair a l r).1.pairById (ensurePair a l r).2.id = some q := by
  unfold ensurePair
  split
  · rename_i p hp
    exact pairById_of_mem (List.mem_of_find?_eq_some hp)
  · exact pairById_of_mem (by simp [Agent.addPair])

theorem counted_spec (a1 : Agent) (m : Msg) (l r : Cand) :
    (counted a1 m l r).selected = a1.selected ∧
    ∃ extra : List Pair, (counted a1 m l r).checklist.map nv = a1.checklist.map nv ++ extra.map nv ∧
      ∀ p ∈ extra, FreshPair p := by
  obtain ⟨h1, extra, h2, h3⟩ := ensurePair_spec a1 l r
  refine ⟨h1, extra, ?_, h3⟩
  unfold counted Agent.modPair
  simp only [updPair_nv _ _ _ (countReq_nv m), h2, List.map_append]

theorem counted_pairById (a1 : Agent) (m : Msg) (l r : Cand) (q : Pair)
    (hq : (ensurePair a1 l r).1.pairById (ensurePair a1 l r).2.id = some q) :
    (counted a1 m l r).pairById (ensurePair a1 l r).2.id = some (countReq m q) :=
  modPair_pairById_self (countReq m) (fun _ => rfl) hq

theorem map_nv_eq_some {o : Option Pair} {x : Nat × PairState × Bool × Bool × Option Nat}
    (h : o.map nv = some x) : ∃ q, o = some q ∧ nv q = x := by
  cases o with
  | none => simp at h
  | some q => exact ⟨q, rfl, by simpa using h⟩

theorem takePending_rest (a : Agent) (now tid : Nat) :
    (a.takePending now tid).1 = { a with pending := (a.takePending now tid).1.pending } := by
  unfold Agent.takePending
  simp only []
  split <;> rfl

/-- Deferred renomination: when the check of a pair carrying a deferred valued nomination `v` succeeds on a
controlled agent (transaction pending and symmetric: same network type, response from the request's
destination, arriving on the request's source address), the pair becomes the selected pair iff no greater value
has been accepted since (`lastNomination = some last` with `last ≤ v`); otherwise the selection stays.
Priorities play no part. -/
theorem handleSuccess_deferred (a : Agent) (now : Nat) (m : Msg) (l r : Cand) (src : Nat)
    (hctl : a.controlling = false) {a' : Agent} {pd : Pending} {p : Pair} {v : Nat}
    (htp : a.takePending now m.tid = (a', some pd)) (hnet : pd.net = l.net) (hdest : pd.dest = src)
    (hsrc : pd.src = l.addr)
    (hfp : a.findPair l r = some p) (hnos : p.nomOnSuccess = true) (hdn : p.deferredNom = some v) :
    (a.handleSuccess now m l r src).1.selected =
      match a.lastNomination with
      | some last => if v < last then a.selected else some p.id
      | none => a.selected := by
  have hrest := takePending_rest a now m.tid
  rw [htp] at hrest
  simp only at hrest
  have hfp' : a'.findPair l r = some p := by rw [hrest]; exact hfp
  have hc' : a'.controlling = false := by rw [hrest]; exact hctl
  have hl' : a'.lastNomination = a.lastNomination := by rw [hrest]
  have hs' : a'.selected = a.selected := by rw [hrest]
  unfold Agent.handleSuccess
  simp only [htp, hnet, hdest, hsrc, hfp', beq_self_eq_true, Bool.and_self, Bool.not_true, Bool.false_eq_true, if_false]
  simp only [Agent.modPair, hc', hnos, hdn, if_true, hl', Bool.false_eq_true, if_false]
  cases hln : a.lastNomination with
  | none => simp [hs']
  | some last =>
    by_cases hlt : v < last
    · simp [hlt, hs']
    · simp only [hlt, decide_false, Bool.false_eq_true, if_false]
      split
      · simp [select_selected]
      · rename_i hne
        simpa [hs'] using hne

end IceProofs.Agent

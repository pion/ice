import IceModel.TcpMux
import IceProofs.Basic
import IceProofs.CountP
/-!
# What the functions of the TCP-mux model do, stated once

Case rules with the postcondition as a variable for `closePc1`, `closePcsWhere` and `runReader`
(`*_rule`): a predicate is pushed through these functions by the rule; what closing does as equations
(`closePc1_nf`, `closePcsWhere_pcs`).  `Does` (with `FirstFrame` inside it): the case rule of `step` — every
outcome of every operation with what was looked up on the way; `step_does`.  `Micro`: the elementary
changes of the state; `Chain`: sequences of them; `step_shape`: every outcome is a chain, and an
operation that answers `.bad` leaves the state as it was.
-/
namespace IceProofs.TcpMux
open IceModel.TcpMux

theorem getElem?_modify_ne {α : Type} (l : List α) (i j : Nat) (f : α → α) (h : j ≠ i) :
    (l.modify i f)[j]? = l[j]? :=
  List.getElem?_modify_ne f l (Ne.symm h)

theorem getElem?_modify_eq {α : Type} (l : List α) (i : Nat) (f : α → α) :
    (l.modify i f)[i]? = (l[i]?).map f :=
  List.getElem?_modify_eq f i l

theorem modify_lookup {α : Type} {l : List α} {k : Nat} {a : α} (f : α → α) (h : l[k]? = some a) :
    (∀ j, j ≠ k → (l.modify k f)[j]? = l[j]?) ∧ (l.modify k f)[k]? = some (f a) :=
  ⟨fun j hj => getElem?_modify_ne _ _ _ _ hj, by rw [getElem?_modify_eq, h]; rfl⟩

theorem modify_cases {α : Type} {l : List α} {k : Nat} {a : α} (f : α → α) (h : l[k]? = some a) {j : Nat} {b : α}
    (hj : (l.modify k f)[j]? = some b) : (j ≠ k ∧ l[j]? = some b) ∨ (j = k ∧ b = f a) := by
  obtain ⟨ne, eq⟩ := modify_lookup f h
  by_cases hjk : j = k
  · subst hjk; rw [eq] at hj; cases hj; exact Or.inr ⟨rfl, rfl⟩
  · rw [ne j hjk] at hj; exact Or.inl ⟨hjk, hj⟩

theorem getElem?_modify_map {α : Type} (l : List α) (i j : Nat) (f : α → α) :
    (l.modify i f)[j]? = (l[j]?).map (fun a => if i = j then f a else a) := by
  rw [List.getElem?_modify]; rfl

theorem modify_congr_at {α : Type} {l : List α} {p : Nat} (f g : α → α) (h : ∀ a, l[p]? = some a → f a = g a) :
    l.modify p f = l.modify p g := by
  apply List.ext_getElem?; intro q
  rw [getElem?_modify_map, getElem?_modify_map]
  cases hq : l[q]? with
  | none => rfl
  | some a =>
    simp only [Option.map_some, Option.some.injEq]
    split
    · rename_i e; subst e; exact h a hq
    · rfl

theorem modify_same_at {α : Type} {l : List α} {p : Nat} (f : α → α) (h : ∀ a, l[p]? = some a → f a = a) :
    l.modify p f = l := by
  rw [modify_congr_at f id h, List.modify_id]

theorem map_id_pointwise {α : Type} (o : Option α) : o = o.map (fun a => a) := by cases o <;> rfl

theorem getElem?_append_old {α : Type} (l : List α) (a : α) (i : Nat) (x : α) (h : l[i]? = some x) :
    (l ++ [a])[i]? = some x := by
  have hl : i < l.length := by
    apply Nat.lt_of_not_le; intro hle; rw [List.getElem?_eq_none_iff.2 hle] at h; cases h
  rw [List.getElem?_append_left hl]; exact h

/-- `s'` is `s` with connection `j` changed by `g j` and packet connection `q` by `h q` -/
structure Pointwise (s s' : State) (g : Nat → Tcp → Tcp) (h : Nat → PConn → PConn) : Prop where
  tcps : ∀ j, s'.tcps[j]? = (s.tcps[j]?).map (g j)
  pcs : ∀ q, s'.pcs[q]? = (s.pcs[q]?).map (h q)

theorem map_eq_some {α β : Type} {o : Option α} {f : α → β} {b : β} (h : o.map f = some b) :
    ∃ a, o = some a ∧ b = f a := by
  cases o with
  | none => cases h
  | some a => exact ⟨a, rfl, by simpa using h.symm⟩

namespace Pointwise
variable {s s' : State} {g : Nat → Tcp → Tcp} {h : Nat → PConn → PConn} (pw : Pointwise s s' g h)
include pw

theorem tget {j : Nat} {t' : Tcp} (ht' : s'.tcps[j]? = some t') : ∃ t, s.tcps[j]? = some t ∧ t' = g j t :=
  map_eq_some (pw.tcps j ▸ ht')

theorem pget {q : Nat} {pc' : PConn} (hq' : s'.pcs[q]? = some pc') : ∃ pc, s.pcs[q]? = some pc ∧ pc' = h q pc :=
  map_eq_some (pw.pcs q ▸ hq')

theorem tfw {j : Nat} {t : Tcp} (ht : s.tcps[j]? = some t) : s'.tcps[j]? = some (g j t) := by
  rw [pw.tcps j, ht]; rfl

theorem pfw {q : Nat} {pc : PConn} (hq : s.pcs[q]? = some pc) : s'.pcs[q]? = some (h q pc) := by
  rw [pw.pcs q, hq]; rfl

end Pointwise

theorem Pointwise.same {s s' : State} (ht : s'.tcps = s.tcps) (hp : s'.pcs = s.pcs) :
    Pointwise s s' (fun _ t => t) (fun _ pc => pc) :=
  ⟨fun _ => ht ▸ map_id_pointwise _, fun _ => hp ▸ map_id_pointwise _⟩

theorem Pointwise.setTcp (s : State) (k : Nat) (f : Tcp → Tcp) :
    Pointwise s (IceModel.TcpMux.setTcp s k f) (fun j t => if k = j then f t else t) (fun _ pc => pc) :=
  ⟨fun _ => getElem?_modify_map .., fun _ => map_id_pointwise _⟩

theorem Pointwise.setPc (s : State) (p : Nat) (f : PConn → PConn) :
    Pointwise s (IceModel.TcpMux.setPc s p f) (fun _ t => t) (fun q pc => if p = q then f pc else pc) :=
  ⟨fun _ => map_id_pointwise _, fun _ => getElem?_modify_map ..⟩

theorem Pointwise.tick (s : State) (now' : Nat) :
    Pointwise s { s with now := now', tcps := s.tcps.map (expireTcp now') } (fun _ t => expireTcp now' t)
      (fun _ pc => pc) :=
  ⟨fun _ => List.getElem?_map, fun _ => map_id_pointwise _⟩

/-- what `closePc1` does to TCP connection `k` when it closes packet connection `pc` -/
def closeEffect (pc : PConn) (k : Nat) (t : Tcp) : Tcp :=
  if k ∈ pc.conns.map (·.2) then closeTcp t
  else if k ∈ pc.blockedQ then { t with reader := .none }
  else t

def closedPc (pc : PConn) : PConn := { pc with closed := true, alive := none, conns := [], blockedQ := [] }

theorem Pointwise.drain (s : State) (k p : Nat) (d : Drain) :
    Pointwise s { s with
        tcps := s.tcps.modify k (fun t => { t with phase := d.phase, reader := d.reader, inbox := d.inbox })
        pcs := s.pcs.modify p (fun _ => d.pc) }
      (fun j tj => if k = j then { tj with phase := d.phase, reader := d.reader, inbox := d.inbox } else tj)
      (fun q qc => if p = q then d.pc else qc) :=
  ⟨fun _ => getElem?_modify_map .., fun _ => getElem?_modify_map ..⟩

theorem Pointwise.closePc1 (s : State) (p : Nat) (pc : PConn) :
    Pointwise s { s with tcps := s.tcps.mapIdx (closeEffect pc), pcs := s.pcs.modify p closedPc } (closeEffect pc)
      (fun q qc => if p = q then closedPc qc else qc) :=
  ⟨fun _ => List.getElem?_mapIdx, fun _ => getElem?_modify_map ..⟩

theorem closePc1_eq (s : State) (p : Nat) (pc : PConn) (h : s.pcs[p]? = some pc) (hc : pc.closed = false) :
    closePc1 s p = { s with tcps := s.tcps.mapIdx (closeEffect pc), pcs := s.pcs.modify p closedPc } := by
  unfold closePc1
  simp only [h, hc]
  rfl

theorem closePc1_noop (s : State) (p : Nat) (h : ∀ pc, s.pcs[p]? = some pc → pc.closed = true) :
    closePc1 s p = s := by
  unfold closePc1
  cases hp : s.pcs[p]? with
  | none => rfl
  | some pc => simp [h pc hp]

theorem closePc1_rule {R : State → Prop} (s : State) (p : Nat) (h0 : R s)
    (h1 : ∀ pc, s.pcs[p]? = some pc → pc.closed = false →
      R { s with tcps := s.tcps.mapIdx (closeEffect pc), pcs := s.pcs.modify p closedPc }) :
    R (closePc1 s p) := by
  cases hp : s.pcs[p]? with
  | none => rw [closePc1_noop s p (by simp [hp])]; exact h0
  | some pc =>
    cases hc : pc.closed with
    | true => rw [closePc1_noop s p (by intro pc' h'; rw [hp] at h'; cases h'; exact hc)]; exact h0
    | false => rw [closePc1_eq s p pc hp hc]; exact h1 pc hp hc

theorem closePcsWhere_rule {R : State → Prop} (sel : PConn → Bool) (s : State) (h0 : R s)
    (hs : ∀ x p, R x → R (closePc1 x p)) : R (closePcsWhere sel s) := by
  unfold closePcsWhere
  apply List.foldl_inv R _ _ _ h0
  intro b a hb
  split
  · split
    · exact hs _ _ hb
    · exact hb
  · exact hb

theorem runReader_rule {R : State → Prop} (s : State) (k : Nat) (h0 : R s)
    (h1 : ∀ (t : Tcp) (p : Nat) (pc : PConn) (d : Drain), s.tcps[k]? = some t → t.phase = .attached p →
      t.reader = .idle → s.pcs[p]? = some pc → d = drain s.cfg.cap k p t.peer t.inbox pc →
      R { s with
          tcps := s.tcps.modify k (fun t => { t with phase := d.phase, reader := d.reader, inbox := d.inbox })
          pcs := s.pcs.modify p (fun _ => d.pc) }) :
    R (runReader s k) := by
  unfold runReader
  cases ht : s.tcps[k]? with
  | none => exact h0
  | some t =>
    simp only
    cases hph : t.phase with
    | pending d => exact h0
    | closed => exact h0
    | attached p =>
      cases hrd : t.reader with
      | none => exact h0
      | blocked _ _ => exact h0
      | idle =>
        simp only
        cases hp : s.pcs[p]? with
        | none => exact h0
        | some pc => exact h1 t p pc _ ht hph hrd hp rfl

theorem effTimeout_pos (t : Nat) : 0 < effTimeout t := by
  unfold effTimeout; split <;> omega

def closeIfOpen (qc : PConn) : PConn := if qc.closed = false then closedPc qc else qc

/-- what `closePc1 s p` does to connection `k` -/
def closeEffectAt (s : State) (p : Nat) (k : Nat) (t : Tcp) : Tcp :=
  match s.pcs[p]? with
  | some pc => if pc.closed then t else closeEffect pc k t
  | none => t

theorem mapIdx_id {α : Type} (l : List α) : l.mapIdx (fun _ a => a) = l := by
  apply List.ext_getElem?; intro i; rw [List.getElem?_mapIdx]; cases l[i]? <;> rfl

theorem closePc1_nf (s : State) (p : Nat) :
    closePc1 s p = { s with tcps := s.tcps.mapIdx (closeEffectAt s p), pcs := s.pcs.modify p closeIfOpen } := by
  cases hp : s.pcs[p]? with
  | none =>
    rw [closePc1_noop s p (by simp [hp]), modify_same_at closeIfOpen (by simp [hp])]
    have : closeEffectAt s p = fun _ t => t := by funext k t; simp [closeEffectAt, hp]
    rw [this, mapIdx_id]
  | some pc =>
    cases hc : pc.closed with
    | true =>
      rw [closePc1_noop s p (by intro pc' h'; rw [hp] at h'; cases h'; exact hc),
        modify_same_at closeIfOpen (by intro qc hq; rw [hp] at hq; cases hq; simp [closeIfOpen, hc])]
      have : closeEffectAt s p = fun _ t => t := by funext k t; simp [closeEffectAt, hp, hc]
      rw [this, mapIdx_id]
    | false =>
      rw [closePc1_eq s p pc hp hc]
      have h1 : closeEffectAt s p = closeEffect pc := by funext k t; simp [closeEffectAt, hp, hc]
      rw [h1, modify_congr_at closeIfOpen closedPc (by intro qc hq; rw [hp] at hq; cases hq; simp [closeIfOpen, hc])]

/-- the fields no goroutine of the mux writes -/
structure SameFlags (s s' : State) : Prop where
  cfg : s'.cfg = s.cfg
  now : s'.now = s.now
  listenerOpen : s'.listenerOpen = s.listenerOpen
  muxClosed : s'.muxClosed = s.muxClosed
  closedAt : s'.closedAt = s.closedAt
  handles : s'.handles = s.handles

theorem SameFlags.trans {a b c : State} (h1 : SameFlags a b) (h2 : SameFlags b c) : SameFlags a c :=
  ⟨h2.cfg.trans h1.cfg, h2.now.trans h1.now, h2.listenerOpen.trans h1.listenerOpen, h2.muxClosed.trans h1.muxClosed,
    h2.closedAt.trans h1.closedAt, h2.handles.trans h1.handles⟩

theorem closePc1_flags (s : State) (p : Nat) : SameFlags s (closePc1 s p) := by
  rw [closePc1_nf]; exact ⟨rfl, rfl, rfl, rfl, rfl, rfl⟩

theorem closePcsWhere_flags (sel : PConn → Bool) (s : State) : SameFlags s (closePcsWhere sel s) :=
  closePcsWhere_rule sel s ⟨rfl, rfl, rfl, rfl, rfl, rfl⟩ (fun x p hx => hx.trans (closePc1_flags x p))

theorem closePc1_pcs_map (s : State) (p : Nat) : (closePc1 s p).pcs = s.pcs.modify p closeIfOpen := by
  rw [closePc1_nf]

/-- every packet connection of `s'` is the one of `s` at the same index, possibly closed since -/
def PcsMono (s s' : State) : Prop :=
  ∀ (q : Nat) (qc' : PConn), s'.pcs[q]? = some qc' → ∃ qc, s.pcs[q]? = some qc ∧ (qc' = qc ∨ qc' = closedPc qc)

theorem mono_closed {s s' : State} (h : PcsMono s s') (q : Nat) (qc qc' : PConn)
    (h0 : s.pcs[q]? = some qc) (h1 : s'.pcs[q]? = some qc') (hc : qc.closed = true) : qc'.closed = true := by
  obtain ⟨qc0, e0, e⟩ := h q qc' h1
  rw [h0] at e0; cases e0
  rcases e with rfl | rfl
  · exact hc
  · rfl

def closeSel (sel : PConn → Bool) (pc : PConn) : PConn :=
  if sel pc = true ∧ pc.closed = false then closedPc pc else pc

theorem foldl_modify_range {α : Type} (g : α → α) (l : List α) (n : Nat) :
    (List.range n).foldl (fun l i => l.modify i g) l = l.mapIdx (fun i a => if i < n then g a else a) := by
  induction n with
  | zero => simp [mapIdx_id]
  | succ n ih =>
    rw [List.range_succ, List.foldl_append, ih]
    apply List.ext_getElem?
    intro i
    simp only [List.foldl_cons, List.foldl_nil, getElem?_modify_map, List.getElem?_mapIdx]
    cases l[i]? with
    | none => rfl
    | some a =>
      simp only [Option.map_some, Option.some.injEq]
      by_cases e : n = i
      · subst e; simp
      · have : i < n + 1 ↔ i < n := by omega
        simp [e, this]

theorem closePcsWhere_pcs (sel : PConn → Bool) (s : State) :
    (closePcsWhere sel s).pcs = s.pcs.map (closeSel sel) := by
  let f : State → Nat → State := fun s p => match s.pcs[p]? with
    | some pc => if sel pc then closePc s p else s
    | none => s
  -- one step closes position `p` if it is selected, and keeps the length
  have hf : ∀ x p, (f x p).pcs = x.pcs.modify p (closeSel sel) := by
    intro x p
    apply List.ext_getElem?
    intro q
    rw [getElem?_modify_map]
    simp only [f]
    cases hp : x.pcs[p]? with
    | none =>
      cases hq : x.pcs[q]? with
      | none => rfl
      | some qc =>
        have : p ≠ q := by intro e; subst e; rw [hp] at hq; cases hq
        simp [this]
    | some pc =>
      simp only
      cases hsel : sel pc with
      | true =>
        show (closePc1 x p).pcs[q]? = _
        rw [closePc1_pcs_map, getElem?_modify_map]
        cases hq : x.pcs[q]? with
        | none => rfl
        | some qc =>
          by_cases e : p = q
          · subst e; rw [hp] at hq; cases hq; simp [closeSel, closeIfOpen, hsel]
          · simp [e]
      | false =>
        simp only [Bool.false_eq_true, if_false]
        cases hq : x.pcs[q]? with
        | none => rfl
        | some qc =>
          by_cases e : p = q
          · subst e; rw [hp] at hq; cases hq; simp [closeSel, hsel]
          · simp [e]
  have key : ∀ (is : List Nat) (x : State), (is.foldl f x).pcs = is.foldl (fun l i => l.modify i (closeSel sel)) x.pcs := by
    intro is
    induction is with
    | nil => intro x; rfl
    | cons i is ih => intro x; rw [List.foldl_cons, List.foldl_cons, ih, hf]
  show ((List.range s.pcs.length).foldl f s).pcs = _
  rw [key, foldl_modify_range]
  apply List.ext_getElem?
  intro q
  rw [List.getElem?_mapIdx, List.getElem?_map]
  cases hq : s.pcs[q]? with
  | none => rfl
  | some qc =>
    have : q < s.pcs.length := by
      apply Nat.lt_of_not_le; intro hle; rw [List.getElem?_eq_none_iff.2 hle] at hq; cases hq
    simp [this]

theorem closePcsWhere_spec (sel : PConn → Bool) (s : State) (q : Nat) (qc : PConn)
    (h : (closePcsWhere sel s).pcs[q]? = some qc) : qc.closed = true ∨ sel qc = false := by
  rw [closePcsWhere_pcs, List.getElem?_map] at h
  obtain ⟨qc0, _, rfl⟩ := map_eq_some h
  unfold closeSel
  by_cases hs : sel qc0 = true
  · cases hc : qc0.closed with
    | true => simp [hc]
    | false => simp [hs, closedPc]
  · simp [hs]

theorem closeAll_closed {s : State} {q : Nat} {qc : PConn} (h : (closePcsWhere (fun _ => true) s).pcs[q]? = some qc) :
    qc.closed = true :=
  (closePcsWhere_spec (fun _ => true) s q qc h).resolve_right nofun

theorem findPc_some {pcs : List PConn} {key : Key} {p : Nat} (h : findPc pcs key = some p) :
    ∃ pc, pcs[p]? = some pc ∧ pc.closed = false ∧ pc.key = key := by
  unfold findPc at h
  obtain ⟨hlt, hp, _⟩ := List.findIdx?_eq_some_iff_getElem.1 h
  refine ⟨pcs[p], by simp [hlt], ?_, ?_⟩
  · simp at hp; exact hp.1
  · simp at hp; exact hp.2

theorem findPc_none {pcs : List PConn} {key : Key} (h : findPc pcs key = none) :
    ∀ (q : Nat) (qc : PConn), pcs[q]? = some qc → qc.closed = false → qc.key ≠ key := by
  intro q qc hq ho hk
  unfold findPc at h
  have := List.findIdx?_eq_none_iff.1 h qc (List.mem_iff_getElem?.2 ⟨q, hq⟩)
  simp [ho, hk] at this

theorem ensurePc_tcps (s : State) (key : Key) : (ensurePc s key).1.tcps = s.tcps := by
  unfold ensurePc; split <;> rfl

theorem ensurePc_now (s : State) (key : Key) : (ensurePc s key).1.now = s.now := by
  unfold ensurePc; split <;> rfl

theorem blockedOf_some {s : State} {k : Nat} {bp : Pkt} {fin : Bool} (h : blockedOf s k = some (bp, fin)) :
    ∃ t, s.tcps[k]? = some t ∧ t.reader = .blocked bp fin := by
  unfold blockedOf at h
  split at h
  · rename_i t ht
    split at h
    · rename_i bp' fin' hr
      simp only [Option.some.injEq, Prod.mk.injEq] at h
      exact ⟨t, ht, by rw [hr, h.1, h.2]⟩
    · cases h
  · cases h

/-- a first frame is refused -/
def rejectWith (f : Frame) (t : Tcp) : Tcp := { closeTcp t with sent := t.sent ++ [f] }

/-- the state after `AddConn` has registered pending connection `k` (first frame `fr`) with packet
connection `p`, before its reader starts -/
def registered (s : State) (p k : Nat) (peer : Addr) (fr : Frame) : State :=
  setTcp (setPc s p (fun pc => { pc with conns := pc.conns ++ [(peer, k)] })) k
    (fun t => { t with phase := .attached p, reader := .idle, pc := some p, inbox := [.frame fr], sent := t.sent ++ [fr] })

/-- the four things a complete first frame `f` can do to pending connection `k` -/
inductive FirstFrame (s : State) (k : Nat) (t : Tcp) (f : Frame) : State → Prop
  | bad : classify f = none → FirstFrame s k t f (setTcp s k (rejectWith f))
  | dup (u : String) (p : Nat) (pc : PConn) : classify f = some u → findPc s.pcs ⟨u, t.peer.v6, t.lip⟩ = some p →
      s.pcs[p]? = some pc → pc.closed = false → pc.key = ⟨u, t.peer.v6, t.lip⟩ →
      (lookupConn pc.conns t.peer).isSome = true → FirstFrame s k t f (setTcp s k (rejectWith f))
  | join (u : String) (p : Nat) (pc : PConn) : classify f = some u → findPc s.pcs ⟨u, t.peer.v6, t.lip⟩ = some p →
      s.pcs[p]? = some pc → pc.closed = false → pc.key = ⟨u, t.peer.v6, t.lip⟩ →
      lookupConn pc.conns t.peer = none → FirstFrame s k t f (runReader (registered s p k t.peer f) k)
  | fresh (u : String) : classify f = some u → findPc s.pcs ⟨u, t.peer.v6, t.lip⟩ = none →
      FirstFrame s k t f (runReader (registered
        { s with pcs := s.pcs ++ [{ key := ⟨u, t.peer.v6, t.lip⟩, provisional := true,
                                     alive := some (s.now + effTimeout s.cfg.t2), refs := 0, created := s.now }] }
        s.pcs.length k t.peer f) k)

theorem step_firstFrame {s : State} {k : Nat} {t : Tcp} {d : Nat} (f : Frame) (ht : s.tcps[k]? = some t)
    (hph : t.phase = .pending d) (hce : t.cEnd = false) (hst : t.stuck = false) :
    FirstFrame s k t f (step s (.frame k f)).1 := by
  have hs' : (step s (.frame k f)).1 = (match classify f with
      | some u => attach s k t u f
      | none => setTcp s k (rejectWith f)) := by
    simp only [step, ht, hce, hst, hph, Bool.or_self, Bool.false_eq_true, if_false]
    cases classify f <;> rfl
  rw [hs']
  cases hu : classify f with
  | none => exact .bad hu
  | some u =>
    simp only [attach, ensurePc]
    cases hfind : findPc s.pcs ⟨u, t.peer.v6, t.lip⟩ with
    | some p =>
      obtain ⟨pc, hp, hopen, hkey⟩ := findPc_some hfind
      simp only [addConn, hp, hopen, Bool.false_or]
      cases hd : (lookupConn pc.conns t.peer).isSome with
      | true => exact .dup u p pc hu hfind hp hopen hkey hd
      | false =>
        have hnd : lookupConn pc.conns t.peer = none := by
          cases hl : lookupConn pc.conns t.peer with
          | none => rfl
          | some j => rw [hl] at hd; cases hd
        exact .join u p pc hu hfind hp hopen hkey hnd
    | none =>
      simp only [addConn, List.getElem?_concat_length, Bool.false_or]
      have : (lookupConn ([] : List (Addr × Nat)) t.peer).isSome = false := rfl
      simp only [this]
      exact .fresh u hu hfind

/-- The elementary changes out of which every operation is composed.  The premises are what `step` has
looked up before it makes the change.  A change that hands work to a reader goroutine includes the run of
that reader: between the two the state is not quiescent. -/
inductive Micro : State → State → Prop
  | accept (s : State) (peer : Addr) (lip : Nat) : s.listenerOpen = true →
      Micro s { s with tcps := s.tcps ++ [{ peer := peer, lip := lip, phase := .pending (s.now + effTimeout s.cfg.t1) }] }
  | refuse (s : State) (peer : Addr) (lip : Nat) :
      Micro s { s with tcps := s.tcps ++ [{ peer := peer, lip := lip, phase := .closed }] }
  | reject (s : State) (k : Nat) (t : Tcp) (d : Nat) (f : Frame) : s.tcps[k]? = some t → t.phase = .pending d →
      Micro s (setTcp s k (fun t => { closeTcp t with sent := t.sent ++ [f] }))
  | hangup (s : State) (k : Nat) (t : Tcp) (d : Nat) : s.tcps[k]? = some t → t.phase = .pending d →
      Micro s (setTcp s k (fun t => { closeTcp t with cEnd := true }))
  | stall (s : State) (k : Nat) : Micro s (setTcp s k (fun t => { t with stuck := true }))
  | gone (s : State) (k : Nat) : Micro s (setTcp s k (fun t => { t with cEnd := true }))
  | wrote (s : State) (k pid len : Nat) : Micro s (setTcp s k (fun t => { t with out := t.out ++ [(pid, len)] }))
  | push (s : State) (k : Nat) (t : Tcp) (q : Nat) (f : Frame) : s.tcps[k]? = some t → t.phase = .attached q →
      Micro s (runReader (setTcp s k (fun t => { t with inbox := t.inbox ++ [.frame f], sent := t.sent ++ [f] })) k)
  | pushEnd (s : State) (k : Nat) (t : Tcp) (q : Nat) (reset : Bool) : s.tcps[k]? = some t → t.phase = .attached q →
      Micro s (runReader (setTcp s k
        (fun t => { t with cEnd := true, inbox := t.inbox ++ [if reset then .reset else .eof] })) k)
  | provision (s : State) (key : Key) (k : Nat) (t : Tcp) (d : Nat) : s.tcps[k]? = some t → t.phase = .pending d →
      findPc s.pcs key = none →
      Micro s { s with pcs := s.pcs ++ [{ key := key, provisional := true, alive := some (s.now + effTimeout s.cfg.t2),
                                          refs := 0, created := s.now }] }
  | register (s : State) (p k : Nat) (t : Tcp) (d : Nat) (pc : PConn) (f : Frame) : s.tcps[k]? = some t →
      t.phase = .pending d → s.pcs[p]? = some pc → pc.closed = false → lookupConn pc.conns t.peer = none →
      Micro s (runReader (setTcp (setPc s p (fun pc => { pc with conns := pc.conns ++ [(t.peer, k)] })) k
        (fun t => { t with phase := .attached p, reader := .idle, pc := some p, inbox := [.frame f],
                           sent := t.sent ++ [f] })) k)
  | close (s : State) (p : Nat) : Micro s (closePc1 s p)
  | tick (s : State) (now' : Nat) : s.now ≤ now' →
      (∀ (q : Nat) (qc : PConn), s.pcs[q]? = some qc → qc.closed = true ∨ aliveExpired now' qc = false) →
      Micro s { s with now := now', tcps := s.tcps.map (expireTcp now') }
  | claim (s : State) (key : Key) (p : Nat) : s.muxClosed = false → findPc s.pcs key = some p →
      Micro s { (setPc s p (fun pc => { pc with alive := none, refs := pc.refs + 1, claimed := true }))
                with handles := s.handles ++ [{ pc := p }] }
  | create (s : State) (key : Key) : s.muxClosed = false → findPc s.pcs key = none →
      Micro s { s with
        pcs := s.pcs ++ [{ key := key, provisional := false, alive := none, refs := 1, created := s.now, claimed := true }],
        handles := s.handles ++ [{ pc := s.pcs.length }] }
  | closeH (s : State) (h : Nat) :
      Micro s { s with handles := s.handles.modify h (fun hd => { hd with closed := true }) }
  | decRef (s : State) (p : Nat) : Micro s (setPc s p (fun pc => { pc with refs := pc.refs - 1 }))
  | pop (s : State) (p : Nat) (pc : PConn) (pkt : Pkt) (q : List Pkt) : s.pcs[p]? = some pc → pc.recvQ = pkt :: q →
      Micro s (setPc s p (fun pc => { pc with recvQ := q, readLog := pc.readLog ++ [pkt] }))
  | unblockQ (s : State) (p k : Nat) (pc : PConn) (bq : List Nat) (t : Tcp) (bp : Pkt) (fin : Bool) :
      s.pcs[p]? = some pc → pc.blockedQ = k :: bq → s.tcps[k]? = some t → t.reader = .blocked bp fin →
      Micro s (runReader (setTcp (setPc s p
          (fun pc => { pc with blockedQ := bq, recvQ := pc.recvQ ++ [bp], hist := pc.hist ++ [bp] })) k
        (fun t => { t with reader := if fin then .none else .idle })) k)
  | unblockE (s : State) (p k : Nat) (pc : PConn) (bq : List Nat) (t : Tcp) (bp : Pkt) (fin : Bool) :
      s.pcs[p]? = some pc → pc.recvQ = [] → pc.blockedQ = k :: bq → s.tcps[k]? = some t → t.reader = .blocked bp fin →
      Micro s (runReader (setTcp (setPc s p
          (fun pc => { pc with blockedQ := bq, hist := pc.hist ++ [bp], readLog := pc.readLog ++ [bp] })) k
        (fun t => { t with reader := if fin then .none else .idle })) k)
  | shut (s : State) : s.muxClosed = false → (∀ (q : Nat) (qc : PConn), s.pcs[q]? = some qc → qc.closed = true) →
      Micro s { s with muxClosed := true, listenerOpen := false, closedAt := s.now }

inductive Chain : State → State → Prop
  | refl (s : State) : Chain s s
  | tail {s s' s'' : State} : Chain s s' → Micro s' s'' → Chain s s''

theorem Chain.one {s s' : State} (h : Micro s s') : Chain s s' := (Chain.refl s).tail h

theorem Chain.keeps {P : State → Prop} (hm : ∀ s s', Micro s s' → P s → P s') {s s' : State}
    (h : Chain s s') (h0 : P s) : P s' := by
  induction h with
  | refl => exact h0
  | tail _ m ih => exact hm _ _ m ih

theorem closePcsWhere_micro (sel : PConn → Bool) (s : State) : Chain s (closePcsWhere sel s) :=
  closePcsWhere_rule sel s (Chain.refl s) (fun x p hx => hx.tail (.close x p))

theorem FirstFrame.chain {s s' : State} {k : Nat} {t : Tcp} {d : Nat} {f : Frame} (h : FirstFrame s k t f s')
    (ht : s.tcps[k]? = some t) (hph : t.phase = .pending d) : Chain s s' := by
  cases h with
  | bad _ => exact .one (.reject s k t d f ht hph)
  | dup _ _ _ _ _ _ _ _ _ => exact .one (.reject s k t d f ht hph)
  | join u p pc _ _ hp ho _ hnd => exact .one (.register s p k t d pc f ht hph hp ho hnd)
  | fresh u _ hn =>
    exact (Chain.one (.provision s _ k t d ht hph hn)).tail
      (.register _ s.pcs.length k t d _ f ht hph List.getElem?_concat_length rfl rfl)

/-- a later frame arrives at an attached connection -/
def pushFrame (f : Frame) (t : Tcp) : Tcp := { t with inbox := t.inbox ++ [.frame f], sent := t.sent ++ [f] }

def addOut (pid len : Nat) (t : Tcp) : Tcp := { t with out := t.out ++ [(pid, len)] }

def claimPc (pc : PConn) : PConn := { pc with alive := none, refs := pc.refs + 1, claimed := true }

/-- `GetConnByUfrag` found packet connection `p` -/
def claimed (s : State) (p : Nat) : State :=
  { s with pcs := s.pcs.modify p claimPc, handles := s.handles ++ [{ pc := p }] }

/-- `GetConnByUfrag` created a packet connection -/
def created (s : State) (key : Key) : State :=
  { s with pcs := s.pcs ++ [{ key := key, provisional := false, alive := none, refs := 1, created := s.now, claimed := true }], handles := s.handles ++ [{ pc := s.pcs.length }] }

def decRef (pc : PConn) : PConn := { pc with refs := pc.refs - 1 }
def closeHd (hd : Handle) : Handle := { hd with closed := true }

/-- the handle is marked closed and its reference dropped -/
def dropRef (s : State) (h p : Nat) : State :=
  { s with pcs := s.pcs.modify p decRef, handles := s.handles.modify h closeHd }

/-- `Close` after its packet connections were closed -/
def closedMux (s1 : State) : State := { s1 with muxClosed := true, listenerOpen := false, closedAt := s1.now }

/-- the state after the alive timers that fire by `now'` have fired and the first-bind deadlines were applied -/
def ticked (s1 : State) (now' : Nat) : State := { s1 with now := now', tcps := s1.tcps.map (expireTcp now') }

/-- **The case rule of `step`**: every way an operation can go, with what `step` has looked up on the way, the state it
leads to and the result it returns.  (`read` of an open handle: `readPc`, whose cases are `readPc_a` … `readPc_d`.) -/
inductive Does (s : State) : Op → State → Res → Prop
  | accept (peer : Addr) (lip : Nat) : s.listenerOpen = true →
      Does s (.accept peer lip)
        { s with tcps := s.tcps ++ [{ peer := peer, lip := lip, phase := .pending (s.now + effTimeout s.cfg.t1) }] } .ok
  | refuse (peer : Addr) (lip : Nat) : s.listenerOpen = false →
      Does s (.accept peer lip) { s with tcps := s.tcps ++ [{ peer := peer, lip := lip, phase := .closed }] } .refused
  | frameBad (k : Nat) (f : Frame) : s.tcps[k]? = none → Does s (.frame k f) s .bad
  | partialBad (k : Nat) : s.tcps[k]? = none → Does s (.partialFrame k) s .bad
  | ccloseBad (k : Nat) (r : Bool) : s.tcps[k]? = none → Does s (.clientClose k r) s .bad
  | frameNoop (k : Nat) (f : Frame) (t : Tcp) : s.tcps[k]? = some t → (t.cEnd || t.stuck) = true → Does s (.frame k f) s .noop
  | frameClosed (k : Nat) (f : Frame) (t : Tcp) : s.tcps[k]? = some t → (t.cEnd || t.stuck) = false → t.phase = .closed →
      Does s (.frame k f) s (.sent f.len)
  | frameFirst (k : Nat) (f : Frame) (t : Tcp) (d : Nat) (s' : State) : s.tcps[k]? = some t → t.cEnd = false →
      t.stuck = false → t.phase = .pending d → FirstFrame s k t f s' → Does s (.frame k f) s' (.sent f.len)
  | framePush (k : Nat) (f : Frame) (t : Tcp) (q : Nat) : s.tcps[k]? = some t → (t.cEnd || t.stuck) = false →
      t.phase = .attached q → Does s (.frame k f) (runReader (setTcp s k (pushFrame f)) k) (.sent f.len)
  | partialNoop (k : Nat) (t : Tcp) : s.tcps[k]? = some t → (t.cEnd || t.stuck) = true → Does s (.partialFrame k) s .noop
  | stall (k : Nat) (t : Tcp) : s.tcps[k]? = some t → (t.cEnd || t.stuck) = false →
      Does s (.partialFrame k) (setTcp s k (fun t => { t with stuck := true })) .ok
  | ccloseNoop (k : Nat) (r : Bool) (t : Tcp) : s.tcps[k]? = some t → t.cEnd = true → Does s (.clientClose k r) s .noop
  | gone (k : Nat) (r : Bool) (t : Tcp) : s.tcps[k]? = some t → t.cEnd = false → t.phase = .closed →
      Does s (.clientClose k r) (setTcp s k (fun t => { t with cEnd := true })) .ok
  | hangup (k : Nat) (r : Bool) (t : Tcp) (d : Nat) : s.tcps[k]? = some t → t.cEnd = false → t.phase = .pending d →
      Does s (.clientClose k r) (setTcp s k (fun t => { closeTcp t with cEnd := true })) .ok
  | pushEnd (k : Nat) (r : Bool) (t : Tcp) (q : Nat) : s.tcps[k]? = some t → t.cEnd = false → t.phase = .attached q →
      Does s (.clientClose k r)
        (runReader (setTcp s k (fun t => { t with cEnd := true, inbox := t.inbox ++ [if r then .reset else .eof] })) k) .ok
  | advance (dt : Nat) :
      Does s (.advance dt) (ticked (closePcsWhere (fun pc => aliveExpired (s.now + dt) pc) s) (s.now + dt)) .ok
  | getClosed (key : Key) : s.muxClosed = true → Does s (.getConn key) s .errClosed
  | claim (key : Key) (p : Nat) : s.muxClosed = false → findPc s.pcs key = some p →
      Does s (.getConn key) (claimed s p) (.handle s.handles.length)
  | create (key : Key) : s.muxClosed = false → findPc s.pcs key = none →
      Does s (.getConn key) (created s key) (.handle s.handles.length)
  | remove (u : String) : Does s (.removeByUfrag u) (closePcsWhere (fun pc => decide (pc.key.ufrag = u)) s) .ok
  | closehBad (h : Nat) : s.handles[h]? = none → Does s (.closeHandle h) s .bad
  | closepcBad (h : Nat) : s.handles[h]? = none → Does s (.closePacketConn h) s .bad
  | writeBad (h : Nat) (dst : Addr) (pid len : Nat) : s.handles[h]? = none → Does s (.write h dst pid len) s .bad
  | readBad (h : Nat) : s.handles[h]? = none → Does s (.read h) s .bad
  | closehAgain (h : Nat) (hd : Handle) : s.handles[h]? = some hd → hd.closed = true → Does s (.closeHandle h) s .ok
  | closehNoPc (h : Nat) (hd : Handle) : s.handles[h]? = some hd → hd.closed = false → s.pcs[hd.pc]? = none →
      Does s (.closeHandle h) { s with handles := s.handles.modify h closeHd } .ok
  | closehKeep (h : Nat) (hd : Handle) (pc : PConn) : s.handles[h]? = some hd → hd.closed = false → s.pcs[hd.pc]? = some pc →
      1 < pc.refs → Does s (.closeHandle h) (dropRef s h hd.pc) .ok
  | closehLast (h : Nat) (hd : Handle) (pc : PConn) : s.handles[h]? = some hd → hd.closed = false → s.pcs[hd.pc]? = some pc →
      pc.refs ≤ 1 → Does s (.closeHandle h) (closePc1 (dropRef s h hd.pc) hd.pc) .ok
  | closepc (h : Nat) (hd : Handle) : s.handles[h]? = some hd → Does s (.closePacketConn h) (closePc1 s hd.pc) .ok
  | writeClosed (h : Nat) (dst : Addr) (pid len : Nat) (hd : Handle) : s.handles[h]? = some hd → hd.closed = true →
      Does s (.write h dst pid len) s .errClosed
  | readClosed (h : Nat) (hd : Handle) : s.handles[h]? = some hd → hd.closed = true → Does s (.read h) s .errClosed
  | writeNoPc (h : Nat) (dst : Addr) (pid len : Nat) (hd : Handle) : s.handles[h]? = some hd → hd.closed = false →
      s.pcs[hd.pc]? = none → Does s (.write h dst pid len) s .bad
  | writeNoConn (h : Nat) (dst : Addr) (pid len : Nat) (hd : Handle) (pc : PConn) : s.handles[h]? = some hd →
      hd.closed = false → s.pcs[hd.pc]? = some pc → lookupConn pc.conns dst = none → Does s (.write h dst pid len) s .errClosed
  | wrote (h : Nat) (dst : Addr) (pid len : Nat) (hd : Handle) (pc : PConn) (k : Nat) : s.handles[h]? = some hd →
      hd.closed = false → s.pcs[hd.pc]? = some pc → lookupConn pc.conns dst = some k →
      Does s (.write h dst pid len) (setTcp s k (addOut pid len)) (.wrote len)
  | read (h : Nat) (hd : Handle) : s.handles[h]? = some hd → hd.closed = false →
      Does s (.read h) (readPc s hd.pc).1 (readPc s hd.pc).2
  | closeAgain : s.muxClosed = true → Does s .closeMux s .already
  | shut : s.muxClosed = false → Does s .closeMux (closedMux (closePcsWhere (fun _ => true) s)) .ok

theorem step_does (s : State) (op : Op) : Does s op (step s op).1 (step s op).2 := by
  cases op with
  | accept peer lip =>
    cases hl : s.listenerOpen with
    | true => simp only [step]; rw [if_pos hl]; exact .accept peer lip hl
    | false => simp only [step]; rw [if_neg (by rw [hl]; exact Bool.false_ne_true)]; exact .refuse peer lip hl
  | frame k f =>
    cases ht : s.tcps[k]? with
    | none => simp only [step, ht]; exact .frameBad k f ht
    | some t =>
      cases hd : (t.cEnd || t.stuck) with
      | true => simp only [step, ht, hd, if_true]; exact .frameNoop k f t ht hd
      | false =>
        cases hph : t.phase with
        | closed => simp only [step, ht, hd, hph, Bool.false_eq_true, if_false]; exact .frameClosed k f t ht hd hph
        | attached q =>
          simp only [step, ht, hd, hph, Bool.false_eq_true, if_false]; exact .framePush k f t q ht hd hph
        | pending d =>
          have hce : t.cEnd = false := by cases h : t.cEnd <;> simp_all
          have hst : t.stuck = false := by cases h : t.stuck <;> simp_all
          have hr : (step s (.frame k f)).2 = .sent f.len := by
            simp only [step, ht, hd, hph, Bool.false_eq_true, if_false]; split <;> rfl
          rw [hr]
          exact .frameFirst k f t d _ ht hce hst hph (step_firstFrame f ht hph hce hst)
  | partialFrame k =>
    cases ht : s.tcps[k]? with
    | none => simp only [step, ht]; exact .partialBad k ht
    | some t =>
      cases hd : (t.cEnd || t.stuck) with
      | true => simp only [step, ht, hd, if_true]; exact .partialNoop k t ht hd
      | false => simp only [step, ht, hd, Bool.false_eq_true, if_false]; exact .stall k t ht hd
  | clientClose k r =>
    cases ht : s.tcps[k]? with
    | none => simp only [step, ht]; exact .ccloseBad k r ht
    | some t =>
      cases hd : t.cEnd with
      | true => simp only [step, ht, hd, if_true]; exact .ccloseNoop k r t ht hd
      | false =>
        cases hph : t.phase with
        | closed => simp only [step, ht, hd, hph, Bool.false_eq_true, if_false]; exact .gone k r t ht hd hph
        | pending d => simp only [step, ht, hd, hph, Bool.false_eq_true, if_false]; exact .hangup k r t d ht hd hph
        | attached q => simp only [step, ht, hd, hph, Bool.false_eq_true, if_false]; exact .pushEnd k r t q ht hd hph
  | advance dt => exact .advance dt
  | getConn key =>
    cases hm : s.muxClosed with
    | true => simp only [step, hm, if_true]; exact .getClosed key hm
    | false =>
      simp only [step]
      rw [if_neg (by rw [hm]; exact Bool.false_ne_true)]
      cases hf : findPc s.pcs key with
      | some p => exact .claim key p hm hf
      | none => exact .create key hm hf
  | removeByUfrag u => exact .remove u
  | closeHandle h =>
    cases hh : s.handles[h]? with
    | none => simp only [step, hh]; exact .closehBad h hh
    | some hd =>
      cases hc : hd.closed with
      | true => simp only [step, hh, hc, if_true]; exact .closehAgain h hd hh hc
      | false =>
        cases hp : s.pcs[hd.pc]? with
        | none => simp only [step, hh, hc, hp, Bool.false_eq_true, if_false]; exact .closehNoPc h hd hh hc hp
        | some pc =>
          rcases Nat.lt_or_ge 1 pc.refs with hr | hr
          · simp only [step, hh, hc, hp, Bool.false_eq_true, if_false, Nat.not_le.2 hr]; exact .closehKeep h hd pc hh hc hp hr
          · simp only [step, hh, hc, hp, Bool.false_eq_true, if_false, hr, if_true]; exact .closehLast h hd pc hh hc hp hr
  | closePacketConn h =>
    cases hh : s.handles[h]? with
    | none => simp only [step, hh]; exact .closepcBad h hh
    | some hd => simp only [step, hh]; exact .closepc h hd hh
  | write h dst pid len =>
    cases hh : s.handles[h]? with
    | none => simp only [step, hh]; exact .writeBad h dst pid len hh
    | some hd =>
      cases hc : hd.closed with
      | true => simp only [step, hh, hc, if_true]; exact .writeClosed h dst pid len hd hh hc
      | false =>
        cases hp : s.pcs[hd.pc]? with
        | none => simp only [step, hh, hc, hp, Bool.false_eq_true, if_false]; exact .writeNoPc h dst pid len hd hh hc hp
        | some pc =>
          cases hl : lookupConn pc.conns dst with
          | none => simp only [step, hh, hc, hp, hl, Bool.false_eq_true, if_false]; exact .writeNoConn h dst pid len hd pc hh hc hp hl
          | some k => simp only [step, hh, hc, hp, hl, Bool.false_eq_true, if_false]; exact .wrote h dst pid len hd pc k hh hc hp hl
  | read h =>
    cases hh : s.handles[h]? with
    | none => simp only [step, hh]; exact .readBad h hh
    | some hd =>
      cases hc : hd.closed with
      | true => simp only [step, hh, hc, if_true]; exact .readClosed h hd hh hc
      | false => simp only [step, hh, hc, Bool.false_eq_true, if_false]; exact .read h hd hh hc
  | closeMux =>
    cases hm : s.muxClosed with
    | true => simp only [step, hm, if_true]; exact .closeAgain hm
    | false =>
      simp only [step, hm, Bool.false_eq_true, if_false]
      have := (closePcsWhere_flags (fun _ => true) s).now
      unfold closedMux at *
      rw [← this]
      exact .shut hm

/-- an operation with its result: the state moves by elementary changes, and not at all when the result is `bad` -/
def Shape (s : State) (x : State × Res) : Prop := Chain s x.1 ∧ (x.2 = .bad → x.1 = s)

theorem Shape.same (s : State) (r : Res) : Shape s (s, r) := ⟨Chain.refl s, fun _ => rfl⟩

theorem Shape.of {s s' : State} {r : Res} (c : Chain s s') (hr : r ≠ .bad) : Shape s (s', r) :=
  ⟨c, fun h => absurd h hr⟩

theorem readPc_shape (s : State) (p : Nat) : Shape s (readPc s p) := by
  unfold readPc
  split
  · exact Shape.same s _
  · rename_i pc hp
    split
    · rename_i pkt q hq
      have c1 := Chain.one (.pop s p pc pkt q hp hq)
      dsimp only
      split
      · exact Shape.of c1 nofun
      · rename_i k bq hbq
        split
        · rename_i bp fin hb
          obtain ⟨t, ht, hrd⟩ := blockedOf_some hb
          refine Shape.of (c1.tail
            (.unblockQ _ p k { pc with recvQ := q, readLog := pc.readLog ++ [pkt] } bq t bp fin ?_ hbq ht hrd)) nofun
          simp only [setPc]; rw [getElem?_modify_eq, hp]; rfl
        · exact Shape.of c1 nofun
    · rename_i hq
      split
      · rename_i k bq hbq
        split
        · rename_i bp fin hb
          obtain ⟨t, ht, hrd⟩ := blockedOf_some hb
          exact Shape.of (Chain.one (.unblockE s p k pc bq t bp fin hp hq hbq ht hrd)) nofun
        · exact Shape.same s _
      · split <;> exact Shape.same s _

theorem Does.shape {s s' : State} {op : Op} {r : Res} (h : Does s op s' r) : Shape s (s', r) := by
  cases h with
  | accept peer lip hl => exact .of (.one (.accept s peer lip hl)) nofun
  | refuse peer lip _ => exact .of (.one (.refuse s peer lip)) nofun
  | frameFirst k f t d s' ht hce hst hph ff => exact .of (ff.chain ht hph) nofun
  | framePush k f t q ht _ hph => exact .of (.one (.push s k t q f ht hph)) nofun
  | stall k t _ _ => exact .of (.one (.stall s k)) nofun
  | gone k r t _ _ _ => exact .of (.one (.gone s k)) nofun
  | hangup k r t d ht _ hph => exact .of (.one (.hangup s k t d ht hph)) nofun
  | pushEnd k r t q ht _ hph => exact .of (.one (.pushEnd s k t q r ht hph)) nofun
  | advance dt =>
    refine .of ((closePcsWhere_micro (fun pc => aliveExpired (s.now + dt) pc) s).tail (.tick _ (s.now + dt) ?_ ?_)) nofun
    · rw [(closePcsWhere_flags _ s).now]; omega
    · exact closePcsWhere_spec (fun pc => aliveExpired (s.now + dt) pc) s
  | claim key p hm hp => exact .of (.one (.claim s key p hm hp)) nofun
  | create key hm hn => exact .of (.one (.create s key hm hn)) nofun
  | remove u => exact .of (closePcsWhere_micro _ s) nofun
  | closehNoPc h hd _ _ _ => exact .of (.one (.closeH s h)) nofun
  | closehKeep h hd pc _ _ _ _ => exact .of ((Chain.one (.closeH s h)).tail (.decRef _ hd.pc)) nofun
  | closehLast h hd pc _ _ _ _ => exact .of (((Chain.one (.closeH s h)).tail (.decRef _ hd.pc)).tail (.close _ hd.pc)) nofun
  | closepc h hd _ => exact .of (.one (.close s _)) nofun
  | wrote h dst pid len hd pc k _ _ _ _ => exact .of (.one (.wrote s k pid len)) nofun
  | read h hd _ _ => exact readPc_shape s _
  | shut hm =>
    have fl := closePcsWhere_flags (fun _ => true) s
    refine .of ((closePcsWhere_micro (fun _ => true) s).tail (.shut _ (by rw [fl.muxClosed]; exact hm) ?_)) nofun
    exact fun q qc hq => closeAll_closed hq
  | _ => exact .same s _

theorem step_shape (s : State) (op : Op) : Shape s (step s op) := (step_does s op).shape

theorem step_chain (s : State) (op : Op) : Chain s (step s op).1 := (step_shape s op).1

theorem step_bad {s : State} {op : Op} (h : (step s op).2 = .bad) : (step s op).1 = s := (step_shape s op).2 h

end IceProofs.TcpMux

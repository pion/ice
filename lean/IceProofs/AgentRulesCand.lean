import IceProofs.AgentRulesHandlers
/-!
# Case rules for `addRemoteCandidate`, and what it answers

In the style of `IceProofs.AgentRules`: the function is cut into stages (equal to the model text by `rfl`); the rules
say that a predicate on (agent, outputs so far) that survives each elementary update the function is made of holds
of its result, and hand over where each update's arguments come from (`supersede_rule`, `pairUp_rule`).
-/
namespace IceProofs.Agent
open IceModel.AgentCore

/-- RFC 8838 §11.4, one superseded peer-reflexive candidate after the other: the pairs and the data-plane cache are
retargeted to the signalled candidate `c` -/
def supersede (a : Agent) (replaced : List Cand) (c : Cand) : Agent × List Out :=
  replaced.foldl (fun (acc : Agent × List Out) (old : Cand) =>
    let r := acc.1.replaceRemoteInPairs old c
    let a : Agent := r.1
    let a : Agent := { a with caches := a.caches.map fun (x : Nat × Nat × Nat) => if x.2.2 == old.uid then (x.1, x.2.1, c.uid) else x }
    (a, acc.2 ++ r.2)) (a, [])

/-- the new remote candidate `c` is paired with every local candidate of its network type it has no pair with yet
(a passive TCP candidate with none) -/
def pairUp (a : Agent) (c : Cand) : Agent :=
  (a.locals.filter fun (x : Cand) => x.net == c.net && c.tt != 2).foldl (fun (a : Agent) (l : Cand) =>
    match a.findPair l c with
    | some _ => a
    | none => (a.addPair l c).1) a

theorem addRemoteCandidate_stages (a : Agent) (c : Cand) :
    a.addRemoteCandidate c =
      if a.cfg.blockedIPs.contains (ipOf c.addr) then (a, [], none)
      else
        match (a.remotes.filter (·.net == c.net)).find? (·.equal c) with
        | some e => (a, [], some e)
        | none =>
          let c0 := { c with uid := a.nextUid }
          let replaced := if c0.ty == 3 then [] else a.remotes.filter fun e => e.net == c0.net && e.ty == 3 && e.taEqual c0
          let c1 : Cand := replaced.foldl copyActivity c0
          let x := supersede { a with nextUid := a.nextUid + 1, remotes := a.remotes ++ [c1] } replaced c1
          let a3 : Agent := { x.1 with remotes := x.1.remotes.filter fun (e : Cand) => !(replaced.any fun (x : Cand) => x.uid == e.uid) }
          ((pairUp a3 c1).requestCheck, x.2, some c1) := by
  unfold Agent.addRemoteCandidate supersede pairUp
  rfl

theorem supersede_rule {P : Agent × List Out → Prop} (a : Agent) (replaced : List Cand) (c : Cand) (h : P (a, []))
    (repl : ∀ b o old, old ∈ replaced → P (b, o) →
      P ((b.replaceRemoteInPairs old c).1, o ++ (b.replaceRemoteInPairs old c).2))
    (caches : ∀ b o old, old ∈ replaced → P (b, o) →
      P ({ b with caches := b.caches.map fun x => if x.2.2 == old.uid then (x.1, x.2.1, c.uid) else x }, o)) :
    P (supersede a replaced c) := by
  unfold supersede
  exact foldl_inv_on P _ replaced _ h fun x old ho hx => caches _ _ old ho (repl _ _ old ho hx)

theorem pairUp_rule {P : Agent × List Out → Prop} (a : Agent) (c : Cand) (o : List Out) (h : P (a, o))
    (pair : ∀ b o l, l ∈ a.locals → l.net = c.net → c.tt ≠ 2 → b.findPair l c = none → P (b, o) → P ((b.addPair l c).1, o)) :
    P (pairUp a c, o) := by
  unfold pairUp
  refine foldl_inv_on (fun b => P (b, o)) _ _ _ h fun b l hl h => ?_
  obtain ⟨h1, h2, h3⟩ : l ∈ a.locals ∧ l.net = c.net ∧ c.tt ≠ 2 := by simpa using List.mem_filter.mp hl
  split
  · exact h
  · rename_i hn
    exact pair _ _ l h1 h2 h3 hn h

theorem addRemoteCandidate_rule {P : Agent × List Out → Prop} (a : Agent) (c : Cand) (h : P (a, []))
    (cands : ∀ b o uid rs, P (b, o) → P ({ b with nextUid := uid, remotes := rs }, o))
    (repl : ∀ b o old c', P (b, o) → P ((b.replaceRemoteInPairs old c').1, o ++ (b.replaceRemoteInPairs old c').2))
    (caches : ∀ b o cs, P (b, o) → P ({ b with caches := cs }, o))
    (pair : ∀ b o l r, P (b, o) → P ((b.addPair l r).1, o))
    (check : ∀ b o, P (b, o) → P (b.requestCheck, o)) :
    P ((a.addRemoteCandidate c).1, (a.addRemoteCandidate c).2.1) := by
  rw [addRemoteCandidate_stages]
  split
  · exact h
  · split
    · exact h
    · exact check _ _ (pairUp_rule _ _ _ (cands _ _ _ _ (supersede_rule _ _ _ (cands _ _ _ _ h) (fun b o old _ => repl b o old _)
        fun b o _ _ => caches b o _)) fun b o l _ _ _ _ => pair b o l _)

theorem addRemoteCandidate_inv {I : Agent → Prop} (a : Agent) (c : Cand) (h : I a)
    (cands : ∀ b uid rs, I b → I { b with nextUid := uid, remotes := rs })
    (repl : ∀ b old c', I b → I (b.replaceRemoteInPairs old c').1)
    (caches : ∀ b cs, I b → I { b with caches := cs })
    (pair : ∀ b l r, I b → I (b.addPair l r).1)
    (check : ∀ b, I b → I b.requestCheck) :
    I (a.addRemoteCandidate c).1 :=
  addRemoteCandidate_rule (P := fun x => I x.1) a c h (fun b _ => cands b) (fun b _ => repl b) (fun b _ => caches b)
    (fun b _ => pair b) (fun b _ => check b)

theorem replaceRemoteInPairs_cands (a : Agent) (old c : Cand) : (a.replaceRemoteInPairs old c).1.locals = a.locals ∧
    (a.replaceRemoteInPairs old c).1.remotes = a.remotes ∧ (a.replaceRemoteInPairs old c).1.nextUid = a.nextUid :=
  replaceRemoteInPairs_inv (I := fun x => x.locals = a.locals ∧ x.remotes = a.remotes ∧ x.nextUid = a.nextUid) a old c
    ⟨rfl, rfl, rfl⟩ (fun _ _ _ h => h) fun x id hx => by rw [select_update]; exact hx

/-- the peer-reflexive candidates a signalled candidate `c` supersedes (RFC 8838 §11.4) -/
def superseded (a : Agent) (c : Cand) : List Cand :=
  if c.ty == 3 then [] else a.remotes.filter fun e => e.net == c.net && e.ty == 3 && e.taEqual c

/-- the new remote candidate `c` as it is listed: with the next uid, and the activity of the candidates it supersedes -/
def adopted (a : Agent) (c : Cand) : Cand :=
  (superseded a { c with uid := a.nextUid }).foldl copyActivity { c with uid := a.nextUid }

theorem adopted_bare (a : Agent) (c : Cand) : (adopted a c).bare = ({ c with uid := a.nextUid } : Cand).bare :=
  foldl_copyActivity_bare _ _

theorem mem_superseded {a : Agent} {c x : Cand} (h : x ∈ superseded a c) :
    x ∈ a.remotes ∧ x.ty = 3 ∧ x.net = c.net ∧ x.addr = c.addr ∧ c.ty ≠ 3 := by
  unfold superseded at h
  split at h
  · cases h
  · rename_i hc
    have h2 := (List.mem_filter.mp h).2
    simp only [Cand.taEqual, Bool.and_eq_true, beq_iff_eq] at h2
    exact ⟨(List.mem_filter.mp h).1, h2.1.2, h2.1.1, h2.2.1.2, by simpa using hc⟩

theorem pairUp_cands (a : Agent) (c : Cand) : (pairUp a c).locals = a.locals ∧ (pairUp a c).remotes = a.remotes ∧
    (pairUp a c).nextUid = a.nextUid :=
  pairUp_rule (P := fun x => x.1.locals = a.locals ∧ x.1.remotes = a.remotes ∧ x.1.nextUid = a.nextUid) a c []
    ⟨rfl, rfl, rfl⟩ fun _ _ _ _ _ _ _ h => h

theorem addRemoteCandidate_some {a : Agent} {c r : Cand} (h : (a.addRemoteCandidate c).2.2 = some r) :
    r.net = c.net ∧ r.addr = c.addr ∧ (c.ty = 3 → r ∈ (a.addRemoteCandidate c).1.remotes) ∧
    (a.addRemoteCandidate c).1.locals = a.locals := by
  generalize hx : a.addRemoteCandidate c = x at h ⊢
  rw [addRemoteCandidate_stages] at hx
  split at hx
  · subst hx
    cases h
  · split at hx
    · rename_i e he
      subst hx
      cases h
      have h2 := List.find?_some he
      simp only [Cand.equal, Cand.taEqual, Bool.and_eq_true, beq_iff_eq] at h2
      exact ⟨h2.1.1.1.1, h2.1.1.1.2, fun _ => (List.mem_filter.mp (List.mem_of_find?_eq_some he)).1, rfl⟩
    · subst hx
      cases h
      dsimp only
      have hb := foldl_copyActivity_bare
        (if (({ c with uid := a.nextUid } : Cand).ty == 3) = true then []
          else a.remotes.filter fun e => e.net == ({ c with uid := a.nextUid } : Cand).net && e.ty == 3 &&
            e.taEqual { c with uid := a.nextUid }) { c with uid := a.nextUid }
      have h1 := congrArg Cand.net hb
      have h2 := congrArg Cand.addr hb
      refine ⟨h1, h2, fun hty => ?_, ?_⟩
      · have h3 : (({ c with uid := a.nextUid } : Cand).ty == 3) = true := by simpa using hty
        simp only [h3, if_true, supersede, List.foldl_nil, List.any_nil, Bool.not_false]
        show _ ∈ (pairUp _ _).remotes
        rw [(pairUp_cands _ _).2.1]
        exact List.mem_filter.mpr ⟨List.mem_append_right _ List.mem_cons_self, rfl⟩
      · show (pairUp _ _).locals = _
        rw [(pairUp_cands _ _).1]
        exact supersede_rule (P := fun x => x.1.locals = a.locals) _ _ _ rfl
          (fun b _ old _ hb => (replaceRemoteInPairs_inv (I := fun x => x.locals = b.locals) b old _ rfl (fun _ _ _ h => h)
            fun x id hx => by rw [select_update]; exact hx).trans hb) fun _ _ _ _ hb => hb

theorem resolveSource_some {a : Agent} {l : Cand} {src : Nat} {m : Msg} {r : Cand}
    (h : (resolveSource a l src m).2.2 = some r) :
    r ∈ (resolveSource a l src m).1.remotes ∧ r.net = l.net ∧ r.addr = src ∧ (resolveSource a l src m).1.locals = a.locals := by
  rcases resolveSource_cases a l src m with ⟨r', hf, he⟩ | ⟨_, he⟩ <;> rw [he] at h ⊢
  · cases h
    have h2 := List.find?_some hf
    simp only [Bool.and_eq_true, beq_iff_eq] at h2
    exact ⟨List.mem_of_find?_eq_some hf, h2.1, h2.2, rfl⟩
  · obtain ⟨h1, h2, h3, h4⟩ := addRemoteCandidate_some h
    exact ⟨h3 rfl, h1, h2, h4⟩

end IceProofs.Agent

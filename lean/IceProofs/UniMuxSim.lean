import IceProofs.UniMux
import IceProofs.UdpMuxSim
import IceSpec.C12Uni
/-!
The model of the universal mux against the monitor `IceSpec.C12Uni`: on every trace of the model the
monitor's base part (its `IceSpec.C12` history of the embedded mux) stays in the simulation relation `Sim`
with the embedded mux's state, and NO verdict is a clause of the base monitor — whatever the monitor
objects to on a model trace is a clause about the universal layer (`uni_consume` / `uni_both` /
`uni_answer`).
-/
namespace IceProofs.UniMux
open IceModel.UdpMux IceModel.UniMux IceProofs.UdpMux
open IceSpec.C12Uni (UState Verdict ofBase wokeV overdueV unansweredV noLearnV inboundV)

def notBase : Verdict → Prop
  | .base _ => False
  | _ => True

theorem notBase_orElse (a b : Verdict) (ha : notBase a) (hb : notBase b) : notBase (a.orElse b) := by
  cases a with
  | ok => exact hb
  | base w => exact ha.elim
  | uni w => exact trivial

theorem notBase_ofBase_none : notBase (ofBase none) := trivial

theorem wokeV_base (s : UState) (l : List (Nat × WRes)) : (wokeV s l).1.base = s.base := by
  induction l generalizing s with
  | nil => rfl
  | cons p rest ih =>
    obtain ⟨w, r⟩ := p
    unfold wokeV
    exact ih _

theorem wokeV_notBase (s : UState) (l : List (Nat × WRes)) : notBase (wokeV s l).2 := by
  induction l generalizing s with
  | nil => exact trivial
  | cons p rest ih =>
    obtain ⟨w, r⟩ := p
    unfold wokeV
    refine notBase_orElse _ _ ?_ (ih _)
    split
    · trivial
    · split
      · trivial
      · cases r with
        | ok a => dsimp only []; split <;> trivial
        | timeout => dsimp only []; split <;> trivial
        | noMap => trivial
        | writeErr => trivial

theorem overdueV_notBase (s : UState) : notBase (overdueV s) := by
  unfold overdueV; split <;> trivial

theorem unansweredV_notBase (s : UState) (e : IceSpec.C12.EP) : notBase (unansweredV s e) := by
  unfold unansweredV; split <;> trivial

theorem noLearnV_notBase (fx : Fx) : notBase (noLearnV fx) := by
  unfold noLearnV; split <;> trivial

theorem recordedV_notBase (src : Addr) (v : Nat) (key : Addr) (v' : Nat) :
    notBase (IceSpec.C12Uni.recordedV src v key v') := by
  unfold IceSpec.C12Uni.recordedV
  split
  · trivial
  · split <;> trivial

theorem inboundV_notBase (s : UState) (src : Addr) (k : Kind) (x : XView) (o : Out) (fx : Fx)
    (h : IceSpec.C12.inboundVerdict s.base src k o = none) : notBase (inboundV s src k x o fx) := by
  unfold inboundV
  dsimp only []
  rw [h]
  split
  · split
    · split <;> trivial
    · refine notBase_orElse _ _ trivial ?_
      split
      · split <;> trivial
      · trivial
  · split
    · trivial
    · split
      · split
        · trivial
        · split
          · trivial
          · cases o <;> trivial
      · exact notBase_orElse _ _ trivial (recordedV_notBase _ _ _ _)

theorem baseStep_inbound_snd (s : IceSpec.C12.SState) (src : Addr) (k : Kind) (pid : Nat) (o : Out) :
    (IceSpec.C12.step s (.inbound src k pid) o).2 = IceSpec.C12.inboundVerdict s src k o := by
  cases o <;> rfl

theorem mstep_xorStart (s : UState) (srv : Addr) (d : Nat) (o : UOut) :
    (IceSpec.C12Uni.step s (.xorStart srv d) o).1.base = s.base ∧ notBase (IceSpec.C12Uni.step s (.xorStart srv d) o).2 := by
  obtain ⟨main, fx⟩ := o
  cases main with
  | started w sent =>
    unfold IceSpec.C12Uni.step
    dsimp only []
    refine ⟨by rw [wokeV_base], ?_⟩
    refine notBase_orElse _ _ (by split <;> trivial) (notBase_orElse _ _ (noLearnV_notBase fx)
      (notBase_orElse _ _ (wokeV_notBase _ _) (overdueV_notBase _)))
  | base o => exact ⟨rfl, trivial⟩
  | ticked => exact ⟨rfl, trivial⟩

theorem mstep_tick (s : UState) (dt : Nat) (o : UOut) :
    (IceSpec.C12Uni.step s (.tick dt) o).1.base = s.base ∧ notBase (IceSpec.C12Uni.step s (.tick dt) o).2 := by
  obtain ⟨main, fx⟩ := o
  cases main with
  | ticked =>
    unfold IceSpec.C12Uni.step
    dsimp only []
    refine ⟨by rw [wokeV_base], ?_⟩
    exact notBase_orElse _ _ (noLearnV_notBase fx) (notBase_orElse _ _ (wokeV_notBase _ _) (overdueV_notBase _))
  | base o => exact ⟨rfl, trivial⟩
  | started w sent => exact ⟨rfl, trivial⟩

theorem mstep_proj (s : UState) (op : UOp) (bop : Op) (hp : proj op = [bop]) (o : Out) (fx : Fx) :
    (IceSpec.C12Uni.step s op { main := .base o, fx := fx }).1.base = (IceSpec.C12.step s.base bop o).1
    ∧ ((IceSpec.C12.step s.base bop o).2 = none → notBase (IceSpec.C12Uni.step s op { main := .base o, fx := fx }).2) := by
  cases op with
  | xorStart srv d => cases hp
  | tick dt => cases hp
  | inbound src k x pid =>
    injection hp with hp _; subst hp
    unfold IceSpec.C12Uni.step
    dsimp only []
    constructor
    · rw [wokeV_base]
      split <;> rfl
    · intro h
      rw [baseStep_inbound_snd] at h
      refine notBase_orElse _ _ (inboundV_notBase s src k x o fx h) (notBase_orElse _ _ (wokeV_notBase _ _)
        (notBase_orElse _ _ ?_ (overdueV_notBase _)))
      split
      · exact unansweredV_notBase _ _
      · trivial
  | getConnForURL u url v6 =>
    injection hp with hp _; subst hp
    unfold IceSpec.C12Uni.step
    dsimp only []
    constructor
    · rw [wokeV_base]
    · intro h
      rw [h]
      exact notBase_orElse _ _ trivial (notBase_orElse _ _ (noLearnV_notBase fx)
        (notBase_orElse _ _ (wokeV_notBase _ _) (overdueV_notBase _)))
  | base op =>
    injection hp with hp _; subst hp
    unfold IceSpec.C12Uni.step
    dsimp only []
    constructor
    · rw [wokeV_base]
    · intro h
      refine notBase_orElse _ _ ?_ (notBase_orElse _ _ (wokeV_notBase _ _) (overdueV_notBase _))
      cases op with
      | inbound src k pid =>
        dsimp only []
        split
        · rw [baseStep_inbound_snd] at h
          exact inboundV_notBase s src k _ o fx h
        · rw [h]; trivial
      | _ => dsimp only []; rw [h]; exact notBase_orElse _ _ trivial (noLearnV_notBase fx)

theorem uout_eta (o : UOut) : o = { main := o.main, fx := o.fx } := rfl

theorem step_main_proj (m : UMux) (op : UOp) (bop : Op) (hp : proj op = [bop]) :
    (IceModel.UniMux.step m op).2.main = .base (IceModel.UdpMux.step m.base bop).2 := by
  cases op with
  | xorStart srv d => cases hp
  | tick dt => cases hp
  | inbound src k x pid => injection hp with hp _; subst hp; exact inbound_main m src k x pid
  | getConnForURL u url v6 => injection hp with hp _; subst hp; rfl
  | base op =>
    injection hp with hp _; subst hp
    cases op with
    | inbound src k pid => exact inbound_main m src k _ pid
    | _ => rfl

theorem base_run_one (b : Mux) (op : Op) : (IceModel.UdpMux.run b [op]).1 = (IceModel.UdpMux.step b op).1 := rfl

theorem usim_step (m : UMux) (s : UState) (hi : Inv m.base) (hs : Sim m.base s.base) (op : UOp) :
    Sim (IceModel.UniMux.step m op).1.base (IceSpec.C12Uni.step s op (IceModel.UniMux.step m op).2).1.base
    ∧ notBase (IceSpec.C12Uni.step s op (IceModel.UniMux.step m op).2).2 := by
  rw [step_base]
  -- an operation that amounts to one of the embedded mux: `sim_step` of that one
  have lift : ∀ bop, proj op = [bop] →
      Sim (IceModel.UdpMux.step m.base bop).1 (IceSpec.C12Uni.step s op (IceModel.UniMux.step m op).2).1.base
      ∧ notBase (IceSpec.C12Uni.step s op (IceModel.UniMux.step m op).2).2 := by
    intro bop hp
    obtain ⟨h1, h2⟩ := sim_step m.base s.base hi hs bop
    have hm := step_main_proj m op bop hp
    generalize (IceModel.UniMux.step m op).2 = O at hm ⊢
    obtain ⟨main, fx⟩ := O
    dsimp only [] at hm
    subst hm
    obtain ⟨k1, k2⟩ := mstep_proj s op bop hp (IceModel.UdpMux.step m.base bop).2 fx
    rw [k1]
    exact ⟨h1, k2 h2⟩
  cases op with
  | base op => exact lift op rfl
  | inbound src k x pid => exact lift (.inbound src k pid) rfl
  | getConnForURL u url v6 => exact lift (.getConn (u ++ url) v6) rfl
  | xorStart srv d =>
    obtain ⟨k1, k2⟩ := mstep_xorStart s srv d (IceModel.UniMux.step m (.xorStart srv d)).2
    rw [k1]
    exact ⟨hs, k2⟩
  | tick dt =>
    obtain ⟨k1, k2⟩ := mstep_tick s dt (IceModel.UniMux.step m (.tick dt)).2
    rw [k1]
    exact ⟨hs, k2⟩

theorem inv_ustep (m : UMux) (hi : Inv m.base) (op : UOp) : Inv (IceModel.UniMux.step m op).1.base := by
  rw [step_base]; exact inv_run _ _ hi

theorem usim_run (ops : List UOp) : ∀ (m : UMux) (s : UState), Inv m.base → Sim m.base s.base →
    Inv (IceModel.UniMux.run m ops).1.base
    ∧ Sim (IceModel.UniMux.run m ops).1.base (IceSpec.C12Uni.stateAfter s (IceModel.UniMux.run m ops).2).base
    ∧ ∀ v ∈ IceSpec.C12Uni.verdicts s (IceModel.UniMux.run m ops).2, notBase v := by
  induction ops with
  | nil => intro m s hi hs; exact ⟨hi, hs, by simp [IceModel.UniMux.run, IceSpec.C12Uni.verdicts]⟩
  | cons op ops ih =>
    intro m s hi hs
    rw [run_cons]
    obtain ⟨h1, h2⟩ := usim_step m s hi hs op
    obtain ⟨i1, i2, i3⟩ := ih _ _ (inv_ustep m hi op) h1
    refine ⟨i1, i2, ?_⟩
    intro v hv
    simp only [IceSpec.C12Uni.verdicts, List.mem_cons] at hv
    rcases hv with hv | hv
    · rw [hv]; exact h2
    · exact i3 v hv

end IceProofs.UniMux

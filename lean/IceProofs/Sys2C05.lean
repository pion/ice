import IceProofs.Sys2C05Outs
import IceProofs.Sys2Run
/-!
# C05 on the closed two-agent system `Sys2`: orientation by tie-breaker

`Inv T RP LP`, along ALL schedules of `IceProofs.Sys2Run`: tie-breakers are the constants `T X`, passwords lie in `RP X` /
`LP X`, and every in-flight STUN message with a role attribute carries the tie-breaker of one of the two agents and is keyed
with a remote password of THAT agent (`sendRequest` alone writes role attributes, with the sender's own tie-breaker).  So,
with `w` the holder of the larger tie-breaker, every system event keeps `Right w Y` (`Y` started, `w` controlling, `!w`
controlled) and a processed role conflict (`conflictDelivery`) establishes it — for `!w` provided it never authenticates its
own requests: a controlled agent that gets its own ICE-CONTROLLED request compares `own < own` and switches (`IceProps.C05`).
-/
namespace IceProofs.Sys2C05
open IceModel.AgentCore IceModel.Sys2 IceProofs.Agent IceProofs.Sys2Run

/-- the remote password an API event installs when it takes effect (`restart` clears it) -/
def remotePwdSet : Ev → Option String
  | .start _ _ _ rp => some rp
  | .setRemoteCreds _ rp => some rp
  | .restart _ _ _ => some ""
  | _ => none

/-- the local password an API event installs when it takes effect -/
def localPwdSet : Ev → Option String
  | .restart _ _ p => some p
  | _ => none

theorem step_creds (a : Agent) (ev : Ev) :
    ((step a ev).1.remotePwd = a.remotePwd ∨ remotePwdSet ev = some (step a ev).1.remotePwd) ∧
    ((step a ev).1.localPwd = a.localPwd ∨ localPwdSet ev = some (step a ev).1.localPwd) ∧
    (a.started = true → (step a ev).1.started = true) := by
  rw [← core_remotePwd (step a ev).1, ← core_localPwd (step a ev).1, ← core_started (step a ev).1]
  cases core_step a ev with
  | start _ _ _ _ he _ hc => rw [hc, he]; exact ⟨Or.inr rfl, Or.inl rfl, fun _ => rfl⟩
  | creds _ _ he hc => rw [hc, he]; exact ⟨Or.inr rfl, Or.inl rfl, id⟩
  | restart _ _ _ he _ hc => rw [hc, he]; exact ⟨Or.inr rfl, Or.inr rfl, id⟩
  | same _ _ hc | close _ hc | switch _ _ hc | deliver _ _ _ _ hc =>
    rw [hc]; exact ⟨Or.inl rfl, Or.inl rfl, id⟩

theorem step_remotePwd (a : Agent) (ev : Ev) :
    (step a ev).1.remotePwd = a.remotePwd ∨ remotePwdSet ev = some (step a ev).1.remotePwd := (step_creds a ev).1

theorem step_localPwd (a : Agent) (ev : Ev) :
    (step a ev).1.localPwd = a.localPwd ∨ localPwdSet ev = some (step a ev).1.localPwd := (step_creds a ev).2.1

theorem step_started (a : Agent) (ev : Ev) (hs : a.started = true) : (step a ev).1.started = true :=
  (step_creds a ev).2.2 hs

/-- the event is an inbound authenticated Binding request, on an existing local candidate of a started open
agent, from a source that resolves, carrying the agent's OWN role (a role conflict, kept or lost) -/
def conflictEv (a : Agent) (ev : Ev) : Bool :=
  match inboundOn a ev with
  | some (_, l, src, m) => reachesSelector a l src m && (roleConflict a m).isSome
  | none => false

/-- what a role conflict leaves behind: after processing a conflicting request with tie-breaker `theirs` the
receiver is controlling iff `own ≥ theirs`, whatever it was before (both rows of RFC 8445 §7.3.1.1) -/
theorem keeps_result (c : Bool) (own theirs : Nat) :
    (if roleConflictKeeps c own theirs then c else !c) = decide (own ≥ theirs) := by
  cases c <;> by_cases h : own ≥ theirs <;> simp [roleConflictKeeps, h]

theorem step_role (a : Agent) (ev : Ev) (hs : a.started = true) :
    (conflictEv a ev = false ∧ (step a ev).1.controlling = a.controlling) ∨
    (conflictEv a ev = true ∧ ∃ now la src m tb, ev = .inbound now la src m ∧ AuthRequest a m ∧
      m.role = some (a.controlling, tb) ∧ (step a ev).1.controlling = decide (a.tieBreaker ≥ tb)) := by
  rw [step_controlling]
  cases ev with
  | start now c ru rp =>
    left
    simp [conflictEv, inboundOn, startTakesEffect, hs]
  | inbound now la src m =>
    have hinb : inboundOn a (.inbound now la src m)
        = if a.closed || !a.started then none else (a.localByAddr la).map fun l => (now, l, src, m) := rfl
    simp only [conflictEv, conflictSwitchEv, hinb]
    by_cases h1 : (a.closed || !a.started) = true
    · left; simp [h1]
    · simp only [if_neg h1]
      cases hl : a.localByAddr la with
      | none => left; simp
      | some l =>
        simp only [Option.map_some]
        cases hrs : reachesSelector a l src m with
        | false => left; simp [conflictSwitch, hrs]
        | true =>
          cases hrc : roleConflict a m with
          | none => left; simp [conflictSwitch, hrs, hrc]
          | some tb =>
            right
            have hcs : conflictSwitch a l src m = !roleConflictKeeps a.controlling a.tieBreaker tb := by
              simp [conflictSwitch, hrs, hrc]
            refine ⟨by simp, now, la, src, m, tb, rfl, ?_, (roleConflict_eq_some a m tb).1 hrc, ?_⟩
            · simp only [reachesSelector, Bool.and_eq_true, decide_eq_true_eq] at hrs
              exact hrs.1
            · rw [← keeps_result a.controlling a.tieBreaker tb]
              simp only [hcs]
              cases roleConflictKeeps a.controlling a.tieBreaker tb <;> simp
  | _ => left; simp [conflictEv, conflictSwitchEv, inboundOn]

theorem bool_third {Z Y w : Bool} (h1 : Z ≠ Y) (h2 : Y ≠ w) : Z = w := by cases Z <;> cases Y <;> cases w <;> simp at *

theorem agentEv_agent (s : Sys) (X : Bool) (e : Ev) (Y : Bool) :
    (s.agentEv X e).1.agent Y = if Y = X then (step (s.agent X) e).1 else s.agent Y := by
  cases X <;> cases Y <;> rfl

protected theorem agentEv_inflight (s : Sys) (X : Bool) (e : Ev) :
    (s.agentEv X e).1.inflight = s.inflight ++ dgramsOf (step (s.agent X) e).2 := Sys2Run.agentEv_inflight s X e

section
variable (T : Bool → Nat) (RP LP : Bool → String → Prop)

/-- a role attribute on the wire names one of the two agents (by tie-breaker), and the message is keyed with a
remote password of that agent -/
def MsgOK (m : Msg) : Prop := ∀ c t, m.role = some (c, t) → ∃ X : Bool, t = T X ∧ ∃ p, RP X p ∧ m.key = some p

structure Inv (s : Sys) : Prop where
  tb : ∀ X, (s.agent X).tieBreaker = T X
  rp : ∀ X, RP X (s.agent X).remotePwd
  lp : ∀ X, LP X (s.agent X).localPwd
  fl : ∀ d ∈ s.inflight, ∀ m, d.p = .stun m → MsgOK T RP m

/-- the credentials an API event of agent `X` installs lie in `RP X` / `LP X` -/
def CredOK (X : Bool) (e : Ev) : Prop :=
  (∀ p, remotePwdSet e = some p → RP X p) ∧ (∀ p, localPwdSet e = some p → LP X p)

def SysEvOK : SysEv → Prop
  | .api X e => CredOK RP LP X e
  | _ => True

/-- an event handed to agent `X`: its credentials are allowed, and if it is an inbound STUN message, the message
is one that can be in flight -/
def EvAdm (X : Bool) (e : Ev) : Prop :=
  CredOK RP LP X e ∧ ∀ now la src m, e = .inbound now la src m → MsgOK T RP m

/-- agent `Y` is started and in the role the tie-breakers assign to it (`w` = holder of the larger tie-breaker:
`w` controlling, the other controlled) -/
def Right (w Y : Bool) (s : Sys) : Prop :=
  (s.agent Y).started = true ∧ (s.agent Y).controlling = (Y == w)

variable {T RP LP}

theorem agentEv_inv {s : Sys} (h : Inv T RP LP s) (X : Bool) (e : Ev) (he : EvAdm T RP LP X e) :
    Inv T RP LP (s.agentEv X e).1 := by
  have hrp : RP X (step (s.agent X) e).1.remotePwd := by
    rcases step_remotePwd (s.agent X) e with h1 | h1
    · rw [h1]; exact h.rp X
    · exact he.1.1 _ h1
  refine ⟨agentEv_each (P := fun Y a => a.tieBreaker = T Y) s X e ((step_constants (s.agent X) e).1.trans (h.tb X)) h.tb,
    agentEv_each (P := fun Y a => RP Y a.remotePwd) s X e hrp h.rp,
    agentEv_each (P := fun Y a => LP Y a.localPwd) s X e ?_ h.lp, ?_⟩
  · rcases step_localPwd (s.agent X) e with h1 | h1
    · rw [h1]; exact h.lp X
    · exact he.1.2 _ h1
  · intro d hd m hp
    rcases agentEv_stun hd hp with hd | hm
    · exact h.fl d hd m hp
    · intro c t' hr
      have := step_outs (s.agent X) e _ hm c t' hr
      exact ⟨X, by rw [this.1, h.tb X], _, hrp, this.2⟩

/-- `m` was sent by one of the two agents; if by the other one, compare the two distinct tie-breakers; if by `Y` itself, `m`
is keyed with one of `Y`'s remote passwords, which `Y` does not accept — or `Y = w` and `own ≥ own`. -/
theorem role_outcome {s : Sys} (h : Inv T RP LP s) {w : Bool} (hw : T (!w) < T w) (Y : Bool)
    (hd : Y = w ∨ ∀ p, RP Y p → ¬ LP Y p) {m : Msg} (hm : MsgOK T RP m) (hauth : AuthRequest (s.agent Y) m)
    {c : Bool} {tb : Nat} (hrole : m.role = some (c, tb)) :
    decide ((s.agent Y).tieBreaker ≥ tb) = (Y == w) := by
  obtain ⟨Z, hZ, p, hp, hkey⟩ := hm _ _ hrole
  rw [h.tb Y, hZ]
  by_cases hYw : Y = w
  · subst hYw
    have : T Z ≤ T Y := by
      by_cases hZY : Z = Y
      · subst hZY; exact Nat.le_refl _
      · have : Z = !Y := Bool.eq_not_of_ne hZY
        subst this; exact Nat.le_of_lt hw
    simp [this]
  · have hYw' : Y = !w := Bool.eq_not_of_ne hYw
    by_cases hZY : Z = Y
    · -- its own request: keyed with one of its remote passwords, authenticated with its local password
      exfalso
      subst hZY
      rcases hd with hd | hd
      · exact hYw hd
      · have hk : m.key = some (s.agent Z).localPwd := hauth.2.2.2
        rw [hkey] at hk
        have : p = (s.agent Z).localPwd := by simpa using hk
        exact hd p hp (this ▸ h.lp Z)
    · have hZw : Z = w := bool_third hZY hYw
      subst hZw hYw'
      have : ¬ T (!Z) ≥ T Z := Nat.not_le_of_lt hw
      simp [this]

theorem agentEv_right {s : Sys} (h : Inv T RP LP s) (X : Bool) (e : Ev) (he : EvAdm T RP LP X e)
    {w : Bool} (hw : T (!w) < T w) (Y : Bool) (hd : Y = w ∨ ∀ p, RP Y p → ¬ LP Y p)
    (hr : Right w Y s) : Right w Y (s.agentEv X e).1 := by
  unfold Right at hr ⊢
  rw [agentEv_agent]
  split
  · rename_i hY
    subst hY
    refine ⟨step_started _ _ hr.1, ?_⟩
    rcases step_role (s.agent Y) e hr.1 with ⟨_, h2⟩ | ⟨_, now, la, src, m, tb, rfl, hauth, hrole, h2⟩
    · rw [h2]; exact hr.2
    · rw [h2]
      exact role_outcome h hw Y hd (he.2 now la src m rfl) hauth hrole
  · exact hr

theorem frame_inv {s s' : Sys} (hub : Hub s s') (h : Inv T RP LP s) : Inv T RP LP s' :=
  ⟨fun X => by rw [hub.agent]; exact h.tb X, fun X => by rw [hub.agent]; exact h.rp X,
    fun X => by rw [hub.agent]; exact h.lp X, fun d hd => h.fl d (hub.fl d hd)⟩

theorem frame_right {s s' : Sys} {w Y : Bool} (hub : Hub s s') (h : Right w Y s) : Right w Y s' := by
  unfold Right at h ⊢
  rw [hub.agent]; exact h

theorem credOK_hub (X : Bool) {ev : Ev} (h : ev.isApi = false) : CredOK RP LP X ev := by
  have hn : remotePwdSet ev = none ∧ localPwdSet ev = none := by cases ev <;> first | exact ⟨rfl, rfl⟩ | cases h
  exact ⟨fun p hp => (by rw [hn.1] at hp; cases hp), fun p hp => (by rw [hn.2] at hp; cases hp)⟩

/-- `Sys.run_closure` for a predicate that implies `Inv`: an inbound message handed to an agent is `MsgOK` by `Inv.fl`. -/
theorem run_closure (Q : Sys → Prop) (hQ : ∀ s, Q s → Inv T RP LP s)
    (hag : ∀ s X e, Q s → EvAdm T RP LP X e → Q (s.agentEv X e).1) (hfr : ∀ s s', Hub s s' → Q s → Q s')
    (s : Sys) (e : SysEv) (hs : Q s) (he : SysEvOK RP LP e) : Q (Sys.run s e) :=
  Sys.run_closure (K := CredOK RP LP) (D := fun _ d => ∀ m, d.p = .stun m → MsgOK T RP m) (fun X _ h => credOK_hub X h)
    (fun s q => (hQ s q).fl) (fun _ _ _ _ hd => hd) hfr
    (fun s X ev q hk hadm => hag s X ev q ⟨hk, fun now la src m hev => by
      rcases hadm with hni | ⟨d, hd, rfl⟩
      · exact absurd hev (hni now la src m)
      · exact hd m (evOf_inbound hev)⟩)
    hs e fun X ev hev => by subst hev; exact he

theorem run_inv {s : Sys} (h : Inv T RP LP s) (e : SysEv) (he : SysEvOK RP LP e) : Inv T RP LP (Sys.run s e) :=
  run_closure (Inv T RP LP) (fun _ h => h) (fun _ X e h he => agentEv_inv h X e he)
    (fun _ _ hub h => frame_inv hub h) s e h he

theorem runs_inv {s : Sys} (h : Inv T RP LP s) (es : List SysEv) (he : ∀ e ∈ es, SysEvOK RP LP e) :
    Inv T RP LP (Sys.runs s es) :=
  Sys.runs_ind (Q := Inv T RP LP) (fun _ e h he => run_inv h e he) h es he

theorem run_right {s : Sys} (h : Inv T RP LP s) (e : SysEv) (he : SysEvOK RP LP e)
    {w : Bool} (hw : T (!w) < T w) (Y : Bool) (hd : Y = w ∨ ∀ p, RP Y p → ¬ LP Y p)
    (hr : Right w Y s) : Right w Y (Sys.run s e) :=
  (run_closure (fun s => Inv T RP LP s ∧ Right w Y s) (fun _ h => h.1)
    (fun _ X e h he => ⟨agentEv_inv h.1 X e he, agentEv_right h.1 X e he hw Y hd h.2⟩)
    (fun _ _ hub h => ⟨frame_inv hub h.1, frame_right hub h.2⟩) s e ⟨h, hr⟩ he).2

theorem runs_right {s : Sys} (h : Inv T RP LP s) (es : List SysEv) (he : ∀ e ∈ es, SysEvOK RP LP e)
    {w : Bool} (hw : T (!w) < T w) (Y : Bool) (hd : Y = w ∨ ∀ p, RP Y p → ¬ LP Y p)
    (hr : Right w Y s) : Right w Y (Sys.runs s es) :=
  (Sys.runs_ind (Q := fun s => Inv T RP LP s ∧ Right w Y s)
    (fun _ e h he => ⟨run_inv h.1 e he, run_right h.1 e he hw Y hd h.2⟩) ⟨h, hr⟩ es he).2

/-- delivering (or duplicating) in-flight datagram `k` hands agent `Y` a role conflict: the datagram is not
dropped by the network, `Y` listens at its destination, and the resulting event is an authenticated Binding
request carrying `Y`'s own role whose source resolves (`conflictEv`) -/
def conflictDelivery (s : Sys) (k : Nat) (Y : Bool) : Bool :=
  match s.inflight[k]? with
  | none => false
  | some d =>
    !s.blocked.contains (d.src, d.dst) && (s.owner (s.unmapped d.dst) == some Y) && conflictEv (s.agent Y) (evOf s d)

theorem conflictEv_iff (a : Agent) (ev : Ev) :
    conflictEv a ev = true ↔
      ∃ now la src m l tb, ev = .inbound now la src m ∧ a.closed = false ∧ a.started = true ∧
        a.localByAddr la = some l ∧ AuthRequest a m ∧ (resolveSource a l src m).2.2.isSome = true ∧
        m.role = some (a.controlling, tb) := by
  unfold conflictEv
  constructor
  · intro h
    cases hin : inboundOn a ev with
    | none => rw [hin] at h; cases h
    | some x =>
      obtain ⟨now, l, src, m⟩ := x
      obtain ⟨la, rfl, hc, hs, hl⟩ := (inboundOn_iff a ev now l src m).1 hin
      rw [hin] at h
      simp only [Bool.and_eq_true, reachesSelector, decide_eq_true_eq] at h
      obtain ⟨⟨hauth, hres⟩, hrc⟩ := h
      obtain ⟨tb, hrc'⟩ := Option.isSome_iff_exists.mp hrc
      exact ⟨now, la, src, m, l, tb, rfl, hc, hs, hl, hauth, hres, (roleConflict_eq_some a m tb).1 hrc'⟩
  · rintro ⟨now, la, src, m, l, tb, rfl, hc, hs, hl, hauth, hres, hrole⟩
    rw [(inboundOn_iff a _ now l src m).2 ⟨la, rfl, hc, hs, hl⟩]
    simp only [reachesSelector, Bool.and_eq_true, decide_eq_true_eq]
    exact ⟨⟨hauth, hres⟩, by rw [(roleConflict_eq_some a m tb).2 hrole]; rfl⟩

theorem conflictEv_started {a : Agent} {ev : Ev} (h : conflictEv a ev = true) : a.started = true := by
  obtain ⟨_, _, _, _, _, _, _, _, hs, _⟩ := (conflictEv_iff a ev).1 h
  exact hs

/-- the system event that delivers (`keep = false`) or duplicates (`keep = true`) datagram `k` -/
def delivery (k : Nat) (keep : Bool) : SysEv := if keep then .dup k else .deliver k

theorem run_delivery (s : Sys) (k : Nat) (keep : Bool) : Sys.run s (delivery k keep) = (s.deliver k keep).1 := by
  cases keep <;> rfl

theorem deliver_conflict {s : Sys} (h : Inv T RP LP s) {w : Bool} (hw : T (!w) < T w) (Y : Bool)
    (hd : Y = w ∨ ∀ p, RP Y p → ¬ LP Y p) (k : Nat) (keep : Bool) (hc : conflictDelivery s k Y = true) :
    Right w Y (s.deliver k keep).1 ∧ (s.deliver k keep).1.agent (!Y) = s.agent (!Y) := by
  unfold conflictDelivery at hc
  cases hk : s.inflight[k]? with
  | none => simp [hk] at hc
  | some d =>
    simp only [hk, Bool.and_eq_true, Bool.not_eq_true', beq_iff_eq] at hc
    obtain ⟨⟨hb, ho⟩, hce⟩ := hc
    have hst := conflictEv_started hce
    -- the one agent event of the delivery is `Y`'s, and it is the conflict
    have hm : C20S.microEvs s (delivery k keep) = [(Y, evOf s d)] := by
      cases keep <;> simp only [delivery, C20S.microEvs, hk, hb, ho, Bool.false_eq_true, if_false, if_true]
    rw [← run_delivery]
    refine run_rule (P := fun e s' => e = delivery k keep → Right w Y s' ∧ s'.agent (!Y) = s.agent (!Y)) s
      (fun e s0 _ hm' he => ?_) (fun e s0 X ev hub hm' _ he => ?_) (fun now s0 _ _ _ he => ?_) _ rfl
    · rw [he, hm] at hm'; cases hm'
    · rw [he, hm] at hm'
      simp only [List.cons.injEq, Prod.mk.injEq, and_true] at hm'
      obtain ⟨rfl, rfl⟩ := hm'
      refine ⟨?_, by rw [agentEv_other, hub.agent]⟩
      unfold Right
      rw [agentEv_same, hub.agent]
      refine ⟨step_started _ _ hst, ?_⟩
      rcases step_role (s.agent Y) (evOf s d) hst with ⟨h1, _⟩ | ⟨_, now, la, src, m, tb, hevq, hauth, hrole, h2⟩
      · rw [hce] at h1; cases h1
      · rw [h2]
        exact role_outcome h hw Y hd (h.fl d (List.mem_of_getElem? hk) m (evOf_inbound hevq)) hauth hrole
    · cases keep <;> cases he

theorem Right_winner (w : Bool) (s : Sys) :
    Right w w s ↔ (s.agent w).started = true ∧ (s.agent w).controlling = true := by
  unfold Right; simp

theorem Right_loser (w : Bool) (s : Sys) :
    Right w (!w) s ↔ (s.agent (!w)).started = true ∧ (s.agent (!w)).controlling = false := by
  unfold Right; cases w <;> simp

/-- In a state where both agents are started and in the SAME role, let `Y` be the agent that is in the wrong role
(both controlling: the smaller tie-breaker; both controlled: the larger).  Once `Y` has processed one authenticated
request carrying that role, the roles are opposite and oriented by the tie-breakers. -/
theorem same_role_resolves_core {s : Sys} (h : Inv T RP LP s) {w : Bool} (hw : T (!w) < T w)
    (hsa : s.a.started = true) (hsb : s.b.started = true) (hsame : s.a.controlling = s.b.controlling)
    (hcred : s.a.controlling = true → ∀ p, RP (!w) p → ¬ LP (!w) p)
    (k : Nat) (keep : Bool) (hc : conflictDelivery s k (if s.a.controlling then !w else w) = true) :
    Right w w (s.deliver k keep).1 ∧ Right w (!w) (s.deliver k keep).1 := by
  have hst : ∀ X, (s.agent X).started = true := by intro X; cases X <;> simp [Sys.agent, hsa, hsb]
  have hctl : ∀ X, (s.agent X).controlling = s.a.controlling := by intro X; cases X <;> simp [Sys.agent, hsame]
  cases hr : s.a.controlling with
  | true =>
    rw [hr] at hc
    simp only [if_true] at hc
    obtain ⟨h1, h2⟩ := deliver_conflict h hw (!w) (Or.inr (hcred hr)) k keep hc
    refine ⟨?_, h1⟩
    rw [Right_winner]
    rw [Bool.not_not] at h2
    rw [h2]
    exact ⟨hst w, by rw [hctl w, hr]⟩
  | false =>
    rw [hr] at hc
    simp only [Bool.false_eq_true, if_false] at hc
    obtain ⟨h1, h2⟩ := deliver_conflict h hw w (Or.inl rfl) k keep hc
    refine ⟨h1, ?_⟩
    rw [Right_loser, h2]
    exact ⟨hst (!w), by rw [hctl (!w), hr]⟩

end

/-- tie-breaker of agent `X` (`false` = A, `true` = B) in the initial state; constant along every run -/
def tbOf (s0 : Sys) (X : Bool) : Nat := (s0.agent X).tieBreaker

/-- the agent holding the larger tie-breaker (`true` = B) -/
def winner (s0 : Sys) : Bool := decide (s0.a.tieBreaker < s0.b.tieBreaker)

/-- every remote password agent `X` holds initially or is given by an API call of the schedule (`start`,
`setRemoteCreds`; `restart` clears it to `""`) -/
def remotePwds (s0 : Sys) (evs : List SysEv) (X : Bool) : List String :=
  (s0.agent X).remotePwd :: evs.filterMap fun e => match e with
    | .api Y ev => if Y = X then remotePwdSet ev else none
    | _ => none

/-- every local password agent `X` holds initially or is given by a `restart` of the schedule -/
def localPwds (s0 : Sys) (evs : List SysEv) (X : Bool) : List String :=
  (s0.agent X).localPwd :: evs.filterMap fun e => match e with
    | .api Y ev => if Y = X then localPwdSet ev else none
    | _ => none

/-- Schedule hypothesis: agent `X` is never handed one of its own local passwords as the remote password (its own
requests, should the network deliver them back to it, fail MESSAGE-INTEGRITY). -/
def NoLoopbackCreds (s0 : Sys) (evs : List SysEv) (X : Bool) : Prop :=
  ∀ p ∈ remotePwds s0 evs X, p ∉ localPwds s0 evs X

instance (s0 : Sys) (evs : List SysEv) (X : Bool) : Decidable (NoLoopbackCreds s0 evs X) := by
  unfold NoLoopbackCreds; infer_instance

theorem winner_lt (s0 : Sys) (hne : s0.a.tieBreaker ≠ s0.b.tieBreaker) :
    tbOf s0 (!winner s0) < tbOf s0 (winner s0) := by
  unfold winner tbOf
  by_cases h : s0.a.tieBreaker < s0.b.tieBreaker
  · simp [h, Sys.agent]
  · have : s0.b.tieBreaker < s0.a.tieBreaker := Nat.lt_of_le_of_ne (Nat.le_of_not_lt h) (Ne.symm hne)
    simp [h, Sys.agent, this]

theorem init_inv {s0 : Sys} (hinit : Sys.Init s0) (RP LP : Bool → String → Prop)
    (hrp : ∀ X, RP X (s0.agent X).remotePwd) (hlp : ∀ X, LP X (s0.agent X).localPwd) : Inv (tbOf s0) RP LP s0 :=
  ⟨fun _ => rfl, hrp, hlp, by intro d hd; rw [hinit.inflight] at hd; cases hd⟩

theorem evs_ok (s0 : Sys) (evs : List SysEv) :
    ∀ e ∈ evs, SysEvOK (fun X p => p ∈ remotePwds s0 evs X) (fun X p => p ∈ localPwds s0 evs X) e := by
  intro e he
  cases e with
  | api X ev =>
    refine ⟨?_, ?_⟩
    · intro p hp
      refine List.mem_cons_of_mem _ (List.mem_filterMap.mpr ⟨_, he, ?_⟩)
      simp [hp]
    · intro p hp
      refine List.mem_cons_of_mem _ (List.mem_filterMap.mpr ⟨_, he, ?_⟩)
      simp [hp]
  | _ => trivial

/-- the invariant instantiated with the credentials of a schedule -/
abbrev InvOf (s0 : Sys) (evs : List SysEv) : Sys → Prop :=
  Inv (tbOf s0) (fun X p => p ∈ remotePwds s0 evs X) (fun X p => p ∈ localPwds s0 evs X)

theorem init_invOf {s0 : Sys} (hinit : Sys.Init s0) (evs : List SysEv) : InvOf s0 evs s0 :=
  init_inv hinit _ _ (fun _ => List.mem_cons_self) (fun _ => List.mem_cons_self)

theorem prefix_invOf {s0 : Sys} (hinit : Sys.Init s0) (evs1 evs2 : List SysEv) :
    InvOf s0 (evs1 ++ evs2) (Sys.runs s0 evs1) :=
  runs_inv (init_invOf hinit _) evs1 (fun e he => evs_ok s0 (evs1 ++ evs2) e (List.mem_append_left _ he))

theorem reach_invOf {s0 : Sys} (hinit : Sys.Init s0) (evs : List SysEv) : InvOf s0 evs (Sys.runs s0 evs) := by
  have h := prefix_invOf hinit evs []
  rwa [List.append_nil] at h

theorem evs_ok_triv (evs : List SysEv) : ∀ e ∈ evs, SysEvOK (fun _ _ => True) (fun _ _ => True) e := by
  intro e _
  cases e with
  | api X ev => exact ⟨fun _ _ => trivial, fun _ _ => trivial⟩
  | _ => trivial

/-- the invariant with no constraint on credentials (enough for the agent with the larger tie-breaker) -/
theorem reach_inv_triv {s0 : Sys} (hinit : Sys.Init s0) (evs : List SysEv) :
    Inv (tbOf s0) (fun _ _ => True) (fun _ _ => True) (Sys.runs s0 evs) :=
  runs_inv (init_inv hinit _ _ (fun _ => trivial) (fun _ => trivial)) evs (evs_ok_triv evs)

theorem reach_tieBreaker {s0 : Sys} (hinit : Sys.Init s0) (evs : List SysEv) (X : Bool) :
    ((Sys.runs s0 evs).agent X).tieBreaker = (s0.agent X).tieBreaker :=
  (reach_inv_triv hinit evs).tb X

theorem reach_inflight {s0 : Sys} (hinit : Sys.Init s0) (evs : List SysEv) :
    ∀ d ∈ (Sys.runs s0 evs).inflight, ∀ m, d.p = .stun m → ∀ c t, m.role = some (c, t) →
      ∃ X : Bool, t = (s0.agent X).tieBreaker ∧ ∃ p, p ∈ remotePwds s0 evs X ∧ m.key = some p := by
  intro d hd m hp c t hr
  exact (reach_invOf hinit evs).fl d hd m hp c t hr

/-- `W` = holder of the larger tie-breaker, `L` the other.  Along EVERY schedule: once `W` is started and controlling it
stays so for ever; once `L` is started and controlled it stays so for ever, provided `L` is never handed one of its own
passwords as remote password. -/
theorem orientation_stable (s0 : Sys) (hinit : Sys.Init s0) (hne : s0.a.tieBreaker ≠ s0.b.tieBreaker)
    (evs1 evs2 : List SysEv) :
    (Right (winner s0) (winner s0) (Sys.runs s0 evs1) →
      Right (winner s0) (winner s0) (Sys.runs (Sys.runs s0 evs1) evs2)) ∧
    (NoLoopbackCreds s0 (evs1 ++ evs2) (!winner s0) →
      Right (winner s0) (!winner s0) (Sys.runs s0 evs1) →
      Right (winner s0) (!winner s0) (Sys.runs (Sys.runs s0 evs1) evs2)) := by
  refine ⟨?_, ?_⟩
  · intro hr
    exact runs_right (reach_inv_triv hinit evs1) evs2 (evs_ok_triv evs2) (winner_lt s0 hne) _ (Or.inl rfl) hr
  · intro hno hr
    exact runs_right (prefix_invOf hinit evs1 evs2) evs2
      (fun e he => evs_ok s0 (evs1 ++ evs2) e (List.mem_append_right _ he)) (winner_lt s0 hne) _ (Or.inr hno) hr

/-- In every reachable state, when agent `Y` processes an authenticated request carrying `Y`'s own role (delivery or
duplication of datagram `k`), `Y` is afterwards controlling iff it holds the larger tie-breaker, and the other agent is
untouched.  (For `Y = L` under `NoLoopbackCreds`.) -/
theorem conflict_resolves (s0 : Sys) (hinit : Sys.Init s0) (hne : s0.a.tieBreaker ≠ s0.b.tieBreaker)
    (evs : List SysEv) (k : Nat) (keep : Bool) (Y : Bool)
    (hd : Y = winner s0 ∨ NoLoopbackCreds s0 evs Y)
    (hc : conflictDelivery (Sys.runs s0 evs) k Y = true) :
    Right (winner s0) Y ((Sys.runs s0 evs).deliver k keep).1 ∧
    ((Sys.runs s0 evs).deliver k keep).1.agent (!Y) = (Sys.runs s0 evs).agent (!Y) :=
  deliver_conflict (reach_invOf hinit evs) (winner_lt s0 hne) Y hd k keep hc

/-- Reachable state, both agents started and in the same role; `Y` = the agent in the wrong role.  After `Y` has processed
one authenticated same-role request: `W` controlling, `L` controlled. -/
theorem same_role_resolves (s0 : Sys) (hinit : Sys.Init s0) (hne : s0.a.tieBreaker ≠ s0.b.tieBreaker)
    (evs : List SysEv) (k : Nat) (keep : Bool)
    (hsa : (Sys.runs s0 evs).a.started = true) (hsb : (Sys.runs s0 evs).b.started = true)
    (hsame : (Sys.runs s0 evs).a.controlling = (Sys.runs s0 evs).b.controlling)
    (hcred : (Sys.runs s0 evs).a.controlling = true → NoLoopbackCreds s0 evs (!winner s0))
    (hc : conflictDelivery (Sys.runs s0 evs) k
      (if (Sys.runs s0 evs).a.controlling then !winner s0 else winner s0) = true) :
    Right (winner s0) (winner s0) ((Sys.runs s0 evs).deliver k keep).1 ∧
    Right (winner s0) (!winner s0) ((Sys.runs s0 evs).deliver k keep).1 :=
  same_role_resolves_core (reach_invOf hinit evs) (winner_lt s0 hne) hsa hsb hsame hcred k keep hc

theorem opposite_absorbing (s0 : Sys) (hinit : Sys.Init s0) (hne : s0.a.tieBreaker ≠ s0.b.tieBreaker)
    (evs1 evs2 : List SysEv) (hno : NoLoopbackCreds s0 (evs1 ++ evs2) (!winner s0))
    (h1 : Right (winner s0) (winner s0) (Sys.runs s0 evs1)) (h2 : Right (winner s0) (!winner s0) (Sys.runs s0 evs1)) :
    Right (winner s0) (winner s0) (Sys.runs (Sys.runs s0 evs1) evs2) ∧
    Right (winner s0) (!winner s0) (Sys.runs (Sys.runs s0 evs1) evs2) :=
  ⟨(orientation_stable s0 hinit hne evs1 evs2).1 h1, (orientation_stable s0 hinit hne evs1 evs2).2 hno h2⟩

theorem right_after_delivery (s0 : Sys) (hinit : Sys.Init s0) (hne : s0.a.tieBreaker ≠ s0.b.tieBreaker)
    (evs1 : List SysEv) (k : Nat) (keep : Bool) (evs2 : List SysEv) (Y : Bool)
    (hd : Y = winner s0 ∨ NoLoopbackCreds s0 (evs1 ++ delivery k keep :: evs2) Y)
    (r1 : Right (winner s0) Y ((Sys.runs s0 evs1).deliver k keep).1) :
    Right (winner s0) Y (Sys.runs s0 (evs1 ++ delivery k keep :: evs2)) := by
  have hok := evs_ok s0 (evs1 ++ delivery k keep :: evs2)
  rw [← run_delivery] at r1
  have h2 := run_inv (prefix_invOf hinit evs1 (delivery k keep :: evs2)) (delivery k keep) (hok _ (by simp))
  have e : Sys.runs s0 (evs1 ++ delivery k keep :: evs2)
      = Sys.runs (Sys.run (Sys.runs s0 evs1) (delivery k keep)) evs2 := by
    rw [Sys.runs_append]; rfl
  rw [e]
  exact runs_right h2 evs2 (fun e he => hok e (by simp [he])) (winner_lt s0 hne) Y hd r1

/-- Any schedule `evs1`, then agent `Y` processes an authenticated request carrying its own role, then any schedule `evs2`:
in the final state `Y` is started and in its assigned role. -/
theorem conflict_resolves_forever (s0 : Sys) (hinit : Sys.Init s0) (hne : s0.a.tieBreaker ≠ s0.b.tieBreaker)
    (evs1 : List SysEv) (k : Nat) (keep : Bool) (evs2 : List SysEv) (Y : Bool)
    (hd : Y = winner s0 ∨ NoLoopbackCreds s0 (evs1 ++ delivery k keep :: evs2) Y)
    (hc : conflictDelivery (Sys.runs s0 evs1) k Y = true) :
    Right (winner s0) Y (Sys.runs s0 (evs1 ++ delivery k keep :: evs2)) :=
  right_after_delivery s0 hinit hne evs1 k keep evs2 Y hd
    (deliver_conflict (prefix_invOf hinit evs1 (delivery k keep :: evs2)) (winner_lt s0 hne) Y hd k keep hc).1

/-- Any schedule `evs1` leading to a state in which both agents are started and in the same role; then the agent in the
wrong role processes one authenticated same-role request; then ANY schedule `evs2`.  In the final state `W` is controlling
and `L` controlled. -/
theorem same_role_ends_opposite (s0 : Sys) (hinit : Sys.Init s0) (hne : s0.a.tieBreaker ≠ s0.b.tieBreaker)
    (evs1 : List SysEv) (k : Nat) (keep : Bool) (evs2 : List SysEv)
    (hno : NoLoopbackCreds s0 (evs1 ++ delivery k keep :: evs2) (!winner s0))
    (hsa : (Sys.runs s0 evs1).a.started = true) (hsb : (Sys.runs s0 evs1).b.started = true)
    (hsame : (Sys.runs s0 evs1).a.controlling = (Sys.runs s0 evs1).b.controlling)
    (hc : conflictDelivery (Sys.runs s0 evs1) k
      (if (Sys.runs s0 evs1).a.controlling then !winner s0 else winner s0) = true) :
    Right (winner s0) (winner s0) (Sys.runs s0 (evs1 ++ delivery k keep :: evs2)) ∧
    Right (winner s0) (!winner s0) (Sys.runs s0 (evs1 ++ delivery k keep :: evs2)) := by
  obtain ⟨r1, r2⟩ := same_role_resolves_core (prefix_invOf hinit evs1 (delivery k keep :: evs2)) (winner_lt s0 hne)
    hsa hsb hsame (fun _ => hno) k keep hc
  exact ⟨right_after_delivery s0 hinit hne evs1 k keep evs2 _ (Or.inl rfl) r1,
    right_after_delivery s0 hinit hne evs1 k keep evs2 _ (Or.inr hno) r2⟩

/-- Both agents started in the same role `r`: in every later state they are either still both in role `r` or `W` is
controlling and `L` controlled — never the reverse. -/
theorem same_role_never_misoriented (s0 : Sys) (hinit : Sys.Init s0) (hne : s0.a.tieBreaker ≠ s0.b.tieBreaker)
    (evs1 evs2 : List SysEv)
    (hsa : (Sys.runs s0 evs1).a.started = true) (hsb : (Sys.runs s0 evs1).b.started = true)
    (hsame : (Sys.runs s0 evs1).a.controlling = (Sys.runs s0 evs1).b.controlling)
    (hcred : (Sys.runs s0 evs1).a.controlling = false → NoLoopbackCreds s0 (evs1 ++ evs2) (!winner s0)) :
    (((Sys.runs (Sys.runs s0 evs1) evs2).agent (winner s0)).controlling = (Sys.runs s0 evs1).a.controlling ∧
     ((Sys.runs (Sys.runs s0 evs1) evs2).agent (!winner s0)).controlling = (Sys.runs s0 evs1).a.controlling) ∨
    (Right (winner s0) (winner s0) (Sys.runs (Sys.runs s0 evs1) evs2) ∧
     Right (winner s0) (!winner s0) (Sys.runs (Sys.runs s0 evs1) evs2)) := by
  have hst : ∀ X, ((Sys.runs s0 evs1).agent X).started = true := by
    intro X; cases X <;> simp [Sys.agent, hsa, hsb]
  have hctl : ∀ X, ((Sys.runs s0 evs1).agent X).controlling = (Sys.runs s0 evs1).a.controlling := by
    intro X; cases X <;> simp [Sys.agent, hsame]
  have hst2 : ∀ X, ((Sys.runs (Sys.runs s0 evs1) evs2).agent X).started = true := fun X =>
    Sys.runs_agents (P := fun a => a.started = true) step_started hst evs2 X
  have hos := orientation_stable s0 hinit hne evs1 evs2
  cases hr : (Sys.runs s0 evs1).a.controlling with
  | true =>
    have hW := hos.1 ((Right_winner _ _).2 ⟨hst _, by rw [hctl, hr]⟩)
    cases hL : ((Sys.runs (Sys.runs s0 evs1) evs2).agent (!winner s0)).controlling with
    | true => left; exact ⟨((Right_winner _ _).1 hW).2, rfl⟩
    | false => right; exact ⟨hW, (Right_loser _ _).2 ⟨hst2 _, hL⟩⟩
  | false =>
    have hL := hos.2 (hcred hr) ((Right_loser _ _).2 ⟨hst _, by rw [hctl, hr]⟩)
    cases hW : ((Sys.runs (Sys.runs s0 evs1) evs2).agent (winner s0)).controlling with
    | false => left; exact ⟨rfl, ((Right_loser _ _).1 hL).2⟩
    | true => right; exact ⟨(Right_winner _ _).2 ⟨hst2 _, hW⟩, hL⟩

end IceProofs.Sys2C05

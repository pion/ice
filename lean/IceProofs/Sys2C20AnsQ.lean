import IceProofs.Sys2C20Defs
import IceProofs.AgentAuto
import IceProofs.AgentKept
/-!
# C20 on `Sys2` — frame walk for `answeredNomination`

`Agent.ansv` projects an agent on the single field `answeredNomination`.  Every helper of `step` leaves the
projection alone; the writers are `resetSelector` (Start, Restart, lost role conflict) and the controlling branch
of `handleSuccess`.
-/
namespace IceProofs.C20S

structure AnsV where
  v : Option Nat

end IceProofs.C20S

namespace IceModel.AgentCore
/-- the greatest answered renomination value of the controlling selector, boxed -/
def Agent.ansv (a : Agent) : IceProofs.C20S.AnsV := ⟨a.answeredNomination⟩
end IceModel.AgentCore

namespace IceProofs.C20S
open IceModel.AgentCore IceProofs.Agent

@[simp] theorem ansv_mk (cfg tieBreaker controlling started closed connState localUfrag localPwd remoteUfrag remotePwd
    locals remotes checklist nextPairID nextUid nextTid tag pending selected selStart nominatedPair lastNomination answeredNomination
    lastSeen checkingStart checkingTimeout forcePending nextTick caches rx connBytesSent connBytesRecv
    onConnectedFired generation nomIssued lastRenomTime nomCounter) :
    (Agent.mk cfg tieBreaker controlling started closed connState localUfrag localPwd remoteUfrag remotePwd
    locals remotes checklist nextPairID nextUid nextTid tag pending selected selStart nominatedPair lastNomination answeredNomination
    lastSeen checkingStart checkingTimeout forcePending nextTick caches rx connBytesSent connBytesRecv
    onConnectedFired generation nomIssued lastRenomTime nomCounter).ansv = ⟨answeredNomination⟩ := rfl

@[simp] theorem ansv_eta (y : Agent) : AnsV.mk y.answeredNomination = y.ansv := rfl
theorem ansv_v (a : Agent) : a.ansv.v = a.answeredNomination := rfl

theorem ansv_field {a b : Agent} (h : b.ansv = a.ansv) : b.answeredNomination = a.answeredNomination :=
  congrArg AnsV.v h

theorem fst_ansv {α : Type} {x : Agent × α} {a' : Agent} {r : α} (h : x = (a', r)) : a'.ansv = x.1.ansv := by
  subst h; rfl

@[simp] theorem ansv_modPair (a : Agent) (id : Nat) (f : Pair → Pair) : (a.modPair id f).ansv = a.ansv := rfl
@[simp] theorem ansv_seenLocalSent (a : Agent) (u n : Nat) : (a.seenLocalSent u n).ansv = a.ansv := rfl
@[simp] theorem ansv_seenRemoteRecv (a : Agent) (u n : Nat) : (a.seenRemoteRecv u n).ansv = a.ansv := rfl
@[simp] theorem ansv_invalidatePending (a : Agent) (n : Nat) : (a.invalidatePending n).ansv = a.ansv := rfl
@[simp] theorem ansv_wipe (a : Agent) : a.wipe.ansv = a.ansv := rfl
@[simp] theorem ansv_requestCheck (a : Agent) : a.requestCheck.ansv = a.ansv := rfl

theorem ansv_of_kept {a b : Agent} (h : b.kept = a.kept) : b.ansv = a.ansv :=
  congrArg (fun k : Kept => AnsV.mk k.answeredNomination) h

@[simp] theorem ansv_select (a : Agent) (id : Nat) : (a.select id).1.ansv = a.ansv := ansv_of_kept (kept_select a id)

@[simp] theorem ansv_sendRequest (a : Agent) (now : Nat) (l r : Cand) (u : Bool) (n : Option Nat) :
    (a.sendRequest now l r u n).1.ansv = a.ansv := ansv_of_kept (kept_sendRequest a now l r u n)

@[simp] theorem ansv_runForced (a : Agent) (now : Nat) : (a.runForced now).1.ansv = a.ansv :=
  runForced_kept (fun k => AnsV.mk k.answeredNomination) (fun _ _ _ _ => rfl) (fun _ _ _ _ => rfl) a now

@[simp] theorem ansv_runTimers (a : Agent) (now fuel : Nat) : (a.runTimers now fuel).1.ansv = a.ansv :=
  runTimers_kept (fun k => AnsV.mk k.answeredNomination) (fun _ _ _ _ => rfl) (fun _ _ _ _ => rfl) a now fuel

@[simp] theorem ansv_addPair (a : Agent) (l r : Cand) : (a.addPair l r).1.ansv = a.ansv := rfl

@[simp] theorem ansv_addRemoteCandidate (a : Agent) (c : Cand) : (a.addRemoteCandidate c).1.ansv = a.ansv :=
  ansv_of_kept (kept_addRemoteCandidate a c)

@[simp] theorem ansv_addLocalCandidate (a : Agent) (c : Cand) : (a.addLocalCandidate c).1.ansv = a.ansv :=
  ansv_of_kept (kept_addLocalCandidate a c)

@[simp] theorem ansv_takePending (a : Agent) (now tid : Nat) : (a.takePending now tid).1.ansv = a.ansv :=
  ansv_of_kept (kept_takePending a now tid)

@[simp] theorem ansv_ctlHandleRequest (a : Agent) (now : Nat) (m : Msg) (l r : Cand) :
    (a.ctlHandleRequest now m l r).1.ansv = a.ansv := ansv_of_kept (kept_ctlHandleRequest a now m l r)

@[simp] theorem ansv_cldHandleRequest (a : Agent) (now : Nat) (m : Msg) (l r : Cand) :
    (a.cldHandleRequest now m l r).1.ansv = a.ansv :=
  cldHandleRequest_inv (I := fun b => b.ansv = a.ansv) a now m l r rfl (fun _ h => h) (fun _ _ _ h => h)
    (fun _ _ h => h) (fun b id h => (ansv_select b id).trans h)
    (fun b h => (ansv_of_kept (kept_sendSuccess b now m l r)).trans h) fun b h => (ansv_of_kept (kept_ping b now l r)).trans h

@[simp] theorem ansv_write (a : Agent) (now len : Nat) (s : Bool) : (a.write now len s).1.ansv = a.ansv :=
  ansv_of_kept (kept_write a now len s)

@[simp] theorem ansv_writeToPair (a : Agent) (now id len : Nat) (s : Bool) :
    (a.writeToPair now id len s).1.ansv = a.ansv := ansv_of_kept (kept_writeToPair a now id len s)

@[simp] theorem ansv_inboundData (a : Agent) (now : Nat) (l : Cand) (src len : Nat) :
    (a.inboundData now l src len).1.ansv = a.ansv := ansv_of_kept (kept_inboundData a now l src len)

end IceProofs.C20S

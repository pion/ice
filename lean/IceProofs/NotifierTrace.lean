import IceProofs.NotifierFuture
import IceSpec.C11
/-!
# Every observable trace of the notifier model passes the stream monitor `IceSpec.C11.monitorStream`

The observable events of a run (`trace`): an `enqueue e` is an Enqueue call that starts and returns
(`enqCall k e`, `enqRet k`), `callHandler` / `handlerReturn` are `enter e` / `exit e`, `closeCall` is the start
of a `Close`, the return of a non-graceful `Close` is its critical section, the return of a graceful
one is `closeWait`.  `drainLock`, `drainDone` are not observable.  The proof carries a simulation
relation `Sim` between the monitor's state and the model's state (with the model invariant inside).
Event ids are assumed distinct (as in recorded histories).
-/
namespace IceProofs.Notifier
open IceModel.Notifier IceSpec.C11

/-- observable events of one (enabled) step from `s`; `k` = number of Enqueue calls so far -/
def obs (s : State) (k : Nat) : Action → List HEv
  | .enqueue e => [.enqCall k e, .enqRet k]
  | .callHandler i => match s.drainers[i]? with
    | some (DPc.holding e) => [.enter e]
    | _ => []
  | .handlerReturn i => match s.drainers[i]? with
    | some (DPc.inHandler e) => [.exit e]
    | _ => []
  | .closeCall g => [.closeCall s.closers.length g]
  | .closeBody j => match s.closers[j]? with
    | some (CPc.start false) => [.closeRet j]
    | _ => []
  | .closeWait j => [.closeRet j]
  | .drainLock _ => []
  | .drainDone _ => []

def enqOf : Action → List Ev
  | .enqueue e => [e]
  | _ => []

/-- events enqueued by a schedule -/
def enqueued : List Action → List Ev
  | [] => []
  | a :: as => enqOf a ++ enqueued as

/-- the observable trace of a schedule run from `s` -/
def trace (s : State) (k : Nat) : List Action → List HEv
  | [] => []
  | a :: as => match step s a with
    | some s' => obs s k a ++ trace s' (k + (enqOf a).length) as
    | none => []

/-- event of the invocation in progress -/
def curOf : List DPc → Option Ev
  | [] => none
  | DPc.inHandler e :: _ => some e
  | _ :: ds => curOf ds

/-- graceful flag of a closer thread -/
def gOf : CPc → Bool
  | .start g => g
  | .waiting => true
  | .returned g => g

theorem curOf_append_none (a b : List DPc) (h : inHandlerCount a = 0) : curOf (a ++ b) = curOf b := by
  induction a with
  | nil => rfl
  | cons x a ih =>
    have h' : inHandlerCount a + (if x.isInHandler then 1 else 0) = 0 := by
      simpa [inHandlerCount, List.countP_cons] using h
    cases x <;> simp [DPc.isInHandler] at h' <;> simp [curOf] <;> exact ih (by simpa [inHandlerCount] using h')

theorem curOf_none_of_count (a : List DPc) (h : inHandlerCount a = 0) : curOf a = none := by
  have := curOf_append_none a [] h
  simpa [curOf] using this

theorem inHandler_zero_of_active_zero (a : List DPc) (h : activeCount a = 0) : inHandlerCount a = 0 := by
  have := inHandler_le_active a; omega

theorem subset_self (l : List Nat) : subset l l = true := by
  simp [subset, List.all_eq_true]

theorem nodup_split_unique {α : Type} (a a' b b' : List α) (x : α)
    (hn : (a ++ x :: b).Nodup) (h : a ++ x :: b = a' ++ x :: b') : a = a' := by
  induction a generalizing a' with
  | nil =>
    cases a' with
    | nil => rfl
    | cons y a' =>
      simp at h
      obtain ⟨h1, h2⟩ := h
      subst h1
      simp [h2] at hn
  | cons y a ih =>
    cases a' with
    | nil =>
      simp at h
      obtain ⟨h1, h2⟩ := h
      subst h1
      simp at hn
    | cons z a' =>
      simp at h
      obtain ⟨h1, h2⟩ := h
      subst h1
      have hn' : (a ++ x :: b).Nodup := by
        have := hn; simp only [List.cons_append, List.nodup_cons] at this; exact this.2
      rw [ih a' hn' h2]

structure Sim (m : MSt) (s : State) (k : Nat) (E : List Ev) : Prop where
  inv : Inv s
  nodup : E.Nodup
  calls_e : m.calls.map (·.e) = E
  calls_k : ∀ c ∈ m.calls, c.k < k
  klen : k = m.calls.length
  preds : ∀ c ∈ m.calls, ∃ post, E = c.preds ++ c.e :: post
  returned : m.returned = E
  acc_prefix : s.accepted <+: E
  acc_open : s.closed = false → s.accepted = E
  afterClose : ∀ c ∈ m.calls, c.afterClose = true → c.e ∉ s.accepted
  delivered : m.delivered = s.delivered
  cur : m.cur = curOf s.drainers
  graceful : m.gracefulReturned = s.gracefulReturned
  closeRet : m.closeReturned = true → s.closed = true
  closers_len : ∀ p ∈ m.closers, p.1 < s.closers.length
  closers : ∀ j c, s.closers[j]? = some c → m.closers.find? (fun p => p.1 == j) = some (j, gOf c)

theorem sim_init : Sim {} init 0 [] := by
  constructor
  · exact inv_init
  all_goals simp [init, curOf]

/-- Result of running the monitor on the observation of one step. -/
def StepOk (m : MSt) (s : State) (k : Nat) (E : List Ev) (a : Action) (s' : State) : Prop :=
  ∃ m', mrun m (obs s k a) = .ok m' ∧ Sim m' s' (k + (enqOf a).length) (E ++ enqOf a)

theorem find_closer_append {l : List (Nat × Bool)} {n : Nat} {g : Bool} (hl : ∀ p ∈ l, p.1 < n) :
    (l ++ [(n, g)]).find? (fun p => p.1 == n) = some (n, g) := by
  rw [List.find?_append]
  have : l.find? (fun p => p.1 == n) = none := by
    apply List.find?_eq_none.mpr
    intro p hp
    have := hl p hp
    simp; omega
  simp [this]

theorem find_closer_old {l : List (Nat × Bool)} {n j : Nat} {g : Bool} {r : Nat × Bool}
    (h : l.find? (fun p => p.1 == j) = some r) : (l ++ [(n, g)]).find? (fun p => p.1 == j) = some r := by
  rw [List.find?_append, h]; rfl

theorem curOf_split_keep (pre post : List DPc) (x y : DPc)
    (hx : x.isInHandler = false) (hy : y.isInHandler = false) :
    curOf (pre ++ y :: post) = curOf (pre ++ x :: post) := by
  induction pre with
  | nil => cases x <;> cases y <;> simp_all [curOf, DPc.isInHandler]
  | cons p pre ih => cases p <;> simp [curOf] <;> exact ih

theorem curOf_set_keep {ds : List DPc} {i : Nat} {x y : DPc} (h : ds[i]? = some x)
    (hx : x.isInHandler = false) (hy : y.isInHandler = false) : curOf (ds.set i y) = curOf ds := by
  obtain ⟨pre, post, h1, h2⟩ := split_at ds i x h
  rw [h2, h1]
  exact curOf_split_keep pre post x y hx hy

theorem Sim.frame {m m' : MSt} {s s' : State} {k : Nat} {E : List Ev} (hs : Sim m s k E) (hi' : Inv s')
    (hcalls : m'.calls = m.calls) (hret : m'.returned = m.returned) (hacc : s'.accepted = s.accepted)
    (hco : s'.closed = false → s.closed = false) (hdel : m'.delivered = s'.delivered)
    (hcur : m'.cur = curOf s'.drainers) (hg : m'.gracefulReturned = s'.gracefulReturned)
    (hcr : m'.closeReturned = true → s'.closed = true) (hlen : ∀ p ∈ m'.closers, p.1 < s'.closers.length)
    (hcls : ∀ j c, s'.closers[j]? = some c → m'.closers.find? (fun p => p.1 == j) = some (j, gOf c)) :
    Sim m' s' k E where
  inv := hi'
  nodup := hs.nodup
  calls_e := hcalls ▸ hs.calls_e
  calls_k := hcalls ▸ hs.calls_k
  klen := hcalls ▸ hs.klen
  preds := hcalls ▸ hs.preds
  returned := hret ▸ hs.returned
  acc_prefix := hacc ▸ hs.acc_prefix
  acc_open := fun hc => hacc ▸ hs.acc_open (hco hc)
  afterClose := hcalls ▸ hacc ▸ hs.afterClose
  delivered := hdel
  cur := hcur
  graceful := hg
  closeRet := hcr
  closers_len := hlen
  closers := hcls

theorem sim_silent {m : MSt} {s s' : State} {k : Nat} {E : List Ev} (hs : Sim m s k E) (hi' : Inv s')
    (hacc : s'.accepted = s.accepted) (hcl : s'.closed = s.closed) (hdel : s'.delivered = s.delivered)
    (hcur : curOf s'.drainers = curOf s.drainers) (hg : s'.gracefulReturned = s.gracefulReturned)
    (hclosers : s'.closers = s.closers) : Sim m s' k E :=
  hs.frame hi' rfl rfl hacc (hcl ▸ id) (hdel ▸ hs.delivered) (hcur ▸ hs.cur) (hg ▸ hs.graceful) (hcl ▸ hs.closeRet)
    (hclosers ▸ hs.closers_len) (hclosers ▸ hs.closers)

theorem step_drainLock {m : MSt} {s s' : State} {k : Nat} {E : List Ev} (i : Nat) (hs : Sim m s k E)
    (h : step s (.drainLock i) = some s') : StepOk m s k E (.drainLock i) s' := by
  have hi' := inv_step (.drainLock i) hs.inv h
  refine ⟨m, rfl, ?_⟩
  simp only [enqOf, List.length_nil, Nat.add_zero, List.append_nil]
  simp only [step] at h
  split at h
  · rename_i hd
    split at h <;> cases h <;>
      exact sim_silent hs hi' rfl rfl rfl (curOf_set_keep hd rfl rfl) rfl rfl
  · cases h

theorem step_drainDone {m : MSt} {s s' : State} {k : Nat} {E : List Ev} (i : Nat) (hs : Sim m s k E)
    (h : step s (.drainDone i) = some s') : StepOk m s k E (.drainDone i) s' := by
  have hi' := inv_step (.drainDone i) hs.inv h
  refine ⟨m, rfl, ?_⟩
  simp only [enqOf, List.length_nil, Nat.add_zero, List.append_nil]
  simp only [step] at h
  split at h
  · rename_i hd
    cases h
    exact sim_silent hs hi' rfl rfl rfl (curOf_set_keep hd rfl rfl) rfl rfl
  · cases h

theorem step_callHandler {m : MSt} {s s' : State} {k : Nat} {E : List Ev} (i : Nat) (hs : Sim m s k E)
    (h : step s (.callHandler i) = some s') : StepOk m s k E (.callHandler i) s' := by
  have hi' := inv_step (.callHandler i) hs.inv h
  simp only [step] at h
  split at h
  · rename_i e hd
    cases h
    obtain ⟨pre, post, h1, h2, hp, hq, hr⟩ := active_unique hs.inv hd rfl
    have hk3 := hs.inv.k3
    rw [h1, held_split, held_of_active_zero _ hp, held_of_active_zero _ hq] at hk3
    simp [held] at hk3
    have hng : m.gracefulReturned = false := by
      cases hgr : m.gracefulReturned
      · rfl
      · exact (no_live_get hs.inv (by rw [← hs.graceful]; exact hgr) hd rfl).elim
    have hcur : m.cur = none := by
      rw [hs.cur, h1, curOf_append_none _ _ (inHandler_zero_of_active_zero _ hp)]
      simp [curOf, curOf_none_of_count _ (inHandler_zero_of_active_zero _ hq)]
    -- e is accepted, hence enqueued, hence has a call
    have hacc : s.accepted = s.delivered ++ e :: s.queue := by rw [hk3]
    obtain ⟨t, ht⟩ := hs.acc_prefix
    have hE : E = s.delivered ++ e :: (s.queue ++ t) := by rw [← ht, hacc]; simp
    have heE : e ∈ E := by rw [hE]; simp
    have hfind : ∃ c, m.calls.find? (fun c => c.e == e) = some c ∧ c ∈ m.calls ∧ c.e = e := by
      have : e ∈ m.calls.map (·.e) := by rw [hs.calls_e]; exact heE
      obtain ⟨c0, hc0, hce⟩ := List.mem_map.mp this
      cases hf : m.calls.find? (fun c => c.e == e) with
      | none =>
        have := List.find?_eq_none.mp hf c0 hc0
        simp [hce] at this
      | some c =>
        refine ⟨c, rfl, List.mem_of_find?_eq_some hf, ?_⟩
        have := List.find?_some hf
        simpa using this
    obtain ⟨c, hfc, hcm, hce⟩ := hfind
    have hnd : e ∉ s.delivered := by
      have := hs.nodup; rw [hE] at this
      intro hmem
      have := (List.nodup_append.mp this).2.2 e hmem e (by simp)
      exact this rfl
    have hac : c.afterClose = false := by
      cases hcc : c.afterClose
      · rfl
      · exact absurd (by rw [hacc, hce]; simp) (hs.afterClose c hcm hcc)
    have hpreds : c.preds = s.delivered := by
      obtain ⟨post', hp'⟩ := hs.preds c hcm
      rw [hce] at hp'
      have hn := hs.nodup
      rw [hp'] at hn
      exact nodup_split_unique _ _ _ _ e hn (by rw [← hp', hE])
    refine ⟨{ m with delivered := m.delivered ++ [e], cur := some e }, ?_, ?_⟩
    · simp only [obs, hd, mrun, mstep, hng, hcur, hfc]
      simp [hs.delivered, hnd, hac, hpreds, subset_self]
    · simp only [enqOf, List.length_nil, Nat.add_zero, List.append_nil]
      refine hs.frame hi' rfl rfl rfl id (by simp [hs.delivered]) ?_ hs.graceful hs.closeRet hs.closers_len hs.closers
      show some e = curOf (s.drainers.set i (DPc.inHandler e))
      rw [h2, curOf_append_none _ _ (inHandler_zero_of_active_zero _ hp)]; simp [curOf]
  · cases h

theorem step_handlerReturn {m : MSt} {s s' : State} {k : Nat} {E : List Ev} (i : Nat) (hs : Sim m s k E)
    (h : step s (.handlerReturn i) = some s') : StepOk m s k E (.handlerReturn i) s' := by
  have hi' := inv_step (.handlerReturn i) hs.inv h
  simp only [step] at h
  split at h
  · rename_i e hd
    cases h
    obtain ⟨pre, post, h1, h2, hp, hq, hr⟩ := active_unique hs.inv hd rfl
    have hcur : m.cur = some e := by
      rw [hs.cur, h1, curOf_append_none _ _ (inHandler_zero_of_active_zero _ hp)]; simp [curOf]
    refine ⟨{ m with cur := none }, ?_, ?_⟩
    · simp [obs, hd, mrun, mstep, hcur]
    · simp only [enqOf, List.length_nil, Nat.add_zero, List.append_nil]
      refine hs.frame hi' rfl rfl rfl id hs.delivered ?_ hs.graceful hs.closeRet hs.closers_len hs.closers
      show none = curOf (s.drainers.set i DPc.atLoop)
      rw [h2, curOf_append_none _ _ (inHandler_zero_of_active_zero _ hp)]
      simp [curOf, curOf_none_of_count _ (inHandler_zero_of_active_zero _ hq)]
  · cases h

theorem step_closeCall {m : MSt} {s s' : State} {k : Nat} {E : List Ev} (g : Bool) (hs : Sim m s k E)
    (h : step s (.closeCall g) = some s') : StepOk m s k E (.closeCall g) s' := by
  have hi' := inv_step (.closeCall g) hs.inv h
  simp only [step] at h
  cases h
  refine ⟨{ m with closeCalled := true, closers := m.closers ++ [(s.closers.length, g)] }, by simp [obs, mrun, mstep], ?_⟩
  simp only [enqOf, List.length_nil, Nat.add_zero, List.append_nil]
  refine hs.frame hi' rfl rfl rfl id hs.delivered hs.cur hs.graceful hs.closeRet ?_ ?_
  · intro p hp
    simp only [List.mem_append, List.mem_singleton] at hp
    simp only [List.length_append, List.length_singleton]
    rcases hp with hp | hp
    · have := hs.closers_len p hp; omega
    · subst hp; simp
  · intro j c hj
    simp only at hj ⊢
    rw [List.getElem?_append] at hj
    split at hj
    · exact find_closer_old (hs.closers j c hj)
    · rename_i hge
      have hj0 : j - s.closers.length = 0 := by
        rcases Nat.eq_zero_or_pos (j - s.closers.length) with h0 | h0
        · exact h0
        · rw [List.getElem?_eq_none (by simp; omega)] at hj; cases hj
      rw [hj0] at hj
      simp at hj
      have : j = s.closers.length := by omega
      subst this; subst hj
      exact find_closer_append hs.closers_len

theorem closers_set {m : MSt} {s : State} {k : Nat} {E : List Ev} (hs : Sim m s k E) {j : Nat} {c c' : CPc}
    (hj : s.closers[j]? = some c) (hg : gOf c' = gOf c) :
    ∀ j' x, (s.closers.set j c')[j']? = some x → m.closers.find? (fun p => p.1 == j') = some (j', gOf x) := by
  intro j' x hx
  rw [List.getElem?_set] at hx
  split at hx
  · rename_i hjj; subst hjj
    split at hx
    · cases hx; rw [hg]; exact hs.closers j c hj
    · cases hx
  · exact hs.closers j' x hx

theorem step_closeBody {m : MSt} {s s' : State} {k : Nat} {E : List Ev} (j : Nat) (hs : Sim m s k E)
    (h : step s (.closeBody j) = some s') : StepOk m s k E (.closeBody j) s' := by
  have hi' := inv_step (.closeBody j) hs.inv h
  simp only [step] at h
  split at h
  · rename_i g hj
    cases h
    cases g with
    | true =>
      refine ⟨m, by simp [obs, hj, mrun], ?_⟩
      simp only [enqOf, List.length_nil, Nat.add_zero, List.append_nil]
      exact hs.frame hi' rfl rfl rfl (fun hc => nomatch hc) hs.delivered hs.cur hs.graceful (fun _ => rfl)
        (fun p hp => by simp only [List.length_set]; exact hs.closers_len p hp) (closers_set hs hj rfl)
    | false =>
      have hfind := hs.closers j _ hj
      refine ⟨{ m with closeReturned := true, gracefulReturned := m.gracefulReturned || false }, ?_, ?_⟩
      · simp [obs, hj, mrun, mstep, hfind, gOf]
      · simp only [enqOf, List.length_nil, Nat.add_zero, List.append_nil]
        exact hs.frame hi' rfl rfl rfl (fun hc => nomatch hc) hs.delivered hs.cur (by simp [hs.graceful]) (fun _ => rfl)
          (fun p hp => by simp only [List.length_set]; exact hs.closers_len p hp) (closers_set hs hj rfl)
  · cases h

theorem step_closeWait {m : MSt} {s s' : State} {k : Nat} {E : List Ev} (j : Nat) (hs : Sim m s k E)
    (h : step s (.closeWait j) = some s') : StepOk m s k E (.closeWait j) s' := by
  have hi' := inv_step (.closeWait j) hs.inv h
  simp only [step] at h
  split at h
  · rename_i hj
    split at h
    · rename_i hw
      cases h
      have hfind := hs.closers j _ hj
      have hcl : s.closed = true := hs.inv.closers _ (List.mem_of_getElem? hj) (Or.inl rfl)
      have hlive : liveCount s.drainers = 0 := by have := hs.inv.k4; omega
      have hcur : m.cur = none := by
        rw [hs.cur]
        apply curOf_none_of_count
        have := inHandler_le_active s.drainers; have := active_le_live s.drainers; omega
      refine ⟨{ m with closeReturned := true, gracefulReturned := m.gracefulReturned || true }, ?_, ?_⟩
      · simp [obs, mrun, mstep, hfind, gOf, hcur]
      · simp only [enqOf, List.length_nil, Nat.add_zero, List.append_nil]
        exact hs.frame hi' rfl rfl rfl id hs.delivered hs.cur (by simp) (fun _ => hcl)
          (fun p hp => by simp only [List.length_set]; exact hs.closers_len p hp) (closers_set hs hj rfl)
    · cases h
  · cases h

theorem curOf_append_atLoop (ds : List DPc) : curOf (ds ++ [DPc.atLoop]) = curOf ds := by
  induction ds with
  | nil => rfl
  | cons x ds ih => cases x <;> simp [curOf, ih]

theorem step_enqueue {m : MSt} {s s' : State} {k : Nat} {E : List Ev} (e : Ev) (hs : Sim m s k E)
    (hn : (E ++ [e]).Nodup) (h : step s (.enqueue e) = some s') : StepOk m s k E (.enqueue e) s' := by
  have hi' := inv_step (.enqueue e) hs.inv h
  have heE : e ∉ E := by
    intro hmem
    have := (List.nodup_append.mp hn).2.2 e hmem e (by simp)
    exact this rfl
  have hany : m.calls.any (fun c => c.e == e || c.k == k) = false := by
    rw [List.any_eq_false]
    intro c hc
    have h1 : c.e ≠ e := by
      intro hce
      apply heE
      rw [← hs.calls_e, ← hce]; exact List.mem_map_of_mem hc
    have h2 := hs.calls_k c hc
    simp [h1]; omega
  let cnew : Call := { k := k, e := e, preds := m.returned, afterClose := m.closeReturned }
  have hfindk : (m.calls ++ [cnew]).find? (fun c => c.k == k) = some cnew := by
    rw [List.find?_append]
    have : m.calls.find? (fun c => c.k == k) = none := by
      apply List.find?_eq_none.mpr
      intro c hc
      have := hs.calls_k c hc
      simp; omega
    simp [this, cnew]
  let m' : MSt := { m with calls := m.calls ++ [cnew], returned := m.returned ++ [e],
                           must := if m.closeCalled then m.must else m.must ++ [e] }
  refine ⟨m', ?_, ?_⟩
  · show mrun m [HEv.enqCall k e, HEv.enqRet k] = .ok m'
    simp only [mrun, mstep, hany, Bool.false_eq_true, if_false]
    have hfindk' : List.find? (fun c => c.k == k)
        (m.calls ++ [{ k := k, e := e, preds := m.returned, afterClose := m.closeReturned }]) = some cnew := hfindk
    rw [hfindk']
  · -- the relation after the step
    have hacc' : (s.closed = true ∧ s'.accepted = s.accepted ∧ s'.closed = true) ∨
        (s.closed = false ∧ s'.accepted = s.accepted ++ [e] ∧ s'.closed = false) := by
      simp only [step] at h
      split at h
      · rename_i hc; cases h; exact Or.inl ⟨hc, rfl, hc⟩
      · rename_i hc
        have hc' : s.closed = false := by simpa using hc
        right
        split at h <;> cases h <;> exact ⟨hc', rfl, hc'⟩
    have hrest : s'.delivered = s.delivered ∧ curOf s'.drainers = curOf s.drainers ∧
        s'.gracefulReturned = s.gracefulReturned ∧ s'.closers = s.closers := by
      simp only [step] at h
      split at h
      · cases h; exact ⟨rfl, rfl, rfl, rfl⟩
      · split at h
        · cases h; exact ⟨rfl, rfl, rfl, rfl⟩
        · cases h; exact ⟨rfl, curOf_append_atLoop _, rfl, rfl⟩
    obtain ⟨hdel, hcur, hgr, hclosers⟩ := hrest
    simp only [enqOf, List.length_singleton]
    constructor
    · exact hi'
    · exact hn
    · simp [m', cnew, hs.calls_e]
    · intro c hc
      simp only [m', List.mem_append, List.mem_singleton] at hc
      rcases hc with hc | hc
      · have := hs.calls_k c hc; omega
      · subst hc; simp [cnew]
    · simp [m', hs.klen]
    · intro c hc
      simp only [m', List.mem_append, List.mem_singleton] at hc
      rcases hc with hc | hc
      · obtain ⟨post, hp⟩ := hs.preds c hc
        exact ⟨post ++ [e], by rw [hp]; simp⟩
      · subst hc; exact ⟨[], by simp [cnew, hs.returned]⟩
    · simp [m', hs.returned]
    · rcases hacc' with ⟨_, ha, _⟩ | ⟨hc, ha, _⟩
      · rw [ha]; exact List.IsPrefix.trans hs.acc_prefix (List.prefix_append _ _)
      · rw [ha, hs.acc_open hc]; exact List.prefix_refl _
    · intro hc
      rcases hacc' with ⟨_, _, hc'⟩ | ⟨hc0, ha, _⟩
      · rw [hc'] at hc; cases hc
      · rw [ha, hs.acc_open hc0]
    · intro c hc hac
      simp only [m', List.mem_append, List.mem_singleton] at hc
      rcases hacc' with ⟨hc0, ha, _⟩ | ⟨hc0, ha, _⟩
      · rw [ha]
        rcases hc with hc | hc
        · exact hs.afterClose c hc hac
        · subst hc
          intro hmem
          obtain ⟨t, ht⟩ := hs.acc_prefix
          exact heE (by rw [← ht]; exact List.mem_append_left _ hmem)
      · rcases hc with hc | hc
        · rw [ha]
          intro hmem
          simp only [List.mem_append, List.mem_singleton] at hmem
          rcases hmem with hmem | hmem
          · exact hs.afterClose c hc hac hmem
          · apply heE; rw [← hs.calls_e, ← hmem]; exact List.mem_map_of_mem hc
        · subst hc
          have : m.closeReturned = true := hac
          have := hs.closeRet this
          rw [hc0] at this; cases this
    · rw [hdel]; exact hs.delivered
    · rw [hcur]; exact hs.cur
    · rw [hgr]; exact hs.graceful
    · intro hcr
      have := hs.closeRet hcr
      rcases hacc' with ⟨_, _, hc'⟩ | ⟨hc0, _, _⟩
      · exact hc'
      · rw [hc0] at this; cases this
    · rw [hclosers]; exact hs.closers_len
    · rw [hclosers]; exact hs.closers

theorem sim_step {m : MSt} {s s' : State} {k : Nat} {E : List Ev} (a : Action) (hs : Sim m s k E)
    (hn : (E ++ enqOf a).Nodup) (h : step s a = some s') : StepOk m s k E a s' := by
  cases a with
  | enqueue e => exact step_enqueue e hs hn h
  | drainLock i => exact step_drainLock i hs h
  | callHandler i => exact step_callHandler i hs h
  | handlerReturn i => exact step_handlerReturn i hs h
  | drainDone i => exact step_drainDone i hs h
  | closeCall g => exact step_closeCall g hs h
  | closeBody j => exact step_closeBody j hs h
  | closeWait j => exact step_closeWait j hs h

theorem mrun_append (m : MSt) (a b : List HEv) :
    mrun m (a ++ b) = match mrun m a with
      | .ok m' => mrun m' b
      | .error w => .error w := by
  induction a generalizing m with
  | nil => rfl
  | cons x a ih =>
    simp only [List.cons_append, mrun]
    cases mstep m x with
    | ok m' => exact ih m'
    | error w => rfl

theorem sim_run {m : MSt} {s s' : State} {k : Nat} {E : List Ev} (as : List Action) (hs : Sim m s k E)
    (hn : (E ++ enqueued as).Nodup) (h : run s as = some s') :
    ∃ m', mrun m (trace s k as) = .ok m' := by
  have hx := isRun.exec h; clear h
  induction hx generalizing m k E with
  | nil => exact ⟨m, rfl⟩
  | @cons _ _ _ a _ hs1 _ ih =>
    simp only [enqueued, ← List.append_assoc] at hn
    obtain ⟨m1, hm1, hsim1⟩ := sim_step a hs (List.nodup_append.mp hn).1 hs1
    obtain ⟨m2, hm2⟩ := ih hsim1 hn
    exact ⟨m2, by simp only [trace, hs1, mrun_append, hm1]; exact hm2⟩

end IceProofs.Notifier

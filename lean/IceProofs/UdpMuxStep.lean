import IceProofs.UdpMuxBasic
/-!
What every operation of the sequential UDP-mux model does.  First the elementary state changes, each with the
field facts through which the proofs read it: the model's own `addHandle`, `addAddress` (`addAddress_closed`,
`addAddress_eq`) and `removeByUfrag`, and, defined here, `mkConn`, `setFifo`, `dropRef`, `closeOpen`, `reap`,
`closeAll`; then where an inbound datagram goes (`lookupDest`, `dest`).  The changes defined here are record
updates, so a field one of them does not name is unchanged by `rfl`; `addAddress` is one under the guards of
`StepTo.wrNew` (`addAddress_eq`), and what `removeByUfrag` leaves alone is `removeByUfrag_frame`.

Then the relation `StepTo`, which lists for each operation its outcomes — the condition on the state before, the
state after as one of these changes, the output — and `step_to : StepTo m op (step m op).1 (step m op).2`.  A fact
about `step` is stated about the relation, `theorem StepTo.fact (st : StepTo m op m' o) : …` with `m'` and `o`
variables, where it is one `cases st` that names only the outcomes it has something to say about, and is used as
`(step_to m op).fact` (`StepTo.inv`, `StepTo.sim`, `StepTo.of_delivered`, …).  `cases step_to m op` itself does not
go through: the state after and the output are terms there, not variables.
-/
namespace IceProofs.UdpMux
open IceModel.UdpMux

theorem addHandle_conn (m : Mux) (c c' : Nat) :
    (addHandle m c).conn c' = if c' = c then { m.conn c with refs := (m.conn c).refs + 1 } else m.conn c' := rfl

@[simp] theorem addHandle_conns4 (m : Mux) (c : Nat) : (addHandle m c).conns4 = m.conns4 := rfl
@[simp] theorem addHandle_conns6 (m : Mux) (c : Nat) : (addHandle m c).conns6 = m.conns6 := rfl
@[simp] theorem addHandle_addrMap (m : Mux) (c : Nat) : (addHandle m c).addrMap = m.addrMap := rfl
@[simp] theorem addHandle_nconns (m : Mux) (c : Nat) : (addHandle m c).nconns = m.nconns := rfl
@[simp] theorem addHandle_mclosed (m : Mux) (c : Nat) : (addHandle m c).closed = m.closed := rfl
@[simp] theorem addHandle_nhandles (m : Mux) (c : Nat) : (addHandle m c).nhandles = m.nhandles + 1 := rfl

theorem addHandle_proj {β : Type} (g : Conn → β) (hg : ∀ (k : Conn) r, g { k with refs := r } = g k)
    (m : Mux) (c c' : Nat) : g ((addHandle m c).conn c') = g (m.conn c') :=
  upd_proj g m.conn c _ (hg _ _) c'

/-- the state after `GetConn` created a connection, before the handle is made -/
def mkConn (m : Mux) (u : Name) (v6 : Bool) : Mux :=
  { m with
    nconns := m.nconns + 1
    conn := upd m.conn m.nconns { emptyConn with key := u, v6 := v6 }
    conns4 := if v6 then m.conns4 else m.conns4.set u m.nconns
    conns6 := if v6 then m.conns6.set u m.nconns else m.conns6 }

theorem mkConn_conn_old (m : Mux) (u : Name) (v6 : Bool) (c : Nat) (h : c < m.nconns) :
    (mkConn m u v6).conn c = m.conn c := by
  simp [mkConn, upd_ne _ _ (Nat.ne_of_lt h)]

theorem mkConn_conn_new (m : Mux) (u : Name) (v6 : Bool) :
    (mkConn m u v6).conn m.nconns = { emptyConn with key := u, v6 := v6 } := by
  simp [mkConn]

theorem mkConn_old {m : Mux} {u : Name} {v6 : Bool} {c : Nat} (h : c < (mkConn m u v6).nconns) (e : c ≠ m.nconns) :
    c < m.nconns := by
  simp only [mkConn] at h; omega

theorem famMap_mkConn (m : Mux) (u : Name) (v6 f : Bool) :
    famMap (mkConn m u v6) f = if f = v6 then (famMap m f).set u m.nconns else famMap m f := by
  cases f <;> cases v6 <;> rfl

theorem famMap_mkConn_get (m : Mux) (u : Name) (v6 f : Bool) (x : Name) :
    (famMap (mkConn m u v6) f).get? x = if f = v6 ∧ x = u then some m.nconns else (famMap m f).get? x := by
  rw [famMap_mkConn]
  by_cases h : f = v6 <;> simp [h, AMap.get?_set]

/-- on a closed mux `registerConnForAddress` returns at once (the write then fails on the closed socket) -/
theorem addAddress_closed (m : Mux) (c : Nat) (a : Addr) (h : m.closed = true) : addAddress m c a = m := by
  unfold addAddress registerConnForAddress
  rw [if_pos h]

/-- connection record after `addAddress m c a` registered a new address `a` for `c`: `c` gains it, its previous
owner, if any, forgets it -/
def addrConn (m : Mux) (c : Nat) (a : Addr) (c' : Nat) : Conn :=
  if c' = c then { m.conn c with addrs := (m.conn c).addrs ++ [a] }
  else if m.addrMap a = some c' then removeAddress (m.conn c') a else m.conn c'

theorem addAddress_eq (m : Mux) (c : Nat) (a : Addr) (hcl : m.closed = false)
    (hopen : (m.conn c).closed = false) (hnew : a ∉ (m.conn c).addrs) :
    addAddress m c a =
      { m with conn := addrConn m c a, addrMap := fun k => if k = a then some c else m.addrMap k } := by
  unfold addAddress registerConnForAddress
  simp only [hcl, hopen, Bool.false_eq_true, if_false]
  have happ : appendAddress (m.conn c) a = { m.conn c with addrs := (m.conn c).addrs ++ [a] } := if_neg hnew
  cases hm : m.addrMap a with
  | none =>
    dsimp only
    congr 1
    funext c'
    rw [upd_apply, happ, addrConn, hm]
    split
    · rfl
    · rfl
  | some e =>
    dsimp only
    by_cases hec : e = c
    · subst hec
      rw [if_pos rfl]
      congr 1
      funext c'
      rw [upd_apply, happ, addrConn, hm]
      split
      · rfl
      · next h1 => rw [if_neg (fun x => h1 (Option.some.inj x).symm)]
    · rw [if_neg hec]
      dsimp only
      congr 1
      funext c'
      have hce : c ≠ e := fun x => hec x.symm
      rw [upd_apply, upd_ne _ _ hce, happ, addrConn, hm, upd_apply]
      split
      · rfl
      · by_cases h2 : c' = e
        · subst h2; rw [if_pos rfl, if_pos rfl]
        · rw [if_neg h2, if_neg (fun x => h2 (Option.some.inj x).symm)]

theorem addrConn_proj {β : Type} (g : Conn → β) (hg : ∀ (k : Conn) l, g { k with addrs := l } = g k)
    (m : Mux) (c : Nat) (a : Addr) (c' : Nat) : g (addrConn m c a c') = g (m.conn c') := by
  unfold addrConn
  split
  · next e => rw [e]; exact hg _ _
  · split
    · exact hg _ _
    · rfl

theorem addrConn_mem (m : Mux) (c : Nat) (a : Addr) (hne : m.addrMap a ≠ some c) (c' : Nat) (x : Addr) :
    x ∈ (addrConn m c a c').addrs ↔
      (x ∈ (m.conn c').addrs ∨ (c' = c ∧ x = a)) ∧ (m.addrMap a = some c' → x ≠ a) := by
  unfold addrConn removeAddress
  by_cases h2 : c' = c
  · subst h2; simp [hne]
  · by_cases h1 : m.addrMap a = some c' <;> simp [h1, h2, List.mem_filter]
def setFifo (m : Mux) (c : Nat) (q : List Pkt) : Mux := { m with conn := upd m.conn c { m.conn c with fifo := q } }

theorem closeC_proj {β : Type} (g : Conn → β) (hg : ∀ (k : Conn) l b, g { k with fifo := l, closed := b } = g k)
    (k : Conn) : g (closeC k) = g k := by
  unfold closeC; split
  · rfl
  · exact hg k _ _

theorem closeIf_proj {β : Type} (g : Conn → β) (hg : ∀ (k : Conn) l b, g { k with fifo := l, closed := b } = g k)
    (p : Prop) [Decidable p] (k : Conn) : g (if p then closeC k else k) = g k := by
  split
  · exact closeC_proj g hg _
  · rfl

theorem closeC_closed (k : Conn) : (closeC k).closed = true := by
  unfold closeC; split
  · assumption
  · rfl

theorem closeC_fifo (k : Conn) (h : k.closed = true → k.fifo = []) : (closeC k).fifo = [] := by
  unfold closeC; split
  · next hc => exact h hc
  · rfl

/-- first half of `sharedPacketConn.Close`: cancel the handle's context, `refs.Add(-1)` -/
def dropRef (m : Mux) (h : Nat) : Mux :=
  { m with hclosed := upd m.hclosed h true
           conn := upd m.conn (m.hconn h) { m.conn (m.hconn h) with refs := (m.conn (m.hconn h)).refs - 1 } }

theorem dropRef_conn (m : Mux) (h c' : Nat) :
    (dropRef m h).conn c' =
      if c' = m.hconn h then { m.conn (m.hconn h) with refs := (m.conn (m.hconn h)).refs - 1 } else m.conn c' := rfl

theorem dropRef_proj {β : Type} (g : Conn → β) (hg : ∀ (k : Conn) r, g { k with refs := r } = g k)
    (m : Mux) (h c' : Nat) : g ((dropRef m h).conn c') = g (m.conn c') :=
  upd_proj g m.conn _ _ (hg _ _) c'

/-- `sharedPacketConn.Close` of an open handle: `dropRef`, and `udpMuxedConn.Close` on the last reference -/
def closeOpen (m : Mux) (h : Nat) : Mux :=
  { dropRef m h with
    conn := fun i => if i = m.hconn h ∧ ((dropRef m h).conn i).refs ≤ 0
                     then closeC ((dropRef m h).conn i) else (dropRef m h).conn i }

theorem closeOpen_proj {β : Type} (g : Conn → β) (h1 : ∀ (k : Conn) r, g { k with refs := r } = g k)
    (h2 : ∀ (k : Conn) l b, g { k with fifo := l, closed := b } = g k) (m : Mux) (h c : Nat) :
    g ((closeOpen m h).conn c) = g (m.conn c) :=
  (closeIf_proj g h2 _ _).trans (dropRef_proj g h1 m h c)

theorem closeOpen_eq (m : Mux) (h : Nat) :
    ({ m with hclosed := upd m.hclosed h true
              conn := upd m.conn (m.hconn h)
                (if (m.conn (m.hconn h)).refs - 1 ≤ 0
                 then closeC { m.conn (m.hconn h) with refs := (m.conn (m.hconn h)).refs - 1 }
                 else { m.conn (m.hconn h) with refs := (m.conn (m.hconn h)).refs - 1 }) } : Mux) = closeOpen m h := by
  simp only [closeOpen, dropRef]
  congr 1
  funext i
  by_cases e : i = m.hconn h
  · subst e; simp
  · simp [upd_ne _ _ e, e]

/-- identity-based removal from a family map -/
def wmap (mp : AMap) (key : Name) (c : Nat) : AMap := if mp.get? key = some c then mp.del key else mp

theorem wmap_get? (mp : AMap) (key : Name) (c : Nat) (x : Name) :
    (wmap mp key c).get? x = if x = key ∧ mp.get? key = some c then none else mp.get? x := by
  unfold wmap
  by_cases h : mp.get? key = some c
  · simp only [h, if_true, and_true, AMap.get?_del]
  · simp [h]

theorem wmap_wf (mp : AMap) (hw : AMap.WF mp) (key : Name) (c : Nat) : AMap.WF (wmap mp key c) := by
  unfold wmap; split
  · exact AMap.wf_del _ hw _
  · exact hw

/-- the state after the watcher of `c` ran -/
def reap (m : Mux) (c : Nat) : Mux :=
  { m with
    conn := upd m.conn c { m.conn c with watched := true }
    conns4 := wmap m.conns4 (m.conn c).key c
    conns6 := wmap m.conns6 (m.conn c).key c
    addrMap := fun a => if a ∈ (m.conn c).addrs ∧ m.addrMap a = some c then none else m.addrMap a }

theorem reap_proj {β : Type} (g : Conn → β) (hg : ∀ (k : Conn) b, g { k with watched := b } = g k)
    (m : Mux) (c c' : Nat) : g ((reap m c).conn c') = g (m.conn c') :=
  upd_proj g m.conn c _ (hg _ _) c'

theorem reap_watched (m : Mux) (c c' : Nat) :
    ((reap m c).conn c').watched = (if c' = c then true else (m.conn c').watched) := by
  show (upd m.conn c _ c').watched = _
  rw [upd_apply]; split <;> rfl

theorem famMap_reap (m : Mux) (c : Nat) (f : Bool) : famMap (reap m c) f = wmap (famMap m f) (m.conn c).key c := by
  cases f <;> rfl

theorem famMap_reap_get (m : Mux) (c : Nat) (f : Bool) (x : Name) :
    (famMap (reap m c) f).get? x =
      if x = (m.conn c).key ∧ (famMap m f).get? (m.conn c).key = some c then none else (famMap m f).get? x := by
  rw [famMap_reap, wmap_get?]

theorem reap_addrMap (m : Mux) (c : Nat) (a : Addr) (c' : Nat) (h : (reap m c).addrMap a = some c') :
    m.addrMap a = some c' ∧ ¬ (a ∈ (m.conn c).addrs ∧ c' = c) := by
  simp only [reap] at h
  split at h
  · cases h
  · next hn => exact ⟨h, fun e => hn ⟨e.1, by rw [h, e.2]⟩⟩

/-- `UDPMuxDefault.Close` of an open mux: the registered connections closed, then the family maps emptied -/
def closeAll (m : Mux) : Mux :=
  { ({ m with conn := fun i => if i ∈ m.conns4.vals ++ m.conns6.vals then closeC (m.conn i) else m.conn i } : Mux) with
    conns4 := [], conns6 := [], closed := true }

theorem closeOpt_eq (m : Mux) (r : Option Nat) :
    closeOpt m r = { m with conn := fun i => if r = some i then closeC (m.conn i) else m.conn i } := by
  cases r with
  | none => simp [closeOpt]
  | some c =>
    simp only [closeOpt]
    congr 1
    funext i
    by_cases e : i = c
    · subst e; simp
    · have : ¬ c = i := fun x => e x.symm
      simp [upd_ne _ _ e, this]

theorem closeOpt_conn (m : Mux) (r : Option Nat) (i : Nat) :
    (closeOpt m r).conn i = if r = some i then closeC (m.conn i) else m.conn i := by
  rw [closeOpt_eq]

theorem closeOpt_proj {β : Type} (g : Conn → β) (hg : ∀ (k : Conn) l b, g { k with fifo := l, closed := b } = g k)
    (m : Mux) (r : Option Nat) (i : Nat) : g ((closeOpt m r).conn i) = g (m.conn i) := by
  rw [closeOpt_conn]; exact closeIf_proj g hg _ _

@[simp] theorem closeOpt_refs (m : Mux) (r : Option Nat) (i : Nat) : ((closeOpt m r).conn i).refs = (m.conn i).refs :=
  closeOpt_proj Conn.refs (fun _ _ _ => rfl) m r i

theorem closeOpt_closed (m : Mux) (r : Option Nat) (i : Nat) :
    ((closeOpt m r).conn i).closed = (decide (r = some i) || (m.conn i).closed) := by
  rw [closeOpt_conn]
  by_cases h : r = some i
  · simp [h, closeC_closed]
  · simp [h]

/-- connection `c` is registered under `u` in one of the two families: `RemoveConnByUfrag u` removes it -/
def regUnder (m : Mux) (u : Name) (c : Nat) : Prop := ∃ f, (famMap m f).get? u = some c

theorem removeByUfrag_conn (m : Mux) (u : Name) :
    (removeByUfrag m u).conn = (closeOpt (closeOpt m (m.conns4.get? u)) (m.conns6.get? u)).conn := by
  unfold removeByUfrag
  cases m.conns4.get? u <;> cases m.conns6.get? u <;> rfl

/-- the fields `RemoveConnByUfrag` leaves alone -/
theorem removeByUfrag_frame (m : Mux) (u : Name) :
    (removeByUfrag m u).nconns = m.nconns ∧ (removeByUfrag m u).nhandles = m.nhandles
      ∧ (removeByUfrag m u).hconn = m.hconn ∧ (removeByUfrag m u).hclosed = m.hclosed
      ∧ (removeByUfrag m u).closed = m.closed := by
  unfold removeByUfrag
  simp only [closeOpt_eq]
  exact ⟨rfl, rfl, rfl, rfl, rfl⟩

theorem famMap_removeByUfrag (m : Mux) (u : Name) (f : Bool) : famMap (removeByUfrag m u) f = (famMap m f).del u := by
  unfold removeByUfrag
  simp only [closeOpt_eq]
  cases f <;> rfl

theorem removeByUfrag_proj {β : Type} (g : Conn → β) (hg : ∀ (k : Conn) l b, g { k with fifo := l, closed := b } = g k)
    (m : Mux) (u : Name) (c : Nat) : g ((removeByUfrag m u).conn c) = g (m.conn c) := by
  rw [removeByUfrag_conn, closeOpt_proj g hg, closeOpt_proj g hg]

theorem removeByUfrag_closed (m : Mux) (u : Name) (c : Nat) :
    ((removeByUfrag m u).conn c).closed
      = (decide (m.conns6.get? u = some c) || (decide (m.conns4.get? u = some c) || (m.conn c).closed)) := by
  rw [removeByUfrag_conn, closeOpt_closed, closeOpt_closed]

theorem regUnder_closed (m : Mux) (u : Name) (c : Nat) (d : regUnder m u c) :
    ((removeByUfrag m u).conn c).closed = true := by
  obtain ⟨f, hf⟩ := d
  rw [removeByUfrag_closed]
  cases f
  · rw [show m.conns4.get? u = some c from hf]; simp
  · rw [show m.conns6.get? u = some c from hf]; simp

theorem removeByUfrag_conn_other (m : Mux) (u : Name) (c : Nat) (d : ¬ regUnder m u c) :
    (removeByUfrag m u).conn c = m.conn c := by
  have n4 : m.conns4.get? u ≠ some c := fun e => d ⟨false, e⟩
  have n6 : m.conns6.get? u ≠ some c := fun e => d ⟨true, e⟩
  rw [removeByUfrag_conn, closeOpt_conn, if_neg n6, closeOpt_conn, if_neg n4]

theorem removeByUfrag_addrMap (m : Mux) (u : Name) (k : Addr) :
    (removeByUfrag m u).addrMap k =
      let a1 := if k ∈ addrsOf m (m.conns4.get? u) ∧ m.addrMap k = m.conns4.get? u ∧ (m.conns4.get? u).isSome then none
                else m.addrMap k
      if k ∈ addrsOf m (m.conns6.get? u) ∧ a1 = m.conns6.get? u ∧ (m.conns6.get? u).isSome then none else a1 := by
  unfold removeByUfrag
  cases m.conns4.get? u <;> cases m.conns6.get? u <;> rfl

theorem removeByUfrag_addrMap_keep (m : Mux) (u : Name) (a : Addr) (c : Nat) (h : m.addrMap a = some c)
    (hn : ¬ regUnder m u c) : (removeByUfrag m u).addrMap a = some c := by
  rw [removeByUfrag_addrMap]
  dsimp only
  have n4 : ¬ (a ∈ addrsOf m (m.conns4.get? u) ∧ m.addrMap a = m.conns4.get? u ∧ (m.conns4.get? u).isSome) :=
    fun x => hn ⟨false, show m.conns4.get? u = some c by rw [← x.2.1]; exact h⟩
  rw [if_neg n4, if_neg (fun x => hn ⟨true, show m.conns6.get? u = some c by rw [← x.2.1]; exact h⟩)]; exact h

/-- what `connWorker` looks the source up to: the address map first, then the ufrag of the USERNAME -/
def lookupDest (m : Mux) (src : Addr) (k : Kind) : Option Nat :=
  match m.addrMap (canonAddr src) with
  | some c => some c
  | none => lookupUfrag m (canonAddr src) k

/-- the connection an inbound datagram is handed to: `lookupDest`, unless the mux or that connection is closed -/
def dest (m : Mux) (src : Addr) (k : Kind) : Option Nat :=
  if m.closed then none else
  match lookupDest m src k with
  | some c => if (m.conn c).closed then none else some c
  | none => none

theorem dest_eq_some_iff (m : Mux) (src : Addr) (k : Kind) (c : Nat) :
    dest m src k = some c ↔ m.closed = false ∧ lookupDest m src k = some c ∧ (m.conn c).closed = false := by
  unfold dest
  constructor
  · intro h
    split at h
    · cases h
    · next hc =>
      split at h
      · next c' hd =>
        split at h
        · cases h
        · next hcc => injection h with h; subst h; exact ⟨Bool.eq_false_iff.mpr hc, hd, Bool.eq_false_iff.mpr hcc⟩
      · cases h
  · rintro ⟨h1, h2, h3⟩
    rw [if_neg (by simp [h1]), h2]
    exact if_neg (by simp [h3])

inductive StepTo (m : Mux) : Op → Mux → Out → Prop
  | getClosed (u v6) : m.closed = true → StepTo m (.getConn u v6) m .errClosed
  | getOld (u v6 c) : m.closed = false → (famMap m v6).get? u = some c →
      StepTo m (.getConn u v6) (addHandle m c) (.conn m.nhandles c)
  | getNew (u v6) : m.closed = false → (famMap m v6).get? u = none →
      StepTo m (.getConn u v6) (addHandle (mkConn m u v6) m.nconns) (.conn m.nhandles m.nconns)
  | wrBad (h dst) : h ≥ m.nhandles → StepTo m (.writeTo h dst) m .bad
  | wrClosed (h dst) : h < m.nhandles → (m.hclosed h = true ∨ (m.conn (m.hconn h)).closed = true) →
      StepTo m (.writeTo h dst) m .errClosed
  /-- closed mux, connection still open: `registerConnForAddress` returns at once (`addAddress_closed`), the write
  fails on the closed socket -/
  | wrSock (h dst) : h < m.nhandles → m.hclosed h = false → (m.conn (m.hconn h)).closed = false →
      m.closed = true → StepTo m (.writeTo h dst) m .errSock
  | wrKnown (h dst) : h < m.nhandles → m.hclosed h = false → (m.conn (m.hconn h)).closed = false →
      m.closed = false → canonAddr dst ∈ (m.conn (m.hconn h)).addrs → StepTo m (.writeTo h dst) m .wrote
  | wrNew (h dst) : h < m.nhandles → m.hclosed h = false → (m.conn (m.hconn h)).closed = false →
      m.closed = false → canonAddr dst ∉ (m.conn (m.hconn h)).addrs →
      StepTo m (.writeTo h dst) (addAddress m (m.hconn h) (canonAddr dst)) .wrote
  | dropped (src k pid) : dest m src k = none → StepTo m (.inbound src k pid) m .dropped
  | delivered (src k pid c) : dest m src k = some c →
      StepTo m (.inbound src k pid) (setFifo m c ((m.conn c).fifo ++ [{ pid := pid, src := src }])) (.delivered c)
  | removed (u) : StepTo m (.removeByUfrag u) (removeByUfrag m u) .done
  | chBad (h) : h ≥ m.nhandles → StepTo m (.closeHandle h) m .bad
  | chIdle (h) : h < m.nhandles → m.hclosed h = true → StepTo m (.closeHandle h) m .done
  | chDrop (h) : h < m.nhandles → m.hclosed h = false → StepTo m (.closeHandle h) (closeOpen m h) .done
  | waBad (c) : c ≥ m.nconns → StepTo m (.watcherRun c) m .bad
  | waIdle (c) : c < m.nconns → ((m.conn c).closed = false ∨ (m.conn c).watched = true) →
      StepTo m (.watcherRun c) m .done
  | waRun (c) : c < m.nconns → (m.conn c).closed = true → (m.conn c).watched = false →
      StepTo m (.watcherRun c) (reap m c) .done
  | cmIdle : m.closed = true → StepTo m .closeMux m .done
  | cmRun : m.closed = false → StepTo m .closeMux (closeAll m) .done
  | rdBad (h) : h ≥ m.nhandles → StepTo m (.read h) m .bad
  | rdClosed (h) : h < m.nhandles → m.hclosed h = true → StepTo m (.read h) m .errClosed
  | rdPkt (h pid src rest) : h < m.nhandles → m.hclosed h = false →
      (m.conn (m.hconn h)).fifo = { pid := pid, src := src } :: rest →
      StepTo m (.read h) (setFifo m (m.hconn h) rest) (.pkt pid src)
  | rdEof (h) : h < m.nhandles → m.hclosed h = false → (m.conn (m.hconn h)).fifo = [] →
      (m.conn (m.hconn h)).closed = true → StepTo m (.read h) m .eof
  | rdEmpty (h) : h < m.nhandles → m.hclosed h = false → (m.conn (m.hconn h)).fifo = [] →
      (m.conn (m.hconn h)).closed = false → StepTo m (.read h) m .empty

theorem step_to (m : Mux) (op : Op) : StepTo m op (step m op).1 (step m op).2 := by
  cases op with
  | getConn u v6 =>
    show StepTo m _ (getConn m u v6).1 (getConn m u v6).2
    unfold getConn
    rcases Bool.eq_false_or_eq_true m.closed with hc | hc
    · rw [if_pos hc]; exact .getClosed u v6 hc
    · rw [if_neg (by simp [hc])]
      cases hg : (famMap m v6).get? u with
      | some c => exact .getOld u v6 c hc hg
      | none => exact .getNew u v6 hc hg
  | writeTo h dst =>
    show StepTo m _ (writeTo m h dst).1 (writeTo m h dst).2
    unfold writeTo
    split
    · next h1 => exact .wrBad h dst h1
    · next h1 =>
      split
      · next h2 => exact .wrClosed h dst (Nat.lt_of_not_le h1) (Or.inl h2)
      · next h2 =>
        dsimp only
        split
        · next h3 => exact .wrClosed h dst (Nat.lt_of_not_le h1) (Or.inr h3)
        · next h3 =>
          dsimp only
          have g1 := Nat.lt_of_not_le h1
          have g2 := Bool.eq_false_iff.mpr h2
          have g3 := Bool.eq_false_iff.mpr h3
          rcases Bool.eq_false_or_eq_true m.closed with hc | hc
          · -- `registerConnForAddress` returns at once, the write reaches the closed socket
            rw [if_pos hc, addAddress_closed m _ _ hc, ite_self]
            exact .wrSock h dst g1 g2 g3 hc
          · rw [if_neg (by simp [hc] : ¬ m.closed = true)]
            by_cases hm : canonAddr dst ∈ (m.conn (m.hconn h)).addrs
            · rw [if_pos hm]; exact .wrKnown h dst g1 g2 g3 hc hm
            · rw [if_neg hm]; exact .wrNew h dst g1 g2 g3 hc hm
  | inbound src k pid =>
    show StepTo m _ (inbound m src k pid).1 (inbound m src k pid).2
    unfold inbound
    split
    · next hc => exact .dropped src k pid (by rw [dest, if_pos hc])
    · next hc =>
      dsimp only
      -- the scrutinee is `lookupDest m src k`, written out
      split
      · next hd => exact .dropped src k pid (by rw [dest, if_neg hc, show lookupDest m src k = none from hd])
      · next c hd =>
        split
        · next hcc =>
          exact .dropped src k pid (by rw [dest, if_neg hc, show lookupDest m src k = some c from hd]; exact if_pos hcc)
        · next hcc =>
          exact .delivered src k pid c
            ((dest_eq_some_iff m src k c).mpr ⟨Bool.eq_false_iff.mpr hc, hd, Bool.eq_false_iff.mpr hcc⟩)
  | removeByUfrag u => exact .removed u
  | closeHandle h =>
    show StepTo m _ (closeHandle m h).1 (closeHandle m h).2
    unfold closeHandle
    split
    · next h1 => exact .chBad h h1
    · next h1 =>
      split
      · next h2 => exact .chIdle h (Nat.lt_of_not_le h1) h2
      · next h2 =>
        dsimp only
        rw [closeOpen_eq]
        exact .chDrop h (Nat.lt_of_not_le h1) (Bool.eq_false_iff.mpr h2)
  | watcherRun c =>
    show StepTo m _ (watcherRun m c).1 (watcherRun m c).2
    unfold watcherRun
    split
    · next h1 => exact .waBad c h1
    · next h1 =>
      dsimp only
      split
      · next h2 => exact .waIdle c (Nat.lt_of_not_le h1) (by simpa using h2)
      · next h2 =>
        simp only [Bool.or_eq_true, Bool.not_eq_true', not_or, Bool.not_eq_false, Bool.not_eq_true] at h2
        exact .waRun c (Nat.lt_of_not_le h1) h2.1 h2.2
  | closeMux =>
    show StepTo m _ (closeMux m) .done
    unfold closeMux
    rcases Bool.eq_false_or_eq_true m.closed with hc | hc
    · rw [if_pos hc]; exact .cmIdle hc
    · rw [if_neg (by simp [hc])]; exact .cmRun hc
  | read h =>
    show StepTo m _ (IceModel.UdpMux.read m h).1 (IceModel.UdpMux.read m h).2
    unfold IceModel.UdpMux.read
    split
    · next h1 => exact .rdBad h h1
    · next h1 =>
      split
      · next h2 => exact .rdClosed h (Nat.lt_of_not_le h1) h2
      · next h2 =>
        dsimp only
        split
        · next p rest hq => exact .rdPkt h p.pid p.src rest (Nat.lt_of_not_le h1) (Bool.eq_false_iff.mpr h2) hq
        · next hq =>
          dsimp only
          rcases Bool.eq_false_or_eq_true (m.conn (m.hconn h)).closed with h3 | h3
          · rw [if_pos h3]; exact .rdEof h (Nat.lt_of_not_le h1) (Bool.eq_false_iff.mpr h2) hq h3
          · rw [if_neg (by simp [h3])]; exact .rdEmpty h (Nat.lt_of_not_le h1) (Bool.eq_false_iff.mpr h2) hq h3

/-- the output of an inbound datagram is the one `dest` names -/
theorem StepTo.inbound_out {m m' : Mux} {src : Addr} {k : Kind} {pid : Nat} {o : Out}
    (st : StepTo m (.inbound src k pid) m' o) :
    o = match dest m src k with
      | some c => .delivered c
      | none => .dropped := by
  cases st with
  | dropped _ _ _ hd => rw [hd]
  | delivered _ _ _ c hd => rw [hd]

theorem StepTo.of_delivered {m m' : Mux} {src : Addr} {k : Kind} {pid c : Nat}
    (st : StepTo m (.inbound src k pid) m' (.delivered c)) :
    m.closed = false ∧ lookupDest m src k = some c ∧ (m.conn c).closed = false := by
  cases st with
  | delivered _ _ _ _ hd => exact (dest_eq_some_iff m src k c).mp hd

theorem StepTo.fifo_other {m m' : Mux} {src : Addr} {k : Kind} {pid : Nat} {o : Out}
    (st : StepTo m (.inbound src k pid) m' o) (c' : Nat) (h : o ≠ .delivered c') :
    (m'.conn c').fifo = (m.conn c').fifo := by
  cases st with
  | dropped _ _ _ _ => rfl
  | delivered _ _ _ c _ =>
    have : c' ≠ c := fun e => h (by rw [e])
    simp only [setFifo, upd_ne _ _ this]

theorem StepTo.of_pkt {m m' : Mux} {h pid : Nat} {src : Addr} (st : StepTo m (.read h) m' (.pkt pid src)) :
    h < m.nhandles ∧ ∃ rest, (m.conn (m.hconn h)).fifo = { pid := pid, src := src } :: rest := by
  cases st with
  | rdPkt _ _ _ rest h1 _ hq => exact ⟨h1, rest, hq⟩

theorem StepTo.of_empty {m m' : Mux} {h : Nat} (st : StepTo m (.read h) m' .empty) :
    h < m.nhandles ∧ (m.conn (m.hconn h)).closed = false ∧ (m.conn (m.hconn h)).fifo = [] := by
  cases st with
  | rdEmpty _ h1 _ hq h3 => exact ⟨h1, h3, hq⟩

theorem run_cons (m : Mux) (op : Op) (ops : List Op) :
    run m (op :: ops) = ((run (step m op).1 ops).1, (op, (step m op).2) :: (run (step m op).1 ops).2) := rfl

end IceProofs.UdpMux

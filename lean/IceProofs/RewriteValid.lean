import IceProofs.Rewrite
/-!
# More lemmas for C19: validation (rules, legacy entries, the option's sanitizer), mode application,
family separation, and `IPNet.Contains` as an address range.
-/
set_option linter.unusedSimpArgs false
namespace IceProofs.Rewrite
open IceModel.Rewrite IceSpec.C19

theorem ext_any_none_eq (l : List IPTok) (hb : l.contains .blank = false) :
    l.any (fun t => (tokIP? t).isNone) = l.contains .bad := by
  induction l with
  | nil => rfl
  | cons t ts ih =>
    simp only [List.contains_cons, Bool.or_eq_false_iff] at hb
    simp only [List.any_cons, List.contains_cons]
    rw [ih hb.2]
    cases t with
    | ok ip => simp [tokIP?]
    | bad => simp [tokIP?]
    | blank => simp at hb

theorem tokensInvalid_eq (r : Rule) (hb : r.ext.contains .blank = false) : tokensInvalid r = illFormed r := by
  unfold tokensInvalid illFormed
  rw [ext_any_none_eq r.ext hb]
  congr 1
  cases hc : r.cidr with
  | none => cases hl : r.loc <;> simp
  | bad => cases hl : r.loc <;> simp
  | ok c =>
    have hw : (!c.wellFormed) = decide (c.bits > if c.v4 = true then 32 else 128) := by
      unfold CIDR.wellFormed CIDR.width
      by_cases h : c.bits ≤ (if c.v4 = true then 32 else 128)
      · simp [h]
      · simp [h]; omega
    cases hl : r.loc with
    | none => simp [hw]
    | bad => simp [hw]
    | ok l =>
      have : (LocTok.ok l == LocTok.bad) = false := by simp
      simp [hw, this]

theorem inert_eq (r : Rule) : (!allow4 r && !allow6 r) = inert r := by
  unfold inert; rw [allow4_eq, allow6_eq]

theorem compileRule_error_iff (r : Rule) (hb : r.ext.contains .blank = false) :
    (∃ e, compileRule r = .error e) ↔ (unsupportedRule r || (!inert r && illFormed r)) = true := by
  unfold compileRule unsupportedRule
  rw [inert_eq, tokensInvalid_eq r hb, effType_eq]
  by_cases h3 : docType r = 3
  · simp [h3]
  · cases hi : inert r <;> cases hf : illFormed r <;> simp [h3]

theorem compileRule_unsupported (r : Rule) (h : compileRule r = .error .unsupported) : unsupportedRule r = true := by
  unfold compileRule at h
  unfold unsupportedRule
  rw [← effType_eq]
  by_cases h3 : effType r = 3
  · simp [h3]
  · rw [if_neg h3] at h
    split at h
    · cases h
    · split at h <;> cases h

theorem compileAll_error_iff (rules : List Rule) (hb : ∀ r ∈ rules, r.ext.contains .blank = false) :
    (∃ e, compileAll rules = .error e) ↔ docRejects rules = true := by
  induction rules with
  | nil => simp [compileAll, docRejects]
  | cons r rs ih =>
    have ih' := ih (fun x hx => hb x (List.mem_cons_of_mem _ hx))
    unfold docRejects at ih' ⊢
    rw [List.any_cons, Bool.or_eq_true, ← compileRule_error_iff r (hb r List.mem_cons_self), ← ih']
    constructor
    · rintro ⟨e, he⟩
      rcases compileAll_cons_error.mp he with h | ⟨_, h⟩
      · exact Or.inl ⟨e, h⟩
      · exact Or.inr ⟨e, h⟩
    · rintro (⟨e, h⟩ | ⟨e, h⟩)
      · exact ⟨e, compileAll_cons_error.mpr (Or.inl h)⟩
      · cases hc : compileRule r with
        | error e' => exact ⟨e', compileAll_cons_error.mpr (Or.inl hc)⟩
        | ok o => exact ⟨e, compileAll_cons_error.mpr (Or.inr ⟨⟨o, hc⟩, h⟩)⟩

theorem compileAll_unsupported (rules : List Rule) (h : compileAll rules = .error .unsupported) :
    ∃ r ∈ rules, unsupportedRule r = true := by
  induction rules with
  | nil => cases h
  | cons r rs ih =>
    rcases compileAll_cons_error.mp h with hc | ⟨_, hrs⟩
    · exact ⟨r, List.mem_cons_self, compileRule_unsupported r hc⟩
    · obtain ⟨x, hx, hu⟩ := ih hrs
      exact ⟨x, List.mem_cons_of_mem _ hx, hu⟩

theorem newMapper_error_iff (rules : List Rule) (e : Err) :
    newMapper rules = .error e ↔ compileAll rules = .error e := by
  unfold newMapper
  cases hc : compileAll rules with
  | error e' => simp
  | ok l => cases l <;> simp

theorem newMapper_none_iff (rules : List Rule) : newMapper rules = .ok none ↔ compileAll rules = .ok [] := by
  unfold newMapper
  cases hc : compileAll rules with
  | error e' => simp
  | ok l => cases l <;> simp

theorem newMapper_some_iff (rules : List Rule) (m : Mapper) :
    newMapper rules = .ok (some m) ↔ compileAll rules = .ok m ∧ m ≠ [] := by
  unfold newMapper
  cases hc : compileAll rules with
  | error e' => simp
  | ok l => cases l <;> simp <;> rintro rfl <;> simp

def b2n (b : Bool) : Nat := if b then 1 else 0

def single? (e : Entry) : Option IP :=
  match e with
  | [.ip a] => some a
  | _ => none

theorem legacySingles_cons (e : Entry) (es : List Entry) :
    legacySingles (e :: es) = (single? e).toList ++ legacySingles es := by
  unfold legacySingles
  rw [filterMap_cons_toList]
  rfl

/-- Shape analysis of one legacy entry: accepted without effect on the two flags (`""`, `ext/local`), a single
address (which claims its family), or rejected. -/
theorem entry_cases (e : Entry) :
    (legacyEntryOK e = true ∧ single? e = none ∧ ∀ h4 h6, validateLegacyEntry e h4 h6 = .ok (h4, h6))
    ∨ (∃ a, e = [.ip a] ∧ legacyEntryOK e = true ∧ single? e = some a)
    ∨ (legacyEntryOK e = false ∧ ∀ h4 h6, validateLegacyEntry e h4 h6 = .error .invalid) := by
  match e with
  | [.empty] | [.ip _, .ip _] => left; exact ⟨rfl, rfl, fun _ _ => rfl⟩
  | [.ip a] => right; left; exact ⟨a, rfl, rfl, rfl⟩
  | [] | [.bad] | [.ip _, .empty] | [.ip _, .bad] | [.empty, _] | [.bad, _] => right; right; exact ⟨rfl, fun _ _ => rfl⟩
  | p :: q :: _ :: _ =>
    right; right
    cases p <;> cases q <;> exact ⟨rfl, fun _ _ => rfl⟩

theorem validateLegacyLoop_iff (es : List Entry) (h4 h6 : Bool) :
    validateLegacyLoop es h4 h6 = .ok () ↔
      (∀ e ∈ es, legacyEntryOK e = true)
      ∧ ((legacySingles es).filter (fun a => a.v4)).length + b2n h4 ≤ 1
      ∧ ((legacySingles es).filter (fun a => !a.v4)).length + b2n h6 ≤ 1 := by
  induction es generalizing h4 h6 with
  | nil => cases h4 <;> cases h6 <;> simp [validateLegacyLoop, legacySingles, b2n]
  | cons e es ih =>
    unfold validateLegacyLoop
    rw [legacySingles_cons]
    rcases entry_cases e with ⟨hok, hs, hv⟩ | ⟨a, he, hok, hs⟩ | ⟨hbad, hv⟩
    · rw [hv, hs]; simp only [Option.toList, List.nil_append]
      rw [ih]; simp [hok]
    · subst he
      rw [hs]
      simp only [validateLegacyEntry, Option.toList, List.singleton_append, List.filter_cons]
      cases hav : a.v4
      · cases h6
        · simp only [Bool.false_eq_true, if_false]
          rw [ih]; simp [hok, b2n]
        · simp [b2n]
      · cases h4
        · simp only [Bool.false_eq_true, if_false, if_true]
          rw [ih]; simp [hok, b2n]
        · simp [b2n]
    · rw [hv]; simp [hbad]

theorem validateLegacy_iff (es : List Entry) : validateLegacy es = .ok () ↔ legacyRejects es = false := by
  unfold validateLegacy
  rw [validateLegacyLoop_iff]
  unfold legacyRejects legacyDuplicate
  simp only [b2n, Bool.false_eq_true, if_false, Nat.add_zero, Bool.or_eq_false_iff, List.any_eq_false,
    Bool.not_eq_true', decide_eq_false_iff_not, Nat.not_lt, Bool.not_eq_false]

theorem applyRes_eq_doc (kind : Kind) (orig : IP) (res : Res) :
    canonApply (applyRes kind orig (.ok res)) = canonApply (docApply kind orig res) := by
  obtain ⟨ips, matched, mode⟩ := res
  unfold applyRes docApply canonApply
  cases matched
  · simp
  · by_cases hm : mode = 1
    · subst hm
      cases kind <;> cases ips <;> simp
    · cases kind <;> cases ips <;> simp [hm]

theorem lookupWith_origin (c : Clauses) (rules : List Rule) (k : Key) (x : IP)
    (hx : x ∈ (lookupWith c rules k).ips) :
    ∃ r ∈ rules, (isExplicit r k = true ∧ x ∈ externals r)
      ∨ (isCatchAllWith c r k = true ∧ x ∈ (c.caIPs r k).getD []) := by
  cases he : rules.find? (fun r => isExplicit r k) with
  | some r =>
    rw [lookupWith_explicit c he] at hx
    exact ⟨r, List.mem_of_find?_eq_some he, Or.inl ⟨by simpa using List.find?_some he, hx⟩⟩
  | none =>
    rw [lookupWith_noExplicit c he] at hx
    cases hf : (rules.filter (fun r => isCatchAllWith c r k)).find?
        (fun r => c.rank r k == topRank c k (rules.filter (fun r => isCatchAllWith c r k))) with
    | some r =>
      rw [hf] at hx
      obtain ⟨hr, hc⟩ := List.mem_filter.mp (List.mem_of_find?_eq_some hf)
      exact ⟨r, hr, Or.inr ⟨hc, hx⟩⟩
    | none =>
      rw [hf] at hx
      simp [Res.noMatch] at hx

theorem mem_externals (r : Rule) (y : IP) : y ∈ externals r ↔ IPTok.ok y ∈ r.ext := by
  unfold externals
  rw [List.mem_filterMap]
  constructor
  · rintro ⟨t, ht, hty⟩
    cases t <;> simp at hty
    exact hty ▸ ht
  · exact fun h => ⟨_, h, rfl⟩

theorem mem_catchAllIPs (r : Rule) (k : Key) (x : IP) (h : x ∈ (catchAllIPs r k).getD []) :
    x ∈ externals r ∧ (hasCIDR r = true ∨ x.v4 = k.ip.v4) := by
  unfold catchAllIPs at h
  split at h
  · split at h
    · simp at h
    · split at h
      · exact ⟨by simpa using h, Or.inl ‹_›⟩
      · simp only at h
        split at h
        · simp at h
        · have : x ∈ externals r ∧ x.v4 = k.ip.v4 := by simpa using h
          exact ⟨this.1, Or.inr this.2⟩
  · simp at h

theorem inScope_cidr (r : Rule) (k : Key) (c : CIDR) (h : inScope r k = true) (hc : r.cidr = .ok c) :
    c.contains k.ip = true := by
  unfold inScope cidrOK at h
  rw [hc] at h
  simp only [Bool.and_eq_true] at h
  exact h.1.2

theorem asCoded_cross_family (rules : List Rule) (k : Key) (x : IP)
    (hx : x ∈ (lookupWith asCodedClauses rules k).ips) (hfam : x.v4 ≠ k.ip.v4) :
    ∃ r ∈ rules, IPTok.ok x ∈ r.ext ∧
      (r.loc = .ok k.ip ∨ ∃ c, r.cidr = .ok c ∧ c.contains k.ip = true) := by
  obtain ⟨r, hr, ⟨he, hxe⟩ | ⟨hc, hxc⟩⟩ := lookupWith_origin asCodedClauses rules k x hx
  · simp only [isExplicit, Bool.and_eq_true, beq_iff_eq] at he
    exact ⟨r, hr, (mem_externals r x).mp hxe, Or.inl he.2⟩
  · simp only [isCatchAllWith, Bool.and_eq_true] at hc
    obtain ⟨hxe, hcd | hv⟩ := mem_catchAllIPs r k x hxc
    · refine ⟨r, hr, (mem_externals r x).mp hxe, Or.inr ?_⟩
      unfold hasCIDR at hcd
      cases hcc : r.cidr with
      | ok c => exact ⟨c, rfl, inScope_cidr r k c hc.1 hcc⟩
      | none => simp [hcc] at hcd
      | bad => simp [hcc] at hcd
    · exact absurd hv hfam

theorem sanitizeExtsLoop_bad (l acc : List IPTok) (hbad : l.contains .bad = true) :
    sanitizeExtsLoop l acc = .error .invalid := by
  induction l generalizing acc with
  | nil => simp at hbad
  | cons t ts ih =>
    cases t with
    | bad => rfl
    | blank =>
      unfold sanitizeExtsLoop
      apply ih
      simpa using hbad
    | ok ip =>
      unfold sanitizeExtsLoop
      have : ts.contains .bad = true := by simpa using hbad
      split <;> exact ih _ this

/-- one more entry of the list: when the accumulator gains exactly the entry if it is an address (`r ∧ pt`), the members the
loop's invariant describes are the same before and after -/
theorem loop_step {p q r s pt : Prop} (h : p ↔ q ∨ (r ∧ pt)) : (p ∨ (s ∧ pt)) ↔ (q ∨ ((r ∨ s) ∧ pt)) := by
  rw [h, or_and_right, or_assoc]

theorem sanitizeExtsLoop_ok (l acc : List IPTok) (hbad : l.contains .bad = false) :
    ∃ out, sanitizeExtsLoop l acc = .ok out ∧
      ∀ t, t ∈ out ↔ t ∈ acc ∨ (t ∈ l ∧ ∃ ip, t = .ok ip) := by
  induction l generalizing acc with
  | nil => exact ⟨acc.reverse, rfl, by simp⟩
  | cons x ts ih =>
    simp only [List.contains_cons, Bool.or_eq_false_iff] at hbad
    -- `acc'`: the accumulator the loop goes on with
    suffices h : ∃ acc', sanitizeExtsLoop (x :: ts) acc = sanitizeExtsLoop ts acc' ∧
        ∀ t, t ∈ acc' ↔ t ∈ acc ∨ (t = x ∧ ∃ ip, t = .ok ip) by
      obtain ⟨acc', he, ha⟩ := h
      obtain ⟨out, ho, hm⟩ := ih acc' hbad.2
      exact ⟨out, he ▸ ho, fun t => by rw [hm t, List.mem_cons]; exact loop_step (ha t)⟩
    cases x with
    | bad => simp at hbad
    | blank => exact ⟨acc, rfl, fun t => ⟨Or.inl, fun h => h.elim id fun ⟨e, _, h⟩ => nomatch e ▸ h⟩⟩
    | ok ip =>
      by_cases hc : acc.contains (.ok ip) = true
      · have hin : IPTok.ok ip ∈ acc := by simpa using hc
        exact ⟨acc, by rw [sanitizeExtsLoop, if_pos hc], fun t => ⟨Or.inl, fun h => h.elim id fun h => h.1 ▸ hin⟩⟩
      · refine ⟨.ok ip :: acc, by rw [sanitizeExtsLoop, if_neg hc], fun t => ?_⟩
        rw [List.mem_cons, or_comm]
        exact or_congr_right ⟨fun h => ⟨h, ip, h⟩, And.left⟩

theorem sanitizeExts_ok_iff (l : List IPTok) :
    (∃ out, sanitizeExts l = .ok out) ↔ l.contains .bad = false ∧ (l = [] ∨ ∃ ip, IPTok.ok ip ∈ l) := by
  unfold sanitizeExts
  cases hb : l.contains .bad with
  | true => rw [sanitizeExtsLoop_bad l [] hb]; simp
  | false =>
    obtain ⟨out, ho, hm⟩ := sanitizeExtsLoop_ok l [] hb
    rw [ho]
    simp only [true_and]
    cases l with
    | nil => simp
    | cons t ts =>
      cases out with
      | nil =>
        simp only [List.isEmpty_nil, List.isEmpty_cons, Bool.not_false, Bool.and_self, if_true]
        constructor
        · rintro ⟨o, h⟩; cases h
        · rintro (h | ⟨ip, h⟩)
          · cases h
          · exact absurd ((hm (.ok ip)).mpr (Or.inr ⟨h, ip, rfl⟩)) (by simp)
      | cons x xs =>
        simp only [List.isEmpty_cons, Bool.false_and, Bool.false_eq_true, if_false]
        constructor
        · intro _
          right
          rcases (hm x).mp List.mem_cons_self with h | ⟨h, ip, rfl⟩
          · cases h
          · exact ⟨ip, h⟩
        · intro _; exact ⟨_, rfl⟩

theorem sanitizeExts_mem (l out : List IPTok) (h : sanitizeExts l = .ok out) :
    ∀ t, t ∈ out ↔ t ∈ l ∧ ∃ ip, t = .ok ip := by
  have hb : l.contains .bad = false := ((sanitizeExts_ok_iff l).mp ⟨out, h⟩).1
  obtain ⟨o, ho, hm⟩ := sanitizeExtsLoop_ok l [] hb
  unfold sanitizeExts at h
  rw [ho] at h
  by_cases hc : (o.isEmpty && !l.isEmpty) = true
  · simp [hc] at h
  · simp only [hc, if_false] at h
    cases h
    intro t
    rw [hm t]
    simp

/-- the empty list is accepted (and stays empty): the documented deny / no-op rule is configurable -/
theorem sanitizeExts_nil : sanitizeExts [] = .ok [] := rfl

theorem sanitizeExts_allBlank (l : List IPTok) (hne : l ≠ []) (h : ∀ t ∈ l, t = .blank) :
    sanitizeExts l = .error .invalid := by
  have hno : ¬ ∃ out, sanitizeExts l = .ok out := by
    rw [sanitizeExts_ok_iff]
    rintro ⟨_, h' | ⟨ip, h'⟩⟩
    · exact hne h'
    · cases h _ h'
  unfold sanitizeExts at *
  split
  · rename_i e he
    have hb : l.contains .bad = false := by
      cases hc : l.contains .bad with
      | false => rfl
      | true =>
        have : IPTok.bad ∈ l := by simpa using hc
        cases h _ this
    obtain ⟨o, ho, _⟩ := sanitizeExtsLoop_ok l [] hb
    rw [ho] at he
    cases he
  · split
    · rfl
    · rename_i out he hc
      exact absurd ⟨out, by rw [he]; simp [hc]⟩ hno

theorem sanitizeRule_spec (r : Rule) :
    ((∃ r', sanitizeRule r = .ok r') ↔
      (r.ext.contains .bad = false ∧ (r.ext = [] ∨ ∃ ip, IPTok.ok ip ∈ r.ext) ∧ r.loc ≠ .bad ∧ r.mode ≤ 2))
    ∧ (∀ r', sanitizeRule r = .ok r' →
        (∀ t, t ∈ r'.ext ↔ t ∈ r.ext ∧ ∃ ip, t = .ok ip) ∧ (r.ext = [] → r'.ext = [])
        ∧ r'.mode = (if r.mode = 0 then defaultMode r.ctype else r.mode)
        ∧ r'.ctype = r.ctype ∧ r'.iface = r.iface ∧ r'.cidr = r.cidr ∧ r'.loc = r.loc ∧ r'.nets = r.nets) := by
  unfold sanitizeRule
  cases he : sanitizeExts r.ext with
  | error e =>
    have hno : ¬ (r.ext.contains .bad = false ∧ (r.ext = [] ∨ ∃ ip, IPTok.ok ip ∈ r.ext)) := by
      rw [← sanitizeExts_ok_iff]
      rintro ⟨out, ho⟩
      rw [ho] at he
      cases he
    constructor
    · constructor
      · rintro ⟨r', h⟩; cases h
      · rintro ⟨h1, h2, _⟩; exact absurd ⟨h1, h2⟩ hno
    · intro r' h; cases h
  | ok out =>
    have hok := (sanitizeExts_ok_iff r.ext).mp ⟨out, he⟩
    have hmem := sanitizeExts_mem r.ext out he
    have hnil : r.ext = [] → out = [] := by
      intro h
      rw [h] at he
      cases he
      rfl
    simp only
    by_cases hl : r.loc = .bad
    · simp [hl]
    · simp only [hl, if_false]
      by_cases h0 : r.mode = 0
      · simp only [h0, if_true]
        refine ⟨⟨fun _ => ⟨hok.1, hok.2, hl, by omega⟩, fun _ => ⟨_, rfl⟩⟩, ?_⟩
        intro r' h
        cases h
        exact ⟨hmem, hnil, rfl, rfl, rfl, rfl, rfl, rfl⟩
      · simp only [h0, if_false]
        by_cases h12 : r.mode = 1 ∨ r.mode = 2
        · simp only [h12, if_true]
          refine ⟨⟨fun _ => ⟨hok.1, hok.2, hl, by omega⟩, fun _ => ⟨_, rfl⟩⟩, ?_⟩
          intro r' h
          cases h
          exact ⟨hmem, hnil, rfl, rfl, rfl, rfl, rfl, rfl⟩
        · simp only [h12, if_false]
          constructor
          · constructor
            · rintro ⟨r', h⟩; cases h
            · rintro ⟨_, _, _, hm⟩; omega
          · intro r' h; cases h

def ruleInDomainOpt (r : Rule) : Bool :=
  !((r.ext.contains .blank && !allBlank r) || r.mode > 2 || (inert r && illFormed r))

theorem allBlank_iff (r : Rule) : allBlank r = true ↔ r.ext ≠ [] ∧ ∀ t ∈ r.ext, t = .blank := by
  unfold allBlank
  cases h : r.ext with
  | nil => simp
  | cons t ts => simp

theorem sanitizeRule_error_rejects (r : Rule) (hd : ruleInDomainOpt r = true) (e : Err)
    (h : sanitizeRule r = .error e) :
    ((unsupportedRule r || (!inert r && illFormed r)) || allBlank r) = true := by
  have hno : ¬ ∃ r', sanitizeRule r = .ok r' := by rintro ⟨r', h'⟩; rw [h'] at h; cases h
  rw [(sanitizeRule_spec r).1] at hno
  simp only [ruleInDomainOpt, Bool.not_eq_true', Bool.or_eq_false_iff, Bool.and_eq_false_iff] at hd
  obtain ⟨⟨hbl, hmode⟩, hin⟩ := hd
  have hmode : r.mode ≤ 2 := by simpa using hmode
  have hill : illFormed r = true → (!inert r && illFormed r) = true := by
    intro hi
    rcases hin with h | h
    · simp [h, hi]
    · rw [hi] at h; cases h
  by_cases hbad : r.ext.contains .bad = true
  · have : illFormed r = true := by simp only [illFormed, hbad, Bool.or_true]
    simp [hill this]
  · by_cases hloc : r.loc = .bad
    · have : illFormed r = true := by simp only [illFormed, hloc, beq_self_eq_true, Bool.or_true, Bool.true_or]
      simp [hill this]
    · have hbad' : r.ext.contains .bad = false := by simpa using hbad
      have hext : ¬ (r.ext = [] ∨ ∃ ip, IPTok.ok ip ∈ r.ext) := fun hx => hno ⟨hbad', hx, hloc, hmode⟩
      have hab : allBlank r = true := by
        rw [allBlank_iff]
        refine ⟨fun hx => hext (Or.inl hx), fun t ht => ?_⟩
        cases t with
        | blank => rfl
        | bad => exact absurd (by simpa using ht) hbad
        | ok ip => exact absurd (Or.inr ⟨ip, ht⟩) hext
      simp [hab]

theorem sanitizeRule_ok_same (r r' : Rule) (h : sanitizeRule r = .ok r') :
    r'.ext.contains .blank = false ∧ allBlank r = false
    ∧ (unsupportedRule r' || (!inert r' && illFormed r')) = (unsupportedRule r || (!inert r && illFormed r)) := by
  obtain ⟨hmem, _, _, hct, _, hci, hlo, hne⟩ := (sanitizeRule_spec r).2 r' h
  obtain ⟨hbad, hext, _, _⟩ := (sanitizeRule_spec r).1.mp ⟨r', h⟩
  -- what is handed on holds addresses only
  have hno : ∀ x : IPTok, (∀ ip, x ≠ .ok ip) → r'.ext.contains x = false := fun x hx => by
    cases hc : r'.ext.contains x with
    | false => rfl
    | true =>
      obtain ⟨_, ip, hip⟩ := (hmem x).mp (by simpa using hc)
      exact absurd hip (hx ip)
  have hb1 := hno .blank nofun
  have hb2 := hno .bad nofun
  have hab : allBlank r = false := by
    cases hc : allBlank r with
    | false => rfl
    | true =>
      obtain ⟨hne', hall⟩ := (allBlank_iff r).mp hc
      rcases hext with hx | ⟨ip, hx⟩
      · exact absurd hx hne'
      · cases hall _ hx
  refine ⟨hb1, hab, ?_⟩
  have h1 : unsupportedRule r' = unsupportedRule r := by simp [unsupportedRule, docType, hct]
  have h2 : inert r' = inert r := by simp [inert, netsAllow, hne]
  have h3 : illFormed r' = illFormed r := by unfold illFormed; rw [hci, hlo, hbad, hb2]
  rw [h1, h2, h3]

theorem sanitizeAll_spec (rules : List Rule) (ho : outsideDomainOn .option rules = false) :
    (∀ e, sanitizeAll rules = .error e → optionRejects rules = true) ∧
    (∀ clean, sanitizeAll rules = .ok clean →
      clean.all (fun r => !r.ext.contains .blank) = true ∧ rules.any allBlank = false ∧ docRejects clean = docRejects rules) := by
  induction rules with
  | nil =>
    constructor
    · intro e h; cases h
    · intro clean h; cases h; simp [docRejects]
  | cons r rs ih =>
    have hr : ruleInDomainOpt r = true := by
      simp only [outsideDomainOn, List.any_cons, Bool.or_eq_false_iff] at ho
      simp only [ruleInDomainOpt, Bool.not_eq_true']
      simpa using ho.1
    have hrs : outsideDomainOn .option rs = false := by
      simp only [outsideDomainOn, List.any_cons, Bool.or_eq_false_iff] at ho
      exact ho.2
    obtain ⟨ih1, ih2⟩ := ih hrs
    unfold sanitizeAll
    cases h1 : sanitizeRule r with
    | error e =>
      constructor
      · intro e' _
        have := sanitizeRule_error_rejects r hr e h1
        simp only [optionRejects, docRejects, List.any_cons]
        simp only [Bool.or_eq_true] at this ⊢
        rcases this with h | h
        · exact Or.inl (Or.inl h)
        · exact Or.inr (Or.inl h)
      · intro clean h; cases h
    | ok r' =>
      obtain ⟨hb, hab, hsame⟩ := sanitizeRule_ok_same r r' h1
      cases h2 : sanitizeAll rs with
      | error e =>
        constructor
        · intro e' _
          have := ih1 e h2
          simp only [optionRejects, docRejects, List.any_cons, Bool.or_eq_true] at this ⊢
          rcases this with h | h
          · exact Or.inl (Or.inr h)
          · exact Or.inr (Or.inr h)
        · intro clean h; cases h
      | ok l =>
        obtain ⟨i1, i2, i3⟩ := ih2 l h2
        constructor
        · intro e h; cases h
        · intro clean h
          cases h
          refine ⟨?_, ?_, ?_⟩
          · simp only [List.all_cons, Bool.and_eq_true] at i1 ⊢
            exact ⟨by rw [hb]; rfl, i1⟩
          · simp [List.any_cons, hab, i2]
          · simp only [docRejects, List.any_cons] at i3 ⊢
            rw [hsame, i3]

/-- `IPNet.Contains` as an address range: same family and `lo ≤ ip < lo + 2^(width-bits)` where
`lo` is the base address with its host bits cleared. -/
theorem contains_iff_range (c : CIDR) (ip : IP) :
    c.contains ip = true ↔
      c.v4 = ip.v4 ∧ c.base / 2 ^ (c.width - c.bits) * 2 ^ (c.width - c.bits) ≤ ip.val
        ∧ ip.val < c.base / 2 ^ (c.width - c.bits) * 2 ^ (c.width - c.bits) + 2 ^ (c.width - c.bits) := by
  unfold CIDR.contains
  simp only [Bool.and_eq_true, beq_iff_eq]
  have hpos : 0 < 2 ^ (c.width - c.bits) := Nat.pow_pos (by omega)
  generalize 2 ^ (c.width - c.bits) = n at hpos
  constructor
  · rintro ⟨h1, h2⟩
    refine ⟨h1, ?_, ?_⟩
    · rw [← h2]; exact Nat.div_mul_le_self _ _
    · rw [← h2]
      have := Nat.lt_div_mul_add (a := ip.val) hpos
      omega
  · rintro ⟨h1, h2, h3⟩
    refine ⟨h1, ?_⟩
    apply Nat.le_antisymm
    · apply Nat.le_of_lt_succ
      rw [Nat.div_lt_iff_lt_mul hpos]
      rw [Nat.succ_mul]; exact h3
    · rw [Nat.le_div_iff_mul_le hpos]; exact h2

end IceProofs.Rewrite

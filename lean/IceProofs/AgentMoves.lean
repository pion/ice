import IceProofs.AgentRulesTimers
import IceProofs.AgentRulesCand
import IceProofs.AgentAuto
/-!
# What a step of the agent can do

`Move cx a r`: one elementary change of the agent `a` while it handles an event — one record update, one call of a
leaf helper (`modPair`, `addPair`, `sendRequest`, `select`, `doRestart`), one output —, with what the code has
established on the way to it as hypotheses: the tests it made, what a lookup that succeeded returned, why a pair is
selected (`SelectWhy`) or the connection state changes (`StateWhy`).  Where the model changes several things at once and
the state in between would be one the code never has (selection and Connected; Failed and the wipe; Restart and
Checking), that is ONE move.  `Chain cx a r`: a sequence of moves, outputs concatenated.  `step_chain` walks the call
tree of `step` once: `Chain (.step e a) a (step a e)`.  A relation between the agent before, the agent after and the
outputs that is reflexive, closed under sequencing and holds of every move therefore holds of every step (`Chain.ind`),
and of every helper of `step` (`Chain.<helper>`).

The context `cx` says what is known of the event: of the message (`validates`, `answers`, `refuses`), of the candidate
it brings (`addsLocal`, `addsRemote`), and which kinds of moves can occur at all (`may : Kind → Prop`) — a relation that
holds of a phase of `step` only (the tick, the data plane, the selectors' handlers) is taken through the chain of that
phase in a context where the other kinds are impossible: a lemma about moves asks for what it excludes (`¬cx.may .session`
…), a helper is called in `Ctx.only may`.  What a move knows of the ARGUMENTS of the helper that makes it, as opposed to
what the helper tested itself, it knows under `cx.strict` (where the candidates come from) or `cx.roles` (the agent's
role, the marks the selector has just set): both hold in `Ctx.step e a` and `Ctx.idle`, neither in `Ctx.any`, so that
`Chain Ctx.any a (a.<helper> args)` exists for any arguments.  They are two flags because a selector's handler is also
taken on its own, on any candidates but in the agent's own role (`roles` without `strict`).

A move carries a hypothesis beyond its kinds only if some proof reads it; what a later proof needs of the code's tests is
added to the constructor and established once, in `Chain.<helper>`.

To prove a relation of every step: state it on `r.1` and `r.2` (`X a r.1`, not a definition that hides the projection,
or `rw [select_update]` finds nothing to rewrite), prove it of `(a, [])` and of one chain after another, and of every move
by `cases`.  The results of four constructors are calls of a helper that branches — `select`, `request`, `issue`,
`restart` — and need its equation (`select_update`, `sendRequest_fst_eq`; under the record update of `issue` after
`dsimp only`, or through a lemma about `sendRequest` and transitivity; `doRestart_update`); every other result reduces to a
record update, and what the relation says of an untouched field is `rfl` in one default arm.  For `step` the context is fixed, `Ctx.step e a`, so a kind is
excluded by a hypothesis on the event, `¬mayOf e k`, which `simp [mayOf]` decides for each event.  The fields that most
kinds of moves leave alone are projected out once, in `AgentKept.lean` (`kept_chain`) — but `kept` has no lemma for a
context in which a session move may occur, whatever the field.
-/
namespace IceProofs.Agent
open IceModel.AgentCore

/-- the event is the STUN message `m` from `src`, which the started, open agent `a0` receives on its local candidate `l` -/
def Inbound (e : Ev) (a0 : Agent) (now : Nat) (l : Cand) (src : Nat) (m : Msg) : Prop :=
  ∃ la, e = .inbound now la src m ∧ a0.localByAddr la = some l ∧ a0.started = true ∧ a0.closed = false

/-- the event is a success response keyed with the remote password, from the remote candidate `r`, that matches the
pending transaction `pd` and comes back on its path; `p` is the pair of (`l`, `r`) -/
structure Validates (e : Ev) (a0 : Agent) (now : Nat) (l r : Cand) (src : Nat) (m : Msg) (pd : Pending) (p : Pair) : Prop where
  inbound : Inbound e a0 now l src m
  method : m.method = 1
  cls : m.cls = 2
  key : m.key = some a0.remotePwd
  remote : a0.findRemote l.net src = some r
  pending : (a0.takePending now m.tid).2 = some pd
  path : (pd.net == l.net && pd.dest == src && pd.src == l.addr) = true
  pair : a0.findPair l r = some p

/-- the phases of a step a move may belong to -/
inductive Kind where
  /-- the connectivity-check tick: `contact` and everything below it -/
  | tick
  /-- the data plane: `Write`, `WriteToPair`, `Read`, an inbound datagram that is not STUN -/
  | data
  /-- a local candidate is listed -/
  | locals
  /-- a remote candidate — signalled or peer-reflexive — is listed, and the peer-reflexive ones it supersedes go -/
  | remotes
  /-- the selectors' decisions on a success response or a nominating request: a pair is selected, a nomination is
  deferred or decided, a lite agent takes a pair for valid; and the selected pair, retargeted, is selected again -/
  | select
  /-- `Start`, `SetRemoteCredentials`, `Restart`, `Close` -/
  | session
  /-- `RenominateCandidate` -/
  | renom
  /-- the agent gives way in a role conflict and switches role -/
  | role
  /-- within a tick: the loop's own bookkeeping (`lastSeen`, `checkingStart`, `nextTick`) -/
  | timer
  /-- within a tick: the bookkeeping of the automatic renomination (`lastRenomTime`, the value generator, the log) -/
  | auto
  /-- within the data plane: `Read` -/
  | read
  /-- a selector records a nomination value (`answeredNomination`, `lastNomination`) -/
  | accept
  /-- a tick is forced (`requestConnectivityCheck`), or the forced tick runs -/
  | forced
  deriving DecidableEq

/-- the kinds of moves the handling of an event can contain; a candidate, a start and a STUN message force a tick -/
def mayOf : Ev → Kind → Prop
  | .addLocal _ _, k => k = .locals ∨ k = .tick ∨ k = .timer ∨ k = .auto ∨ k = .forced
  | .addRemote _ _, k => k = .remotes ∨ k = .select ∨ k = .tick ∨ k = .timer ∨ k = .auto ∨ k = .forced
  | .start _ _ _ _, k => k = .session ∨ k = .tick ∨ k = .timer ∨ k = .auto ∨ k = .forced
  | .setRemoteCreds _ _, k => k = .session
  | .advance _, k => k = .tick ∨ k = .timer ∨ k = .auto
  | .inbound _ _ _ _, k =>
    k = .remotes ∨ k = .select ∨ k = .role ∨ k = .tick ∨ k = .timer ∨ k = .auto ∨ k = .accept ∨ k = .forced
  | .inboundData _ _ _ _ _, k => k = .data
  | .write _ _ _, k => k = .data
  | .writeToPair _ _ _ _, k => k = .data
  | .read _, k => k = .data ∨ k = .read
  | .renominate _ _ _ _, k => k = .renom
  | .restart _ _ _, k => k = .session
  | .close, k => k = .session

/-- What is known of the event being handled.  Of a message: `validates now l r src m pd p` where a success response
marks a pair valid, `answers now l src m` where a request is answered with a success response, `refuses now l src m`
where it is in role conflict (answered 487, or the agent switches role).  `may k`: moves of kind `k` may occur at all
(a caller of `Chain.<helper>` who knows that they do not picks a context where `may k` is false).  `addsLocal c` /
`addsRemote c`: `c` is the candidate the event brings in, as it arrives (without uid). -/
structure Ctx where
  validates : Nat → Cand → Cand → Nat → Msg → Pending → Pair → Prop
  answers : Nat → Cand → Nat → Msg → Prop
  refuses : Nat → Cand → Nat → Msg → Prop
  may : Kind → Prop
  addsLocal : Cand → Prop
  addsRemote : Cand → Prop
  /-- the helpers are called with arguments as `step` passes them; what a move knows of the arguments of the helper that
  makes it (that the candidates are listed, that an answer goes back to the source …) it knows under this condition -/
  strict : Prop
  /-- likewise for what a move knows of the agent's role and of the marks the selector has just set, as opposed to
  where its candidates come from (a selector's handler called on any candidates, but in its own role) -/
  roles : Prop

/-- nothing is known: a helper called out of context, with any arguments -/
def Ctx.any : Ctx :=
  ⟨fun _ _ _ _ _ _ _ => True, fun _ _ _ _ => True, fun _ _ _ _ => True, fun _ => True, fun _ => True, fun _ => True, False,
    False⟩

/-- a helper called out of context, with any arguments, where only moves of the kinds `may` can occur -/
@[reducible] def Ctx.only (may : Kind → Prop) : Ctx := { Ctx.any with may := may }

/-- a tick, and no event being handled -/
@[reducible] def Ctx.idle : Ctx :=
  ⟨fun _ _ _ _ _ _ _ => False, fun _ _ _ _ => False, fun _ _ _ _ => False,
    fun k => k = .tick ∨ k = .timer ∨ k = .auto ∨ k = .forced, fun _ => False, fun _ => False, True, True⟩

/-- the event is `e`, and the agent was `a0` when it arrived; a remote candidate comes from `AddRemoteCandidate`, or is
the peer-reflexive candidate made for the unknown source of an authenticated request.  Of a request it knows that it is
authenticated, whether it is then answered or refused: the role test is the handler's. -/
def Ctx.step (e : Ev) (a0 : Agent) : Ctx where
  validates := Validates e a0
  answers now l src m := Inbound e a0 now l src m ∧ AuthRequest a0 m
  refuses now l src m := Inbound e a0 now l src m ∧ AuthRequest a0 m
  may := mayOf e
  addsLocal c := ∃ now, e = .addLocal now c
  addsRemote c := (∃ now, e = .addRemote now c) ∨
    ∃ now l src m, Inbound e a0 now l src m ∧ AuthRequest a0 m ∧ a0.findRemote l.net src = none ∧ c = prflxCand l src m
  strict := True
  roles := True

/-- the agent lists a pair under `id`, and `P` holds of it -/
def Lists (a : Agent) (id : Nat) (P : Pair → Prop) : Prop := ∃ p, a.pairById id = some p ∧ P p

theorem Lists.modPair {a : Agent} {id : Nat} {P Q : Pair → Prop} (h : Lists a id P) (f : Pair → Pair)
    (hf : ∀ p, (f p).id = p.id) (hq : ∀ p, P p → Q (f p)) : Lists (a.modPair id f) id Q :=
  let ⟨p, hp, h⟩ := h
  ⟨f p, modPair_pairById_self f hf hp, hq p h⟩

/-- the candidates of `b` are those of `a`, up to the activity timestamps -/
def SameCands (a b : Agent) : Prop :=
  b.locals.map Cand.bare = a.locals.map Cand.bare ∧ b.remotes.map Cand.bare = a.remotes.map Cand.bare

theorem SameCands.refl (a : Agent) : SameCands a a := ⟨rfl, rfl⟩

theorem SameCands.trans {a b c : Agent} (h1 : SameCands a b) (h2 : SameCands b c) : SameCands a c :=
  ⟨h2.1.trans h1.1, h2.2.trans h1.2⟩

/-- a Binding request goes from a local to a remote candidate of the agent -/
structure Sends (a : Agent) (l r : Cand) : Prop where
  loc : Listed a.locals l
  rem : Listed a.remotes r

/-- a request with USE-CANDIDATE and no value is the controlling selector's nomination, while no pair is selected -/
structure Nominating (a : Agent) : Prop where
  controlling : a.controlling = true
  unselected : a.selected = none

/-- A pair is formed of a local and a remote candidate of the agent.  The remote candidate may be
the one just created: whether that one is still listed after the candidates it supersedes were dropped depends on the
uids being unique. -/
structure Pairs (cx : Ctx) (a : Agent) (l r : Cand) : Prop where
  loc : Listed a.locals l
  rem : Listed a.remotes r ∨ cx.may .remotes ∧ r.uid + 1 = a.nextUid

/-- What `handleInbound` knows of the candidates it hands to a selector: the receiving local candidate and the remote
candidate the source `src` resolves to are listed, and of one network type. -/
structure Resolved (a : Agent) (l r : Cand) (src : Nat) : Prop where
  loc : Listed a.locals l
  rem : Listed a.remotes r
  net : l.net = r.net
  src : r.addr = src

/-- every pair listed under `id` has seen a nominating request: what `countReq m` has just written when `m` nominates -/
def NomSeen (a : Agent) (id : Nat) : Prop := ∀ q ∈ a.checklist, q.id = id → q.gNomReq = true

/-- Why `select id` is called on `a`. -/
inductive SelectWhy (cx : Ctx) (a : Agent) (id : Nat) : Prop
  /-- `replaceRemoteInPairs`: the selected pair has been retargeted and is selected again -/
  | again : a.selected = some id → SelectWhy cx a id
  /-- the controlling selector, on the success response to a request that carried USE-CANDIDATE: `ans` was the greatest
  nomination value answered so far -/
  | ctl (now : Nat) (l r : Cand) (src : Nat) (m : Msg) (pd : Pending) (p : Pair) (ans : Option Nat) :
      cx.validates now l r src m pd p → id = p.id → a.controlling = true →
      ctlSuccessDecision pd.useCand pd.nom ans a.selected.isSome = (a.answeredNomination, true) →
      Lists a id (·.state = .succeeded) →
      { p with state := .succeeded, gResp := true, gRespUC := p.gRespUC || pd.useCand } ∈ a.checklist → SelectWhy cx a id
  /-- the controlled selector, on the success response on a pair `p` whose nomination it had deferred -/
  | deferred (now : Nat) (l r : Cand) (src : Nat) (m : Msg) (pd : Pending) (p : Pair) :
      cx.validates now l r src m pd p → id = p.id → a.controlling = false → p.nomOnSuccess = true →
      cldSuccessDecision p.deferredNom a.lastNomination (cldAtoms a p).1 (cldAtoms a p).2.1 (needsPrioCheck a.cfg)
        (cldAtoms a p).2.2 (a.pairPrio p) = true →
      Lists a id (·.state = .succeeded) →
      { p with state := .succeeded, gResp := true, gRespUC := p.gRespUC || pd.useCand } ∈ a.checklist → SelectWhy cx a id
  /-- the controlled selector, on a nominating request on a valid pair (`shouldSwitchSelectedPair`) -/
  | nominated (now : Nat) (l : Cand) (src : Nat) (m : Msg) (p : Pair) : cx.answers now l src m →
      (m.useCand || m.nom.isSome) = true → a.pairById id = some p → p.state = .succeeded →
      inlineSwitch a id m p = true → (cx.roles → a.controlling = false ∧ NomSeen a id) → SelectWhy cx a id

theorem SelectWhy.valid {cx : Ctx} {a : Agent} {id : Nat} (h : SelectWhy cx a id) :
    a.selected = some id ∨ Lists a id (·.state = .succeeded) := by
  cases h with
  | again h => exact Or.inl h
  | ctl _ _ _ _ _ _ _ _ _ _ _ _ h => exact Or.inr h
  | deferred _ _ _ _ _ _ _ _ _ _ _ _ h => exact Or.inr h
  | nominated _ _ _ _ p _ _ hp hs => exact Or.inr ⟨p, hp, hs⟩

/-- Why the connection state becomes `s`, other than by `select`. -/
inductive StateWhy (cx : Ctx) (a : Agent) (s : ConnState) : Prop
  /-- `validateSelectedPair`: the silence of the selected pair's remote candidate against the two timeouts -/
  | validate (now : Nat) (p : Pair) : cx.may .tick → a.selected.bind a.pairById = some p →
      s = stateForDisconnection a.cfg a.connState ((a.remoteOf p.r).bind (silence now))
        (if a.cfg.failedTimeout != 0 then a.cfg.failedTimeout + a.cfg.disconnectedTimeout else 0) → StateWhy cx a s
  /-- the tick finds the checking period over -/
  | deadline (now : Nat) : cx.may .tick → a.connState = .checking →
      (a.checkingTimeout != 0 && now - a.checkingStart > a.checkingTimeout) = true → s = .failed → StateWhy cx a s
  /-- `Start` -/
  | checking : cx.may .session → s = .checking → StateWhy cx a s
  | close : cx.may .session → a.closed = true → s = .closed → StateWhy cx a s

theorem StateWhy.kind {cx : Ctx} {a : Agent} {s : ConnState} (h : StateWhy cx a s) : cx.may .tick ∨ cx.may .session := by
  cases h with
  | validate _ _ h => exact .inl h
  | deadline _ h => exact .inl h
  | checking h => exact .inr h
  | close h => exact .inr h

theorem StateWhy.failed_tick {cx : Ctx} {a : Agent} (h : StateWhy cx a .failed) : cx.may .tick := by
  cases h with
  | validate _ _ h => exact h
  | deadline _ h => exact h
  | checking _ h => cases h
  | close _ _ h => cases h

/-- no message is in hand: nothing validates a pair, no request is answered or refused -/
structure Ctx.Silent (cx : Ctx) : Prop where
  validates : ∀ now l r src m pd p, ¬cx.validates now l r src m pd p
  answers : ∀ now l src m, ¬cx.answers now l src m
  refuses : ∀ now l src m, ¬cx.refuses now l src m

theorem Ctx.idle_silent : Ctx.idle.Silent := ⟨fun _ _ _ _ _ _ _ h => h, fun _ _ _ _ h => h, fun _ _ _ _ h => h⟩

theorem SelectWhy.again_of_silent {cx : Ctx} {a : Agent} {id : Nat} (hs : cx.Silent) (h : SelectWhy cx a id) :
    a.selected = some id := by
  cases h with
  | again h => exact h
  | ctl _ _ _ _ _ _ _ _ hv => exact absurd hv (hs.validates _ _ _ _ _ _ _)
  | deferred _ _ _ _ _ _ _ hv => exact absurd hv (hs.validates _ _ _ _ _ _ _)
  | nominated _ _ _ _ _ ha => exact absurd ha (hs.answers _ _ _ _)

/-- the updates of one pair (`a`: the agent at that moment) -/
inductive PairUpd (cx : Ctx) (a : Agent) (id : Nat) : (Pair → Pair) → Prop
  /-- the controlling selector nominates the best valid pair -/
  | nominated : PairUpd cx a id fun p => { p with nominated := true }
  | respSent : PairUpd cx a id fun p => { p with respSent := p.respSent + 1 }
  /-- `pingAllCandidates`, `keepAliveCandidatesForRenomination`: a waiting pair is about to be checked -/
  | inProgress : Lists a id (·.state = .waiting) → cx.may .tick → PairUpd cx a id fun q => { q with state := .inProgress }
  /-- `pingAllCandidates`: the request budget is used up -/
  | failed : Lists a id (fun p => p.state = .inProgress ∧ p.reqCount > a.cfg.maxBindingRequests) → cx.may .tick →
      PairUpd cx a id fun p => { p with state := .failed }
  /-- `pingAllCandidates`: the check has just been sent -/
  | reqCount : cx.may .tick → PairUpd cx a id fun p => { p with reqCount := p.reqCount + 1 }
  /-- `handleSuccess`, right after the transaction was taken: `p` is the pair of (`l`, `r`) now as when the response
  arrived -/
  | succeeded (now : Nat) (l r : Cand) (src : Nat) (m : Msg) (pd : Pending) (p : Pair) :
      cx.validates now l r src m pd p → id = p.id → a.findPair l r = some p → PairUpd cx a id fun p =>
      { p with state := .succeeded, gResp := true, gRespUC := p.gRespUC || pd.useCand }
  /-- `handleSuccess`: the controlled selector has decided on the nomination it had deferred — the pair is selected, or
  stays as it is — and forgets it -/
  | undefer (now : Nat) (l r : Cand) (src : Nat) (m : Msg) (pd : Pending) (p : Pair) : cx.validates now l r src m pd p →
      cx.may .select → PairUpd cx a id fun p => { p with nomOnSuccess := false, deferredNom := none }
  | gotResponse (now ts : Nat) : PairUpd cx a id (Pair.gotResponse now ts)
  | countReq (m : Msg) : PairUpd cx a id (countReq m)
  /-- a lite agent takes the pair of a nominating request for valid -/
  | liteValid (now : Nat) (l : Cand) (src : Nat) (m : Msg) : a.cfg.lite = true → cx.answers now l src m → cx.may .select →
      (cx.roles → NomSeen a id) → PairUpd cx a id fun p => { p with state := .succeeded }
  /-- the controlled selector remembers the nomination (and its value) of a request on a pair that is not valid yet -/
  | defer (now : Nat) (l : Cand) (src : Nat) (m : Msg) : cx.answers now l src m → cx.may .select →
      (cx.roles → NomSeen a id) → PairUpd cx a id fun p => { p with nomOnSuccess := true, deferredNom := m.nom }
  /-- `replaceRemoteInPairs`: the pair `p` of the superseded candidate `old` goes over to `c`, which has the same
  address, and keeps its priority; both candidates are listed while this runs -/
  | retarget (old c : Cand) (p : Pair) : cx.may .remotes → a.pairById id = some p → p.r = old.uid →
      (cx.strict → old ∈ a.remotes ∧ c ∈ a.remotes ∧ old.addr = c.addr) →
      PairUpd cx a id fun q => { q with r := c.uid, prioOverride := some (a.pairPrio p) }
  | sent (len : Nat) : cx.may .data → PairUpd cx a id fun p => { p with pktSent := p.pktSent + 1, bytesSent := p.bytesSent + len }
  | received (len : Nat) : cx.may .data →
      PairUpd cx a id fun p => { p with pktRecv := p.pktRecv + 1, bytesRecv := p.bytesRecv + len }

inductive Move (cx : Ctx) (a : Agent) : Agent × List Out → Prop
  -- pairs
  | pair (id : Nat) (f : Pair → Pair) : PairUpd cx a id f → Move cx a (a.modPair id f, [])
  | addPair (l r : Cand) : (cx.strict → Pairs cx a l r) → Move cx a ((a.addPair l r).1, [])
  -- connection state, selection
  | connState (s : ConnState) : a.connState ≠ s → s ≠ .failed → StateWhy cx a s →
      Move cx a ({ a with connState := s }, [.cbState s])
  /-- Failed: candidates, pairs, transactions and the selection go in the same update -/
  | failed : a.connState ≠ .failed → StateWhy cx a .failed → Move cx a ({ a.wipe with connState := .failed }, [.cbState .failed])
  /-- `setSelectedPair`: the pair is marked nominated and selected, the state becomes Connected, the pair is reported —
  one move, as there is no state in between -/
  | select (id : Nat) : SelectWhy cx a id → cx.may .select → Move cx a (a.select id)
  | nominatedPair (id : Nat) : Move cx a ({ a with nominatedPair := some id }, [])
  /-- the controlling selector, on the success response to a nominating request, right before it selects the pair: `v`
  is the greatest nomination value answered from now on (the decision is in `SelectWhy.ctl`) -/
  | answered (v : Option Nat) : cx.may .accept → Move cx a ({ a with answeredNomination := v }, [])
  /-- the controlled selector proceeds with a request: `shouldAcceptNomination` has accepted its nomination value, if it
  carries one -/
  | lastNomination (now : Nat) (l : Cand) (src : Nat) (m : Msg) : cx.answers now l src m → cx.may .accept →
      Move cx a ({ a with lastNomination := (shouldAcceptNomination m.nom a.lastNomination).1 }, [])
  -- transactions
  | request (now : Nat) (l r : Cand) (uc : Bool) : (cx.strict → Sends a l r) → (cx.roles → uc = true → Nominating a) →
      Move cx a (a.sendRequest now l r uc none)
  /-- a nomination with its entry in the ghost log (`RenominateCandidate`, the automatic check).  It is a request
  (`tick` or `renom`) and an entry in the log (`auto` or `renom`): a context excludes it by either. -/
  | issue (now : Nat) (l r : Cand) (v : Nat) : cx.may .tick ∨ cx.may .renom → Listed a.locals l → Listed a.remotes r →
      a.controlling = true → cx.may .auto ∨ cx.may .renom → a.cfg.enableRenomination = true →
      Move cx a ({ (a.sendRequest now l r true (if v > 0 then some v else none)).1 with
          nomIssued := (a.sendRequest now l r true (if v > 0 then some v else none)).1.nomIssued ++ [(v, l.addr, r.addr)] },
        (a.sendRequest now l r true (if v > 0 then some v else none)).2)
  | expire (now : Nat) : Move cx a (a.invalidatePending now, [])
  | take (tid : Nat) : Move cx a ({ a with pending := a.pending.filter (·.tid != tid) }, [])
  -- candidates
  | seenLocalSent (uid now : Nat) : Move cx a (a.seenLocalSent uid now, [])
  | seenRemoteRecv (uid now : Nat) : Move cx a (a.seenRemoteRecv uid now, [])
  /-- `c`: the candidate as it arrives; the agent is not closed -/
  | newLocal (c : Cand) : cx.addsLocal c → a.closed = false → cx.may .locals →
      Move cx a ({ a with nextUid := a.nextUid + 1, locals := a.locals ++ [{ c with uid := a.nextUid }] }, [])
  /-- `c`: the candidate as it arrives; it is listed as `adopted a c` -/
  | newRemote (c : Cand) : cx.addsRemote c → cx.may .remotes →
      Move cx a ({ a with nextUid := a.nextUid + 1, remotes := a.remotes ++ [adopted a c] }, [])
  /-- the superseded candidates `old` — peer-reflexive ones — are dropped -/
  | dropRemotes (old : List Cand) : cx.may .remotes →
      Move cx a ({ a with remotes := a.remotes.filter fun e => !(old.any fun x => x.uid == e.uid) }, [])
  /-- the cache entries of a superseded remote candidate go over to the candidate that supersedes it -/
  | recache (old new : Nat) : cx.may .remotes →
      Move cx a ({ a with caches := a.caches.map fun x => if x.2.2 == old then (x.1, x.2.1, new) else x }, [])
  /-- a source `src` of data on the local candidate `l`, validated for the first time: it is the remote candidate `r` -/
  | cache (l r : Cand) (src : Nat) : a.findRemote l.net src = some r → (cx.strict → l ∈ a.locals) → cx.may .data →
      Move cx a ({ a with caches := a.caches ++ [(l.uid, src, r.uid)] }, [])
  -- the connectivity-check timer
  | sawState : cx.may .tick → cx.may .timer → Move cx a ({ a with lastSeen := a.connState }, [])
  | checkingStart (now : Nat) : cx.may .tick → cx.may .timer → Move cx a ({ a with checkingStart := now }, [])
  /-- set by `requestConnectivityCheck`, cleared by the tick it forces -/
  | forcePending (b : Bool) : cx.may .forced → Move cx a ({ a with forcePending := b }, [])
  | nextTick (t : Nat) : cx.may .tick → cx.may .timer → Move cx a ({ a with nextTick := some t }, [])
  | armChecks : cx.may .session → Move cx a
      ({ a.requestCheck with lastSeen := .unknown, checkingStart := 0, checkingTimeout := a.initialCheckingTimeout }, [])
  -- automatic renomination
  | renomTime (now : Nat) : cx.may .tick → cx.may .auto → Move cx a ({ a with lastRenomTime := some now }, [])
  /-- a nomination value is drawn: only a controlling agent with renomination enabled does that -/
  | nomCounter : cx.may .tick → cx.may .auto → a.controlling = true → a.cfg.enableRenomination = true →
      Move cx a ({ a with nomCounter := a.nomCounter + 1 }, [])
  -- data plane
  | bytesSent (len : Nat) : cx.may .data → Move cx a ({ a with connBytesSent := a.connBytesSent + len }, [])
  | queue (len : Nat) : cx.may .data → Move cx a ({ a with rx := a.rx ++ [len] }, [])
  /-- `Read`: the queue loses its head (`rest` is what is left), `k` bytes of it are handed over -/
  | read (rest : List Nat) (k : Nat) : cx.may .data → cx.may .read →
      Move cx a ({ a with rx := rest, connBytesRecv := a.connBytesRecv + k }, [])
  -- role, credentials, session
  /-- `handleRoleConflict`, where the agent gives way -/
  | switch (now : Nat) (l : Cand) (src : Nat) (m : Msg) : cx.refuses now l src m → cx.may .role →
      Move cx a (({ a with controlling := !a.controlling } : Agent).resetSelector now, [])
  | start (now : Nat) (ctl : Bool) (ru rp : String) : cx.may .session →
      Move cx a (({ a with controlling := ctl, remoteUfrag := ru, remotePwd := rp, started := true } : Agent).resetSelector now, [])
  | creds (ru rp : String) : cx.may .session → Move cx a ({ a with remoteUfrag := ru, remotePwd := rp }, [])
  /-- `Restart`: new local credentials, everything learnt is dropped, and the state, unless it is New, becomes Checking
  — one move, as the selection must not be seen to go before the state does -/
  | restart (now : Nat) (x p : String) : cx.may .session → Move cx a (a.doRestart now x p)
  | close : cx.may .session → Move cx a ({ a with locals := [], remotes := [], caches := [], closed := true }, [])
  -- outputs
  | res (s : String) : Move cx a (a, [.res s])
  | cbCand (x : Nat) : cx.may .locals → Move cx a (a, [.cbCand x])
  | data (f t len : Nat) : cx.may .data → Move cx a (a, [.data f t len])
  /-- the success response to the request being handled -/
  | answer (f t now : Nat) (l : Cand) (src : Nat) (m : Msg) : cx.answers now l src m → f = l.addr → (cx.strict → t = src) →
      Move cx a (a, [.dgram f t { cls := 2, tid := m.tid, key := some a.localPwd }])
  /-- the 487 answer to a role conflict -/
  | refuse (f t now : Nat) (l : Cand) (src : Nat) (m : Msg) : cx.refuses now l src m →
      Move cx a (a, [.dgram f t { cls := 3, tid := m.tid, key := some a.localPwd, errCode := some 487 }])

inductive Chain (cx : Ctx) : Agent → Agent × List Out → Prop
  | nil (a : Agent) : Chain cx a (a, [])
  | move {a : Agent} {r : Agent × List Out} : Move cx a r → Chain cx a r
  | seq {a : Agent} {r1 r2 : Agent × List Out} : Chain cx a r1 → Chain cx r1.1 r2 → Chain cx a (r2.1, r1.2 ++ r2.2)

theorem Chain.ind {cx : Ctx} {R : Agent → Agent × List Out → Prop} (nil : ∀ a, R a (a, []))
    (move : ∀ a r, Move cx a r → R a r)
    (seq : ∀ {a : Agent} {r1 r2 : Agent × List Out}, R a r1 → R r1.1 r2 → R a (r2.1, r1.2 ++ r2.2))
    {a : Agent} {r : Agent × List Out} (h : Chain cx a r) : R a r := by
  induction h with
  | nil a => exact nil a
  | move h => exact move _ _ h
  | seq _ _ ih1 ih2 => exact seq ih1 ih2

namespace Chain
variable {cx : Ctx}

/-! The combinators the `Chain.<helper>` proofs are written in: `h.to m` appends a silent move, `h.then0 h2` a silent
chain, `h.out m` a move that only reports; `pre h0 h` and `pre1 m h` put a silent chain, a silent move, in front. -/

theorem to {a b c : Agent} {o : List Out} (h : Chain cx a (b, o)) (m : Move cx b (c, [])) : Chain cx a (c, o) := by
  have := seq h (move m)
  rwa [List.append_nil] at this

theorem then0 {a b c : Agent} {o : List Out} (h : Chain cx a (b, o)) (h2 : Chain cx b (c, [])) : Chain cx a (c, o) := by
  have := seq h h2
  rwa [List.append_nil] at this

theorem pre {a b : Agent} {r : Agent × List Out} (h0 : Chain cx a (b, [])) (h : Chain cx b r) : Chain cx a r := seq h0 h

theorem pre1 {a b : Agent} {r : Agent × List Out} (m : Move cx a (b, [])) (h : Chain cx b r) : Chain cx a r := seq (move m) h

theorem out {a b : Agent} {o o' : List Out} (h : Chain cx a (b, o)) (m : Move cx b (b, o')) : Chain cx a (b, o ++ o') :=
  seq h (move m)

theorem _root_.IceProofs.Agent.Move.cands {a : Agent} {r : Agent × List Out} (hl : ¬cx.may .locals) (hr : ¬cx.may .remotes)
    (h : Move cx a r) :
    SameCands a r.1 ∨ (r.1.locals = [] ∧ r.1.remotes = []) ∧ (cx.may .tick ∨ cx.may .session) := by
  have req : ∀ now l r uc nom, SameCands a (a.sendRequest now l r uc nom).1 := fun now l r uc nom => by
    rw [sendRequest_fst_eq]
    exact ⟨updCand_bare _ _ _ fun _ => rfl, rfl⟩
  cases h with
  | seenLocalSent uid now => exact .inl ⟨updCand_bare _ _ _ fun _ => rfl, rfl⟩
  | seenRemoteRecv uid now => exact .inl ⟨rfl, updCand_bare _ _ _ fun _ => rfl⟩
  | request now l r uc => exact .inl (req now l r uc none)
  | issue now l r v => exact .inl (req now l r true _)
  | select id => rw [select_update]; exact .inl ⟨rfl, rfl⟩
  | failed _ hw => exact .inr ⟨⟨rfl, rfl⟩, .inl hw.failed_tick⟩
  | restart _ _ _ h => rw [doRestart_update]; exact .inr ⟨⟨rfl, rfl⟩, .inr h⟩
  | close h => exact .inr ⟨⟨rfl, rfl⟩, .inr h⟩
  | newLocal _ _ _ h => exact absurd h hl
  | newRemote _ _ h => exact absurd h hr
  | dropRemotes _ h => exact absurd h hr
  | _ => exact .inl ⟨rfl, rfl⟩

theorem _root_.IceProofs.Agent.Move.sameCands {a : Agent} {r : Agent × List Out}
    (hk : ∀ k, cx.may k → k = .select ∨ k = .data ∨ k = .renom ∨ k = .role) (h : Move cx a r) : SameCands a r.1 :=
  (Move.cands (fun h => absurd (hk _ h) (by decide)) (fun h => absurd (hk _ h) (by decide)) h).resolve_right
    fun ⟨_, hw⟩ => hw.elim (fun h => absurd (hk _ h) (by decide)) fun h => absurd (hk _ h) (by decide)

theorem sameCands {a : Agent} {r : Agent × List Out} (hk : ∀ k, cx.may k → k = .select ∨ k = .data ∨ k = .renom ∨ k = .role)
    (h : Chain cx a r) : SameCands a r.1 :=
  ind SameCands.refl (fun _ _ => Move.sameCands hk) (fun h1 h2 => h1.trans h2) h

theorem setConnState (a : Agent) (s : ConnState) (hw : StateWhy cx a s) : Chain cx a (a.setConnState s) := by
  unfold Agent.setConnState
  split
  · exact nil a
  · rename_i h
    have hne : a.connState ≠ s := by simpa using h
    split
    · rename_i hf
      have hf : s = .failed := by simpa using hf
      subst hf
      exact move (.failed hne hw)
    · rename_i hf
      exact move (.connState s hne (by simpa using hf) hw)

theorem select (a : Agent) (id : Nat) (hw : SelectWhy cx a id) (hs : cx.may .select) : Chain cx a (a.select id) :=
  move (.select id hw hs)

theorem ping (a : Agent) (now : Nat) (l r : Cand) (h : cx.strict → Sends a l r) : Chain cx a (a.ping now l r) :=
  move (.request now l r false h nofun)

theorem pingOf (a : Agent) (now : Nat) {p : Pair} {l r : Cand} (hl : a.localOf p.l = some l) (hr : a.remoteOf p.r = some r) :
    Chain cx a (a.ping now l r) :=
  ping a now l r fun _ => ⟨.of_mem (findCand_listed hl).1, .of_mem (findCand_listed hr).1⟩

theorem nominate (a : Agent) (now : Nat) (p : Pair) (hc : cx.roles → Nominating a) :
    Chain cx a (a.nominate now p) := by
  unfold Agent.nominate
  split
  · rename_i l r hl hr
    exact move (.request now _ _ true (fun _ => ⟨.of_mem (findCand_listed hl).1, .of_mem (findCand_listed hr).1⟩)
      fun hx _ => hc hx)
  · exact nil a

theorem sendSuccess (a : Agent) (now : Nat) (m : Msg) (l r : Cand) {src : Nat} (hm : cx.answers now l src m)
    (hsrc : cx.strict → r.addr = src) : Chain cx a (a.sendSuccess now m l r) := by
  unfold Agent.sendSuccess
  dsimp only
  split
  · exact pre1 (.pair _ _ .respSent) (pre1 (.seenLocalSent l.uid now) (move (.answer _ _ now l _ m hm rfl hsrc)))
  · exact pre1 (.seenLocalSent l.uid now) (move (.answer _ _ now l _ m hm rfl hsrc))

theorem validateSelected (a : Agent) (now : Nat) (ht : cx.may .tick := by trivial) :
    Chain cx a ((a.validateSelected now).1, (a.validateSelected now).2.1) := by
  unfold Agent.validateSelected
  split
  · exact nil a
  · rename_i p hp
    exact setConnState a _ (.validate now p ht hp rfl)

theorem keepalive (a : Agent) (now : Nat) : Chain cx a (a.keepalive now) := by
  unfold Agent.keepalive
  split
  · exact nil a
  · split
    · split
      · rename_i hl hr
        exact pingOf a now hl hr
      · exact nil a
    · exact nil a

theorem pingAll (a : Agent) (now : Nat) (ht : cx.may .tick := by trivial) : Chain cx a (a.pingAll now) :=
  pingAll_steps (P := Chain cx a) a now (nil a) (fun _ _ id p h hp hw => h.to (.pair id _ (.inProgress ⟨p, hp, hw⟩ ht)))
    (fun _ _ id p h hp hs hc => h.to (.pair id _ (.failed ⟨p, hp, hs, hc⟩ ht))) fun b o id _ _ _ h _ _ _ hl hr =>
    (seq (r1 := (b, o)) h (pingOf b now hl hr)).to (.pair id _ (.reqCount ht))

theorem autoRenom (a : Agent) (now : Nat) (ht : cx.may .tick := by trivial) (hau : cx.may .auto := by trivial) :
    Chain cx a (a.autoRenom now) := by
  refine IceProofs.Auto.autoRenom_steps (P := Chain cx a) ?_ a (nil a)
  exact {
    mark := fun _ _ id p h hp hw => h.to (.pair id _ (.inProgress ⟨p, hp, hw⟩ ht))
    ping := fun b o l r h hl hr => seq (r1 := (b, o)) h (ping b now l r fun _ => ⟨.of_mem hl, .of_mem hr⟩)
    time := fun _ _ h => h.to (.renomTime now ht hau)
    count := fun _ _ h hc he => h.to (.nomCounter ht hau hc he)
    issue := fun b o l r v h hl hr hc he _ =>
      seq (r1 := (b, o)) h (move (.issue now l r v (.inl ht) (.of_mem hl) (.of_mem hr) hc (.inl hau) he)) }

theorem contactCandidates (a : Agent) (now : Nat) (ht : cx.may .tick := by trivial) (hau : cx.may .auto := by trivial) :
    Chain cx a (a.contactCandidates now) := by
  refine contactCandidates_why (Q := Chain cx a) a now (fun auto _ _ => ?_)
    (fun p hc hs _ => nominate a now p fun _ => ⟨hc, by simpa using hs⟩) (nil a)
    (fun p l r hc hs hn hb hl hr hnom =>
      have hs : a.selected = none := by simpa using hs
      pre1 (.pair p.id _ .nominated)
        (pre1 (.nominatedPair p.id) (nominate _ now p fun _ => ⟨hc, hs⟩)))
    (fun _ => pingAll a now ht) (fun _ => validateSelected a now ht)
  have hk := seq (cx := cx) (validateSelected a now ht) (keepalive _ now)
  exact validateKeepalive_rule (Q := Chain cx a) a now auto (validateSelected a now ht) (fun _ => hk)
    fun _ => seq hk (autoRenom _ now ht hau)

theorem contact (a : Agent) (now : Nat) (ht : cx.may .tick := by trivial) (htm : cx.may .timer := by trivial)
    (hau : cx.may .auto := by trivial) : Chain cx a (a.contact now) := by
  have hf : ∀ x : Agent × List Out, Chain cx a x → Chain cx a (C03.finish x) := fun x h => to (b := x.1) (o := x.2) h (.sawState ht htm)
  have hc : ∀ x : Agent × List Out, Chain cx (C03.chk a now) x → Chain cx a x := fun x h => by
    unfold C03.chk at h
    split at h
    · exact pre1 (.checkingStart now ht htm) h
    · exact h
  rw [C03.contact_eq]
  split
  · exact nil a
  · split
    · exact hf _ (nil a)
    · rename_i hck
      have hck' : (C03.chk a now).connState = .checking := by
        unfold C03.chk
        split <;> exact hck
      split
      · rename_i hd
        exact hf _ (hc _ (setConnState _ _ (.deadline now ht hck' hd rfl)))
      · exact hf _ (hc _ (contactCandidates _ now ht hau))
    · exact hf _ (contactCandidates a now ht hau)

theorem runForced (a : Agent) (now : Nat) (ht : cx.may .tick := by trivial) (htm : cx.may .timer := by trivial)
    (hau : cx.may .auto := by trivial) (hfo : cx.may .forced := by trivial) : Chain cx a (a.runForced now) :=
  runForced_rule (Q := Chain cx a) a now (nil a) fun _ _ =>
    to (b := (({ a with forcePending := false } : Agent).contact now).1)
      (pre1 (.forcePending false hfo) (contact _ now ht htm hau)) (.nextTick _ ht htm)

theorem runTimers (a : Agent) (now fuel : Nat) (ht : cx.may .tick := by trivial) (htm : cx.may .timer := by trivial)
    (hau : cx.may .auto := by trivial) : Chain cx a (a.runTimers now fuel) :=
  runTimers_ind (Q := fun a x => Chain cx a x) now nil
    (fun b t _ _ _ _ h =>
      seq (r1 := ({ (b.contact t).1 with nextTick := some (t + (b.contact t).1.interval) }, (b.contact t).2))
        (to (b := (b.contact t).1) (contact b t ht htm hau) (.nextTick _ ht htm)) h) fuel a

theorem thenForced {a : Agent} {r : Agent × List Out} (h : Chain cx a r) (now : Nat) (ht : cx.may .tick := by trivial)
    (htm : cx.may .timer := by trivial) (hau : cx.may .auto := by trivial) (hfo : cx.may .forced := by trivial) :
    Chain cx a (IceProofs.Agent.thenForced r now) :=
  seq h (runForced r.1 now ht htm hau hfo)

theorem replaceRemoteInPairs (a : Agent) (old c : Cand) (ho : cx.strict → old ∈ a.remotes ∧ c ∈ a.remotes ∧ old.addr = c.addr)
    (hr : cx.may .remotes := by trivial) (hs : cx.may .select := by trivial) :
    Chain cx a (a.replaceRemoteInPairs old c) := by
  unfold Agent.replaceRemoteInPairs
  refine (IceProofs.List.foldl_inv (fun x : Agent × List Out => Chain cx a x ∧ x.1.remotes = a.remotes) _ _ _
    ⟨nil a, rfl⟩ ?_).1
  rintro ⟨b, o⟩ id ⟨h, hb⟩
  dsimp only at hb ⊢
  split
  · rename_i p hp
    split
    · rename_i hpr
      have h1 := h.to (.pair id _ (.retarget old c p hr hp (by simpa using hpr) (hb ▸ ho)))
      split
      · rename_i hsel
        exact ⟨seq (r1 := (_, o)) h1 (select _ id (.again (by simpa using hsel)) hs), by rw [select_update]; exact hb⟩
      · exact ⟨h1, hb⟩
    · exact ⟨h, hb⟩
  · exact ⟨h, hb⟩

theorem addRemoteCandidate (a : Agent) (c : Cand) (hadd : cx.addsRemote c) (hr : cx.may .remotes := by trivial)
    (hs : cx.may .select := by trivial) (hfo : cx.may .forced := by trivial) :
    Chain cx a ((a.addRemoteCandidate c).1, (a.addRemoteCandidate c).2.1) := by
  rw [addRemoteCandidate_stages]
  split
  · exact nil a
  · split
    · exact nil a
    · have h1 : Chain cx a ({ a with nextUid := a.nextUid + 1, remotes := a.remotes ++ [adopted a c] }, []) :=
        move (.newRemote c hadd hr)
      -- the pairs and the cache go over to the new candidate while the superseded ones are still listed; through both loops
      -- the candidate lists and the uid counter stay as `newRemote` left them, which is what `retarget` (both candidates
      -- listed) and, after the drop, `addPair` (the remote candidate is the one just created) ask for
      have h2 := supersede_rule (P := fun x => Chain cx a x ∧ x.1.locals = a.locals ∧
          x.1.remotes = a.remotes ++ [adopted a c] ∧ x.1.nextUid = a.nextUid + 1)
        _ (superseded a { c with uid := a.nextUid }) (adopted a c) ⟨h1, rfl, rfl, rfl⟩
        (fun b o old ho ⟨h, hl, hb, hn⟩ =>
          have hf := replaceRemoteInPairs_cands b old (adopted a c)
          ⟨seq (r1 := (b, o)) h (replaceRemoteInPairs b old _ (fun _ => ⟨hb ▸ List.mem_append_left _ (mem_superseded ho).1,
              hb ▸ List.mem_append_right _ List.mem_cons_self,
              (mem_superseded ho).2.2.2.1.trans (congrArg Cand.addr (adopted_bare a c)).symm⟩) hr hs),
            hf.1.trans hl, hf.2.1.trans hb, hf.2.2.trans hn⟩)
        (fun _ _ old _ ⟨h, hb⟩ => ⟨h.to (.recache old.uid _ hr), hb⟩)
      show Chain cx a ((pairUp { (supersede { a with nextUid := a.nextUid + 1, remotes := a.remotes ++ [adopted a c] }
          (superseded a { c with uid := a.nextUid }) (adopted a c)).1 with
        remotes := (supersede { a with nextUid := a.nextUid + 1, remotes := a.remotes ++ [adopted a c] }
          (superseded a { c with uid := a.nextUid }) (adopted a c)).1.remotes.filter fun e =>
            !((superseded a { c with uid := a.nextUid }).any fun x => x.uid == e.uid) } (adopted a c)).requestCheck,
        (supersede { a with nextUid := a.nextUid + 1, remotes := a.remotes ++ [adopted a c] }
          (superseded a { c with uid := a.nextUid }) (adopted a c)).2)
      generalize supersede _ _ _ = x at h2 ⊢
      obtain ⟨b2, o2⟩ := x
      obtain ⟨h2, hl2, _, hn2⟩ := h2
      have h3 := h2.to (.dropRemotes (superseded a { c with uid := a.nextUid }) hr)
      refine to (b := pairUp _ _) (pairUp_rule (P := fun x => Chain cx a x ∧ x.1.locals = a.locals ∧ x.1.nextUid = a.nextUid + 1)
        _ _ _ ⟨h3, hl2, hn2⟩ fun b o l hl hn _ _ ⟨h, hbl, hbn⟩ => ⟨h.to (.addPair l _ fun _ => ⟨.of_mem (hbl ▸ hl2 ▸ hl), .inr ⟨hr, ?_⟩⟩), hbl, hbn⟩).1
        (.forcePending true hfo)
      exact (congrArg (· + 1) (congrArg Cand.uid (adopted_bare a c))).trans hbn.symm

theorem addLocalCandidate (a : Agent) (c : Cand) (hadd : cx.addsLocal c) (hl : cx.may .locals := by trivial)
    (hfo : cx.may .forced := by trivial) :
    Chain cx a (a.addLocalCandidate c) := by
  unfold Agent.addLocalCandidate
  split
  · exact move (.res _)
  · rename_i hc
    split
    · exact move (.res _)
    · dsimp only
      refine out (out (o := []) (to (b := List.foldl _ _ _) ?_ (.forcePending true hfo)) (.cbCand _ hl)) (.res _)
      refine (foldl_inv_on (fun b : Agent => Chain cx a (b, []) ∧
          b.locals = a.locals ++ [{ c with uid := a.nextUid }] ∧ b.remotes = a.remotes) _ _ _
        ⟨move (.newLocal c hadd (by simpa using hc) hl), rfl, rfl⟩ fun b r hr ⟨h, hbl, hbr⟩ => ?_).1
      have hr := List.mem_filter.mp hr
      exact ⟨h.to (.addPair _ r fun _ => ⟨.of_mem (hbl ▸ List.mem_append_right _ List.mem_cons_self),
        .inl (.of_mem (hbr ▸ hr.1))⟩), hbl, hbr⟩

theorem takePending (a : Agent) (now tid : Nat) : Chain cx a ((a.takePending now tid).1, []) := by
  unfold Agent.takePending
  dsimp only
  split
  · exact pre1 (.expire now) (move (.take tid))
  · exact move (.expire now)

theorem _root_.IceProofs.Agent.takePending_findPair (a : Agent) (now tid : Nat) (l r : Cand) :
    (a.takePending now tid).1.findPair l r = a.findPair l r := by
  unfold Agent.takePending
  dsimp only
  split <;> rfl

theorem handleSuccess (a : Agent) (now : Nat) (m : Msg) (l r : Cand) (src : Nat)
    (hv : ∀ pd p, (a.takePending now m.tid).2 = some pd → (pd.net == l.net && pd.dest == src && pd.src == l.addr) = true →
      a.findPair l r = some p → cx.validates now l r src m pd p) (hs : cx.may .select := by trivial)
    (hac : cx.may .accept := by trivial) : Chain cx a (a.handleSuccess now m l r src) := by
  have h1 := takePending (cx := cx) a now m.tid
  refine handleSuccess_sym_rule (Q := Chain cx a) a now m l r src h1 fun pd p hpd hsym hp => ?_
  have hv := hv pd p hpd hsym (IceProofs.Agent.takePending_findPair a now m.tid l r ▸ hp)
  have h2 := h1.to (.pair p.id _ (.succeeded now l r src m pd p hv rfl hp))
  have hmem := List.mem_of_find?_eq_some hp
  have hval : Lists ((a.takePending now m.tid).1.modPair p.id fun p =>
      { p with state := .succeeded, gResp := true, gRespUC := p.gRespUC || pd.useCand }) p.id (·.state = .succeeded) :=
    let ⟨q, hq⟩ := pairById_of_mem hmem
    Lists.modPair (P := fun _ => True) ⟨q, hq, trivial⟩ _ (fun _ => rfl) fun _ _ => rfl
  have hmark := mem_modPair_of_mem hmem fun p => { p with state := .succeeded, gResp := true, gRespUC := p.gRespUC || pd.useCand }
  refine successDecide_why (Q := fun x => Chain cx a (x.1.modPair p.id (Pair.gotResponse now pd.ts), x.2)) _ pd p
    (h2.to (.pair _ _ (.gotResponse _ _))) (fun hc v hd => ?_) (fun hc hn ao hao => ?_)
  · exact to (b := (Agent.select _ p.id).1)
      (seq h2 (pre1 (.answered v hac) (select _ p.id (.ctl now l r src m pd p _ hv rfl hc hd hval hmark) hs))) (.pair _ _ (.gotResponse _ _))
  · rcases hao with ⟨rfl, hd⟩ | rfl
    · exact to (to (b := (Agent.select _ p.id).1) (seq h2 (select _ p.id (.deferred now l r src m pd p hv rfl hc hn hd hval hmark) hs))
        (.pair _ _ (.undefer now l r src m pd p hv hs))) (.pair _ _ (.gotResponse _ _))
    · exact to (h2.to (.pair _ _ (.undefer now l r src m pd p hv hs))) (.pair _ _ (.gotResponse _ _))

theorem cldNominate (a : Agent) (m : Msg) (id : Nat) {now : Nat} {l : Cand} {src : Nat} (hm : cx.answers now l src m)
    (hg : cx.roles → a.controlling = false ∧ ((m.useCand || m.nom.isSome) = true → NomSeen a id))
    (hs : cx.may .select := by trivial) : Chain cx a (cldNominate a m id) := by
  have hb : (m.useCand || m.nom.isSome) = true → ∀ b, LiteMarked a id b →
      Chain cx a (b, []) ∧ (cx.roles → b.controlling = false ∧ NomSeen b id) := by
    rintro hn b (rfl | ⟨hl, rfl⟩)
    · exact ⟨nil _, fun hx => ⟨(hg hx).1, (hg hx).2 hn⟩⟩
    · refine ⟨move (.pair id _ (.liteValid now l src m hl hm hs fun hx => (hg hx).2 hn)), fun hx => ⟨(hg hx).1, fun q hq hid => ?_⟩⟩
      obtain ⟨p, hp, ⟨_, rfl⟩ | ⟨_, rfl⟩⟩ := mem_modPair hq
      · exact (hg hx).2 hn p hp hid
      · exact (hg hx).2 hn q hp hid
  exact cldNominate_why (Q := Chain cx a) a m id (fun _ => nil a) (fun hn b h => (hb hn b h).1)
    (fun b h hn p hp hv hsw => pre (hb hn b h).1 (select b id (.nominated now l src m p hm hn hp hv hsw (hb hn b h).2) hs))
    fun b h hn _ _ _ => (hb hn b h).1.to (.pair id _ (.defer now l src m hm hs fun hx => ((hb hn b h).2 hx).2))

theorem _root_.IceProofs.Agent.Resolved.of_same {a b : Agent} {l r : Cand} {src : Nat} (h : Resolved a l r src)
    (hs : SameCands a b) : Resolved b l r src :=
  ⟨h.loc.of_map hs.1, h.rem.of_map hs.2, h.net, h.src⟩

theorem cldProceed (a : Agent) (now : Nat) (m : Msg) (l r : Cand) (id : Nat) {src : Nat} (hm : cx.answers now l src m)
    (hres : cx.strict → Resolved a l r src)
    (hg : cx.roles → a.controlling = false ∧ ((m.useCand || m.nom.isSome) = true → NomSeen a id))
    (hs : cx.may .select := by trivial) : Chain cx a (cldProceed a now m l r id) := by
  have hsrc := fun hx => (hres hx).src
  refine cldProceed_rule (Q := Chain cx a) a now m l r id ?_ ?_
  · rintro n s rfl rfl
    exact seq (cldNominate a m id hm hg hs) (sendSuccess _ now m l r hm hsrc)
  · rintro n s rfl rfl
    -- the candidates are still listed when the triggered check goes out
    have hsame := sameCands (cx := .only (· = .select)) (fun _ h => .inl h)
      (seq (cldNominate a m id (now := now) (l := l) (src := src) trivial nofun rfl)
        (sendSuccess _ now m l r (src := src) trivial nofun))
    exact seq (seq (cldNominate a m id hm hg hs) (sendSuccess _ now m l r hm hsrc))
      (ping _ now l r fun hx => ⟨((hres hx).of_same hsame).loc, ((hres hx).of_same hsame).rem⟩)

theorem ensurePair (a : Agent) (l r : Cand) (hp : cx.strict → Pairs cx a l r) : Chain cx a ((ensurePair a l r).1, []) :=
  ensurePair_rule (Q := fun x => Chain cx a (x.1, [])) a l r (fun _ _ => nil a) fun _ => move (.addPair l r hp)

theorem cldHandleRequest (a : Agent) (now : Nat) (m : Msg) (l r : Cand) {src : Nat} (hm : cx.answers now l src m)
    (hres : cx.strict → Resolved a l r src) (hc : cx.roles → a.controlling = false) (hs : cx.may .select := by trivial)
    (hac : cx.may .accept := by trivial) : Chain cx a (a.cldHandleRequest now m l r) := by
  have h1 := (ensurePair a l r fun hx => ⟨(hres hx).loc, .inl (hres hx).rem⟩).to
    (.pair (IceProofs.Agent.ensurePair a l r).2.id _ (.countReq m))
  have hsame := sameCands (fun _ h => .inl h)
    ((ensurePair (cx := .only (· = .select)) a l r nofun).to (.pair (IceProofs.Agent.ensurePair a l r).2.id _ (.countReq m)))
  have hc1 : cx.roles →
      ((IceProofs.Agent.ensurePair a l r).1.modPair (IceProofs.Agent.ensurePair a l r).2.id (countReq m)).controlling = false :=
    fun hx => (ensurePair_rule (Q := fun x => x.1.controlling = a.controlling) a l r (fun _ _ => rfl) fun _ => rfl).trans (hc hx)
  rw [cldHandleRequest_nf]
  dsimp only
  split
  · exact pre h1 (sendSuccess _ now m l r hm fun hx => (hres hx).src)
  · refine pre (h1.to (.lastNomination now l src m hm hac))
      (cldProceed _ now m l r _ hm (fun hx => (hres hx).of_same hsame) (fun hx => ⟨hc1 hx, fun hnom q hq hid => ?_⟩) hs)
    -- `countReq m` has marked every pair of that id
    obtain ⟨p, _, ⟨_, rfl⟩ | ⟨hne, rfl⟩⟩ := mem_modPair (a := (IceProofs.Agent.ensurePair a l r).1) hq
    · simp only [countReq, Bool.or_assoc, hnom, Bool.or_true]
    · exact absurd hid hne

theorem ctlHandleRequest (a : Agent) (now : Nat) (m : Msg) (l r : Cand) {src : Nat} (hm : cx.answers now l src m)
    (hres : cx.strict → Resolved a l r src) (hc : cx.roles → a.controlling = true) :
    Chain cx a (a.ctlHandleRequest now m l r) := by
  have hs := sendSuccess a now m l r hm fun hx => (hres hx).src
  have hsame := sameCands (cx := .only (· = .select)) (fun _ h => .inl h)
    (sendSuccess a now m l r (src := src) trivial nofun)
  have hc1 : cx.roles → (a.sendSuccess now m l r).1.controlling = true := fun hx => by
    unfold Agent.sendSuccess
    dsimp only
    split <;> exact hc hx
  refine ctlHandleRequest_rule (Q := Chain cx a) a now m l r ?_ ?_
  · generalize a.sendSuccess now m l r = s at hs hsame ⊢
    obtain ⟨b, o⟩ := s
    exact fun _ => (hs.to (.addPair l r fun hx =>
      ⟨((hres hx).of_same hsame).loc, .inl ((hres hx).of_same hsame).rem⟩)).to (.pair _ _ (.countReq m))
  · generalize a.sendSuccess now m l r = s at hs hc1 ⊢
    obtain ⟨b, o⟩ := s
    intro p _
    have hk : Chain cx a (b.modPair p.id (countReq m), o) := hs.to (.pair _ _ (.countReq m))
    exact ctlTail_rule (Q := Chain cx a) _ now l r p _ hk fun _ hnp hsel =>
      seq (r1 := (b.modPair p.id (countReq m), o)) hk
        (pre1 (.nominatedPair p.id) (nominate _ now p fun hx => ⟨hc1 hx, hsel⟩))

theorem resolveSource (a : Agent) (l : Cand) (src : Nat) (m : Msg)
    (hadd : a.findRemote l.net src = none → cx.addsRemote (prflxCand l src m)) (hr : cx.may .remotes := by trivial)
    (hs : cx.may .select := by trivial) (hfo : cx.may .forced := by trivial) :
    Chain cx a ((resolveSource a l src m).1, (resolveSource a l src m).2.1) := by
  rcases resolveSource_cases a l src m with ⟨r, _, he⟩ | ⟨hn, he⟩ <;> rw [he]
  · exact nil a
  · exact addRemoteCandidate a _ (hadd hn) hr hs hfo

theorem afterResolve {a a1 : Agent} {o0 : List Out} (hres : Chain cx a (a1, o0)) (now : Nat) (l : Cand) {src : Nat}
    (m : Msg) (r : Cand) (hm : roleConflict a1 m = none → cx.answers now l src m)
    (hr : ∀ tb, roleConflict a1 m = some tb → cx.refuses now l src m) (hrs : cx.strict → Resolved a1 l r src)
    (hs : cx.may .select := by trivial) (hro : cx.may .role := by trivial) (hac : cx.may .accept := by trivial) :
    Chain cx a (afterResolve a1 now l m o0 r) := by
  refine afterResolve_rule (Q := Chain cx a) a1 now l m o0 r (fun tb h _ => ?_)
    (fun tb h _ => hres.to (.switch now l src m (hr tb h) hro))
    fun hnc => toSelector_rule (Q := Chain cx a) a1 now l r m o0 (fun hc => ?_) (fun hc => ?_)
  · exact out (hres.to (.seenLocalSent l.uid now)) (.refuse _ _ now l _ m (hr tb h))
  · exact to (b := (a1.ctlHandleRequest now m l r).1)
      (seq hres (ctlHandleRequest a1 now m l r (hm hnc) hrs fun _ => hc)) (.seenRemoteRecv _ _)
  · exact to (b := (a1.cldHandleRequest now m l r).1)
      (seq hres (cldHandleRequest a1 now m l r (hm hnc) hrs (fun _ => hc) hs hac)) (.seenRemoteRecv _ _)

theorem handleInbound (a : Agent) (now : Nat) (l : Cand) (src : Nat) (m : Msg)
    (hm : AuthRequest a m → ∀ r, (IceProofs.Agent.resolveSource a l src m).2.2 = some r →
      roleConflict (IceProofs.Agent.resolveSource a l src m).1 m = none → cx.answers now l src m)
    (hr : AuthRequest a m → cx.refuses now l src m)
    (hv : ∀ r pd p, m.method = 1 → m.cls = 2 → m.key = some a.remotePwd → a.findRemote l.net src = some r →
      (a.takePending now m.tid).2 = some pd → (pd.net == l.net && pd.dest == src && pd.src == l.addr) = true →
      a.findPair l r = some p → cx.validates now l r src m pd p)
    (hadd : AuthRequest a m → a.findRemote l.net src = none → cx.addsRemote (prflxCand l src m))
    (hl : cx.strict → Listed a.locals l)
    (hrem : cx.may .remotes := by trivial) (hs : cx.may .select := by trivial) (hro : cx.may .role := by trivial)
    (hac : cx.may .accept := by trivial) (hfo : cx.may .forced := by trivial) :
    Chain cx a (a.handleInbound now l src m) := by
  -- `cx.validates` asks for the method, which `handleInbound_rule` does not hand over; any other method is dropped
  by_cases hmeth : m.method = 1
  · exact handleInbound_rule (Q := Chain cx a) a now l src m (nil a)
      (fun r hc hk hr => to (b := (a.handleSuccess now m l r src).1)
        (handleSuccess a now m l r src (fun pd p => hv r pd p hmeth hc hk hr) hs hac) (.seenRemoteRecv _ _))
      (fun _ _ => move (.seenRemoteRecv _ _)) (fun ha _ => resolveSource a l src m (hadd ha) hrem hs hfo)
      fun ha r hres =>
        have ⟨h1, h2, h3, h4⟩ := resolveSource_some hres
        afterResolve (resolveSource a l src m (hadd ha) hrem hs hfo) now l m r (hm ha r hres) (fun _ _ => hr ha)
          (fun hx => ⟨h4 ▸ hl hx, .of_mem h1, h2.symm, h3⟩) hs hro hac
  · rw [handleInbound_stages, if_pos (by simp [hmeth])]
    exact nil a

theorem writeVia (a : Agent) (now : Nat) (p : Pair) (len : Nat) (hd : cx.may .data := by trivial) :
    Chain cx a (a.writeVia now p len) := by
  unfold Agent.writeVia
  split
  · dsimp only
    split
    · exact out (out (o := []) (pre1 (.seenLocalSent _ now) (move (.pair p.id _ (.sent len hd)))) (.data _ _ _ hd)) (.res _)
    · exact out (out (o := []) (move (.seenLocalSent _ now)) (.data _ _ _ hd)) (.res _)
  · exact move (.res _)

theorem write (a : Agent) (now len : Nat) (s : Bool) (hd : cx.may .data := by trivial) : Chain cx a (a.write now len s) :=
  write_rule (Q := Chain cx a) a now len s (fun _ => move (.res _))
    fun p _ _ _ => to (b := (a.writeVia now p len).1) (writeVia a now p len hd) (.bytesSent len hd)

theorem writeToPair (a : Agent) (now id len : Nat) (s : Bool) (hd : cx.may .data := by trivial) :
    Chain cx a (a.writeToPair now id len s) :=
  writeToPair_rule (Q := Chain cx a) a now id len s (fun _ => move (.res _)) fun p _ _ _ _ => writeVia a now p len hd

theorem enqueue (a : Agent) (len : Nat) (hd : cx.may .data := by trivial) : Chain cx a (a.enqueue len, []) := by
  unfold Agent.enqueue
  dsimp only
  split
  · split
    · exact pre1 (.queue len hd) (move (.pair _ _ (.received len hd)))
    · exact move (.queue len hd)
  · exact move (.queue len hd)

theorem inboundData (a : Agent) (now : Nat) (l : Cand) (src len : Nat) (hl : cx.strict → l ∈ a.locals)
    (hd : cx.may .data := by trivial) : Chain cx a (a.inboundData now l src len) := by
  have hs : ∀ b, dataSource a now l src = some b → Chain cx a (b, []) := by
    intro b hb
    unfold dataSource at hb
    split at hb
    · cases hb
      exact move (.seenRemoteRecv _ now)
    · split at hb
      · rename_i r hr
        cases hb
        exact pre1 (.cache l r src hr hl hd) (move (.seenRemoteRecv _ now))
      · cases hb
  exact inboundData_rule (Q := Chain cx a) a now l src len (fun _ => nil a) (fun b hb _ => hs b hb)
    fun b hb _ => then0 (hs b hb) (enqueue b len hd)

theorem doRestart (a : Agent) (now : Nat) (x p : String) (hs : cx.may .session := by trivial) :
    Chain cx a (a.doRestart now x p) :=
  move (.restart now x p hs)

theorem startCore (a : Agent) (now : Nat) (ctl : Bool) (ru rp : String) (hs : cx.may .session := by trivial) :
    Chain cx a (startCore a now ctl ru rp) := by
  unfold IceProofs.Agent.startCore
  have h := pre1 (cx := cx) (a := a) (.start now ctl ru rp hs) (setConnState (cx := cx) _ .checking (.checking hs rfl))
  generalize Agent.setConnState _ .checking = r at h ⊢
  exact out (to (b := r.1) h (.armChecks hs)) (.res "ok")

end Chain

theorem may_step {e e' : Ev} {a : Agent} (h : e' = e) {k : Kind} (hk : mayOf e' k) : (Ctx.step e a).may k := h ▸ hk

theorem step_chain (a : Agent) (e : Ev) : Chain (.step e a) a (step a e) :=
  step_rule (Q := fun e' x => e' = e → Chain (.step e a) a x) a
    (res := fun _ _ _ => .move (.res _))
    (nop := fun _ _ => .nil a)
    (addLocal := fun now c h =>
      have may : ∀ {k}, mayOf (.addLocal now c) k → (Ctx.step e a).may k := may_step h
      (Chain.addLocalCandidate (cx := .step e a) a c ⟨now, h.symm⟩ (may (by simp [mayOf])) (may (by simp [mayOf]))).thenForced now
        (may (by simp [mayOf])) (may (by simp [mayOf])) (may (by simp [mayOf])) (may (by simp [mayOf])))
    (addRemote := fun now c _ h =>
      have may : ∀ {k}, mayOf (.addRemote now c) k → (Ctx.step e a).may k := may_step h
      (Chain.addRemoteCandidate (cx := .step e a) a c (.inl ⟨now, h.symm⟩) (may (by simp [mayOf])) (may (by simp [mayOf]))
        (may (by simp [mayOf]))).thenForced now
        (may (by simp [mayOf])) (may (by simp [mayOf])) (may (by simp [mayOf])) (may (by simp [mayOf])))
    (start := fun now ctl ru rp _ _ h =>
      have may : ∀ {k}, mayOf (.start now ctl ru rp) k → (Ctx.step e a).may k := may_step h
      (Chain.startCore a now ctl ru rp (may (by simp [mayOf]))).thenForced now
        (may (by simp [mayOf])) (may (by simp [mayOf])) (may (by simp [mayOf])) (may (by simp [mayOf])))
    (creds := fun ru rp h => (Chain.move (.creds ru rp (may_step h (by simp [mayOf])))).out (.res "ok"))
    (advance := fun now h =>
      Chain.runTimers a now _ (may_step h (by simp [mayOf])) (may_step h (by simp [mayOf])) (may_step h (by simp [mayOf])))
    (inbound := fun now la src m l hc hs hl h =>
      have hm : Inbound e a now l src m := ⟨la, h.symm, hl, hs, hc⟩
      have may : ∀ {k}, mayOf (.inbound now la src m) k → (Ctx.step e a).may k := may_step h
      (Chain.handleInbound (cx := .step e a) a now l src m (fun ha _ _ _ => ⟨hm, ha⟩) (fun ha => ⟨hm, ha⟩)
        (fun _ _ _ h1 h2 h3 h4 h5 h6 h7 => ⟨hm, h1, h2, h3, h4, h5, h6, h7⟩)
        (fun ha hn => .inr ⟨now, l, src, m, hm, ha, hn, rfl⟩) (fun _ => .of_mem (List.mem_of_find?_eq_some hl))
        (may (by simp [mayOf])) (may (by simp [mayOf])) (may (by simp [mayOf])) (may (by simp [mayOf]))
        (may (by simp [mayOf]))).thenForced now
        (may (by simp [mayOf])) (may (by simp [mayOf])) (may (by simp [mayOf])) (may (by simp [mayOf])))
    (data := fun now _ src len _ l hl h =>
      Chain.inboundData a now l src len (fun _ => List.mem_of_find?_eq_some hl) (may_step h (by simp [mayOf])))
    (write := fun now len sl h => Chain.write a now len sl (may_step h (by simp [mayOf])))
    (writeToPair := fun now id len sl h => Chain.writeToPair a now id len sl (may_step h (by simp [mayOf])))
    (read := fun _ _ rest _ _ h =>
      (Chain.move (.read rest _ (may_step h (by simp [mayOf])) (may_step h (by simp [mayOf])))).out (.res _))
    (renominate := fun now _ _ v l r hc he hl hr _ h =>
      (Chain.move (.issue now l r v (.inr (may_step h (by simp [mayOf])))
        (.of_mem (List.mem_of_find?_eq_some hl)) (.of_mem (List.mem_of_getElem? hr)) hc
        (.inr (may_step h (by simp [mayOf]))) he)).out (.res "ok"))
    (restart := fun now u p _ h => (Chain.doRestart a now u p (may_step h (by simp [mayOf]))).out (.res "ok"))
    (close := fun _ h =>
      (Chain.pre1 (.close (may_step h (by simp [mayOf])))
        (Chain.setConnState _ .closed (.close (may_step h (by simp [mayOf])) rfl rfl))).out (.res "ok")) e rfl

end IceProofs.Agent

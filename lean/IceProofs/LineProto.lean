import IceSpec.LineProto
import Std.Data.String.ToNat
/-!
# Reading back what was printed: the reusable lemmas of the line protocol

`Nat` printing (`toString`) against `String.toNat?`, `joinC` against `splitC` over separator-free tokens, the one list
format (`sepList`), and the rules by which `simp` computes the characters of a printed token.
-/
namespace IceProofs.LineProto
open IceSpec.LineProto

theorem toNat?_toString (n : Nat) : (toString n).toNat? = some n := Nat.toNat?_repr n

theorem toString_ne_empty (n : Nat) : toString n ≠ "" := Nat.repr_ne_empty

theorem not_mem_toString (n : Nat) (c : Char) (hc : c.isDigit = false) : c ∉ (toString n).toList := by
  intro h
  have h' : c ∈ Nat.toDigits 10 n := by
    have : (toString n).toList = Nat.toDigits 10 n := Nat.toList_repr
    rwa [this] at h
  have := Nat.isDigit_of_mem_toDigits (by omega) (by omega) h'
  rw [hc] at this; cases this

theorem free_toString (n : Nat) (c : Char) (hc : c.isDigit = false) : free c (toString n) = true := by
  simp only [free, Bool.not_eq_true', List.contains_eq_mem, decide_eq_false_iff_not]
  exact not_mem_toString n c hc

theorem free_iff (c : Char) (s : String) : free c s = true ↔ c ∉ s.toList := by
  simp [free]

theorem splitC_joinC (c : Char) (l : List String) (hne : l ≠ []) (h : ∀ s ∈ l, c ∉ s.toList) :
    splitC (joinC c l) c = l := by
  unfold splitC joinC
  rw [String.toList_intercalate, String.toList_singleton, List.splitOn_intercalate]
  · simp [List.map_map]
  · intro x hx
    obtain ⟨s, hs, rfl⟩ := List.mem_map.mp hx
    exact h s hs
  · simpa using hne

theorem joinC_nil (c : Char) : joinC c [] = "" := rfl

theorem joinC_pair (c : Char) (a b : String) : joinC c [a, b] = a ++ String.singleton c ++ b := rfl

theorem splitC_single (c : Char) (s : String) (h : c ∉ s.toList) : splitC s c = [s] := by
  have := splitC_joinC c [s] (by simp) (by simpa using h)
  simpa [joinC] using this

theorem joinC_ne_empty (c : Char) (l : List String) (hne : l ≠ []) (h : ∀ s ∈ l, c ∉ s.toList)
    (h0 : ∀ s ∈ l, s ≠ "") : joinC c l ≠ "" := by
  intro he
  have h1 := splitC_joinC c l hne h
  rw [he] at h1
  have h2 : splitC "" c = [""] := by simp [splitC]
  rw [h2] at h1
  have : "" ∈ l := by rw [← h1]; simp
  exact h0 "" this rfl

theorem mapM_print_mem {α : Type} (parse : String → Option α) (pr : α → String) (l : List α)
    (h : ∀ a ∈ l, parse (pr a) = some a) : (l.map pr).mapM parse = some l := by
  induction l with
  | nil => rfl
  | cons a l ih =>
    simp [List.mapM_cons, h a (by simp), ih fun b hb => h b (List.mem_cons_of_mem _ hb)]

theorem mapM_print {α : Type} (parse : String → Option α) (print : α → String)
    (h : ∀ a, parse (print a) = some a) (l : List α) : (l.map print).mapM parse = some l :=
  mapM_print_mem parse print l fun a _ => h a

/-- THE list format of the line protocol: items joined by `c`, the empty text for the empty list.  Read back when each
item is read back, avoids `c` and is not empty. -/
theorem sepList {α : Type} (parse : String → Option α) (pr : α → String) (c : Char) (l : List α)
    (hp : ∀ a ∈ l, parse (pr a) = some a) (hf : ∀ a ∈ l, c ∉ (pr a).toList) (hne : ∀ a ∈ l, pr a ≠ "") :
    (if joinC c (l.map pr) = "" then some [] else (splitC (joinC c (l.map pr)) c).mapM parse) = some l := by
  have hf' : ∀ s ∈ l.map pr, c ∉ s.toList := by
    intro s hs; obtain ⟨a, ha, rfl⟩ := List.mem_map.mp hs; exact hf a ha
  cases l with
  | nil => simp [joinC_nil]
  | cons a l =>
    have hn : joinC c ((a :: l).map pr) ≠ "" := by
      apply joinC_ne_empty c _ (by simp) hf'
      intro s hs; obtain ⟨b, hb, rfl⟩ := List.mem_map.mp hs; exact hne b hb
    rw [if_neg hn, splitC_joinC c _ (by simp) hf']
    exact mapM_print_mem parse pr _ hp

theorem parseNats_printNats (c : Char) (hc : c.isDigit = false) (l : List Nat) :
    parseNats c (printNats c l) = some l :=
  sepList String.toNat? toString c l (fun n _ => toNat?_toString n) (fun n _ => not_mem_toString n c hc)
    (fun n _ => toString_ne_empty n)

theorem splitC_printNats (c : Char) (hc : c.isDigit = false) (l : List Nat) (hne : l ≠ []) :
    (splitC (printNats c l) c).mapM String.toNat? = some l := by
  unfold printNats
  rw [splitC_joinC c _ (by simpa using hne)]
  · exact mapM_print _ _ toNat?_toString l
  · intro s hs
    obtain ⟨n, _, rfl⟩ := List.mem_map.mp hs
    exact not_mem_toString n c hc

theorem dropPre_append (p s : List Char) : dropPre p (p ++ s) = some s := by
  induction p with
  | nil => rfl
  | cons a p ih => simp [dropPre, ih]

theorem tagged_append (pre s : String) : tagged pre (pre ++ s) = some s := by
  simp [tagged, String.toList_append, dropPre_append]

/-! ## The characters of a printed token

That a printed token avoids the separator of the level above, that `splitC` gives the joined pieces back (`splitC_joinC`,
which needs the former one level down) and that a sentinel (`!`, `-`, `?`) is not a number are all facts about `toList` of a
term built from literals, `toString n`, `++`, `joinC`, `printNats`.  `simp` computes them from one membership rule per
builder: it evaluates literals and `Char` tests itself, and turns `(toString n).toList` into `Nat.toDigits 10 n`, so the
rules about numbers are stated for that form.  They are membership rules, not `toList` rules, so that
`String.ofList (joinC ..).toList` still folds and `splitC_joinC` applies.  A view's round trip is then
`simp [its parser, its printer, splitC_joinC, these rules]`; that a token is none of the literals tried before it
(`"h5"` is not `"ok"`) is `← String.toList_inj`. -/

theorem mem_digits {c : Char} (hc : c.isDigit = false) (n : Nat) : (c ∈ Nat.toDigits 10 n) = False := by
  have := not_mem_toString n c hc
  rw [show (toString n).toList = Nat.toDigits 10 n from Nat.toList_repr] at this
  exact eq_false this

theorem toNat?_digits (n : Nat) : (String.ofList (Nat.toDigits 10 n)).toNat? = some n := by
  rw [← show (toString n).toList = Nat.toDigits 10 n from Nat.toList_repr, String.ofList_toList]
  exact toNat?_toString n

theorem mem_joinC_one (c d : Char) (a : String) : (d ∈ (joinC c [a]).toList) = (d ∈ a.toList) := by
  simp [joinC]

theorem mem_joinC_cons (c d : Char) (a b : String) (l : List String) :
    (d ∈ (joinC c (a :: b :: l)).toList) = (d ∈ a.toList ∨ d = c ∨ d ∈ (joinC c (b :: l)).toList) := by
  simp [joinC, String.toList_intercalate]

theorem mem_joinC_ne {c d : Char} (hdc : d ≠ c) (l : List String) :
    (d ∈ (joinC c l).toList) = (∃ s ∈ l, d ∈ s.toList) := by
  induction l with
  | nil => simp [joinC]
  | cons a l ih =>
    cases l with
    | nil => simp [mem_joinC_one]
    | cons b l => rw [mem_joinC_cons, ih]; simp [hdc]

theorem mem_printNats {c d : Char} (hd : d.isDigit = false) (hdc : d ≠ c) (l : List Nat) :
    (d ∈ (printNats c l).toList) = False := by
  simp [printNats, mem_joinC_ne hdc, mem_digits hd]

theorem ne_single {l : List Char} {d : Char} (h : d ∉ l) : (l = [d]) = False :=
  eq_false fun e => h (by rw [e]; simp)

theorem ne_empty_of_mem {s : String} {d : Char} (h : d ∈ s.toList) : s ≠ "" := by
  rintro rfl; simp at h

end IceProofs.LineProto

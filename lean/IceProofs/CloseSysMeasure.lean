import IceProofs.CloseSysProgress
/-! # CloseSys — the termination measure `mu` (D.4 wait-for ranks as one potential function) -/
namespace IceProofs.CloseSys
open IceModel.CloseSys

def sumBy {α : Type} (f : α → Nat) (l : List α) : Nat := (l.map f).sum

@[simp] theorem sumBy_nil {α : Type} (f : α → Nat) : sumBy f [] = 0 := rfl
@[simp] theorem sumBy_cons {α : Type} (f : α → Nat) (a : α) (l : List α) : sumBy f (a :: l) = f a + sumBy f l := by
  simp [sumBy]
@[simp] theorem sumBy_append {α : Type} (f : α → Nat) (l r : List α) : sumBy f (l ++ r) = sumBy f l + sumBy f r := by
  simp [sumBy]

theorem sumBy_set {α : Type} (f : α → Nat) (l : List α) (i : Nat) (a x : α) (h : l[i]? = some a) :
    sumBy f (l.set i x) + f a = sumBy f l + f x := by
  induction l generalizing i with
  | nil => simp at h
  | cons b l ih =>
    cases i with
    | zero => simp at h; subst h; simp; omega
    | succ i => simp at h; have := ih i h; simp; omega

theorem sumBy_modify {α : Type} (f : α → Nat) (l : List α) (i : Nat) (g : α → α) (a : α) (h : l[i]? = some a) :
    sumBy f (l.modify i g) + f a = sumBy f l + f (g a) := by
  induction l generalizing i with
  | nil => simp at h
  | cons b l ih =>
    cases i with
    | zero => simp at h; subst h; simp [List.modify]; omega
    | succ i => simp at h; have := ih i h; simp [List.modify] at *; omega

theorem sumBy_modify_none {α : Type} (f : α → Nat) (l : List α) (i : Nat) (g : α → α) (h : l[i]? = none) :
    sumBy f (l.modify i g) = sumBy f l := by
  rw [List.modify_eq_self (by simpa using h)]

theorem sumBy_modify_same {α : Type} (f : α → Nat) (l : List α) (i : Nat) (g : α → α) (hg : ∀ a, f (g a) = f a) :
    sumBy f (l.modify i g) = sumBy f l := by
  cases h : l[i]? with
  | none => exact sumBy_modify_none f l i g h
  | some a => have := sumBy_modify f l i g a h; rw [hg] at this; omega

theorem sumBy_set_none {α : Type} (f : α → Nat) (l : List α) (i : Nat) (x : α) (h : l[i]? = none) :
    sumBy f (l.set i x) = sumBy f l := by
  rw [List.set_eq_of_length_le (by simpa using h)]

/-! ### potentials (all evaluated for a state in which `done` is closed) -/

/-- cost of a call that has not begun: every state-dependent call fails at its first check. -/
def potU (N : Nat) : UOp → Nat
  | .run _ _ => 1
  | .close _ => 4 + 2 * N
  | .read => 1
  | .write _ => 1
  | .await => 2
  | .work => 1

def hpot (N : Nat) (p : List UOp) : Nat := sumBy (potU N) p

def locPot (N : Nat) : Loc → Nat
  | .idle => 0
  | .rSel _ _ => 1
  | .rWait => 1
  | .cOnce _ => 3 + 2 * N
  | .cPre _ => 3 + 2 * N
  | .cWaitLoop _ => 2 + 2 * N
  | .cNotif _ i => 1 + 2 * (N - i)
  | .cWait _ i => 2 + 2 * (N - (i + 1))
  | .rdBlk => 1
  | .wrBlk _ => 1
  | .awBlk => 1

def thPot (N : Nat) (th : Th) : Nat :=
  locPot N th.loc + hpot N (if th.loc = .idle then th.prog else th.prog.tail)

def rlPot (cd : Cand) : Nat :=
  match cd.rl with
  | .exited => 0
  | .read => 1 + 2 * cd.inb
  | _ => 2 + 2 * cd.inb

def candPot (cd : Cand) : Nat :=
  (if cd.listed then 1 else 0) + (if cd.aborted then 0 else 1) + rlPot cd

def streamPot (N : Nat) (st : Stream) : Nat :=
  (if st.running then 1 else 0) + sumBy (fun e => 1 + hpot N (hdlOf st e)) st.queue + thPot N st.th

/-- what an `Enqueue` may add to its stream: the event, its handler invocation, a drainer. -/
def enqCost (s : State) (i e : Nat) : Nat :=
  match s.streams[i]? with
  | some st => 2 + hpot s.streams.length (hdlOf st e)
  | none => 0

def potT (s : State) : TOp → Nat
  | .write _ => 1
  | .startCand _ n _ => 5 + 2 * n
  | .closeCands => 2
  | .enq i e => 1 + enqCost s i e
  | .gather _ => 1
  | .cancelGather => 1
  | .spawn _ => 1
  | .startedFn => 1

def loopPot (s : State) : Nat :=
  let E := enqCost s 0 0
  match s.loop with
  | .idle => 8 + E
  | .task _ ops => sumBy (potT s) ops + 9 + E
  | .tclose _ ops => sumBy (potT s) ops + 10 + E
  | .ocCancel => 7 + E
  | .ocWaitGather => 6 + E
  | .ocDel => 5 + E
  | .ocStarted => 4 + E
  | .ocBuf => 3 + E
  | .ocNotify => 2 + E
  | .ocDone => 1
  | .exited => 0

def oncePot (s : State) : Nat :=
  match s.once with
  | .running _ k => s.snap - k + 1
  | _ => 0

def mu (s : State) : Nat :=
  loopPot s + sumBy candPot s.cands + oncePot s + sumBy (thPot s.streams.length) s.thr +
    sumBy (streamPot s.streams.length) s.streams

def HdlSame (s s' : State) : Prop :=
  s'.streams.length = s.streams.length ∧ ∀ j : Nat, (s'.streams[j]?).map Stream.hdl = (s.streams[j]?).map Stream.hdl

theorem HdlSame.of_eq {s s' : State} (h : s'.streams = s.streams) : HdlSame s s' := ⟨by rw [h], fun j => by rw [h]⟩

theorem HdlSame.trans {s s' s'' : State} (a : HdlSame s s') (b : HdlSame s' s'') : HdlSame s s'' :=
  ⟨b.1.trans a.1, fun j => (b.2 j).trans (a.2 j)⟩

theorem enqCost_congr {s s' : State} (h : HdlSame s s') (i e : Nat) : enqCost s' i e = enqCost s i e := by
  unfold enqCost
  have := h.2 i
  rw [h.1]
  cases h1 : s'.streams[i]? <;> cases h2 : s.streams[i]? <;> simp [h1, h2] at this ⊢
  simp [hdlOf, this]

theorem potT_congr {s s' : State} (h : HdlSame s s') (op : TOp) : potT s' op = potT s op := by
  cases op <;> simp [potT, enqCost_congr h]

theorem sumPotT_congr {s s' : State} (h : HdlSame s s') (ops : List TOp) : sumBy (potT s') ops = sumBy (potT s) ops := by
  induction ops with
  | nil => rfl
  | cons op ops ih => simp [potT_congr h, ih]

theorem loopPot_congr {s s' : State} (h : HdlSame s s') (hl : s'.loop = s.loop) : loopPot s' = loopPot s := by
  unfold loopPot
  rw [hl, enqCost_congr h]
  cases s.loop <;> simp [sumPotT_congr h]

theorem setTh_hdlSame (s : State) (t : Tid) (x : Th) : HdlSame s (setTh s t x) := by
  cases t with
  | api n => exact .of_eq rfl
  | rl c => exact .of_eq rfl
  | dr i =>
    refine ⟨by simp [setTh], fun j => ?_⟩
    simp only [setTh, List.getElem?_modify]
    cases s.streams[j]? with
    | none => rfl
    | some st => simp; split <;> rfl

theorem streamPot_setTh (N : Nat) (st : Stream) (x : Th) :
    streamPot N { st with th := x } + thPot N st.th = streamPot N st + thPot N x := by
  simp only [streamPot, hdlOf]; omega

theorem mu_setTh {s : State} {t : Tid} {th : Th} (hget : getTh s t = some th) (x : Th) :
    mu (setTh s t x) + thPot s.streams.length th = mu s + thPot s.streams.length x := by
  have hl := loopPot_congr (setTh_hdlSame s t x) (setTh_loop s t x)
  have hN : (setTh s t x).streams.length = s.streams.length := setTh_streams_length s t x
  unfold mu
  rw [hl, hN]
  have ho : oncePot (setTh s t x) = oncePot s := by simp [oncePot]
  rw [ho, setTh_cands]
  cases t with
  | api n =>
    have := sumBy_set (thPot s.streams.length) s.thr n th x hget
    simp only [setTh] at *
    omega
  | dr i =>
    simp only [getTh] at hget
    cases hst : s.streams[i]? with
    | none => simp [hst] at hget
    | some st =>
      simp [hst] at hget; subst hget
      have h1 := sumBy_modify (streamPot s.streams.length) s.streams i (fun st => { st with th := x }) st hst
      have h2 := streamPot_setTh s.streams.length st x
      simp only [setTh] at *
      omega
  | rl c => simp [getTh] at hget

theorem potU_pos (N : Nat) (u : UOp) : 1 ≤ potU N u := by cases u <;> simp [potU] <;> omega

theorem thPot_ret (N : Nat) (th : Th) (r : Ret) : thPot N (th.ret r) = hpot N th.prog.tail := by
  simp [thPot, Th.ret, locPot]

theorem thPot_idle (N : Nat) (th : Th) (u : UOp) (r : List UOp) (hl : th.loc = .idle) (hp : th.prog = u :: r) :
    thPot N th = potU N u + hpot N r := by
  simp [thPot, hl, hp, locPot, hpot]

theorem thPot_loc (N : Nat) (th : Th) (hl : th.loc ≠ .idle) : thPot N th = locPot N th.loc + hpot N th.prog.tail := by
  simp [thPot, hl]

theorem thPot_setLoc (N : Nat) (th : Th) (l : Loc) (hl : l ≠ .idle) :
    thPot N { th with loc := l } = locPot N l + hpot N th.prog.tail := by
  simp [thPot, hl]

theorem locPot_pos (N : Nat) {l : Loc} (h : l ≠ .idle) : 1 ≤ locPot N l := by
  cases l <;> simp [locPot] at h ⊢ <;> omega

theorem thPot_ret_lt (N : Nat) {th : Th} (r : Ret) (h : th.loc = .idle → th.prog ≠ []) :
    thPot N (th.ret r) < thPot N th := by
  rw [thPot_ret]
  by_cases hl : th.loc = .idle
  · cases hp : th.prog with
    | nil => exact absurd hp (h hl)
    | cons u p => rw [thPot_idle N th u p hl hp]; have := potU_pos N u; simp only [List.tail_cons]; omega
  · rw [thPot_loc N th hl]; have := locPot_pos N hl; omega

theorem thPot_move_lt (N : Nat) {th : Th} {l : Loc} (h0 : th.loc ≠ .idle) (hl : l ≠ .idle)
    (h : locPot N l < locPot N th.loc) : thPot N { th with loc := l } < thPot N th := by
  rw [thPot_setLoc N th l hl, thPot_loc N th h0]; omega

theorem thPot_enter_lt (N : Nat) {th : Th} {u : UOp} {r : List UOp} {l : Loc} (h0 : th.loc = .idle)
    (hp : th.prog = u :: r) (hl : l ≠ .idle) (h : locPot N l < potU N u) :
    thPot N { th with loc := l } < thPot N th := by
  rw [thPot_setLoc N th l hl, thPot_idle N th u r h0 hp, hp]; simp only [List.tail_cons]; omega

theorem mu_setNdone (s : State) (i : Nat) : mu (setNdone s i) = mu s ∧ HdlSame s (setNdone s i) := by
  have hh : HdlSame s (setNdone s i) := by
    refine ⟨by simp [setNdone], fun j => ?_⟩
    simp only [setNdone, List.getElem?_modify]
    cases s.streams[j]? with
    | none => rfl
    | some st => simp; split <;> rfl
  refine ⟨?_, hh⟩
  unfold mu
  rw [loopPot_congr hh rfl, hh.1]
  have : sumBy (streamPot s.streams.length) (setNdone s i).streams = sumBy (streamPot s.streams.length) s.streams := by
    simp only [setNdone]
    exact sumBy_modify_same _ _ _ _ (fun st => by simp [streamPot, hdlOf])
  rw [this]
  rfl

theorem candPot_abort_le (cd : Cand) : candPot { cd with aborted := true } ≤ candPot cd := by
  cases h : cd.aborted <;> simp [candPot, rlPot, h]

theorem sumCand_abort_le (s : State) (k : Nat) : sumBy candPot (abortCand s k).cands ≤ sumBy candPot s.cands := by
  simp only [abortCand]
  cases h : s.cands[k]? with
  | none => rw [sumBy_modify_none _ _ _ _ h]; exact Nat.le_refl _
  | some cd =>
    have h1 := sumBy_modify candPot s.cands k (fun cd => { cd with aborted := true }) cd h
    have h2 := candPot_abort_le cd
    omega

theorem mu_expand (s s' : State) (hl : loopPot s' = loopPot s) (hN : s'.streams.length = s.streams.length)
    (ho : oncePot s' = oncePot s) :
    mu s' = loopPot s + sumBy candPot s'.cands + oncePot s + sumBy (thPot s.streams.length) s'.thr +
      sumBy (streamPot s.streams.length) s'.streams := by
  unfold mu; rw [hl, hN, ho]

theorem HdlSame.set {s : State} {i : Nat} {st : Stream} (hst : s.streams[i]? = some st) {st2 : Stream}
    (hh2 : st2.hdl = st.hdl) : HdlSame s { s with streams := s.streams.set i st2 } := by
  refine ⟨by simp, fun j => ?_⟩
  simp only [List.getElem?_set]
  split
  · subst_vars; split <;> simp_all
  · rfl

theorem mu_setStream {s : State} {i : Nat} {st : Stream} (hst : s.streams[i]? = some st) (st2 : Stream)
    (hh2 : st2.hdl = st.hdl) :
    mu { s with streams := s.streams.set i st2 } + streamPot s.streams.length st =
      mu s + streamPot s.streams.length st2 := by
  have hh := HdlSame.set hst hh2
  rw [mu_expand s _ (loopPot_congr hh rfl) hh.1 rfl]
  have h1 := sumBy_set (streamPot s.streams.length) s.streams i st st2 hst
  simp only [mu] at *
  omega

theorem mu_setCand {s : State} {c : Nat} {cd : Cand} (hc : s.cands[c]? = some cd) (cd' : Cand) :
    mu { s with cands := s.cands.set c cd' } + candPot cd = mu s + candPot cd' := by
  have e := mu_expand s { s with cands := s.cands.set c cd' } rfl rfl rfl
  have h1 := sumBy_set candPot s.cands c cd cd' hc
  rw [e]
  unfold mu
  dsimp only
  omega

theorem potT_setLoop (s : State) (l : LoopLoc) : potT { s with loop := l } = potT s := by
  funext op; cases op <;> rfl

theorem mu_setLoop (s : State) (l : LoopLoc) :
    mu { s with loop := l } + loopPot s = mu s + loopPot { s with loop := l } := by
  have e : oncePot { s with loop := l } = oncePot s := rfl
  unfold mu
  dsimp only
  omega

@[simp] theorem enqCost_setLoop (s : State) (l : LoopLoc) (i e : Nat) : enqCost { s with loop := l } i e = enqCost s i e := rfl

theorem mu_setLoop_lt (s : State) (l : LoopLoc) (h : loopPot { s with loop := l } < loopPot s) :
    mu { s with loop := l } < mu s := by
  have := mu_setLoop s l; omega

theorem potT_pos (s : State) (op : TOp) : 1 ≤ potT s op := by cases op <;> simp [potT] <;> omega

theorem loopPot_task_cons {s : State} {o : Tid} {op : TOp} {ops : List TOp} (hl : s.loop = .task o (op :: ops)) :
    loopPot { s with loop := .task o ops } + potT s op = loopPot s := by
  simp [loopPot, hl, potT_setLoop]; omega

theorem mu_enqueue (s : State) (i e : Nat) : mu (enqueue s i e) ≤ mu s + enqCost s i e := by
  unfold enqueue enqCost
  cases hst : s.streams[i]? with
  | none => simp
  | some st =>
    simp only
    split
    · omega
    · rename_i hnd
      have h1 := mu_setStream hst { st with queue := st.queue ++ [e], running := true } rfl
      have h2 : streamPot s.streams.length { st with queue := st.queue ++ [e], running := true } ≤
          streamPot s.streams.length st + (2 + hpot s.streams.length (hdlOf st e)) := by
        simp only [streamPot, hdlOf, sumBy_append, sumBy_cons, sumBy_nil]
        split <;> simp <;> omega
      have h3 : mu { s with streams := s.streams.set i { st with queue := st.queue ++ [e], running := true },
                            lastAcc := if i = 0 then some e else s.lastAcc } =
          mu { s with streams := s.streams.set i { st with queue := st.queue ++ [e], running := true } } := rfl
      rw [h3]
      omega

theorem delStep_mu {s s1 : State} {fin : Bool} (h : delStep s = some (s1, fin)) :
    (fin = true ∧ s1 = s) ∨ (fin = false ∧ mu s1 < mu s ∧ s1.loop = s.loop ∧ HdlSame s s1) := by
  rcases delStep_cases h with ⟨hf, e, _⟩ | ⟨hf, c, cd, hc, hlisted, ⟨hab, rfl⟩ | ⟨_, _, rfl⟩⟩
  · exact Or.inl ⟨hf, e⟩
  · refine Or.inr ⟨hf, ?_, rfl, .of_eq rfl⟩
    have h1 := sumBy_modify candPot s.cands c (fun cd => { cd with aborted := true }) cd hc
    have h3 : candPot { cd with aborted := true } + 1 = candPot cd := by simp [candPot, rlPot, hab]; omega
    rw [mu_expand s (abortCand s c) rfl rfl rfl]; unfold mu; simp only [abortCand] at *; omega
  · refine Or.inr ⟨hf, ?_, rfl, .of_eq rfl⟩
    have h1 := mu_setCand hc { cd with listed := false }
    have h3 : candPot { cd with listed := false } + 1 = candPot cd := by simp [candPot, rlPot, hlisted]; omega
    omega

theorem mu_candsThr (k : State) (cands' : List Cand) (thr' : List Th) (g : Option Nat) :
    mu { k with cands := cands', thr := thr', gcur := g } + sumBy candPot k.cands + sumBy (thPot k.streams.length) k.thr =
      mu k + sumBy candPot cands' + sumBy (thPot k.streams.length) thr' := by
  have h1 : loopPot { k with cands := cands', thr := thr', gcur := g } = loopPot k := rfl
  have h2 : oncePot { k with cands := cands', thr := thr', gcur := g } = oncePot k := rfl
  unfold mu
  simp only [h1, h2]
  omega

/-- cancelling the current gather cycle only sets a `cancelled` flag, which no potential reads. -/
theorem mu_cancelCur (s : State) : mu (cancelCur s) = mu s := by
  have ht : sumBy (thPot s.streams.length) (cancelCur s).thr = sumBy (thPot s.streams.length) s.thr := by
    unfold cancelCur
    split
    · rfl
    · exact sumBy_modify_same _ _ _ _ (fun th => by simp [thPot])
  obtain ⟨thr', he⟩ := cancelCur_eq s
  rw [he] at ht ⊢
  have ht' : sumBy (thPot s.streams.length) thr' = sumBy (thPot s.streams.length) s.thr := ht
  have e := mu_candsThr s s.cands thr' s.gcur
  omega

theorem cancelCur_setLoop (s : State) (l : LoopLoc) : { cancelCur s with loop := l } = cancelCur { s with loop := l } := by
  unfold cancelCur; dsimp only; split <;> rfl

theorem enqueue_setLoop (s : State) (l : LoopLoc) (i e : Nat) :
    { enqueue s i e with loop := l } = enqueue { s with loop := l } i e := by
  unfold enqueue; dsimp only; split
  · rfl
  · split <;> rfl

theorem sumPotT_cons (s : State) (op : TOp) (ops : List TOp) : sumBy (potT s) (op :: ops) = potT s op + sumBy (potT s) ops := by
  simp

end IceProofs.CloseSys

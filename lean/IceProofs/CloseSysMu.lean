import IceProofs.CloseSysMeasure
import IceProofs.Exec
/-! # CloseSys — once `done` is closed the measure strictly decreases on every transition -/
namespace IceProofs.CloseSys
open IceModel.CloseSys

/-- a statement of a call: the shared state and the thread record together lose weight.  With `done` closed the
branches that enter `Run`/`Read`/`Write` or hand off a task are not taken (R1). -/
theorem callStep_mu {s s1 : State} {t : Tid} {th x : Th} {alt : Bool} (h : Inv s) (hd : s.done = true)
    (hget : getTh s t = some th) (hs : callStep s t th alt = some (s1, x)) :
    HdlSame s s1 ∧ getTh s1 t = some th ∧
      mu s1 + thPot s.streams.length x < mu s + thPot s.streams.length th := by
  have simple : ∀ y : Th, thPot s.streams.length y < thPot s.streams.length th →
      HdlSame s s ∧ getTh s t = some th ∧ mu s + thPot s.streams.length y < mu s + thPot s.streams.length th :=
    fun y hy => ⟨.of_eq rfl, hget, by omega⟩
  have undone : ∀ {p : Prop}, s.done = false → p := fun e => by simp [hd] at e
  apply callStep_cases hs
  case ret => exact fun r hne _ => simple _ (thPot_ret_lt _ r hne)
  case run => exact fun _ _ _ _ _ e => undone e
  case read => exact fun _ _ _ e => undone e
  case write => exact fun _ _ _ _ e => undone e
  case handoff => exact fun _ _ _ _ e _ => undone e
  case takeOnce => exact fun _ _ ho => absurd ho (h.doneOnce.1 hd)
  case close => exact fun g r hl hp => simple _ (thPot_enter_lt _ hl hp (by simp) (by simp [locPot, potU]))
  case await => exact fun r hl hp => simple _ (thPot_enter_lt _ hl hp (by simp) (by simp [locPot, potU]))
  case onceOver =>
    exact fun g hl _ => simple _ (thPot_move_lt _ (by simp [hl]) (by simp) (by simp [hl, locPot]))
  case loopGone =>
    exact fun g hl _ => simple _ (thPot_move_lt _ (by simp [hl]) (by simp) (by simp [hl, locPot]))
  case drained =>
    exact fun g i hl _ => simple _ (thPot_move_lt _ (by simp [hl]) (by simp) (by simp [hl, locPot]))
  case abortNext =>
    intro g k _ ho hk
    refine ⟨.of_eq rfl, by cases t <;> exact hget, ?_⟩
    have hc := sumCand_abort_le s k
    have : mu { abortCand s k with once := .running t (k + 1) } < mu s := by
      unfold mu
      have hl : loopPot { abortCand s k with once := .running t (k + 1) } = loopPot s := rfl
      rw [hl]
      simp only [oncePot, ho]
      show _ + sumBy candPot (abortCand s k).cands + (s.snap - (k + 1) + 1) + _ + _ < _
      simp only [abortCand] at hc ⊢
      omega
    omega
  case finishOnce =>
    intro g k hl ho _
    refine ⟨.of_eq rfl, by cases t <;> exact hget, ?_⟩
    have : mu { s with once := .finished } < mu s := by
      unfold mu
      have hl : loopPot { s with once := .finished } = loopPot s := rfl
      rw [hl]
      simp only [oncePot, ho]
      omega
    have := thPot_move_lt s.streams.length (th := th) (l := .cWaitLoop g) (by simp [hl]) (by simp)
      (by simp [hl, locPot])
    omega
  case closeNotif =>
    intro g i hl hi
    obtain ⟨h1, h2⟩ := mu_setNdone s i
    refine ⟨h2, getTh_setNdone i hget, ?_⟩
    have := thPot_move_lt s.streams.length (th := th) (l := if g then .cWait g i else .cNotif g (i + 1))
      (by simp [hl]) (by split <;> simp) (by rw [hl]; cases g <;> simp [locPot] <;> omega)
    omega
  case closed =>
    intro g i hl _
    refine ⟨.of_eq rfl, by cases t <;> exact hget, ?_⟩
    have h1 : mu { s with closeRet := true, gcloseRet := s.gcloseRet || g } = mu s := rfl
    have := thPot_ret_lt s.streams.length (th := th) .ok (by simp [hl])
    omega

theorem mu_thStep {s s' : State} {t : Tid} {alt : Bool} (h : Inv s) (hd : s.done = true)
    (hs : thStep s t alt = some s') : mu s' < mu s := by
  apply thStep_cases hs
  case leave =>
    rintro n th rfl hth _ hloc hp _
    have h1 := mu_setTh (t := .api n) hth { th with prog := [] }
    have h2 : thPot s.streams.length { th with prog := [] } = 0 := by simp [thPot, hloc, locPot, hpot]
    have h3 := thPot_ret_lt s.streams.length (th := th) .ok (fun _ => hp)
    omega
  case drExit =>
    rintro i st rfl hst hr _ _
    have h1 := mu_setStream hst { st with running := false } rfl
    have h2 : streamPot s.streams.length { st with running := false } + 1 = streamPot s.streams.length st := by
      simp [streamPot, hr, hdlOf]; omega
    omega
  case drNext =>
    rintro i st e q rfl hst _ hl hp hq
    have hlt : i < s.streams.length := getElem?_lt hst
    have h2 := mu_setStream hst { st with queue := q } rfl
    have h4 : streamPot s.streams.length { st with queue := q } + (1 + hpot s.streams.length (hdlOf st e)) =
        streamPot s.streams.length st := by
      simp [streamPot, hq, hdlOf]; omega
    generalize hs2 : ({ s with streams := s.streams.set i { st with queue := q } } : State) = s2 at h2 ⊢
    have hN : s2.streams.length = s.streams.length := by rw [← hs2]; simp
    have hget2 : getTh s2 (.dr i) = some st.th := by rw [← hs2]; simp [getTh, hlt]
    have h1 := mu_setTh hget2 { st.th with prog := hdlOf st e }
    rw [hN] at h1
    have h5 : thPot s.streams.length st.th = 0 := by simp [thPot, hl, hp, locPot, hpot]
    have h6 : thPot s.streams.length { st.th with prog := hdlOf st e } = hpot s.streams.length (hdlOf st e) := by
      simp [thPot, hl, locPot]
    omega
  case call =>
    intro th s1 th' hget _ hc
    obtain ⟨c1, c2, c3⟩ := callStep_mu h hd hget hc
    have h1 := mu_setTh c2 th'
    rw [c1.1] at h1
    omega

theorem mu_rlStep {s s' : State} {c : Nat} {alt : Bool} (hd : s.done = true) (hs : rlStep s c alt = some s') :
    mu s' < mu s := by
  have key : ∀ cd cd' : Cand, s.cands[c]? = some cd → candPot cd' < candPot cd →
      mu { s with cands := s.cands.set c cd' } < mu s := by
    intro cd cd' hc hlt; have := mu_setCand hc cd'; omega
  apply rlStep_cases hs
  case toRead =>
    intro cd hc hrl
    exact key cd _ hc (by rcases hrl with e | e | e <;> simp [candPot, rlPot, e])
  case exit =>
    intro cd hc hrl _
    exact key cd _ hc (by rcases hrl with e | e <;> simp [candPot, rlPot, e] <;> omega)
  case handoff => exact fun _ _ _ _ e _ => by simp [hd] at e

theorem mu_envStep {s s' : State} {a : Action} (hs : envStep s a = some s') : mu s' < mu s := by
  apply envStep_cases hs
  case data =>
    intro c cd hc hrl _ hpos
    have := mu_setCand hc { cd with rl := .rSel, inb := cd.inb - 1 }
    have : candPot { cd with rl := .rSel, inb := cd.inb - 1 } < candPot cd := by
      simp [candPot, rlPot, hrl]; omega
    omega
  case loopWrite =>
    intro o c ops hl
    exact mu_setLoop_lt s _ (by have := loopPot_task_cons hl; simp [potT] at this; omega)
  case thRet =>
    intro t th n hget hne _
    have hget2 : getTh { s with bufData := n } t = some th := by cases t <;> exact hget
    have h1 : mu (setTh { s with bufData := n } t (th.ret .ok)) + thPot s.streams.length th =
        mu s + thPot s.streams.length (th.ret .ok) := mu_setTh hget2 (th.ret .ok)
    have h3 := thPot_ret_lt s.streams.length (th := th) .ok (fun e => absurd e hne)
    omega

theorem mu_taskOp {s k : State} {o : Tid} {op : TOp} {ops : List TOp} (hl : s.loop = .task o (op :: ops))
    (hk : mu k < mu { s with loop := .task o ops } + potT s op) : mu k < mu s := by
  have h1 := mu_setLoop s (.task o ops)
  have h2 := loopPot_task_cons hl
  omega

theorem mu_loopStep {s s' : State} (hs : loopStep s = some s') : mu s' < mu s := by
  -- `onClose` and the end of a task: only the loop location changes, to one of lower rank
  have move : ∀ l, loopPot { s with loop := l } < loopPot s → mu { s with loop := l } < mu s := mu_setLoop_lt s
  have del : ∀ {s1 : State} {fin : Bool} (l1 l2 : LoopLoc), delStep s = some (s1, fin) →
      loopPot { s with loop := l1 } < loopPot s → loopPot { s with loop := l2 } = loopPot s →
      mu { s1 with loop := if fin then l1 else l2 } < mu s := by
    intro s1 fin l1 l2 hd h1 h2
    rcases delStep_mu hd with ⟨rfl, rfl⟩ | ⟨rfl, h3, h4, h5⟩
    · exact move l1 h1
    · have h6 := mu_setLoop s1 l2
      have h7 : loopPot { s1 with loop := l2 } = loopPot { s with loop := l2 } := loopPot_congr (s := { s with loop := l2 }) h5 rfl
      have h8 : loopPot s1 = loopPot s := loopPot_congr h5 h4
      simp only [Bool.false_eq_true, if_false]
      omega
  apply loopStep_cases hs
  case idle => exact fun hl _ => move _ (by simp [loopPot, hl])
  case taskEnd => exact fun o hl => move _ (by simp [loopPot, hl])
  case skip =>
    intro o op ops hl
    exact mu_taskOp hl (by have := potT_pos s op; omega)
  case startCand =>
    intro o b n f ops hl
    refine mu_taskOp hl ?_
    have e := mu_candsThr { s with loop := .task o ops }
      (s.cands ++ [{ blocking := b, inb := n, closeFails := f }]) s.thr s.gcur
    have : candPot { blocking := b, inb := n, closeFails := f } = 4 + 2 * n := by simp [candPot, rlPot] <;> omega
    simp only [sumBy_append, sumBy_cons, sumBy_nil] at e
    simp only [potT]
    omega
  case closeCands =>
    intro o ops hl
    exact move _ (by have := loopPot_task_cons hl; simp [potT] at this; simp [loopPot, potT_setLoop] at this ⊢; omega)
  case enq =>
    intro o i e ops hl
    refine mu_taskOp hl ?_
    have h2 := mu_enqueue { s with loop := .task o ops } i e
    simp only [potT, enqCost_setLoop] at h2 ⊢
    omega
  case gather =>
    intro o t ops th hl hth _
    refine mu_taskOp hl ?_
    generalize hk : ({ s with loop := .task o ops } : State) = k
    have hthk : k.thr[t]? = some th := by rw [← hk]; exact hth
    obtain ⟨th1, h1⟩ : ∃ th1, (cancelCur k).thr[t]? = some th1 :=
      getElem?_of_length_eq (by simp only [cancelCur]; split <;> simp) hthk
    obtain ⟨th0, h0, e1, e2, _, _⟩ := cancelCur_thr k t th1 h1
    rw [hthk] at h0; cases h0
    have hc := mu_cancelCur k
    generalize cancelCur k = k' at h1 hc ⊢
    have e := mu_candsThr k' k'.cands (k'.thr.set t { th with live := true }) (some t)
    have h3 := sumBy_set (thPot k'.streams.length) k'.thr t th1 { th with live := true } h1
    have h4 : thPot k'.streams.length th1 = thPot k'.streams.length { th with live := true } := by
      simp [thPot, e1, e2]
    have hp := potT_pos s (.gather t)
    show mu { k' with gcur := some t, thr := k'.thr.set t { th with live := true } } < _
    omega
  case cancelGather =>
    intro o ops hl
    exact mu_taskOp hl (by have := mu_cancelCur { s with loop := .task o ops }; simp only [potT]; omega)
  case spawn =>
    intro o t ops hl
    refine mu_taskOp hl ?_
    have e := mu_candsThr { s with loop := .task o ops } s.cands
      (s.thr.modify t (fun th => { th with live := true })) s.gcur
    have h3 : sumBy (thPot s.streams.length) (s.thr.modify t (fun th => { th with live := true })) =
        sumBy (thPot s.streams.length) s.thr := sumBy_modify_same _ _ _ _ (fun th => by simp [thPot])
    simp only [h3, potT] at e ⊢
    omega
  case startedFn =>
    intro o ops hl
    refine mu_taskOp hl ?_
    have : mu { s with loop := .task o ops, startedCh := true } = mu { s with loop := .task o ops } := rfl
    simp only [potT]; omega
  case tclose =>
    intro o ops s1 fin hl hd
    exact del _ _ hd (by simp [loopPot, hl, potT_setLoop]) (by simp [loopPot, hl, potT_setLoop])
  case ocCancel =>
    intro hl
    rw [cancelCur_setLoop, mu_cancelCur]
    exact move _ (by simp [loopPot, hl])
  case ocWaitGather => exact fun hl _ => move _ (by simp [loopPot, hl])
  case ocDel =>
    intro s1 fin hl hd
    exact del _ _ hd (by simp [loopPot, hl]) (by simp [loopPot, hl])
  case ocStarted =>
    intro hl
    have e : mu { s with startedCh := true, loop := .ocBuf } = mu { s with loop := .ocBuf } := rfl
    rw [e]; exact move _ (by simp [loopPot, hl])
  case ocBuf =>
    intro hl
    have e : mu { s with bufClosed := true, loop := .ocNotify } = mu { s with loop := .ocNotify } := rfl
    rw [e]; exact move _ (by simp [loopPot, hl])
  case ocNotify =>
    intro hl
    rw [enqueue_setLoop]
    have h1 := mu_enqueue { s with loop := .ocDone } 0 0
    have h2 := mu_setLoop s .ocDone
    have h4 : loopPot { s with loop := .ocDone } = 1 := by simp [loopPot]
    have h5 : loopPot s = 2 + enqCost s 0 0 := by simp [loopPot, hl]
    simp only [enqCost_setLoop] at h1
    omega
  case ocDone => exact fun hl => move _ (by simp [loopPot, hl])

theorem mu_step {s s' : State} {a : Action} (h : Inv s) (hd : s.done = true) (hs : step s a = some s') :
    mu s' < mu s := by
  unfold step at hs
  split at hs
  · exact mu_loopStep hs
  · exact mu_thStep h hd hs
  · exact mu_rlStep hd hs
  · exact mu_envStep hs

theorem isRun : IsRun step run := ⟨fun _ => rfl, fun s a _ => by rw [run]; cases step s a <;> rfl⟩

theorem reach_run {s0 s s' : State} {acts : List Action} (h0 : Reach s0 s) (h : run s acts = some s') :
    Reach s0 s' :=
  (isRun.exec h).inv (fun h hs => .step _ h hs) h0

theorem run_length_le_mu {s s' : State} {acts : List Action} (h : Inv s) (hd : s.done = true)
    (hr : run s acts = some s') : acts.length + mu s' ≤ mu s := by
  have hx := isRun.exec hr; clear hr
  induction hx with
  | nil => simp
  | cons hs _ ih =>
    have h1 := mu_step h hd hs
    have h2 := ih (inv_step h hs) ((step_stays hs).done hd)
    simp only [List.length_cons]; omega

end IceProofs.CloseSys

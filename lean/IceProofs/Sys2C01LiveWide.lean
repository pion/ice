import IceProofs.Sys2C01LiveNoise
/-!
# C01 liveness — the decidable start conditions of a fair suffix, `ReadyF` and `ReadyF0`

`ReadyF` widens `ReadyD`: the controlling agent MAY already have a selected pair (or a USE-CANDIDATE transaction
pending), provided the provenance facts that `ReadyD` made vacuous hold on the state: `PendAgreeD`, and
`¬ NomSeenD ∨ DPYD` (no selection and no answer to a nomination yet, or the controlled agent has a selected pair too, or
its own check on the pair it marked is in flight and young enough to complete); `ReadyF0` drops the last clause.
`KnownSrc` is not part of it: a forced tick of the controlling agent after a peer-reflexive discovery is handled as a
tick (`forced_ctick`).  A reachable state satisfying one of them satisfies the invariant of a fair suffix
(`ready_finv0`; `ready_finv`, `ready_rinv` follow), and `converge_ready` is the frame the property theorems share.
-/
namespace IceProofs.C01Live
open IceModel.AgentCore IceModel.Sys2 IceProofs.Sys2Run IceProofs.C01 IceProofs.Agent IceProofs.C03

instance (a : Agent) (uc : Bool) (m : Msg) : Decidable (IsReq a uc m) :=
  decidable_of_iff (m.cls = 0 ∧ m.method = 1 ∧ m.user = some (a.remoteUfrag ++ ":" ++ a.localUfrag) ∧
      m.key = some a.remotePwd ∧ m.role = some (a.controlling, a.tieBreaker) ∧ m.nom = none ∧ m.useCand = uc)
    ⟨fun ⟨h1, h2, h3, h4, h5, h6, h7⟩ => ⟨h1, h2, h3, h4, h5, h6, h7⟩,
     fun ⟨h1, h2, h3, h4, h5, h6, h7⟩ => ⟨h1, h2, h3, h4, h5, h6, h7⟩⟩

def PendForD (s : Sys) (x : Bool) (tid la ra : Nat) (uc : Bool) (ts : Nat) : Prop :=
  match (s.agent x).pending.find? (·.tid == tid) with
  | some pd => pd.src = la ∧ pd.dest = ra ∧ pd.net = 0 ∧ pd.useCand = uc ∧ pd.nom = none ∧ pd.ts = ts
  | none => False

instance (s : Sys) (x : Bool) (tid la ra : Nat) (uc : Bool) (ts : Nat) : Decidable (PendForD s x tid la ra uc ts) := by
  unfold PendForD; split <;> infer_instance

theorem PendForD.pend {s : Sys} {x : Bool} {tid la ra : Nat} {uc : Bool} {ts : Nat} (h : PendForD s x tid la ra uc ts) :
    PendFor s x tid la ra uc ts := by
  unfold PendForD at h
  cases hf : (s.agent x).pending.find? (·.tid == tid) with
  | none => rw [hf] at h; exact h.elim
  | some pd => rw [hf] at h; exact ⟨pd, hf, h⟩

def SlotD (s : Sys) (x : Bool) (la ra : Nat) (nomOn : Bool) : Prop :=
  match (s.agent x).localByAddr la, (s.agent x).findRemote 0 ra with
  | some l, some r =>
    match (s.agent x).findPair l r with
    | some p => nomOn = true → p.nomOnSuccess = true ∨ (s.agent x).selected.isSome = true
    | none => False
  | _, _ => False

instance (s : Sys) (x : Bool) (la ra : Nat) (nomOn : Bool) : Decidable (SlotD s x la ra nomOn) := by
  unfold SlotD; split
  · split <;> infer_instance
  · infer_instance

theorem SlotD.slot {s : Sys} {x : Bool} {la ra : Nat} {nomOn : Bool} (h : SlotD s x la ra nomOn) : Slot s x la ra nomOn := by
  unfold SlotD at h
  cases hl : (s.agent x).localByAddr la with
  | none => rw [hl] at h; exact h.elim
  | some l =>
    cases hr : (s.agent x).findRemote 0 ra with
    | none => rw [hl, hr] at h; exact h.elim
    | some r =>
      rw [hl, hr] at h
      simp only [] at h
      cases hp : (s.agent x).findPair l r with
      | none => rw [hp] at h; exact h.elim
      | some p => rw [hp] at h; exact ⟨l, r, p, hl, hr, hp, h⟩

def ObD (s : Sys) (x : Bool) (tid la ra : Nat) (uc nomOn : Bool) (ts : Nat) : Prop :=
  Link s x la ra ∧ PendForD s x tid la ra uc ts ∧ SlotD s x la ra nomOn ∧ s.now - ts < maxBindingRequestTimeout

instance (s : Sys) (x : Bool) (tid la ra : Nat) (uc nomOn : Bool) (ts : Nat) : Decidable (ObD s x tid la ra uc nomOn ts) := by
  unfold ObD; infer_instance

theorem ObD.ob {s : Sys} {x : Bool} {tid la ra : Nat} {uc nomOn : Bool} {ts : Nat} (h : ObD s x tid la ra uc nomOn ts) :
    Ob s x tid la ra uc nomOn ts := ⟨h.1, h.2.1.pend, h.2.2.1.slot, h.2.2.2⟩

def ReqDD (s : Sys) (x : Bool) (tid la ra : Nat) (uc : Bool) (d : Dgram) : Prop :=
  d.src = la ∧ d.dst = ra ∧ match d.p with
    | .stun m => IsReq (s.agent x) uc m ∧ m.tid = tid
    | .data _ => False

instance (s : Sys) (x : Bool) (tid la ra : Nat) (uc : Bool) (d : Dgram) : Decidable (ReqDD s x tid la ra uc d) := by
  unfold ReqDD
  refine @instDecidableAnd _ _ _ (@instDecidableAnd _ _ _ ?_)
  split <;> infer_instance

theorem ReqDD.req {s : Sys} {x : Bool} {tid la ra : Nat} {uc : Bool} {d : Dgram} (h : ReqDD s x tid la ra uc d) :
    ReqD s x tid la ra uc d := by
  obtain ⟨h1, h2, h3⟩ := h
  cases hp : d.p with
  | data n => rw [hp] at h3; exact h3.elim
  | stun m => rw [hp] at h3; exact ⟨h1, h2, m, hp, h3.1, h3.2⟩

def RespDD (s : Sys) (x : Bool) (tid la ra : Nat) (d : Dgram) : Prop :=
  d.src = s.unmapped ra ∧ d.dst = s.mapped la ∧ match d.p with
    | .stun m => m.cls = 2 ∧ m.method = 1 ∧ m.tid = tid ∧ m.key = some (s.agent x).remotePwd
    | .data _ => False

instance (s : Sys) (x : Bool) (tid la ra : Nat) (d : Dgram) : Decidable (RespDD s x tid la ra d) := by
  unfold RespDD
  refine @instDecidableAnd _ _ _ (@instDecidableAnd _ _ _ ?_)
  split <;> infer_instance

theorem RespDD.resp {s : Sys} {x : Bool} {tid la ra : Nat} {d : Dgram} (h : RespDD s x tid la ra d) : RespD s x tid la ra d := by
  obtain ⟨h1, h2, h3⟩ := h
  cases hp : d.p with
  | data n => rw [hp] at h3; exact h3.elim
  | stun m => rw [hp] at h3; exact ⟨h1, h2, m, hp, h3.1, h3.2.1, h3.2.2.1, h3.2.2.2⟩

instance (c : Bool) (s : Sys) (x : Bool) (uc nomOn : Bool) : Decidable (Goal c s x uc nomOn) := by unfold Goal; infer_instance

def Ch1D (c : Bool) (s : Sys) (x : Bool) (tid la ra : Nat) (uc nomOn : Bool) (ts : Nat) : Prop :=
  Goal c s x uc nomOn ∨
  (ObD s x tid la ra uc nomOn ts ∧ ((∃ d ∈ s.inflight, RespDD s x tid la ra d) ∨ ∃ d ∈ s.inflight, ReqDD s x tid la ra uc d))

instance (c : Bool) (s : Sys) (x : Bool) (tid la ra : Nat) (uc nomOn : Bool) (ts : Nat) :
    Decidable (Ch1D c s x tid la ra uc nomOn ts) := by unfold Ch1D; infer_instance

theorem Ch1D.ch1 {c : Bool} {s : Sys} {x : Bool} {tid la ra : Nat} {uc nomOn : Bool} {ts : Nat}
    (h : Ch1D c s x tid la ra uc nomOn ts) : Ch1 c s x tid la ra uc nomOn ts := by
  rcases h with g | ⟨hob, ⟨d, hd, hr⟩ | ⟨d, hd, hr⟩⟩
  · exact Or.inl (Or.inl g)
  · exact Or.inl (Or.inr ⟨hob.ob, d, hd, hr.resp⟩)
  · exact Or.inr ⟨hob.ob, d, hd, hr.req⟩

/-- `DPY`, decidable: the transaction is one of the controlled agent's pending ones -/
def DPYD (c : Bool) (L : Nat) (s : Sys) : Prop :=
  Sel s (!c) ∨ ∃ pd ∈ (s.agent (!c)).pending,
    Ch1D c s (!c) pd.tid pd.src pd.dest false true pd.ts ∧ s.now + 2 * L < pd.ts + maxBindingRequestTimeout

instance (c : Bool) (L : Nat) (s : Sys) : Decidable (DPYD c L s) := by unfold DPYD; infer_instance

theorem DPYD.dpy {c : Bool} {L : Nat} {s : Sys} (h : DPYD c L s) : DPY c L s := by
  rcases h with g | ⟨pd, _, g, hy⟩
  · exact Or.inl g
  · exact Or.inr ⟨pd.tid, pd.src, pd.dest, pd.ts, g.ch1, hy⟩

/-- `NomSeen`, decidable -/
def RespSeenD (s : Sys) (c : Bool) (d : Dgram) : Prop :=
  match d.p with
  | .stun m => m.cls = 2 ∧ ∃ pd ∈ (s.agent c).pending, pd.tid = m.tid ∧ pd.useCand = true
  | .data _ => False

instance (s : Sys) (c : Bool) (d : Dgram) : Decidable (RespSeenD s c d) := by unfold RespSeenD; split <;> infer_instance

def NomSeenD (c : Bool) (s : Sys) : Prop := Sel s c ∨ ∃ d ∈ s.inflight, RespSeenD s c d

instance (c : Bool) (s : Sys) : Decidable (NomSeenD c s) := by unfold NomSeenD; infer_instance

theorem NomSeen.seenD {c : Bool} {s : Sys} (h : NomSeen c s) : NomSeenD c s := by
  rcases h with g | ⟨d, hd, m, hm, hc, pd, hpd, hpt, hpu⟩
  · exact Or.inl g
  · refine Or.inr ⟨d, hd, ?_⟩
    unfold RespSeenD
    rw [hm]
    exact ⟨hc, pd, hpd, hpt, hpu⟩

/-- `PendAgree`, decidable -/
def PendAgreeD1 (s : Sys) (c : Bool) (d : Dgram) : Prop :=
  match d.p with
  | .stun m => m.cls = 0 → ∀ pd ∈ (s.agent c).pending, pd.tid = m.tid → pd.useCand = true →
      IsReq (s.agent c) true m ∧ d.src = pd.src ∧ d.dst = pd.dest ∧ Link s c d.src d.dst
  | .data _ => True

instance (s : Sys) (c : Bool) (d : Dgram) : Decidable (PendAgreeD1 s c d) := by unfold PendAgreeD1; split <;> infer_instance

def PendAgreeD (s : Sys) (c : Bool) : Prop := ∀ d ∈ s.inflight, PendAgreeD1 s c d

instance (s : Sys) (c : Bool) : Decidable (PendAgreeD s c) := by unfold PendAgreeD; infer_instance

theorem PendAgreeD.agree {s : Sys} {c : Bool} (h : PendAgreeD s c) : PendAgree s c := by
  intro d hd m hm hc pd hpd ht hu
  have := h d hd
  unfold PendAgreeD1 at this
  rw [hm] at this
  exact this hc pd hpd ht hu

/-- **the start condition of a fair suffix** (decidable): as `ReadyD`, but instead of "the controlling agent has no
selected pair and no USE-CANDIDATE transaction pending": `PendAgreeD`, and `¬ NomSeenD ∨ DPYD` (latency bound `L`). -/
def ReadyF (pre : List SysEv) (c : Bool) (T0 H L : Nat) (s : Sys) : Prop :=
  s.hasB = true ∧ (∀ x, (s.agent x).controlling = (x == c)) ∧
  (∀ x, (s.agent x).remoteUfrag = (s.agent (!x)).localUfrag) ∧ (∀ x, (s.agent x).remotePwd = (s.agent (!x)).localPwd) ∧
  s.a.localPwd ≠ s.b.localPwd ∧ Disj s ∧
  (∀ x, GoodD T0 H (s.agent x)) ∧
  (∀ d ∈ s.inflight, DgOKd s d) ∧ FilterOK s ∧
  PendAgreeD s c ∧ (¬ NomSeenD c s ∨ DPYD c L s) ∧
  T0 ≤ s.now ∧ s.now ≤ H ∧ TickSoon s.now (s.agent c) ∧
  (∀ la ∈ localAddrsOf c pre, ∀ x ∈ localAddrsOf c pre, (x, mappedL s.nat la) ∈ s.blocked) ∧
  (∀ x ∈ localAddrsOf (!c) pre, ((s.agent (!c)).localByAddr x).isSome = true)

instance (pre : List SysEv) (c : Bool) (T0 H L : Nat) (s : Sys) : Decidable (ReadyF pre c T0 H L s) := by
  unfold ReadyF Disj FilterOK
  infer_instance

theorem ReadyF.full {pre : List SysEv} {c : Bool} {T0 H L : Nat} {s : Sys} (h : ReadyF pre c T0 H L s) (x : Bool) :
    (s.agent x).cfg.lite = false := (h.2.2.2.2.2.2.1 x).1

theorem ReadyD.readyF {pre : List SysEv} {c : Bool} {T0 H : Nat} {s : Sys} (h : ReadyD pre c T0 H s)
    (L : Nat) : ReadyF pre c T0 H L s := by
  obtain ⟨r1, r2, r3, r4, r5, r6, r7, r8, r9, r10, r11, r12, r13, r14, r15, r16⟩ := h
  refine ⟨r1, r2, r3, r4, r5, r6, r7, r8, r9, ?_, Or.inl ?_, r12, r13, r14, r15, r16⟩
  · intro d _
    unfold PendAgreeD1
    split
    · intro _ pd hpd _ hu
      rw [r11 pd hpd] at hu; cases hu
    · trivial
  · rintro (g | ⟨d, _, g⟩)
    · unfold Sel at g; rw [r10] at g; cases g
    · unfold RespSeenD at g
      split at g
      · obtain ⟨_, pd, hpd, _, hu⟩ := g
        rw [r11 pd hpd] at hu; cases hu
      · exact g

/-- `ReadyF` without the clause `¬ NomSeenD ∨ DPYD` (provenance of an existing selection of the controlling agent) -/
def ReadyF0 (pre : List SysEv) (c : Bool) (T0 H : Nat) (s : Sys) : Prop :=
  s.hasB = true ∧ (∀ x, (s.agent x).controlling = (x == c)) ∧
  (∀ x, (s.agent x).remoteUfrag = (s.agent (!x)).localUfrag) ∧ (∀ x, (s.agent x).remotePwd = (s.agent (!x)).localPwd) ∧
  s.a.localPwd ≠ s.b.localPwd ∧ Disj s ∧
  (∀ x, GoodD T0 H (s.agent x)) ∧
  (∀ d ∈ s.inflight, DgOKd s d) ∧ FilterOK s ∧
  PendAgreeD s c ∧
  T0 ≤ s.now ∧ s.now ≤ H ∧ TickSoon s.now (s.agent c) ∧
  (∀ la ∈ localAddrsOf c pre, ∀ x ∈ localAddrsOf c pre, (x, mappedL s.nat la) ∈ s.blocked) ∧
  (∀ x ∈ localAddrsOf (!c) pre, ((s.agent (!c)).localByAddr x).isSome = true)

instance (pre : List SysEv) (c : Bool) (T0 H : Nat) (s : Sys) : Decidable (ReadyF0 pre c T0 H s) := by
  unfold ReadyF0 Disj FilterOK
  infer_instance

theorem ReadyF.readyF0 {pre : List SysEv} {c : Bool} {T0 H L : Nat} {s : Sys} (h : ReadyF pre c T0 H L s) :
    ReadyF0 pre c T0 H s := by
  obtain ⟨r1, r2, r3, r4, r5, r6, r7, r8, r9, r10, _, r12, r13, r14, r15, r16⟩ := h
  exact ⟨r1, r2, r3, r4, r5, r6, r7, r8, r9, r10, r12, r13, r14, r15, r16⟩

theorem ready_finv0 {s0 : Sys} {pre : List SysEv} (hi : Sys.Init s0) (hf : FreshSel s0) (hs : LocalsSane s0.nat pre)
    {c : Bool} {T0 H J : Nat} (hr : ReadyF0 pre c T0 H (Sys.runs s0 pre))
    (hfuel : J < 99998 * Config.minInterval ((Sys.runs s0 pre).agent c).cfg) (hj : J < maxBindingRequestTimeout) :
    FInv s0.nat s0.blocked (SLof s0.nat pre false) (SLof s0.nat pre true) (SRof s0.nat pre) s0.a.cfg.lite s0.b.cfg.lite
      T0 H J c (Sys.runs s0 pre) := by
  obtain ⟨r1, r2, r3, r4, r5, r6, r7, r8, r9, r10, r12, r13, r14, r15, r16⟩ := hr
  obtain ⟨tn, tb, _⟩ := Sys.runs_topology s0 pre
  refine ⟨⟨reach_inv hi hs (fun e he => he), ⟨SLof_sane, SLof_SRof, ?_, ?_⟩, c06_runs (c06_init hi hf) pre,
    fun x => (r7 x).good, ⟨r1, r2, r3, r4, r5, r6⟩, fun d hd => (r8 d hd).ok, r9, r10.agree, r12, r13⟩, ?_, hfuel, hj⟩
  · intro la x hla hx
    have : ∀ y, (if c then SLof s0.nat pre true else SLof s0.nat pre false) y → y ∈ localAddrsOf c pre := by
      intro y hy; cases c <;> exact hy.2
    have := r15 la (this la hla) x (this x hx)
    rw [tn, tb] at this
    exact this
  · intro x hx
    have : x ∈ localAddrsOf (!c) pre := by cases c <;> exact hx.2
    exact r16 x this
  · unfold TickSoon at r14
    cases ht : ((Sys.runs s0 pre).agent c).nextTick with
    | none => rw [ht] at r14; exact r14.elim
    | some t => rw [ht] at r14; exact ⟨t, rfl, r14.1, r14.2⟩

theorem ready_finv {s0 : Sys} {pre : List SysEv} (hi : Sys.Init s0) (hf : FreshSel s0) (hs : LocalsSane s0.nat pre)
    {c : Bool} {T0 H L J : Nat} (hr : ReadyF pre c T0 H L (Sys.runs s0 pre))
    (hfuel : J < 99998 * Config.minInterval ((Sys.runs s0 pre).agent c).cfg) (hj : J < maxBindingRequestTimeout) :
    FInv s0.nat s0.blocked (SLof s0.nat pre false) (SLof s0.nat pre true) (SRof s0.nat pre) s0.a.cfg.lite s0.b.cfg.lite
      T0 H J c (Sys.runs s0 pre) ∧ (NomSeen c (Sys.runs s0 pre) → DPY c L (Sys.runs s0 pre)) :=
  ⟨ready_finv0 hi hf hs hr.readyF0 hfuel hj, fun hseen => hr.2.2.2.2.2.2.2.2.2.2.1.elim (absurd hseen.seenD) DPYD.dpy⟩

theorem ready_rinv {s0 : Sys} {pre : List SysEv} (hi : Sys.Init s0) (hf : FreshSel s0) (hs : LocalsSane s0.nat pre)
    {c : Bool} {T0 H : Nat} (hr : ReadyD pre c T0 H (Sys.runs s0 pre)) :
    RInv s0.nat s0.blocked (SLof s0.nat pre false) (SLof s0.nat pre true) (SRof s0.nat pre) s0.a.cfg.lite s0.b.cfg.lite
      T0 H c (Sys.runs s0 pre) := by
  have hfi := ready_finv0 (J := 0) hi hf hs (hr.readyF 0).readyF0
    (Nat.mul_pos (by decide) (minInterval_pos _)) mbrt_pos
  refine ⟨hfi.ok, fun h => absurd h ?_, hfi.tick⟩
  obtain ⟨_, _, _, _, _, _, _, _, _, r10, r11, _⟩ := hr
  rintro (h | ⟨_, _, _, _, _, pd, hpd, _, hu⟩)
  · unfold Sel at h; rw [r10] at h; cases h
  · rw [r11 pd hpd] at hu; cases hu

theorem converge_ready {s0 : Sys} {pre suf : List SysEv} (hi : Sys.Init s0) (hf : FreshSel s0) (hs : LocalsSane s0.nat pre)
    {c : Bool} {T0 H L J B : Nat} (hr : ReadyF pre c T0 H L (Sys.runs s0 pre)) (hL : J + 2 * L < 4000000000)
    (hfuel : J < 99998 * Config.minInterval ((Sys.runs s0 pre).agent c).cfg)
    (hsuf : SufOK c H J (Sys.runs s0 pre) suf) (hfair : FairL L (Sys.runs s0 pre) suf)
    (hv : FInv s0.nat s0.blocked (SLof s0.nat pre false) (SLof s0.nat pre true) (SRof s0.nat pre) s0.a.cfg.lite s0.b.cfg.lite
        T0 H J c (Sys.runs s0 pre) → J + 2 * L < maxBindingRequestTimeout → B < (Sys.runs (Sys.runs s0 pre) suf).now →
      ValidBy c B (Sys.runs s0 pre) suf)
    (hend : validBound c L J B (Sys.runs s0 pre) < (Sys.runs s0 (pre ++ suf)).now) :
    ∀ x, ((Sys.runs s0 (pre ++ suf)).agent x).selected.isSome = true ∧
         ((Sys.runs s0 (pre ++ suf)).agent x).connState = .connected := by
  have hL' : J + 2 * L < maxBindingRequestTimeout := by unfold maxBindingRequestTimeout; exact hL
  obtain ⟨hfi, hlink⟩ := ready_finv (J := J) hi hf hs hr hfuel (by omega)
  rw [Sys.runs_append] at hend ⊢
  exact converge_fair_from hfi hsuf hfair hL' hlink (hv hfi hL' (Nat.lt_of_le_of_lt le_validBound hend)) hend

theorem filterMap_noApi {β : Type} (f : SysEv → Option β) (hf : ∀ e, (∀ b ev, e ≠ SysEv.api b ev) → f e = none)
    (pre suf : List SysEv) (h : ∀ e ∈ suf, ∀ b ev, e ≠ SysEv.api b ev) : (pre ++ suf).filterMap f = pre.filterMap f := by
  rw [List.filterMap_append, List.filterMap_eq_nil_iff.mpr fun e he => hf e (h e he), List.append_nil]

theorem localAddrsOf_noApi (isB : Bool) (pre suf : List SysEv) (h : ∀ e ∈ suf, ∀ b ev, e ≠ SysEv.api b ev) :
    localAddrsOf isB (pre ++ suf) = localAddrsOf isB pre :=
  filterMap_noApi _ (fun e he => by cases e <;> first | rfl | exact absurd rfl (he _ _)) pre suf h

theorem localAddrs_noApi (pre suf : List SysEv) (h : ∀ e ∈ suf, ∀ b ev, e ≠ SysEv.api b ev) :
    localAddrs (pre ++ suf) = localAddrs pre :=
  filterMap_noApi _ (fun e he => by cases e <;> first | rfl | exact absurd rfl (he _ _)) pre suf h

theorem full_noApi {s0 : Sys} {pre suf : List SysEv} (hi : Sys.Init s0) (hs : LocalsSane s0.nat pre)
    (hna : ∀ e ∈ suf, ∀ b ev, e ≠ SysEv.api b ev) (hfull : ∀ x, ((Sys.runs s0 pre).agent x).cfg.lite = false) :
    LocalsSane s0.nat (pre ++ suf) ∧ (Sys.runs s0 (pre ++ suf)).a.cfg.lite = false ∧
      (Sys.runs s0 (pre ++ suf)).b.cfg.lite = false := by
  have hs' : LocalsSane s0.nat (pre ++ suf) := by unfold LocalsSane; rw [localAddrs_noApi pre _ hna]; exact hs
  obtain ⟨_, _, hinv0⟩ := reach_inv hi hs (pre := pre) (fun e he => he)
  obtain ⟨_, _, hinv1⟩ := reach_inv hi hs' (pre := pre ++ suf) (fun e he => he)
  have key : ∀ x, ((Sys.runs s0 (pre ++ suf)).agent x).cfg.lite = false := fun x => by
    rw [hinv1.lite_eq x, ← hinv0.lite_eq x]; exact hfull x
  exact ⟨hs', key false, key true⟩

theorem not_api_of_fair {suf : List SysEv} (h : ∀ e ∈ suf, isFairEv e = true) : ∀ e ∈ suf, ∀ b ev, e ≠ SysEv.api b ev :=
  fun e he b ev hb => by have := h e he; rw [hb] at this; cases this

end IceProofs.C01Live

import IceProofs.Sys2C01LiveDisc2
/-!
# C01 liveness — the controlled agent's TICK as a progress step (quiet network)

The good pair exists only at the controlled agent `d = !c`, and its check is NOT in flight (lost in the prefix).  On a
quiet network (`QuietC`: nothing in flight is deliverable) nothing reaches anyone until the clock reaches `d`'s tick
(`quiet_until`; what is to last about the controlling agent meanwhile is a parameter, `Lasts`); that tick sends the check
(`cld_tick_sends`, `quiet_sends`), and `disc_valid` takes over.  `tick_valid`: the case in which `d`'s timer is due not
later than the timer of `c` (`QuietW`).
-/

namespace IceProofs.C01Live
open IceModel.AgentCore IceModel.Sys2 IceProofs.Sys2Run IceProofs.C01 IceProofs.Agent IceProofs.C03

/-- the hub will not hand this datagram to anyone -/
def Undeliv (s : Sys) (d : Dgram) : Prop := (d.src, d.dst) ∈ s.blocked ∨ s.owner (s.unmapped d.dst) = none

instance (s : Sys) (d : Dgram) : Decidable (Undeliv s d) := by unfold Undeliv; infer_instance

theorem undeliv_net {s s' : Sys} (hn : SameNet s s') {d : Dgram} (h : Undeliv s d) : Undeliv s' d := by
  unfold Undeliv at h ⊢
  have hu : s'.unmapped d.dst = s.unmapped d.dst := by simp [Sys.unmapped, hn.1]
  rw [hn.2.1, hn.2.2, hu]; exact h

theorem sameNet_trans {s1 s2 s3 : Sys} (h1 : SameNet s1 s2) (h2 : SameNet s2 s3) : SameNet s1 s3 :=
  ⟨h2.1.trans h1.1, h2.2.1.trans h1.2.1, fun x => (h2.2.2 x).trans (h1.2.2 x)⟩

/-- a quiet network up to the controlled agent's tick: nothing deliverable in flight, its timer due at `td` -/
structure QuietC (c : Bool) (td : Nat) (s : Sys) : Prop where
  und : ∀ dg ∈ s.inflight, Undeliv s dg
  tick : (s.agent (!c)).nextTick = some td
  now : s.now ≤ td

/-- agent `x` has a pair Waiting / In-Progress within its request budget on the addresses `la → ra` -/
def BudgetAt (s : Sys) (x : Bool) (la ra : Nat) : Prop :=
  ∃ p ∈ (s.agent x).checklist, (p.state = .waiting ∨ p.state = .inProgress) ∧
    p.reqCount ≤ (s.agent x).cfg.maxBindingRequests ∧
    ∃ l r, (s.agent x).localOf p.l = some l ∧ (s.agent x).remoteOf p.r = some r ∧ l.addr = la ∧ r.addr = ra

/-- the quiet start of a discovery: the controlled agent's pair `la → ra` under budget on a `Link`, source unknown to `c`,
the controlled agent's timer due at `td`, nothing deliverable in flight -/
structure QuietW (c : Bool) (la ra td : Nat) (s : Sys) : Prop where
  q : QuietC c td s
  link : Link s (!c) la ra
  unk : (s.agent c).findRemote 0 (s.mapped la) = none
  sel : (s.agent (!c)).selected = none
  pair : BudgetAt s (!c) la ra

section
variable (nat blocked : List (Nat × Nat)) (SLA SLB SR : Nat → Prop) (liteA liteB : Bool)

/-- what is asked of a condition `C` on the controlling agent so that it lasts through a quiet stretch: it survives a
datagram the hub drops, and a clock advance before the controlled agent's tick `td` — in which the controlling agent may
tick, provided what it sends is undeliverable -/
structure Lasts (T0 H J : Nat) (c : Bool) (td : Nat) (C : Sys → Prop) : Prop where
  drop : ∀ s1 s2 : Sys, SameNet s1 s2 → s2.agent c = s1.agent c → C s1 → C s2
  adv : ∀ (s1 : Sys) (T : Nat), FInv nat blocked SLA SLB SR liteA liteB T0 H J c s1 →
    FInv nat blocked SLA SLB SR liteA liteB T0 H J c (s1.advance T).1 → AdvEffect T0 T s1 (s1.advance T).1 → T ≤ H → T < td →
    QuietC c td s1 → C s1 →
    (∀ dg ∈ dgramsOf (step (s1.agent c) (.advance T)).2, Undeliv s1 dg) ∧ C (s1.advance T).1

end

section
variable {nat blocked : List (Nat × Nat)} {SLA SLB SR : Nat → Prop} {liteA liteB : Bool} {T0 H J L : Nat} {c : Bool}

theorem quiet_until {C : Sys → Prop} {s : Sys} {es : List SysEv} {td : Nat}
    (hC : Lasts nat blocked SLA SLB SR liteA liteB T0 H J c td C)
    (h : FInv nat blocked SLA SLB SR liteA liteB T0 H J c s) (hs : SufOK c H J s es) (w : QuietC c td s) (hc : C s)
    (hend : td < (Sys.runs s es).now) :
    ∃ e1 T e2 t, es = e1 ++ SysEv.advance T :: e2 ∧ (Sys.runs s e1).agent (!c) = s.agent (!c) ∧ SameNet s (Sys.runs s e1) ∧
      C (Sys.runs s e1) ∧ (Sys.runs s e1).now ≤ T ∧ td ≤ T ∧ T ≤ H ∧ ((Sys.runs s e1).agent c).nextTick = some t ∧ T ≤ t + J ∧
      (Sys.runs s e1).now ≤ td := by
  obtain ⟨e1, e, e2, q1, ⟨q0, q2, q3, q4, _⟩, T, t, rfl, q5⟩ := until_exit
    (Wait := fun s1 es1 => QuietC c td s1 ∧ s1.agent (!c) = s.agent (!c) ∧ SameNet s s1 ∧ C s1 ∧ td < (Sys.runs s1 es1).now)
    (Q := fun s1 e _ => ∃ T t, e = .advance T ∧ s1.now ≤ T ∧ td ≤ T ∧ T ≤ H ∧ (s1.agent c).nextTick = some t ∧ T ≤ t + J)
    (fun s1 e es1 h1 he ⟨w1, hag, hnet, hc1, hend1⟩ => by
      have hend1 : td < (Sys.runs (Sys.run s1 e) es1).now := hend1
      obtain ⟨h1', hv⟩ := h1.step he
      match hv with
      | .same (h := e') .. =>
        rw [e'] at hend1 ⊢; exact Or.inr ⟨w1, hag, hnet, hc1, hend1⟩
      | .dlv (hd := hd) (hk := hk) (eff := eff) .. =>
        -- nothing in flight is deliverable: the hub drops the datagram
        rcases eff.cases with ⟨hfl, hag', _⟩ | ⟨y, m, _, hown, hnb, _⟩
        · exact Or.inr ⟨⟨fun dg hdg => undeliv_net eff.net (w1.und dg (mem_of_mem_restOf (hfl ▸ hdg))),
            by rw [hag']; exact w1.tick, by rw [eff.now]; exact w1.now⟩, (hag' _).trans hag, sameNet_trans hnet eff.net,
            hC.drop _ _ eff.net (hag' c) hc1, hend1⟩
        · rcases w1.und hd (List.mem_of_getElem? hk) with hw | hw
          · exact absurd hw hnb
          · rw [hown] at hw; cases hw
      | .adv (T := T) (t := t) (he := hadv) (hle := hleT) (hH := hH) (ht := ht) (hT := hT) (eff := eff) (hs := e') .. =>
        subst hadv
        rcases Nat.lt_or_ge T td with hlt | hge
        · -- before the controlled agent's timer is due: it does nothing, the controlling agent sends nothing deliverable
          rw [e'] at h1' eff hend1 ⊢
          have hdq : step (s1.agent (!c)) (.advance T) = (s1.agent (!c), []) := step_advance_early w1.tick hlt
          obtain ⟨hout, hc2⟩ := hC.adv s1 T h1 h1' eff hH hlt w1 hc1
          have hagd : (s1.advance T).1.agent (!c) = s1.agent (!c) := by rw [eff.agent, hdq]
          refine Or.inr ⟨⟨fun dg hdg => undeliv_net eff.net ?_, by rw [hagd]; exact w1.tick, by rw [eff.now]; exact Nat.le_of_lt hlt⟩,
            hagd.trans hag, sameNet_trans hnet eff.net, hc2, hend1⟩
          rw [eff.flight] at hdg
          have hnil : dgramsOf (step (s1.agent (!c)) (.advance T)).2 = [] := by rw [hdq]; rfl
          rcases List.mem_append.mp hdg with hh | hb
          · rcases List.mem_append.mp hh with h0 | ha
            · exact w1.und dg h0
            · cases c
              · exact hout dg ha
              · rw [show s1.a = s1.agent (!true) from rfl, hnil] at ha; cases ha
          · cases c
            · rw [show s1.b = s1.agent (!false) from rfl, hnil] at hb; cases hb
            · exact hout dg hb
        · exact Or.inl ⟨T, t, rfl, hleT, hge, hH, ht, hT⟩)
    (fun s1 _ ⟨w1, _, _, _, hend1⟩ => by have := w1.now; exact absurd hend1 (by show ¬ td < s1.now; omega))
    h hs ⟨w, rfl, ⟨rfl, rfl, fun _ => rfl⟩, hc, hend⟩
  obtain ⟨a1, a2, a3, a4, a5⟩ := q5
  exact ⟨e1, T, e2, t, q1, q2, q3, q4, a1, a2, a3, a4, a5, q0.now⟩

theorem idle_lasts {s : Sys} {td tc : Nat} (htc : (s.agent c).nextTick = some tc) (hle : td ≤ tc) :
    Lasts nat blocked SLA SLB SR liteA liteB T0 H J c td (fun s1 => s1.agent c = s.agent c) where
  drop := fun _ _ _ e g => e.trans g
  adv := fun s1 T _ _ eff _ hlt _ g => by
    have hq : step (s1.agent c) (.advance T) = (s1.agent c, []) :=
      step_advance_early (by rw [g]; exact htc) (by omega)
    exact ⟨fun dg hdg => (by rw [hq] at hdg; cases hdg), (by rw [eff.agent, hq]; exact g)⟩

theorem quiet_prefix {s : Sys} {es : List SysEv} {td tc : Nat} (h : FInv nat blocked SLA SLB SR liteA liteB T0 H J c s)
    (hs : SufOK c H J s es) (w : QuietC c td s) (htc : (s.agent c).nextTick = some tc) (hle : td ≤ tc)
    (hend : td < (Sys.runs s es).now) :
    ∃ e1 T e2, es = e1 ++ SysEv.advance T :: e2 ∧ (∀ x, (Sys.runs s e1).agent x = s.agent x) ∧ SameNet s (Sys.runs s e1) ∧
      (Sys.runs s e1).now ≤ T ∧ td ≤ T ∧ T ≤ tc + J ∧ T ≤ H := by
  obtain ⟨e1, T, e2, t, q1, q2, q3, q4, q5, q6, q7, q8, q9, _⟩ := quiet_until (idle_lasts htc hle) h hs w rfl hend
  rw [q4, htc] at q8; cases q8
  refine ⟨e1, T, e2, q1, fun x => ?_, q3, q5, q6, q9, q7⟩
  by_cases hx : x = c
  · subst hx; exact q4
  · rw [Bool.eq_not_of_ne hx]; exact q2

theorem cld_tick_sends {s : Sys} (h : SysOK nat blocked SLA SLB SR liteA liteB T0 H c s) {T td la ra : Nat} (hTH : T ≤ H)
    (eff : AdvEffect T0 T s (s.advance T).1) (htk : (s.agent (!c)).nextTick = some td) (hge : td ≤ T)
    (hsel : (s.agent (!c)).selected = none) (hpair : BudgetAt s (!c) la ra) :
    ∃ (i : Nat) (dg : Dgram) (tid : Nat), (s.advance T).1.inflight[i]? = some dg ∧ ReqD (s.advance T).1 (!c) tid la ra false dg := by
  obtain ⟨p, hp, hst, hb, l, r, hl, hr, rfl, rfl⟩ := hpair
  have hctl : (s.agent (!c)).controlling = false := by rw [h.paired.role]; cases c <;> rfl
  obtain ⟨m, hout, hreq⟩ := cld_tick_ping (h.good (!c)) hTH htk hge hctl hsel hp hst hb hl hr
  have hin : ({ src := l.addr, dst := r.addr, p := .stun m } : Dgram) ∈ (s.advance T).1.inflight := by
    rw [eff.flight]
    have := mem_dgramsOf_of_dgram hout
    cases c
    · exact List.mem_append_right _ this
    · exact List.mem_append_left _ (List.mem_append_right _ this)
  obtain ⟨i, hi⟩ := List.getElem?_of_mem hin
  exact ⟨i, _, m.tid, hi, rfl, rfl, m, rfl, hreq.congr (eff.ids (!c)), rfl⟩

theorem BudgetAt.congr {s s' : Sys} {x : Bool} {la ra : Nat} (e : s'.agent x = s.agent x) (h : BudgetAt s x la ra) :
    BudgetAt s' x la ra := by unfold BudgetAt; rw [e]; exact h

/-- what the controlled agent's tick leaves: its check `la → ra` in flight on a `Link`, the source still unknown to `c` -/
def Sent (c : Bool) (la ra : Nat) (s : Sys) : Prop :=
  (∃ (i : Nat) (dg : Dgram) (tid : Nat), s.inflight[i]? = some dg ∧ ReqD s (!c) tid la ra false dg) ∧
  Link s (!c) la ra ∧ (s.agent c).findRemote 0 (s.mapped la) = none

theorem quiet_sends {C : Sys → Prop} {s : Sys} {es : List SysEv} {td la ra B : Nat}
    (hC : Lasts nat blocked SLA SLB SR liteA liteB T0 H J c td C)
    (hunk : ∀ s1, C s1 → (s1.agent c).findRemote 0 (s.mapped la) = none)
    (hB : ∀ s1 t, C s1 → (s1.agent c).nextTick = some t → s1.now ≤ td → t ≤ s1.now + 2000000000 → t + J ≤ B)
    (h : FInv nat blocked SLA SLB SR liteA liteB T0 H J c s) (hs : SufOK c H J s es) (w : QuietC c td s) (hc : C s)
    (hlink : Link s (!c) la ra) (hsel : (s.agent (!c)).selected = none) (hpair : BudgetAt s (!c) la ra)
    (hend : td < (Sys.runs s es).now) : By (Sent c la ra) B s es := by
  obtain ⟨e1, T, e2, t, rfl, hagd, hnet, hc1, hn1, hge, hTH, ht, hT, hnow⟩ := quiet_until hC h hs w hc hend
  have h1 := h.runs hs.head
  obtain ⟨_, eff, _, _, _⟩ := h1.advance hn1 hTH ht hT
  have hm : ((Sys.runs s e1).advance T).1.mapped la = s.mapped la := by simp [Sys.mapped, eff.net.1, hnet.1]
  refine ⟨e1 ++ [.advance T], e2, by simp, ?_, ?_⟩
  · rw [Sys.runs_snoc]
    refine ⟨cld_tick_sends h1.ok hTH eff (by rw [hagd]; exact w.tick) hge (by rw [hagd]; exact hsel) (hpair.congr hagd),
      eff.net.link (hnet.link hlink), ?_⟩
    show (((Sys.runs s e1).advance T).1.agent c).findRemote 0 (((Sys.runs s e1).advance T).1.mapped la) = none
    rw [eff.agent c, hm]
    exact runTimers_unknown _ _ _ (hunk _ hc1)
  · rw [Sys.runs_snoc]
    show ((Sys.runs s e1).advance T).1.now ≤ B
    obtain ⟨t', ht', _, l2⟩ := h1.tick
    rw [ht] at ht'; cases ht'
    have := hB _ t hc1 ht hnow l2
    rw [eff.now]; omega

theorem tick_valid {E : Nat} {s : Sys} {es : List SysEv} {la ra td tc : Nat}
    (h : Suf nat blocked SLA SLB SR liteA liteB T0 H J c L E s es) (hL : J + 2 * L < maxBindingRequestTimeout)
    (w : QuietW c la ra td s) (htc : (s.agent c).nextTick = some tc) (hle : td ≤ tc)
    (hend : tc + J + 3 * L < E) : By (fun s => HasSucc s c ∨ Sel s c) (tc + J + 3 * L) s es :=
  By.bind h (quiet_sends (idle_lasts htc hle)
      (fun _ g => by rw [g]; exact w.unk) (fun _ t g ht _ _ => by rw [g, htc] at ht; cases ht; exact Nat.le_refl _)
      h.inv h.ok w.q rfl w.link w.sel w.pair (by rw [h.fin]; omega))
    fun s' es' h' _ ⟨⟨i, dg, tid, hi, hreq⟩, hlink, hunk⟩ hn =>
      (disc_valid h' hL hi hreq hlink hunk (by omega)).mono (fun _ g => g) (by omega)

/-- **the quiet start condition** (decidable): nothing in flight is deliverable; the controlled agent `!c` has no selected
pair, its timer is due (`now ≤ td`) not later than the timer of `c`; it has a pair Waiting / In-Progress within its
request budget on an address pair reachable both ways (`Link`) whose local address `c` does not know as a remote
candidate -/
def TickReqD (c : Bool) (s : Sys) : Prop :=
  (∀ dg ∈ s.inflight, Undeliv s dg) ∧ (s.agent (!c)).selected = none ∧
  (match (s.agent (!c)).nextTick, (s.agent c).nextTick with
    | some td, some tc => s.now ≤ td ∧ td ≤ tc
    | _, _ => False) ∧
  ∃ p ∈ (s.agent (!c)).checklist, (p.state = .waiting ∨ p.state = .inProgress) ∧
    p.reqCount ≤ (s.agent (!c)).cfg.maxBindingRequests ∧
    match (s.agent (!c)).localOf p.l, (s.agent (!c)).remoteOf p.r with
    | some l, some r => Link s (!c) l.addr r.addr ∧ (s.agent c).findRemote 0 (s.mapped l.addr) = none
    | _, _ => False

instance (c : Bool) (s : Sys) : Decidable (TickReqD c s) := by
  unfold TickReqD
  refine @instDecidableAnd _ _ _ (@instDecidableAnd _ _ _ (@instDecidableAnd _ _ ?_ ?_))
  · split <;> infer_instance
  · refine @List.decidableBEx _ _ (fun p => ?_) _
    refine @instDecidableAnd _ _ _ (@instDecidableAnd _ _ _ ?_)
    split <;> infer_instance

/-- the time of the controlling agent's next tick (0 if none) -/
def ctlTick (c : Bool) (s : Sys) : Nat := ((s.agent c).nextTick).getD 0

theorem tick_valid_D {s : Sys} {es : List SysEv} (h : FInv nat blocked SLA SLB SR liteA liteB T0 H J c s)
    (hs : SufOK c H J s es) (hf : FairL L s es) (hL : J + 2 * L < maxBindingRequestTimeout) (hd : TickReqD c s)
    (hend : ctlTick c s + J + 3 * L < (Sys.runs s es).now) : ValidBy c (ctlTick c s + J + 3 * L) s es := by
  obtain ⟨h1, h2, h3, p, hp, hst, hb, h4⟩ := hd
  obtain ⟨td, tc, htd, htc, h3⟩ := ticks_some h3
  obtain ⟨l, r, hl, hr, h4⟩ := ends_some h4
  have e : ctlTick c s = tc := by unfold ctlTick; rw [htc]; rfl
  rw [e] at hend ⊢
  exact validBy_iff.2 (tick_valid ⟨h, hs, hf, rfl⟩ hL ⟨⟨h1, htd, h3.1⟩, h4.1, h4.2, h2, p, hp, hst, hb, l, r, hl, hr, rfl, rfl⟩
    htc h3.2 hend)

end

end IceProofs.C01Live

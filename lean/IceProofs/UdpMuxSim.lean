import IceProofs.UdpMuxInv
import IceSpec.C12
/-!
Simulation between the sequential model `IceModel.UdpMux` and the history state of the spec monitor
`IceSpec.C12`: that the code's canonical address and the spec's transport address determine each other
(`canon_eq_iff`), the relation `Sim`, its preservation by every elementary state change of `UdpMuxStep`, and
`StepTo.sim` over the outcomes of `StepTo` (`sim_step`): the monitor's verdict on the model's own output is `none`.
-/
namespace IceProofs.UdpMux
open IceModel.UdpMux
open IceSpec.C12 (SState endpoint srcIsV6 ufragOf to16 linkLocal isV4Value pow32 pow48 EP fupd setReg)

theorem llBits_zero : llBits 0 = false := by decide

theorem linkLocal_eq (hl : Nat × Nat) : linkLocal hl = llBits hl.1 := rfl

theorem endpoint_eq (a : Addr) :
    endpoint a =
      if V4ish a.ip then { hi := 0, lo := 65535 * pow32 + a.ip.lo % pow32, zone := [], port := a.port }
      else { hi := a.ip.hi, lo := a.ip.lo, zone := if llBits a.ip.hi = true then a.ip.zone else [], port := a.port } := by
  obtain ⟨⟨is4, hi, lo, zone⟩, port⟩ := a
  cases is4
  · by_cases h : hi = 0 ∧ lo / two32 = 65535
    · obtain ⟨h1, h2⟩ := h
      subst h1
      have hlo : lo = 65535 * pow32 + lo % pow32 := by
        have := Nat.div_add_mod lo pow32
        simp only [two32] at h2; simp only [pow32] at this ⊢; omega
      simp only [endpoint, to16, linkLocal_eq, llBits_zero, V4ish, h2]
      simp [llBits_zero]
      exact hlo
    · have hv : ¬ V4ish { is4 := false, hi := hi, lo := lo, zone := zone } := by simpa [V4ish] using h
      simp only [endpoint, to16, linkLocal_eq, hv]
      simp
  · simp [endpoint, to16, linkLocal_eq, llBits_zero, V4ish]

/-- the canonical address of a transport address: the 4-byte form for a value in `::ffff:0:0/96` -/
def ofEP (e : EP) : Addr :=
  if e.hi = 0 ∧ e.lo / two32 = 65535 then
    { ip := { is4 := true, hi := 0, lo := e.lo % two32, zone := [] }, port := e.port }
  else { ip := { is4 := false, hi := e.hi, lo := e.lo, zone := e.zone }, port := e.port }

theorem canonAddr_eq_ofEP (a : Addr) : canonAddr a = ofEP (endpoint a) := by
  rw [endpoint_eq]
  simp only [canonAddr, canonIP_eq]
  by_cases hv : V4ish a.ip
  · have h1 : (65535 * pow32 + a.ip.lo % pow32) / two32 = 65535 := by simp only [pow32, two32]; omega
    have h2 : (65535 * pow32 + a.ip.lo % pow32) % two32 = a.ip.lo % two32 := by
      simp only [pow32, two32]; omega
    simp only [hv, if_true, ofEP, h1, h2, and_self]
  · have h4 := is4_false_of_not_V4ish hv
    have hc : ¬ (a.ip.hi = 0 ∧ a.ip.lo / two32 = 65535) := fun h => hv (Or.inr h)
    obtain ⟨⟨is4, hi, lo, zone⟩, port⟩ := a
    simp only at h4 hc; subst h4
    by_cases hl : llBits hi = true
    · simp only [hv, if_false, ofEP, hc, hl, if_true]
    · simp only [hv, if_false, ofEP, hc, hl, Bool.false_eq_true]

theorem endpoint_canonAddr (a : Addr) : endpoint (canonAddr a) = endpoint a := by
  -- split before `endpoint_eq`: rewriting first copies the nested `if` of `canonIP_eq` into every field
  simp only [canonAddr, canonIP_eq]
  by_cases hv : V4ish a.ip
  · have hv' : V4ish { is4 := true, hi := 0, lo := a.ip.lo % two32, zone := [] } := Or.inl rfl
    simp only [hv, if_true]
    rw [endpoint_eq, endpoint_eq a]
    simp only [hv, hv', if_true]
    simp only [two32, pow32, Nat.mod_mod]
  · by_cases hl : llBits a.ip.hi = true
    · simp only [hv, if_false, hl, if_true]
    · have hv' : ¬ V4ish { is4 := a.ip.is4, hi := a.ip.hi, lo := a.ip.lo, zone := [] } := hv
      simp only [hv, if_false, hl, Bool.false_eq_true]
      rw [endpoint_eq, endpoint_eq a]
      simp only [hv, hv', if_false, hl, Bool.false_eq_true]

theorem canon_eq_iff (a b : Addr) : canonAddr a = canonAddr b ↔ endpoint a = endpoint b := by
  constructor
  · intro h
    rw [← endpoint_canonAddr a, h, endpoint_canonAddr b]
  · intro h
    rw [canonAddr_eq_ofEP a, h, ← canonAddr_eq_ofEP b]

theorem srcIsV6_eq (a : Addr) : srcIsV6 a = !(canonAddr a).ip.is4 := by
  simp only [canonAddr, canonIP_is4, srcIsV6]
  congr 1
  obtain ⟨⟨is4, hi, lo, zone⟩, port⟩ := a
  cases is4
  · simp only [to16, isV4Value, V4ish, two32, pow32]
    by_cases h1 : hi = 0 <;> by_cases h2 : lo / 4294967296 = 65535 <;> simp [h1, h2]
  · simp only [to16, isV4Value, V4ish, pow32]
    have : (65535 * 4294967296 + lo % 4294967296) / 4294967296 = 65535 := by omega
    simp [this]

theorem ufragOf_eq (n : Name) : ufragOf n = beforeColon n := by
  induction n with
  | nil => rfl
  | cons c r ih =>
    simp only [ufragOf, beforeColon, List.takeWhile]
    by_cases h : c = 58
    · simp [h]
    · have h' : (c != 58) = true := by simp [h]
      simp only [h, if_false, h']
      exact congrArg (c :: ·) ih

structure Sim (m : Mux) (s : SState) : Prop where
  nh : s.nh = m.nhandles
  nc : s.nc = m.nconns
  hconn : ∀ h, s.hconn h = if h < m.nhandles then some (m.hconn h) else none
  hopen : ∀ h, h < m.nhandles → s.hopen h = !m.hclosed h
  ckey : ∀ c, c < m.nconns → s.ckey c = ((m.conn c).key, (m.conn c).v6)
  /-- the model closes a connection when it is closed (last handle, mux close) or removed -/
  closed : ∀ c, c < m.nconns → (m.conn c).closed = (s.closed c || s.removed c)
  reaped : ∀ c, c < m.nconns → s.reaped c = (m.conn c).watched
  mclosed : s.muxClosed = m.closed
  /-- suffix `F`: from a table of the model forward to the history; suffix `B`: back from the history to the model,
  up to what removal and the watcher have deleted on the model's side and the history keeps -/
  regF : ∀ u f c, (famMap m f).get? u = some c → s.reg u f = some c
  regB : ∀ u f c, s.reg u f = some c →
    c < m.nconns ∧ s.removed c = false ∧ ((famMap m f).get? u = some c ∨ (m.conn c).watched = true)
  /-- a registration is of the key the connection was handed out for -/
  regK : ∀ u f c, s.reg u f = some c → s.ckey c = (u, f)
  lwF : ∀ x c, m.addrMap (canonAddr x) = some c → s.lastW (endpoint x) = some c
  lwB : ∀ x c, s.lastW (endpoint x) = some c →
    c < m.nconns ∧ (s.removed c = true ∨ (m.conn c).watched = true ∨ m.addrMap (canonAddr x) = some c)
  remB : ∀ c, c < m.nconns → s.removed c = true → ∀ a, m.addrMap a ≠ some c
  queue : ∀ c, c < m.nconns → (m.conn c).closed = false →
    s.queue c = (m.conn c).fifo.map (fun p => (p.pid, p.src))

theorem sim_init : Sim init SState.init := by
  constructor <;> simp [init, SState.init, AMap.get?_nil, famMap]

theorem fupd_same {α β : Type} [DecidableEq α] (g : α → β) (i : α) (v : β) : fupd g i v i = v := by simp [fupd]
theorem fupd_ne {α β : Type} [DecidableEq α] (g : α → β) {i j : α} (v : β) (h : j ≠ i) : fupd g i v j = g j := by
  simp [fupd, h]
theorem fupd_apply {α β : Type} [DecidableEq α] (g : α → β) (i j : α) (v : β) :
    fupd g i v j = if j = i then v else g j := rfl
theorem setReg_apply (reg : Name → Bool → Option Nat) (u : Name) (f : Bool) (v : Option Nat) (u' : Name) (f' : Bool) :
    setReg reg u f v u' f' = if u' = u ∧ f' = f then v else reg u' f' := rfl

theorem Sim.hconn_lt {m : Mux} {s : SState} (hs : Sim m s) {h : Nat} (h1 : h < m.nhandles) :
    s.hconn h = some (m.hconn h) := by rw [hs.hconn h, if_pos h1]

theorem Sim.hconn_ge {m : Mux} {s : SState} (hs : Sim m s) {h : Nat} (h1 : h ≥ m.nhandles) : s.hconn h = none := by
  rw [hs.hconn h, if_neg (by omega)]

/-- spec state after `GetConn` returned handle `nh` on connection `c` -/
def sGet (s : SState) (u : Name) (v6 : Bool) (c : Nat) : SState :=
  let s1 : SState :=
    if c = s.nc then
      { s with nc := s.nc + 1, ckey := fupd s.ckey c (u, v6), closed := fupd s.closed c false,
               removed := fupd s.removed c false, reaped := fupd s.reaped c false, queue := fupd s.queue c [] }
    else s
  { s1 with nh := s.nh + 1, hconn := fupd s1.hconn s.nh (some c), hopen := fupd s1.hopen s.nh true,
            reg := setReg s1.reg u v6 (some c) }

theorem step_getConn_conn (s : SState) (u : Name) (v6 : Bool) (c : Nat)
    (hc : c ≤ s.nc) (hreg : c < s.nc → s.reg u v6 = some c) :
    IceSpec.C12.step s (.getConn u v6) (.conn s.nh c) = (sGet s u v6 c, none) := by
  simp only [IceSpec.C12.step, sGet]
  have h2 : ¬ c > s.nc := by omega
  have h3 : ¬ (c < s.nc ∧ s.reg u v6 ≠ some c) := fun h => h.2 (hreg h.1)
  simp only [ne_eq, not_true_eq_false, if_false, h2, h3]
  by_cases e : c = s.nc <;> simp [e]

theorem sim_addHandle (m : Mux) (s : SState) (hs : Sim m s) (c : Nat) :
    Sim (addHandle m c) { s with nh := s.nh + 1, hconn := fupd s.hconn s.nh (some c), hopen := fupd s.hopen s.nh true } := by
  have hw : ∀ c', ((addHandle m c).conn c').watched = (m.conn c').watched := addHandle_proj Conn.watched (fun _ _ => rfl) m c
  have hcl : ∀ c', ((addHandle m c).conn c').closed = (m.conn c').closed := addHandle_proj Conn.closed (fun _ _ => rfl) m c
  exact
  { hs with
    nh := by show s.nh + 1 = m.nhandles + 1; rw [hs.nh]
    hconn := by
      intro h
      show fupd s.hconn s.nh (some c) h = if h < m.nhandles + 1 then some (upd m.hconn m.nhandles c h) else none
      rw [fupd_apply, upd_apply, hs.nh, hs.hconn h]
      by_cases e : h = m.nhandles
      · simp [e]
      · by_cases h1 : h < m.nhandles
        · simp [e, h1, Nat.lt_succ_of_lt h1]
        · have : ¬ h < m.nhandles + 1 := by omega
          simp [e, h1, this]
    hopen := by
      intro h hh
      show fupd s.hopen s.nh true h = !(upd m.hclosed m.nhandles false h)
      rw [fupd_apply, upd_apply, hs.nh]
      by_cases e : h = m.nhandles
      · simp [e]
      · simp only [e, if_false]
        exact hs.hopen h (by simp only [addHandle_nhandles] at hh; omega)
    ckey := fun c' h => by
      rw [addHandle_proj Conn.key (fun _ _ => rfl), addHandle_proj Conn.v6 (fun _ _ => rfl)]; exact hs.ckey c' h
    closed := fun c' h => by rw [hcl]; exact hs.closed c' h
    reaped := fun c' h => by rw [hw]; exact hs.reaped c' h
    regB := fun u f c' h => by rw [hw]; exact hs.regB u f c' h
    lwB := fun x c' h => by rw [hw]; exact hs.lwB x c' h
    queue := fun c' h1 h2 => by
      rw [hcl] at h2
      rw [addHandle_proj Conn.fifo (fun _ _ => rfl)]; exact hs.queue c' h1 h2 }

theorem sim_mkConn (m : Mux) (s : SState) (hs : Sim m s) (u : Name) (v6 : Bool) :
    Sim (mkConn m u v6)
      { s with nc := s.nc + 1, ckey := fupd s.ckey s.nc (u, v6), closed := fupd s.closed s.nc false,
               removed := fupd s.removed s.nc false, reaped := fupd s.reaped s.nc false,
               queue := fupd s.queue s.nc [], reg := setReg s.reg u v6 (some s.nc) } := by
  have hnc : s.nc = m.nconns := hs.nc
  -- every connection is the new one (an empty record) or an old one (`mkConn_old`), unchanged
  rw [hnc]
  constructor
  · exact hs.nh
  · rfl
  · exact hs.hconn
  · exact hs.hopen
  · intro c h
    show fupd s.ckey m.nconns (u, v6) c = _
    rw [fupd_apply]
    by_cases e : c = m.nconns
    · subst e; rw [if_pos rfl, mkConn_conn_new]
    · rw [if_neg e, mkConn_conn_old m u v6 c (mkConn_old h e)]; exact hs.ckey c (mkConn_old h e)
  · intro c h
    show _ = (fupd s.closed m.nconns false c || fupd s.removed m.nconns false c)
    rw [fupd_apply, fupd_apply]
    by_cases e : c = m.nconns
    · subst e; rw [if_pos rfl, if_pos rfl, mkConn_conn_new]; rfl
    · rw [if_neg e, if_neg e, mkConn_conn_old m u v6 c (mkConn_old h e)]; exact hs.closed c (mkConn_old h e)
  · intro c h
    show fupd s.reaped m.nconns false c = _
    rw [fupd_apply]
    by_cases e : c = m.nconns
    · subst e; rw [if_pos rfl, mkConn_conn_new]; rfl
    · rw [if_neg e, mkConn_conn_old m u v6 c (mkConn_old h e)]; exact hs.reaped c (mkConn_old h e)
  · exact hs.mclosed
  · intro u' f c h
    rw [famMap_mkConn_get] at h
    show setReg s.reg u v6 (some m.nconns) u' f = some c
    rw [setReg_apply]
    split at h
    · next hh => rw [if_pos ⟨hh.2, hh.1⟩]; exact h
    · next hh => rw [if_neg (fun x => hh ⟨x.2, x.1⟩)]; exact hs.regF u' f c h
  · intro u' f c h
    change setReg s.reg u v6 (some m.nconns) u' f = some c at h
    rw [setReg_apply] at h
    show c < m.nconns + 1 ∧ fupd s.removed m.nconns false c = false ∧ _
    rw [famMap_mkConn_get, fupd_apply]
    split at h
    · next hh =>
      injection h with h; subst h
      exact ⟨Nat.lt_succ_self _, by rw [if_pos rfl], Or.inl (by rw [if_pos ⟨hh.2, hh.1⟩])⟩
    · next hh =>
      obtain ⟨r1, r2, r3⟩ := hs.regB u' f c h
      rw [if_neg (Nat.ne_of_lt r1), if_neg (fun x => hh ⟨x.2, x.1⟩), mkConn_conn_old m u v6 c r1]
      exact ⟨Nat.lt_succ_of_lt r1, r2, r3⟩
  · intro u' f c h
    change setReg s.reg u v6 (some m.nconns) u' f = some c at h
    rw [setReg_apply] at h
    show fupd s.ckey m.nconns (u, v6) c = _
    rw [fupd_apply]
    split at h
    · next hh => injection h with h; subst h; rw [if_pos rfl, hh.1, hh.2]
    · rw [if_neg (Nat.ne_of_lt (hs.regB u' f c h).1)]; exact hs.regK u' f c h
  · exact hs.lwF
  · intro x c h
    obtain ⟨l1, l2⟩ := hs.lwB x c h
    show c < m.nconns + 1 ∧ (fupd s.removed m.nconns false c = true ∨ _)
    rw [fupd_apply, if_neg (Nat.ne_of_lt l1), mkConn_conn_old m u v6 c l1]
    exact ⟨Nat.lt_succ_of_lt l1, l2⟩
  · intro c h1 h2
    change fupd s.removed m.nconns false c = true at h2
    rw [fupd_apply] at h2
    split at h2
    · cases h2
    · next e => exact hs.remB c (mkConn_old h1 e) h2
  · intro c h1 h2
    show fupd s.queue m.nconns [] c = _
    rw [fupd_apply]
    by_cases e : c = m.nconns
    · subst e; rw [if_pos rfl, mkConn_conn_new]; rfl
    · rw [mkConn_conn_old m u v6 c (mkConn_old h1 e)] at h2 ⊢
      rw [if_neg e]; exact hs.queue c (mkConn_old h1 e) h2

theorem sim_write_core (m : Mux) (s : SState) (hs : Sim m s) (c : Nat) (dst : Addr)
    (hc : c < m.nconns) (hnr : s.removed c = false) (f : Nat → Conn) (am : Addr → Option Nat)
    (k1 : ∀ c', (f c').key = (m.conn c').key) (k2 : ∀ c', (f c').v6 = (m.conn c').v6)
    (k3 : ∀ c', (f c').closed = (m.conn c').closed) (k4 : ∀ c', (f c').watched = (m.conn c').watched)
    (k5 : ∀ c', (f c').fifo = (m.conn c').fifo)
    (ha : ∀ k, am k = if k = canonAddr dst then some c else m.addrMap k) :
    Sim { m with conn := f, addrMap := am } { s with lastW := fupd s.lastW (endpoint dst) (some c) } :=
  { hs with
    ckey := fun c' h => by dsimp only; rw [k1, k2]; exact hs.ckey c' h
    closed := fun c' h => by dsimp only; rw [k3]; exact hs.closed c' h
    reaped := fun c' h => by dsimp only; rw [k4]; exact hs.reaped c' h
    regB := fun u g c' h => by dsimp only; rw [k4]; exact hs.regB u g c' h
    lwF := fun x c' h => by
      dsimp only at h ⊢
      rw [ha] at h
      rw [fupd_apply]
      by_cases e : canonAddr x = canonAddr dst
      · rw [if_pos e] at h
        rw [if_pos ((canon_eq_iff x dst).mp e)]; exact h
      · rw [if_neg e] at h
        rw [if_neg (fun h' => e ((canon_eq_iff x dst).mpr h'))]; exact hs.lwF x c' h
    lwB := fun x c' h => by
      dsimp only at h ⊢
      rw [fupd_apply] at h
      rw [k4, ha]
      by_cases e : endpoint x = endpoint dst
      · rw [if_pos e] at h
        injection h with h; subst h
        rw [if_pos ((canon_eq_iff x dst).mpr e)]
        exact ⟨hc, Or.inr (Or.inr rfl)⟩
      · rw [if_neg e] at h
        rw [if_neg (fun h' => e ((canon_eq_iff x dst).mp h'))]
        exact hs.lwB x c' h
    remB := fun c' h1 h2 a => by
      dsimp only
      rw [ha]
      split
      · intro e; injection e with e; subst e; rw [hnr] at h2; cases h2
      · exact hs.remB c' h1 h2 a
    queue := fun c' h1 h2 => by
      dsimp only at h2 ⊢
      rw [k3] at h2; rw [k5]; exact hs.queue c' h1 h2 }

theorem removed_closed_false_of_open (m : Mux) (s : SState) (hs : Sim m s) (c : Nat) (hc : c < m.nconns)
    (h : (m.conn c).closed = false) : s.removed c = false ∧ s.closed c = false := by
  have := hs.closed c hc
  rw [h] at this
  cases h1 : s.removed c <;> cases h2 : s.closed c <;> simp [h1, h2] at this ⊢

theorem sim_conn_frame (m : Mux) (s : SState) (hs : Sim m s) (f : Nat → Conn) (hcl' ho' : Nat → Bool)
    (cl : Nat → Bool) (q : Nat → List (Nat × Addr))
    (k1 : ∀ c, (f c).key = (m.conn c).key) (k2 : ∀ c, (f c).v6 = (m.conn c).v6)
    (k3 : ∀ c, (f c).watched = (m.conn c).watched)
    (hop : ∀ h, h < m.nhandles → ho' h = !hcl' h)
    (hc : ∀ c, c < m.nconns → (f c).closed = (cl c || s.removed c))
    (hq : ∀ c, c < m.nconns → (f c).closed = false → q c = (f c).fifo.map (fun p => (p.pid, p.src))) :
    Sim { m with conn := f, hclosed := hcl' } { s with hopen := ho', closed := cl, queue := q } :=
  { hs with
    hopen := hop
    ckey := fun c h => by dsimp only; rw [k1, k2]; exact hs.ckey c h
    closed := hc
    reaped := fun c h => by dsimp only; rw [k3]; exact hs.reaped c h
    regB := fun u g c h => by dsimp only; rw [k3]; exact hs.regB u g c h
    lwB := fun x c h => by dsimp only; rw [k3]; exact hs.lwB x c h
    queue := hq }

theorem sim_setFifo (m : Mux) (s : SState) (hs : Sim m s) (c : Nat) (l : List Pkt) :
    Sim (setFifo m c l) { s with queue := fupd s.queue c (l.map (fun p => (p.pid, p.src))) } := by
  have hcl : ∀ c', (upd m.conn c { m.conn c with fifo := l } c').closed = (m.conn c').closed :=
    upd_proj Conn.closed _ _ _ rfl
  apply sim_conn_frame m s hs _ m.hclosed s.hopen s.closed
  · exact upd_proj Conn.key _ _ _ rfl
  · exact upd_proj Conn.v6 _ _ _ rfl
  · exact upd_proj Conn.watched _ _ _ rfl
  · exact hs.hopen
  · intro c' h; rw [hcl]; exact hs.closed c' h
  · intro c' h1 h2
    rw [hcl] at h2
    rw [fupd_apply, upd_apply]
    split
    · rfl
    · exact hs.queue c' h1 h2

theorem byUfrag_eq (m : Mux) (s : SState) (hi : Inv m) (hs : Sim m s) (src : Addr) (k : Kind) :
    IceSpec.C12.byUfrag s src k =
      match lookupUfrag m (canonAddr src) k with
      | some c => if (m.conn c).closed then none else some c
      | none => none := by
  cases k with
  | stunUser n =>
    simp only [IceSpec.C12.byUfrag, lookupUfrag, ufragOf_eq, srcIsV6_eq]
    cases hg : (famMap m (!(canonAddr src).ip.is4)).get? (beforeColon n) with
    | some c =>
      have hr := hs.regF _ _ c hg
      obtain ⟨r1, r2, _⟩ := hs.regB _ _ c hr
      have hc := hs.closed c r1
      simp only [hr, hc, r2, Bool.or_false]
    | none =>
      simp only
      cases hr : s.reg (beforeColon n) (!(canonAddr src).ip.is4) with
      | none => rfl
      | some c =>
        obtain ⟨r1, r2, r3⟩ := hs.regB _ _ c hr
        rcases r3 with r3 | r3
        · rw [hg] at r3; cases r3
        · have hc := hs.closed c r1
          rw [(hi.watched c r1 r3).1, r2] at hc
          simp only [Bool.or_false] at hc
          simp [← hc]
  | stunNoUser => rfl
  | stunBad => rfl
  | nonStun => rfl

theorem expected_eq (m : Mux) (s : SState) (hi : Inv m) (hs : Sim m s) (src : Addr) (k : Kind) :
    IceSpec.C12.expected s src k = dest m src k := by
  unfold IceSpec.C12.expected dest lookupDest
  rw [hs.mclosed]
  split
  · rfl
  cases hm : m.addrMap (canonAddr src) with
  | some c =>
    obtain ⟨a1, _⟩ := hi.amap _ c hm
    have hl := hs.lwF src c hm
    have hr : s.removed c = false := by
      cases hr : s.removed c
      · rfl
      · exact absurd hm (hs.remB c a1 hr _)
    have hc := hs.closed c a1
    simp only [hl, hr, Bool.false_eq_true, if_false]
    cases hsc : s.closed c
    · simp [hc, hsc, hr]
    · have hre : s.reaped c = false := by
        cases hw : (m.conn c).watched
        · rw [hs.reaped c a1]; exact hw
        · exact absurd hm ((hi.watched c a1 hw).2.2 _)
      simp [hc, hsc, hre]
  | none =>
    simp only
    refine Eq.trans ?_ (byUfrag_eq m s hi hs src k)
    cases hl : s.lastW (endpoint src) with
    | none => rfl
    | some c =>
      obtain ⟨l1, l2⟩ := hs.lwB src c hl
      simp only
      rcases l2 with l2 | l2 | l2
      · simp [l2]
      · cases hr : s.removed c
        · have hc := hs.closed c l1
          rw [(hi.watched c l1 l2).1, hr] at hc
          simp only [Bool.or_false] at hc
          have hre := hs.reaped c l1
          rw [l2] at hre
          simp [← hc, hre]
        · simp
      · rw [hm] at l2; cases l2

theorem step_inbound_delivered (s : SState) (src : Addr) (k : Kind) (pid c : Nat)
    (he : IceSpec.C12.expected s src k = some c) :
    IceSpec.C12.step s (.inbound src k pid) (.delivered c) =
      ({ s with queue := fupd s.queue c (s.queue c ++ [(pid, src)]) }, none) := by
  simp only [IceSpec.C12.step, IceSpec.C12.inboundVerdict, he, if_true]

theorem step_inbound_dropped (s : SState) (src : Addr) (k : Kind) (pid : Nat)
    (he : IceSpec.C12.expected s src k = none) :
    IceSpec.C12.step s (.inbound src k pid) .dropped = (s, none) := by
  simp only [IceSpec.C12.step, IceSpec.C12.inboundVerdict, he]

theorem step_read_none (s : SState) (h : Nat) (hh : s.hconn h = none) :
    IceSpec.C12.step s (.read h) .bad = (s, none) := by
  simp only [IceSpec.C12.step, hh]

theorem step_read_other (s : SState) (h c : Nat) (o : Out) (hh : s.hconn h = some c)
    (ho : o = .errClosed ∨ o = .eof) : IceSpec.C12.step s (.read h) o = (s, none) := by
  rcases ho with ho | ho <;> subst ho <;> simp only [IceSpec.C12.step, hh]

theorem step_read_empty (s : SState) (h c : Nat) (hh : s.hconn h = some c) (hq : s.queue c = []) :
    IceSpec.C12.step s (.read h) .empty = (s, none) := by
  simp only [IceSpec.C12.step, hh, hq, ne_eq, not_true_eq_false, and_false, if_false]

theorem step_read_pkt (s : SState) (h c pid : Nat) (src : Addr) (rest : List (Nat × Addr))
    (hh : s.hconn h = some c) (hq : s.queue c = (pid, src) :: rest) :
    IceSpec.C12.step s (.read h) (.pkt pid src) = ({ s with queue := fupd s.queue c rest }, none) := by
  simp only [IceSpec.C12.step, hh, hq, ne_eq, not_true_eq_false, if_false]

theorem step_closeHandle_none (s : SState) (h : Nat) (o : Out) (hh : s.hconn h = none) :
    IceSpec.C12.step s (.closeHandle h) o = (s, none) := by
  simp only [IceSpec.C12.step, hh]

theorem step_closeHandle_closed (s : SState) (h c : Nat) (o : Out) (hh : s.hconn h = some c) (ho : s.hopen h = false) :
    IceSpec.C12.step s (.closeHandle h) o = (s, none) := by
  simp only [IceSpec.C12.step, hh, ho, Bool.false_eq_true, if_false]

theorem step_closeHandle_open (s : SState) (h c : Nat) (o : Out) (hh : s.hconn h = some c) (ho : s.hopen h = true) :
    IceSpec.C12.step s (.closeHandle h) o =
      ({ s with hopen := fupd s.hopen h false
                closed := if IceSpec.C12.openHandles { s with hopen := fupd s.hopen h false } c = 0
                          then fupd s.closed c true else s.closed
                queue := if IceSpec.C12.openHandles { s with hopen := fupd s.hopen h false } c = 0
                         then fupd s.queue c [] else s.queue }, none) := by
  simp only [IceSpec.C12.step, hh, ho, if_true]
  split <;> rfl

theorem openHandles_eq (m : Mux) (s : SState) (c : Nat)
    (hn : s.nh = m.nhandles)
    (h1 : ∀ h, h < m.nhandles → s.hconn h = some (m.hconn h))
    (h2 : ∀ h, h < m.nhandles → s.hopen h = !m.hclosed h) :
    IceSpec.C12.openHandles s c = openCount m c := by
  unfold IceSpec.C12.openHandles openCount
  rw [cnt_range, hn]
  apply cnt_congr
  intro i hi
  rw [h1 i hi, h2 i hi]
  by_cases e : m.hconn i = c <;> simp [e]

theorem sim_closeOpen (m : Mux) (s : SState) (hi : Inv m) (hs : Sim m s) (h : Nat) (hlt : h < m.nhandles)
    (h2 : m.hclosed h = false) :
    Sim (closeOpen m h)
      { s with hopen := fupd s.hopen h false
               closed := if IceSpec.C12.openHandles { s with hopen := fupd s.hopen h false } (m.hconn h) = 0
                         then fupd s.closed (m.hconn h) true else s.closed
               queue := if IceSpec.C12.openHandles { s with hopen := fupd s.hopen h false } (m.hconn h) = 0
                        then fupd s.queue (m.hconn h) [] else s.queue } := by
  have hc := hi.hnd h hlt
  unfold closeOpen
  have hopn : ∀ i, i < m.nhandles → fupd s.hopen h false i = !(upd m.hclosed h true) i := by
    intro i hi'
    simp only [fupd_apply, upd_apply]
    by_cases e : i = h
    · simp [e]
    · simp only [e, if_false]; exact hs.hopen i hi'
  -- the monitor's test `no open handle left` is the model's test `refs ≤ 0`
  have hcount : IceSpec.C12.openHandles { s with hopen := fupd s.hopen h false } (m.hconn h)
      = openCount (dropRef m h) (m.hconn h) :=
    openHandles_eq (dropRef m h) _ _ hs.nh
      (fun i hi' => (hs.hconn i).trans (by simp only [dropRef] at hi' ⊢; simp [hi'])) hopn
  have hrefs := (inv_dropRef m hi h hlt h2).refs (m.hconn h) hc
  have hlast : ((dropRef m h).conn (m.hconn h)).refs ≤ 0 ↔ openCount (dropRef m h) (m.hconn h) = 0 := by
    rw [hrefs]; omega
  have hcl : ∀ c, ((dropRef m h).conn c).closed = (m.conn c).closed := dropRef_proj Conn.closed (fun _ _ => rfl) m h
  rw [hcount]
  apply sim_conn_frame m s hs _ (upd m.hclosed h true) (fupd s.hopen h false)
  · exact closeOpen_proj Conn.key (fun _ _ => rfl) (fun _ _ _ => rfl) m h
  · exact closeOpen_proj Conn.v6 (fun _ _ => rfl) (fun _ _ _ => rfl) m h
  · exact closeOpen_proj Conn.watched (fun _ _ => rfl) (fun _ _ _ => rfl) m h
  · exact hopn
  · intro c hc'
    by_cases e : c = m.hconn h ∧ ((dropRef m h).conn c).refs ≤ 0
    · obtain ⟨rfl, e2⟩ := e
      rw [if_pos ⟨rfl, e2⟩, if_pos (hlast.mp e2), closeC_closed, fupd_same]; rfl
    · rw [if_neg e, hcl, hs.closed c hc']
      split
      · next hz => rw [fupd_ne _ _ (fun x => e ⟨x, by rw [x]; exact hlast.mpr hz⟩)]
      · rfl
  · intro c hc' g
    by_cases e : c = m.hconn h ∧ ((dropRef m h).conn c).refs ≤ 0
    · rw [if_pos e, closeC_closed] at g; cases g
    · rw [if_neg e] at g ⊢
      rw [hcl] at g
      rw [dropRef_proj Conn.fifo (fun _ _ => rfl)]
      split
      · next hz => rw [fupd_ne _ _ (fun x => e ⟨x, by rw [x]; exact hlast.mpr hz⟩)]; exact hs.queue c hc' g
      · exact hs.queue c hc' g

theorem sim_reap (m : Mux) (s : SState) (hs : Sim m s) (c : Nat) :
    Sim (reap m c) { s with reaped := fupd s.reaped c true } :=
  { hs with
    ckey := fun c' h => by
      rw [reap_proj Conn.key (fun _ _ => rfl), reap_proj Conn.v6 (fun _ _ => rfl)]; exact hs.ckey c' h
    closed := fun c' h => by rw [reap_proj Conn.closed (fun _ _ => rfl)]; exact hs.closed c' h
    reaped := fun c' h => by
      rw [reap_watched]
      simp only [fupd_apply]
      split
      · rfl
      · exact hs.reaped c' h
    regF := fun u f c' h => by
      rw [famMap_reap_get] at h
      split at h
      · cases h
      · exact hs.regF u f c' h
    regB := fun u f c' h => by
      obtain ⟨r1, r2, r3⟩ := hs.regB u f c' h
      refine ⟨r1, r2, ?_⟩
      rw [famMap_reap_get, reap_watched]
      rcases r3 with r3 | r3
      · by_cases e : u = (m.conn c).key ∧ (famMap m f).get? (m.conn c).key = some c
        · right
          obtain ⟨e1, e2⟩ := e
          rw [← e1, r3] at e2; injection e2 with e2
          simp [e2]
        · left; rw [if_neg e]; exact r3
      · right; split
        · rfl
        · exact r3
    lwF := fun x c' h => hs.lwF x c' (reap_addrMap m c _ c' h).1
    lwB := fun x c' h => by
      obtain ⟨l1, l2⟩ := hs.lwB x c' h
      refine ⟨l1, ?_⟩
      rw [reap_watched]
      rcases l2 with l2 | l2 | l2
      · exact Or.inl l2
      · right; left; split
        · rfl
        · exact l2
      · by_cases e : c' = c
        · right; left; simp [e]
        · right; right
          simp only [reap]
          rw [if_neg]
          · exact l2
          · rintro ⟨_, e2⟩; rw [l2] at e2; injection e2 with e2; exact e e2
    remB := fun c' h1 h2 a h => hs.remB c' h1 h2 a (reap_addrMap m c a c' h).1
    queue := fun c' h1 h2 => by
      rw [reap_proj Conn.closed (fun _ _ => rfl)] at h2
      rw [reap_proj Conn.fifo (fun _ _ => rfl)]; exact hs.queue c' h1 h2 }

theorem sim_reaped_again (m : Mux) (s : SState) (hs : Sim m s) (c : Nat)
    (hw : (m.conn c).watched = true) : Sim m { s with reaped := fupd s.reaped c true } :=
  { hs with
    reaped := by
      intro c' h
      simp only [fupd_apply]
      split
      · next e => subst e; exact hw.symm
      · exact hs.reaped c' h }

theorem step_watcher_yes (s : SState) (c : Nat) (o : Out) (h : c < s.nc ∧ (s.closed c = true ∨ s.removed c = true)) :
    IceSpec.C12.step s (.watcherRun c) o = ({ s with reaped := fupd s.reaped c true }, none) := by
  simp only [IceSpec.C12.step, h, and_self, if_true]

theorem step_watcher_no (s : SState) (c : Nat) (o : Out) (h : ¬ (c < s.nc ∧ (s.closed c = true ∨ s.removed c = true))) :
    IceSpec.C12.step s (.watcherRun c) o = (s, none) := by
  simp only [IceSpec.C12.step, h, if_false]

theorem Sim.reapable {m : Mux} {s : SState} (hs : Sim m s) {c : Nat} (hc : c < m.nconns) :
    (m.conn c).closed = true ↔ c < s.nc ∧ (s.closed c = true ∨ s.removed c = true) := by
  rw [hs.closed c hc, hs.nc, Bool.or_eq_true]
  exact ⟨fun h => ⟨hc, h⟩, fun h => h.2⟩

theorem step_closeMux_closed (s : SState) (o : Out) (h : s.muxClosed = true) :
    IceSpec.C12.step s .closeMux o = (s, none) := by
  simp only [IceSpec.C12.step, h, if_true]

theorem step_closeMux_open (s : SState) (o : Out) (h : s.muxClosed = false) :
    IceSpec.C12.step s .closeMux o =
      ({ s with
         closed := fun c => s.closed c || (decide (c < s.nc) && IceSpec.C12.registeredNow s c)
         queue := fun c => if decide (c < s.nc) && IceSpec.C12.registeredNow s c then [] else s.queue c
         reg := fun _ _ => none
         muxClosed := true }, none) := by
  simp only [IceSpec.C12.step, h, Bool.false_eq_true, if_false]

theorem sim_closeAll (m : Mux) (s : SState) (hi : Inv m) (hs : Sim m s) :
    Sim (closeAll m)
      { s with
        closed := fun c => s.closed c || (decide (c < s.nc) && IceSpec.C12.registeredNow s c)
        queue := fun c => if decide (c < s.nc) && IceSpec.C12.registeredNow s c then [] else s.queue c
        reg := fun _ _ => none
        muxClosed := true } := by
  unfold closeAll
  exact
  { hs with
    ckey := fun c h => by
      dsimp only
      rw [closeIf_proj Conn.key (fun _ _ _ => rfl), closeIf_proj Conn.v6 (fun _ _ _ => rfl)]; exact hs.ckey c h
    closed := fun c h => by
      dsimp only at h ⊢
      have hck := hs.ckey c h
      have hsc := hs.closed c h
      rw [hs.nc]
      simp only [h, decide_true, Bool.true_and, IceSpec.C12.registeredNow, hck]
      split
      · next hin =>
        have hr := (mem_vals_registered m hi c hin).1
        rw [registered_famMap m hi] at hr
        rw [hs.regF _ _ c hr, closeC_closed]
        simp
      · next hn =>
        rw [hsc]
        cases hr : s.reg (m.conn c).key (m.conn c).v6 == some c
        · simp
        · have hr' : s.reg (m.conn c).key (m.conn c).v6 = some c := by simpa using hr
          obtain ⟨_, _, r3⟩ := hs.regB _ _ c hr'
          rcases r3 with r3 | r3
          · exact absurd (registered_mem_vals m c ((registered_famMap m hi c).mpr r3)) hn
          · have := (hi.watched c h r3).1
            rw [hsc] at this
            simp [this]
    reaped := fun c h => by
      dsimp only
      rw [closeIf_proj Conn.watched (fun _ _ _ => rfl)]; exact hs.reaped c h
    mclosed := rfl
    regF := fun u f c h => by cases f <;> simp [famMap, AMap.get?_nil] at h
    regB := fun u f c h => by cases h
    regK := fun u f c h => by cases h
    lwB := fun x c h => by
      obtain ⟨l1, l2⟩ := hs.lwB x c h
      refine ⟨l1, ?_⟩
      dsimp only
      rw [closeIf_proj Conn.watched (fun _ _ _ => rfl)]; exact l2
    queue := fun c h1 h2 => by
      have := closeMux_all_closed m hi c h1
      dsimp only at h2
      rw [h2] at this; cases this }

theorem removeOne_eq (s : SState) (u : Name) (f : Bool) :
    IceSpec.C12.removeOne s u f =
      { s with removed := fun c => s.removed c || (s.reg u f == some c)
               reg := fun u' f' => if u' = u ∧ f' = f then none else s.reg u' f' } := by
  obtain ⟨nh, hconn, hopen, nc, ckey, closed, removed, reaped, reg, lastW, queue, muxClosed⟩ := s
  simp only [IceSpec.C12.removeOne]
  cases h : reg u f with
  | none =>
    simp only [SState.mk.injEq, true_and]
    refine ⟨?_, ?_, trivial⟩
    · funext c; simp
    · funext u' f'
      by_cases e : u' = u ∧ f' = f
      · obtain ⟨e1, e2⟩ := e; subst e1; subst e2; simp [h]
      · simp [e]
  | some c0 =>
    simp only [SState.mk.injEq, true_and]
    refine ⟨?_, rfl, trivial⟩
    · funext c; simp only [fupd_apply]
      by_cases e : c = c0
      · subst e; simp
      · have : ¬ c0 = c := fun x => e x.symm
        simp [e, this]

theorem removeOne_both (s : SState) (u : Name) :
    IceSpec.C12.removeOne (IceSpec.C12.removeOne s u false) u true =
      { s with removed := fun c => s.removed c || (s.reg u false == some c) || (s.reg u true == some c)
               reg := fun u' f' => if u' = u then none else s.reg u' f' } := by
  rw [removeOne_eq, removeOne_eq]
  simp only [SState.mk.injEq, true_and, and_true]
  constructor
  · funext c; simp
  · funext u' f'
    by_cases e : u' = u
    · cases f' <;> simp [e]
    · simp [e]

theorem sim_removeByUfrag (m : Mux) (s : SState) (hi : Inv m) (hs : Sim m s) (u : Name) :
    Sim (removeByUfrag m u) (IceSpec.C12.step s (.removeByUfrag u) .done).1
    ∧ (IceSpec.C12.step s (.removeByUfrag u) .done).2 = none := by
  refine ⟨?_, rfl⟩
  show Sim _ (IceSpec.C12.removeOne (IceSpec.C12.removeOne s u false) u true)
  rw [removeOne_both]
  obtain ⟨e1, e2, e3, e4, e5⟩ := removeByUfrag_frame m u
  have hw : ∀ c, ((removeByUfrag m u).conn c).watched = (m.conn c).watched :=
    removeByUfrag_proj Conn.watched (fun _ _ _ => rfl) m u
  -- the connections the monitor marks as removed are the ones the model removes, or ones already reaped
  have hR : ∀ c g, s.reg u g = some c → regUnder m u c ∨ (m.conn c).watched = true :=
    fun c g h => (hs.regB u g c h).2.2.imp (fun x => ⟨g, x⟩) id
  have hD : ∀ c, regUnder m u c → ((s.reg u false == some c) || (s.reg u true == some c)) = true := by
    rintro c ⟨f, hf⟩
    have := hs.regF u f c hf
    cases f <;> simp [this]
  constructor
  · rw [e2]; exact hs.nh
  · rw [e1]; exact hs.nc
  · intro h; rw [e2, e3]; exact hs.hconn h
  · intro h hh; rw [e2] at hh; rw [e4]; exact hs.hopen h hh
  · intro c h
    rw [e1] at h
    rw [removeByUfrag_proj Conn.key (fun _ _ _ => rfl), removeByUfrag_proj Conn.v6 (fun _ _ _ => rfl)]
    exact hs.ckey c h
  · intro c h
    rw [e1] at h
    show _ = (s.closed c || (s.removed c || (s.reg u false == some c) || (s.reg u true == some c)))
    have hb := hs.closed c h
    by_cases d : regUnder m u c
    · rw [regUnder_closed m u c d, Bool.or_assoc, hD c d]; simp
    · rw [removeByUfrag_conn_other m u c d]
      cases hx : (s.reg u false == some c) || (s.reg u true == some c)
      · rw [Bool.or_assoc, hx, Bool.or_false]; exact hb
      · -- registered with the monitor under `u` and not with the model: reaped, hence closed
        have hwat : (m.conn c).watched = true := by
          simp only [Bool.or_eq_true, beq_iff_eq] at hx
          rcases hx with x | x
          · exact (hR c false x).resolve_left d
          · exact (hR c true x).resolve_left d
        rw [(hi.watched c h hwat).1, Bool.or_assoc, hx]; simp
  · intro c h; rw [e1] at h; rw [hw]; exact hs.reaped c h
  · rw [e5]; exact hs.mclosed
  · intro u' f c h
    rw [famMap_removeByUfrag, AMap.get?_del] at h
    split at h
    · cases h
    · next hx =>
      show (if u' = u then none else s.reg u' f) = some c
      rw [if_neg hx]; exact hs.regF u' f c h
  · intro u' f c h
    change (if u' = u then none else s.reg u' f) = some c at h
    split at h
    · cases h
    · next hne =>
      obtain ⟨r1, r2, r3⟩ := hs.regB u' f c h
      have hk := hs.regK u' f c h
      have nk : ∀ g, s.reg u g ≠ some c := fun g x => by
        have := hs.regK u g c x
        rw [hk] at this; injection this with t; exact hne t
      rw [e1, famMap_removeByUfrag, AMap.get?_del, if_neg hne, hw]
      refine ⟨r1, ?_, r3⟩
      show (s.removed c || (s.reg u false == some c) || (s.reg u true == some c)) = false
      simp [r2, nk false, nk true]
  · intro u' f c h
    change (if u' = u then none else s.reg u' f) = some c at h
    split at h
    · cases h
    · exact hs.regK u' f c h
  · intro x c h; exact hs.lwF x c (removeByUfrag_addrMap_sub m hi u _ c h).1
  · intro x c h
    obtain ⟨l1, l2⟩ := hs.lwB x c h
    rw [e1, hw]
    refine ⟨l1, ?_⟩
    show (s.removed c || (s.reg u false == some c) || (s.reg u true == some c)) = true ∨ _
    rcases l2 with l2 | l2 | l2
    · left; simp [l2]
    · right; left; exact l2
    · by_cases d : regUnder m u c
      · left; rw [Bool.or_assoc, hD c d]; simp
      · right; right; exact removeByUfrag_addrMap_keep m u _ c l2 d
  · intro c h1 h2 a hm
    rw [e1] at h1
    obtain ⟨hold, hn⟩ := removeByUfrag_addrMap_sub m hi u a c hm
    change (s.removed c || (s.reg u false == some c) || (s.reg u true == some c)) = true at h2
    simp only [Bool.or_eq_true, beq_iff_eq] at h2
    rcases h2 with (h2 | h2) | h2
    · exact hs.remB c h1 h2 a hold
    · exact (hR c false h2).elim hn (fun t => (hi.watched c h1 t).2.2 a hold)
    · exact (hR c true h2).elim hn (fun t => (hi.watched c h1 t).2.2 a hold)
  · intro c h1 h2
    rw [e1] at h1
    have d : ¬ regUnder m u c := fun d => by rw [regUnder_closed m u c d] at h2; cases h2
    rw [removeByUfrag_conn_other m u c d] at h2 ⊢
    exact hs.queue c h1 h2

theorem StepTo.sim {m m' : Mux} {op : Op} {o : Out} (st : StepTo m op m' o) {s : SState} (hi : Inv m) (hs : Sim m s) :
    Sim m' (IceSpec.C12.step s op o).1 ∧ (IceSpec.C12.step s op o).2 = none := by
  cases st with
  | getClosed u v6 _ => exact ⟨hs, rfl⟩
  | getOld u v6 c _ hg =>
    have hc : c < m.nconns := (hi.fam v6 u c hg).1
    have hr := hs.regF u v6 c hg
    rw [← hs.nh, step_getConn_conn s u v6 c (by rw [hs.nc]; omega) (fun _ => hr)]
    refine ⟨?_, rfl⟩
    -- the registration is the one the monitor has
    have e : setReg s.reg u v6 (some c) = s.reg := by
      funext u' f'
      rw [setReg_apply]; split
      · next hh => rw [hh.1, hh.2, hr]
      · rfl
    unfold sGet
    rw [if_neg (by rw [hs.nc]; omega)]
    dsimp only
    rw [e]
    exact sim_addHandle m s hs c
  | getNew u v6 _ hg =>
    rw [← hs.nh, ← hs.nc, step_getConn_conn s u v6 s.nc (Nat.le_refl _) (fun h => absurd h (Nat.lt_irrefl _))]
    refine ⟨?_, rfl⟩
    unfold sGet
    rw [if_pos rfl]
    exact sim_addHandle _ _ (sim_mkConn m s hs u v6) s.nc
  | wrBad _ _ _ => simp only [IceSpec.C12.step]; exact ⟨hs, rfl⟩
  | wrClosed _ _ _ _ => simp only [IceSpec.C12.step]; exact ⟨hs, rfl⟩
  | wrSock h dst h1 _ h3 hcl => rw [open_of_conn_open m hi _ (hi.hnd h h1) h3] at hcl; cases hcl
  | wrKnown h dst h1 _ h3 _ hmem =>
    have hc := hi.hnd h h1
    simp only [IceSpec.C12.step, true_or, if_true, hs.hconn_lt h1, and_true]
    refine sim_write_core m s hs _ dst hc (removed_closed_false_of_open m s hs _ hc h3).1 m.conn m.addrMap
      (fun _ => rfl) (fun _ => rfl) (fun _ => rfl) (fun _ => rfl) (fun _ => rfl) (fun k => ?_)
    split
    · next e => rw [e]; exact hi.back _ _ hc (hi.openReg _ hc h3) hmem
    · rfl
  | wrNew h dst h1 _ h3 hcl hnew =>
    have hc := hi.hnd h h1
    simp only [IceSpec.C12.step, true_or, if_true, hs.hconn_lt h1, and_true]
    rw [addAddress_eq m _ _ hcl h3 hnew]
    exact sim_write_core m s hs _ dst hc (removed_closed_false_of_open m s hs _ hc h3).1 _ _
      (addrConn_proj Conn.key (fun _ _ => rfl) m _ _) (addrConn_proj Conn.v6 (fun _ _ => rfl) m _ _)
      (addrConn_proj Conn.closed (fun _ _ => rfl) m _ _) (addrConn_proj Conn.watched (fun _ _ => rfl) m _ _)
      (addrConn_proj Conn.fifo (fun _ _ => rfl) m _ _) (fun _ => rfl)
  | dropped src k pid hd =>
    rw [step_inbound_dropped s src k pid ((expected_eq m s hi hs src k).trans hd)]; exact ⟨hs, rfl⟩
  | delivered src k pid c hd =>
    obtain ⟨_, hm, hcc⟩ := (dest_eq_some_iff m src k c).mp hd
    rw [step_inbound_delivered s src k pid c ((expected_eq m s hi hs src k).trans hd)]
    refine ⟨?_, rfl⟩
    have := sim_setFifo m s hs c ((m.conn c).fifo ++ [{ pid := pid, src := src }])
    rw [List.map_append, ← hs.queue c (lookupDest_lt m hi src k c hm) hcc] at this
    exact this
  | removed u => exact sim_removeByUfrag m s hi hs u
  | chBad h h1 => rw [step_closeHandle_none s h _ (hs.hconn_ge h1)]; exact ⟨hs, rfl⟩
  | chIdle h h1 h2 =>
    rw [step_closeHandle_closed s h _ _ (hs.hconn_lt h1) (by rw [hs.hopen h h1, h2]; rfl)]; exact ⟨hs, rfl⟩
  | chDrop h h1 h2 =>
    rw [step_closeHandle_open s h _ _ (hs.hconn_lt h1) (by rw [hs.hopen h h1, h2]; rfl)]
    exact ⟨sim_closeOpen m s hi hs h h1 h2, rfl⟩
  | waBad c h1 => rw [step_watcher_no s c _ (by rw [hs.nc]; omega)]; exact ⟨hs, rfl⟩
  | waIdle c hc h2 =>
    by_cases h3 : (m.conn c).closed = true
    · rw [step_watcher_yes s c _ ((hs.reapable hc).mp h3)]
      exact ⟨sim_reaped_again m s hs c (h2.resolve_left (by simp [h3])), rfl⟩
    · rw [step_watcher_no s c _ (fun h => h3 ((hs.reapable hc).mpr h))]; exact ⟨hs, rfl⟩
  | waRun c hc h2 _ => rw [step_watcher_yes s c _ ((hs.reapable hc).mp h2)]; exact ⟨sim_reap m s hs c, rfl⟩
  | cmIdle hc => rw [step_closeMux_closed s _ (by rw [hs.mclosed]; exact hc)]; exact ⟨hs, rfl⟩
  | cmRun hc => rw [step_closeMux_open s _ (by rw [hs.mclosed]; exact hc)]; exact ⟨sim_closeAll m s hi hs, rfl⟩
  | rdBad h h1 => rw [step_read_none s h (hs.hconn_ge h1)]; exact ⟨hs, rfl⟩
  | rdClosed h h1 _ => rw [step_read_other s h _ _ (hs.hconn_lt h1) (Or.inl rfl)]; exact ⟨hs, rfl⟩
  | rdPkt h pid src rest h1 _ hf =>
    have hq := hs.queue _ (hi.hnd h h1) (open_of_fifo m hi _ _ rest hf)
    rw [hf] at hq
    rw [step_read_pkt s h _ pid src _ (hs.hconn_lt h1) hq]; exact ⟨sim_setFifo m s hs _ rest, rfl⟩
  | rdEof h h1 _ _ _ => rw [step_read_other s h _ _ (hs.hconn_lt h1) (Or.inr rfl)]; exact ⟨hs, rfl⟩
  | rdEmpty h h1 _ hf h3 =>
    have hq := hs.queue _ (hi.hnd h h1) h3
    rw [hf] at hq
    rw [step_read_empty s h _ (hs.hconn_lt h1) hq]; exact ⟨hs, rfl⟩

theorem sim_step (m : Mux) (s : SState) (hi : Inv m) (hs : Sim m s) (op : Op) :
    Sim (step m op).1 (IceSpec.C12.step s op (step m op).2).1
    ∧ (IceSpec.C12.step s op (step m op).2).2 = none := (step_to m op).sim hi hs

theorem inbound_out_expected (m : Mux) (s : SState) (hi : Inv m) (hs : Sim m s) (src : Addr) (k : Kind) (pid : Nat) :
    (step m (.inbound src k pid)).2 =
      match IceSpec.C12.expected s src k with
      | some c => .delivered c
      | none => .dropped := by
  rw [expected_eq m s hi hs]; exact (step_to m (.inbound src k pid)).inbound_out

theorem sim_run (ops : List Op) : ∀ (m : Mux) (s : SState), Inv m → Sim m s →
    Inv (run m ops).1 ∧ Sim (run m ops).1 (IceSpec.C12.stateAfter s (run m ops).2)
    ∧ ∀ v ∈ IceSpec.C12.verdicts s (run m ops).2, v = none := by
  induction ops with
  | nil => intro m s hi hs; exact ⟨hi, hs, by simp [run, IceSpec.C12.verdicts]⟩
  | cons op ops ih =>
    intro m s hi hs
    rw [run_cons]
    obtain ⟨h1, h2⟩ := sim_step m s hi hs op
    obtain ⟨i1, i2, i3⟩ := ih _ _ (inv_step m hi op) h1
    refine ⟨i1, i2, ?_⟩
    intro v hv
    simp only [IceSpec.C12.verdicts, List.mem_cons] at hv
    rcases hv with hv | hv
    · rw [hv]; exact h2
    · exact i3 v hv

end IceProofs.UdpMux

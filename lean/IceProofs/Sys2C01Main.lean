import IceProofs.Sys2C01Sys
/-!
# C01, layer 4 — what the invariant says about an agent, and the instantiation of the abstract
address predicates by the addresses that occur in the schedule.
-/
namespace IceProofs.C01
open IceModel.AgentCore IceModel.Sys2 IceProofs.Sys2Run

theorem AInv.final {Good : Nat → Nat → Prop} {Sane SaneR : Nat → Prop} {tag : Nat} {lite : Bool} {a : Agent} {L : Log}
    (h : AInv Good Sane SaneR tag lite (view a) L) (hl : a.cfg.lite = false) :
    (∀ p ∈ a.checklist, p.state = .succeeded →
        ∃ la ra, Good la ra ∧ (∀ l, a.localOf p.l = some l → l.addr = la) ∧ (∀ r, a.remoteOf p.r = some r → r.addr = ra))
    ∧ (∀ id, a.selected = some id → ∃ p ∈ a.checklist, p.id = id ∧ p.state = .succeeded)
    ∧ (a.connState = .connected ∨ a.connState = .disconnected → ∃ id, a.selected = some id)
    ∧ a.checklist.Pairwise (fun p q => p.id ≠ q.id) := by
  have hlite : lite = false := by rw [← h.lite_eq]; exact hl
  refine ⟨?_, ?_, ?_, ?_⟩
  rotate_right
  · have := h.pairUniq
    show a.checklist.Pairwise _
    have e : (view a).pairs = a.checklist.map pv := rfl
    rw [e, List.pairwise_map] at this
    exact this
  · intro p hp hs
    obtain ⟨la, ra, hg, h1, h2⟩ := h.succOK hlite (pv p) (mem_checklist_pv hp) (by simp [pv, hs])
    refine ⟨la, ra, hg, ?_, ?_⟩
    · intro l hl'
      exact h1 _ (addrOf_locs_of_localOf hl')
    · intro r hr'
      exact h2 _ (addrOf_rems_of_remoteOf hr')
  · intro id hid
    obtain ⟨q, hq, hqid, hqs⟩ := h.selOK id hid
    obtain ⟨p, hp, rfl⟩ := List.mem_map.mp hq
    refine ⟨p, hp, hqid, ?_⟩
    simpa [pv] using hqs
  · intro hc
    have hlive : (view a).live = true := by
      show isLive a.connState = true
      rcases hc with hc | hc <;> rw [hc] <;> rfl
    have := h.connOK hlive
    cases hsel : a.selected with
    | none =>
      have e : (view a).sel = a.selected := rfl
      rw [e, hsel] at this
      cases this
    | some id => exact ⟨id, rfl⟩

/-- addresses at which local candidates are added during the schedule (either agent). -/
def localAddrs (evs : List SysEv) : List Nat :=
  evs.filterMap fun | .api _ (.addLocal _ c) => some c.addr | _ => none

/-- addresses of signalled remote candidates. -/
def signalledAddrs (evs : List SysEv) : List Nat :=
  evs.filterMap fun | .api _ (.addRemote _ c) => some c.addr | _ => none

/-- every address a remote candidate can carry: signalled, or a local address as seen through the NAT
(peer-reflexive discovery). -/
def remoteAddrs (nat : List (Nat × Nat)) (evs : List SysEv) : List Nat :=
  signalledAddrs evs ++ (localAddrs evs).map (mappedL nat)

/-- schedule hypothesis: every local candidate address survives the NAT round trip. -/
def LocalsSane (nat : List (Nat × Nat)) (evs : List SysEv) : Prop := ∀ x ∈ localAddrs evs, SaneAddr nat x

instance (nat : List (Nat × Nat)) (evs : List SysEv) : Decidable (LocalsSane nat evs) := by
  unfold LocalsSane; infer_instance

/-- addresses at which agent `isB` adds local candidates. -/
def localAddrsOf (isB : Bool) (evs : List SysEv) : List Nat :=
  evs.filterMap fun | .api b (.addLocal _ c) => if b = isB then some c.addr else none | _ => none

theorem localAddrsOf_sub {isB : Bool} {evs : List SysEv} {x : Nat} (h : x ∈ localAddrsOf isB evs) : x ∈ localAddrs evs := by
  obtain ⟨e, he, hx⟩ := List.mem_filterMap.mp h
  refine List.mem_filterMap.mpr ⟨e, he, ?_⟩
  split at hx
  · split at hx
    · exact hx
    · cases hx
  · cases hx

def SLof (nat : List (Nat × Nat)) (evs : List SysEv) (isB : Bool) (x : Nat) : Prop :=
  SaneAddr nat x ∧ x ∈ localAddrsOf isB evs
def SRof (nat : List (Nat × Nat)) (evs : List SysEv) (x : Nat) : Prop := x ∈ remoteAddrs nat evs

theorem localAddrs_split {evs : List SysEv} {x : Nat} (h : x ∈ localAddrs evs) :
    x ∈ localAddrsOf false evs ∨ x ∈ localAddrsOf true evs := by
  obtain ⟨e, he, hx⟩ := List.mem_filterMap.mp h
  split at hx
  · rename_i b now c
    cases b with
    | false => exact Or.inl (List.mem_filterMap.mpr ⟨_, he, by simpa using hx⟩)
    | true => exact Or.inr (List.mem_filterMap.mpr ⟨_, he, by simpa using hx⟩)
  · cases hx

theorem pair_eq_of_id {l : List Pair} (hu : l.Pairwise (fun p q => p.id ≠ q.id)) {p q : Pair} (hp : p ∈ l) (hq : q ∈ l)
    (h : p.id = q.id) : p = q := eq_of_key Pair.id hu hp hq h

theorem SLor_SLof {nat : List (Nat × Nat)} {evs : List SysEv} {x : Nat}
    (h : SLor (SLof nat evs false) (SLof nat evs true) x) : SaneAddr nat x ∧ x ∈ localAddrs evs := by
  rcases h with h | h <;> exact ⟨h.1, localAddrsOf_sub h.2⟩

theorem evSane_of_mem {nat : List (Nat × Nat)} {evs : List SysEv} (hs : LocalsSane nat evs) {e : SysEv} (he : e ∈ evs) :
    evSane (SLof nat evs false) (SLof nat evs true) (SRof nat evs) e := by
  unfold evSane
  split
  · rename_i now c
    have hm : c.addr ∈ localAddrsOf false evs := List.mem_filterMap.mpr ⟨_, he, by simp⟩
    exact ⟨hs _ (localAddrsOf_sub hm), hm⟩
  · rename_i now c
    have hm : c.addr ∈ localAddrsOf true evs := List.mem_filterMap.mpr ⟨_, he, by simp⟩
    exact ⟨hs _ (localAddrsOf_sub hm), hm⟩
  · rename_i isB now c
    have hm : c.addr ∈ signalledAddrs evs := List.mem_filterMap.mpr ⟨_, he, rfl⟩
    exact List.mem_append_left _ hm
  · trivial

theorem SLof_sane {nat : List (Nat × Nat)} {evs : List SysEv} :
    ∀ x, SLor (SLof nat evs false) (SLof nat evs true) x → SaneAddr nat x := fun _ h => (SLor_SLof h).1

theorem SLof_SRof {nat : List (Nat × Nat)} {evs : List SysEv} :
    ∀ x, SLor (SLof nat evs false) (SLof nat evs true) x → SRof nat evs (mappedL nat x) :=
  fun x h => List.mem_append_right _ (List.mem_map.mpr ⟨x, (SLor_SLof h).2, rfl⟩)

theorem reach_inv {s0 : Sys} (hi : Sys.Init s0) {evs pre : List SysEv} (hs : LocalsSane s0.nat evs)
    (hpre : ∀ e ∈ pre, e ∈ evs) :
    ∃ LA LB, SInv s0.nat s0.blocked (SLof s0.nat evs false) (SLof s0.nat evs true) (SRof s0.nat evs)
      s0.a.cfg.lite s0.b.cfg.lite (Sys.runs s0 pre) LA LB :=
  runs_inv hi SLof_sane SLof_SRof pre (fun e he => evSane_of_mem hs (hpre e he))

theorem SInv.agent_final {nat blocked : List (Nat × Nat)} {SLA SLB SR : Nat → Prop} {liteA liteB : Bool} {s : Sys} {LA LB : Log}
    (h : SInv nat blocked SLA SLB SR liteA liteB s LA LB) (isB : Bool) (hfull : (s.agent isB).cfg.lite = false) :
    (∀ p ∈ (s.agent isB).checklist, p.state = .succeeded →
        ∃ la ra, GoodS nat blocked (if isB then SLB else SLA) (SLor SLA SLB) SR la ra
          ∧ (∀ l, (s.agent isB).localOf p.l = some l → l.addr = la)
          ∧ (∀ r, (s.agent isB).remoteOf p.r = some r → r.addr = ra))
    ∧ (∀ id, (s.agent isB).selected = some id → ∃ p ∈ (s.agent isB).checklist, p.id = id ∧ p.state = .succeeded)
    ∧ ((s.agent isB).connState = .connected ∨ (s.agent isB).connState = .disconnected → ∃ id, (s.agent isB).selected = some id)
    ∧ (s.agent isB).checklist.Pairwise (fun p q => p.id ≠ q.id) := by
  cases isB with
  | false => exact h.invA.final hfull
  | true => exact h.invB.final hfull

theorem SInv.lite_eq {nat blocked : List (Nat × Nat)} {SLA SLB SR : Nat → Prop} {liteA liteB : Bool} {s : Sys} {LA LB : Log}
    (h : SInv nat blocked SLA SLB SR liteA liteB s LA LB) (isB : Bool) :
    (s.agent isB).cfg.lite = if isB then liteB else liteA := by
  cases isB with
  | false => exact h.invA.lite_eq
  | true => exact h.invB.lite_eq

end IceProofs.C01

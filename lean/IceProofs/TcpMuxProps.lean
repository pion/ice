import IceProofs.TcpMuxDrained
/-!
# Lemmas behind the C15 property theorems (computations of single steps of the TCP-mux model)
-/
namespace IceProofs.TcpMux
open IceModel.TcpMux

theorem classify_iff (f : Frame) (u : String) :
    classify f = some u ↔ f.len ≤ 512 ∧ f.kind = .user u := by
  unfold classify firstFrameMax
  split
  · rename_i h
    cases hk : f.kind <;> simp [h]
  · rename_i h; simp [h]

theorem classify_none_iff (f : Frame) :
    classify f = none ↔ ¬ (f.len ≤ 512 ∧ ∃ u, f.kind = .user u) := by
  unfold classify firstFrameMax
  split
  · rename_i h
    cases hk : f.kind <;> simp [h]
  · rename_i h; simp [h]

theorem run_cfg (s : State) (ops : List Op) (hi : Inv s) (h2 : Inv2 s) : (run s ops).cfg = s.cfg :=
  (run_ext s ops hi h2).cfg

theorem reachable_cfg (cfg : Config) (ops : List Op) : (run (init cfg) ops).cfg = cfg :=
  run_cfg _ ops (inv_init cfg) (inv2_init cfg)

theorem drain_single (cap k p : Nat) (peer : Addr) (f : Frame) (pc : PConn) (hl : f.len ≤ receiveMTU) :
    drain cap k p peer [.frame f] pc =
      if pc.recvQ.length < cap then
        { pc := enqueue pc { src := peer, fid := f.fid, len := f.len, err := none, conn := k },
          phase := .attached p, reader := .idle, inbox := [] }
      else
        { pc := { pc with blockedQ := pc.blockedQ ++ [k] }, phase := .attached p,
          reader := .blocked { src := peer, fid := f.fid, len := f.len, err := none, conn := k } false, inbox := [] } := by
  unfold drain
  rw [if_neg (by omega)]
  simp only
  split
  · unfold drain; rfl
  · rfl

theorem lookupConn_of_mem {conns : List (Addr × Nat)} (hn : (conns.map (·.1)).Nodup) {a : Addr} {k : Nat}
    (h : (a, k) ∈ conns) : lookupConn conns a = some k := by
  unfold lookupConn
  cases hf : conns.find? (fun e => decide (e.1 = a)) with
  | none =>
    have := List.find?_eq_none.1 hf (a, k) h
    simp at this
  | some e =>
    have h1 := List.find?_some hf
    have h2 := List.mem_of_find?_eq_some hf
    simp only [decide_eq_true_eq] at h1
    have : e = (a, e.2) := by rw [← h1]
    rw [this] at h2
    simp only [Option.map_some, Option.some.injEq]
    exact nodup_fst_unique hn h2 h

theorem mem_of_lookupConn_some {conns : List (Addr × Nat)} {a : Addr} {k : Nat}
    (h : lookupConn conns a = some k) : (a, k) ∈ conns := by
  unfold lookupConn at h
  cases hf : conns.find? (fun e => decide (e.1 = a)) with
  | none => rw [hf] at h; cases h
  | some e =>
    rw [hf] at h
    simp only [Option.map_some, Option.some.injEq] at h
    have h1 := List.find?_some hf
    have h2 := List.mem_of_find?_eq_some hf
    simp only [decide_eq_true_eq] at h1
    rw [← h1, ← h]; exact h2

theorem Inv.lookup_iff {s : State} (hi : Inv s) {p : Nat} {pc : PConn} (hp : s.pcs[p]? = some pc) (a : Addr) (k : Nat) :
    lookupConn pc.conns a = some k ↔ ∃ t, s.tcps[k]? = some t ∧ t.phase = .attached p ∧ t.peer = a := by
  constructor
  · exact fun h => (hi.pc p pc hp).1 a k (mem_of_lookupConn_some h)
  · rintro ⟨t, ht, hph, rfl⟩
    obtain ⟨_, pc2, hp2, _, hm⟩ := hi.att ht hph
    rw [hp] at hp2; cases hp2
    exact lookupConn_of_mem (hi.pc p pc hp).2.1 hm

/-- the packet a first (or later) frame becomes -/
def pktOf (peer : Addr) (k : Nat) (f : Frame) : Pkt := { src := peer, fid := f.fid, len := f.len, err := none, conn := k }

theorem registered_attached (s : State) (p k : Nat) (t : Tcp) (f : Frame) (pc : PConn)
    (ht : s.tcps[k]? = some t) (hp : s.pcs[p]? = some pc) (hopen : pc.closed = false) (hl : f.len ≤ receiveMTU) :
    ∃ t' pc', (runReader (registered s p k t.peer f) k).tcps[k]? = some t' ∧
      (runReader (registered s p k t.peer f) k).pcs[p]? = some pc' ∧
      t'.phase = .attached p ∧ t'.pc = some p ∧ t'.peer = t.peer ∧ t'.sent = t.sent ++ [f] ∧
      pc'.key = pc.key ∧ pc'.closed = false ∧ pc'.conns = pc.conns ++ [(t.peer, k)] ∧
      ((pc.recvQ.length < s.cfg.cap ∧ t'.reader = .idle ∧ pc'.hist = pc.hist ++ [pktOf t.peer k f] ∧
          pc'.recvQ = pc.recvQ ++ [pktOf t.peer k f]) ∨
       (¬ pc.recvQ.length < s.cfg.cap ∧ t'.reader = .blocked (pktOf t.peer k f) false ∧
          pc'.blockedQ = pc.blockedQ ++ [k] ∧ pc'.recvQ = pc.recvQ ∧ pc'.hist = pc.hist)) ∧
      (∀ j, j ≠ k → (runReader (registered s p k t.peer f) k).tcps[j]? = s.tcps[j]?) ∧
      (∀ q, q ≠ p → (runReader (registered s p k t.peer f) k).pcs[q]? = s.pcs[q]?) := by
  unfold registered
  generalize hs3 : setTcp (setPc s p (fun pc => { pc with conns := pc.conns ++ [(t.peer, k)] })) k
      (fun t => { t with phase := .attached p, reader := .idle, pc := some p, inbox := [.frame f], sent := t.sent ++ [f] }) = s3
  have h3t : s3.tcps[k]? = some { t with phase := .attached p, reader := .idle, pc := some p, inbox := [.frame f], sent := t.sent ++ [f] } := by
    rw [← hs3]; simp only [setTcp, setPc]; rw [getElem?_modify_eq, ht]; rfl
  have h3p : s3.pcs[p]? = some { pc with conns := pc.conns ++ [(t.peer, k)] } := by
    rw [← hs3]; simp only [setTcp, setPc]; rw [getElem?_modify_eq, hp]; rfl
  have h3c : s3.cfg = s.cfg := by rw [← hs3]; rfl
  have h3tj : ∀ j, j ≠ k → s3.tcps[j]? = s.tcps[j]? := by
    intro j hj; rw [← hs3]; simp only [setTcp, setPc]; exact getElem?_modify_ne _ _ _ _ hj
  have h3pq : ∀ q, q ≠ p → s3.pcs[q]? = s.pcs[q]? := by
    intro q hq; rw [← hs3]; simp only [setTcp, setPc]; exact getElem?_modify_ne _ _ _ _ hq
  unfold runReader
  simp only [h3t, h3p]
  rw [drain_single _ _ _ _ _ _ hl]
  simp only [h3c]
  by_cases hcap : pc.recvQ.length < s.cfg.cap
  · simp only [hcap, if_true]
    refine ⟨{ t with phase := .attached p, reader := .idle, pc := some p, inbox := [], sent := t.sent ++ [f] },
      enqueue { pc with conns := pc.conns ++ [(t.peer, k)] } (pktOf t.peer k f),
      by rw [getElem?_modify_eq, h3t]; rfl, by rw [getElem?_modify_eq, h3p]; rfl, rfl, rfl, rfl, rfl, rfl, hopen, rfl,
      Or.inl ⟨trivial, rfl, rfl, rfl⟩,
      fun j hj => by rw [getElem?_modify_ne _ _ _ _ hj]; exact h3tj j hj,
      fun q hq => by rw [getElem?_modify_ne _ _ _ _ hq]; exact h3pq q hq⟩
  · simp only [hcap, if_false]
    refine ⟨{ t with phase := .attached p, reader := .blocked (pktOf t.peer k f) false, pc := some p, inbox := [], sent := t.sent ++ [f] },
      { pc with conns := pc.conns ++ [(t.peer, k)], blockedQ := pc.blockedQ ++ [k] },
      by rw [getElem?_modify_eq, h3t]; rfl, by rw [getElem?_modify_eq, h3p]; rfl, rfl, rfl, rfl, rfl, rfl, hopen, rfl,
      Or.inr ⟨not_false, rfl, rfl, rfl, rfl⟩,
      fun j hj => by rw [getElem?_modify_ne _ _ _ _ hj]; exact h3tj j hj,
      fun q hq => by rw [getElem?_modify_ne _ _ _ _ hq]; exact h3pq q hq⟩

/-- **What the first frame does to a pending connection**, for any state: it is attached if the frame fits 512 bytes, is
a STUN Binding with USERNAME and the packet connection it routes to has no connection from that remote address; it is
closed for one of the three opposite reasons. -/
theorem first_frame_outcome {s : State} {k : Nat} {t : Tcp} {d : Nat} (f : Frame) (ht : s.tcps[k]? = some t)
    (hph : t.phase = .pending d) (hce : t.cEnd = false) (hst : t.stuck = false) :
    ((∃ u, f.len ≤ 512 ∧ f.kind = .user u ∧ ∀ p pc, findPc s.pcs ⟨u, t.peer.v6, t.lip⟩ = some p → s.pcs[p]? = some pc →
        lookupConn pc.conns t.peer = none) ∧
      ∃ t' p, (step s (.frame k f)).1.tcps[k]? = some t' ∧ t'.phase = .attached p) ∨
    ((512 < f.len ∨ (∀ u, f.kind ≠ .user u) ∨
        ∃ u p pc, f.kind = .user u ∧ findPc s.pcs ⟨u, t.peer.v6, t.lip⟩ = some p ∧ s.pcs[p]? = some pc ∧
          (lookupConn pc.conns t.peer).isSome = true) ∧
      ∃ t', (step s (.frame k f)).1.tcps[k]? = some t' ∧ t'.phase = .closed) := by
  have rejk : ∃ t', (setTcp s k (rejectWith f)).tcps[k]? = some t' ∧ t'.phase = .closed := by
    refine ⟨rejectWith f t, ?_, rfl⟩
    simp only [setTcp]; rw [getElem?_modify_eq, ht]; rfl
  have att : ∀ (x : State) (p : Nat) (pc : PConn), x.tcps[k]? = some t → x.pcs[p]? = some pc → pc.closed = false → f.len ≤ 512 →
      ∃ t' q, (runReader (registered x p k t.peer f) k).tcps[k]? = some t' ∧ t'.phase = .attached q := by
    intro x p pc hx hp ho hl
    obtain ⟨t', _, a1, _, a3, _⟩ := registered_attached x p k t f pc hx hp ho (by unfold receiveMTU; omega)
    exact ⟨t', p, a1, a3⟩
  have h := step_firstFrame f ht hph hce hst
  generalize (step s (.frame k f)).1 = s' at h ⊢
  cases h with
  | bad hc =>
    refine Or.inr ⟨?_, rejk⟩
    by_cases hl : f.len ≤ 512
    · exact Or.inr (Or.inl fun u hu => by have := (classify_iff f u).2 ⟨hl, hu⟩; rw [hc] at this; cases this)
    · exact Or.inl (by omega)
  | dup u p pc hc hf hp ho hk hd => exact Or.inr ⟨Or.inr (Or.inr ⟨u, p, pc, ((classify_iff f u).1 hc).2, hf, hp, hd⟩), rejk⟩
  | join u p pc hc hf hp ho hk hnd =>
    obtain ⟨hl, hu⟩ := (classify_iff f u).1 hc
    refine Or.inl ⟨⟨u, hl, hu, fun p' pc' hf' hp' => ?_⟩, att s p pc ht hp ho hl⟩
    rw [hf] at hf'; cases hf'
    rw [hp] at hp'; cases hp'
    exact hnd
  | fresh u hc hf =>
    obtain ⟨hl, hu⟩ := (classify_iff f u).1 hc
    refine Or.inl ⟨⟨u, hl, hu, fun p' pc' hf' _ => ?_⟩, att _ s.pcs.length _ ht List.getElem?_concat_length rfl hl⟩
    rw [hf] at hf'; cases hf'

theorem first_frame_reasons {s : State} {t : Tcp} {f : Frame}
    (ok : ∃ u, f.len ≤ 512 ∧ f.kind = .user u ∧ ∀ p pc, findPc s.pcs ⟨u, t.peer.v6, t.lip⟩ = some p → s.pcs[p]? = some pc →
      lookupConn pc.conns t.peer = none)
    (no : 512 < f.len ∨ (∀ u, f.kind ≠ .user u) ∨
      ∃ u p pc, f.kind = .user u ∧ findPc s.pcs ⟨u, t.peer.v6, t.lip⟩ = some p ∧ s.pcs[p]? = some pc ∧
        (lookupConn pc.conns t.peer).isSome = true) : False := by
  obtain ⟨u', hl, hu', hnd⟩ := ok
  rcases no with hbig | hnu | ⟨u, p, pc, hu, hf, hp, hdup⟩
  · omega
  · exact hnu u' hu'
  · rw [hu] at hu'; cases hu'
    rw [hnd p pc hf hp] at hdup; cases hdup

theorem first_frame_attached_iff {s : State} {k : Nat} {t : Tcp} {d : Nat} (f : Frame) (ht : s.tcps[k]? = some t)
    (hph : t.phase = .pending d) (hce : t.cEnd = false) (hst : t.stuck = false) :
    ((∃ t' p, (step s (.frame k f)).1.tcps[k]? = some t' ∧ t'.phase = .attached p) ↔
      ∃ u, f.len ≤ 512 ∧ f.kind = .user u ∧
        ∀ p pc, findPc s.pcs ⟨u, t.peer.v6, t.lip⟩ = some p → s.pcs[p]? = some pc → lookupConn pc.conns t.peer = none) := by
  rcases first_frame_outcome f ht hph hce hst with ⟨ok, att⟩ | ⟨no, t1, h1, c1⟩
  · exact iff_of_true att ok
  · refine iff_of_false ?_ (fun ok => first_frame_reasons ok no)
    rintro ⟨t2, p, h2, c2⟩
    rw [h1] at h2; cases h2; rw [c1] at c2; cases c2

theorem first_frame_closed_iff {s : State} {k : Nat} {t : Tcp} {d : Nat} (f : Frame) (ht : s.tcps[k]? = some t)
    (hph : t.phase = .pending d) (hce : t.cEnd = false) (hst : t.stuck = false) :
    ((∃ t', (step s (.frame k f)).1.tcps[k]? = some t' ∧ t'.phase = .closed) ↔
      (512 < f.len ∨ (∀ u, f.kind ≠ .user u) ∨
        ∃ u p pc, f.kind = .user u ∧ findPc s.pcs ⟨u, t.peer.v6, t.lip⟩ = some p ∧ s.pcs[p]? = some pc ∧
          (lookupConn pc.conns t.peer).isSome = true)) := by
  rcases first_frame_outcome f ht hph hce hst with ⟨ok, t1, p, h1, c1⟩ | ⟨no, cl⟩
  · refine iff_of_false ?_ (fun no => first_frame_reasons ok no)
    rintro ⟨t2, h2, c2⟩
    rw [h1] at h2; cases h2; rw [c1] at c2; cases c2
  · exact iff_of_true cl no

theorem routed_closed {s : State} (hi : Inv s) (h2 : Inv2 s) {k p : Nat} {t : Tcp} {pc : PConn}
    (ht : s.tcps[k]? = some t) (hpc : t.pc = some p) (hp : s.pcs[p]? = some pc) (hcl : pc.closed = true) :
    t.phase = .closed := by
  cases hph : t.phase with
  | closed => rfl
  | pending d =>
    have := ((h2.tcp k t ht).fresh d hph).1
    rw [hpc] at this; cases this
  | attached q =>
    obtain ⟨e, pc2, hp2, hopen, _⟩ := hi.att ht hph
    rw [hpc] at e; cases e
    rw [hp] at hp2; cases hp2
    rw [hcl] at hopen; cases hopen

/-- `closeReturned` said without counting: `Close` was called, the accept loop has ended, no handler is waiting for a
first frame and no watcher of an open packet connection is left -/
theorem closeReturned_iff (s : State) : closeReturned s = true ↔
    s.muxClosed = true ∧ s.listenerOpen = false ∧ (∀ (k : Nat) (t : Tcp), s.tcps[k]? = some t → ∀ d, t.phase ≠ .pending d) ∧
    (∀ (p : Nat) (pc : PConn), s.pcs[p]? = some pc → pc.closed = true) := by
  have hpend : s.tcps.countP (·.isPending) = 0 ↔ ∀ (k : Nat) (t : Tcp), s.tcps[k]? = some t → ∀ d, t.phase ≠ .pending d := by
    rw [List.countP_eq_zero]
    constructor
    · intro h k t ht d hd
      have := h t (List.mem_iff_getElem?.2 ⟨k, ht⟩)
      simp [Tcp.isPending, hd] at this
    · intro h t ht
      obtain ⟨k, hk⟩ := List.mem_iff_getElem?.1 ht
      cases hph : t.phase with
      | pending d => exact absurd hph (h k t hk d)
      | attached p => simp [Tcp.isPending, hph]
      | closed => simp [Tcp.isPending, hph]
  have hwatch : s.pcs.countP (fun pc => !pc.closed) = 0 ↔ ∀ (p : Nat) (pc : PConn), s.pcs[p]? = some pc → pc.closed = true := by
    rw [List.countP_eq_zero]
    constructor
    · intro h p pc hp
      simpa using h pc (List.mem_iff_getElem?.2 ⟨p, hp⟩)
    · intro h pc hpc
      obtain ⟨p, hp⟩ := List.mem_iff_getElem?.1 hpc
      simp [h p pc hp]
  rw [← hpend, ← hwatch]
  simp only [closeReturned, wgCount, ledger, Bool.and_eq_true]
  rcases Bool.eq_false_or_eq_true s.listenerOpen with hl | hl
  · simp [hl]
  · simp [hl, Nat.add_eq_zero_iff]

end IceProofs.TcpMux

import IceProofs.AgentC03Handlers
import IceProofs.AgentSuccessDecision
/-!
# C03 — a selector selects a pair only when it is valid and carries the nomination proof of the agent's role

The stages of `handleSuccess` (`hsSel`, `hsMark`, `hsFin`: the decision, the mark, the bookkeeping) with what says which
is taken; then `sel_move`: every move of a selector's handler is `Sel` — the one that counts is `select`, whose reason
(`SelectWhy`) gives the proof (`selectWhy_proof`) —, hence every handler (`sel_chain`, `sel_handleSuccess`).
-/
namespace IceProofs.C03
open IceModel.AgentCore IceProofs.Agent

theorem select_mem {a : Agent} {id : Nat} {p : Pair} (hp : p ∈ a.checklist) (e : p.id = id) :
    ({ p with nominated := true } : Pair) ∈ (a.select id).1.checklist := by
  rw [select_fst]
  exact e ▸ Agent.mem_modPair_of_mem hp _

/-- the selection decision of `HandleSuccessResponse` (both selectors).  Controlling: a response to a USE-CANDIDATE
check selects when it carried a nomination value that is not superseded by a greater answered value, or when nothing
is selected.  Controlled: a deferred nomination mark — with a value: unless superseded; without: not once a value has
been accepted and another pair is selected, else by priority. -/
def hsSel (a : Agent) (p : Pair) (pd : Pending) : Agent × List Out :=
          if a.controlling then
            if pd.useCand then
              match pd.nom with
              | some v =>
                let superseded := match a.answeredNomination with | none => false | some w => v ≤ w
                if superseded then (a, [])
                else a.select p.id
              | none => if a.selected.isNone then a.select p.id else (a, [])
            else (a, [])
          else
            if p.nomOnSuccess then
              match p.deferredNom with
              | some v =>
                let superseded := match a.lastNomination with | none => true | some last => v < last
                if superseded then (a, [])
                else if a.selected != some p.id then a.select p.id else (a, [])
              | none =>
                match a.selected.bind a.pairById with
                | none => a.select p.id
                | some sp =>
                  if sp.id != p.id && a.lastNomination.isSome then (a, [])
                  else if sp.id != p.id && (!needsPrioCheck a.cfg || a.pairPrio sp ≤ a.pairPrio p) then a.select p.id
                  else (a, [])
            else (a, [])

/-- the ghost/validity update of `HandleSuccessResponse` -/
def hsMark (pd : Pending) (p : Pair) : Pair :=
  { p with state := .succeeded, gResp := true, gRespUC := p.gRespUC || pd.useCand }

/-- the value the controlling selector records as answered (`a` = state in which the decision is taken) -/
def hsAnswered (a : Agent) (pd : Pending) : Option Nat :=
  if a.controlling then
    if pd.useCand then
      match pd.nom with
      | some v => if (match a.answeredNomination with | none => false | some w => decide (v ≤ w)) then none else some v
      | none => none
    else none
  else none

/-- the deferred mark of a controlled agent's pair is consumed by the response that completes it -/
def hsClear (p : Pair) : Pair := { p with nomOnSuccess := false, deferredNom := none }

/-- bookkeeping after the decision (`a` = state in which the decision was taken, `x` = state after it): the
controlling selector records the answered value, the controlled selector clears the deferred mark -/
def hsFin (a : Agent) (p : Pair) (pd : Pending) (x : Agent) : Agent :=
  if a.controlling then
    match hsAnswered a pd with
    | some v => { x with answeredNomination := some v }
    | none => x
  else if p.nomOnSuccess then x.modPair p.id hsClear else x

theorem select_answered (a : Agent) (w : Option Nat) (id : Nat) :
    ({ a with answeredNomination := w } : Agent).select id =
      ({ (a.select id).1 with answeredNomination := w }, (a.select id).2) := by
  unfold Agent.select Agent.setConnState Agent.modPair
  simp only []
  split <;> rfl

/-- the block of `handleSuccess` that follows the validity update (verbatim) -/
def hsRaw (a : Agent) (p : Pair) (pd : Pending) : Agent × List Out :=
          if a.controlling then
            if pd.useCand then
              match pd.nom with
              | some v =>
                let superseded := match a.answeredNomination with | none => false | some w => v ≤ w
                if superseded then (a, [])
                else ({ a with answeredNomination := some v }).select p.id
              | none => if a.selected.isNone then a.select p.id else (a, [])
            else (a, [])
          else
            if p.nomOnSuccess then
              let (a, o) : Agent × List Out :=
                match p.deferredNom with
                | some v =>
                  let superseded := match a.lastNomination with | none => true | some last => v < last
                  if superseded then (a, [])
                  else if a.selected != some p.id then a.select p.id else (a, [])
                | none =>
                  match a.selected.bind a.pairById with
                  | none => a.select p.id
                  | some sp =>
                    if sp.id != p.id && a.lastNomination.isSome then (a, [])
                    else if sp.id != p.id && (!needsPrioCheck a.cfg || a.pairPrio sp ≤ a.pairPrio p) then a.select p.id
                    else (a, [])
              (a.modPair p.id fun p => { p with nomOnSuccess := false, deferredNom := none }, o)
            else (a, [])

theorem hsRaw_eq (a : Agent) (p : Pair) (pd : Pending) :
    hsRaw a p pd = (hsFin a p pd (hsSel a p pd).1, (hsSel a p pd).2) := by
  unfold hsRaw hsFin hsSel hsAnswered
  by_cases hc : a.controlling = true
  · simp only [if_pos hc]
    by_cases hu : pd.useCand = true
    · simp only [if_pos hu]
      cases hn : pd.nom with
      | none => simp only []
      | some v =>
        simp only []
        cases ha : a.answeredNomination with
        | none =>
          simp only [Bool.false_eq_true, if_false]
          rw [select_answered]
        | some w =>
          simp only []
          by_cases hle : v ≤ w
          · simp only [hle, decide_true, if_true]
          · simp only [hle, decide_false, Bool.false_eq_true, if_false]
            rw [select_answered]
    · simp only [if_neg hu]
  · simp only [if_neg hc]
    by_cases hn : p.nomOnSuccess = true
    · simp only [if_pos hn]
      rfl
    · simp only [if_neg hn]

theorem handleSuccess_raw (a : Agent) (now : Nat) (m : Msg) (l r : Cand) (src : Nat) :
    a.handleSuccess now m l r src =
    match (a.takePending now m.tid).2 with
    | none => ((a.takePending now m.tid).1, [])
    | some pd =>
      if !(pd.net == l.net && pd.dest == src && pd.src == l.addr) then ((a.takePending now m.tid).1, [])
      else
        match (a.takePending now m.tid).1.findPair l r with
        | none => ((a.takePending now m.tid).1, [])
        | some p =>
          ((hsRaw ((a.takePending now m.tid).1.modPair p.id (hsMark pd)) p pd).1.modPair p.id
              (Pair.gotResponse now pd.ts),
           (hsRaw ((a.takePending now m.tid).1.modPair p.id (hsMark pd)) p pd).2) := by
  rw [Agent.handleSuccess_body]
  rfl

theorem handleSuccess_eq (a : Agent) (now : Nat) (m : Msg) (l r : Cand) (src : Nat) :
    a.handleSuccess now m l r src =
    match (a.takePending now m.tid).2 with
    | none => ((a.takePending now m.tid).1, [])
    | some pd =>
      if !(pd.net == l.net && pd.dest == src && pd.src == l.addr) then ((a.takePending now m.tid).1, [])
      else
        match (a.takePending now m.tid).1.findPair l r with
        | none => ((a.takePending now m.tid).1, [])
        | some p =>
          ((hsFin ((a.takePending now m.tid).1.modPair p.id (hsMark pd)) p pd
              (hsSel ((a.takePending now m.tid).1.modPair p.id (hsMark pd)) p pd).1).modPair p.id
              (Pair.gotResponse now pd.ts),
           (hsSel ((a.takePending now m.tid).1.modPair p.id (hsMark pd)) p pd).2) := by
  rw [handleSuccess_raw]
  simp only [hsRaw_eq]

theorem takePending_frame (a : Agent) (now tid : Nat) :
    (a.takePending now tid).1.checklist = a.checklist ∧ (a.takePending now tid).1.selected = a.selected := by
  unfold Agent.takePending
  simp only []
  split <;> exact ⟨rfl, rfl⟩

theorem takePending_mem (a : Agent) (now tid : Nat) (pd : Pending) (h : (a.takePending now tid).2 = some pd) :
    pd ∈ a.pending ∧ pd.tid = tid := ⟨(Agent.takePending_listed h).1, (Agent.takePending_listed h).2.1⟩

theorem hsSel_cases (a : Agent) (p : Pair) (pd : Pending) :
    hsSel a p pd = (a, []) ∨ (hsSel a p pd = a.select p.id ∧
      ((a.controlling = true ∧ pd.useCand = true) ∨ (a.controlling = false ∧ p.nomOnSuccess = true))) := by
  unfold hsSel
  simp only []
  repeat' split
  all_goals first
    | exact Or.inl rfl
    | exact Or.inr ⟨rfl, Or.inl ⟨by assumption, by assumption⟩⟩
    | exact Or.inr ⟨rfl, Or.inr ⟨by simp_all, by assumption⟩⟩

theorem hsFin_selected (a : Agent) (p : Pair) (pd : Pending) (x : Agent) : (hsFin a p pd x).selected = x.selected := by
  unfold hsFin
  split
  · split <;> rfl
  · split <;> rfl

theorem hsFin_controlled (a : Agent) (p : Pair) (pd : Pending) (x : Agent) (hc : a.controlling = false) :
    hsFin a p pd x = if p.nomOnSuccess then x.modPair p.id hsClear else x := by
  unfold hsFin
  simp [hc]

theorem hsFin_rel (a : Agent) (p : Pair) (pd : Pending) (x : Agent) : Rel True x (hsFin a p pd x) := by
  unfold hsFin
  split
  · split
    · rename_i v _
      exact (Quiet.of_eq (wp := True) (ex := True) (a := x) (a' := { x with answeredNomination := some v }) rfl rfl rfl rfl
        fun _ => rfl).toRel
    · exact Rel.refl _ _
  · split
    · exact (modPair_quiet (wp := True) (ex := True) x p.id hsClear (fun _ => rfl)
        (fun _ _ _ => ⟨fun h => h, fun h => h, fun h => h, fun h => h, fun h => h⟩) fun _ _ _ _ => ⟨rfl, rfl, rfl, rfl⟩).toRel
    · exact Rel.refl _ _

theorem NomProof.or {c : Bool} {p : Pair} (h : NomProof c p) : p.gRespUC = true ∨ p.gNomReq = true := by
  unfold NomProof at h
  cases c
  · exact Or.inr h
  · exact Or.inl h

theorem select_sel (a : Agent) (id : Nat)
    (hp : Inv3 a → ∃ p ∈ a.checklist, p.id = id ∧ p.state = .succeeded ∧ NomProof a.controlling p) :
    Sel a (a.select id) := by
  refine ⟨(select_cc a id).1, (select_cc a id).2, (select_noReq a id).outR _, fun hi => ?_, fun _ => select_rel a id,
    fun _ => select_fwd a id, fun hi sid hs _ => ?_⟩
  · obtain ⟨p, hpm, hpid, hst, hn⟩ := hp hi
    exact select_inv a id hi ⟨p, hpm, hpid, hst, hn.or⟩
  · rw [select_selected] at hs
    cases hs
    obtain ⟨p, hpm, hpid, _, hn⟩ := hp hi
    exact ⟨_, select_mem hpm hpid, hpid, hn⟩

theorem selectWhy_proof {cx : Agent.Ctx} (hr : cx.roles) {a : Agent} {id : Nat} (h : Agent.SelectWhy cx a id)
    (hi : Inv3 a) :
    a.selected = some id ∨ ∃ p ∈ a.checklist, p.id = id ∧ p.state = .succeeded ∧ NomProof a.controlling p := by
  cases h with
  | again hs => exact Or.inl hs
  | ctl now l r src m pd p ans hv hid hc hd hval hmark =>
    -- the controlling selector decides for the pair only on the response to a request with USE-CANDIDATE
    have hu : pd.useCand = true := by
      cases hu : pd.useCand
      · rw [hu] at hd
        simp [Agent.ctlSuccessDecision] at hd
      · rfl
    refine Or.inr ⟨_, hmark, hid.symm, rfl, ?_⟩
    unfold NomProof
    rw [hc, if_pos rfl]
    show (p.gRespUC || pd.useCand) = true
    rw [hu, Bool.or_true]
  | deferred now l r src m pd p hv hid hc hn hd hval hmark =>
    -- the deferred mark was set on an authenticated nominating request (`PairOK.deferred`)
    refine Or.inr ⟨_, hmark, hid.symm, rfl, ?_⟩
    unfold NomProof
    rw [hc, if_neg (by decide)]
    exact (hi.pairs _ hmark).deferred hn
  | nominated now l src m p hm hnom hp hs hsw hg =>
    obtain ⟨hc, hseen⟩ := hg hr
    obtain ⟨hpm, hpid⟩ := pairById_listed hp
    refine Or.inr ⟨p, hpm, hpid, hs, ?_⟩
    unfold NomProof
    rw [hc, if_neg (by decide)]
    exact hseen p hpm hpid

theorem sel_move {cx : Agent.Ctx} (hq : Calm cx True True) (hr : cx.roles) {a : Agent} {r : Agent × List Out}
    (h : Agent.Move cx a r) : Sel a r := by
  obtain h | ⟨id, rfl, hw, _⟩ := move_cases hq hr h
  · exact h.sel
  · by_cases hs : a.selected = some id
    · exact (select_same_hok a id hs).sel
    · exact select_sel a id fun hi => (selectWhy_proof hr hw hi).resolve_left hs

theorem sel_chain {cx : Agent.Ctx} (hq : Calm cx True True) (hr : cx.roles) {a : Agent} {r : Agent × List Out}
    (h : Agent.Chain cx a r) : Sel a r :=
  h.ind (fun a => (HOK.refl True True a).sel) (fun _ _ => sel_move hq hr) Sel.seq

/-- a selector's handler called on a message and on any candidates, in the agent's role -/
def handling : Agent.Ctx := { Agent.Ctx.any with may := fun k => k = .select ∨ k = .accept, roles := True }

theorem sel_handling {a : Agent} {r : Agent × List Out} (h : Agent.Chain handling a r) : Sel a r :=
  have hq : Calm handling True True := ⟨nofun, nofun, fun _ => ⟨nofun, nofun⟩, fun _ => nofun⟩
  sel_chain hq trivial h

theorem sel_handleSuccess (a : Agent) (now : Nat) (m : Msg) (l r : Cand) (src : Nat) :
    Sel a (a.handleSuccess now m l r src) :=
  sel_handling (Agent.Chain.handleSuccess a now m l r src (fun _ _ _ _ _ => trivial) (.inl rfl) (.inr rfl))

theorem takePending_hok {wp ex : Prop} (a : Agent) (now tid : Nat) : HOK wp ex a ((a.takePending now tid).1, []) :=
  hok_quiet (P := fun _ => False) (fun h => h) (fun h => h) (fun _ => ⟨fun h => h, fun h => h⟩) (fun _ h => h)
    (Agent.Chain.takePending a now tid)

end IceProofs.C03

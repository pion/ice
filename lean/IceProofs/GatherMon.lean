import IceModel.Gather
import IceProofs.GatherPark
/-!
Two facts about the clock that hold while it stands still (`GatherClosed.Quiet`): the gatherers and the monitor leave it and
the configuration alone (`Fr`), and a unit started at virtual time `t` times out strictly after `t` (`Late`).  Hence what
is left parked after the clock has been advanced (`advTo_late`).  Used by `IceProps/C09.lean`.
-/
namespace IceProofs.GatherMon
open IceModel.Gather IceProofs.GatherAgent IceProofs.GatherPark IceProofs.GatherClosed

/-- what the gatherers and the monitor never touch -/
structure Fr (s s' : MState) : Prop where
  now : s'.now = s.now
  cfg : s'.cfg = s.cfg

theorem Fr.refl (s : MState) : Fr s s := ⟨rfl, rfl⟩

theorem Fr.trans {a b c : MState} (h1 : Fr a b) (h2 : Fr b c) : Fr a c :=
  ⟨h2.now.trans h1.now, h2.cfg.trans h1.cfg⟩

theorem _root_.IceProofs.GatherClosed.Keeps.fr {s s' : MState} (h : Keeps s s') : Fr s s' := ⟨h.now, h.cfg⟩

theorem fr_quiet (s0 : MState) : Quiet (Fr s0) where
  units h c gen := h.trans (runCycleUnits_keeps _ c gen).fr
  gate {s} h := ⟨(gate_keeps s).now.trans h.now, (gate_keeps s).cfg.trans h.cfg⟩
  resume h pick := h.trans (resume_keeps _ pick).fr
  drop h := ⟨h.now, h.cfg⟩
  upd h hb _ := ⟨hb.now.trans h.now, hb.cfg.trans h.cfg⟩

theorem tickDue_fr (s : MState) : Fr s (tickDue s) := (fr_quiet s).of_tickDue (Fr.refl s)
theorem expire_fr (s : MState) : Fr s (expire s) := (fr_quiet s).of_expire (Fr.refl s)
theorem openGate_fr (s : MState) : Fr s (openGate s) := (fr_quiet s).of_openGate (Fr.refl s)

def Late (t : Nat) (s : MState) : Prop := ∀ j ∈ s.jobs, t < j.deadline

theorem late_of_jobs {t : Nat} {s s' : MState} (h : Late t s) (hj : s'.jobs = s.jobs) : Late t s' := by
  intro j hx; rw [hj] at hx; exact h j hx

theorem startUnit_late {t : Nat} {s : MState} (h : Late t s) (hn : s.now = t) (c gen : Nat) (u : GUnit) :
    Late t (startUnit s c gen u) ∧ (startUnit s c gen u).now = t := by
  refine ⟨forall_run h (fun _ => ?_), (startUnit_keeps s c gen u).now.trans hn⟩
  rw [(exec_same _ _ _).2]
  simp only [stunTimeoutMs, turnTimeoutMs]
  split <;> omega

theorem late_quiet (t : Nat) : Quiet (fun s => Late t s ∧ s.now = t) where
  units h c gen := runCycleUnits_of_start (P := fun s => Late t s ∧ s.now = t) (fun h c gen u => startUnit_late h.1 h.2 c gen u)
    (fun h _ => ⟨late_of_jobs h.1 rfl, h.2⟩) h c gen
  gate {s} h := List.foldl_inv (fun s => Late t s ∧ s.now = t) _ _ _
    (show Late t { s with gateClosed := false, heldCycles := [] } ∧ _ from ⟨late_of_jobs h.1 rfl, h.2⟩) (fun s c hs =>
    runHost_of_start (P := fun s => Late t s ∧ s.now = t) (fun h c gen u => startUnit_late h.1 h.2 c gen u) hs _ _)
  resume {s} h pick := by
    refine ⟨?_, (resume_keeps s pick).now.trans h.2⟩
    exact resume_ind (I := fun _ s' => Late t s') s pick (fun j hj => h.1 j (List.mem_filter.1 hj).1)
      (fun j _ s' a m hj _ h' => forall_run h' (fun _ => by rw [(exec_same _ _ _).2]; exact h.1 j hj))
  drop h := ⟨late_of_jobs h.1 rfl, h.2⟩
  upd h hb _ := ⟨late_of_jobs h.1 hb.jobs, hb.now.trans h.2⟩

theorem expire_late {s : MState} (hp : Parked s) : Late s.now (expire s) := by
  unfold expire
  refine ((late_quiet s.now).of_monKick ⟨?_, ((fr_quiet _).of_finishCycle (resume_keeps s _).fr).now⟩).1
  intro j hj
  rw [(finishCycle_book _).1.jobs, resume_jobs hp] at hj
  simp only [List.mem_filter] at hj
  have := hj.2
  split at this
  · simp at this
  · omega

theorem atTime_late {s : MState} (hp : Parked s) (t : Nat) : Late (max s.now t) (atTime s t) := by
  unfold atTime
  have h1 := expire_late (s := { s with now := max s.now t }) (parked_of_jobs hp rfl)
  exact ((late_quiet _).of_tickDue ⟨h1, (expire_fr _).now⟩).1

theorem advTo_late {s : MState} (hp : Parked s) (t : Nat) (ht : s.now ≤ t) : ∀ j ∈ (advTo s t).jobs, t < j.deadline := by
  have loop_now : ∀ (fuel : Nat) (s : MState), s.now ≤ t → (advLoop fuel s t).now ≤ t := by
    intro fuel
    induction fuel with
    | zero => intro s h; exact h
    | succ n ih =>
      intro s h
      simp only [advLoop]
      cases hne : nextEvent s t with
      | none => exact h
      | some e =>
        simp only
        apply ih
        have hlt : e < t := by
          unfold nextEvent at hne
          have key : ∀ (l : List Nat) (acc : Option Nat), (∀ x ∈ l, x < t) → (∀ a, acc = some a → a < t) →
              ∀ r, l.foldl (fun acc t => match acc with | none => some t | some a => some (min a t)) acc = some r → r < t := by
            intro l
            induction l with
            | nil => intro acc _ hacc r hr; exact hacc r hr
            | cons x l ihl =>
              intro acc hl hacc r hr
              simp only [List.foldl_cons] at hr
              refine ihl _ (fun y hy => hl y (by simp [hy])) ?_ r hr
              intro a ha
              cases acc with
              | none => simp only [Option.some.injEq] at ha; subst ha; exact hl x (by simp)
              | some b =>
                simp only [Option.some.injEq] at ha; subst ha
                have := hacc b rfl
                omega
          exact key _ none (fun x hx => by simpa using (List.mem_filter.1 hx).2) (by intro a ha; cases ha) e hne
        have hfr : (atTime s e).now = max s.now e := by
          unfold atTime
          exact ((expire_fr _).trans (tickDue_fr _)).now
        rw [hfr]; omega
  unfold advTo
  split
  · unfold advanceTo
    intro j hj
    have hl := parked_closed.of_advLoop (t - s.now + 1) hp t
    have := atTime_late hl t j hj
    have hn := loop_now (t - s.now + 1) s ht
    omega
  · intro j hj
    exact expire_late (s := { s with now := t }) (parked_of_jobs hp rfl) j hj

end IceProofs.GatherMon

import IceProofs.CloseSysContract
/-! # CloseSys — progress: while a `Close` is pending some non-environment transition is enabled -/
namespace IceProofs.CloseSys
open IceModel.CloseSys

def CanStep (s : State) : Prop := ∃ a : Action, a.nonEnv = true ∧ (step s a).isSome = true

theorem thStep_some_api {s : State} {n : Nat} {th : Th} {alt : Bool} (hth : s.thr[n]? = some th) (hl : th.live = true)
    (hc : (callStep s (.api n) th alt).isSome = true) : (thStep s (.api n) alt).isSome = true := by
  unfold thStep
  simp only [hth, hl]
  split
  · simp at *
  · split
    · rfl
    · cases hx : callStep s (.api n) th alt with
      | none => simp [hx] at hc
      | some r => simp

theorem thStep_some_dr {s : State} {i : Nat} {st : Stream} {alt : Bool} (hst : s.streams[i]? = some st)
    (hr : st.running = true) (hc : (st.th.loc = .idle ∧ st.th.prog = []) ∨ (callStep s (.dr i) st.th alt).isSome = true) :
    (thStep s (.dr i) alt).isSome = true := by
  unfold thStep
  simp only [hst, hr]
  split
  · simp at *
  · split
    · split <;> rfl
    · rename_i hne
      rcases hc with ⟨h1, h2⟩ | hc
      · simp [h1, h2] at hne
      · cases hx : callStep s (.dr i) st.th alt with
        | none => simp [hx] at hc
        | some r => simp

theorem thStep_some {s : State} {t : Tid} {th : Th} {alt : Bool} (hget : getTh s t = some th) (ha : Active s t th)
    (hc : (callStep s t th alt).isSome = true) : (thStep s t alt).isSome = true := by
  cases t with
  | api n => exact thStep_some_api hget ha hc
  | dr i =>
    simp only [getTh] at hget
    cases hst : s.streams[i]? with
    | none => simp [hst] at hget
    | some st =>
      simp [hst] at hget; subst hget
      exact thStep_some_dr hst (ha st hst) (Or.inr hc)
  | rl c => simp [getTh] at hget

theorem CanStep.th {s : State} {t : Tid} {alt : Bool} (h : (thStep s t alt).isSome = true) : CanStep s :=
  ⟨.th t alt, rfl, h⟩

theorem CanStep.loop {s : State} (h : (loopStep s).isSome = true) : CanStep s := ⟨.loop, rfl, h⟩

theorem CanStep.call {s : State} {t : Tid} {th : Th} (hget : getTh s t = some th) (ha : Active s t th)
    (hc : (callStep s t th false).isSome = true) : CanStep s :=
  .th (t := t) (alt := false) (thStep_some hget ha hc)

/-- M2: a socket call on an aborted candidate is enabled to return. -/
theorem sockFree_of_aborted {s : State} {c : Nat} (h : ∀ cd : Cand, s.cands[c]? = some cd → cd.aborted = true) :
    sockFree s c = true := by
  unfold sockFree
  cases hcd : s.cands[c]? with
  | none => rfl
  | some cd => simp [h cd hcd]

/-- the thread inside the loop's close-once can always take its next statement (`abortIO` never blocks, M2). -/
theorem Inv.owner_can_step {s : State} (h : Inv s) {o : Tid} {k : Nat} (ho : s.once = .running o k) : CanStep s := by
  obtain ⟨th, g, hget, hloc⟩ := h.owner ho
  have ha := h.active_of_loc hget (by simp [hloc])
  refine .call hget ha ?_
  unfold callStep
  simp only [hloc, ho]
  simp
  split <;> rfl

theorem Inv.close_first_step {s : State} (h : Inv s) {t : Tid} {th : Th} {g : Bool} (hget : getTh s t = some th)
    (ha : Active s t th) (hl : th.loc = .cOnce g) : CanStep s := by
  cases ho : s.once with
  | free => exact .call hget ha (by simp [callStep, hl, ho])
  | finished => exact .call hget ha (by simp [callStep, hl, ho])
  | running o k => exact h.owner_can_step ho

/-- while the once is over (every snapshotted candidate aborted) and the loop has not yet closed
`taskLoopDone`, either the loop or the thread it waits for can move. -/
theorem Inv.loop_progress {s : State} (h : Inv s) (hf : s.once = .finished) (hne : s.loop ≠ .exited) : CanStep s := by
  have hd : s.done = true := h.doneOnce.2 (by simp [hf])
  have hon := h.onceNum
  simp only [hf, OnceNum] at hon
  -- a candidate whose receive loop is awaited and whose I/O is aborted can move
  have hrl : ∀ (c : Nat) (cd : Cand), s.cands[c]? = some cd → cd.aborted = true → cd.rl ≠ .exited →
      loopOwner s ≠ some (.rl c) → CanStep s := by
    intro c cd hc hab hex hown
    refine ⟨.rl c false, rfl, ?_⟩
    simp only [step, rlStep, hc]
    cases hr : cd.rl with
    | waitInit => simp [hab]
    | read => simp [hab]
    | rSel => simp [hd]
    | rWait => simp [hown]
    | exited => exact absurd hr hex
  -- `deleteAllCandidates` goes on, or waits for such a receive loop
  have hdel : (∀ c, loopOwner s ≠ some (.rl c)) → ((∃ o ops, s.loop = .tclose o ops) ∨ s.loop = .ocDel) →
      CanStep s := by
    intro hno hl
    have hloop : (delStep s).isSome = true → (loopStep s).isSome = true := by
      intro h1
      cases hx : delStep s with
      | none => simp [hx] at h1
      | some r => rcases hl with ⟨o, ops, hl⟩ | hl <;> simp [loopStep, hl, hx]
    cases hfl : firstListed s.cands 0 with
    | none => exact .loop (hloop (by simp [delStep, hfl]))
    | some p =>
      obtain ⟨c, cd⟩ := p
      obtain ⟨_, h2, _⟩ := firstListed_some hfl
      simp at h2
      by_cases hw : cd.aborted = true ∧ cd.rl ≠ .exited
      · exact hrl c cd h2 hw.1 hw.2 (hno c)
      · refine .loop (hloop ?_)
        simp only [delStep, hfl]
        cases hab : cd.aborted with
        | false => simp
        | true => simp [Classical.not_not.1 (fun e => hw ⟨hab, e⟩)]
  cases hl : s.loop with
  | idle => exact .loop (by simp [loopStep, hl, hd])
  | task o ops =>
    cases ops with
    | nil => exact .loop (by simp [loopStep, hl])
    | cons op ops =>
      cases op with
      | write c =>
        have hc : c < s.snap := h.writesSnap (by simp [hf]) c (by simp [hl, loopOps])
        exact .loop (by simp [loopStep, hl, sockFree_of_aborted (fun cd hcd => hon.2 c cd hc hcd)])
      | gather t =>
        refine .loop ?_
        simp only [loopStep, hl]
        cases s.thr[t]? with
        | none => rfl
        | some th => simp only []; split <;> rfl
      | _ => exact .loop (by simp [loopStep, hl])
  | tclose o ops =>
    refine hdel (fun c e => ?_) (.inl ⟨o, ops, hl⟩)
    simp only [loopOwner, hl] at e; cases e; exact h.rlTask.2.1 c ops hl
  | ocDel => exact hdel (by simp [loopOwner, hl]) (.inr hl)
  | ocWaitGather =>
    by_cases hg : gatherFinished s = true
    · exact .loop (by simp [loopStep, hl, hg])
    · unfold gatherFinished at hg
      cases hgc : s.gcur with
      | none => simp [hgc] at hg
      | some g =>
        obtain ⟨th, hth, hk, hlive⟩ := h.gcurOK g hgc
        simp only [hgc, hth] at hg
        obtain ⟨_, _, hgk⟩ := h.apiOK g th hth
        obtain ⟨hgp, hgl⟩ := hgk hk
        refine CanStep.th (t := .api g) (alt := false) (thStep_some_api hth hlive ?_)
        unfold callStep
        cases hloc : th.loc with
        | idle =>
          cases hp : th.prog with
          | nil => simp [Th.finished, hlive, hp, hloc] at hg
          | cons u r =>
            rcases hgp u (by simp [hp]) with ⟨c, tk, rfl⟩ | rfl
            · simp [hd]
            · simp
        | rSel c tk => simp [hd]
        | rWait => simp [loopOwner, hl]
        | _ => simp [hloc, GLoc] at hgl
  | exited => exact absurd hl hne
  | _ => exact .loop (by simp [loopStep, hl])

theorem Inv.drainer_call_enabled {s : State} (h : Inv s) (hf : s.once = .finished) (hex : s.loop = .exited)
    {t : Tid} {th : Th} (hok : ThOK s t th) (hng : LocNoG th.loc) (hne : th.loc ≠ .idle ∨ th.prog ≠ []) :
    (callStep s t th false).isSome = true := by
  have hd : s.done = true := h.doneOnce.2 (by simp [hf])
  have hb : s.bufClosed = true := h.stages.1 (by rw [hex]; decide)
  unfold callStep
  cases hloc : th.loc with
  | idle =>
    cases hp : th.prog with
    | nil => simp [hloc, hp] at hne
    | cons u r => cases u <;> simp [hd]
  | rSel c tk => simp [hd]
  | rWait => simp [loopOwner, hex]
  | cOnce g => simp [hf]
  | cPre g => simp [ThOK, hloc, hf] at hok
  | cWaitLoop g => simp [hex]
  | cNotif g i => simp only []; split <;> rfl
  | cWait g i =>
    simp only [ThOK, hloc] at hok
    rw [hloc, hok.1] at hng
    simp [LocNoG] at hng
  | rdBlk => simp [hb]
  | wrBlk c =>
    simp [sockFree_of_aborted (s := s) (c := c) fun cd hcd =>
      (h.candOK c cd hcd).2.1 ((h.candOK c cd hcd).2.2 (by rw [hex]; decide))]
  | awBlk => simp [hd]

/-- a thread is inside `Close`/`GracefulClose` (past its first statement, not yet returned). -/
def InClose (l : Loc) : Prop :=
  match l with
  | .cOnce _ | .cPre _ | .cWaitLoop _ | .cNotif _ _ | .cWait _ _ => True
  | _ => False

def ClosePending (s : State) : Prop :=
  ∃ (t : Tid) (th : Th), getTh s t = some th ∧ Active s t th ∧ InClose th.loc

theorem Inv.no_deadlock {s : State} (h : Inv s) (hc : Contract s) (hp : ClosePending s) : CanStep s := by
  obtain ⟨t, th, hget, ha, hin⟩ := hp
  have hok := h.thOK hget
  cases hloc : th.loc with
  | cOnce g => exact h.close_first_step hget ha hloc
  | cPre g =>
    simp only [ThOK, hloc] at hok
    obtain ⟨k, ho⟩ := hok
    exact h.owner_can_step ho
  | cWaitLoop g =>
    simp only [ThOK, hloc] at hok
    by_cases hex : s.loop = .exited
    · exact .call hget ha (by simp [callStep, hloc, hex])
    · exact h.loop_progress hok hex
  | cNotif g i =>
    refine .call hget ha ?_
    simp only [callStep, hloc]; split <;> rfl
  | cWait g i =>
    simp only [ThOK, hloc] at hok
    obtain ⟨_, hf, hex, _, _⟩ := hok
    cases hst : s.streams[i]? with
    | none =>
      exact .call hget ha (by simp [callStep, hloc, streamRunning, hst])
    | some st =>
      cases hr : st.running with
      | false =>
        exact .call hget ha (by simp [callStep, hloc, streamRunning, hst, hr])
      | true =>
        obtain ⟨_, c2, c3⟩ := hc i st hst
        have hokd := (h.drOK i st hst).1
        refine CanStep.th (t := .dr i) (alt := false) (thStep_some_dr hst hr ?_)
        by_cases hidle : st.th.loc = .idle ∧ st.th.prog = []
        · exact Or.inl hidle
        · right
          refine h.drainer_call_enabled hf hex hokd c3 ?_
          by_cases h1 : st.th.loc = .idle
          · right; intro h2; exact hidle ⟨h1, h2⟩
          · left; exact h1
  | _ => simp [hloc, InClose] at hin

end IceProofs.CloseSys

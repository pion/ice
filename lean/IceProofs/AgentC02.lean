import IceProofs.AgentRules
/-!
# Lemmas for C02 — what `Agent.handleInbound` does with messages that must not influence the agent

All statements are about the executable model `IceModel.AgentCore` and hold for ALL agent states
(no reachability assumption).
-/
namespace IceProofs.AgentC02
open IceModel.AgentCore IceProofs.Agent

/-- A message is dropped by the class / method gate, a request by the USERNAME or MESSAGE-INTEGRITY check, a success
response by the MESSAGE-INTEGRITY check or for its unknown source. -/
theorem handleInbound_dropped (a : Agent) (now : Nat) (l : Cand) (src : Nat) (m : Msg)
    (h : (m.method == 1 && (m.cls == 2 || m.cls == 0 || m.cls == 1)) = false ∨
      (m.cls = 0 ∧ (m.user ≠ some (a.localUfrag ++ ":" ++ a.remoteUfrag) ∨ m.key ≠ some a.localPwd)) ∨
      (m.cls = 2 ∧ (m.key ≠ some a.remotePwd ∨ a.findRemote l.net src = none))) :
    a.handleInbound now l src m = (a, []) := by
  rw [handleInbound_stages]
  split
  · rfl
  rename_i hg
  rcases h with h | ⟨hc, h⟩ | ⟨hc, h⟩
  · rw [h] at hg
    exact absurd rfl hg
  · rw [if_neg (by rw [hc]; decide), if_pos (by rw [hc]; rfl)]
    rcases h with h | h
    · rw [if_pos (by simpa using h)]
    · split
      · rfl
      · rw [if_pos (by simpa using h)]
  · rw [if_pos (by rw [hc]; rfl)]
    rcases h with h | h
    · rw [if_pos (by simpa using h)]
    · rw [h]
      split <;> rfl

theorem handleInbound_gate (a : Agent) (now : Nat) (l : Cand) (src : Nat) (m : Msg)
    (h : (m.method == 1 && (m.cls == 2 || m.cls == 0 || m.cls == 1)) = false) :
    a.handleInbound now l src m = (a, []) :=
  handleInbound_dropped a now l src m (Or.inl h)

theorem handleInbound_request_bad (a : Agent) (now : Nat) (l : Cand) (src : Nat) (m : Msg)
    (hc : m.cls = 0)
    (h : m.user ≠ some (a.localUfrag ++ ":" ++ a.remoteUfrag) ∨ m.key ≠ some a.localPwd) :
    a.handleInbound now l src m = (a, []) :=
  handleInbound_dropped a now l src m (Or.inr (Or.inl ⟨hc, h⟩))

theorem handleInbound_response_badkey (a : Agent) (now : Nat) (l : Cand) (src : Nat) (m : Msg)
    (hc : m.cls = 2) (h : m.key ≠ some a.remotePwd) :
    a.handleInbound now l src m = (a, []) :=
  handleInbound_dropped a now l src m (Or.inr (Or.inr ⟨hc, Or.inl h⟩))

theorem handleInbound_response_unknown (a : Agent) (now : Nat) (l : Cand) (src : Nat) (m : Msg)
    (hc : m.cls = 2) (h : a.findRemote l.net src = none) :
    a.handleInbound now l src m = (a, []) :=
  handleInbound_dropped a now l src m (Or.inr (Or.inr ⟨hc, Or.inr h⟩))

theorem handleInbound_indication (a : Agent) (now : Nat) (l : Cand) (src : Nat) (m : Msg)
    (hc : m.cls = 1) (hm : m.method = 1) :
    a.handleInbound now l src m =
      (match a.findRemote l.net src with
       | some r => a.seenRemoteRecv r.uid now
       | none => a, []) := by
  rw [handleInbound_stages, if_neg (by rw [hc, hm]; decide), if_neg (by rw [hc]; decide), if_neg (by rw [hc]; decide)]
  cases a.findRemote l.net src <;> rfl

/-- the expiry test of `invalidatePendingBindingRequests` (`maxBindingRequestTimeout` = 4 s) -/
def unexpired (now : Nat) (p : Pending) : Bool := now - p.ts < maxBindingRequestTimeout

/-- the pending entry a response with transaction id `tid` arriving at `now` is matched with: the FIRST
entry with this id among those that survive expiry -/
def outstanding (a : Agent) (now tid : Nat) : Option Pending :=
  (a.pending.filter (unexpired now)).find? (·.tid == tid)

/-- the pending list after a response with transaction id `tid` has been looked up at `now` -/
def pendingAfter (a : Agent) (now tid : Nat) : List Pending :=
  (a.pending.filter (unexpired now)).filter (·.tid != tid)

/-- the hypothesis of `C02_response_needs_outstanding`: the response's transaction id has no outstanding
entry, or the outstanding entry was sent on another network type, or to another address than the response
came from (`src`), or from another local address than the one the response arrived on (`l.addr`) -/
def NoSymmetricOutstanding (a : Agent) (now : Nat) (l : Cand) (src tid : Nat) : Prop :=
  ∀ pd ∈ outstanding a now tid, pd.net ≠ l.net ∨ pd.dest ≠ src ∨ pd.src ≠ l.addr

instance (a : Agent) (now : Nat) (l : Cand) (src tid : Nat) : Decidable (NoSymmetricOutstanding a now l src tid) := by
  unfold NoSymmetricOutstanding; infer_instance

theorem pendingAfter_sublist (a : Agent) (now tid : Nat) : (pendingAfter a now tid).Sublist a.pending :=
  (List.filter_sublist).trans List.filter_sublist

theorem takePending_eq (a : Agent) (now tid : Nat) :
    a.takePending now tid = ({ a with pending := pendingAfter a now tid }, outstanding a now tid) := by
  unfold Agent.takePending Agent.invalidatePending
  show (match (a.pending.filter (unexpired now)).find? (·.tid == tid) with
    | some p => (_, some p) | none => (_, none)) = _
  unfold pendingAfter outstanding
  split
  · rename_i p hp; simp [hp]; rfl
  · rename_i hp; simp [hp, filter_key_ne_of_find?_none (k := Pending.tid) hp]; rfl

theorem findPair_pending (a : Agent) (P : List Pending) (l r : Cand) :
    ({ a with pending := P } : Agent).findPair l r = a.findPair l r := rfl

theorem handleSuccess_skip (a : Agent) (now : Nat) (m : Msg) (l r : Cand) (src : Nat)
    (h : NoSymmetricOutstanding a now l src m.tid ∨ a.findPair l r = none) :
    a.handleSuccess now m l r src = ({ a with pending := pendingAfter a now m.tid }, []) := by
  rw [handleSuccess_body, takePending_eq]
  dsimp only
  cases ho : outstanding a now m.tid with
  | none => rfl
  | some pd =>
    dsimp only
    split
    · rfl
    · rename_i hsym
      rcases h with h | h
      · exfalso
        rcases h pd ho with h | h | h <;> simp [h] at hsym
      · rw [findPair_pending, h]

theorem handleInbound_response_no_match (a : Agent) (now : Nat) (l : Cand) (src : Nat) (m : Msg) (r : Cand)
    (hc : m.cls = 2) (hm : m.method = 1) (hk : m.key = some a.remotePwd)
    (hr : a.findRemote l.net src = some r)
    (h : NoSymmetricOutstanding a now l src m.tid) :
    a.handleInbound now l src m
      = (({ a with pending := pendingAfter a now m.tid } : Agent).seenRemoteRecv r.uid now, []) := by
  rw [handleInbound_success a now l src m r hm hc hk hr, handleSuccess_skip a now m l r src (Or.inl h)]

theorem handleInbound_response_no_pair (a : Agent) (now : Nat) (l : Cand) (src : Nat) (m : Msg) (r : Cand)
    (hc : m.cls = 2) (hm : m.method = 1) (hk : m.key = some a.remotePwd)
    (hr : a.findRemote l.net src = some r) (h : a.findPair l r = none) :
    a.handleInbound now l src m
      = (({ a with pending := pendingAfter a now m.tid } : Agent).seenRemoteRecv r.uid now, []) := by
  rw [handleInbound_success a now l src m r hm hc hk hr, handleSuccess_skip a now m l r src (Or.inr h)]

end IceProofs.AgentC02

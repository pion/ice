import IceSpec.C18
import IceProofs.GatherUnits
/-!
Glue between the gatherers of `IceModel.Gather` and the clauses of `IceSpec.C18`: the tests of `localInterfaces` against
`onAcceptedIface` / `eligibleAddr`, and the host rewrite rule — the model's `hostMapped` / `muxMapped` ARE the spec's
reading `[a unless replaced] ++ ruleExts` (`hostMapped_eq`, `muxMapped_eq`), which serves soundness and completeness alike.
-/
namespace IceProofs.GatherGlue
open IceModel.Gather IceSpec.C18 IceProofs.GatherUnits

/-- the address half of the test of `localInterfaces`, without the family -/
def addrPass (cfg : Config) (a : Addr) : Bool := !(a.cls.isLoopback && !cfg.includeLoopback) && ipFilterAccepts cfg a

theorem onAcceptedIface_eq (cfg : Config) (ifs : List Iface) (a : Addr) :
    onAcceptedIface cfg ifs a = ifs.any fun i => ifaceAccepted cfg i && i.addrs.contains a && addrPass cfg a := by
  unfold onAcceptedIface ifaceAccepted ifFilterAccepts addrPass ipFilterAccepts
  congr 1; funext i
  cases cfg.ifFilter <;> cases cfg.ipFilter <;> simp only [Bool.not_and, Bool.not_not, Bool.and_assoc]

theorem acceptedIfacesOf_eq (cfg : Config) (ifs : List Iface) (a : Addr) :
    acceptedIfacesOf cfg ifs a = (ifs.filter fun i => ifaceAccepted cfg i && i.addrs.contains a).map (·.name) := by
  unfold acceptedIfacesOf ifaceAccepted ifFilterAccepts
  congr 2; funext i
  cases cfg.ifFilter <;> simp only [Bool.not_and, Bool.not_not]

theorem addrAccepted_iff {cfg : Config} {nts : List NetType} {a : Addr} :
    addrAccepted cfg nts a = true ↔ addrPass cfg a = true ∧
      (if a.cls.is6 then v6Requested nts = true ∧ a.cls.supported6 = true else v4Requested nts = true) := by
  unfold addrAccepted addrPass
  cases a.cls.is6 <;> simp [and_assoc, and_comm, and_left_comm]

theorem excluded_iff (c : AddrClass) : excludedClass c = false ↔ (c.is6 = true → c.supported6 = true) := by
  cases c <;> decide

theorem local_of_accepted {cfg : Config} {ifs : List Iface} {a : Addr} (nts : List NetType)
    (h : onAcceptedIface cfg ifs a = true)
    (hfam : if a.cls.is6 then v6Requested nts = true ∧ a.cls.supported6 = true else v4Requested nts = true) :
    Local cfg nts ifs a := by
  rw [onAcceptedIface_eq, List.any_eq_true] at h
  obtain ⟨i, hi, h⟩ := h
  simp only [Bool.and_eq_true] at h
  exact ⟨i, hi, h.1.1, List.contains_iff_mem.1 h.1.2, addrAccepted_iff.2 ⟨h.2, hfam⟩⟩

theorem requested_of_netEnabled {cfg : Config} {tcp v6 : Bool} (h : netEnabled cfg (NetType.ofTransport tcp v6) = true) :
    (if v6 then v6Requested (configured cfg.netTypes) else v4Requested (configured cfg.netTypes)) = true
    ∧ (configured cfg.netTypes).contains (NetType.ofTransport tcp v6) = true := by
  have hmem : NetType.ofTransport tcp v6 ∈ configured cfg.netTypes := by
    apply mem_configured.2
    simp only [netEnabled, Bool.or_eq_true, List.isEmpty_iff] at h
    rcases h with h | h
    · exact Or.inl h
    · exact Or.inr (List.contains_iff_mem.1 h)
  refine ⟨?_, List.contains_iff_mem.2 hmem⟩
  cases v6
  · simp only [Bool.false_eq_true, ↓reduceIte, v4Requested, Bool.or_eq_true]
    right
    rw [List.any_eq_true]
    exact ⟨_, hmem, by cases tcp <;> rfl⟩
  · simp only [↓reduceIte, v6Requested, Bool.or_eq_true]
    right
    rw [List.any_eq_true]
    exact ⟨_, hmem, by cases tcp <;> rfl⟩

theorem eligible_mem_local {cfg : Config} {ifs : List Iface} {a : Addr} {tcp : Bool} {ifc : Nat}
    (he : eligibleAddr cfg ifs a = true) (hifc : ifc ∈ acceptedIfacesOf cfg ifs a)
    (hen : netEnabled cfg (NetType.ofTransport tcp a.cls.is6) = true) :
    (a, ifc) ∈ localAddrs cfg (configured cfg.netTypes) ifs := by
  simp only [eligibleAddr, Bool.and_eq_true, Bool.not_eq_true', Bool.or_eq_true] at he
  obtain ⟨⟨hacc, hex⟩, _⟩ := he
  have hreq := (requested_of_netEnabled hen).1
  have hfam : if a.cls.is6 then v6Requested (configured cfg.netTypes) = true ∧ a.cls.supported6 = true
      else v4Requested (configured cfg.netTypes) = true := by
    cases h6 : a.cls.is6
    · simpa [h6] using hreq
    · simp only [↓reduceIte]
      exact ⟨by simpa [h6] using hreq, (excluded_iff _).1 hex h6⟩
  -- the address part of the test does not depend on the interface
  obtain ⟨_, _, _, _, hok⟩ := local_of_accepted (configured cfg.netTypes) hacc hfam
  rw [acceptedIfacesOf_eq] at hifc
  obtain ⟨i, hi, rfl⟩ := List.mem_map.1 hifc
  have hi' := List.mem_filter.1 hi
  simp only [Bool.and_eq_true] at hi'
  exact mem_localAddrs.2 ⟨i, hi'.1, hi'.2.1, rfl, List.contains_iff_mem.1 hi'.2.2, hok⟩

theorem filter_isEmpty {α : Type} (p : α → Bool) (l : List α) : (l.filter p).isEmpty = !l.any p := by
  induction l with
  | nil => rfl
  | cons x t ih => cases hx : p x <;> simp [List.filter, hx, ih]

theorem lookup_eq {cfg : Config} {r : HostRule} (hr : cfg.hostRule = some r) (hmd : cfg.mdnsGather = false)
    (a : Addr) (ifc : Option Nat) :
    r.lookup a ifc = if ruleApplies cfg a ifc then some (ruleExts cfg a ifc) else none := by
  unfold ruleExts ruleApplies HostRule.lookup
  simp only [hr, hmd, Bool.not_false, Bool.true_and]
  cases hi : r.iface with
  | none =>
    cases hp : r.pin with
    | none =>
      simp only [Option.isSome_none, Bool.false_and, Bool.false_eq_true, ↓reduceIte, Bool.true_and, filter_isEmpty]
      cases hany : r.exts.any (fun e => e.cls.is6 == a.cls.is6) <;> simp
    | some p =>
      by_cases hpa : a = p
      · subst hpa; simp
      · have : (p == a) = false := by simpa using fun h => hpa h.symm
        simp [hpa, this]
  | some i =>
    by_cases hic : ifc = some i
    · subst hic
      cases hp : r.pin with
      | none =>
        simp only [Option.isSome_some, bne_self_eq_false, Bool.and_false, Bool.false_eq_true, ↓reduceIte, beq_self_eq_true,
          Bool.true_and, filter_isEmpty, Option.isSome_none]
        cases hany : r.exts.any (fun e => e.cls.is6 == a.cls.is6) <;> simp
      | some p =>
        by_cases hpa : a = p
        · subst hpa; simp
        · have : (p == a) = false := by simpa using fun h => hpa h.symm
          simp [hpa, this]
    · have h1 : (some i != ifc) = true := by simpa using fun h => hic h.symm
      have h2 : (ifc == some i) = false := by simpa using hic
      simp [h1, h2]

/-- what local address `a` (seen on `ifc`; `none` = a mux listen address) is published as -/
def ruleMapped (cfg : Config) (a : Addr) (ifc : Option Nat) : List Addr :=
  (if ruleReplaces cfg a ifc then [] else [a]) ++ ruleExts cfg a ifc

theorem mem_ruleMapped {cfg : Config} {a m : Addr} {ifc : Option Nat} :
    m ∈ ruleMapped cfg a ifc ↔ (m = a ∧ ruleReplaces cfg a ifc = false) ∨ m ∈ ruleExts cfg a ifc := by
  unfold ruleMapped
  cases ruleReplaces cfg a ifc <;> simp

theorem ruleMapped_inert {cfg : Config} (h : cfg.mdnsGather = true ∨ cfg.hostRule = none) (a : Addr) (ifc : Option Nat) :
    ruleMapped cfg a ifc = [a] := by
  have : ruleApplies cfg a ifc = false := by
    unfold ruleApplies; rcases h with h | h <;> cases hr : cfg.hostRule <;> simp_all
  simp [ruleMapped, ruleReplaces, ruleExts, this]

theorem lookup_mapped {cfg : Config} {r : HostRule} (hr : cfg.hostRule = some r) (hmd : cfg.mdnsGather = false)
    (a : Addr) (ifc : Option Nat) :
    (match r.lookup a ifc with
      | none => [a]
      | some es => (if r.replace then [] else [a]) ++ es) = ruleMapped cfg a ifc := by
  rw [lookup_eq hr hmd]
  unfold ruleMapped ruleReplaces
  cases hap : ruleApplies cfg a ifc
  · simp [ruleExts, hap]
  · simp [hr]

theorem muxMapped_eq (cfg : Config) (a : Addr) : muxMapped cfg a = ruleMapped cfg a none := by
  unfold muxMapped
  split
  · exact (ruleMapped_inert (Or.inl ‹_›) a none).symm
  · rename_i hmd
    split
    · exact (ruleMapped_inert (Or.inr ‹_›) a none).symm
    · exact lookup_mapped ‹_› (by simpa using hmd) a none

/-- an IPv6 link-local interface address is kept as it is: its literal carries the zone, no rule matches it -/
theorem hostMapped_eq (cfg : Config) (a : Addr) (ifc : Nat) :
    hostMapped cfg a ifc
      = if a.cls.isLinkLocal6 && !cfg.mdnsGather && cfg.hostRule.isSome then [a] else ruleMapped cfg a (some ifc) := by
  unfold hostMapped
  split
  · rename_i hmd; simp [hmd, ruleMapped_inert (Or.inl hmd)]
  · rename_i hmd
    split
    · rename_i hr; simp [hr, ruleMapped_inert (Or.inr hr)]
    · rename_i r hr
      split
      · rename_i hk; simp [hk, hmd, hr]
      · rename_i hk
        have hc : (a.cls.isLinkLocal6 && !cfg.mdnsGather && cfg.hostRule.isSome) = false := by simp [hk]
        rw [hc]
        exact lookup_mapped hr (by simpa using hmd) a (some ifc)

theorem ruleExts_sub {cfg : Config} {a e : Addr} {ifc : Option Nat} (h : e ∈ ruleExts cfg a ifc) :
    cfg.mdnsGather = false ∧ e ∈ hostExts cfg := by
  unfold ruleExts at h
  split at h
  · rename_i hap
    unfold ruleApplies at hap
    cases hr : cfg.hostRule with
    | none => simp [hr] at hap
    | some r =>
      simp only [hr, Bool.and_eq_true, Bool.not_eq_true'] at hap h
      refine ⟨hap.1.1, ?_⟩
      simp only [hostExts, hr, Option.map_some, Option.getD_some]
      split at h
      · exact h
      · exact (List.mem_filter.1 h).1
  · simp at h

theorem mem_hostMapped {cfg : Config} {a m : Addr} {ifc : Nat} (h : m ∈ hostMapped cfg a ifc) :
    m = a ∨ (cfg.mdnsGather = false ∧ m ∈ hostExts cfg) := by
  rw [hostMapped_eq] at h
  split at h
  · exact Or.inl (List.mem_singleton.1 h)
  · rcases mem_ruleMapped.1 h with ⟨rfl, _⟩ | h
    · exact Or.inl rfl
    · exact Or.inr (ruleExts_sub h)

theorem mem_muxMapped {cfg : Config} {a m : Addr} (h : m ∈ muxMapped cfg a) :
    m = a ∨ (cfg.mdnsGather = false ∧ m ∈ hostExts cfg) := by
  rw [muxMapped_eq] at h
  rcases mem_ruleMapped.1 h with ⟨rfl, _⟩ | h
  · exact Or.inl rfl
  · exact Or.inr (ruleExts_sub h)

theorem hostMapped_of_published {cfg : Config} {ifs : List Iface} {a e : Addr} {ifc : Nat}
    (he : eligibleAddr cfg ifs a = true)
    (h : (e = a ∧ ruleReplaces cfg a (some ifc) = false) ∨ e ∈ ruleExts cfg a (some ifc)) : e ∈ hostMapped cfg a ifc := by
  rw [hostMapped_eq]
  split
  · -- an eligible link-local address: mDNS gather mode, so this branch is not taken
    rename_i hc
    simp only [eligibleAddr, Bool.and_eq_true, Bool.or_eq_true, Bool.not_eq_true'] at he hc
    rcases he.2 with h' | h'
    · rw [hc.1.1] at h'; cases h'
    · rw [hc.1.2] at h'; cases h'
  · exact mem_ruleMapped.2 h

theorem muxMapped_of_published {cfg : Config} {a e : Addr}
    (h : (e = a ∧ ruleReplaces cfg a none = false) ∨ e ∈ ruleExts cfg a none) : e ∈ muxMapped cfg a := by
  rw [muxMapped_eq]; exact mem_ruleMapped.2 h

theorem tcpMux_isSome {cfg : Config} {a : Addr} (h : tcpMuxAccepts cfg a = true) : cfg.tcpMux.isSome = true := by
  unfold tcpMuxAccepts at h
  cases hm : cfg.tcpMux
  · rw [hm] at h; cases h
  · rfl

theorem hostUnit_mem {cfg : Config} {ifs : List Iface} (hq : cfg.quirks = []) {a e : Addr} {ifc : Nat}
    (he : eligibleAddr cfg ifs a = true) (hifc : ifc ∈ acceptedIfacesOf cfg ifs a)
    (hpub : (e = a ∧ ruleReplaces cfg a (some ifc) = false) ∨ e ∈ ruleExts cfg a (some ifc))
    (hexe : excludedClass e.cls = false) (tcp : Bool)
    (hen : netEnabled cfg (NetType.ofTransport tcp e.cls.is6) = true)
    (hena : netEnabled cfg (NetType.ofTransport tcp a.cls.is6) = true)
    (hl : if tcp then tcpMuxAccepts cfg a = true else cfg.udpMux = none) :
    ({ kind := cond tcp .hostTcp .hostUdp, net := NetType.ofTransport tcp e.cls.is6, bind := a, mapped := e, ifc := ifc } : GUnit)
      ∈ hostIfaceUnits cfg ifs :=
  (mem_hostIfaceUnits hq).2 ⟨a, ifc, e, eligible_mem_local he hifc hena, hostMapped_of_published he hpub, rfl, rfl, rfl, rfl, rfl,
    (excluded_iff _).1 hexe, by
      cases tcp
      · exact Or.inr ⟨rfl, rfl, (requested_of_netEnabled hen).2, hl⟩
      · exact Or.inl ⟨rfl, rfl, (requested_of_netEnabled hen).2, hl⟩⟩

end IceProofs.GatherGlue

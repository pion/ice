import IceProofs.Sys2C01LiveSys
/-!
# C01 liveness — obligations in flight

`Effect`: what one delivery or duplication does to the system (`deliver_effect`).  An agent `x` that has sent a check
`la → ra` over a `Link` holds an open transaction (`Ob`).  While the request, or the peer's answer, is in flight the
transaction stays open (`Ob.keep`); a request over a `Link` reaches the peer, who authenticates it (`Link.delivers`) and
answers (`deliver_req`); delivering the answer validates the pair — and selects it for a nomination (`deliver_resp`).
-/
namespace IceProofs.C01Live
open IceModel.AgentCore IceModel.Sys2 IceProofs.Sys2Run IceProofs.C01 IceProofs.Agent

section
variable {nat blocked : List (Nat × Nat)} {SLA SLB SR : Nat → Prop} {liteA liteB : Bool} {T0 H : Nat} {c : Bool}

/-- what happened to agent `x` -/
def Touched (T0 : Nat) (s s' : Sys) (hd : Dgram) (t : List Dgram) (x : Bool) : Prop :=
  ∃ m, hd.p = .stun m ∧ s.owner (s.unmapped hd.dst) = some x ∧ (hd.src, hd.dst) ∉ s.blocked ∧
    s'.agent x = (step (s.agent x) (.inbound s.now (s.unmapped hd.dst) (s.mapped hd.src) m)).1 ∧
    s'.agent (!x) = s.agent (!x) ∧
    LK T0 s.now (if m.cls = 2 then some m.tid else none) (s.agent x) (s'.agent x) ∧
    s'.inflight = t ++ dgramsOf (step (s.agent x) (.inbound s.now (s.unmapped hd.dst) (s.mapped hd.src) m)).2

structure Effect (T0 : Nat) (s s' : Sys) (hd : Dgram) (t : List Dgram) : Prop where
  net : SameNet s s'
  now : s'.now = s.now
  ids : ∀ x, SameId (s.agent x) (s'.agent x)
  cases : (s'.inflight = t ∧ (∀ x, s'.agent x = s.agent x) ∧
      ((hd.src, hd.dst) ∈ s.blocked ∨ s.owner (s.unmapped hd.dst) = none)) ∨ ∃ x, Touched T0 s s' hd t x

/-- the datagrams that stay in flight when datagram `k` is delivered (`keep`: a copy is delivered) -/
def restOf (s : Sys) (k : Nat) (keep : Bool) : List Dgram := if keep then s.inflight else removeAt s.inflight k

theorem mem_restOf_or {s : Sys} {k : Nat} {keep : Bool} {hd d : Dgram} (hk : s.inflight[k]? = some hd) (hd' : d ∈ s.inflight) :
    d ∈ restOf s k keep ∨ d = hd := by
  unfold restOf
  cases keep with
  | true => exact Or.inl hd'
  | false =>
    simp only [Bool.false_eq_true, if_false]
    obtain ⟨i, hi⟩ := List.getElem?_of_mem hd'
    by_cases hik : i = k
    · subst hik; rw [hk] at hi; cases hi; exact Or.inr rfl
    · left
      unfold removeAt
      rcases Nat.lt_or_ge i k with hlt | hge
      · exact List.mem_append_left _ (List.mem_of_getElem? (by rw [List.getElem?_take_of_lt hlt]; exact hi))
      · have : i = (k + 1) + (i - (k + 1)) := by omega
        exact List.mem_append_right _ (List.mem_of_getElem? (i := i - (k + 1)) (by rw [List.getElem?_drop, ← this]; exact hi))

theorem mem_of_mem_restOf {s : Sys} {k : Nat} {keep : Bool} {d : Dgram} (h : d ∈ restOf s k keep) : d ∈ s.inflight := by
  unfold restOf at h
  split at h
  · exact h
  · exact IceProofs.Sys2C05.mem_removeAt h

theorem deliver_effect {s : Sys} (h : SysOK nat blocked SLA SLB SR liteA liteB T0 H c s) {k : Nat} (keep : Bool) {hd : Dgram}
    (hk : s.inflight[k]? = some hd) :
    SysOK nat blocked SLA SLB SR liteA liteB T0 H c (s.deliver k keep).1 ∧
    Effect T0 s (s.deliver k keep).1 hd (restOf s k keep) := by
  refine ⟨h.deliver k keep, ?_⟩
  have hmem : hd ∈ s.inflight := List.mem_of_getElem? hk
  rw [deliver_eq, hk]
  simp only []
  -- the state the datagram is handed over in
  have hs1 : ∀ keep : Bool, (if keep then s else { s with inflight := removeAt s.inflight k }) =
      ({ s with inflight := restOf s k keep } : Sys) := by
    intro keep; cases keep <;> simp [restOf]
  rw [hs1 keep]
  generalize hs0 : ({ s with inflight := restOf s k keep } : Sys) = s1
  have hub : Hub s s1 := hs0 ▸ ⟨rfl, rfl, ⟨rfl, rfl, rfl⟩, fun _ hx => mem_of_mem_restOf hx⟩
  have hnow : s1.now = s.now := hs0 ▸ rfl
  have hfl : s1.inflight = restOf s k keep := hs0 ▸ rfl
  obtain ⟨hnat, hblk, hhasB⟩ := hub.topo
  rcases handOver_cases s1 hd with ⟨e, hw⟩ | ⟨z, hnb, ho, e⟩
  · rw [hblk, hub.unmapped, hub.owner] at hw
    rw [e]
    exact ⟨⟨hnat, hblk, hub.owner⟩, hnow, fun x => by rw [hub.agent]; exact SameId.refl _, Or.inl ⟨hfl, hub.agent, hw⟩⟩
  · rw [e, hub.evOf hnow]
    rw [hblk] at hnb
    rw [hub.unmapped, hub.owner] at ho
    obtain ⟨m, hm⟩ := (h.flight hd hmem).1
    have hev : evOf s hd = .inbound s.now (s.unmapped hd.dst) (s.mapped hd.src) m := by unfold evOf; rw [hm]
    rw [hev]
    have hok := (h.flight hd hmem).hok hm z
    obtain ⟨g1, k1, i1⟩ := step_inbound_good h.time0 h.timeH (h.good z) (s.unmapped hd.dst) (s.mapped hd.src) m hok
    have hsame := agentEv_same s1 z (.inbound s.now (s.unmapped hd.dst) (s.mapped hd.src) m)
    have hother := agentEv_other s1 z (.inbound s.now (s.unmapped hd.dst) (s.mapped hd.src) m)
    rw [hub.agent] at hsame hother
    obtain ⟨q1, q2, q3⟩ := agentEv_topo s1 z (.inbound s.now (s.unmapped hd.dst) (s.mapped hd.src) m)
    have q4 := agentEv_now s1 z (.inbound s.now (s.unmapped hd.dst) (s.mapped hd.src) m)
    obtain ⟨hidx, hlocx, _⟩ := agentEv_frame s1 z (.inbound s.now (s.unmapped hd.dst) (s.mapped hd.src) m)
      (by rw [hub.agent]; exact i1) (by rw [hub.agent]; exact k1.locals)
    simp only [hub.agent] at hidx hlocx
    refine ⟨sameNet_of (q1.trans hnat) (q2.trans hblk) (q3.trans hhasB) hlocx (fun x => (hidx x).closed),
      q4.trans hnow, hidx, Or.inr ⟨z, m, hm, ho, hnb, hsame, hother, ?_, ?_⟩⟩
    · rw [hsame]; exact k1
    · rw [agentEv_inflight, hfl, hub.agent]

/-- agent `x` has the transaction `tid` pending: an ordinary / nominating check sent at `ts` from `la` to `ra` -/
def PendFor (s : Sys) (x : Bool) (tid la ra : Nat) (uc : Bool) (ts : Nat) : Prop :=
  ∃ pd, (s.agent x).pending.find? (·.tid == tid) = some pd ∧ pd.src = la ∧ pd.dest = ra ∧ pd.net = 0 ∧
    pd.useCand = uc ∧ pd.nom = none ∧ pd.ts = ts

/-- the pair a response on the route `la → ra` will be looked up to (`nomOn`: it carries the deferred-nomination
mark — or the mark has been acted upon by another response on this pair and the agent has a selected pair) -/
def Slot (s : Sys) (x : Bool) (la ra : Nat) (nomOn : Bool) : Prop :=
  ∃ l r p, (s.agent x).localByAddr la = some l ∧ (s.agent x).findRemote 0 ra = some r ∧
    (s.agent x).findPair l r = some p ∧ (nomOn = true → p.nomOnSuccess = true ∨ (s.agent x).selected.isSome = true)

structure Ob (s : Sys) (x : Bool) (tid la ra : Nat) (uc nomOn : Bool) (ts : Nat) : Prop where
  link : Link s x la ra
  pend : PendFor s x tid la ra uc ts
  slot : Slot s x la ra nomOn
  young : s.now - ts < maxBindingRequestTimeout

/-- datagram `d` is the Binding request of that transaction … -/
def ReqD (s : Sys) (x : Bool) (tid la ra : Nat) (uc : Bool) (d : Dgram) : Prop :=
  d.src = la ∧ d.dst = ra ∧ ∃ m, d.p = .stun m ∧ IsReq (s.agent x) uc m ∧ m.tid = tid

/-- … resp. a success response to it that verifies at `x` -/
def RespD (s : Sys) (x : Bool) (tid la ra : Nat) (d : Dgram) : Prop :=
  d.src = s.unmapped ra ∧ d.dst = s.mapped la ∧
    ∃ m, d.p = .stun m ∧ m.cls = 2 ∧ m.method = 1 ∧ m.tid = tid ∧ m.key = some (s.agent x).remotePwd

def HasSucc (s : Sys) (x : Bool) : Prop := ∃ p ∈ (s.agent x).checklist, p.state = .succeeded

instance (s : Sys) (x : Bool) : Decidable (HasSucc s x) := by unfold HasSucc; infer_instance
def Sel (s : Sys) (x : Bool) : Prop := (s.agent x).selected.isSome = true

instance (s : Sys) (x : Bool) : Decidable (Sel s x) := by unfold Sel; infer_instance

theorem sel_none {s : Sys} {x : Bool} (h : ¬ Sel s x) : (s.agent x).selected = none := by
  cases hx : (s.agent x).selected with
  | none => rfl
  | some _ => exact absurd (by unfold Sel; rw [hx]; rfl) h

/-- what the completed transaction gives: a valid pair; a selected pair for the controlling agent's nomination and
for a marked pair of the controlled agent -/
def Goal (c : Bool) (s : Sys) (x : Bool) (uc nomOn : Bool) : Prop :=
  HasSucc s x ∧ ((((x == c) && uc) || ((x != c) && nomOn)) = true → Sel s x)

theorem Effect.mem_tail {s s' : Sys} {hd : Dgram} {t : List Dgram} (he : Effect T0 s s' hd t) {d : Dgram} (hd' : d ∈ t) :
    d ∈ s'.inflight := by
  rcases he.cases with ⟨e, _, _⟩ | ⟨x, m, _, _, _, _, _, _, e⟩
  · rw [e]; exact hd'
  · rw [e]; exact List.mem_append_left _ hd'

theorem Effect.agent_ne {s s' : Sys} {hd : Dgram} {t : List Dgram} (he : Effect T0 s s' hd t) {x : Bool}
    (hx : s.owner (s.unmapped hd.dst) ≠ some x) : s'.agent x = s.agent x := by
  rcases he.cases with ⟨_, e, _⟩ | ⟨y, m, _, hown, _, _, ho, _, _⟩
  · exact e x
  · by_cases hxy : x = y
    · subst hxy; exact absurd hown hx
    · rw [Bool.eq_not_of_ne hxy]; exact ho

theorem Effect.touched {s s' : Sys} {hd : Dgram} {t : List Dgram} (he : Effect T0 s s' hd t) (x : Bool) :
    s'.agent x = s.agent x ∨ Touched T0 s s' hd t x := by
  rcases he.cases with ⟨_, e, _⟩ | ⟨y, ht⟩
  · exact Or.inl (e x)
  · by_cases hxy : x = y
    · subst hxy; exact Or.inr ht
    · obtain ⟨_, _, _, _, _, ho, _⟩ := ht
      rw [Bool.eq_not_of_ne hxy]; exact Or.inl ho

theorem Effect.agent_cases {s s' : Sys} {hd : Dgram} {t : List Dgram} (he : Effect T0 s s' hd t) (x : Bool) :
    s'.agent x = s.agent x ∨ ∃ m, hd.p = .stun m ∧
      s'.agent x = (step (s.agent x) (.inbound s.now (s.unmapped hd.dst) (s.mapped hd.src) m)).1 :=
  (he.touched x).imp id fun ⟨m, hm, _, _, hst, _⟩ => ⟨m, hm, hst⟩

theorem Effect.lk {s s' : Sys} {hd : Dgram} {t : List Dgram} (he : Effect T0 s s' hd t) (x : Bool) :
    ∃ ex, LK T0 s.now ex (s.agent x) (s'.agent x) := by
  rcases he.touched x with e | ⟨m, _, _, _, _, _, k, _⟩
  · exact ⟨none, by rw [e]; exact LK.refl _ _ _ _⟩
  · exact ⟨_, k⟩

/-- topology, listeners and the agents' identities agree: all that the description of a datagram in flight reads -/
def Same (s s' : Sys) : Prop := SameNet s s' ∧ ∀ x, SameId (s.agent x) (s'.agent x)

theorem Effect.same {s s' : Sys} {hd : Dgram} {t : List Dgram} (he : Effect T0 s s' hd t) : Same s s' := ⟨he.net, he.ids⟩

theorem ReqD.same {s s' : Sys} (he : Same s s') {x : Bool} {tid la ra : Nat} {uc : Bool} {d : Dgram}
    (h : ReqD s x tid la ra uc d) : ReqD s' x tid la ra uc d := by
  obtain ⟨h1, h2, m, h3, h4, h5⟩ := h
  exact ⟨h1, h2, m, h3, h4.congr (he.2 x), h5⟩

theorem RespD.same {s s' : Sys} (he : Same s s') {x : Bool} {tid la ra : Nat} {d : Dgram}
    (h : RespD s x tid la ra d) : RespD s' x tid la ra d := by
  obtain ⟨h1, h2, m, h3, h4, h5, h6, h7⟩ := h
  have hm : ∀ y, s'.mapped y = s.mapped y := fun y => by simp [Sys.mapped, he.1.1]
  have hu : ∀ y, s'.unmapped y = s.unmapped y := fun y => by simp [Sys.unmapped, he.1.1]
  exact ⟨by rw [hu]; exact h1, by rw [hm]; exact h2, m, h3, h4, h5, h6, by rw [(he.2 x).remotePwd]; exact h7⟩

theorem young_lt {now ts : Nat} (h : now - ts ≤ 2000000000) : now - ts < maxBindingRequestTimeout := by
  unfold maxBindingRequestTimeout; omega

theorem Slot.lk {s s' : Sys} (h : SysOK nat blocked SLA SLB SR liteA liteB T0 H c s) {x : Bool} {now : Nat} {ex : Option Nat}
    (k : LK T0 now ex (s.agent x) (s'.agent x)) {la ra : Nat} {nomOn : Bool} (hsl : Slot s x la ra nomOn) :
    Slot s' x la ra nomOn := by
  obtain ⟨l, r, p, h1, h2, h3, h4⟩ := hsl
  obtain ⟨l', hl', el⟩ := k.localByAddr h1
  obtain ⟨r', hr', er⟩ := k.findRemote h2
  obtain ⟨p', hp', kp⟩ := k.findPair (endsOK_of_c06 (h.c06 x) (h.good x).open_) el er.key h3
  exact ⟨l', r', p', hl', hr', hp', fun hn => (h4 hn).elim
    (fun hm => (kp.nomOn hm).imp (fun y => y) (fun f => f (h.good x).linv)) (fun hs => Or.inr (k.sel hs))⟩

theorem Ob.keep {s s' : Sys} (h : SysOK nat blocked SLA SLB SR liteA liteB T0 H c s) {hd : Dgram} {t : List Dgram}
    (he : Effect T0 s s' hd t) {x : Bool} {tid la ra : Nat} {uc nomOn : Bool} {ts : Nat} (hob : Ob s x tid la ra uc nomOn ts)
    (hne : ∀ m, hd.p = .stun m → m.cls = 2 → m.tid = tid → s.owner (s.unmapped hd.dst) ≠ some x) :
    Ob s' x tid la ra uc nomOn ts := by
  refine ⟨he.net.link hob.link, ?_, ?_, by rw [he.now]; exact hob.young⟩
  · obtain ⟨pd, h1, h2⟩ := hob.pend
    rcases he.cases with ⟨_, e, _⟩ | ⟨y, m, hm, hown, _, _, ho, k, _⟩
    · exact ⟨pd, by rw [e]; exact h1, h2⟩
    · by_cases hxy : x = y
      · subst hxy
        refine ⟨pd, k.pend tid pd h1 (by rw [h2.2.2.2.2.2]; exact hob.young) ?_, h2⟩
        split
        · rename_i hc
          intro e
          simp only [Option.some.injEq] at e
          exact hne m hm hc e.symm hown
        · simp
      · have e : s'.agent x = s.agent x := by rw [Bool.eq_not_of_ne hxy]; exact ho
        exact ⟨pd, by rw [e]; exact h1, h2⟩
  · obtain ⟨_, k⟩ := he.lk x
    exact hob.slot.lk h k

theorem resp_route {s : Sys} {LA LB : Log} (hsi : SInv nat blocked SLA SLB SR liteA liteB s LA LB) {x : Bool} {pd : Pending}
    (hpd : pd ∈ (s.agent x).pending) {d : Dgram} (hd : d ∈ s.inflight) {m : Msg} (hm : d.p = .stun m) (hc : m.cls = 2)
    (ht : m.tid = pd.tid) : d.src = s.unmapped pd.dest ∧ d.dst = s.mapped pd.src := by
  obtain ⟨l0, r0, hlog, h1, h2, _, _⟩ := hsi.k2 d hd m hm hc
  have hun : ∀ y, s.unmapped y = unmappedL nat y := fun y => by rw [unmapped_eq, hsi.nat_eq]
  have hma : ∀ y, s.mapped y = mappedL nat y := fun y => by rw [mapped_eq, hsi.nat_eq]
  have key : l0 = pd.src ∧ r0 = pd.dest := by
    cases x with
    | false =>
      have hp := hsi.invA.pendOK (pdv pd) (List.mem_map.mpr ⟨pd, hpd, rfl⟩)
      rcases List.mem_append.mp hlog with hl | hl
      · have := hsi.invA.logFun _ hl _ hp (by simp [pdv, ht])
        simp [pdv] at this
        exact ⟨this.2.1, this.2.2⟩
      · obtain ⟨n1, _, e1⟩ := hsi.invA.logOK _ hp
        obtain ⟨n2, _, e2⟩ := hsi.invB.logOK _ hl
        simp only [pdv] at e1 e2
        omega
    | true =>
      have hp := hsi.invB.pendOK (pdv pd) (List.mem_map.mpr ⟨pd, hpd, rfl⟩)
      rcases List.mem_append.mp hlog with hl | hl
      · obtain ⟨n1, _, e1⟩ := hsi.invB.logOK _ hp
        obtain ⟨n2, _, e2⟩ := hsi.invA.logOK _ hl
        simp only [pdv] at e1 e2
        omega
      · have := hsi.invB.logFun _ hl _ hp (by simp [pdv, ht])
        simp [pdv] at this
        exact ⟨this.2.1, this.2.2⟩
  rw [hun, hma, ← key.1, ← key.2]
  exact ⟨h1, h2⟩

theorem mem_dgramsOf_of_dgram {o : List Out} {f t : Nat} {m : Msg} (h : Out.dgram f t m ∈ o) :
    ({ src := f, dst := t, p := .stun m } : Dgram) ∈ dgramsOf o := by
  unfold dgramsOf
  exact List.mem_filterMap.mpr ⟨_, h, rfl⟩

theorem Ob.of_agent_eq {s s' : Sys} (hn : SameNet s s') (hnow : s'.now = s.now) {x : Bool} (e : s'.agent x = s.agent x)
    {tid la ra : Nat} {uc nomOn : Bool} {ts : Nat} (hob : Ob s x tid la ra uc nomOn ts) : Ob s' x tid la ra uc nomOn ts := by
  obtain ⟨pd, h1, h2⟩ := hob.pend
  obtain ⟨l, r, p, g1, g2, g3, g4⟩ := hob.slot
  exact ⟨hn.link hob.link, ⟨pd, by rw [e]; exact h1, h2⟩, ⟨l, r, p, by rw [e]; exact g1, by rw [e]; exact g2, by rw [e]; exact g3, by rw [e]; exact g4⟩,
    by rw [hnow]; exact hob.young⟩

theorem deliver_resp {s s' : Sys} (h : SysOK nat blocked SLA SLB SR liteA liteB T0 H c s) {hd : Dgram} {t : List Dgram}
    (he : Effect T0 s s' hd t) (hmem : hd ∈ s.inflight) {x : Bool} {tid la ra : Nat} {uc nomOn : Bool} {ts : Nat}
    (hob : Ob s x tid la ra uc nomOn ts) {m : Msg} (hm : hd.p = .stun m) (hc : m.cls = 2) (ht : m.tid = tid) :
    (Goal c s' x uc nomOn ∨ Ob s' x tid la ra uc nomOn ts) ∧
    (m.method = 1 → m.key = some (s.agent x).remotePwd → Goal c s' x uc nomOn) := by
  obtain ⟨LA, LB, hsi⟩ := h.sinv
  obtain ⟨pd, hpd, p1, p2, p3, p4, p5, p6⟩ := hob.pend
  have hpdm : pd ∈ (s.agent x).pending := List.mem_of_find?_eq_some hpd
  have hpt : pd.tid = tid := by simpa using List.find?_some hpd
  obtain ⟨r1, r2⟩ := resp_route hsi hpdm hmem hm hc (ht.trans hpt.symm)
  rw [p1] at r2
  rw [p2] at r1
  have hnb : (hd.src, hd.dst) ∉ s.blocked := by rw [r1, r2]; exact hob.link.back
  have hown : s.owner (s.unmapped hd.dst) = some x := by rw [r2, hob.link.saneL]; exact hob.link.ownL
  rcases he.cases with ⟨_, _, hw⟩ | ⟨y, m', hm', hown', _, hst, ho, k, _⟩
  · rcases hw with hw | hw
    · exact absurd hw hnb
    · rw [hown] at hw; cases hw
  · rw [hown] at hown'
    cases hown'
    rw [hm] at hm'
    cases hm'
    rw [r2, hob.link.saneL, r1, hob.link.saneR] at hst
    obtain ⟨l, r, p, g1, g2, g3, g4⟩ := hob.slot
    by_cases hv : m.method = 1 ∧ m.key = some (s.agent x).remotePwd
    · suffices hg : Goal c s' x uc nomOn from ⟨Or.inl hg, fun _ _ => hg⟩
      obtain ⟨v1, v2, v3⟩ := step_response_validates h.time0 h.timeH (h.good x) g1 hc hv.1 hv.2 g2 (by rw [ht]; exact hpd)
        (by rw [p6]; exact hob.young) p3 p2 p1 g3
      rw [← hst] at v1 v2 v3
      refine ⟨v1, fun hcond => ?_⟩
      have hrole := h.paired.role x
      simp only [Bool.or_eq_true, Bool.and_eq_true, beq_iff_eq, bne_iff_ne, ne_eq] at hcond
      rcases hcond with ⟨hxc, hu⟩ | ⟨hxc, hn⟩
      · exact v2 (by rw [hrole]; simp [hxc]) (by rw [p4]; exact hu) p5
      · rcases g4 hn with hmark | hsel
        · exact v3 (by rw [hrole]; simp [hxc]) hmark
        · exact k.sel hsel
    · refine ⟨Or.inr ?_, fun h1 h2 => absurd ⟨h1, h2⟩ hv⟩
      have hnoop := step_response_noop (now := s.now) (h.good x) (la := la) (src := ra) hc (by
        by_cases h1 : m.method = 1
        · right; left; intro hk; exact hv ⟨h1, hk⟩
        · left; exact h1)
      rw [hnoop] at hst
      exact hob.of_agent_eq he.net he.now hst

theorem Link.delivers {s s' : Sys} (h : SysOK nat blocked SLA SLB SR liteA liteB T0 H c s) {hd : Dgram} {t : List Dgram}
    (he : Effect T0 s s' hd t) (hmem : hd ∈ s.inflight) {x : Bool} {la ra : Nat} {uc : Bool} (hl : Link s x la ra)
    {m : Msg} (e1 : hd.src = la) (e2 : hd.dst = ra) (hm : hd.p = .stun m) (hreq : IsReq (s.agent x) uc m) :
    s'.agent (!x) = (step (s.agent (!x)) (.inbound s.now (s.unmapped ra) (s.mapped la) m)).1 ∧ s'.agent x = s.agent x ∧
    s'.inflight = t ++ dgramsOf (step (s.agent (!x)) (.inbound s.now (s.unmapped ra) (s.mapped la) m)).2 ∧
    AuthRequest (s.agent (!x)) m ∧ NoConflict (s.agent (!x)) m ∧
    (s.agent (!x)).cfg.blockedIPs.contains (ipOf (s.mapped la)) = false ∧
    ∃ l, (s.agent (!x)).localByAddr (s.unmapped ra) = some l := by
  have hnb : (hd.src, hd.dst) ∉ s.blocked := by rw [e1, e2]; exact hl.fwd
  have hown : s.owner (s.unmapped hd.dst) = some (!x) := by rw [e2]; exact hl.ownR
  rcases he.cases with ⟨_, _, hw⟩ | ⟨y, m', hm', hown', _, hst, ho, _, hfl⟩
  · rcases hw with hw | hw
    · exact absurd hw hnb
    · rw [hown] at hw; cases hw
  · rw [hown] at hown'
    cases hown'
    rw [hm] at hm'
    cases hm'
    rw [e1, e2] at hst hfl
    rw [Bool.not_not] at ho
    refine ⟨hst, ho, hfl, h.paired.auth hreq, h.paired.noConflict hreq, ?_,
      Option.isSome_iff_exists.mp (owner_some hl.ownR).1⟩
    have := ((h.flight hd hmem).2 m hm hreq.cls (!x) (by rw [hreq.key, h.paired.pwd x])).2.2
    rwa [e1] at this

theorem deliver_req {s s' : Sys} (h : SysOK nat blocked SLA SLB SR liteA liteB T0 H c s) {hd : Dgram} {t : List Dgram}
    (he : Effect T0 s s' hd t) (hmem : hd ∈ s.inflight) {x : Bool} {tid la ra : Nat} {uc nomOn : Bool} {ts : Nat}
    (hob : Ob s x tid la ra uc nomOn ts) (hreq : ReqD s x tid la ra uc hd) :
    Ob s' x tid la ra uc nomOn ts ∧ ∃ d' ∈ s'.inflight, RespD s' x tid la ra d' := by
  obtain ⟨e1, e2, m, hm, hreqm, hmt⟩ := hreq
  have hkeep : Ob s' x tid la ra uc nomOn ts :=
    hob.keep h he (fun m' hm' hc' _ => by rw [hm] at hm'; cases hm'; rw [hreqm.cls] at hc'; cases hc')
  obtain ⟨_, hxs, hfl, hauth, hnc, hflt, l, hl⟩ := hob.link.delivers h he hmem e1 e2 hm hreqm
  have hans := step_request_answered (now := s.now) (h.good (!x)) hl hauth hnc hflt
  have hm' : ∀ y, s'.mapped y = s.mapped y := fun y => by simp [Sys.mapped, he.net.1]
  have hu' : ∀ y, s'.unmapped y = s.unmapped y := fun y => by simp [Sys.unmapped, he.net.1]
  refine ⟨hkeep, _, by rw [hfl]; exact List.mem_append_right _ (mem_dgramsOf_of_dgram hans),
    by rw [hu'], by rw [hm'], respMsg (s.agent (!x)) m, rfl, rfl, rfl, hmt, ?_⟩
  rw [hxs, h.paired.pwd x]; rfl

end

end IceProofs.C01Live

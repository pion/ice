import IceProofs.Sys2C01LiveKeep
import IceProofs.Sys2C01LiveProg
import IceProofs.AgentC02Step
import IceProofs.AgentRulesTimers
/-!
# C01 liveness — the walk along the paths a loss-free suffix runs (a tick; inbound STUN on a full agent)

What is read of a stretch of such a path: the frame `LK`, the identity (`SameId`: role, credentials), and what goes on the
wire (`Walk`): every Binding request carries the agent's credentials, its role and no nomination value, leaves from one of its
local candidate addresses, has a fresh transaction id of its own tag, and its transaction is pending afterwards; a
USE-CANDIDATE request is sent by a controlling agent on the ends of a listed Succeeded pair; responses are emitted only as
answers to an authenticated request, with its transaction id.  Each helper is walked ONCE: on the timer path for `Trail`
(the frame `W` whatever the agent, the outputs where `LInv` holds), on the inbound path for `Walk` under `LInv`.
-/
namespace IceProofs.C01Live
open IceModel.AgentCore IceProofs.C03 IceProofs.Agent

theorem find?_ckey {l l' : List Cand} (h : l'.map ckey = l.map ckey) (P : Cand → Bool)
    (hP : ∀ c c', ckey c' = ckey c → P c' = P c) : (l'.find? P).map ckey = (l.find? P).map ckey := by
  have e : ∀ l : List Cand, (l.find? P).map ckey = (l.map ckey).find? P := fun l => by
    rw [List.find?_map, show P ∘ ckey = P from funext fun c => hP c (ckey c) rfl]
  rw [e l', h, e l]

theorem find?_map_ckey {l l' : List Cand} (h : l'.map ckey = l.map ckey) (P : Cand → Bool)
    (hP : ∀ c c', ckey c' = ckey c → P c' = P c) {c : Cand} (hc : l.find? P = some c) :
    ∃ c', l'.find? P = some c' ∧ ckey c' = ckey c :=
  Prog.some_of_map_ckey ((find?_ckey h P hP).trans (congrArg (Option.map ckey) hc))

theorem localByAddr_isSome_congr {a a' : Agent} (h : a'.locals.map ckey = a.locals.map ckey) (x : Nat) :
    (a'.localByAddr x).isSome = (a.localByAddr x).isSome := by
  have := congrArg Option.isSome (find?_ckey h (fun c => c.addr == x) (fun c c' e => by simp [ckey_addr e]))
  rwa [Option.isSome_map, Option.isSome_map] at this

section
variable {T0 now : Nat} {ex : Option Nat} {a a' : Agent}

theorem LK.localByAddr (h : LK T0 now ex a a') {x : Nat} {l : Cand} (hl : a.localByAddr x = some l) :
    ∃ l', a'.localByAddr x = some l' ∧ ckey l' = ckey l :=
  find?_map_ckey h.locals (fun c => c.addr == x) (fun c c' e => by simp [ckey_addr e]) hl

theorem LK.localByAddr_isSome (h : LK T0 now ex a a') (x : Nat) :
    (a'.localByAddr x).isSome = (a.localByAddr x).isSome := localByAddr_isSome_congr h.locals x

theorem LK.localOf (h : LK T0 now ex a a') {u : Nat} {l : Cand} (hl : a.localOf u = some l) :
    ∃ l', a'.localOf u = some l' ∧ ckey l' = ckey l :=
  find?_map_ckey h.locals (fun c => c.uid == u) (fun c c' e => by simp [ckey_uid e]) hl

theorem LK.mem_locals (h : LK T0 now ex a a') {l' : Cand} (hl : l' ∈ a'.locals) : ∃ l ∈ a.locals, ckey l' = ckey l :=
  mem_of_map_ckey hl h.locals

theorem LK.findRemote (h : LK T0 now ex a a') {n x : Nat} {r : Cand} (hr : a.findRemote n x = some r) :
    ∃ r', a'.findRemote n x = some r' ∧ CKeep T0 r r' :=
  h.remotes.find? (fun c => c.net == n && c.addr == x) (fun c => c.net == n && c.addr == x)
    (fun c c' e => by simp [ckey_addr e.key, ckey_net e.key]) hr

theorem LK.remoteOf (h : LK T0 now ex a a') {u : Nat} {r : Cand} (hr : a.remoteOf u = some r) :
    ∃ r', a'.remoteOf u = some r' ∧ CKeep T0 r r' :=
  h.remotes.find? (fun c => c.uid == u) (fun c => c.uid == u) (fun c c' e => by simp [ckey_uid e.key]) hr

theorem LK.pairById (h : LK T0 now ex a a') {id : Nat} {p : Pair} (hp : a.pairById id = some p) :
    ∃ p', a'.pairById id = some p' ∧ PKeep (LInv a → a'.selected.isSome = true) p p' :=
  h.pairs.find? (fun q => q.id == id) (fun q => q.id == id) (fun q q' e => by simp [e.id]) hp

theorem LK.mem_pair (h : LK T0 now ex a a') {p : Pair} (hp : p ∈ a.checklist) : ∃ p' ∈ a'.checklist, PKeep (LInv a → a'.selected.isSome = true) p p' :=
  h.pairs.mem hp

/-- every pair's ends resolve (true at step boundaries: `AgentC06.Inv`) -/
def EndsOK (a : Agent) : Prop := ∀ p ∈ a.checklist, (a.localOf p.l).isSome = true ∧ (a.remoteOf p.r).isSome = true

theorem LK.findPair (h : LK T0 now ex a a') (he : EndsOK a) {l r l' r' : Cand} (hl : ckey l' = ckey l)
    (hr : ckey r' = ckey r) {p : Pair} (hp : a.findPair l r = some p) :
    ∃ p', a'.findPair l' r' = some p' ∧ PKeep (LInv a → a'.selected.isSome = true) p p' := by
  -- the pairs stay at their positions; on those of the old checklist, whose ends resolve, the predicate agrees
  have hk : IdxKeep (fun q q' => q ∈ a.checklist ∧ PKeep (LInv a → a'.selected.isSome = true) q q') a.checklist
      a'.checklist := fun i x hx => let ⟨y, hy, k⟩ := h.pairs i x hx; ⟨y, hy, List.mem_of_getElem? hx, k⟩
  have key : ∀ q q', q ∈ a.checklist ∧ PKeep (LInv a → a'.selected.isSome = true) q q' →
      Prog.fpPred a' l' r' q' = Prog.fpPred a l r q := by
    rintro q q' ⟨hq, k⟩
    obtain ⟨h1, h2⟩ := he q hq
    obtain ⟨pl, hpl⟩ := Option.isSome_iff_exists.mp h1
    obtain ⟨pr, hpr⟩ := Option.isSome_iff_exists.mp h2
    obtain ⟨pl', hpl', el⟩ := h.localOf hpl
    obtain ⟨pr', hpr', er⟩ := h.remoteOf hpr
    refine Prog.fpPred_congr ?_ ?_ hl hr
    · rw [k.l, hpl', hpl]; exact congrArg some el
    · rw [k.r, hpr', hpr]; exact congrArg some er.key
  obtain ⟨p', hp', _, kp⟩ := hk.find? (Prog.fpPred a l r) (Prog.fpPred a' l' r') key hp
  exact ⟨p', hp', kp⟩

end

/-- what a loss-free suffix never changes on an agent -/
structure SameId (a a' : Agent) : Prop where
  cfg : a'.cfg = a.cfg
  tieBreaker : a'.tieBreaker = a.tieBreaker
  tag : a'.tag = a.tag
  controlling : a'.controlling = a.controlling
  localUfrag : a'.localUfrag = a.localUfrag
  localPwd : a'.localPwd = a.localPwd
  remoteUfrag : a'.remoteUfrag = a.remoteUfrag
  remotePwd : a'.remotePwd = a.remotePwd
  started : a'.started = a.started
  closed : a'.closed = a.closed

theorem SameId.refl (a : Agent) : SameId a a := ⟨rfl, rfl, rfl, rfl, rfl, rfl, rfl, rfl, rfl, rfl⟩

theorem SameId.trans {a b c : Agent} (h1 : SameId a b) (h2 : SameId b c) : SameId a c :=
  ⟨h2.cfg.trans h1.cfg, h2.tieBreaker.trans h1.tieBreaker, h2.tag.trans h1.tag, h2.controlling.trans h1.controlling,
   h2.localUfrag.trans h1.localUfrag, h2.localPwd.trans h1.localPwd, h2.remoteUfrag.trans h1.remoteUfrag,
   h2.remotePwd.trans h1.remotePwd, h2.started.trans h1.started, h2.closed.trans h1.closed⟩

theorem SameId.of_core {a a' : Agent} (h : a'.core = a.core) : SameId a a' :=
  ⟨congrArg Core.cfg h, congrArg Core.tieBreaker h, congrArg Core.tag h, congrArg Core.controlling h,
   congrArg Core.localUfrag h, congrArg Core.localPwd h, congrArg Core.remoteUfrag h, congrArg Core.remotePwd h,
   congrArg Core.started h, congrArg Core.closed h⟩

theorem SameId.of_core_nom {a a' : Agent} {x : Option Nat} (h : a'.core = { a.core with lastNomination := x }) :
    SameId a a' :=
  ⟨congrArg Core.cfg h, congrArg Core.tieBreaker h, congrArg Core.tag h, congrArg Core.controlling h,
   congrArg Core.localUfrag h, congrArg Core.localPwd h, congrArg Core.remoteUfrag h, congrArg Core.remotePwd h,
   congrArg Core.started h, congrArg Core.closed h⟩

theorem handleInbound_sameId (a : Agent) (now : Nat) (l : Cand) (src : Nat) (m : Msg)
    (hok : AuthRequest a m → NoConflict a m) : SameId a (a.handleInbound now l src m).1 := by
  have h := core_handleInbound a now l src m
  have hns : conflictSwitch a l src m = false := by
    cases hcs : conflictSwitch a l src m with
    | false => rfl
    | true =>
      exfalso
      unfold conflictSwitch reachesSelector at hcs
      simp only [Bool.and_eq_true, decide_eq_true_eq] at hcs
      obtain ⟨⟨hau, _⟩, hrc⟩ := hcs
      cases hr : roleConflict a m with
      | none => rw [hr] at hrc; cases hrc
      | some tb =>
        have := (roleConflict_eq_some a m tb).mp hr
        exact hok hau _ _ this rfl
  rw [hns] at h
  simp only [Bool.false_eq_true, if_false] at h
  split at h
  · exact SameId.of_core_nom h
  · exact SameId.of_core h

/-- a Binding request `m` emitted from `f` to `t` by the agent `a` (state before the step) -/
structure ReqOut (a : Agent) (f t : Nat) (m : Msg) : Prop where
  isReq : IsReq a m.useCand m
  src : ∃ l ∈ a.locals, l.addr = f
  tid : ∃ n, a.nextTid ≤ n ∧ m.tid = 2 * n + a.tag
  ucCtl : m.useCand = true → a.controlling = true

/-- the requests among the outputs of `r`, all sent at time `now`, with the state `r.1` afterwards -/
structure ReqsOK (a : Agent) (now : Nat) (r : Agent × List Out) : Prop where
  req : ∀ f t m, Out.dgram f t m ∈ r.2 → m.cls = 0 → ReqOut a f t m
  pend : ∀ f t m, Out.dgram f t m ∈ r.2 → m.cls = 0 →
    r.1.pending.find? (·.tid == m.tid) = some (pendOf m.tid f t 0 m.useCand now)
  uc : ∀ f t m, Out.dgram f t m ∈ r.2 → m.cls = 0 → m.useCand = true →
    ∃ p l r', p ∈ r.1.checklist ∧ p.state = .succeeded ∧ r.1.localOf p.l = some l ∧ r.1.remoteOf p.r = some r' ∧
      l.addr = f ∧ r'.addr = t

section walk
variable {T0 now : Nat} {ex : Option Nat} {Q : Msg → Prop}

/-- a listed Succeeded pair whose ends resolve to the addresses `f`, `t` (the `uc` clause of `ReqsOK`) -/
def UcOK (b : Agent) (f t : Nat) : Prop :=
  ∃ p l r', p ∈ b.checklist ∧ p.state = .succeeded ∧ b.localOf p.l = some l ∧ b.remoteOf p.r = some r' ∧
    l.addr = f ∧ r'.addr = t

theorem UcOK.of_lk {b b' : Agent} {f t : Nat} (hk : LK T0 now ex b b') (h : UcOK b f t) : UcOK b' f t := by
  obtain ⟨p, l, r, hp, hs, hl, hr, e1, e2⟩ := h
  obtain ⟨p', hp', kp⟩ := hk.mem_pair hp
  obtain ⟨l', hl', kl⟩ := hk.localOf hl
  obtain ⟨r', hr', kr⟩ := hk.remoteOf hr
  refine ⟨p', l', r', hp', kp.succ hs, by rw [kp.l]; exact hl', by rw [kp.r]; exact hr', ?_, ?_⟩
  · rw [ckey_addr kl]; exact e1
  · rw [ckey_addr kr.key]; exact e2

theorem ReqOut.of_earlier {a b : Agent} {f t : Nat} {m : Msg} (hid : SameId a b)
    (hloc : b.locals.map ckey = a.locals.map ckey) (hn : a.nextTid ≤ b.nextTid) (h : ReqOut b f t m) :
    ReqOut a f t m := by
  obtain ⟨hr, ⟨l, hl, hla⟩, ⟨n, hn', ht⟩, hu⟩ := h
  refine ⟨⟨hr.cls, hr.method, ?_, ?_, ?_, hr.nom, hr.uc⟩, ?_, ⟨n, Nat.le_trans hn hn', by rw [ht, hid.tag]⟩, ?_⟩
  · rw [hr.user, hid.remoteUfrag, hid.localUfrag]
  · rw [hr.key, hid.remotePwd]
  · rw [hr.role, hid.controlling, hid.tieBreaker]
  · obtain ⟨l0, hl0, e⟩ := mem_of_map_ckey hl hloc
    exact ⟨l0, hl0, (ckey_addr e).symm.trans hla⟩
  · intro h; rw [← hid.controlling]; exact hu h

def NoDgram (o : List Out) : Prop := ∀ f t m, Out.dgram f t m ∉ o

theorem NoDgram.nil : NoDgram [] := fun _ _ _ h => by cases h
theorem NoDgram.append {o1 o2 : List Out} (h1 : NoDgram o1) (h2 : NoDgram o2) : NoDgram (o1 ++ o2) := by
  intro f t m h
  rcases List.mem_append.mp h with h | h
  · exact h1 f t m h
  · exact h2 f t m h

/-- running from `a` (time `now`) with result `r`: the frame, the identity, transaction ids only grow, the
requests among the outputs are as `ReqsOK` says, every other datagram satisfies `Q` -/
structure Walk (T0 now : Nat) (ex : Option Nat) (Q : Msg → Prop) (a : Agent) (r : Agent × List Out) : Prop where
  lk : LK T0 now ex a r.1
  id : SameId a r.1
  tid : a.nextTid ≤ r.1.nextTid
  reqs : ReqsOK a now r
  other : ∀ f t m, Out.dgram f t m ∈ r.2 → m.cls ≠ 0 → Q m

theorem ReqsOK.silent {a : Agent} {r : Agent × List Out} (h : NoDgram r.2) : ReqsOK a now r :=
  ⟨fun f t m hm => absurd hm (h f t m), fun f t m hm => absurd hm (h f t m), fun f t m hm => absurd hm (h f t m)⟩

theorem Walk.silent {a : Agent} {r : Agent × List Out} (hk : LK T0 now ex a r.1) (hid : SameId a r.1)
    (ht : a.nextTid ≤ r.1.nextTid) (h : NoDgram r.2) : Walk T0 now ex Q a r :=
  ⟨hk, hid, ht, ReqsOK.silent h, fun f t m hm => absurd hm (h f t m)⟩

theorem Walk.step {a b : Agent} (hk : LK T0 now ex a b) (hid : SameId a b) (ht : a.nextTid ≤ b.nextTid) :
    Walk T0 now ex Q a (b, []) := Walk.silent hk hid ht NoDgram.nil

theorem Walk.refl (a : Agent) : Walk T0 now ex Q a (a, []) :=
  Walk.step (LK.refl _ _ _ _) (SameId.refl a) (Nat.le_refl _)

theorem Walk.mono {Q' : Msg → Prop} {a : Agent} {r : Agent × List Out} (h : Walk T0 now ex Q a r)
    (hq : ∀ m, Q m → Q' m) : Walk T0 now ex Q' a r :=
  ⟨h.lk, h.id, h.tid, h.reqs, fun f t m hm hc => hq m (h.other f t m hm hc)⟩

theorem pend_young (tid f t net : Nat) (uc : Bool) (now : Nat) :
    now - (pendOf tid f t net uc now).ts < maxBindingRequestTimeout := by
  show now - now < 4000000000
  omega

theorem Walk.seq {a : Agent} {r1 r2 : Agent × List Out} (h1 : Walk T0 now ex Q a r1)
    (h2 : Walk T0 now none Q r1.1 r2) : Walk T0 now ex Q a (r2.1, r1.2 ++ r2.2) := by
  refine ⟨h1.lk.trans h2.lk.weaken, h1.id.trans h2.id, Nat.le_trans h1.tid h2.tid, ⟨?_, ?_, ?_⟩, ?_⟩
  · intro f t m hm hc
    rcases List.mem_append.mp hm with hm | hm
    · exact h1.reqs.req f t m hm hc
    · exact (h2.reqs.req f t m hm hc).of_earlier h1.id h1.lk.locals h1.tid
  · intro f t m hm hc
    rcases List.mem_append.mp hm with hm | hm
    · exact h2.lk.pend _ _ (h1.reqs.pend f t m hm hc) (pend_young _ _ _ _ _ _) (by simp)
    · exact h2.reqs.pend f t m hm hc
  · intro f t m hm hc hu
    rcases List.mem_append.mp hm with hm | hm
    · exact UcOK.of_lk h2.lk (h1.reqs.uc f t m hm hc hu)
    · exact h2.reqs.uc f t m hm hc hu
  · intro f t m hm hc
    rcases List.mem_append.mp hm with hm | hm
    · exact h1.other f t m hm hc
    · exact h2.other f t m hm hc

theorem Walk.andThen {a b : Agent} {r1 : Agent × List Out} (h1 : Walk T0 now ex Q a r1)
    (hk : LK T0 now none r1.1 b) (hid : SameId r1.1 b) (ht : r1.1.nextTid ≤ b.nextTid) :
    Walk T0 now ex Q a (b, r1.2) := by
  have := h1.seq (Walk.step (Q := Q) hk hid ht)
  simpa using this

theorem Walk.upd {a b : Agent} {r1 : Agent × List Out} (h1 : Walk T0 now ex Q a r1) (hk : LK T0 now none r1.1 b)
    (hc : b.core = r1.1.core) (ht : b.nextTid = r1.1.nextTid) : Walk T0 now ex Q a (b, r1.2) :=
  h1.andThen hk (SameId.of_core hc) (Nat.le_of_eq ht.symm)

theorem Walk.after {a b : Agent} {r2 : Agent × List Out} (hk : LK T0 now ex a b) (hid : SameId a b)
    (ht : a.nextTid ≤ b.nextTid) (h2 : Walk T0 now none Q b r2) : Walk T0 now ex Q a r2 :=
  (Walk.step (Q := Q) hk hid ht).seq h2

theorem sameId_rfl {a b : Agent} (h : b.core = a.core) : SameId a b := SameId.of_core h

theorem sendRequest_walk (b : Agent) (l r : Cand) (uc : Bool) (hinv : LInv b) (hl : ∃ l0 ∈ b.locals, l0.addr = l.addr)
    (hr : r.net = 0) (hctl : uc = true → b.controlling = true) (huc : uc = true → UcOK b l.addr r.addr) :
    Walk T0 now none Q b (b.sendRequest now l r uc none) := by
  obtain ⟨m, ho, hm, htid, hfind⟩ := sendRequest_emits b now l r uc hinv.pendOK
  have hk := sendRequest_lk (T0 := T0) (now := now) (ex := none) b l r uc none
  have hmem : ∀ f t m', Out.dgram f t m' ∈ (b.sendRequest now l r uc none).2 → f = l.addr ∧ t = r.addr ∧ m' = m := by
    intro f t m' h
    rw [ho] at h
    simpa using h
  refine ⟨hk, SameId.of_core (core_sendRequest b now l r uc none),
    (IceProofs.AgentC02.frame_sendRequest b now l r uc none).tid, ⟨?_, ?_, ?_⟩, ?_⟩
  · intro f t m' h _
    obtain ⟨rfl, rfl, rfl⟩ := hmem f t m' h
    refine ⟨by rw [hm.uc]; exact hm, hl, ⟨b.nextTid, Nat.le_refl _, htid⟩, fun h => hctl (hm.uc ▸ h)⟩
  · intro f t m' h _
    obtain ⟨rfl, rfl, rfl⟩ := hmem f t m' h
    rw [htid, hfind, hr, hm.uc]
  · intro f t m' h _ hu
    obtain ⟨rfl, rfl, rfl⟩ := hmem f t m' h
    exact UcOK.of_lk hk (huc (hm.uc ▸ hu))
  · intro f t m' h hc
    obtain ⟨rfl, rfl, rfl⟩ := hmem f t m' h
    exact absurd hm.cls hc

theorem ping_walk (b : Agent) (l r : Cand) (hinv : LInv b) (hl : ∃ l0 ∈ b.locals, l0.addr = l.addr) (hr : r.net = 0) :
    Walk T0 now none Q b (b.ping now l r) :=
  sendRequest_walk b l r false hinv hl hr (fun h => by cases h) (fun h => by cases h)

theorem setConnState_noDgram (a : Agent) (s : ConnState) : NoDgram (a.setConnState s).2 := by
  unfold Agent.setConnState
  split
  · exact NoDgram.nil
  · intro f t m h; simp at h

theorem select_noDgram (a : Agent) (id : Nat) : NoDgram (a.select id).2 := by
  obtain ⟨x, y, h⟩ := select_snd_eq a id
  rw [h]
  intro f t m hm
  split at hm <;> simp at hm

/-- a stretch of the timer path from `a` with result `r`: the frame whatever the agent, the outputs of a well-kept one -/
structure Trail (T0 now : Nat) (Q : Msg → Prop) (a : Agent) (r : Agent × List Out) : Prop where
  w : W T0 now none a r.1
  walk : LInv a → Walk T0 now none Q a r

theorem Trail.refl (a : Agent) : Trail T0 now Q a (a, []) := ⟨W.refl a, fun _ => Walk.refl a⟩

theorem Trail.seq {a : Agent} {r1 r2 : Agent × List Out} (h1 : Trail T0 now Q a r1) (h2 : Trail T0 now Q r1.1 r2) :
    Trail T0 now Q a (r2.1, r1.2 ++ r2.2) :=
  ⟨h1.w.trans h2.w, fun hi => (h1.walk hi).seq (h2.walk ((h1.walk hi).lk.inv hi))⟩

theorem Trail.step {a b : Agent} (hw : W T0 now none a b) (hc : b.core = a.core) (ht : b.nextTid = a.nextTid) :
    Trail T0 now Q a (b, []) :=
  ⟨hw, fun hi => Walk.step (hw.2 hi.ids) (SameId.of_core hc) (Nat.le_of_eq ht.symm)⟩

theorem Trail.upd {a b : Agent} {r1 : Agent × List Out} (h1 : Trail T0 now Q a r1) (hw : W T0 now none r1.1 b)
    (hc : b.core = r1.1.core) (ht : b.nextTid = r1.1.nextTid) : Trail T0 now Q a (b, r1.2) := by
  have := h1.seq (Trail.step (Q := Q) hw hc ht)
  simpa using this

theorem Trail.after {a b : Agent} {r2 : Agent × List Out} (hw : W T0 now none a b) (hc : b.core = a.core)
    (ht : b.nextTid = a.nextTid) (h2 : Trail T0 now Q b r2) : Trail T0 now Q a r2 := by
  have := (Trail.step (Q := Q) hw hc ht).seq h2
  simpa using this

theorem sendRequest_trail (b : Agent) (l r : Cand) (uc : Bool) (hl : ∃ l0 ∈ b.locals, l0.addr = l.addr)
    (hr : CandsOK b.remotes → r.net = 0) (hctl : uc = true → b.controlling = true)
    (huc : LInv b → uc = true → UcOK b l.addr r.addr) : Trail T0 now Q b (b.sendRequest now l r uc none) :=
  ⟨sendRequest_w b l r uc none, fun hi => sendRequest_walk b l r uc hi hl (hr hi.remOK) hctl (huc hi)⟩

theorem ping_trail (b : Agent) {l r : Cand} {x y : Nat} (hl : b.localOf x = some l) (hr : b.remoteOf y = some r) :
    Trail T0 now Q b (b.ping now l r) :=
  sendRequest_trail b l r false ⟨l, (findCand_listed hl).1, rfl⟩ (fun h => (h.1 r (findCand_listed hr).1).1)
    (fun h => by cases h) (fun _ h => by cases h)

theorem setState_w (b : Agent) (id : Nat) (p : Pair) (s : PairState) (hs : s ≠ .succeeded) (hp : b.pairById id = some p)
    (hps : p.state ≠ .succeeded) : W T0 now ex b (b.modPair id fun q => { q with state := s }) :=
  ⟨Fr.modPair b id _ (fun _ => rfl), fun hi => LK.setState b id s hs (not_succ_of_pairById hi hp hps)⟩

theorem pingAll_trail (a : Agent) : Trail T0 now Q a (a.pingAll now) :=
  pingAll_steps (P := Trail T0 now Q a) a now (Trail.refl a)
    (fun b _ id p h hp hw => h.upd (setState_w b id p .inProgress (by decide) hp (by rw [hw]; decide)) rfl rfl)
    (fun b _ id p h hp hs _ => h.upd (setState_w b id p .failed (by decide) hp (by rw [hs]; decide)) rfl rfl)
    fun b _ id _ l r h _ _ _ hl hr => (h.seq (ping_trail b hl hr)).upd
      (W.of (Fr.modPair _ id _ (fun _ => rfl)) (LK.modPair_keep _ id (fun p => { p with reqCount := p.reqCount + 1 })
        (fun _ => rfl) (fun _ => rfl) (fun _ => rfl) (fun _ => rfl) (fun _ => rfl) (fun _ => rfl))) rfl rfl

theorem validateSelected_noDgram (a : Agent) (t : Nat) : NoDgram (a.validateSelected t).2.1 := by
  unfold Agent.validateSelected
  split
  · exact NoDgram.nil
  · exact setConnState_noDgram a _

theorem validateSelected_trail (a : Agent) (hv : ValOK a now) :
    Trail T0 now Q a ((a.validateSelected now).1, (a.validateSelected now).2.1) :=
  ⟨validateSelected_w a hv, fun hi => Walk.silent ((validateSelected_w a hv).2 hi.ids)
    (SameId.of_core (core_validateSelected a now)) (IceProofs.AgentC02.frame_validateSelected a now).tid
    (validateSelected_noDgram a now)⟩

theorem keepalive_trail (a : Agent) : Trail T0 now Q a (a.keepalive now) := by
  unfold Agent.keepalive
  split
  · exact Trail.refl a
  · split
    · split
      · rename_i hl hr
        exact ping_trail a hl hr
      · exact Trail.refl a
    · exact Trail.refl a

theorem nominate_trail (a : Agent) (p : Pair) (hc : a.controlling = true)
    (hq : LInv a → ∃ q ∈ a.checklist, q.l = p.l ∧ q.r = p.r ∧ q.state = .succeeded) :
    Trail T0 now Q a (a.nominate now p) := by
  unfold Agent.nominate
  split
  · rename_i l r hl hr
    refine sendRequest_trail a l r true ⟨l, (findCand_listed hl).1, rfl⟩ (fun h => (h.1 r (findCand_listed hr).1).1)
      (fun _ => hc) fun hi _ => ?_
    obtain ⟨q, hqm, e1, e2, hs⟩ := hq hi
    exact ⟨q, l, r, hqm, hs, by rw [e1]; exact hl, by rw [e2]; exact hr, rfl, rfl⟩
  · exact Trail.refl a

theorem contactCandidates_trail (a : Agent) (hv : ValOK a now) : Trail T0 now Q a (a.contactCandidates now) := by
  have hval := validateSelected_trail (T0 := T0) (Q := Q) a hv
  refine contactCandidates_rule (Q := Trail T0 now Q a) a now (fun auto _ _ => ?_) (fun p hctl _ hp => ?_) (Trail.refl a)
    (fun p l r hctl _ hnone hbest _ _ => ?_) (fun _ => pingAll_trail a) (fun _ => hval)
  · -- the automatic renomination is switched off (`ValOK`)
    have hk := hval.seq (keepalive_trail _)
    refine validateKeepalive_rule (Q := Trail T0 now Q a) a now auto hval (fun _ => hk) fun _ => ?_
    rw [IceProofs.Auto.autoRenom_off _ now (by
      rw [show ((a.validateSelected now).1.keepalive now).1.cfg = a.cfg from
        congrArg IceProofs.Agent.Kept.cfg ((kept_keepalive _ now).trans (kept_validateSelected a now))]
      exact hv.2), List.append_nil]
    exact hk
  · refine nominate_trail a p hctl fun hinv => ?_
    cases hn : a.nominatedPair with
    | none => rw [hn] at hp; cases hp
    | some nid =>
      rw [hn] at hp
      simp only [Option.bind_some] at hp
      obtain ⟨q, hqm, hqid, hqs⟩ := hinv.nomOK nid hn
      obtain ⟨hpm, hpid⟩ := pairById_listed hp
      have : q = p := mem_unique hinv.ids hqm hpm (hqid.trans hpid.symm)
      subst this
      exact ⟨q, hqm, rfl, rfl, hqs⟩
  · obtain ⟨k1, hmem, hps⟩ := nominateBest_lk (T0 := T0) (now := now) (ex := none) a p hnone hbest
    exact Trail.after (a := a)
      (b := { (a.modPair p.id fun p => { p with nominated := true }) with nominatedPair := some p.id })
      (W.of ⟨updPair_ids (fun _ => rfl), rfl, rfl⟩ k1) rfl rfl
      (nominate_trail _ p hctl fun _ => ⟨{ p with nominated := true }, hmem, rfl, rfl, hps⟩)

theorem contact_trail (a : Agent) (hv : ValOK a now) (hck : CkOK a now) : Trail T0 now Q a (a.contact now) := by
  have fin : ∀ r : Agent × List Out, Trail T0 now Q a r → Trail T0 now Q a (finish r) := fun r h =>
    h.upd (b := { r.1 with lastSeen := r.1.connState }) (W.of_eq rfl) rfl rfl
  have hchk : ∀ r, Trail T0 now Q (chk a now) r → Trail T0 now Q a r := by
    unfold chk
    split
    · exact fun r h => Trail.after (a := a) (b := { a with checkingStart := now }) (W.of_eq rfl) rfl rfl h
    · exact fun r h => h
  rw [contact_eq]
  split
  · exact Trail.refl a
  · split
    · exact fin (a, []) (Trail.refl a)
    · rename_i hcs
      split
      · rename_i hdl
        rw [hck hcs] at hdl
        cases hdl
      · exact fin _ (hchk _ (contactCandidates_trail _ (chk_valOK a now hv)))
    · exact fin _ (contactCandidates_trail a hv)

theorem runForced_trail (a : Agent) (hv : ValOK a now) (hck : CkOK a now) : Trail T0 now Q a (a.runForced now) := by
  refine runForced_rule (Q := Trail T0 now Q a) a now (Trail.refl a) fun _ _ => ?_
  have hck' : CkOK { a with forcePending := false } now := fun hc => by rw [chk_forcePending]; exact hck hc
  exact (Trail.after (a := a) (b := { a with forcePending := false }) (W.of_eq rfl) rfl rfl
    (contact_trail _ (ValOK.of_eq rfl rfl rfl rfl rfl hv) hck')).upd (W.of_eq rfl) rfl rfl

theorem pingAll_lk (a : Agent) (hi : IdsOK a) : LK T0 now ex a (a.pingAll now).1 :=
  ((pingAll_trail (Q := fun _ => False) a).w.2 hi).weaken

theorem contactCandidates_lk (a : Agent) (hi : IdsOK a) (hv : ValOK a now) :
    LK T0 now ex a (a.contactCandidates now).1 := ((contactCandidates_trail (Q := fun _ => False) a hv).w.2 hi).weaken

theorem contact_lk (a : Agent) (hi : IdsOK a) (hv : ValOK a now) (hck : CkOK a now) :
    LK T0 now ex a (a.contact now).1 := ((contact_trail (Q := fun _ => False) a hv hck).w.2 hi).weaken

theorem contact_selected (a : Agent) (hv : ValOK a now) (hck : CkOK a now) :
    (a.contact now).1.selected = a.selected := (contact_trail (T0 := 0) (Q := fun _ => False) a hv hck).w.1.sel

theorem runForced_lk (a : Agent) (hi : IdsOK a) (hv : ValOK a now) (hck : CkOK a now) :
    LK T0 now ex a (a.runForced now).1 := ((runForced_trail (Q := fun _ => False) a hv hck).w.2 hi).weaken

theorem Walk.resp {a : Agent} {r : Agent × List Out} (hk : LK T0 now ex a r.1) (hid : SameId a r.1)
    (ht : a.nextTid ≤ r.1.nextTid) (h : ∀ f t m, Out.dgram f t m ∈ r.2 → m.cls ≠ 0 ∧ Q m) : Walk T0 now ex Q a r :=
  ⟨hk, hid, ht, ⟨fun f t m hm hc => absurd hc (h f t m hm).1, fun f t m hm hc => absurd hc (h f t m hm).1,
    fun f t m hm hc => absurd hc (h f t m hm).1⟩, fun f t m hm _ => (h f t m hm).2⟩

/-- what a response to `m` looks like -/
def RespTo (m m' : Msg) : Prop := (m'.cls = 2 ∨ m'.cls = 3) ∧ m'.tid = m.tid

theorem sendSuccess_walk (b : Agent) (m : Msg) (l r : Cand) :
    Walk T0 now none (RespTo m) b (b.sendSuccess now m l r) := by
  refine Walk.resp (sendSuccess_lk b m l r) (SameId.of_core (core_sendSuccess b now m l r))
    (IceProofs.AgentC02.frame_sendSuccess b now m l r).tid ?_
  intro f t m' h
  unfold Agent.sendSuccess at h
  simp only [List.mem_singleton, Out.dgram.injEq] at h
  obtain ⟨_, _, rfl⟩ := h
  exact ⟨by simp, Or.inl rfl, rfl⟩

theorem LK.locals_addr {a b : Agent} (hk : LK T0 now ex a b) {f : Nat} (h : ∃ l0 ∈ a.locals, l0.addr = f) :
    ∃ l0 ∈ b.locals, l0.addr = f := by
  obtain ⟨l0, hl0, e⟩ := h
  obtain ⟨l1, hl1, e1⟩ := mem_of_map_ckey hl0 hk.locals.symm
  exact ⟨l1, hl1, (ckey_addr e1).symm.trans e⟩

theorem reqMark_step (a : Agent) (id : Nat) (m : Msg) : Walk T0 now ex Q a (a.modPair id (reqMark m), []) :=
  Walk.step (reqMark_lk a id m) (SameId.of_core rfl) (Nat.le_refl _)

theorem ctlTail_walk {Q : Msg → Prop} {a0 a : Agent} {o : List Out} (h2 : Walk T0 now none Q a0 (a, o)) (hinv : LInv a0)
    (hc : a0.controlling = true) (l r : Cand) (p : Pair)
    (hq : ∃ q ∈ a.checklist, q.id = p.id ∧ q.l = p.l ∧ q.r = p.r ∧ q.state = p.state) :
    Walk T0 now none Q a0 (ctlTail a now l r p o) :=
  ctlTail_rule (Q := Walk T0 now none Q a0) a now l r p o h2 fun hs hn _ => by
    obtain ⟨q, hqm, hid, hl, hr, hst⟩ := hq
    have h3 := h2.upd (b := { a with nominatedPair := some p.id })
      (LK.setNominated a p.id hn ⟨q, hqm, hid, hst.trans hs⟩) rfl rfl
    exact h3.seq ((nominate_trail _ p (h3.id.controlling.trans hc) fun _ => ⟨q, hqm, hl, hr, hst.trans hs⟩).walk
      (h3.lk.inv hinv))

theorem ctlHandleRequest_walk (a : Agent) (m : Msg) (l r : Cand) (hinv : LInv a) (hc : a.controlling = true) :
    Walk T0 now none (RespTo m) a (a.ctlHandleRequest now m l r) := by
  have h1 := sendSuccess_walk (T0 := T0) (now := now) a m l r
  exact ctlHandleRequest_rule (Q := Walk T0 now none (RespTo m) a) a now m l r
    (fun _ => h1.upd ((addPair_lk _ l r).trans (countReq_lk _ _ m)) rfl rfl)
    fun p hfp => ctlTail_walk (h1.upd (countReq_lk _ p.id m) rfl rfl) hinv hc l r p
      ⟨countReq m p, mem_modPair_of_mem ((findPair_listed hfp).1) (countReq m), rfl, rfl, rfl, rfl⟩

theorem cldNominate_walk (a : Agent) (m : Msg) (id : Nat) (hnom : m.nom = none) (hfull : a.cfg.lite = false) :
    Walk T0 now none Q a (cldNominate a m id) := by
  have full : ∀ b, LiteMarked a id b → b = a := by
    rintro b (rfl | ⟨hl, _⟩)
    · rfl
    · rw [hfull] at hl; cases hl
  refine cldNominate_rule (Q := Walk T0 now none Q a) a m id (fun b hb => ?_) (fun b hb _ _ _ _ _ => ?_)
    (fun b hb _ _ _ _ => ?_) <;> rw [full b hb]
  · exact Walk.refl a
  · exact Walk.silent (select_lk a id) (SameId.of_core (core_select a id)) (IceProofs.AgentC02.frame_select a id).tid
      (select_noDgram a id)
  · exact Walk.step (LK.modPair a id (fun p => { p with nomOnSuccess := true, deferredNom := m.nom }) (fun _ => rfl)
      (fun _ => rfl) (fun _ => rfl) (fun _ _ => rfl) (fun _ _ _ h => h) (fun _ _ _ _ => hnom)
      (fun _ _ _ _ h => Or.inl h)) (SameId.of_core rfl) (Nat.le_refl _)

theorem cldProceed_walk (a : Agent) (m : Msg) (l r : Cand) (id : Nat) (hinv : LInv a) (hnom : m.nom = none)
    (hfull : a.cfg.lite = false) (hl : ∃ l0 ∈ a.locals, l0.addr = l.addr) (hr : r.net = 0) :
    Walk T0 now none (RespTo m) a (cldProceed a now m l r id) := by
  have hn := cldNominate_walk (T0 := T0) (now := now) (Q := RespTo m) a m id hnom hfull
  refine cldProceed_rule (Q := Walk T0 now none (RespTo m) a) a now m l r id ?_ ?_
  · rintro n s rfl rfl
    exact hn.seq (sendSuccess_walk _ m l r)
  · rintro n s rfl rfl
    have h4 := hn.seq (sendSuccess_walk _ m l r)
    exact h4.seq (ping_walk _ l r (h4.lk.inv hinv) (h4.lk.locals_addr hl) hr)

theorem cldHandleRequest_walk (a : Agent) (m : Msg) (l r : Cand) (hinv : LInv a) (hnom : m.nom = none)
    (hfull : a.cfg.lite = false) (hl : ∃ l0 ∈ a.locals, l0.addr = l.addr) (hr : r.net = 0) :
    Walk T0 now none (RespTo m) a (a.cldHandleRequest now m l r) := by
  obtain ⟨h1, hc, ht⟩ := ensurePair_lk (T0 := T0) (now := now) (ex := none) a m l r
  refine cldHandleRequest_rule (Q := Walk T0 now none (RespTo m) a) a now m l r ?_ ?_
  · rintro a1 rfl _ _
    exact Walk.after h1 (SameId.of_core hc) (Nat.le_of_eq ht.symm) (sendSuccess_walk _ m l r)
  · intro a1 ha1
    rw [← ha1] at h1 hc ht
    have id1 : SameId a a1 := SameId.of_core hc
    have k2 : LK T0 now none a
        ({ a1 with lastNomination := (shouldAcceptNomination m.nom a1.lastNomination).1 } : Agent) := h1.trans (LK.of_eq rfl)
    exact Walk.after k2 (id1.trans (SameId.of_core_nom rfl)) (Nat.le_of_eq ht.symm)
      (cldProceed_walk _ m l r _ (k2.inv hinv) hnom (by show a1.cfg.lite = false; rw [id1.cfg]; exact hfull)
        (k2.locals_addr hl) hr)

theorem toSelector_walk (a : Agent) (l r : Cand) (m : Msg) (h0 : T0 ≤ now) (hinv : LInv a) (hnom : m.nom = none)
    (hfull : a.cfg.lite = false) (hl : ∃ l0 ∈ a.locals, l0.addr = l.addr) (hr : r.net = 0) :
    Walk T0 now none (RespTo m) a (toSelector a now l r m []) :=
  toSelector_rule (Q := Walk T0 now none (RespTo m) a) a now l r m []
    (fun hc => (ctlHandleRequest_walk a m l r hinv hc).upd (seenRemoteRecv_lk _ _ _ h0) rfl rfl)
    (fun _ => (cldHandleRequest_walk a m l r hinv hnom hfull hl hr).upd (seenRemoteRecv_lk _ _ _ h0) rfl rfl)

theorem handleSuccess_noDgram (a : Agent) (t : Nat) (m : Msg) (l r : Cand) (src : Nat) :
    NoDgram (a.handleSuccess t m l r src).2 :=
  handleSuccess_outs_rule (P := NoDgram) a t m l r src NoDgram.nil select_noDgram

theorem resolved_walk (a : Agent) (l : Cand) (src : Nat) (m : Msg) (r : Cand) (h0 : T0 ≤ now) (hnet : l.net = 0)
    (hfull : a.cfg.lite = false) (hinv : LInv a) (hl : l ∈ a.locals) (hnom : m.nom = none)
    (hrc : (resolveSource a l src m).2.2 = some r) :
    LK T0 now none a (resolveSource a l src m).1 ∧ SameId a (resolveSource a l src m).1 ∧
    Walk T0 now none (RespTo m) (resolveSource a l src m).1 (toSelector (resolveSource a l src m).1 now l r m []) := by
  have hid : SameId a (resolveSource a l src m).1 := SameId.of_core (core_resolveSource a l src m)
  have hk := resolveSource_lk (T0 := T0) (now := now) (ex := none) a l src m hnet
  exact ⟨hk, hid, toSelector_walk _ l r m h0 (hk.inv hinv) hnom (by rw [hid.cfg]; exact hfull) (hk.locals_addr ⟨l, hl, rfl⟩)
    ((resolveSource_some hrc).2.1.trans hnet)⟩

/-- For a lite agent the frame fails: `handleInbound_lk_needs_full`. -/
theorem handleInbound_walk (a : Agent) (l : Cand) (src : Nat) (m : Msg) (h0 : T0 ≤ now) (hnet : l.net = 0)
    (hfull : a.cfg.lite = false) (hinv : LInv a) (hl : l ∈ a.locals)
    (hok : AuthRequest a m → m.nom = none ∧ NoConflict a m) :
    Walk T0 now (if m.cls = 2 then some m.tid else none)
      (fun m' => (m'.cls = 2 ∨ m'.cls = 3) ∧ m.cls = 0 ∧ m'.tid = m.tid ∧ AuthRequest a m) a
      (a.handleInbound now l src m) := by
  have hdisc := resolveSource_discovered a l src m
  -- a branch that puts nothing on the wire: identity and transaction ids are those of the whole
  have silent : ∀ r : Agent × List Out, a.handleInbound now l src m = r →
      LK T0 now (if m.cls = 2 then some m.tid else none) a r.1 → NoDgram r.2 →
      Walk T0 now (if m.cls = 2 then some m.tid else none)
        (fun m' => (m'.cls = 2 ∨ m'.cls = 3) ∧ m.cls = 0 ∧ m'.tid = m.tid ∧ AuthRequest a m) a r := by
    rintro r rfl k hn
    exact Walk.silent k (handleInbound_sameId a now l src m (fun h => (hok h).2))
      (IceProofs.AgentC02.tid_handleInbound a now l src m).tid hn
  refine handleInbound_rule (Q := fun r => a.handleInbound now l src m = r → Walk T0 now (if m.cls = 2 then some m.tid else none)
      (fun m' => (m'.cls = 2 ∨ m'.cls = 3) ∧ m.cls = 0 ∧ m'.tid = m.tid ∧ AuthRequest a m) a r) a now l src m
    (fun e => silent _ e (LK.refl _ _ _ _) NoDgram.nil) (fun r hc _ _ e => ?_)
    (fun r _ e => silent _ e (seenRemoteRecv_lk _ _ _ h0) NoDgram.nil)
    (fun _ _ e => silent _ e (resolveSource_lk a l src m hnet) (by rw [hdisc.2]; exact NoDgram.nil))
    (fun hauth r hrc _ => ?_) rfl
  · refine silent _ e ?_ (handleSuccess_noDgram a now m l r src)
    rw [if_pos hc]
    exact (handleSuccess_lk a m l r src).trans (seenRemoteRecv_lk _ _ _ h0)
  · obtain ⟨hnom, hnc⟩ := hok hauth
    obtain ⟨hk, hid, w1⟩ := resolved_walk (T0 := T0) (now := now) a l src m r h0 hnet hfull hinv hl hnom hrc
    have htid : (resolveSource a l src m).1.nextTid = a.nextTid := (congrArg Agent.nextTid hdisc.1.rest :)
    rw [afterResolve_noConflict _ now l m _ r (hnc.of_ctl hid.controlling), hdisc.2]
    have w := Walk.after hk hid (Nat.le_of_eq htid.symm) w1
    exact ⟨w.lk.weaken, w.id, w.tid, w.reqs, fun f t m' hm hc => ⟨(w.other f t m' hm hc).1, hauth.2.1,
      (w.other f t m' hm hc).2, hauth⟩⟩

end walk

end IceProofs.C01Live

import IceProofs.AgentC06Timers
import IceProofs.AgentC06Struct
import IceProofs.AgentRemoteDecision
/-!
# C06 — `addCandidate` (local) and `addRemoteCandidate` with peer-reflexive supersession

The stages of `addRemoteCandidate` (`arcA1` … `arcA4`) and what each does to the bookkeeping, from the exact
characterisation of the supersession loop in `AgentC06Retarget.lean`.
-/
namespace IceProofs.AgentC06
open IceModel.AgentCore IceProofs.Agent

def arcC0 (a : Agent) (c : Cand) : Cand := { c with uid := a.nextUid }

def arcReplaced (a : Agent) (c : Cand) : List Cand :=
  if (arcC0 a c).ty == 3 then []
  else a.remotes.filter fun e => e.net == (arcC0 a c).net && e.ty == 3 && e.taEqual (arcC0 a c)

def arcC (a : Agent) (c : Cand) : Cand := (arcReplaced a c).foldl copyActivity (arcC0 a c)

/-- the new candidate is appended first … -/
def arcA1 (a : Agent) (c : Cand) : Agent :=
  { { a with nextUid := a.nextUid + 1 } with remotes := a.remotes ++ [arcC a c] }

/-- … the pairs and caches of the superseded peer-reflexive candidates are retargeted … -/
def arcA2 (a : Agent) (c : Cand) : Agent × List Out :=
  (arcReplaced a c).foldl (supBody (arcC a c)) (arcA1 a c, [])

/-- … the superseded candidates are dropped … -/
def arcA3 (a : Agent) (c : Cand) : Agent :=
  { (arcA2 a c).1 with remotes := (arcA2 a c).1.remotes.filter fun (e : Cand) =>
      !((arcReplaced a c).any fun (x : Cand) => x.uid == e.uid) }

def pairUp (c : Cand) (a : Agent) (l : Cand) : Agent :=
  match a.findPair l c with
  | some _ => a
  | none => (a.addPair l c).1

/-- … and the new candidate is paired with every local candidate of its network type that has no pair with it -/
def arcA4 (a : Agent) (c : Cand) : Agent :=
  ((arcA3 a c).locals.filter fun (x : Cand) => x.net == (arcC a c).net && (arcC a c).tt != 2).foldl (pairUp (arcC a c)) (arcA3 a c)

theorem arc_eq (a : Agent) (c : Cand) (hb : a.cfg.blockedIPs.contains (ipOf c.addr) = false)
    (hf : (a.remotes.filter (·.net == c.net)).find? (·.equal c) = none) :
    a.addRemoteCandidate c = ((arcA4 a c).requestCheck, (arcA2 a c).2, some (arcC a c)) := by
  unfold Agent.addRemoteCandidate
  rw [if_neg (by rw [hb]; simp)]
  simp only [hf]
  rfl

theorem Same.requestCheck (b : Agent) : Same b b.requestCheck :=
  rfl

theorem arc_rule {Q : Agent × List Out × Option Cand → Prop} (a : Agent) (c : Cand)
    (blocked : Q (a, [], none))
    (dup : ∀ e, (a.remotes.filter (·.net == c.net)).find? (·.equal c) = some e → Q (a, [], some e))
    (new : a.cfg.blockedIPs.contains (ipOf c.addr) = false →
      (a.remotes.filter (·.net == c.net)).find? (·.equal c) = none →
      Q ((arcA4 a c).requestCheck, (arcA2 a c).2, some (arcC a c))) :
    Q (a.addRemoteCandidate c) := by
  cases hb : a.cfg.blockedIPs.contains (ipOf c.addr) with
  | true => rw [addRemoteCandidate_filtered a c hb]; exact blocked
  | false =>
    cases hf : (a.remotes.filter (·.net == c.net)).find? (·.equal c) with
    | some e => rw [addRemoteCandidate_duplicate a c e hb hf]; exact dup e hf
    | none => rw [arc_eq a c hb hf]; exact new hb hf

theorem core_arcC (a : Agent) (c : Cand) : core (arcC a c) = core (arcC0 a c) :=
  foldl_copyActivity_bare _ _

theorem arcC_uid (a : Agent) (c : Cand) : (arcC a c).uid = a.nextUid := by
  have := congrArg Cand.uid (core_arcC a c); simpa [arcC0] using this

theorem arcC_net (a : Agent) (c : Cand) : (arcC a c).net = c.net := by
  have := congrArg Cand.net (core_arcC a c); simpa [arcC0] using this

theorem arcC_addr (a : Agent) (c : Cand) : (arcC a c).addr = c.addr := by
  have := congrArg Cand.addr (core_arcC a c); simpa [arcC0] using this

theorem arcReplaced_mem {a : Agent} {c e : Cand} (h : e ∈ arcReplaced a c) :
    e ∈ a.remotes ∧ e.net = c.net ∧ e.ty = 3 ∧ e.addr = c.addr ∧ c.ty ≠ 3 :=
  have ⟨h1, h2, h3, h4, h5⟩ := mem_superseded (c := arcC0 a c) h
  ⟨h1, h3, h2, h4, h5⟩

theorem arcReplaced_tt {a : Agent} {c e : Cand} (h : e ∈ arcReplaced a c) : e.tt = c.tt := by
  unfold arcReplaced at h
  split at h
  · cases h
  · rw [List.mem_filter] at h
    obtain ⟨_, h2⟩ := h
    simp [arcC0, Cand.taEqual] at h2
    exact h2.2.2.1

/-- uids of the superseded candidates -/
def arcS (a : Agent) (c : Cand) : List Nat := (arcReplaced a c).map (·.uid)

theorem any_uid_eq (l : List Cand) (u : Nat) : (l.any fun x => x.uid == u) = (l.map (·.uid)).contains u := by
  induction l with
  | nil => rfl
  | cons x l ih =>
    simp only [List.any_cons, List.map_cons, List.contains_cons, ih]
    rw [Bool.beq_comm (a := u)]

theorem key_retarget (sel prio S cu) (p : Pair) : key (retarget sel prio S cu p) = rk S cu (key p) := by
  by_cases h : S.contains p.r = true
  · rw [retarget_of_mem _ _ _ _ _ h]; unfold rk; rw [key_snd_snd, if_pos h]; rfl
  · have h' : S.contains p.r = false := by simpa using h
    rw [retarget_of_not_mem _ _ _ _ _ h']; unfold rk; rw [key_snd_snd, if_neg h]

theorem arcA2_spec (a : Agent) (c : Cand) (h : Inv a) :
    (arcA2 a c).1.checklist =
        a.checklist.map (retarget a.selected (arcA1 a c).pairPrio (arcS a c) a.nextUid) ∧
      (arcA2 a c).1.caches = a.caches.map (recache (arcS a c) a.nextUid) ∧
      RestSameC (arcA1 a c) (arcA2 a c).1 := by
  have hnot : (arcC a c).uid ∉ (arcReplaced a c).map (·.uid) := by
    rw [arcC_uid]
    intro hm
    obtain ⟨e, he, heu⟩ := List.mem_map.1 hm
    have := h.s.uidsLt (core e) (List.mem_append_right _ (mem_rcsOf (arcReplaced_mem he).1))
    simp at this; omega
  have hid : (idsOf (arcA1 a c)).Nodup := by
    have := h.s.idsNodup
    rw [keys_ids] at this
    exact this
  have := sup_fold (arcC a c) (arcReplaced a c) (arcA1 a c) [] hid hnot
  rw [arcC_uid] at this
  exact this

theorem Inv.idsNodup {a : Agent} (h : Inv a) : (idsOf a).Nodup := by
  have := h.s.idsNodup
  rw [keys_ids] at this
  exact this

/-- what `addRemoteCandidate` / `addPair` leave alone -/
structure Frame (a b : Agent) : Prop where
  locals : b.locals = a.locals
  cfg : b.cfg = a.cfg
  closed : b.closed = a.closed
  selected : b.selected = a.selected
  nominatedPair : b.nominatedPair = a.nominatedPair
  pending : b.pending = a.pending
  connState : b.connState = a.connState ∨ (b.connState = .connected ∧ b.selected.isSome)

theorem Frame.refl (a : Agent) : Frame a a := ⟨rfl, rfl, rfl, rfl, rfl, rfl, Or.inl rfl⟩

theorem Frame.trans {a b c : Agent} (h1 : Frame a b) (h2 : Frame b c) : Frame a c :=
  ⟨h2.locals.trans h1.locals, h2.cfg.trans h1.cfg, h2.closed.trans h1.closed,
   h2.selected.trans h1.selected, h2.nominatedPair.trans h1.nominatedPair, h2.pending.trans h1.pending, connected_trans h1.connState h2.connState h2.selected⟩

theorem arcA3_spec (a : Agent) (c : Cand) (h : Inv a) :
    (arcA3 a c).checklist = a.checklist.map (retarget a.selected (arcA1 a c).pairPrio (arcS a c) a.nextUid) ∧
      (arcA3 a c).caches = a.caches.map (recache (arcS a c) a.nextUid) ∧
      (arcA3 a c).remotes =
        (a.remotes ++ [arcC a c]).filter (fun e => !((arcReplaced a c).any fun x => x.uid == e.uid)) ∧
      (arcA3 a c).nextUid = a.nextUid + 1 ∧ (arcA3 a c).nextPairID = a.nextPairID ∧ Frame a (arcA3 a c) := by
  obtain ⟨h1, h2, h3⟩ := arcA2_spec a c h
  unfold arcA3
  generalize (arcA2 a c).1 = x at h1 h2 h3
  refine ⟨h1, h2, ?_, h3.nextUid, h3.nextPairID,
    ⟨h3.locals, h3.cfg, h3.closed, h3.selected, h3.nominatedPair, h3.pending, h3.connState⟩⟩
  show x.remotes.filter _ = _
  rw [h3.remotes]
  rfl

theorem arcA3_keys (a : Agent) (c : Cand) (h : Inv a) :
    keysOf (arcA3 a c) = (keysOf a).map (rk (arcS a c) a.nextUid) := by
  unfold keysOf
  rw [(arcA3_spec a c h).1, List.map_map, List.map_map]
  apply List.map_congr_left
  intro p _
  simp [key_retarget]

theorem arcA3_rcs (a : Agent) (c : Cand) (h : Inv a) :
    rcsOf (arcA3 a c) =
      ((rcsOf a) ++ [core (arcC0 a c)]).filter (fun e => !(arcS a c).contains e.uid) := by
  have e1 : rcsOf a ++ [core (arcC0 a c)] = (a.remotes ++ [arcC a c]).map core := by
    simp [rcsOf, core_arcC]
  unfold rcsOf at e1 ⊢
  rw [(arcA3_spec a c h).2.2.1, e1, List.filter_map]
  congr 1
  apply List.filter_congr
  intro e _
  simp [any_uid_eq, arcS, Function.comp]

theorem Inv.stage3 {a : Agent} (h : Inv a) (c : Cand) (hc : a.closed = false)
    (hb : a.cfg.blockedIPs.contains (ipOf c.addr) = false)
    (hf : (a.remotes.filter (·.net == c.net)).find? (·.equal c) = none) : Inv (arcA3 a c) := by
  obtain ⟨h1, h2, _, h4, h5, f⟩ := arcA3_spec a c h
  have hk := arcA3_keys a c h
  have hr := arcA3_rcs a c h
  generalize arcA3 a c = b at h1 h2 h4 h5 f hk hr ⊢
  have hids : idsOf b = idsOf a := idsOf_of_map h1 (by simp)
  have hsel : ∀ {id}, b.selected = some id → a.selected = some id := fun hid => f.selected ▸ hid
  have hnom : ∀ {id}, b.nominatedPair = some id → a.nominatedPair = some id := fun hid => f.nominatedPair ▸ hid
  refine ⟨?_, ?_, ?_, ?_, ?_⟩
  · unfold InvS
    rw [hk, hr, show lcsOf b = lcsOf a from congrArg (List.map core) f.locals, h2, h4, h5, f.cfg, f.closed, hc]
    have hs0 := h.s
    unfold InvS at hs0
    rw [hc] at hs0
    refine hs0.supersede (core (arcC0 a c)) (arcS a c) rfl ?_ ?_ hb
    · intro s hs
      obtain ⟨e, he, rfl⟩ := List.mem_map.1 hs
      obtain ⟨he1, he2, _⟩ := arcReplaced_mem he
      exact ⟨core e, mem_rcsOf he1, rfl, he2⟩
    · intro x hx
      obtain ⟨y, hy, rfl⟩ := List.mem_map.1 hx
      rw [core_equal]
      exact not_equal_of_unknown (c := c) hf hy
  · intro id hid
    rw [hids]
    exact h.c.sel id (hsel hid)
  · intro id hid p' hp' hpid
    rw [h1] at hp'
    obtain ⟨p, hp, rfl⟩ := List.mem_map.1 hp'
    have hpn := h.c.selNom id (hsel hid) p hp (by simpa using hpid)
    unfold retarget
    split
    · simp [hpn]
    · exact hpn
  · intro id hid
    rw [h5]
    exact h.c.nomLe id (hnom hid)
  · intro id hid
    rw [hids, f.closed]
    rcases h.c.nom id (hnom hid) with h6 | h6 | h6 | h6
    · exact Or.inl h6
    · rcases f.connState with h7 | ⟨_, h7⟩
      · exact Or.inr (Or.inl (h7.trans h6))
      · exact Or.inr (Or.inr (Or.inl h7))
    · exact Or.inr (Or.inr (Or.inl (by rw [f.selected]; exact h6)))
    · exact Or.inr (Or.inr (Or.inr h6))

theorem pairUp_fold (c' : Cand) (ls : List Cand) (b : Agent) (hi : Inv b) (hc : core c' ∈ rcsOf b)
    (hls : ∀ l ∈ ls, core l ∈ lcsOf b ∧ l.net = c'.net) :
    AddPs b (ls.foldl (pairUp c') b) ∧ Inv (ls.foldl (pairUp c') b) := by
  apply foldl_inv_on (fun x => AddPs b x ∧ Inv x)
  · exact ⟨.refl, hi⟩
  · intro x l hl ⟨hx, hix⟩
    have hp : AddP x (pairUp c' x l) := by
      unfold pairUp
      split
      · exact .none
      · rename_i hf
        have h1 : core l ∈ lcsOf x := hx.lcs ▸ (hls l hl).1
        have h2 : core c' ∈ rcsOf x := hx.rcs ▸ hc
        exact .add l c' h1 h2 (hls l hl).2 (findPair_none_fresh hix.s h1 h2 hf)
    exact ⟨.step hx hp, hix.addP hp⟩

theorem mem_lcsOf_iff {a : Agent} {x : Cand} : x ∈ lcsOf a ↔ ∃ c ∈ a.locals, core c = x := List.mem_map
theorem mem_rcsOf_iff {a : Agent} {x : Cand} : x ∈ rcsOf a ↔ ∃ c ∈ a.remotes, core c = x := List.mem_map

theorem arcA4_spec {a : Agent} (h : Inv a) (c : Cand) (hc : a.closed = false)
    (hb : a.cfg.blockedIPs.contains (ipOf c.addr) = false)
    (hf : (a.remotes.filter (·.net == c.net)).find? (·.equal c) = none) :
    AddPs (arcA3 a c) (arcA4 a c) ∧ Inv (arcA4 a c) ∧ core (arcC a c) ∈ rcsOf (arcA3 a c) := by
  have h3 := h.stage3 c hc hb hf
  have hcm : core (arcC a c) ∈ rcsOf (arcA3 a c) := by
    rw [arcA3_rcs a c h, List.mem_filter]
    refine ⟨List.mem_append_right _ (by simp [core_arcC]), ?_⟩
    have : (arcS a c).contains (core (arcC a c)).uid = false := by
      cases hh : (arcS a c).contains (core (arcC a c)).uid with
      | false => rfl
      | true =>
        have hm := List.contains_iff_mem.1 hh
        obtain ⟨e, he, heu⟩ := List.mem_map.1 hm
        have := h.s.uidsLt (core e) (List.mem_append_right _ (mem_rcsOf (arcReplaced_mem he).1))
        rw [core_uid, arcC_uid] at heu
        simp at this; omega
    rw [this]; rfl
  have := pairUp_fold (arcC a c) ((arcA3 a c).locals.filter fun x => x.net == (arcC a c).net && (arcC a c).tt != 2) (arcA3 a c) h3 hcm
    (by
      intro l hl
      rw [List.mem_filter] at hl
      exact ⟨mem_lcsOf hl.1, by have := hl.2; simp only [Bool.and_eq_true, beq_iff_eq] at this; exact this.1⟩)
  exact ⟨this.1, this.2, hcm⟩

theorem AddP.frame {a b : Agent} (p : AddP a b) : Frame a b := by
  cases p with
  | none => exact Frame.refl a
  | add l r _ _ _ _ => exact ⟨rfl, rfl, rfl, rfl, rfl, rfl, Or.inl rfl⟩

theorem AddPs.frame {a b : Agent} (p : AddPs a b) : Frame a b := by
  induction p with
  | refl => exact Frame.refl a
  | step _ p ih => exact ih.trans p.frame

theorem Frame.requestCheck (b : Agent) : Frame b b.requestCheck := ⟨rfl, rfl, rfl, rfl, rfl, rfl, Or.inl rfl⟩

theorem arc_frame {a : Agent} (h : Inv a) (c : Cand) (hc : a.closed = false) : Frame a (a.addRemoteCandidate c).1 :=
  arc_rule (Q := fun x => Frame a x.1) a c (Frame.refl a) (fun _ _ => Frame.refl a) fun hb hf =>
    ((arcA3_spec a c h).2.2.2.2.2.trans (arcA4_spec h c hc hb hf).1.frame).trans (Frame.requestCheck _)

theorem Inv.addRemoteCandidate {a : Agent} (h : Inv a) (c : Cand) (hc : a.closed = false) :
    Inv (a.addRemoteCandidate c).1 ∧ lcsOf (a.addRemoteCandidate c).1 = lcsOf a ∧
      ∀ r, (a.addRemoteCandidate c).2.2 = some r →
        core r ∈ rcsOf (a.addRemoteCandidate c).1 ∧ r.net = c.net ∧ r.addr = c.addr := by
  refine ⟨?_, congrArg (List.map core) (arc_frame h c hc).locals, ?_⟩
  · exact arc_rule (Q := fun x => Inv x.1) a c h (fun _ _ => h)
      fun hb hf => (arcA4_spec h c hc hb hf).2.1.same (Same.requestCheck _)
  · refine arc_rule (Q := fun x => ∀ r, x.2.2 = some r → core r ∈ rcsOf x.1 ∧ r.net = c.net ∧ r.addr = c.addr) a c
      (fun r hr => by cases hr) (fun e hf r hr => ?_) fun hb hf r hr => ?_
    · cases hr
      have hm := List.mem_filter.1 (List.mem_of_find?_eq_some hf)
      have he := List.find?_some hf
      simp only [Cand.equal, Cand.taEqual, Bool.and_eq_true, beq_iff_eq] at he
      exact ⟨mem_rcsOf hm.1, by simpa using hm.2, he.1.1.1.2⟩
    · cases hr
      obtain ⟨h1, _, h3⟩ := arcA4_spec h c hc hb hf
      refine ⟨?_, arcC_net a c, arcC_addr a c⟩
      show core (arcC a c) ∈ rcsOf (arcA4 a c).requestCheck
      rw [(Same.requestCheck _).evo.rcs, h1.rcs]
      exact h3

def alC (a : Agent) (c : Cand) : Cand := { c with uid := a.nextUid }

def alA1 (a : Agent) (c : Cand) : Agent :=
  { a with nextUid := a.nextUid + 1, locals := a.locals ++ [alC a c] }

def alA2 (a : Agent) (c : Cand) : Agent :=
  ((alA1 a c).remotes.filter (·.net == (alC a c).net)).foldl (fun x r => (x.addPair (alC a c) r).1) (alA1 a c)

theorem al_eq (a : Agent) (c : Cand) (hc : a.closed = false)
    (hf : (a.locals.filter (·.net == c.net)).find? (·.equal c) = none) :
    a.addLocalCandidate c = ((alA2 a c).requestCheck, [.cbCand c.addr, .res "ok"]) := by
  unfold Agent.addLocalCandidate
  rw [if_neg (by rw [hc]; simp)]
  simp only [hf]
  rfl

theorem al_closed (a : Agent) (c : Cand) (hc : a.closed = true) : (a.addLocalCandidate c).1 = a := by
  unfold Agent.addLocalCandidate
  rw [if_pos hc]

theorem al_dup (a : Agent) (c e : Cand) (hc : a.closed = false)
    (hf : (a.locals.filter (·.net == c.net)).find? (·.equal c) = some e) : (a.addLocalCandidate c).1 = a := by
  unfold Agent.addLocalCandidate
  rw [if_neg (by rw [hc]; simp)]
  simp only [hf]

theorem Inv.alA1 {a : Agent} (h : Inv a) (c : Cand) (hc : a.closed = false)
    (hf : (a.locals.filter (·.net == c.net)).find? (·.equal c) = none) : Inv (AgentC06.alA1 a c) := by
  refine ⟨?_, ⟨h.c.sel, h.c.selNom, h.c.nomLe, h.c.nom⟩⟩
  unfold InvS
  have : lcsOf (AgentC06.alA1 a c) = lcsOf a ++ [core (alC a c)] := by simp [lcsOf, AgentC06.alA1]
  rw [this]
  show StructOK (keysOf a) (lcsOf a ++ [core (alC a c)]) (rcsOf a) a.caches (a.nextUid + 1) a.nextPairID
    a.cfg.blockedIPs a.closed
  · rw [hc]
    have hs0 := h.s
    unfold InvS at hs0
    rw [hc] at hs0
    refine hs0.addLocal (core (alC a c)) rfl ?_
    intro x hx
    obtain ⟨y, hy, rfl⟩ := List.mem_map.1 hx
    rw [core_equal]
    exact not_equal_of_unknown (c := c) hf hy

theorem addLocal_fold (c : Cand) :
    ∀ (rs : List Cand) (x : Agent), (rs.map (·.uid)).Nodup → core c ∈ lcsOf x →
      (∀ r ∈ rs, core r ∈ rcsOf x ∧ c.net = r.net) →
      (∀ k ∈ keysOf x, k.2.1 = c.uid → k.2.2 ∉ rs.map (·.uid)) →
      AddPs x (rs.foldl (fun a r => (a.addPair c r).1) x) := by
  intro rs
  induction rs with
  | nil => intro x _ _ _ _; exact .refl
  | cons r rs ih =>
    intro x hn hc hrs hk
    rw [List.foldl_cons]
    simp only [List.map_cons, List.nodup_cons] at hn
    have hfresh : (c.uid, r.uid) ∉ (keysOf x).map (·.2) := by
      intro hm
      obtain ⟨k, hk1, hk2⟩ := List.mem_map.1 hm
      have h1 : k.2.1 = c.uid := by rw [hk2]
      have h2 : k.2.2 = r.uid := by rw [hk2]
      exact hk k hk1 h1 (by rw [h2]; simp)
    have hp : AddP x (x.addPair c r).1 :=
      .add c r hc (hrs r List.mem_cons_self).1 (hrs r List.mem_cons_self).2 hfresh
    have := ih (x.addPair c r).1 hn.2 (hp.lcs ▸ hc)
      (fun r' hr' => by rw [hp.rcs]; exact hrs r' (List.mem_cons_of_mem _ hr'))
      (by
        intro k hk1 hk2
        rw [keysOf_addPair] at hk1
        rcases List.mem_append.1 hk1 with hk1 | hk1
        · intro hm; exact hk k hk1 hk2 (List.mem_cons_of_mem _ hm)
        · simp at hk1; subst hk1; exact hn.1)
    have hcomp : ∀ {y z : Agent}, AddPs (x.addPair c r).1 z → AddPs x z := by
      intro y z hz
      induction hz with
      | refl => exact .step .refl hp
      | step _ p ih => exact .step ih p
    exact hcomp (y := x) this

theorem alA2_spec {a : Agent} (h : Inv a) (c : Cand) (hc : a.closed = false)
    (hf : (a.locals.filter (·.net == c.net)).find? (·.equal c) = none) :
    AddPs (alA1 a c) (alA2 a c) := by
  have h1 := h.alA1 c hc hf
  unfold alA2
  apply addLocal_fold
  · -- uids of a sublist of the remotes
    have := h.s.rcNodup
    refine List.Nodup.sublist ?_ this
    show (List.map (·.uid) ((alA1 a c).remotes.filter _)).Sublist ((a.remotes.map core).map (·.uid))
    rw [List.map_map]
    exact List.Sublist.map _ List.filter_sublist
  · show core (alC a c) ∈ (a.locals ++ [alC a c]).map core
    simp
  · intro r hr
    rw [List.mem_filter] at hr
    have hnet : r.net = (alC a c).net := by simpa using hr.2
    exact ⟨mem_rcsOf hr.1, hnet.symm⟩
  · intro k hk hk2
    -- no existing pair has the fresh local uid
    exfalso
    have hk' : k ∈ keysOf a := hk
    obtain ⟨l, hl, _, _, h3, _⟩ := h.s.ends hc k hk'
    have := h.s.uidsLt l (List.mem_append_left _ hl)
    rw [h3, hk2] at this
    simp [alC] at this

end IceProofs.AgentC06

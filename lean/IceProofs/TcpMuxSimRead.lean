import IceProofs.TcpMuxSimMisc
/-!
# `ReadFrom`: the monitor attributes every packet to the connection it came from
-/
namespace IceProofs.TcpMux
open IceModel.TcpMux IceSpec.C15 IceSpec.C15.View

theorem find?_unique {α : Type} (l : List α) (P : α → Bool) (x : α) (hx : x ∈ l) (hP : P x = true)
    (hu : ∀ y, y ∈ l → P y = true → y = x) : l.find? P = some x := by
  cases h : l.find? P with
  | none =>
    have := List.find?_eq_none.1 h x hx
    exact absurd hP this
  | some z =>
    have h1 := List.find?_some h
    have h2 := List.mem_of_find?_eq_some h
    rw [hu z h2 h1]

theorem sentIds_getElem? (l : List Frame) (n : Nat) : (sentIds l)[n]? = (l[n]?).map (fun f => (f.fid, f.len)) := by
  unfold sentIds; rw [List.getElem?_map]

theorem mframes_getElem? (l : List Frame) (n : Nat) : (mframes l)[n]? = (l[n]?).map (fun f => (⟨f.fid, f.len⟩ : MFrame)) := by
  unfold mframes; rw [List.getElem?_map]

theorem nread_eq {s : State} {m : Mon} (hn : NRead s m) {k p : Nat} {t : Tcp} {c : MClient} {pc : PConn}
    (ht : s.tcps[k]? = some t) (hc : m.clients[k]? = some c) (hpc : t.pc = some p) (hp : s.pcs[p]? = some pc) :
    c.nread = (dataIds (fromConn k pc.readLog)).length := by
  rw [hn k t c ht hc]
  unfold nreadOf
  rw [hpc]
  simp only [hp]

/-- **The monitor picks the source.** A data packet `pkt` that is about to be read from packet
connection `p` and comes from TCP connection `pkt.conn`: among the clients routed to `p` with that address
whose next unread frame matches, the earliest routed one is `pkt.conn`. -/
theorem pick_source {s : State} {m : Mon} (hs : Sim s m) (hi : Inv s) (h2 : Inv2 s)
    (p : Nat) (pc : PConn) (hp : s.pcs[p]? = some pc) (pkt : Pkt) (t0 : Tcp) (c0 : MClient)
    (ht0 : s.tcps[pkt.conn]? = some t0) (hc0 : m.clients[pkt.conn]? = some c0)
    (hpc0 : t0.pc = some p) (hsrc : pkt.src = t0.peer) (hlen : pkt.len ≤ 8192)
    (hnext : (sentIds t0.sent)[(dataIds (fromConn pkt.conn pc.readLog)).length]? = some (pkt.fid, pkt.len))
    (q : List Pkt) (hq : pc.hist = pc.readLog ++ q)
    (hqo : ∀ y, y ∈ q → y.err = none → y.src = pkt.src → y.conn ≠ pkt.conn → seqOf m pkt.conn < seqOf m y.conn) :
    (((indexed m.clients).filter (fun x => x.2.target == some p && x.2.ip == pkt.src.ip && x.2.port == pkt.src.port)).filter
        (fun x => isNext x.2 (showId pkt.fid pkt.len) pkt.len)).find?
      (fun x => (((indexed m.clients).filter (fun x => x.2.target == some p && x.2.ip == pkt.src.ip && x.2.port == pkt.src.port)).filter
        (fun x => isNext x.2 (showId pkt.fid pkt.len) pkt.len)).all (fun y => decide (x.2.seq ≤ y.2.seq))) =
      some (pkt.conn, c0) := by
  have r0 := hs.u.cl _ t0 c0 ht0 hc0
  have sq0 : seqOf m pkt.conn = c0.seq := by unfold seqOf; rw [hc0]
  have memC : ∀ (k : Nat) (c : MClient), (k, c) ∈ ((indexed m.clients).filter (fun x => x.2.target == some p && x.2.ip == pkt.src.ip && x.2.port == pkt.src.port)).filter
        (fun x => isNext x.2 (showId pkt.fid pkt.len) pkt.len) ↔
      m.clients[k]? = some c ∧ c.target = some p ∧ c.ip = pkt.src.ip ∧ c.port = pkt.src.port ∧
        isNext c (showId pkt.fid pkt.len) pkt.len = true := by
    intro k c
    rw [List.mem_filter, List.mem_filter, mem_indexed]
    simp only [Bool.and_eq_true, beq_iff_eq]
    constructor
    · rintro ⟨⟨a, ⟨b, c'⟩, d⟩, e⟩; exact ⟨a, b, c', d, e⟩
    · rintro ⟨a, b, c', d, e⟩; exact ⟨⟨a, ⟨b, c'⟩, d⟩, e⟩
  -- the source is a candidate
  have mem0 : m.clients[pkt.conn]? = some c0 ∧ c0.target = some p ∧ c0.ip = pkt.src.ip ∧ c0.port = pkt.src.port ∧
      isNext c0 (showId pkt.fid pkt.len) pkt.len = true := by
    refine ⟨hc0, by rw [r0.target]; exact hpc0, by rw [r0.ip, hsrc], by rw [r0.port, hsrc], ?_⟩
    unfold isNext
    rw [r0.sent (by rw [hpc0]; rfl), nread_eq hs.nread ht0 hc0 hpc0 hp, mframes_getElem?]
    rw [sentIds_getElem?] at hnext
    cases hf : t0.sent[(dataIds (fromConn pkt.conn pc.readLog)).length]? with
    | none => rw [hf] at hnext; cases hnext
    | some f =>
      rw [hf] at hnext
      simp only [Option.map_some, Option.some.injEq, Prod.mk.injEq] at hnext
      simp only [Option.map_some, hnext.1, hnext.2, beq_self_eq_true, Bool.true_and]
      unfold showId
      by_cases h4 : pkt.len < 4
      · simp [h4]
      · simp [h4]
  -- every other candidate was routed later
  have key : ∀ (k' : Nat) (c' : MClient), m.clients[k']? = some c' → c'.target = some p → c'.ip = pkt.src.ip →
      c'.port = pkt.src.port → isNext c' (showId pkt.fid pkt.len) pkt.len = true → k' ≠ pkt.conn → c0.seq < c'.seq := by
    intro k' c' hc' htg hip hport hnx hne
    obtain ⟨t', ht', r'⟩ := tcp_of hs.u hc'
    have sq' : seqOf m k' = c'.seq := seqOf_of hc'
    have hpc' : t'.pc = some p := by rw [← r'.target]; exact htg
    have hpe' : t'.peer = t0.peer := by
      apply addr_ext
      · rw [← r'.ip, hip, hsrc]
      · rw [← r'.port, hport, hsrc]
    rcases Nat.lt_trichotomy c0.seq c'.seq with hlt' | heq | hgt
    · exact hlt'
    · exact absurd (hs.u.uniq pkt.conn k' c0 c' hc0 hc' (by rw [mem0.2.1]; rfl) (by rw [htg]; rfl) heq).symm hne
    · exfalso
      cases hph : t'.phase with
      | pending d =>
        have := ((h2.tcp k' t' ht').fresh d hph).1
        rw [hpc'] at this; cases this
      | attached q' =>
        obtain rfl := hi.att_eq ht' hph hpc'
        have := hs.u.last k' pkt.conn t' t0 q' ht' ht0 hph hpc0 hpe'.symm (fun e => hne e.symm)
        rw [sq0, sq'] at this; omega
      | closed =>
        -- all data of `k'` has been read …
        have hnone : ∀ y, y ∈ q → y.err = none → y.conn ≠ k' := by
          intro y hy hye hyk
          have hyh : y ∈ pc.hist := by rw [hq]; simp [hy]
          obtain ⟨ty, hty, _, hys⟩ := (h2.pc p pc hp).src y hyh
          rw [hyk, ht'] at hty; cases hty
          have := hqo y hy hye (by rw [hys, hpe', hsrc]) (by rw [hyk]; exact hne)
          rw [sq0, hyk, sq'] at this; omega
        have hall : dataIds (fromConn k' pc.hist) = dataIds (fromConn k' pc.readLog) := by
          rw [hq]; exact dataIds_fromConn_append_irrel k' pc.readLog q hnone
        -- … and what comes next in its `sent` log is a frame the mux refuses
        rcases hs.u.cc k' t' p pc ht' hpc' hph hp with hcomp | ⟨_, hlast⟩
        · unfold isNext at hnx
          rw [r'.sent (by rw [hpc']; rfl), nread_eq hs.nread ht' hc' hpc' hp, mframes_getElem?] at hnx
          cases hf : t'.sent[(dataIds (fromConn k' pc.readLog)).length]? with
          | none => rw [hf] at hnx; cases hnx
          | some f =>
            rw [hf] at hnx
            simp only [Option.map_some, Bool.and_eq_true, beq_iff_eq] at hnx
            have := hcomp (f.fid, f.len) (by rw [hall, sentIds_getElem?, hf]; rfl)
            simp only at this
            omega
        · have := hlast pkt.conn t0 ht0 hpc0 hpe'.symm
          rw [sq0, sq'] at this; omega
  apply find?_unique
  · exact (memC pkt.conn c0).2 mem0
  · rw [List.all_eq_true]
    intro y hy
    obtain ⟨k', c'⟩ := y
    obtain ⟨a, b, c, d, e⟩ := (memC k' c').1 hy
    simp only [decide_eq_true_eq]
    by_cases hk : k' = pkt.conn
    · subst hk; rw [hc0] at a; cases a; exact Nat.le_refl _
    · exact Nat.le_of_lt (key k' c' a b c d e hk)
  · intro y hy hP
    obtain ⟨k', c'⟩ := y
    obtain ⟨a, b, c, d, e⟩ := (memC k' c').1 hy
    by_cases hk : k' = pkt.conn
    · subst hk; rw [hc0] at a; cases a; rfl
    · exfalso
      have h1 := key k' c' a b c d e hk
      rw [List.all_eq_true] at hP
      have h2' := hP (pkt.conn, c0) ((memC pkt.conn c0).2 mem0)
      simp only [decide_eq_true_eq] at h2'
      omega

def popQ (q : List Pkt) (pkt : Pkt) (pc : PConn) : PConn := { pc with recvQ := q, readLog := pc.readLog ++ [pkt] }
def pushB (bq : List Nat) (bp : Pkt) (pc : PConn) : PConn :=
  { pc with blockedQ := bq, recvQ := pc.recvQ ++ [bp], hist := pc.hist ++ [bp] }
def passB (bq : List Nat) (bp : Pkt) (pc : PConn) : PConn :=
  { pc with blockedQ := bq, hist := pc.hist ++ [bp], readLog := pc.readLog ++ [bp] }
def wake (fin : Bool) (t : Tcp) : Tcp := { t with reader := if fin then .none else .idle }

theorem getElem?_setPc (s : State) (p q : Nat) (g : PConn → PConn) :
    (setPc s p g).pcs[q]? = (s.pcs[q]?).map (fun a => if p = q then g a else a) := by
  simp only [setPc]; exact getElem?_modify_map ..

theorem setPc_stage (s : State) (p : Nat) (g : PConn → PConn) (pc : PConn) (hp : s.pcs[p]? = some pc) (new : List Pkt)
    (hh : (g pc).hist = pc.hist ++ new) (hc : (g pc).closed = pc.closed) (ha : absPc (g pc) = absPc pc)
    (hnew : ∀ y, y ∈ new → y.err = none →
      y.len ≤ 8192 ∧ ∃ t, s.tcps[y.conn]? = some t ∧ t.phase = .attached p ∧ y.src = t.peer) :
    Quiet s (setPc s p g) ∧ (setPc s p g).pcs.map absPc = s.pcs.map absPc := by
  refine ⟨?_, ?_⟩
  · apply quiet_of_pointwise (Pointwise.setPc s p g) rfl rfl rfl
    · intro j t _; exact ⟨TcpQ.refl t, fun h p' hp' => by rw [h] at hp'; cases hp'⟩
    · intro q qc hq
      by_cases hpq : p = q
      · subst hpq
        rw [hp] at hq; cases hq
        simp only [if_true]
        exact ⟨fun h => by rw [hc]; exact h, new, hh, hnew⟩
      · simp only [hpq, if_false]
        exact ⟨fun h => h, [], by simp, by simp⟩
  · exact map_modify_at absPc g hp ha

theorem wake_stage (s : State) (k : Nat) (fin : Bool) :
    Quiet s (setTcp s k (wake fin)) ∧ OutQ s (setTcp s k (wake fin)) ∧ RLSame s (setTcp s k (wake fin)) := by
  refine ⟨?_, outQ_setTcp s k _ (fun _ => rfl), RLSame.refl s⟩
  apply quiet_of_pointwise (Pointwise.setTcp s k (wake fin)) rfl rfl rfl
  · intro j tj _
    split
    · refine ⟨⟨rfl, rfl, rfl, rfl, rfl, rfl, Or.inl rfl, ⟨[], rfl⟩, ?_⟩, ?_⟩
      · intro bp hb
        simp only [wake] at hb
        cases fin <;> simp at hb
      · intro hcl p hp'
        rw [show (wake fin tj).phase = tj.phase from rfl] at hcl
        rw [hcl] at hp'; cases hp'
    · exact ⟨TcpQ.refl tj, fun hcl p hp' => by rw [hcl] at hp'; cases hp'⟩
  · intro q pc _; exact ⟨fun h => h, [], by simp, by simp⟩

theorem nreadOf_pop {s : State} (p : Nat) (pc : PConn) (hp : s.pcs[p]? = some pc) (g : PConn → PConn) (pkt : Pkt)
    (hr : (g pc).readLog = pc.readLog ++ [pkt]) (j : Nat) (tj : Tcp) :
    nreadOf (setPc s p g) j tj =
      nreadOf s j tj + (if tj.pc = some p ∧ pkt.conn = j ∧ pkt.err = none then 1 else 0) := by
  unfold nreadOf
  cases hpcj : tj.pc with
  | none => simp
  | some q =>
    simp only [getElem?_setPc]
    by_cases hpq : p = q
    · subst hpq
      simp only [hp, Option.map_some, if_true, hr, fromConn_append, dataIds_append, List.length_append, true_and]
      congr 1
      by_cases hc : pkt.conn = j
      · cases he : pkt.err <;> simp [fromConn, dataIds, hc, he]
      · simp [fromConn, dataIds, hc]
    · have : ¬ (some q = some p) := fun e => hpq (Option.some.inj e).symm
      cases s.pcs[q]? <;> simp [hpq, this]

theorem unblock_stage (s : State) (p k : Nat) (fin : Bool) (g : PConn → PConn) (pc : PConn) (hp : s.pcs[p]? = some pc)
    (new : List Pkt) (hh : (g pc).hist = pc.hist ++ new) (hc : (g pc).closed = pc.closed) (ha : absPc (g pc) = absPc pc)
    (hnew : ∀ y, y ∈ new → y.err = none →
      y.len ≤ 8192 ∧ ∃ t, s.tcps[y.conn]? = some t ∧ t.phase = .attached p ∧ y.src = t.peer) (hi : Inv s) :
    Quiet s (setTcp (setPc s p g) k (wake fin)) ∧
    (setTcp (setPc s p g) k (wake fin)).pcs.map absPc = s.pcs.map absPc ∧
    ((g pc).readLog = pc.readLog → RLSame s (setTcp (setPc s p g) k (wake fin))) := by
  obtain ⟨q1, a1⟩ := setPc_stage s p g pc hp new hh hc ha hnew
  obtain ⟨q2, _, r2⟩ := wake_stage (setPc s p g) k fin
  refine ⟨q1.trans' q2 (by simp [setPc]) hi, a1, fun hr => RLSame.trans ?_ r2⟩
  intro q qc hq
  refine ⟨_, by rw [getElem?_setPc, hq]; rfl, ?_⟩
  by_cases hpq : p = q
  · subst hpq; rw [hp] at hq; cases hq; simp only [if_true]; exact hr
  · simp only [hpq, if_false]

theorem nread_setTcp {s : State} {m : Mon} (hn : NRead s m) (k : Nat) (w : Tcp → Tcp) (hw : ∀ t, (w t).pc = t.pc) :
    NRead (setTcp s k w) m := by
  intro j tj cj htj hcj
  simp only [setTcp] at htj
  rw [getElem?_modify_map] at htj
  cases h0 : s.tcps[j]? with
  | none => rw [h0] at htj; cases htj
  | some t0 =>
    rw [h0] at htj
    simp only [Option.map_some, Option.some.injEq] at htj
    rw [hn j t0 cj h0 hcj]
    unfold nreadOf
    have : tj.pc = t0.pc := by
      rw [← htj]; split
      · exact hw t0
      · rfl
    rw [this]
    rfl

theorem prefix_getElem? {α : Type} {A B L : List α} {x : α} (h : (A ++ x :: B) <+: L) : L[A.length]? = some x := by
  obtain ⟨C, hC⟩ := h
  rw [← hC, List.append_assoc, List.getElem?_append_right (Nat.le_refl _), Nat.sub_self]
  rfl

theorem bookRead_pkt (m : Mon) (o : Obs) (h : Nat) (hd : MHandle) (hh : m.handles[h]? = some hd) (hc : hd.closed = false)
    (ip port : Nat) (id : String) (len : Nat) (hres : o.res = .pkt ip port id len) (k : Nat) (c : MClient)
    (hfind : (((indexed m.clients).filter (fun x => x.2.target == some hd.pc && x.2.ip == ip && x.2.port == port)).filter
        (fun x => isNext x.2 id len)).find?
      (fun x => (((indexed m.clients).filter (fun x => x.2.target == some hd.pc && x.2.ip == ip && x.2.port == port)).filter
        (fun x => isNext x.2 id len)).all (fun y => decide (x.2.seq ≤ y.2.seq))) = some (k, c)) :
    bookRead m o h = ({ m with clients := setAt m.clients k (fun c => { c with nread := c.nread + 1 }) }, none, false) := by
  unfold bookRead
  rw [hh]
  simp only [hres, hc, Bool.false_eq_true, if_false, hfind]

theorem bookRead_other (m : Mon) (o : Obs) (h : Nat) (hres : o.res = .other) : bookRead m o h = (m, none, false) := by
  unfold bookRead
  cases m.handles[h]? with
  | none => rfl
  | some hd => simp only [hres]

/-- the monitor's counters after `pkt` was read: a data packet counts for the connection it came from -/
def bump (m : Mon) (pkt : Pkt) : Mon :=
  match pkt.err with
  | none => { m with clients := setAt m.clients pkt.conn (fun c => { c with nread := c.nread + 1 }) }
  | some _ => m

theorem simU_bump {s : State} {m : Mon} (hu : SimU s m) (pkt : Pkt) : SimU s (bump m pkt) := by
  unfold bump
  cases pkt.err with
  | some e => exact hu
  | none => exact simU_congr hu _ m.returned (clientsEqv_setAt _ _ _ (fun _ => rfl))

theorem bump_misc (m : Mon) (pkt : Pkt) : (bump m pkt).returned = m.returned ∧ (bump m pkt).pcs = m.pcs ∧
    (bump m pkt).handles = m.handles ∧ (bump m pkt).now = m.now := by
  unfold bump
  cases pkt.err <;> exact ⟨rfl, rfl, rfl, rfl⟩

theorem nread_pop {s : State} {m : Mon} (hn : NRead s m) (p : Nat) (pc : PConn) (hp : s.pcs[p]? = some pc)
    (g : PConn → PConn) (pkt : Pkt) (hr : (g pc).readLog = pc.readLog ++ [pkt])
    (hsrc : pkt.err = none → ∃ t0, s.tcps[pkt.conn]? = some t0 ∧ t0.pc = some p) :
    NRead (setPc s p g) (bump m pkt) := by
  intro j tj cj htj hcj
  have htj0 : s.tcps[j]? = some tj := htj
  rw [nreadOf_pop p pc hp g pkt hr]
  unfold bump at hcj
  cases herr : pkt.err with
  | some e =>
    rw [herr] at hcj
    simp only [reduceCtorEq, and_false, if_false, Nat.add_zero]
    exact hn j tj cj htj0 hcj
  | none =>
    rw [herr] at hcj
    have hcj' : (setAt m.clients pkt.conn (fun c => { c with nread := c.nread + 1 }))[j]? = some cj := hcj
    unfold setAt at hcj'
    obtain ⟨t0, ht0, hpc0⟩ := hsrc herr
    by_cases hjk : j = pkt.conn
    · subst hjk
      rw [ht0] at htj0; cases htj0
      rw [getElem?_modify_eq] at hcj'
      obtain ⟨c, hc, rfl⟩ := map_eq_some hcj'
      simp only [hpc0, true_and, if_true]
      show c.nread + 1 = _
      rw [hn _ tj c ht0 hc]
    · rw [getElem?_modify_ne _ _ _ _ hjk] at hcj'
      rw [if_neg (fun h => hjk h.2.1.symm), Nat.add_zero]
      exact hn j tj cj htj0 hcj'

theorem bookRead_bump {s : State} {m : Mon} (hs : Sim s m) (hi : Inv s) (h2 : Inv2 s) (h : Nat) (hd : Handle)
    (hh : s.handles[h]? = some hd) (hc : hd.closed = false) (pc : PConn) (hp : s.pcs[hd.pc]? = some pc)
    (pkt : Pkt) (o : Obs) (hres : o.res = oresOf (.read h) (.pkt pkt))
    (hdata : pkt.err = none → ∃ t0, s.tcps[pkt.conn]? = some t0 ∧ t0.pc = some hd.pc ∧ pkt.src = t0.peer ∧ pkt.len ≤ 8192 ∧
      (sentIds t0.sent)[(dataIds (fromConn pkt.conn pc.readLog)).length]? = some (pkt.fid, pkt.len) ∧
      ∃ q, pc.hist = pc.readLog ++ q ∧
        ∀ y, y ∈ q → y.err = none → y.src = pkt.src → y.conn ≠ pkt.conn → seqOf m pkt.conn < seqOf m y.conn) :
    bookRead m o h = (bump m pkt, none, false) := by
  unfold bump
  cases herr : pkt.err with
  | some e =>
    apply bookRead_other
    rw [hres]; unfold oresOf; simp only [herr]
  | none =>
    obtain ⟨t0, ht0, hpc0, hsrc, hlen, hnext, q, hq, hqo⟩ := hdata herr
    obtain ⟨c0, hc0, _⟩ := client_of hs.u ht0
    have hmh : m.handles[h]? = some (absH hd) := by rw [handle_abs hs.u, hh]; rfl
    apply bookRead_pkt m o h (absH hd) hmh hc pkt.src.ip pkt.src.port (showId pkt.fid pkt.len) pkt.len
      (by rw [hres]; unfold oresOf; simp only [herr]) pkt.conn c0
    exact pick_source hs hi h2 hd.pc pc hp pkt t0 c0 ht0 hc0 hpc0 hsrc hlen hnext q hq hqo

theorem readPc_a (s : State) (p : Nat) (pc : PConn) (pkt : Pkt) (q : List Pkt) (hp : s.pcs[p]? = some pc)
    (hq : pc.recvQ = pkt :: q) (hb : pc.blockedQ = []) : readPc s p = (setPc s p (popQ q pkt), .pkt pkt) := by
  unfold readPc; simp only [hp, hq, hb]; rfl

theorem readPc_b (s : State) (p k : Nat) (pc : PConn) (pkt bp : Pkt) (q : List Pkt) (bq : List Nat) (fin : Bool)
    (hp : s.pcs[p]? = some pc) (hq : pc.recvQ = pkt :: q) (hb : pc.blockedQ = k :: bq) (hbl : blockedOf s k = some (bp, fin)) :
    readPc s p = (runReader (setTcp (setPc (setPc s p (popQ q pkt)) p (pushB bq bp)) k (wake fin)) k, .pkt pkt) := by
  unfold readPc; simp only [hp, hq, hb, hbl]; rfl

theorem readPc_c (s : State) (p k : Nat) (pc : PConn) (bp : Pkt) (bq : List Nat) (fin : Bool)
    (hp : s.pcs[p]? = some pc) (hq : pc.recvQ = []) (hb : pc.blockedQ = k :: bq) (hbl : blockedOf s k = some (bp, fin)) :
    readPc s p = (runReader (setTcp (setPc s p (passB bq bp)) k (wake fin)) k, .pkt bp) := by
  unfold readPc; simp only [hp, hq, hb, hbl]; rfl

theorem readPc_d (s : State) (p : Nat) (pc : PConn) (hp : s.pcs[p]? = some pc) (hq : pc.recvQ = []) (hb : pc.blockedQ = []) :
    readPc s p = (s, if pc.closed then .errClosed else .empty) := by
  unfold readPc; simp only [hp, hq, hb]
  split <;> rfl

theorem blocked_first {s : State} (hi : Inv s) {p k : Nat} {pc : PConn} {bq : List Nat} (hp : s.pcs[p]? = some pc)
    (hb : pc.blockedQ = k :: bq) :
    ∃ t bp fin, s.tcps[k]? = some t ∧ t.reader = .blocked bp fin ∧ t.pc = some p ∧ blockedOf s k = some (bp, fin) := by
  obtain ⟨t, ht, hpc, bp, fin, hrd⟩ := (hi.pc p pc hp).2.2.1 k (by rw [hb]; simp)
  refine ⟨t, bp, fin, ht, hrd, hpc, ?_⟩
  unfold blockedOf; rw [ht]; simp only [hrd]

end IceProofs.TcpMux

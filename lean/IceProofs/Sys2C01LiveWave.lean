import IceProofs.Sys2C01LiveFairMain
/-!
# C01 liveness — waves

`wave s` delivers, in order, every datagram that is in flight in `s` (new datagrams queue up behind them): a schedule of
deliveries on which everything in flight is delivered at once (`deliveredBy_flush`).  So the leads-to lemmas of the fair
suffix apply: a transaction whose request is in flight has its response in flight after one wave (`wave_ch1`) and is
complete after the next (`wave_ch2`); a nomination in flight is handled (`wave_nom`).  What every delivery keeps is kept
by any list of deliveries and duplications (`stable_noise`).
-/
namespace IceProofs.C01Live
open IceModel.AgentCore IceModel.Sys2 IceProofs.Sys2Run IceProofs.C01 IceProofs.Agent

/-- deliver the head of the queue `n` times -/
def flushN : Nat → Sys → Sys
  | 0, s => s
  | n + 1, s => flushN n (Sys.run s (.deliver 0))

/-- deliver everything that is in flight now -/
def wave (s : Sys) : Sys := flushN s.inflight.length s

theorem flushN_runs (n : Nat) (s : Sys) : flushN n s = Sys.runs s (List.replicate n (.deliver 0)) := by
  induction n generalizing s with
  | zero => rfl
  | succ n ih => rw [flushN, ih]; rfl

/-- deliveries and duplications (no loss, no clock advance, no API call) -/
def isNoise : SysEv → Bool
  | .deliver _ => true
  | .dup _ => true
  | _ => false

theorem isNoise_flush (n : Nat) : ∀ e ∈ List.replicate n (SysEv.deliver 0), isNoise e = true := fun e he => by
  rw [(List.mem_replicate.mp he).2]; rfl

section
variable {nat blocked : List (Nat × Nat)} {SLA SLB SR : Nat → Prop} {liteA liteB : Bool} {T0 H J : Nat} {c : Bool}

theorem stable_noise {P : Sys → Prop}
    (kD : ∀ (s s' : Sys) (hd : Dgram) (t : List Dgram), SysOK nat blocked SLA SLB SR liteA liteB T0 H c s →
      SysOK nat blocked SLA SLB SR liteA liteB T0 H c s' → Effect T0 s s' hd t → hd ∈ s.inflight →
      (∀ d ∈ s.inflight, d ∈ t ∨ d = hd) → (∀ d ∈ t, d ∈ s.inflight) → P s → P s')
    {s : Sys} (h : SysOK nat blocked SLA SLB SR liteA liteB T0 H c s) (ns : List SysEv) (hn : ∀ e ∈ ns, isNoise e = true)
    (hp : P s) : SysOK nat blocked SLA SLB SR liteA liteB T0 H c (Sys.runs s ns) ∧ P (Sys.runs s ns) := by
  induction ns generalizing s with
  | nil => exact ⟨h, hp⟩
  | cons e es ih =>
    have key : ∀ (k : Nat) (keep : Bool), Sys.run s e = (s.deliver k keep).1 →
        SysOK nat blocked SLA SLB SR liteA liteB T0 H c (Sys.run s e) ∧ P (Sys.run s e) := by
      intro k keep hrun
      rw [hrun]
      cases hk : s.inflight[k]? with
      | none =>
        have : (s.deliver k keep).1 = s := by rw [deliver_eq, hk]
        rw [this]; exact ⟨h, hp⟩
      | some hd =>
        obtain ⟨h', eff⟩ := deliver_effect h keep hk
        exact ⟨h', kD _ _ _ _ h h' eff (List.mem_of_getElem? hk) (fun d hd' => mem_restOf_or hk hd')
          (fun d hd' => mem_of_mem_restOf hd') hp⟩
    have hne := hn e List.mem_cons_self
    have hrest := fun x hx => hn x (List.mem_cons_of_mem _ hx)
    cases e with
    | deliver k => obtain ⟨h1, p1⟩ := key k false rfl; exact ih h1 hrest p1
    | dup k => obtain ⟨h1, p1⟩ := key k true rfl; exact ih h1 hrest p1
    | api _ _ => cases hne
    | drop _ => cases hne
    | advance _ => cases hne

theorem stable_flush {P : Sys → Prop}
    (kD : ∀ (s s' : Sys) (hd : Dgram) (t : List Dgram), SysOK nat blocked SLA SLB SR liteA liteB T0 H c s →
      SysOK nat blocked SLA SLB SR liteA liteB T0 H c s' → Effect T0 s s' hd t → hd ∈ s.inflight →
      (∀ d ∈ s.inflight, d ∈ t ∨ d = hd) → (∀ d ∈ t, d ∈ s.inflight) → P s → P s')
    {s : Sys} (h : SysOK nat blocked SLA SLB SR liteA liteB T0 H c s) (n : Nat) (hp : P s) : P (flushN n s) := by
  rw [flushN_runs]; exact (stable_noise kD h _ (isNoise_flush n) hp).2

theorem SysOK.flushN {s : Sys} (h : SysOK nat blocked SLA SLB SR liteA liteB T0 H c s) (n : Nat) :
    SysOK nat blocked SLA SLB SR liteA liteB T0 H c (flushN n s) := by
  rw [flushN_runs]; exact (stable_noise (P := fun _ => True) (fun _ _ _ _ _ _ _ _ _ _ _ => trivial) h _ (isNoise_flush n) trivial).1

theorem SysOK.wave {s : Sys} (h : SysOK nat blocked SLA SLB SR liteA liteB T0 H c s) :
    SysOK nat blocked SLA SLB SR liteA liteB T0 H c (wave s) := h.flushN _

variable {x : Bool} {tid la ra : Nat} {uc nomOn : Bool} {ts : Nat}

theorem Sel.flushN {s : Sys} (h : SysOK nat blocked SLA SLB SR liteA liteB T0 H c s) (n : Nat) {x : Bool} (g : Sel s x) :
    Sel (flushN n s) x := stable_flush (P := fun s => Sel s x) (fun _ _ _ _ _ _ he _ _ _ g => g.keep he) h n g

theorem HasSucc.flushN {s : Sys} (h : SysOK nat blocked SLA SLB SR liteA liteB T0 H c s) (n : Nat) {x : Bool}
    (g : HasSucc s x) : HasSucc (flushN n s) x :=
  stable_flush (P := fun s => HasSucc s x) (fun _ _ _ _ _ _ he _ _ _ g => g.keep he) h n g

theorem Goal.flushN {s : Sys} (h : SysOK nat blocked SLA SLB SR liteA liteB T0 H c s) (n : Nat)
    (g : Goal c s x uc nomOn) : Goal c (flushN n s) x uc nomOn :=
  stable_flush (P := fun s => Goal c s x uc nomOn) (fun _ _ _ _ _ _ he _ _ _ g => g.keep he) h n g

theorem Ch2.flushN {s : Sys} (h : SysOK nat blocked SLA SLB SR liteA liteB T0 H c s) (n : Nat)
    (g : Ch2 c s x tid la ra uc nomOn ts) : Ch2 c (flushN n s) x tid la ra uc nomOn ts :=
  stable_flush (P := fun s => Ch2 c s x tid la ra uc nomOn ts) (fun _ _ _ _ h _ he hm ha _ g => g.keep h he hm ha) h n g

theorem DP.flushN {s : Sys} (h : SysOK nat blocked SLA SLB SR liteA liteB T0 H c s) (n : Nat) {fresh : Bool}
    (g : DP c s fresh) : DP c (flushN n s) fresh :=
  stable_flush (P := fun s => DP c s fresh) (fun _ _ _ _ h _ he hm ha _ g => g.keep h he hm ha) h n g

theorem LinkedJ.flushN {s : Sys} (h : SysOK nat blocked SLA SLB SR liteA liteB T0 H c s) (n : Nat) {P0 : Prop}
    (g : LinkedJ c P0 s) : LinkedJ c P0 (flushN n s) :=
  stable_flush (P := fun s => LinkedJ c P0 s) (fun _ _ _ _ h h' he hm ha hsub g => g.keep h h' he hm ha hsub) h n g

theorem sufOK_flush (n : Nat) (s : Sys) : SufOK c H J s (List.replicate n (.deliver 0)) := by
  induction n generalizing s with
  | zero => trivial
  | succ n ih => exact ⟨trivial, ih _⟩

theorem FInv.wave {s : Sys} (h : FInv nat blocked SLA SLB SR liteA liteB T0 H J c s) :
    FInv nat blocked SLA SLB SR liteA liteB T0 H J c (wave s) := by
  unfold IceProofs.C01Live.wave; rw [flushN_runs]; exact h.runs (sufOK_flush _ s)

theorem deliveredBy_flush {s : Sys} (h : FInv nat blocked SLA SLB SR liteA liteB T0 H J c s) (n i : Nat) (hi : i < n) :
    DeliveredBy s.now s (List.replicate n (.deliver 0)) i := by
  induction n generalizing s i with
  | zero => omega
  | succ n ih =>
    refine ⟨Nat.le_refl _, ?_⟩
    cases i with
    | zero => exact Or.inl rfl
    | succ i =>
      right
      have hnow : (Sys.run s (.deliver 0)).now = s.now :=
        Nat.le_antisymm (by
          rcases (h.step (e := .deliver 0) trivial).2 with ⟨_, _, _, _, e'⟩ | ⟨_, _, _, _, _, eff, _⟩ | ⟨_, _, he, _⟩
          · rw [e']; exact Nat.le_refl _
          · rw [eff.now]; exact Nat.le_refl _
          · cases he) (now_le_run h (e := .deliver 0) trivial)
      have := ih (h.run (e := .deliver 0) trivial) i (by omega)
      rw [hnow] at this
      simpa [shift] using this

theorem wave_of_by {Q : Sys → Prop}
    (kD : ∀ (s s' : Sys) (hd : Dgram) (t : List Dgram), SysOK nat blocked SLA SLB SR liteA liteB T0 H c s →
      SysOK nat blocked SLA SLB SR liteA liteB T0 H c s' → Effect T0 s s' hd t → hd ∈ s.inflight →
      (∀ d ∈ s.inflight, d ∈ t ∨ d = hd) → (∀ d ∈ t, d ∈ s.inflight) → Q s → Q s')
    {s : Sys} (h : FInv nat blocked SLA SLB SR liteA liteB T0 H J c s) {B : Nat}
    (hb : By Q B s (List.replicate s.inflight.length (.deliver 0))) : Q (wave s) := by
  obtain ⟨e1, e2, q1, q2, _⟩ := hb
  unfold IceProofs.C01Live.wave
  rw [flushN_runs, q1, Sys.runs_append]
  exact (stable_noise kD (h.runs (q1 ▸ sufOK_flush _ s).head).ok _
    (fun e he => isNoise_flush _ e (by rw [q1]; exact List.mem_append_right _ he)) q2).2

theorem wave_ch1 {s : Sys} (h : FInv nat blocked SLA SLB SR liteA liteB T0 H J c s)
    (g : Ch1 c s x tid la ra uc nomOn ts) : Ch2 c (wave s) x tid la ra uc nomOn ts := by
  rcases g with g2 | ⟨hob, d, hd, hr⟩
  · exact g2.flushN h.ok _
  · obtain ⟨i, hi, he⟩ := mem_getElem_lt hd
    exact wave_of_by (fun _ _ _ _ h _ he hm ha _ g => Ch2.keep h he hm ha g) h
      (req_hop h (sufOK_flush _ s) (Or.inr hob) he hr (deliveredBy_flush h _ i hi) hob.young)

theorem wave_ch2 {s : Sys} (h : FInv nat blocked SLA SLB SR liteA liteB T0 H J c s)
    (g : Ch2 c s x tid la ra uc nomOn ts) : Goal c (wave s) x uc nomOn := by
  rcases g with g | ⟨hob, d, hd, hr⟩
  · exact g.flushN h.ok _
  · obtain ⟨i, hi, he⟩ := mem_getElem_lt hd
    exact wave_of_by (fun _ _ _ _ _ _ he _ _ _ g => Goal.keep he g) h
      (resp_hop h (sufOK_flush _ s) (Or.inr hob) he hr (deliveredBy_flush h _ i hi) hob.young)

theorem wave_nom {s : Sys} (h : FInv nat blocked SLA SLB SR liteA liteB T0 H J c s) {la ra : Nat} (hl : Link s c la ra)
    {d : Dgram} (hd : d ∈ s.inflight) (hn : NomD c s la ra d) : DP c (wave s) true := by
  obtain ⟨i, hi, he⟩ := mem_getElem_lt hd
  exact wave_of_by (fun _ _ _ _ h _ he hm ha _ g => DP.keep h he hm ha g) h
    (nom_hop h (sufOK_flush _ s) hl he hn (deliveredBy_flush h _ i hi))

theorem wave_dp {s : Sys} (h : FInv nat blocked SLA SLB SR liteA liteB T0 H J c s) {fresh : Bool} (g : DP c s fresh) :
    Sel (wave (wave s)) (!c) := by
  rcases g with g | ⟨tid, lb, rb, ts, g, _⟩
  · exact (g.flushN h.ok _).flushN h.ok.wave _
  · exact (wave_ch2 h.wave (wave_ch1 h g)).2 (by cases c <;> simp)

end

end IceProofs.C01Live

import IceProofs.TcpMuxSimRun
/-!
# The `end` line: after the harness's teardown (all handles closed, `Close`, both timeouts) nothing is left
-/
namespace IceProofs.TcpMux
open IceModel.TcpMux IceSpec.C15 IceSpec.C15.View

theorem teardown_calm (s : State) (op : Op)
    (hop : (∃ h, op = .closeHandle h) ∨ op = .closeMux ∨ ∃ dt, op = .advance dt) : Calm s (step s op).1 := by
  refine does_calm (step_does s op) ?_ ?_ <;> rcases hop with ⟨_, rfl⟩ | rfl | ⟨_, rfl⟩ <;> nofun

theorem run_append (s : State) (a b : List Op) : run s (a ++ b) = run (run s a) b := by
  induction a generalizing s with
  | nil => rfl
  | cons x xs ih => exact ih (step s x).1

theorem closeHandles_calm {s : State} (g : Good s) (hs : List Nat) :
    Calm s (run s (hs.map .closeHandle)) ∧ (run s (hs.map .closeHandle)).cfg = s.cfg := by
  induction hs generalizing s with
  | nil => exact ⟨Calm.refl s, rfl⟩
  | cons h hs ih =>
    obtain ⟨c, e⟩ := ih (good_step g (.closeHandle h))
    refine ⟨(teardown_calm s (.closeHandle h) (Or.inl ⟨h, rfl⟩)).trans c, ?_⟩
    rw [show run s ((h :: hs).map .closeHandle) = run (step s (.closeHandle h)).1 (hs.map .closeHandle) from rfl, e]
    exact (step_ext s (.closeHandle h) g.inv g.inv2).cfg

theorem closeMux_closed (s : State) : (step s .closeMux).1.muxClosed = true := by
  have h := step_does s .closeMux
  generalize (step s .closeMux).1 = s' at h ⊢
  generalize (step s .closeMux).2 = r at h
  cases h with
  | closeAgain hm => exact hm
  | shut _ => rfl

theorem down_after_wait {s : State} (g : Good s) (hm : s.muxClosed = true) :
    Down (step s (.advance (effTimeout s.cfg.t1 + effTimeout s.cfg.t2 + 1))).1 := by
  have g' := good_step g (.advance (effTimeout s.cfg.t1 + effTimeout s.cfg.t2 + 1))
  have hext := step_ext s (.advance (effTimeout s.cfg.t1 + effTimeout s.cfg.t2 + 1)) g.inv g.inv2
  have hcalm := teardown_calm s (.advance (effTimeout s.cfg.t1 + effTimeout s.cfg.t2 + 1)) (Or.inr (Or.inr ⟨_, rfl⟩))
  have hst : (step s (.advance (effTimeout s.cfg.t1 + effTimeout s.cfg.t2 + 1))).1 =
      ticked (closePcsWhere (fun pc => aliveExpired (s.now + (effTimeout s.cfg.t1 + effTimeout s.cfg.t2 + 1)) pc) s)
        (s.now + (effTimeout s.cfg.t1 + effTimeout s.cfg.t2 + 1)) := rfl
  have hnow : (step s (.advance (effTimeout s.cfg.t1 + effTimeout s.cfg.t2 + 1))).1.now =
      s.now + (effTimeout s.cfg.t1 + effTimeout s.cfg.t2 + 1) := rfl
  have hmux : (step s (.advance (effTimeout s.cfg.t1 + effTimeout s.cfg.t2 + 1))).1.muxClosed = true := hext.mux hm
  have hpcs : ∀ (p : Nat) (pc : PConn), (step s (.advance (effTimeout s.cfg.t1 + effTimeout s.cfg.t2 + 1))).1.pcs[p]? = some pc →
      pc.closed = true := by
    intro p pc hp
    rw [hst] at hp
    have hp' : (closePcsWhere (fun pc => aliveExpired (s.now + (effTimeout s.cfg.t1 + effTimeout s.cfg.t2 + 1)) pc) s).pcs[p]? = some pc := hp
    rw [closePcsWhere_pcs, List.getElem?_map] at hp'
    cases hq : s.pcs[p]? with
    | none => rw [hq] at hp'; cases hp'
    | some pc0 =>
      rw [hq] at hp'
      simp only [Option.map_some, Option.some.injEq] at hp'
      rw [← hp']
      unfold closeSel
      cases hc0 : pc0.closed with
      | true => simp [hc0]
      | false =>
        obtain ⟨d, hd, _⟩ := (g.inv3.pc p pc0 hq).post hm hc0
        have hb := (g.inv3.pc p pc0 hq).al d hd
        have hae : aliveExpired (s.now + (effTimeout s.cfg.t1 + effTimeout s.cfg.t2 + 1)) pc0 = true := by
          unfold aliveExpired; rw [hd]; simp only [decide_eq_true_eq]; omega
        simp [hae, closedPc]
  refine ⟨hmux, g'.inv.lis hmux, ?_, hpcs⟩
  intro k t' ht'
  cases hph : t'.phase with
  | closed => rfl
  | attached p =>
    obtain ⟨_, pc, hp, hopen, _⟩ := g'.inv.att ht' hph
    rw [hpcs p pc hp] at hopen; cases hopen
  | pending d =>
    exfalso
    have hlt : k < s.tcps.length := by rw [← hcalm.2]; exact getElem?_lt ht'
    obtain ⟨t, ht⟩ := getElem?_of_lt hlt
    obtain ⟨t2, ht2, te⟩ := hext.tcps k t ht
    rw [ht'] at ht2; cases ht2
    have hps := te.phase
    have hold : t.phase = .pending d := by
      cases hph0 : t.phase with
      | pending d0 =>
        rw [hph0, hph] at hps
        simp only [PhaseStep] at hps
        rcases hps with h | h | ⟨p, h⟩
        · cases h; rfl
        · cases h
        · cases h
      | attached p0 =>
        rw [hph0, hph] at hps
        simp only [PhaseStep] at hps
        rcases hps with h | h <;> cases h
      | closed =>
        rw [hph0, hph] at hps
        simp only [PhaseStep] at hps
        cases hps
    have hb := ((g.inv3.tcp k t ht).dl d hold).1
    have hfut := g'.inv.pend ht' hph
    rw [hnow] at hfut
    have := effTimeout_pos s.cfg.t2
    omega

theorem teardown_down {s : State} (g : Good s) :
    Down (run s (endOps s)) ∧ Calm s (run s (endOps s)) := by
  unfold endOps
  rw [run_append]
  generalize hs1 : run s ((List.range s.handles.length).map .closeHandle) = s1
  obtain ⟨c1, e1⟩ := hs1 ▸ closeHandles_calm g (List.range s.handles.length)
  have g1 : Good s1 := hs1 ▸ good_run g _
  show Down (step (step s1 .closeMux).1 (.advance (effTimeout s.cfg.t1 + effTimeout s.cfg.t2 + 1))).1 ∧ _
  have g2 := good_step g1 .closeMux
  have e2 : (step s1 .closeMux).1.cfg = s.cfg := by
    rw [(step_ext s1 .closeMux g1.inv g1.inv2).cfg, e1]
  have c2 := teardown_calm s1 .closeMux (Or.inr (Or.inl rfl))
  have c3 := teardown_calm (step s1 .closeMux).1 (.advance (effTimeout s.cfg.t1 + effTimeout s.cfg.t2 + 1)) (Or.inr (Or.inr ⟨_, rfl⟩))
  refine ⟨?_, c1.trans (c2.trans c3)⟩
  have := down_after_wait g2 (closeMux_closed s1)
  rw [e2] at this
  exact this

theorem closed_client_quiet (m : Mon) (closed : List Nat) (k : Nat) (h : closed.contains k = true) :
    clReopened m closed k = false ∧ clLate m closed k = false ∧ clProvisional m closed k = false ∧
      clStillOpen m closed k = false := by
  unfold clReopened clLate clProvisional clStillOpen
  cases m.clients[k]? with
  | none => exact ⟨rfl, rfl, rfl, rfl⟩
  | some c =>
    simp only [h, Bool.not_true, Bool.and_false, true_and, and_true]
    cases c.target with
    | none => rfl
    | some p =>
      simp only
      cases m.pcs[p]? with
      | none => rfl
      | some pc => simp only; cases pc.expires <;> rfl

theorem always_down (s' : State) (mf me : Mon) (old : List Tcp) (res : ORes)
    (hd : Down s') (hlen : mf.clients.length = s'.tcps.length) (hcc : mf.closeCalled = true)
    (hpcs : ∀ (p : Nat) (pc : MPc), me.pcs[p]? = some pc → pc.isOpen = false) (houts : newReplies old s'.tcps = [])
    (hled : ledger s' = ⟨0, 0, 0, 0, 0⟩) :
    always mf me (obsOf old s' res) false = none := by
  have hret : closeReturned s' = true := closeReturned_of_down hd
  have hin : ∀ k, k < mf.clients.length → (closedSet s').contains k = true := by
    intro k hk
    obtain ⟨t, ht⟩ := getElem?_of_lt (show k < s'.tcps.length by omega)
    exact contains_closedSet.2 ⟨t, ht, isClosed_iff.2 (hd.tcps k t ht)⟩
  have c1 : ((closedSet s').any fun k => decide (k ≥ mf.clients.length)) = false := by
    rw [List.any_eq_false]
    intro k hk
    obtain ⟨t, ht, _⟩ := mem_idxWhere.1 hk
    have := getElem?_lt ht
    simp only [decide_eq_true_eq]; omega
  have c2 : (List.range mf.clients.length).any (clReopened mf (closedSet s')) = false :=
    any_range_false (fun k hk => (closed_client_quiet mf _ k (hin k hk)).1)
  have c3 : (List.range mf.clients.length).any (clLate mf (closedSet s')) = false :=
    any_range_false (fun k hk => (closed_client_quiet mf _ k (hin k hk)).2.1)
  have c4 : (List.range mf.clients.length).any (clProvisional mf (closedSet s')) = false :=
    any_range_false (fun k hk => (closed_client_quiet mf _ k (hin k hk)).2.2.1)
  have c5 : (List.range mf.clients.length).any (clDelivery mf me (closedSet s')) = false := by
    refine any_clients_false (fun k c hc => ?_)
    unfold clDelivery
    simp only [hc]
    cases c.target with
    | none => simp
    | some p =>
      simp only
      cases hp : me.pcs[p]? with
      | none => simp
      | some pc => simp [hpcs p pc hp]
  have c10 : (List.range mf.clients.length).any (clStillOpen mf (closedSet s')) = false :=
    any_range_false (fun k hk => (closed_client_quiet mf _ k (hin k hk)).2.2.2)
  have c11 : (ledgerList s').any (· ≠ 0) = false := by
    unfold ledgerList
    rw [hled]; simp
  have hr : (obsOf old s' res).ret = true := hret
  have hl : (obsOf old s' res).listenerClosed = true := by show (!s'.listenerOpen) = true; rw [hd.lis]; rfl
  have ho : (obsOf old s' res).outs = [] := houts
  refine always_none c1 c2 c3 c4 c5 ?_ ?_ ?_ ?_ ?_ ?_ ?_
  · rw [ho]; rfl
  · rw [hl, hcc]; rfl
  · rw [hr, hcc]; rfl
  · rw [hr]; simp
  · rw [hr]; exact c10
  · rw [hr]; exact c11
  · rw [hr]; simp

theorem closeWhere_all_closed (pcs : List MPc) (sel : MPc → Bool) :
    ∀ (p : Nat) (pc : MPc), (closeWhere (closeWhere pcs (fun _ => true)) sel)[p]? = some pc → pc.isOpen = false := by
  intro p pc hp
  unfold closeWhere at hp
  rw [List.map_map, List.getElem?_map] at hp
  cases hq : pcs[p]? with
  | none => rw [hq] at hp; cases hp
  | some q =>
    rw [hq] at hp
    simp only [Option.map_some, Function.comp, if_true, Option.some.injEq] at hp
    rw [← hp]
    cases ho : q.isOpen <;> cases hs : sel (closeOne q) <;> simp [closeOne, ho]

theorem finish_ok {s : State} {m : Mon} (hs : Sim s m) (g : Good s) : (observeT m .finish (endLine s)).2 = none := by
  obtain ⟨hd, hcalm⟩ := teardown_down g
  have g' : Good (run s (endOps s)) := good_run g _
  have hret : closeReturned (run s (endOps s)) = true := closeReturned_of_down hd
  have hled := (down_of_closeReturned g'.inv hret).2
  have hall : allDown (run s (endOps s)) = true := by
    unfold allDown
    rw [hret, hled]
    simp only [Bool.true_and, decide_true, Bool.and_true, List.all_eq_true]
    intro t ht
    obtain ⟨k, hk⟩ := List.mem_iff_getElem?.1 ht
    exact isClosed_iff.2 (hd.tcps k t hk)
  unfold endLine
  simp only [hall, if_true]
  have hobs : observeT m .finish (.obs (obsOf s.tcps (run s (endOps s)) .endOk)) =
      finish m (obsOf s.tcps (run s (endOps s)) .endOk) := by
    simp [observeT, hs.u.active]
  rw [hobs]
  unfold finish
  simp only
  have hres : (obsOf s.tcps (run s (endOps s)) .endOk).res = .endOk := rfl
  rw [if_neg (by rw [hres]; exact fun h => h rfl)]
  apply always_down _ _ _ _ _ hd
  · show m.clients.length = _
    rw [hs.u.len, hcalm.2]
  · rfl
  · unfold expire
    exact closeWhere_all_closed m.pcs _
  · exact newReplies_nil hcalm.2 hcalm.1
  · exact hled

theorem verdicts_append (m : Mon) (a b : List (MOp × Line)) :
    verdicts m (a ++ b) = verdicts m a ++ verdicts (monAfter m a) b := by
  induction a generalizing m with
  | nil => rfl
  | cons x xs ih =>
    obtain ⟨op, l⟩ := x
    simp only [List.cons_append, verdicts, monAfter, ih]

/-- **Every line of every session of the model is accepted by the monitor.** -/
theorem trace_ok (cfg : Config) (ops : List Op) (withEnd : Bool) :
    ∀ v, v ∈ verdicts {} (traceOf cfg ops withEnd) → v = none := by
  obtain ⟨hv0, hs0⟩ := start_sim cfg
  obtain ⟨hvs, hfin⟩ := run_sim hs0 (good_init cfg) ops
  intro v hv
  unfold traceOf at hv
  simp only [List.cons_append, verdicts] at hv
  rcases List.mem_cons.1 hv with rfl | hv
  · exact hv0
  · rw [verdicts_append] at hv
    rcases List.mem_append.1 hv with h | h
    · exact hvs v h
    · cases withEnd with
      | false => simp [verdicts] at h
      | true =>
        simp only [if_true, verdicts, List.mem_singleton] at h
        rw [h]
        exact finish_ok hfin (good_run (good_init cfg) ops)

theorem trace_sim (cfg : Config) (ops : List Op) :
    Sim (run (init cfg) ops) (monAfter {} ((.start cfg.t1 cfg.t2, .obs (obsOf [] (init cfg) .ok)) :: linesFrom (init cfg) ops)) :=
  (run_sim (start_sim cfg).2 (good_init cfg) ops).2

end IceProofs.TcpMux

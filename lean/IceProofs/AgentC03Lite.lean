import IceProofs.AgentC03Step
/-!
# C03 — a lite agent that is in the controlled role after a step has emitted no Binding request in it
-/
namespace IceProofs.C03
open IceModel.AgentCore

theorem toSelector_ctl (a : Agent) (now : Nat) (l r : Cand) (m : Msg) (o0 : List Out) :
    (Agent.toSelector a now l r m o0).1.controlling = a.controlling := by
  rw [(toSelector_out a now l r m o0).1]
  exact (sel_toSelector a now l r m).ctl

theorem handleSuccess_noReq (a : Agent) (now : Nat) (m : Msg) (l r : Cand) (src : Nat) :
    NoReq (a.handleSuccess now m l r src).2 :=
  Agent.handleSuccess_outs_rule (P := NoReq) a now m l r src NoReq.nil select_noReq

theorem toSelector_noReq (a : Agent) (now : Nat) (l r : Cand) (m : Msg) (hl : a.cfg.lite = true)
    (hc : a.controlling = false) : NoReq (Agent.toSelector a now l r m []).2 := by
  unfold Agent.toSelector
  simp only [hc, Bool.false_eq_true, if_false, List.nil_append]
  exact cldHandleRequest_noReq a now m l r hl

theorem afterResolve_cases (a : Agent) (now : Nat) (l r : Cand) (m : Msg) :
    (∃ m' : Msg, m'.cls = 3 ∧ Agent.afterResolve a now l m [] r = (a.seenLocalSent l.uid now, [.dgram l.addr r.addr m'])) ∨
    Agent.afterResolve a now l m [] r = (({ a with controlling := !a.controlling }).resetSelector now, []) ∨
    Agent.afterResolve a now l m [] r = Agent.toSelector a now l r m [] := by
  unfold Agent.afterResolve
  repeat' split
  all_goals first
    | exact Or.inl ⟨_, rfl, rfl⟩
    | exact Or.inr (Or.inl rfl)
    | exact Or.inr (Or.inr rfl)

theorem afterResolve_noReq (a : Agent) (now : Nat) (l r : Cand) (m : Msg) (hl : a.cfg.lite = true)
    (hc : (Agent.afterResolve a now l m [] r).1.controlling = false) : NoReq (Agent.afterResolve a now l m [] r).2 := by
  rcases afterResolve_cases a now l r m with ⟨m', h3, h⟩ | h | h
  · rw [h]
    intro f t m'' hm
    simp only [List.mem_singleton, Out.dgram.injEq] at hm
    obtain ⟨_, _, rfl⟩ := hm
    rw [h3]; decide
  · rw [h]; exact NoReq.nil
  · rw [h] at hc ⊢
    exact toSelector_noReq a now l r m hl ((toSelector_ctl a now l r m []).symm.trans hc)

theorem handleInbound_noReq (a : Agent) (now : Nat) (l : Cand) (src : Nat) (m : Msg) (hl : a.cfg.lite = true)
    (hc : (a.handleInbound now l src m).1.controlling = false) : NoReq (a.handleInbound now l src m).2 := by
  obtain ⟨hd, hn⟩ := resolveSource_hok a l src m
  revert hc
  refine Agent.handleInbound_rule (Q := fun x => x.1.controlling = false → NoReq x.2) a now l src m
    (fun _ => NoReq.nil) (fun r _ _ _ _ => handleSuccess_noReq _ _ _ _ _ _) (fun _ _ _ => NoReq.nil) (fun _ _ _ => hn)
    (fun _ r _ hc => ?_)
  generalize Agent.resolveSource a l src m = d at hd hn hc ⊢
  rw [(afterResolve_out _ now l r m _).2]
  rw [(afterResolve_out _ now l r m _).1] at hc
  exact hn.append (afterResolve_noReq _ now l r m (hd.cfg ▸ hl) hc)

theorem thenForced_noReq {x : Agent × List Out} (now : Nat) (hl : x.1.cfg.lite = true)
    (hc : (Agent.thenForced x now).1.controlling = false)
    (hx : x.1.controlling = false → NoReq x.2) : NoReq (Agent.thenForced x now).2 := by
  have hc1 : x.1.controlling = false := (runForced_hok (wp := False) x.1 now).ctl.symm.trans hc
  exact (hx hc1).append (runForced_noReq _ now hl hc1)

theorem step_noReq (a : Agent) (e : Ev) (hl : a.cfg.lite = true) (hc : (step a e).1.controlling = false) :
    NoReq (step a e).2 := by
  have err : ∀ s : String, (a, [Out.res s]).1.controlling = false → NoReq (a, [Out.res s]).2 := fun s _ => noReq_res s
  have idle : (a, ([] : List Out)).1.controlling = false → NoReq (a, ([] : List Out)).2 := fun _ => NoReq.nil
  revert hc
  cases e with
  | addLocal now c =>
    rw [Agent.step_addLocal]
    exact fun hc => thenForced_noReq now ((addLocalCandidate_hok (ex := True) a c).1.cfg ▸ hl) hc
      fun _ => (addLocalCandidate_hok (ex := True) a c).2
  | addRemote now c =>
    exact Agent.step_addRemote_rule (Q := fun x => x.1.controlling = false → NoReq x.2) a now c err idle fun _ _ hc =>
      thenForced_noReq now ((addRemoteCandidate_hok (ex := True) a c).1.cfg ▸ hl) hc
        fun _ => (addRemoteCandidate_hok (ex := True) a c).2
  | start now ctl ru rp =>
    exact Agent.step_start_rule (Q := fun x => x.1.controlling = false → NoReq x.2) a now ctl ru rp err fun _ _ hc =>
      thenForced_noReq now ((startCore_hsel a now ctl ru rp).cfg ▸ hl) hc
        fun _ => (setConnState_noReq (startA0 a now ctl ru rp) .checking).append (noReq_res _)
  | setRemoteCreds ru rp =>
    exact Agent.step_setRemoteCreds_rule (Q := fun x => x.1.controlling = false → NoReq x.2) a ru rp err
      fun _ _ => noReq_res _
  | advance now =>
    rw [Agent.step_advance]
    exact fun hc => runTimers_noReq a now 100000 hl ((runTimers_hok (wp := False) a now 100000).ctl.symm.trans hc)
  | inbound now la src m =>
    exact Agent.step_inbound_rule (Q := fun x => x.1.controlling = false → NoReq x.2) a now la src m idle
      fun _ _ l _ hc => thenForced_noReq now ((handleInbound_hsel a now l src m).cfg ▸ hl) hc
        (handleInbound_noReq a now l src m hl)
  | inboundData now la src len sl =>
    exact Agent.step_inboundData_rule (Q := fun x => x.1.controlling = false → NoReq x.2) a now la src len sl idle
      fun _ _ _ l _ _ => inboundData_noReq a now l src len
  | write now len sl =>
    rw [Agent.step_write]
    exact fun _ => (write_hsel a now len sl).2
  | writeToPair now id len sl =>
    rw [Agent.step_writeToPair]
    exact fun _ => (writeToPair_hsel a now id len sl).2
  | read cap =>
    exact Agent.step_read_rule (Q := fun x => x.1.controlling = false → NoReq x.2) a cap err fun _ _ _ _ _ => noReq_res _
  | renominate now la ri v =>
    -- a renomination is issued by a controlling agent only, and leaves it controlling
    refine Agent.step_renominate_rule (Q := fun x => x.1.controlling = false → NoReq x.2) a now la ri v err
      fun hctl _ l r _ _ _ _ hc => ?_
    have := (sendRequest_hok (wp := True) (ex := True) a now l r true (if v > 0 then some v else none) (fun _ => hctl)).ctl
    rw [hctl] at this
    exact absurd (this.symm.trans hc) (by decide)
  | restart now u p =>
    refine Agent.step_restart_rule (Q := fun x => x.1.controlling = false → NoReq x.2) a now u p err fun _ _ => ?_
    refine NoReq.append ?_ (noReq_res _)
    unfold Agent.doRestart
    simp only []
    split
    · exact setConnState_noReq _ _
    · exact NoReq.nil
  | close =>
    exact Agent.step_close_rule (Q := fun x => x.1.controlling = false → NoReq x.2) a err
      fun _ _ => (setConnState_noReq _ _).append (noReq_res _)

end IceProofs.C03

import IceModel.Notifier
import IceProofs.Exec
/-!
# Invariant of the notifier model (DESIGN Appendix D.3, K1–K4) and its preservation

One invariant `Inv`, `Inv init`, the shape the moves of the working drainer share (`inv_active_move`), then `inv_step`,
`inv_run`, `inv_reachable`.  No bound on the number of events, drainers, closers or steps.
-/
namespace IceProofs.Notifier
open IceModel.Notifier

theorem split_at {α : Type} (l : List α) (i : Nat) (x : α) (h : l[i]? = some x) :
    ∃ pre post, l = pre ++ x :: post ∧ ∀ y, l.set i y = pre ++ y :: post := by
  induction l generalizing i with
  | nil => simp at h
  | cons a l ih =>
    cases i with
    | zero =>
      simp at h
      exact ⟨[], l, by simp [h], by intro y; simp⟩
    | succ i =>
      simp at h
      obtain ⟨pre, post, h1, h2⟩ := ih i h
      exact ⟨a :: pre, post, by simp [h1], by intro y; simp [h2]⟩

theorem held_append (a b : List DPc) : held (a ++ b) = held a ++ held b := by
  induction a with
  | nil => rfl
  | cons x a ih => cases x <;> simp [held, ih]

@[simp] theorem isActive_atLoop : DPc.atLoop.isActive = true := rfl
@[simp] theorem isActive_holding (e : Ev) : (DPc.holding e).isActive = true := rfl
@[simp] theorem isActive_inHandler (e : Ev) : (DPc.inHandler e).isActive = true := rfl
@[simp] theorem isActive_exiting : DPc.exiting.isActive = false := rfl
@[simp] theorem isActive_gone : DPc.gone.isActive = false := rfl
@[simp] theorem isLive_atLoop : DPc.atLoop.isLive = true := rfl
@[simp] theorem isLive_holding (e : Ev) : (DPc.holding e).isLive = true := rfl
@[simp] theorem isLive_inHandler (e : Ev) : (DPc.inHandler e).isLive = true := rfl
@[simp] theorem isLive_exiting : DPc.exiting.isLive = true := rfl
@[simp] theorem isLive_gone : DPc.gone.isLive = false := rfl

theorem activeCount_cons (x : DPc) (ds : List DPc) :
    activeCount (x :: ds) = activeCount ds + (if x.isActive then 1 else 0) := by
  simp [activeCount, List.countP_cons]

theorem held_of_active_zero (ds : List DPc) (h : activeCount ds = 0) : held ds = [] := by
  induction ds with
  | nil => rfl
  | cons x ds ih =>
    rw [activeCount_cons] at h
    cases x <;> simp at h <;> simp [held] <;> exact ih h

theorem active_le_live (ds : List DPc) : activeCount ds ≤ liveCount ds := by
  unfold activeCount liveCount
  apply List.countP_mono_left
  intro x _ hx
  cases x <;> simp_all [DPc.isActive, DPc.isLive]

theorem inHandler_le_active (ds : List DPc) : inHandlerCount ds ≤ activeCount ds := by
  unfold activeCount inHandlerCount
  apply List.countP_mono_left
  intro x _ hx
  cases x <;> simp_all [DPc.isActive, DPc.isInHandler]

theorem activeCount_split (pre post : List DPc) (x : DPc) :
    activeCount (pre ++ x :: post) = activeCount pre + (if x.isActive then 1 else 0) + activeCount post := by
  simp [activeCount, List.countP_append, List.countP_cons]; omega

theorem liveCount_split (pre post : List DPc) (x : DPc) :
    liveCount (pre ++ x :: post) = liveCount pre + (if x.isLive then 1 else 0) + liveCount post := by
  simp [liveCount, List.countP_append, List.countP_cons]; omega

theorem held_split (pre post : List DPc) (x : DPc) :
    held (pre ++ x :: post) = held pre ++ held [x] ++ held post := by
  rw [held_append]
  have : x :: post = [x] ++ post := rfl
  rw [this, held_append, List.append_assoc]

theorem live_pos_of_get {ds : List DPc} {i : Nat} {x : DPc} (h : ds[i]? = some x) (hx : x.isLive = true) :
    1 ≤ liveCount ds := by
  obtain ⟨pre, post, h1, _⟩ := split_at ds i x h
  rw [h1, liveCount_split, hx]; simp; omega

structure Inv (s : State) : Prop where
  /-- K1/K3: accepted = delivered ++ (events popped, handler not yet entered) ++ queue -/
  k3 : s.accepted = s.delivered ++ held s.drainers ++ s.queue
  /-- K2: `running` ⇔ exactly one drainer that can still pop or call the handler -/
  k2 : activeCount s.drainers = if s.running then 1 else 0
  /-- K4: the wait-group counter is the number of drainer goroutines that exist -/
  k4 : s.wg = liveCount s.drainers
  /-- nothing is queued without a drainer to take it -/
  idle : s.running = false → s.queue = []
  /-- a closer past its critical section implies `done` closed -/
  closers : ∀ c ∈ s.closers, (c = CPc.waiting ∨ c = CPc.returned true) → s.closed = true
  /-- once a graceful close has returned: closed and no drainer goroutine exists -/
  graceful : s.gracefulReturned = true → s.closed = true ∧ s.wg = 0

theorem inv_init : Inv init := by
  constructor <;> simp [init, held, activeCount, liveCount]

theorem active_unique {s : State} (hi : Inv s) {i : Nat} {x : DPc} (h : s.drainers[i]? = some x)
    (hx : x.isActive = true) :
    ∃ pre post, s.drainers = pre ++ x :: post ∧ (∀ y, s.drainers.set i y = pre ++ y :: post)
      ∧ activeCount pre = 0 ∧ activeCount post = 0 ∧ s.running = true := by
  obtain ⟨pre, post, h1, h2⟩ := split_at _ i x h
  have hk := hi.k2
  rw [h1, activeCount_split, hx] at hk
  have hrun : s.running = true := by
    cases hr : s.running
    · rw [hr] at hk; simp at hk
    · rfl
  rw [hrun, if_pos rfl] at hk
  exact ⟨pre, post, h1, h2, by omega, by omega, hrun⟩

theorem active_running {s : State} (hi : Inv s) {i : Nat} {x : DPc} (h : s.drainers[i]? = some x)
    (hx : x.isActive = true) : s.running = true := by
  obtain ⟨_, _, _, _, _, _, hr⟩ := active_unique hi h hx
  exact hr

theorem inv_active_move {s t : State} (hi : Inv s) {i : Nat} {x y : DPc} (hd : s.drainers[i]? = some x)
    (hx : x.isActive = true) (hy : y.isLive = true) (hdr : t.drainers = s.drainers.set i y)
    (hacc : t.accepted = s.accepted) (hwg : t.wg = s.wg) (hcl : t.closed = s.closed) (hcs : t.closers = s.closers)
    (hgr : t.gracefulReturned = s.gracefulReturned)
    (hk3 : t.delivered ++ held [y] ++ t.queue = s.delivered ++ held [x] ++ s.queue)
    (hk2 : t.running = y.isActive) (hidle : t.running = false → t.queue = []) : Inv t := by
  have hlx : x.isLive = true := by cases x <;> first | rfl | cases hx
  obtain ⟨pre, post, h1, h2, hp, hq, hr⟩ := active_unique hi hd hx
  have hk4 := hi.k4
  have h3 := hi.k3
  rw [h1, held_split, held_of_active_zero _ hp, held_of_active_zero _ hq, List.nil_append, List.append_nil] at h3
  rw [h1, liveCount_split, hlx] at hk4
  constructor
  · rw [hacc, hdr, h2, held_split, held_of_active_zero _ hp, held_of_active_zero _ hq, List.nil_append, List.append_nil,
      hk3]; exact h3
  · rw [hdr, h2, activeCount_split, hp, hq, hk2]; cases y.isActive <;> rfl
  · rw [hwg, hdr, h2, liveCount_split, hy]; exact hk4
  · exact hidle
  · rw [hcs, hcl]; exact hi.closers
  · rw [hgr, hcl, hwg]; exact hi.graceful

theorem inv_step {s s' : State} (a : Action) (hi : Inv s) (h : step s a = some s') : Inv s' := by
  cases a <;> simp only [step] at h
  case enqueue e =>
    split at h
    · cases h; exact hi
    · rename_i hc
      split at h
      · rename_i hr
        cases h
        constructor
        · simp [hi.k3]
        · exact hi.k2
        · exact hi.k4
        · intro h'; exact absurd h' (by simp [hr])
        · exact hi.closers
        · intro hg; exact absurd (hi.graceful hg).1 hc
      · rename_i hr
        cases h
        have hr' : s.running = false := by simpa using hr
        have hq := hi.idle hr'
        have ha : activeCount s.drainers = 0 := by simpa [hr'] using hi.k2
        constructor
        · simp [hi.k3, held_append, held, hq]
        · simp [activeCount, List.countP_append, DPc.isActive] at ha ⊢; exact ha
        · simp [liveCount, List.countP_append, DPc.isLive, hi.k4]
        · simp
        · exact hi.closers
        · intro hg; exact absurd (hi.graceful hg).1 hc
  case closeCall g =>
    cases h
    refine ⟨hi.k3, hi.k2, hi.k4, hi.idle, ?_, hi.graceful⟩
    intro c hc hw
    simp at hc
    rcases hc with hc | hc
    · exact hi.closers c hc hw
    · subst hc; rcases hw with hw | hw <;> cases hw
  case drainLock i =>
    split at h
    · rename_i hd
      have hr := active_running hi hd rfl
      split at h <;> cases h <;> rename_i hqe
      · exact inv_active_move hi hd rfl rfl rfl rfl rfl rfl rfl rfl (by simp [held, hqe]) rfl (fun _ => hqe)
      · exact inv_active_move hi hd rfl rfl rfl rfl rfl rfl rfl rfl (by simp [held, hqe]) hr (fun h' => by simp [hr] at h')
    · cases h
  case callHandler i =>
    split at h
    · rename_i e hd
      cases h
      exact inv_active_move hi hd rfl rfl rfl rfl rfl rfl rfl rfl (by simp [held]) (active_running (s := s) hi hd rfl) hi.idle
    · cases h
  case handlerReturn i =>
    split at h
    · rename_i e hd
      cases h
      exact inv_active_move hi hd rfl rfl rfl rfl rfl rfl rfl rfl (by simp [held]) (active_running (s := s) hi hd rfl) hi.idle
    · cases h
  case drainDone i =>
    split at h
    · rename_i hd
      obtain ⟨pre, post, h1, h2⟩ := split_at _ i _ hd
      have hk3 := hi.k3
      have hk2 := hi.k2
      have hk4 := hi.k4
      rw [h1, held_split] at hk3
      rw [h1, activeCount_split] at hk2
      rw [h1, liveCount_split] at hk4
      cases h
      constructor
      · simp [h2, held_split, held] at hk3 ⊢; exact hk3
      · simp [h2, activeCount_split, DPc.isActive] at hk2 ⊢; exact hk2
      · simp [h2, liveCount_split, DPc.isLive] at hk4 ⊢; omega
      · exact hi.idle
      · exact hi.closers
      · intro hg; have hg' := hi.graceful hg; exact ⟨hg'.1, by have := hg'.2; show s.wg - 1 = 0; omega⟩
    · cases h
  case closeBody j =>
    split at h <;> cases h
    exact ⟨hi.k3, hi.k2, hi.k4, hi.idle, fun _ _ _ => rfl, fun hg => ⟨rfl, (hi.graceful hg).2⟩⟩
  case closeWait j =>
    split at h
    · rename_i hd
      split at h <;> cases h
      rename_i hw
      have hcl : s.closed = true := hi.closers _ (List.mem_of_getElem? hd) (Or.inl rfl)
      exact ⟨hi.k3, hi.k2, hi.k4, hi.idle, fun _ _ _ => hcl, fun _ => ⟨hcl, hw⟩⟩
    · cases h

theorem isRun : IsRun step run := ⟨fun _ => rfl, fun s a _ => by rw [run]; cases step s a <;> rfl⟩

theorem inv_run {s s' : State} (as : List Action) (hi : Inv s) (h : run s as = some s') : Inv s' :=
  (isRun.exec h).inv (fun hi hs => inv_step _ hi hs) hi

theorem inv_reachable {s : State} (h : Reachable s) : Inv s := by
  obtain ⟨as, h⟩ := h
  exact inv_run as inv_init h

end IceProofs.Notifier

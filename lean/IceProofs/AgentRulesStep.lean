import IceProofs.AgentRulesHandlers
/-!
# Case rules for `ensurePair`, the controlling selector's request handler, `contactCandidates`, `pingAll`, the write path and the events of `step`

Same idea as `IceProofs.AgentRules`: the larger functions are cut into stages (equal to the model text by `rfl`), and one
rule per stage lists its ways out with the postcondition `Q` a variable; the events of `step` and the write path have
one rule each, read off the model text directly.  A frame relation, an invariant, … is proved for
the function by proving it for every outcome, from the lemmas about the sub-helpers.
-/
namespace IceProofs.C03
open IceModel.AgentCore

/-- one iteration of `pingAllCandidates` (the body of the fold in `Agent.pingAll`, verbatim) -/
def pingStep (now : Nat) (acc : Agent × List Out) (id : Nat) : Agent × List Out :=
    let (a, o) := acc
    match a.pairById id with
    | none => (a, o)
    | some p =>
      let p' : Pair := { p with state := .inProgress }
      let (a, p, go) : Agent × Pair × Bool :=
        if p.state == .waiting then (a.modPair id fun q => { q with state := .inProgress }, p', true)
        else (a, p, p.state == .inProgress)
      if !go then (a, o)
      else if p.reqCount > a.cfg.maxBindingRequests then
        (a.modPair id fun p => { p with state := .failed }, o)
      else
        match a.localOf p.l, a.remoteOf p.r with
        | some l, some r =>
          let (a, o') := a.ping now l r
          (a.modPair id fun p => { p with reqCount := p.reqCount + 1 }, o ++ o')
        | _, _ => (a, o)

theorem pingAll_eq (a : Agent) (now : Nat) :
    a.pingAll now = (a.checklist.map (·.id)).foldl (pingStep now) (a, []) := rfl

end IceProofs.C03

namespace IceProofs.Agent
open IceModel.AgentCore

theorem ensurePair_rule {Q : Agent × Pair → Prop} (a : Agent) (l r : Cand)
    (found : ∀ p, a.findPair l r = some p → Q (a, p))
    (added : a.findPair l r = none → Q (a.addPair l r)) : Q (ensurePair a l r) := by
  unfold ensurePair
  split
  · rename_i p h; exact found p h
  · rename_i h; exact added h

/-- what the controlling selector does after counting a request on a known pair `p`: nominate it when it is valid,
nothing is nominated or selected yet, and it is the best available pair of nominatable candidates -/
def ctlTail (a : Agent) (now : Nat) (l r : Cand) (p : Pair) (o : List Out) : Agent × List Out :=
  if p.state == .succeeded && a.nominatedPair.isNone && a.selected.isNone then
    match a.bestAvailable with
    | none => (a, o)
    | some b =>
      let same := match a.localOf b.l, a.remoteOf b.r with
        | some bl, some br => bl.equal l && br.equal r
        | _, _ => false
      if same && a.nominatable now l && a.nominatable now r then
        let a := { a with nominatedPair := some p.id }
        let (a, o') := a.nominate now p
        (a, o ++ o')
      else (a, o)
  else (a, o)

theorem ctlHandleRequest_stages (a : Agent) (now : Nat) (m : Msg) (l r : Cand) :
    a.ctlHandleRequest now m l r =
      match (a.sendSuccess now m l r).1.findPair l r with
      | none =>
        (((a.sendSuccess now m l r).1.addPair l r).1.modPair ((a.sendSuccess now m l r).1.addPair l r).2.id (countReq m),
          (a.sendSuccess now m l r).2)
      | some p => ctlTail ((a.sendSuccess now m l r).1.modPair p.id (countReq m)) now l r p (a.sendSuccess now m l r).2 :=
  rfl

theorem ctlTail_rule {Q : Agent × List Out → Prop} (a : Agent) (now : Nat) (l r : Cand) (p : Pair) (o : List Out)
    (skip : Q (a, o))
    (nominate : p.state = .succeeded → a.nominatedPair = none → a.selected = none →
      Q ((({ a with nominatedPair := some p.id }).nominate now p).1,
         o ++ (({ a with nominatedPair := some p.id }).nominate now p).2)) :
    Q (ctlTail a now l r p o) := by
  unfold ctlTail
  split
  · rename_i h
    simp only [Bool.and_eq_true, Option.isNone_iff_eq_none] at h
    split
    · exact skip
    · extract_lets same
      split
      · exact nominate (by simpa using h.1.1) h.1.2 h.2
      · exact skip
  · exact skip

theorem ctlHandleRequest_rule {Q : Agent × List Out → Prop} (a : Agent) (now : Nat) (m : Msg) (l r : Cand)
    (fresh : (a.sendSuccess now m l r).1.findPair l r = none →
      Q (((a.sendSuccess now m l r).1.addPair l r).1.modPair ((a.sendSuccess now m l r).1.addPair l r).2.id (countReq m),
         (a.sendSuccess now m l r).2))
    (known : ∀ p, (a.sendSuccess now m l r).1.findPair l r = some p →
      Q (ctlTail ((a.sendSuccess now m l r).1.modPair p.id (countReq m)) now l r p (a.sendSuccess now m l r).2)) :
    Q (a.ctlHandleRequest now m l r) := by
  rw [ctlHandleRequest_stages]
  split
  · rename_i h; exact fresh h
  · rename_i p h; exact known p h

/-- `validateSelectedPair`, then — a pair being selected — `checkKeepalive` and, for the controlling selector
(`auto`), the automatic renomination -/
def validateKeepalive (a : Agent) (now : Nat) (auto : Bool) : Agent × List Out :=
  if (a.validateSelected now).2.2 then
    if auto then
      ((((a.validateSelected now).1.keepalive now).1.autoRenom now).1,
        (a.validateSelected now).2.1 ++ ((a.validateSelected now).1.keepalive now).2 ++
          (((a.validateSelected now).1.keepalive now).1.autoRenom now).2)
    else (((a.validateSelected now).1.keepalive now).1,
        (a.validateSelected now).2.1 ++ ((a.validateSelected now).1.keepalive now).2)
  else ((a.validateSelected now).1, (a.validateSelected now).2.1)

theorem contactCandidates_stages (a : Agent) (now : Nat) :
    a.contactCandidates now =
      if a.controlling then
        if a.selected.isSome then validateKeepalive a now true
        else match a.nominatedPair.bind a.pairById with
        | some p => a.nominate now p
        | none =>
          match a.nominatedPair with
          | some _ => (a, [])
          | none =>
          match a.bestValid with
          | some p =>
            match a.localOf p.l, a.remoteOf p.r with
            | some l, some r =>
              if a.nominatable now l && a.nominatable now r then
                ({ a.modPair p.id fun p => { p with nominated := true } with nominatedPair := some p.id }).nominate now p
              else a.pingAll now
            | _, _ => a.pingAll now
          | none => a.pingAll now
      else if a.cfg.lite then ((a.validateSelected now).1, (a.validateSelected now).2.1)
      else if a.selected.isSome then validateKeepalive a now false
      else a.pingAll now := by
  unfold Agent.contactCandidates validateKeepalive
  rfl

theorem contactCandidates_why {Q : Agent × List Out → Prop} (a : Agent) (now : Nat)
    (selected : ∀ auto, a.controlling = auto → a.selected.isSome = true → Q (validateKeepalive a now auto))
    (renominate : ∀ p, a.controlling = true → a.selected.isSome = false →
      a.nominatedPair.bind a.pairById = some p → Q (a.nominate now p))
    (idle : Q (a, []))
    (nominate : ∀ p l r, a.controlling = true → a.selected.isSome = false → a.nominatedPair = none →
      a.bestValid = some p → a.localOf p.l = some l → a.remoteOf p.r = some r →
      (a.nominatable now l && a.nominatable now r) = true →
      Q (({ a.modPair p.id fun p => { p with nominated := true } with nominatedPair := some p.id }).nominate now p))
    (pingAll : a.selected.isSome = false → Q (a.pingAll now))
    (lite : a.controlling = false → Q ((a.validateSelected now).1, (a.validateSelected now).2.1)) :
    Q (a.contactCandidates now) := by
  rw [contactCandidates_stages]
  split
  · rename_i hc
    split
    · rename_i h; exact selected true hc h
    · rename_i hs
      replace hs : a.selected.isSome = false := by simpa using hs
      split
      · rename_i p h; exact renominate p hc hs h
      · split
        · exact idle
        · rename_i hn
          split
          · rename_i p h
            split
            · rename_i l r hl hr
              split
              · rename_i hnom; exact nominate p l r hc hs hn h hl hr hnom
              · exact pingAll hs
            · exact pingAll hs
          · exact pingAll hs
  · rename_i hc
    replace hc : a.controlling = false := by simpa using hc
    split
    · exact lite hc
    · split
      · rename_i h; exact selected false hc h
      · rename_i hs; exact pingAll (by simpa using hs)

theorem contactCandidates_rule {Q : Agent × List Out → Prop} (a : Agent) (now : Nat)
    (selected : ∀ auto, a.controlling = auto → a.selected.isSome = true → Q (validateKeepalive a now auto))
    (renominate : ∀ p, a.controlling = true → a.selected.isSome = false →
      a.nominatedPair.bind a.pairById = some p → Q (a.nominate now p))
    (idle : Q (a, []))
    (nominate : ∀ p l r, a.controlling = true → a.selected.isSome = false → a.nominatedPair = none →
      a.bestValid = some p → a.localOf p.l = some l → a.remoteOf p.r = some r →
      Q (({ a.modPair p.id fun p => { p with nominated := true } with nominatedPair := some p.id }).nominate now p))
    (pingAll : a.selected.isSome = false → Q (a.pingAll now))
    (lite : a.controlling = false → Q ((a.validateSelected now).1, (a.validateSelected now).2.1)) :
    Q (a.contactCandidates now) :=
  contactCandidates_why a now selected renominate idle (fun p l r h1 h2 h3 h4 h5 h6 _ => nominate p l r h1 h2 h3 h4 h5 h6)
    pingAll lite

theorem validateKeepalive_rule {Q : Agent × List Out → Prop} (a : Agent) (now : Nat) (auto : Bool)
    (none : Q ((a.validateSelected now).1, (a.validateSelected now).2.1))
    (alive : auto = false → Q (((a.validateSelected now).1.keepalive now).1,
        (a.validateSelected now).2.1 ++ ((a.validateSelected now).1.keepalive now).2))
    (renom : auto = true → Q ((((a.validateSelected now).1.keepalive now).1.autoRenom now).1,
        (a.validateSelected now).2.1 ++ ((a.validateSelected now).1.keepalive now).2 ++
          (((a.validateSelected now).1.keepalive now).1.autoRenom now).2)) :
    Q (validateKeepalive a now auto) := by
  unfold validateKeepalive
  split
  · split
    · rename_i h; exact renom h
    · rename_i h; exact alive (by simpa using h)
  · exact none

theorem pingFold_steps {P : Agent × List Out → Prop} (now : Nat) (ids : List Nat) (x : Agent × List Out) (h : P x)
    (mark : ∀ b o id p, id ∈ ids → P (b, o) → b.pairById id = some p → p.state = .waiting →
      P (b.modPair id fun q => { q with state := .inProgress }, o))
    (fail : ∀ b o id p, id ∈ ids → P (b, o) → b.pairById id = some p → p.state = .inProgress →
      p.reqCount > b.cfg.maxBindingRequests → P (b.modPair id fun p => { p with state := .failed }, o))
    (ping : ∀ b o id p l r, id ∈ ids → P (b, o) → b.pairById id = some p → p.state = .inProgress →
      p.reqCount ≤ b.cfg.maxBindingRequests → b.localOf p.l = some l → b.remoteOf p.r = some r →
      P ((b.ping now l r).1.modPair id fun p => { p with reqCount := p.reqCount + 1 }, o ++ (b.ping now l r).2)) :
    P (ids.foldl (C03.pingStep now) x) := by
  induction ids generalizing x with
  | nil => exact h
  | cons id rest ih =>
    refine ih _ ?_ (fun b o i p hi => mark b o i p (List.mem_cons_of_mem _ hi))
      (fun b o i p hi => fail b o i p (List.mem_cons_of_mem _ hi))
      (fun b o i p l r hi => ping b o i p l r (List.mem_cons_of_mem _ hi))
    have hid : id ∈ id :: rest := List.mem_cons_self
    obtain ⟨b, o⟩ := x
    unfold C03.pingStep
    dsimp only
    split
    · exact h
    · rename_i p hp
      split
      · rename_i hw
        have h1 := mark b o id p hid h hp (by simpa using hw)
        have hp1 := modPair_pairById_self (fun q => { q with state := .inProgress }) (fun _ => rfl) hp
        dsimp only
        split
        · exact h1
        · split
          · rename_i hc; exact fail _ o id _ hid h1 hp1 rfl hc
          · rename_i hc
            split
            · rename_i l r hl hr; exact ping _ o id _ l r hid h1 hp1 rfl (Nat.le_of_not_gt hc) hl hr
            · exact h1
      · dsimp only
        split
        · exact h
        · rename_i hg
          have hs : p.state = .inProgress := by simpa using hg
          split
          · rename_i hc; exact fail b o id p hid h hp hs hc
          · rename_i hc
            split
            · rename_i l r hl hr; exact ping b o id p l r hid h hp hs (Nat.le_of_not_gt hc) hl hr
            · exact h

theorem pingAll_steps {P : Agent × List Out → Prop} (a : Agent) (now : Nat) (h : P (a, []))
    (mark : ∀ b o id p, P (b, o) → b.pairById id = some p → p.state = .waiting →
      P (b.modPair id fun q => { q with state := .inProgress }, o))
    (fail : ∀ b o id p, P (b, o) → b.pairById id = some p → p.state = .inProgress →
      p.reqCount > b.cfg.maxBindingRequests → P (b.modPair id fun p => { p with state := .failed }, o))
    (ping : ∀ b o id p l r, P (b, o) → b.pairById id = some p → p.state = .inProgress →
      p.reqCount ≤ b.cfg.maxBindingRequests → b.localOf p.l = some l → b.remoteOf p.r = some r →
      P ((b.ping now l r).1.modPair id fun p => { p with reqCount := p.reqCount + 1 }, o ++ (b.ping now l r).2)) :
    P (a.pingAll now) :=
  pingFold_steps now _ (a, []) h (fun b o id p _ => mark b o id p) (fun b o id p _ => fail b o id p)
    (fun b o id p l r _ => ping b o id p l r)

theorem pingAll_closed {P : Agent × List Out → Prop} (a : Agent) (now : Nat) (h : P (a, []))
    (mark : ∀ b o id, P (b, o) → P (b.modPair id fun q => { q with state := .inProgress }, o))
    (fail : ∀ b o id, P (b, o) → P (b.modPair id fun p => { p with state := .failed }, o))
    (ping : ∀ b o id l r, P (b, o) →
      P ((b.ping now l r).1.modPair id fun p => { p with reqCount := p.reqCount + 1 }, o ++ (b.ping now l r).2)) :
    P (a.pingAll now) :=
  pingAll_steps a now h (fun b o id _ h _ _ => mark b o id h) (fun b o id _ h _ _ _ => fail b o id h)
    fun b o id _ l r h _ _ _ _ _ => ping b o id l r h

/-- a forced connectivity-check tick, if one is pending, ends the handling of the event -/
def thenForced (x : Agent × List Out) (now : Nat) : Agent × List Out :=
  ((x.1.runForced now).1, x.2 ++ (x.1.runForced now).2)

/-- `Agent.startConnectivityChecks` on an agent that may start: role and remote credentials, a fresh selector,
Checking, and a tick requested -/
def startCore (a : Agent) (now : Nat) (ctl : Bool) (ru rp : String) : Agent × List Out :=
  ({ (((({ a with controlling := ctl, remoteUfrag := ru, remotePwd := rp, started := true } : Agent).resetSelector
        now).setConnState .checking).1.requestCheck) with
      lastSeen := .unknown, checkingStart := 0,
      checkingTimeout := ((({ a with controlling := ctl, remoteUfrag := ru, remotePwd := rp, started := true } :
        Agent).resetSelector now).setConnState .checking).1.initialCheckingTimeout },
   ((({ a with controlling := ctl, remoteUfrag := ru, remotePwd := rp, started := true } : Agent).resetSelector
        now).setConnState .checking).2 ++ [.res "ok"])

theorem step_addLocal (a : Agent) (now : Nat) (c : Cand) :
    step a (.addLocal now c) = thenForced (a.addLocalCandidate c) now := by
  rw [step, thenForced]

theorem step_advance (a : Agent) (now : Nat) : step a (.advance now) = a.runTimers now 100000 := by
  rw [step]

theorem step_write (a : Agent) (now len : Nat) (s : Bool) : step a (.write now len s) = a.write now len s := by
  rw [step]

theorem step_writeToPair (a : Agent) (now id len : Nat) (s : Bool) :
    step a (.writeToPair now id len s) = a.writeToPair now id len s := by
  rw [step]

theorem step_inbound_proj (a : Agent) (now la src : Nat) (m : Msg) :
    step a (.inbound now la src m) =
    if a.closed || !a.started then (a, []) else
    match a.localByAddr la with
    | none => (a, [])
    | some l => (((a.handleInbound now l src m).1.runForced now).1,
        (a.handleInbound now l src m).2 ++ ((a.handleInbound now l src m).1.runForced now).2) := by
  simp only [step]
  rfl

/-- In the rules below `err` stands for every way out that leaves the agent as it is and reports an error (or, for
`close` on a closed agent, "ok"), `idle` for those that report nothing. -/
theorem step_addRemote_rule {Q : Agent × List Out → Prop} (a : Agent) (now : Nat) (c : Cand)
    (err : ∀ s, Q (a, [.res s])) (idle : Q (a, []))
    (add : a.closed = false → c.tt ≠ 1 →
      Q (thenForced ((a.addRemoteCandidate c).1, (a.addRemoteCandidate c).2.1) now)) :
    Q (step a (.addRemote now c)) := by
  rw [step]
  dsimp only
  split
  · exact err _
  · rename_i hc
    split
    · exact idle
    · rename_i ht
      exact add (by simpa using hc) (by simpa using ht)

theorem step_start_rule {Q : Agent × List Out → Prop} (a : Agent) (now : Nat) (ctl : Bool) (ru rp : String)
    (err : ∀ s, Q (a, [.res s]))
    (go : a.closed = false → a.started = false → Q (thenForced (startCore a now ctl ru rp) now)) :
    Q (step a (.start now ctl ru rp)) := by
  rw [step]
  dsimp only
  split
  · exact err _
  · rename_i hc
    split
    · exact err _
    · rename_i hs
      split
      · exact err _
      · split
        · exact err _
        · exact go (by simpa using hc) (by simpa using hs)

theorem step_setRemoteCreds_rule {Q : Agent × List Out → Prop} (a : Agent) (ru rp : String)
    (err : ∀ s, Q (a, [.res s]))
    (set : a.closed = false → Q ({ a with remoteUfrag := ru, remotePwd := rp }, [.res "ok"])) :
    Q (step a (.setRemoteCreds ru rp)) := by
  rw [step]
  split
  · exact err _
  · split
    · exact err _
    · split
      · exact err _
      · rename_i hc; exact set (by simpa using hc)

theorem step_inbound_rule {Q : Agent × List Out → Prop} (a : Agent) (now la src : Nat) (m : Msg)
    (idle : Q (a, []))
    (go : a.closed = false → a.started = true → ∀ l, a.localByAddr la = some l →
      Q (thenForced (a.handleInbound now l src m) now)) :
    Q (step a (.inbound now la src m)) := by
  rw [step]
  dsimp only
  split
  · exact idle
  · rename_i h
    simp only [Bool.or_eq_true, Bool.not_eq_eq_eq_not, Bool.not_true, not_or, Bool.not_eq_true,
      Bool.not_eq_false] at h
    split
    · exact idle
    · rename_i l hl; exact go h.1 h.2 l hl

theorem step_inboundData_rule {Q : Agent × List Out → Prop} (a : Agent) (now la src len : Nat) (stunLike : Bool)
    (idle : Q (a, []))
    (go : a.closed = false → a.started = true → stunLike = false → ∀ l, a.localByAddr la = some l →
      Q (a.inboundData now l src len)) :
    Q (step a (.inboundData now la src len stunLike)) := by
  rw [step]
  split
  · exact idle
  · rename_i h
    simp only [Bool.or_eq_true, Bool.not_eq_eq_eq_not, Bool.not_true, not_or, Bool.not_eq_true,
      Bool.not_eq_false] at h
    split
    · exact idle
    · rename_i l hl; exact go h.1.1 h.1.2 h.2 l hl

theorem step_read_rule {Q : Agent × List Out → Prop} (a : Agent) (cap : Nat)
    (err : ∀ s, Q (a, [.res s]))
    (read : ∀ n rest, a.closed = false → a.rx = n :: rest →
      Q ({ a with rx := rest, connBytesRecv := a.connBytesRecv + min n cap },
         [.res (if cap < n then s!"short:{cap}" else s!"read:{n}")])) :
    Q (step a (.read cap)) := by
  rw [step]
  split
  · exact err _
  · rename_i hc
    split
    · exact err _
    · rename_i n rest h; exact read n rest (by simpa using hc) h

theorem step_renominate_rule {Q : Agent × List Out → Prop} (a : Agent) (now la ri value : Nat)
    (err : ∀ s, Q (a, [.res s]))
    (issue : a.controlling = true → a.cfg.enableRenomination = true → ∀ l r p, a.localByAddr la = some l →
      a.remotes[ri]? = some r → a.findPair l r = some p →
      Q ({ (a.sendRequest now l r true (if value > 0 then some value else none)).1 with
            nomIssued := (a.sendRequest now l r true (if value > 0 then some value else none)).1.nomIssued ++
              [(value, l.addr, r.addr)] },
         (a.sendRequest now l r true (if value > 0 then some value else none)).2 ++ [.res "ok"])) :
    Q (step a (.renominate now la ri value)) := by
  rw [step]
  dsimp only
  split
  · exact err _
  · rename_i hc
    split
    · exact err _
    · rename_i he
      split
      · rename_i l r hl hr
        split
        · exact err _
        · rename_i p hp; exact issue (by simpa using hc) (by simpa using he) l r p hl hr hp
      · exact err _

theorem step_restart_rule {Q : Agent × List Out → Prop} (a : Agent) (now : Nat) (u p : String)
    (err : ∀ s, Q (a, [.res s]))
    (restart : a.closed = false → Q ((a.doRestart now u p).1, (a.doRestart now u p).2 ++ [.res "ok"])) :
    Q (step a (.restart now u p)) := by
  rw [step]
  dsimp only
  split
  · exact err _
  · rename_i hc; exact restart (by simpa using hc)

theorem step_close_rule {Q : Agent × List Out → Prop} (a : Agent)
    (err : ∀ s, Q (a, [.res s]))
    (close : a.closed = false →
      Q ((({ a with locals := [], remotes := [], caches := [], closed := true } : Agent).setConnState .closed).1,
         (({ a with locals := [], remotes := [], caches := [], closed := true } : Agent).setConnState .closed).2 ++
           [.res "ok"])) :
    Q (step a .close) := by
  rw [step]
  dsimp only
  split
  · exact err _
  · rename_i hc; exact close (by simpa using hc)

theorem write_rule {Q : Agent × List Out → Prop} (a : Agent) (now len : Nat) (stunLike : Bool)
    (err : ∀ s, Q (a, [.res s]))
    (via : ∀ p, a.closed = false → stunLike = false →
      (a.selected.bind a.pairById).orElse (fun _ => a.bestValid) = some p →
      Q ({ (a.writeVia now p len).1 with connBytesSent := (a.writeVia now p len).1.connBytesSent + len },
         (a.writeVia now p len).2)) :
    Q (a.write now len stunLike) := by
  unfold Agent.write
  split
  · exact err _
  · rename_i hc
    split
    · exact err _
    · rename_i hs
      split
      · exact err _
      · rename_i p hp; exact via p (by simpa using hc) (by simpa using hs) hp

theorem writeToPair_rule {Q : Agent × List Out → Prop} (a : Agent) (now id len : Nat) (stunLike : Bool)
    (err : ∀ s, Q (a, [.res s]))
    (via : ∀ p, a.closed = false → stunLike = false → a.pairById id = some p → p.state = .succeeded →
      Q (a.writeVia now p len)) :
    Q (a.writeToPair now id len stunLike) := by
  unfold Agent.writeToPair
  split
  · exact err _
  · rename_i hc
    split
    · exact err _
    · rename_i hs
      split
      · exact err _
      · rename_i p hp
        split
        · exact err _
        · rename_i hst; exact via p (by simpa using hc) (by simpa using hs) hp (by simpa using hst)

end IceProofs.Agent

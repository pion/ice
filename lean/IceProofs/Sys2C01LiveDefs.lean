import IceProofs.AgentC03Step
import IceProofs.AgentC03OwnFrame
import IceProofs.AgentC05
/-!
# C01 liveness — vocabulary of the per-agent frame

`LK T0 now ex a a'` ("live keep"): what every helper of `step` leaves alone on the paths a loss-free suffix
can take (no API call, no role switch, no timeout): candidates keep their identity (only activity timestamps
move), remote candidates and pairs are only appended, a pair keeps its ends, validity and the deferred
nomination mark (the mark is consumed only by the response that acts upon it — then, under `LInv`, a pair is
selected), the selection stays, the nominated pair stays, a pending transaction stays until it is
answered (`ex`) or expires (`now`), and the bookkeeping invariant `LInv` is kept.
-/
namespace IceProofs.C01Live
open IceModel.AgentCore

/-- every position of `l` is still present in `l'` and related (`l'` = pointwise image of `l` ++ new elements) -/
def IdxKeep {α : Type} (R : α → α → Prop) (l l' : List α) : Prop :=
  ∀ (i : Nat) (x : α), l[i]? = some x → ∃ x', l'[i]? = some x' ∧ R x x'

theorem IdxKeep.refl {α : Type} {R : α → α → Prop} (hR : ∀ x, R x x) (l : List α) : IdxKeep R l l :=
  fun _ x h => ⟨x, h, hR x⟩

theorem IdxKeep.trans2 {α : Type} {R1 R2 R3 : α → α → Prop} (hR : ∀ x y z, R1 x y → R2 y z → R3 x z) {l1 l2 l3 : List α}
    (h1 : IdxKeep R1 l1 l2) (h2 : IdxKeep R2 l2 l3) : IdxKeep R3 l1 l3 := by
  intro i x hx
  obtain ⟨y, hy, r1⟩ := h1 i x hx
  obtain ⟨z, hz, r2⟩ := h2 i y hy
  exact ⟨z, hz, hR _ _ _ r1 r2⟩

theorem IdxKeep.trans {α : Type} {R : α → α → Prop} (hR : ∀ x y z, R x y → R y z → R x z) {l1 l2 l3 : List α}
    (h1 : IdxKeep R l1 l2) (h2 : IdxKeep R l2 l3) : IdxKeep R l1 l3 := IdxKeep.trans2 hR h1 h2

theorem IdxKeep.mono {α : Type} {R R' : α → α → Prop} (hR : ∀ x y, R x y → R' x y) {l l' : List α}
    (h : IdxKeep R l l') : IdxKeep R' l l' := by
  intro i x hx
  obtain ⟨y, hy, r⟩ := h i x hx
  exact ⟨y, hy, hR _ _ r⟩

theorem IdxKeep.map {α : Type} {R : α → α → Prop} (f : α → α) (l : List α) (hf : ∀ x ∈ l, R x (f x)) :
    IdxKeep R l (l.map f) := by
  intro i x hx
  refine ⟨f x, by simp [hx], hf x (List.mem_of_getElem? hx)⟩

theorem IdxKeep.append {α : Type} {R : α → α → Prop} (hR : ∀ x, R x x) (l e : List α) : IdxKeep R l (l ++ e) := by
  intro i x hx
  refine ⟨x, ?_, hR x⟩
  have hi : i < l.length := by
    rcases Nat.lt_or_ge i l.length with h | h
    · exact h
    · rw [List.getElem?_eq_none h] at hx; cases hx
  rw [List.getElem?_append_left hi]; exact hx

theorem IdxKeep.tail {α : Type} {R : α → α → Prop} {x y : α} {l l' : List α} (h : IdxKeep R (x :: l) (y :: l')) :
    IdxKeep R l l' := by
  intro i z hz
  have := h (i + 1) z (by simpa using hz)
  simpa using this

theorem IdxKeep.cons_inv {α : Type} {R : α → α → Prop} {x : α} {l l' : List α} (h : IdxKeep R (x :: l) l') :
    ∃ y t, l' = y :: t ∧ R x y ∧ IdxKeep R l t := by
  obtain ⟨y, hy, r⟩ := h 0 x (by simp)
  cases l' with
  | nil => simp at hy
  | cons y' t =>
    simp at hy
    subst hy
    exact ⟨y', t, rfl, r, h.tail⟩

theorem IdxKeep.mem {α : Type} {R : α → α → Prop} {l l' : List α} (h : IdxKeep R l l') {x : α} (hx : x ∈ l) :
    ∃ x' ∈ l', R x x' := by
  obtain ⟨i, hi⟩ := List.getElem?_of_mem hx
  obtain ⟨x', hx', r⟩ := h i x hi
  exact ⟨x', List.mem_of_getElem? hx', r⟩

theorem IdxKeep.find? {α : Type} {R : α → α → Prop} {l l' : List α} (h : IdxKeep R l l') (P P' : α → Bool)
    (hP : ∀ x x', R x x' → P' x' = P x) {x : α} (hx : l.find? P = some x) :
    ∃ x', l'.find? P' = some x' ∧ R x x' := by
  induction l generalizing l' with
  | nil => simp at hx
  | cons y ys ih =>
    obtain ⟨y', t, rfl, r, ht⟩ := h.cons_inv
    rw [List.find?_cons] at hx
    rw [List.find?_cons]
    cases hy : P y with
    | true =>
      rw [hy] at hx
      simp at hx
      subst hx
      rw [hP _ _ r, hy]
      exact ⟨y', rfl, r⟩
    | false =>
      rw [hy] at hx
      rw [hP _ _ r, hy]
      exact ih ht hx

/-- a candidate without its activity timestamps -/
def ckey (c : Cand) : Cand := { c with lastRecv := none, lastSent := none }

/-- same candidate; the last-received time is unchanged or was refreshed at a time `≥ T0` -/
structure CKeep (T0 : Nat) (c c' : Cand) : Prop where
  key : ckey c' = ckey c
  recv : c'.lastRecv = c.lastRecv ∨ ∃ t, T0 ≤ t ∧ c'.lastRecv = some t

theorem CKeep.refl (T0 : Nat) (c : Cand) : CKeep T0 c c := ⟨rfl, Or.inl rfl⟩

theorem CKeep.trans {T0 : Nat} {a b c : Cand} (h1 : CKeep T0 a b) (h2 : CKeep T0 b c) : CKeep T0 a c := by
  refine ⟨h2.key.trans h1.key, ?_⟩
  rcases h2.recv with e | e
  · rw [e]; exact h1.recv
  · exact Or.inr e

theorem mem_of_map_ckey {cs cs' : List Cand} {c : Cand} (h : c ∈ cs) (he : cs.map ckey = cs'.map ckey) :
    ∃ d ∈ cs', ckey c = ckey d := by
  have : ckey c ∈ cs'.map ckey := he ▸ List.mem_map_of_mem h
  obtain ⟨d, hd, e⟩ := List.mem_map.mp this
  exact ⟨d, hd, e.symm⟩

theorem ckey_uid {c c' : Cand} (h : ckey c' = ckey c) : c'.uid = c.uid :=
  show (ckey c').uid = (ckey c).uid from congrArg Cand.uid h
theorem ckey_addr {c c' : Cand} (h : ckey c' = ckey c) : c'.addr = c.addr :=
  show (ckey c').addr = (ckey c).addr from congrArg Cand.addr h
theorem ckey_net {c c' : Cand} (h : ckey c' = ckey c) : c'.net = c.net :=
  show (ckey c').net = (ckey c).net from congrArg Cand.net h
theorem ckey_ty {c c' : Cand} (h : ckey c' = ckey c) : c'.ty = c.ty :=
  show (ckey c').ty = (ckey c).ty from congrArg Cand.ty h
theorem ckey_rel {c c' : Cand} (h : ckey c' = ckey c) : c'.rel = c.rel :=
  show (ckey c').rel = (ckey c).rel from congrArg Cand.rel h
theorem ckey_prio {c c' : Cand} (h : ckey c' = ckey c) : c'.prio = c.prio :=
  show (ckey c').prio = (ckey c).prio from congrArg Cand.prio h

theorem ckey_equal {c c' d d' : Cand} (hc : ckey c' = ckey c) (hd : ckey d' = ckey d) : c'.equal d' = c.equal d := by
  have t1 : c'.tt = c.tt := show (ckey c').tt = (ckey c).tt from congrArg Cand.tt hc
  have t2 : d'.tt = d.tt := show (ckey d').tt = (ckey d).tt from congrArg Cand.tt hd
  simp only [Cand.equal, Cand.taEqual, ckey_net hc, ckey_net hd, ckey_addr hc, ckey_addr hd, ckey_ty hc, ckey_ty hd,
    ckey_rel hc, ckey_rel hd, t1, t2, Cand.udpResolved]

/-- a pair keeps its identity, its ends, its validity and the deferred-nomination mark — the mark is consumed only
by the success response that acts upon it (`S`: the agent has a selected pair afterwards) -/
structure PKeep (S : Prop) (p p' : Pair) : Prop where
  id : p'.id = p.id
  l : p'.l = p.l
  r : p'.r = p.r
  succ : p.state = .succeeded → p'.state = .succeeded
  nomOn : p.nomOnSuccess = true → p'.nomOnSuccess = true ∨ S

theorem PKeep.refl {S : Prop} (p : Pair) : PKeep S p p := ⟨rfl, rfl, rfl, fun h => h, fun h => Or.inl h⟩
theorem PKeep.trans {S1 S2 S3 : Prop} {p q r : Pair} (h1 : PKeep S1 p q) (h2 : PKeep S2 q r) (s1 : S1 → S3)
    (s2 : S2 → S3) : PKeep S3 p r :=
  ⟨h2.id.trans h1.id, h2.l.trans h1.l, h2.r.trans h1.r, fun h => h2.succ (h1.succ h), fun h =>
    (h1.nomOn h).elim (fun h' => (h2.nomOn h').imp (fun x => x) s2) (fun x => Or.inr (s1 x))⟩
theorem PKeep.mono {S S' : Prop} {p q : Pair} (h : PKeep S p q) (hs : S → S') : PKeep S' p q :=
  ⟨h.id, h.l, h.r, h.succ, fun x => (h.nomOn x).imp (fun y => y) hs⟩

/-- remote candidates: UDP4, a known type, pairwise distinct transport addresses -/
def CandsOK (l : List Cand) : Prop :=
  (∀ c ∈ l, c.net = 0 ∧ 1 ≤ c.ty ∧ c.ty ≤ 4) ∧ l.Pairwise (fun x y => x.addr ≠ y.addr)

def NoDefer (a : Agent) : Prop := ∀ p ∈ a.checklist, p.deferredNom = none

def SuccEnds (a : Agent) : Prop :=
  ∀ p ∈ a.checklist, p.state = .succeeded → (a.localOf p.l).isSome = true ∧ (a.remoteOf p.r).isSome = true

def NomOK (a : Agent) : Prop :=
  ∀ id, a.nominatedPair = some id → ∃ p ∈ a.checklist, p.id = id ∧ p.state = .succeeded

def PendOK (a : Agent) : Prop :=
  (∀ pd ∈ a.pending, pd.tid < 2 * a.nextTid + a.tag) ∧ a.pending.Pairwise (fun x y => x.tid ≠ y.tid)

def SelConn (a : Agent) : Prop := a.selected.isSome = true → a.connState = .connected

structure LInv (a : Agent) : Prop where
  ids : IceProofs.C03.IdsOK a
  remOK : CandsOK a.remotes
  noDefer : NoDefer a
  succEnds : SuccEnds a
  nomOK : NomOK a
  pendOK : PendOK a
  selConn : SelConn a

structure LK (T0 now : Nat) (ex : Option Nat) (a a' : Agent) : Prop where
  locals : a'.locals.map ckey = a.locals.map ckey
  remotes : IdxKeep (CKeep T0) a.remotes a'.remotes
  -- `PKeep`'s exception read on the two ends: a deferred-nomination mark is gone only if `a'` has a selected pair, and
  -- that only for an `a` under `LInv` (the handler that consumes the mark is walked under the invariant)
  pairs : IdxKeep (PKeep (LInv a → a'.selected.isSome = true)) a.checklist a'.checklist
  selStart : a'.selStart = a.selStart
  sel : a.selected.isSome = true → a'.selected.isSome = true
  conn : a.connState ≠ .failed → a'.connState ≠ .failed
  notCk : a.connState ≠ .checking → a'.connState ≠ .checking
  nom : ∀ id, a.nominatedPair = some id → a'.nominatedPair = some id
  pend : ∀ tid pd, a.pending.find? (·.tid == tid) = some pd → now - pd.ts < maxBindingRequestTimeout →
    some tid ≠ ex → a'.pending.find? (·.tid == tid) = some pd
  inv : LInv a → LInv a'

theorem LK.refl (T0 now : Nat) (ex : Option Nat) (a : Agent) : LK T0 now ex a a :=
  ⟨rfl, IdxKeep.refl (CKeep.refl T0) _, IdxKeep.refl PKeep.refl _, rfl, fun h => h, fun h => h, fun h => h, fun _ h => h, fun _ _ h _ _ => h, fun h => h⟩

theorem LK.trans {T0 now : Nat} {ex : Option Nat} {a b c : Agent} (h1 : LK T0 now ex a b) (h2 : LK T0 now ex b c) :
    LK T0 now ex a c :=
  ⟨h2.locals.trans h1.locals, IdxKeep.trans (R := CKeep T0) (fun _ _ _ x y => CKeep.trans x y) h1.remotes h2.remotes,
   -- each leg's exception names its own ends, so three relations: a selection of `b` lasts to `c`, `LInv a` gives `LInv b`
   IdxKeep.trans2 (R1 := PKeep (LInv a → b.selected.isSome = true)) (R2 := PKeep (LInv b → c.selected.isSome = true))
     (R3 := PKeep (LInv a → c.selected.isSome = true))
     (fun _ _ _ x y => PKeep.trans x y (fun f i => h2.sel (f i)) (fun f i => f (h1.inv i))) h1.pairs h2.pairs,
   h2.selStart.trans h1.selStart,
   fun h => h2.sel (h1.sel h), fun h => h2.conn (h1.conn h), fun h => h2.notCk (h1.notCk h),
   fun id h => h2.nom id (h1.nom id h),
   fun tid pd h hy hne => h2.pend tid pd (h1.pend tid pd h hy hne) hy hne, fun h => h2.inv (h1.inv h)⟩

theorem LK.weaken {T0 now : Nat} {ex : Option Nat} {a a' : Agent} (h : LK T0 now none a a') : LK T0 now ex a a' :=
  { h with pend := fun tid pd hf hy _ => h.pend tid pd hf hy (by simp) }

theorem LK.mono_now {T0 now now' : Nat} {ex : Option Nat} {a a' : Agent} (h : LK T0 now ex a a') (hn : now ≤ now') :
    LK T0 now' ex a a' :=
  { h with pend := fun tid pd hf hy hne => h.pend tid pd hf (by omega) hne }

/-- a silence of `d` ns trips neither the disconnected nor the failed timeout — and the agent is not configured to
renominate by itself (`WithAutomaticRenomination` together with `WithRenomination`): the liveness statements are about
ordinary ICE, in which a connected controlling agent sends keepalives on its selected pair only and never a nomination
value (with the automatic option the pair it ends on depends on the round-trip times of the schedule) -/
def QuietFor (cfg : Config) (d : Nat) : Prop :=
  (cfg.disconnectedTimeout = 0 ∨ d ≤ cfg.disconnectedTimeout) ∧
  (cfg.failedTimeout = 0 ∨ d ≤ cfg.failedTimeout + cfg.disconnectedTimeout) ∧
  (cfg.autoRenom && cfg.enableRenomination) = false

instance (cfg : Config) (d : Nat) : Decidable (QuietFor cfg d) := by unfold QuietFor; infer_instance

theorem QuietFor.mono {cfg : Config} {d d' : Nat} (h : QuietFor cfg d) (hd : d' ≤ d) : QuietFor cfg d' :=
  ⟨h.1.imp id (fun x => Nat.le_trans hd x), h.2.1.imp id (fun x => Nat.le_trans hd x), h.2.2⟩

/-- no timeout of the agent fires at a tick in `[T0, H]`: the checking deadline lies beyond `H`, and the remote
candidate of the selected pair was heard recently enough. -/
structure Timely (T0 H : Nat) (a : Agent) : Prop where
  ck : a.checkingTimeout = 0 ∨
    (H - T0 ≤ a.checkingTimeout ∧ (a.lastSeen = .checking → H ≤ a.checkingStart + a.checkingTimeout))
  span : QuietFor a.cfg (H - T0)
  sel : ∀ id, a.selected = some id → ∃ p r t, a.pairById id = some p ∧ a.remoteOf p.r = some r ∧
    r.lastRecv = some t ∧ QuietFor a.cfg (H - t)

/-- a started, open, full agent on which no timeout fires in `[T0, H]`. -/
structure Good (T0 H : Nat) (a : Agent) : Prop where
  full : a.cfg.lite = false
  started : a.started = true
  open_ : a.closed = false
  noForce : a.forcePending = false
  alive : a.connState ≠ .failed
  locOK : CandsOK a.locals
  linv : LInv a
  timely : Timely T0 H a
  tick : ∃ t, a.nextTick = some t ∧ T0 ≤ t

/-- no role conflict: a role attribute, if present, names the other role -/
def NoConflict (a : Agent) (m : Msg) : Prop := ∀ ctl tb, m.role = some (ctl, tb) → ctl ≠ a.controlling

instance (a : Agent) (m : Msg) : Decidable (NoConflict a m) := by
  unfold NoConflict
  cases h : m.role with
  | none => exact isTrue (by intro _ _ h'; cases h')
  | some x =>
    obtain ⟨c, t⟩ := x
    by_cases hc : c = a.controlling
    · exact isFalse (fun hh => hh c t rfl hc)
    · exact isTrue (by intro c' t' h'; cases h'; exact hc)

section
open IceProofs.Agent IceProofs.C03

theorem hsSel_cld_sel (b : Agent) (p : Pair) (pd : Pending) (hc : b.controlling = false) (hn : p.nomOnSuccess = true)
    (hd : p.deferredNom = none) : (hsSel b p pd).1.selected.isSome = true := by
  unfold hsSel
  simp only [hc, hn, hd, if_true, Bool.false_eq_true, if_false]
  split
  · rw [select_selected]; rfl
  · rename_i sp hsp
    have hsome : b.selected.isSome = true := by
      cases hs : b.selected with
      | none => rw [hs] at hsp; cases hsp
      | some x => rfl
    split
    · exact hsome
    · split
      · rw [select_selected]; rfl
      · exact hsome

theorem NoConflict.roleConflict {a : Agent} {m : Msg} (h : NoConflict a m) : roleConflict a m = none :=
  (roleConflict_eq_none a m).2 fun tb hr => h _ tb hr rfl

theorem NoConflict.of_ctl {a b : Agent} {m : Msg} (h : NoConflict a m) (hc : b.controlling = a.controlling) :
    NoConflict b m := by
  intro ctl tb hr
  rw [hc]
  exact h ctl tb hr

theorem afterResolve_noConflict (a : Agent) (now : Nat) (l : Cand) (m : Msg) (o0 : List Out) (r : Cand)
    (hnc : NoConflict a m) : afterResolve a now l m o0 r = toSelector a now l r m o0 :=
  afterResolve_rule (Q := fun x => x = toSelector a now l r m o0) a now l m o0 r
    (fun _ h _ => by cases hnc.roleConflict.symm.trans h) (fun _ h _ => by cases hnc.roleConflict.symm.trans h)
    (fun _ => rfl)

theorem toSelector_ctl (a : Agent) (now : Nat) (l r : Cand) (m : Msg) (o0 : List Out) (hc : a.controlling = true) :
    toSelector a now l r m o0 =
      ((a.ctlHandleRequest now m l r).1.seenRemoteRecv r.uid now, o0 ++ (a.ctlHandleRequest now m l r).2) := by
  unfold toSelector
  simp only [hc, if_true]

theorem toSelector_cld (a : Agent) (now : Nat) (l r : Cand) (m : Msg) (o0 : List Out) (hc : a.controlling = false) :
    toSelector a now l r m o0 =
      ((a.cldHandleRequest now m l r).1.seenRemoteRecv r.uid now, o0 ++ (a.cldHandleRequest now m l r).2) := by
  unfold toSelector
  simp only [hc, Bool.false_eq_true, if_false]

end

end IceProofs.C01Live

import IceModel.Gather
import IceProofs.GatherLedger
import IceProofs.GatherClosed
/-!
Invariants of the composed model `IceModel.Gather.step` (the agent between quiescent points), for all operation
sequences from a fresh agent (`runOps_good`): conservation, `opens = closes + (resources owned by candidates) +
(resources held by parked units)` — nothing is dropped without being counted as closed, nothing is counted twice;
and every parked unit's remaining program is `ok` from its current ledger (so it ends balanced on every continuation).
-/
namespace IceProofs.GatherAgent
open IceModel.Gather IceProofs.GatherLedger

def heldCount (j : Job) : Nat := j.slots.countP (fun p => p.2 == SlotSt.held)

theorem heldRes_length (j : Job) : j.heldRes.length = heldCount j := by
  simp [Job.heldRes, heldCount, List.countP_eq_length_filter]

def liveCount (s : MState) : Nat := (s.cands.map (·.res.length)).sum + (s.jobs.map heldCount).sum

theorem liveRes_length (s : MState) : s.liveRes.length = liveCount s := by
  simp only [MState.liveRes, liveCount, List.length_append, List.length_flatMap, heldRes_length]

/-- conservation with one unit `j` detached from the job list (it is being run) and `K` resources held
by further detached units -/
def ConsJ (K : Nat) (s : MState) (j : Job) : Prop := s.opens = s.closes + liveCount s + heldCount j + K

def ConsK (K : Nat) (s : MState) : Prop := s.opens = s.closes + liveCount s + K

def Cons (s : MState) : Prop := ConsK 0 s

theorem take_count (j : Job) (i : Nat) (to : SlotSt) (hto : to ≠ .held) :
    heldCount (j.take i to).1 + (j.take i to).2.length = heldCount j := by
  unfold Job.take
  cases h : j.slots[i]? with
  | none => simp [heldCount]
  | some p =>
    obtain ⟨r, st⟩ := p
    cases st with
    | held =>
      have hi : i < j.slots.length := (List.getElem?_eq_some_iff.1 h).1
      have hget : j.slots[i] = (r, SlotSt.held) := (List.getElem?_eq_some_iff.1 h).2
      have hpos : 0 < List.countP (fun p => p.2 == SlotSt.held) j.slots := by
        rw [List.countP_pos_iff]
        exact ⟨_, List.mem_of_getElem? h, by simp⟩
      have hto' : (to == SlotSt.held) = false := by
        cases to <;> simp_all
      simp only [heldCount, List.countP_set hi, hget, hto']
      simp
      omega
    | released => simp [heldCount]
    | owned c => simp [heldCount]
    | dupClosed => simp [heldCount]

theorem take_led (j : Job) (i : Nat) (to : SlotSt) : (j.take i to).1.led = j.led.set i to := by
  unfold Job.take Led.set Job.led
  cases h : j.slots[i]? with
  | none => simp [h]
  | some p =>
    obtain ⟨r, st⟩ := p
    cases st <;> simp [h, List.map_set]

theorem takeAll_aux (is : List Nat) (to : SlotSt) (hto : to ≠ .held) : ∀ (j : Job) (acc : List Res),
    heldCount (is.foldl (fun (p : Job × List Res) i => ((p.1.take i to).1, p.2 ++ (p.1.take i to).2)) (j, acc)).1
      + (is.foldl (fun (p : Job × List Res) i => ((p.1.take i to).1, p.2 ++ (p.1.take i to).2)) (j, acc)).2.length
      = heldCount j + acc.length
    ∧ (is.foldl (fun (p : Job × List Res) i => ((p.1.take i to).1, p.2 ++ (p.1.take i to).2)) (j, acc)).1.led
      = j.led.setAll is to := by
  induction is with
  | nil => intro j acc; simp [Led.setAll]
  | cons i is ih =>
    intro j acc
    simp only [List.foldl_cons, Led.setAll]
    obtain ⟨h1, h2⟩ := ih (j.take i to).1 (acc ++ (j.take i to).2)
    refine ⟨?_, ?_⟩
    · rw [h1]
      have := take_count j i to hto
      simp only [List.length_append]
      omega
    · rw [h2, take_led]
      rfl

theorem takeAll_count (j : Job) (is : List Nat) (to : SlotSt) (hto : to ≠ .held) :
    heldCount (j.takeAll is to).1 + (j.takeAll is to).2.length = heldCount j := by
  simpa [Job.takeAll] using (takeAll_aux is to hto j []).1

theorem takeAll_led (j : Job) (is : List Nat) (to : SlotSt) (hto : to ≠ .held) :
    (j.takeAll is to).1.led = j.led.setAll is to := by
  simpa [Job.takeAll] using (takeAll_aux is to hto j []).2

theorem exec_cons (K : Nat) (p : Prog) : ∀ (s : MState) (j : Job), ConsJ K s j → ConsJ K (exec s j p).1 (exec s j p).2 :=
  GatherClosed.exec_ind (ConsJ K) (fun _ h => h) (fun h => h)
    (fun _ _ h => by
      simp only [ConsJ, liveCount, heldCount, List.countP_append] at h ⊢
      simp
      omega)
    (fun {_ j} i h => by
      have := take_count j i .released (by simp)
      simp only [ConsJ, liveCount] at h ⊢
      omega)
    (fun {_ j} is h => by
      have := takeAll_count j is .dupClosed (by simp)
      simp only [ConsJ, liveCount] at h ⊢
      omega)
    (fun {_ j} ci is h _ _ => by
      have := takeAll_count j is (.owned ci) (by simp)
      simp only [ConsJ, liveCount, List.map_append, List.sum_append, List.map_cons, List.map_nil,
        List.sum_cons, List.sum_nil] at h ⊢
      omega)
    p

theorem take_same (j : Job) (i : Nat) (to : SlotSt) :
    (j.take i to).1.unit = j.unit ∧ (j.take i to).1.deadline = j.deadline ∧ (j.take i to).1.cyc = j.cyc := by
  unfold Job.take; split <;> exact ⟨rfl, rfl, rfl⟩

theorem takeAll_same (j : Job) (is : List Nat) (to : SlotSt) :
    (j.takeAll is to).1.unit = j.unit ∧ (j.takeAll is to).1.deadline = j.deadline ∧ (j.takeAll is to).1.cyc = j.cyc := by
  unfold Job.takeAll
  have key : ∀ (is : List Nat) (p : Job × List Res),
      (is.foldl (fun (p : Job × List Res) i => ((p.1.take i to).1, p.2 ++ (p.1.take i to).2)) p).1.unit = p.1.unit
      ∧ (is.foldl (fun (p : Job × List Res) i => ((p.1.take i to).1, p.2 ++ (p.1.take i to).2)) p).1.deadline
          = p.1.deadline
      ∧ (is.foldl (fun (p : Job × List Res) i => ((p.1.take i to).1, p.2 ++ (p.1.take i to).2)) p).1.cyc = p.1.cyc := by
    intro is
    induction is with
    | nil => intro p; exact ⟨rfl, rfl, rfl⟩
    | cons i is ih =>
      intro p
      simp only [List.foldl_cons]
      have := ih ((p.1.take i to).1, p.2 ++ (p.1.take i to).2)
      have ht := take_same p.1 i to
      exact ⟨this.1.trans ht.1, this.2.1.trans ht.2.1, this.2.2.trans ht.2.2⟩
  exact key is (j, [])

theorem exec_same (p : Prog) (s : MState) (j : Job) :
    (exec s j p).2.unit = j.unit ∧ (exec s j p).2.deadline = j.deadline :=
  GatherClosed.exec_ind (fun _ j' => j'.unit = j.unit ∧ j'.deadline = j.deadline) (fun _ h => h) (fun h => h)
    (fun _ _ h => h)
    (fun {_ j'} i h => ⟨(take_same j' i _).1.trans h.1, (take_same j' i _).2.1.trans h.2⟩)
    (fun {_ j'} is h => ⟨(takeAll_same j' is _).1.trans h.1, (takeAll_same j' is _).2.1.trans h.2⟩)
    (fun {_ j'} _ is h _ _ => ⟨(takeAll_same j' is _).1.trans h.1, (takeAll_same j' is _).2.1.trans h.2⟩)
    p s j ⟨rfl, rfl⟩

theorem led_answer (j : Job) (a : Option Ans) : ({ j with answer := a } : Job).led = j.led := rfl

theorem led_push (j : Job) (r : Res) :
    ({ j with slots := j.slots ++ [(r, SlotSt.held)], answer := none } : Job).led = j.led.push := by
  simp [Job.led, Led.push]

theorem exec_ok (p : Prog) : ∀ (s : MState) (j : Job), p.ok j.led = true →
    (exec s j p).2.prog.ok (exec s j p).2.led = true := by
  induction p with
  | ret => intro s j h; simpa [exec, Job.led] using h
  | acquire l k a b iha ihb =>
    intro s j h
    have h' := h
    simp only [Prog.ok, Bool.and_eq_true] at h
    simp only [exec]
    split
    · simpa [Job.led] using h'
    · exact ihb _ _ (by simpa [led_answer] using h.2)
    · exact iha _ _ (by rw [led_push]; exact h.1)
  | step l a b iha ihb =>
    intro s j h
    have h' := h
    simp only [Prog.ok, Bool.and_eq_true] at h
    simp only [exec]
    split
    · simpa [Job.led] using h'
    · exact iha _ _ (by simpa [led_answer] using h.1)
    · exact ihb _ _ (by simpa [led_answer] using h.2)
  | release i n ih =>
    intro s j h
    simp only [Prog.ok] at h
    simp only [exec]
    exact ih _ _ (by rw [take_led]; exact h)
  | addCand ci is st fl ihs ihf =>
    intro s j h
    simp only [Prog.ok, Bool.and_eq_true] at h
    simp only [exec]
    split
    · exact ihf _ _ h.2
    · split
      · exact ihs _ _ (by rw [takeAll_led _ _ _ (by simp)]; exact h.1.2)
      · exact ihs _ _ (by rw [takeAll_led _ _ _ (by simp)]; exact h.1.1)

theorem balanced_heldCount (j : Job) (h : j.led.balanced = true) : heldCount j = 0 := by
  rw [balanced_iff] at h
  simp only [heldCount, List.countP_eq_zero]
  intro p hp
  have := h.2 p.2 (by simp only [Job.led, List.mem_map]; exact ⟨p, hp, rfl⟩)
  simpa using this

def JobsOk (s : MState) : Prop := ∀ j ∈ s.jobs, j.prog.ok j.led = true

structure Good (s : MState) : Prop where
  cons : Cons s
  jobsOk : JobsOk s

theorem settle_good (K : Nat) {s : MState} {j : Job} (hj : JobsOk s) (hc : ConsJ K s j)
    (hok : j.prog.ok j.led = true) : ConsK K (settle (s, j)) ∧ JobsOk (settle (s, j)) := by
  refine ⟨?_, GatherClosed.forall_settle hj (fun _ => hok)⟩
  unfold settle
  split
  · rename_i hret
    simp only at hret
    have : heldCount j = 0 := balanced_heldCount j (by simpa [hret, Prog.ok] using hok)
    simp only [ConsK, ConsJ] at hc ⊢
    omega
  · simp only [ConsK, ConsJ, liveCount, List.map_append, List.sum_append, List.map_cons, List.map_nil,
      List.sum_cons, List.sum_nil] at hc ⊢
    omega

theorem run_good (K : Nat) {s : MState} (hjobs : JobsOk s) (j : Job) (hc : ConsJ K s j)
    (hok : j.prog.ok j.led = true) :
    ConsK K (settle (exec s j j.prog)) ∧ JobsOk (settle (exec s j j.prog)) := by
  have hj : JobsOk (exec s j j.prog).1 := by
    unfold JobsOk
    rw [GatherClosed.exec_jobs]; exact hjobs
  exact settle_good K hj (exec_cons K j.prog s j hc) (exec_ok j.prog s j hok)

theorem startUnit_good {s : MState} (h : Good s) (c gen : Nat) (u : GUnit) : Good (startUnit s c gen u) := by
  unfold startUnit
  have := run_good 0 h.jobsOk
    { cyc := c, gen := gen, unit := u, prog := progOf u,
      deadline := s.now + (if u.kind == .relay then turnTimeoutMs else stunTimeoutMs) }
    (by have := h.cons; simpa [ConsJ, Cons, ConsK, heldCount] using this)
    (by simpa [Job.led] using progOf_ok u)
  exact ⟨this.1, this.2⟩

theorem good_of_same {s s' : MState} (h : Good s) (h1 : s'.opens = s.opens) (h2 : s'.closes = s.closes)
    (h3 : s'.cands = s.cands) (h4 : s'.jobs = s.jobs) : Good s' := by
  refine ⟨?_, by unfold JobsOk; rw [h4]; exact h.jobsOk⟩
  have := h.cons
  simp only [Cons, ConsK, liveCount, h1, h2, h3, h4] at this ⊢
  exact this

theorem sum_filter_split (l : List Job) (p : Job → Bool) :
    (l.map heldCount).sum = ((l.filter p).map heldCount).sum + ((l.filter (fun j => !p j)).map heldCount).sum := by
  induction l with
  | nil => rfl
  | cons a l ih =>
    by_cases hp : p a = true
    · simp [hp, ih]; omega
    · have hp' : p a = false := by simpa using hp
      simp [hp', ih]; omega

/-- while units are detached, conservation counts what they hold -/
theorem resume_good {s : MState} (h : Good s) (pick : Job → Option (Ans × Nat)) : Good (resume s pick) := by
  have := GatherClosed.resume_ind (I := fun D s' => ConsK (D.map heldCount).sum s' ∧ JobsOk s') s pick ⟨?_, ?_⟩ ?_
  · exact ⟨by simpa [Cons] using this.1, this.2⟩
  · have hc := h.cons
    have hsplit := sum_filter_split s.jobs (fun j => (pick j).isSome)
    have hnone : (s.jobs.filter (fun j => !(pick j).isSome)) = s.jobs.filter (fun j => (pick j).isNone) := by
      congr 1; funext j; cases pick j <;> rfl
    rw [hnone] at hsplit
    simp only [Cons, ConsK, liveCount] at hc ⊢
    omega
  · intro j hj; exact h.jobsOk j (List.mem_filter.1 hj).1
  · intro j D s' a m hj _ h'
    refine run_good (D.map heldCount).sum h'.2 { j with answer := some a, m := m } ?_
      (by simpa [Job.led] using h.jobsOk j hj)
    have := h'.1
    simp only [ConsK, List.map_cons, List.sum_cons, heldCount] at this
    simp only [ConsJ, heldCount]
    omega

theorem dropCands_good {s : MState} (h : Good s) : Good (dropCands s) := by
  refine ⟨?_, h.jobsOk⟩
  have := h.cons
  simp only [Cons, ConsK, liveCount, dropCands, List.length_flatMap, List.map_nil, List.sum_nil] at this ⊢
  omega

theorem good_closed : GatherClosed.Closed Good where
  units := GatherClosed.runCycleUnits_of_start startUnit_good (fun h _ => good_of_same h rfl rfl rfl rfl)
  gate h := List.foldl_inv Good _ _ _ (good_of_same h rfl rfl rfl rfl)
    (fun _ _ hs => GatherClosed.runHost_of_start startUnit_good hs _ _)
  resume := resume_good
  drop := dropCands_good
  upd h hb _ := good_of_same h hb.opens hb.closes hb.cands hb.jobs
  clock h _ := good_of_same h rfl rfl rfl rfl

theorem step_good {s : MState} (h : Good s) (op : Op) : Good (step s op).1 :=
  good_closed.of_any_step (fun _ _ h => good_of_same h rfl rfl rfl rfl) h op

theorem newAgent_ok {cfg : Config} {ifs : List Iface} {s : MState} (h : newAgent cfg ifs = .ok s) :
    s = { cfg := cfg, ifs := ifs, gateClosed := cfg.hold, cyc := { continual := cfg.continual } } := by
  unfold newAgent at h
  repeat' split at h
  all_goals first
    | (simp only [Except.ok.injEq] at h; exact h.symm)
    | simp at h

theorem good_init (cfg : Config) (ifs : List Iface) (s : MState) (h : newAgent cfg ifs = .ok s) : Good s := by
  rw [newAgent_ok h]
  exact ⟨by simp [Cons, ConsK, liveCount], by intro j hj; simp at hj⟩

def runOps : MState → List Op → MState
  | s, [] => s
  | s, op :: ops => runOps (step s op).1.flush ops

theorem flush_good {s : MState} (h : Good s) : Good s.flush := good_of_same h rfl rfl rfl rfl

theorem runOps_good : ∀ (ops : List Op) {s : MState}, Good s → Good (runOps s ops) := by
  intro ops
  induction ops with
  | nil => intro s h; exact h
  | cons op ops ih => intro s h; exact ih (flush_good (step_good h op))

end IceProofs.GatherAgent

import IceProofs.AgentC06Read
/-!
# C06 — address literal forms (`Cand.form`)

A remote candidate may be signalled through a non-canonical literal of its address (`::ffff:10.0.0.3`).  Every
comparison of the Go code canonicalises (`findRemoteCandidate`, the cache keys, and
`transportAddressEqual`, FORMS-1/2), so `form` is a tag that no lemma needs.  Lemmas here:

* an inbound STUN message whose source is the canonical address of ANY listed remote candidate of the receiving
  candidate's network type — whatever literal that candidate was signalled with — never changes the remote
  candidate set (no duplicate peer-reflexive candidate);
* a new signalled candidate supersedes EVERY peer-reflexive candidate with its network type and canonical address,
  whatever the literals.
-/
namespace IceProofs.AgentC06
open IceModel.AgentCore IceProofs.Agent

theorem Hand.rcs {a b : Agent} (h : Hand a b) : rcsOf b = rcsOf a := by
  obtain ⟨a1, a2, h1, h2, h3⟩ := h
  rw [h3.rcs, h2.rcs, h1.rcs]

theorem findRemote_of_mem {a : Agent} {net src : Nat} {r : Cand} (hr : r ∈ a.remotes) (hn : r.net = net)
    (ha : r.addr = src) : ∃ r', a.findRemote net src = some r' :=
  Option.isSome_iff_exists.1 (findRemote_isSome.2 ⟨r, hr, hn, ha⟩)

theorem handleInbound_known_rcs {a : Agent} (hi : Inv a) (now : Nat) (l : Cand) (src : Nat) (m : Msg)
    (hl : l ∈ a.locals) (r : Cand) (hr : a.findRemote l.net src = some r) :
    rcsOf (a.handleInbound now l src m).1 = rcsOf a := by
  obtain ⟨h1, h2, _⟩ := findRemote_listed hr
  have hres : resolveSource a l src m = (a, [], some r) := by
    rcases resolveSource_cases a l src m with ⟨r', hr', he⟩ | ⟨hn, _⟩
    · rw [hr] at hr'; cases hr'; exact he
    · rw [hr] at hn; cases hn
  refine handleInbound_rule (Q := fun x => rcsOf x.1 = rcsOf a) a now l src m rfl
    (fun r' _ _ _ => ((Evo.handleSuccess a now m l r' src).r_same (Same.seenRemoteRecv _ _ _)).rcs)
    (fun r' _ => (Same.seenRemoteRecv _ _ _).evo.rcs) (fun _ _ => by rw [hres]) fun _ r' hr' => ?_
  rw [hres] at hr' ⊢
  obtain rfl : r = r' := by simpa using hr'
  exact (Hand.afterResolve a hi now l m [] r (mem_lcsOf hl) (mem_rcsOf h1) h2.symm).rcs

theorem EvoW.rcs_or_wiped {a b : Agent} (h : EvoW a b) : rcsOf b = rcsOf a ∨ b.remotes = [] := by
  cases h with
  | evo h => exact Or.inl h.rcs
  | wf h =>
    obtain ⟨_, _, h3, _⟩ := h.wiped
    exact Or.inr h3

theorem step_inbound_known_rcs {a : Agent} (hi : Inv a) (now la src : Nat) (m : Msg) (l : Cand)
    (hl : a.localByAddr la = some l) (r : Cand) (hr : r ∈ a.remotes) (hn : r.net = l.net) (ha : r.addr = src) :
    rcsOf (step a (.inbound now la src m)).1 = rcsOf a ∨ (step a (.inbound now la src m)).1.remotes = [] := by
  obtain ⟨r', hr'⟩ := findRemote_of_mem hr hn ha
  simp only [step]
  split
  · exact Or.inl rfl
  · simp only [hl]
    have h1 := handleInbound_known_rcs hi now l src m (localByAddr_listed hl).1 r' hr'
    generalize a.handleInbound now l src m = x at h1
    obtain ⟨b, o⟩ := x
    have h2 := (EvoW.runForced b now).rcs_or_wiped
    generalize b.runForced now = y at h2
    obtain ⟨c, o'⟩ := y
    rcases h2 with h2 | h2
    · exact Or.inl (h2.trans h1)
    · exact Or.inr h2

theorem addRemoteCandidate_prflx_gone {a : Agent} (h : Inv a) (c : Cand) (hc : a.closed = false)
    (hb : a.cfg.blockedIPs.contains (ipOf c.addr) = false)
    (hf : (a.remotes.filter (·.net == c.net)).find? (·.equal c) = none) (hty : c.ty ≠ 3) :
    ∀ e ∈ rcsOf (a.addRemoteCandidate c).1, ¬ (e.ty = 3 ∧ e.taEqual c = true) := by
  intro e he ⟨ety, eta⟩
  rw [arc_eq a c hb hf] at he
  obtain ⟨h1, _, _⟩ := arcA4_spec h c hc hb hf
  have he' : e ∈ rcsOf (arcA3 a c) := by
    have : rcsOf (arcA4 a c).requestCheck = rcsOf (arcA4 a c) := rfl
    rw [← h1.rcs, ← this]; exact he
  rw [arcA3_rcs a c h, List.mem_filter] at he'
  obtain ⟨hm, hnot⟩ := he'
  rcases List.mem_append.1 hm with hm | hm
  · obtain ⟨e0, he0, rfl⟩ := List.mem_map.1 hm
    have hrep : e0 ∈ arcReplaced a c := by
      unfold arcReplaced
      rw [if_neg (by simpa [arcC0] using hty)]
      rw [List.mem_filter]
      refine ⟨he0, ?_⟩
      have eta' : e0.taEqual (arcC0 a c) = true := eta
      have enet : e0.net = c.net := by
        simp only [Cand.taEqual, Bool.and_eq_true, beq_iff_eq] at eta
        exact eta.1.1
      have ety' : e0.ty = 3 := ety
      simp [arcC0, eta', enet, ety'] at eta' ⊢
    have : (arcS a c).contains (core e0).uid = true := by
      rw [List.contains_iff_mem]
      exact List.mem_map.2 ⟨e0, hrep, rfl⟩
    rw [this] at hnot
    cases hnot
  · simp at hm
    subst hm
    exact hty (by simpa [arcC0] using ety)

theorem step_addRemote_prflx_gone {a : Agent} (h : Inv a) (hact : ∀ x ∈ rcsOf a, x.tt ≠ 1) (now : Nat) (c : Cand)
    (hc : a.closed = false)
    (hb : a.cfg.blockedIPs.contains (ipOf c.addr) = false)
    (hf : (a.remotes.filter (·.net == c.net)).find? (·.equal c) = none) (hty : c.ty ≠ 3) :
    ∀ e ∈ rcsOf (step a (.addRemote now c)).1, ¬ (e.ty = 3 ∧ e.taEqual c = true) := by
  have h0 := addRemoteCandidate_prflx_gone h c hc hb hf hty
  by_cases ht : c.tt = 1
  · -- the public API ignores a candidate with tcptype active: nothing changes, and a listed candidate that were
    -- transport-address-equal to it would have tcptype active itself (`hact`)
    intro e he ⟨ety, eta⟩
    have hs : step a (.addRemote now c) = (a, []) := by simp [step, hc, ht]
    rw [hs] at he
    simp only [Cand.taEqual, Bool.and_eq_true, beq_iff_eq] at eta
    exact hact e he (eta.2.1.trans ht)
  have hs : step a (.addRemote now c) =
      (((a.addRemoteCandidate c).1.runForced now).1, (a.addRemoteCandidate c).2.1 ++ ((a.addRemoteCandidate c).1.runForced now).2) := by
    simp [step, hc, ht]
  rw [hs]
  generalize a.addRemoteCandidate c = x at h0
  obtain ⟨b, o, rc⟩ := x
  have h2 := (EvoW.runForced b now).rcs_or_wiped
  generalize b.runForced now = y at h2
  obtain ⟨d, o'⟩ := y
  intro e he
  rcases h2 with h2 | h2
  · exact h0 e (h2 ▸ he)
  · have h2' : d.remotes = [] := h2
    have : rcsOf d = [] := by simp [rcsOf, h2']
    rw [this] at he; cases he

/-! ## no listed remote candidate has tcptype active

The public `AddRemoteCandidate` ignores a candidate with tcptype active, and a discovered peer-reflexive candidate
carries no tcptype. -/

def RemNoActive (a : Agent) : Prop := ∀ x ∈ rcsOf a, x.tt ≠ 1

theorem RemNoActive.stage3 {a : Agent} (h : Inv a) (hp : RemNoActive a) (c : Cand) (hsrc : c.tt ≠ 1) :
    RemNoActive (arcA3 a c) := by
  intro x hx
  rw [arcA3_rcs a c h] at hx
  have := (List.mem_filter.1 hx).1
  rcases List.mem_append.1 this with hx' | hx'
  · exact hp x hx'
  · simp at hx'; subst hx'
    simpa [arcC0] using hsrc

theorem noActive_trans {e : Ev} {w : Bool} (hev : ∀ now c, e = .addRemote now c → c.tt ≠ 1) {b c : Agent} (hi : Inv b)
    (hp : RemNoActive b) (t : Trans e w b c) : RemNoActive c := by
  cases t with
  | evo h => unfold RemNoActive; rw [h.rcs]; exact hp
  | addP h =>
    cases h with
    | none => exact hp
    | add l r hl hr hn hfresh => exact hp
  | wf _ h =>
    obtain ⟨_, _, h3, _⟩ := h.wiped
    simp [RemNoActive, rcsOf, h3]
  | connState s hs hn => exact hp
  | «local» c hc hf => exact hp
  | remote c hc hb hf hsrc =>
    refine hp.stage3 hi c ?_
    rcases hsrc with ⟨_, _, _, h4⟩ | ⟨now, he⟩
    · rw [h4]; decide
    · exact hev now c he
  | cache x hl hr hc => exact hp
  | restart now u p _ _ => simp [RemNoActive, rcsOf, restartCore, Agent.wipe, Agent.resetSelector]
  | close _ _ => simp [RemNoActive, rcsOf, closeCore]

theorem noActive_step {a : Agent} (hi : Inv a) (hp : RemNoActive a) (e : Ev) : RemNoActive (step a e).1 := by
  by_cases hev : ∀ now c, e = .addRemote now c → c.tt ≠ 1
  · exact Chain.preserves (fun x => RemNoActive x) (fun _ _ hb hq t => noActive_trans hev hb hq t) hi hp (step_chain hi e)
  · have : ∃ now c, e = .addRemote now c ∧ c.tt = 1 := by
      apply Classical.byContradiction
      intro hn
      exact hev fun now c he ht => hn ⟨now, c, he, ht⟩
    obtain ⟨now, c, rfl, ht⟩ := this
    have : (step a (.addRemote now c)).1 = a := by
      simp only [step]
      split
      · rfl
      · simp [ht]
    rw [this]; exact hp

theorem noActive_run {a : Agent} (hi : Inv a) (hp : RemNoActive a) (evs : List Ev) : RemNoActive (run a evs) := by
  unfold run
  induction evs generalizing a with
  | nil => exact hp
  | cons e evs ih => exact ih (hi.step e) (noActive_step hi hp e)

theorem Init.noActive {a : Agent} (h : Init a) : RemNoActive a := by
  obtain ⟨_, _, h3, _⟩ := h
  simp [RemNoActive, rcsOf, h3]

end IceProofs.AgentC06

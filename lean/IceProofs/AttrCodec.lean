import IceModel.AttrCodec
/-! Lemmas about the attribute codecs (`IceModel.AttrCodec`). -/
namespace IceProofs.AttrCodec
open IceModel.AttrCodec

theorem byteOf_toNat (n : Nat) : (byteOf n).toNat = n % 256 := by
  simp [byteOf]

theorem be32_eq {v : Nat} {a b c d : UInt8} (ha : v / 16777216 % 256 = a.toNat) (hb : v / 65536 % 256 = b.toNat)
    (hc : v / 256 % 256 = c.toNat) (hd : v % 256 = d.toNat) : be32 v = [a, b, c, d] := by
  simp only [be32, byteOf, ha, hb, hc, hd, UInt8.ofNat_toNat]

theorem mod_2_24 (v : Nat) :
    v % 16777216 = v % 256 + 256 * (v / 256 % 256) + 65536 * (v / 65536 % 256) := by
  have h2 : v % 16777216 = v % 65536 + 65536 * (v / 65536 % 256) := Nat.mod_mul (a := 65536) (b := 256)
  have h1 : v % 65536 = v % 256 + 256 * (v / 256 % 256) := Nat.mod_mul (a := 256) (b := 256)
  rw [h2, h1]

theorem be32Val_be32 (v : Nat) :
    be32Val (byteOf (v / 16777216)) (byteOf (v / 65536)) (byteOf (v / 256)) (byteOf v) = v % 4294967296 := by
  simp only [be32Val, byteOf_toNat]
  have h3 : v % 4294967296 = v % 16777216 + 16777216 * (v / 16777216 % 256) := Nat.mod_mul (a := 16777216) (b := 256)
  rw [h3, mod_2_24]
  ac_rfl

theorem be32Val_lt (a b c d : UInt8) : be32Val a b c d < 4294967296 := by
  have := a.toNat_lt; have := b.toNat_lt; have := c.toNat_lt; have := d.toNat_lt
  simp only [be32Val]; omega

theorem shift_byte (x : Nat) (d : UInt8) : (x * 256 + d.toNat) / 256 = x ∧ (x * 256 + d.toNat) % 256 = d.toNat := by
  have h := d.toNat_lt
  rw [Nat.add_comm, Nat.add_mul_div_right _ _ (by decide), Nat.add_mul_mod_self_right, Nat.div_eq_of_lt h,
    Nat.mod_eq_of_lt h, Nat.zero_add]
  exact ⟨rfl, rfl⟩

theorem be32_be32Val (a b c d : UInt8) : be32 (be32Val a b c d) = [a, b, c, d] := by
  -- in Horner form every division by 256 drops the last byte
  have hv : be32Val a b c d = ((a.toNat * 256 + b.toNat) * 256 + c.toNat) * 256 + d.toNat := by
    simp only [be32Val]; omega
  have h1 := shift_byte ((a.toNat * 256 + b.toNat) * 256 + c.toNat) d
  have h2 := shift_byte (a.toNat * 256 + b.toNat) c
  have h3 := shift_byte a.toNat b
  rw [hv]
  refine be32_eq (v := _) ?_ ?_ ?_ h1.2
  · rw [show 16777216 = 256 * 256 * 256 from rfl, ← Nat.div_div_eq_div_mul, ← Nat.div_div_eq_div_mul, h1.1, h2.1, h3.1]
    exact Nat.mod_eq_of_lt a.toNat_lt
  · rw [show 65536 = 256 * 256 from rfl, ← Nat.div_div_eq_div_mul, h1.1, h2.1, h3.2]
  · rw [h1.1, h2.2]

theorem be32_mod (v : Nat) : be32 (v % 4294967296) = be32 v := by
  rw [← be32Val_be32, be32_be32Val]; rfl

theorem be32_length (v : Nat) : (be32 v).length = 4 := rfl

theorem decPriority_enc (v : Nat) : decPriority (encPriority v) = some (v % 4294967296) := by
  simp only [encPriority, be32, decPriority, be32Val_be32]

theorem decPriority_some {bs : List UInt8} {v : Nat} (h : decPriority bs = some v) :
    bs.length = 4 ∧ encPriority v = bs ∧ v < 4294967296 := by
  match bs, h with
  | [a, b, c, d], h =>
    simp only [decPriority, Option.some.injEq] at h
    subst h
    exact ⟨rfl, be32_be32Val a b c d, be32Val_lt a b c d⟩

theorem decPriority_size (bs : List UInt8) (h : bs.length ≠ 4) : decPriority bs = none := by
  match bs with
  | [] | [_] | [_, _] | [_, _, _] | _ :: _ :: _ :: _ :: _ :: _ => rfl
  | [_, _, _, _] => simp at h

theorem decTiebreaker_enc (v : Nat) : decTiebreaker (encTiebreaker v) = some (v % 18446744073709551616) := by
  simp only [encTiebreaker, be64, be32, List.cons_append, List.nil_append, decTiebreaker, be32Val_be32]
  congr 1; omega

theorem decTiebreaker_size (bs : List UInt8) (h : bs.length ≠ 8) : decTiebreaker bs = none := by
  match bs with
  | [] | [_] | [_, _] | [_, _, _] | [_, _, _, _] | [_, _, _, _, _] | [_, _, _, _, _, _]
  | [_, _, _, _, _, _, _] | _ :: _ :: _ :: _ :: _ :: _ :: _ :: _ :: _ :: _ => rfl
  | [_, _, _, _, _, _, _, _] => simp at h

theorem decTiebreaker_some {bs : List UInt8} {v : Nat} (h : decTiebreaker bs = some v) :
    bs.length = 8 ∧ encTiebreaker v = bs ∧ v < 18446744073709551616 := by
  match bs, h with
  | [a, b, c, d, e, f, g, k], h =>
    simp only [decTiebreaker, Option.some.injEq] at h
    subst h
    have h1 := be32Val_lt a b c d
    have h2 := be32Val_lt e f g k
    refine ⟨rfl, ?_, by omega⟩
    have e1 : (be32Val a b c d * 4294967296 + be32Val e f g k) / 4294967296 = be32Val a b c d := by omega
    have e2 : (be32Val a b c d * 4294967296 + be32Val e f g k) % 4294967296 = be32Val e f g k := by omega
    rw [encTiebreaker, be64, e1, ← be32_mod (_ + _), e2, be32_be32Val, be32_be32Val]
    rfl

theorem decNomination_enc (v : Nat) : decNomination (encNomination v) = some (v % 16777216) := by
  simp only [encNomination, decNomination, byteOf_toNat]
  rw [mod_2_24]
  congr 1; ac_rfl

theorem decNomination_size (bs : List UInt8) (h : bs.length < 4) : decNomination bs = none := by
  match bs with
  | [] | [_] | [_, _] | [_, _, _] => rfl
  | _ :: _ :: _ :: _ :: _ => simp at h; omega

theorem decNomination_isSome (bs : List UInt8) : (decNomination bs).isSome = decide (4 ≤ bs.length) := by
  match bs with
  | [] | [_] | [_, _] | [_, _, _] => rfl
  | _ :: _ :: _ :: _ :: _ => simp [decNomination]

theorem encWords_length (l : List Nat) : (encWords l).length = 4 * l.length := by
  induction l with
  | nil => rfl
  | cons a l ih => simp only [encWords, List.length_append, be32_length, ih, List.length_cons]; omega

theorem decWords_encWords (l : List Nat) : decWords (encWords l) = l.map (· % 4294967296) := by
  induction l with
  | nil => rfl
  | cons a l ih =>
    simp only [encWords, be32, List.cons_append, List.nil_append, decWords, be32Val_be32, ih, List.map_cons]

theorem decAck_enc (l : List Nat) (bs : List UInt8) (h : encAck l = some bs) :
    decAck bs = some (l.map (· % 4294967296)) := by
  unfold encAck at h
  split at h
  · cases h
  · simp only [Option.some.injEq] at h
    subst h
    have hl := encWords_length l
    simp only [ackSizeValues] at *
    unfold decAck
    rw [if_neg (by simp only [ackSizeValues]; omega), decWords_encWords]

theorem encAck_size (l : List Nat) : (encAck l).isSome = decide (l.length ≤ 4) := by
  unfold encAck ackSizeValues
  split <;> simp <;> omega

theorem decAck_size (bs : List UInt8) : (decAck bs).isSome = decide (bs.length ≤ 16 ∧ bs.length % 4 = 0) := by
  unfold decAck ackSizeValues
  split <;> simp <;> omega

end IceProofs.AttrCodec

import IceModel.AgentCore
import IceProofs.Basic
/-!
# Automatic renomination: the shape of `Agent.autoRenom`, once, for every frame proof

`Agent.autoRenom` (what `controllingSelector.ContactCandidates` does after `checkKeepalive`: `keepAliveCandidatesFor-
Renomination`, then `checkForAutomaticRenomination`) only ever

* marks a WAITING pair in-progress,
* sends an ordinary check (`ping`),
* writes `lastRenomTime`, `nomCounter`,
* sends ONE nominating request (`sendRequest … true nom`) and logs it in the ghost `nomIssued` — and that only on a
  controlling agent with renomination enabled, on a listed pair, `nom` absent iff the value is 0.

`AutoClosed now P` says that a predicate on (agent, outputs so far) is closed under these moves; then it holds of
the result of `autoRenom` (`autoRenom_closed`).  In `AutoParts` / `autoRenom_parts` the
nominating request and its log entry are two moves.  `AutoSteps` / `autoRenom_steps` is the closure with what `autoIssue`
has tested when it draws a value; `Agent.Chain.autoRenom` (AgentMoves) is built on it.  `Sys2C20Auto` looks inside
`autoCheck` / `autoIssue` itself.
-/
namespace IceProofs.Auto
open IceModel.AgentCore

/-- one iteration of `keepAliveCandidatesForRenomination` (the body of the fold in `Agent.keepAliveAll`, verbatim) -/
def kaStep (now : Nat) (acc : Agent × List Out) (id : Nat) : Agent × List Out :=
    let (a, o) := acc
    match a.pairById id with
    | none => (a, o)
    | some p =>
      if p.state == .failed then (a, o) else
      let a := if p.state == .waiting then a.modPair id fun q => { q with state := .inProgress } else a
      match a.localOf p.l, a.remoteOf p.r with
      | some l, some r =>
        let (a, o') := a.ping now l r
        (a, o ++ o')
      | _, _ => (a, o)

theorem keepAliveAll_eq (a : Agent) (now : Nat) :
    a.keepAliveAll now = (a.checklist.map (·.id)).foldl (kaStep now) (a, []) := rfl

structure AutoClosed (now : Nat) (P : Agent × List Out → Prop) : Prop where
  mark : ∀ (b : Agent) (o : List Out) (id : Nat) (p : Pair), P (b, o) → b.pairById id = some p → p.state = .waiting →
    P (b.modPair id fun q => { q with state := .inProgress }, o)
  ping : ∀ (b : Agent) (o : List Out) (l r : Cand), P (b, o) → l ∈ b.locals → r ∈ b.remotes →
    P ((b.ping now l r).1, o ++ (b.ping now l r).2)
  time : ∀ (b : Agent) (o : List Out), P (b, o) → P ({ b with lastRenomTime := some now }, o)
  count : ∀ (b : Agent) (o : List Out), P (b, o) → P ({ b with nomCounter := b.nomCounter + 1 }, o)
  /-- the nomination: the request (with the value iff it is positive) and its entry in the ghost log, in one move -/
  issue : ∀ (b : Agent) (o : List Out) (l r : Cand) (v : Nat), P (b, o) → l ∈ b.locals → r ∈ b.remotes →
    b.controlling = true → b.cfg.enableRenomination = true → (b.findPair l r).isSome = true →
    P ({ (b.sendRequest now l r true (if v > 0 then some v else none)).1 with
          nomIssued := (b.sendRequest now l r true (if v > 0 then some v else none)).1.nomIssued ++ [(v, l.addr, r.addr)] },
       o ++ (b.sendRequest now l r true (if v > 0 then some v else none)).2)

/-- `AutoClosed` with what `autoIssue` has tested when it draws a value: the agent is controlling, renomination enabled -/
structure AutoSteps (now : Nat) (P : Agent × List Out → Prop) : Prop where
  mark : ∀ (b : Agent) (o : List Out) (id : Nat) (p : Pair), P (b, o) → b.pairById id = some p → p.state = .waiting →
    P (b.modPair id fun q => { q with state := .inProgress }, o)
  ping : ∀ (b : Agent) (o : List Out) (l r : Cand), P (b, o) → l ∈ b.locals → r ∈ b.remotes →
    P ((b.ping now l r).1, o ++ (b.ping now l r).2)
  time : ∀ (b : Agent) (o : List Out), P (b, o) → P ({ b with lastRenomTime := some now }, o)
  count : ∀ (b : Agent) (o : List Out), P (b, o) → b.controlling = true → b.cfg.enableRenomination = true →
    P ({ b with nomCounter := b.nomCounter + 1 }, o)
  issue : ∀ (b : Agent) (o : List Out) (l r : Cand) (v : Nat), P (b, o) → l ∈ b.locals → r ∈ b.remotes →
    b.controlling = true → b.cfg.enableRenomination = true → (b.findPair l r).isSome = true →
    P ({ (b.sendRequest now l r true (if v > 0 then some v else none)).1 with
          nomIssued := (b.sendRequest now l r true (if v > 0 then some v else none)).1.nomIssued ++ [(v, l.addr, r.addr)] },
       o ++ (b.sendRequest now l r true (if v > 0 then some v else none)).2)

theorem AutoClosed.steps {now : Nat} {P : Agent × List Out → Prop} (h : AutoClosed now P) : AutoSteps now P :=
  ⟨h.mark, h.ping, h.time, fun b o hp _ _ => h.count b o hp, h.issue⟩

theorem kaStep_closed {now : Nat} {P : Agent × List Out → Prop} (h : AutoSteps now P) (acc : Agent × List Out) (id : Nat)
    (hp : P acc) : P (kaStep now acc id) := by
  obtain ⟨b, o⟩ := acc
  unfold kaStep
  simp only []
  cases hb : b.pairById id with
  | none => exact hp
  | some p =>
    simp only []
    split
    · exact hp
    · have h1 : P (if p.state == .waiting then b.modPair id fun q => { q with state := .inProgress } else b, o) := by
        split
        · rename_i hw
          exact h.mark b o id p hp hb (by simpa using hw)
        · exact hp
      generalize (if p.state == .waiting then b.modPair id fun q => { q with state := .inProgress } else b) = b1 at h1 ⊢
      split
      · rename_i l r hl hr
        exact h.ping b1 o l r h1 (List.mem_of_find?_eq_some hl) (List.mem_of_find?_eq_some hr)
      · exact h1

theorem keepAliveAll_closed {now : Nat} {P : Agent × List Out → Prop} (h : AutoSteps now P) (a : Agent)
    (hp : P (a, [])) : P (a.keepAliveAll now) := by
  rw [keepAliveAll_eq]
  exact IceProofs.List.foldl_inv P _ _ _ hp (fun acc id hacc => kaStep_closed h acc id hacc)

theorem autoIssue_closed {now : Nat} {P : Agent × List Out → Prop} (h : AutoSteps now P) (b : Agent) (o : List Out)
    (l r : Cand) (hp : P (b, o)) (hl : l ∈ b.locals) (hr : r ∈ b.remotes) :
    P ((b.autoIssue now l r).1, o ++ (b.autoIssue now l r).2) := by
  unfold Agent.autoIssue
  split
  · simpa using hp
  · rename_i hc
    split
    · simpa using hp
    · rename_i he
      split
      · simpa using hp
      · rename_i q hq
        have hc' : b.controlling = true := by simpa using hc
        have he' : b.cfg.enableRenomination = true := by simpa using he
        have h1 := h.count b o hp hc' he'
        exact h.issue { b with nomCounter := b.nomCounter + 1 } o l r b.nextNomValue h1 hl hr hc' he' (by
            show (Agent.findPair { b with nomCounter := b.nomCounter + 1 } l r).isSome = true
            have : Agent.findPair { b with nomCounter := b.nomCounter + 1 } l r = b.findPair l r := rfl
            rw [this, hq]; rfl)

theorem autoCheck_closed {now : Nat} {P : Agent × List Out → Prop} (h : AutoSteps now P) (b : Agent) (o : List Out)
    (hp : P (b, o)) : P ((b.autoCheck now).1, o ++ (b.autoCheck now).2) := by
  unfold Agent.autoCheck
  split
  · simpa using hp
  · split
    · simpa using hp
    · split
      · simpa using hp
      · split
        · split
          · rename_i l r hl hr
            exact autoIssue_closed h _ o _ _ (h.time b o hp) (List.mem_of_find?_eq_some hl) (List.mem_of_find?_eq_some hr)
          · simpa using h.time b o hp
        · simpa using hp

theorem autoRenom_steps {now : Nat} {P : Agent × List Out → Prop} (h : AutoSteps now P) (a : Agent)
    (hp : P (a, [])) : P (a.autoRenom now) := by
  unfold Agent.autoRenom
  simp only []
  split
  · have h1 := keepAliveAll_closed h a hp
    rcases hk : a.keepAliveAll now with ⟨a1, o1⟩
    rw [hk] at h1
    exact autoCheck_closed h a1 o1 h1
  · have := autoCheck_closed h a [] hp
    simpa using this

theorem autoRenom_closed {now : Nat} {P : Agent × List Out → Prop} (h : AutoClosed now P) (a : Agent)
    (hp : P (a, [])) : P (a.autoRenom now) := autoRenom_steps h.steps a hp

/-- the same closure with the nominating request and its log entry as two separate moves (for predicates that hold in
between: every frame that does not read the ghost log) -/
structure AutoParts (now : Nat) (P : Agent × List Out → Prop) : Prop where
  mark : ∀ (b : Agent) (o : List Out) (id : Nat) (p : Pair), P (b, o) → b.pairById id = some p → p.state = .waiting →
    P (b.modPair id fun q => { q with state := .inProgress }, o)
  ping : ∀ (b : Agent) (o : List Out) (l r : Cand), P (b, o) → l ∈ b.locals → r ∈ b.remotes →
    P ((b.ping now l r).1, o ++ (b.ping now l r).2)
  time : ∀ (b : Agent) (o : List Out), P (b, o) → P ({ b with lastRenomTime := some now }, o)
  count : ∀ (b : Agent) (o : List Out), P (b, o) → P ({ b with nomCounter := b.nomCounter + 1 }, o)
  issue : ∀ (b : Agent) (o : List Out) (l r : Cand) (nom : Option Nat), P (b, o) → l ∈ b.locals → r ∈ b.remotes →
    b.controlling = true → b.cfg.enableRenomination = true → (b.findPair l r).isSome = true →
    P ((b.sendRequest now l r true nom).1, o ++ (b.sendRequest now l r true nom).2)
  log : ∀ (b : Agent) (o : List Out) (x : Nat × Nat × Nat), P (b, o) → P ({ b with nomIssued := b.nomIssued ++ [x] }, o)

theorem AutoParts.closed {now : Nat} {P : Agent × List Out → Prop} (h : AutoParts now P) : AutoClosed now P where
  mark := h.mark
  ping := h.ping
  time := h.time
  count := h.count
  issue := fun b o l r _ hp hl hr hc he hf => h.log _ _ _ (h.issue b o l r _ hp hl hr hc he hf)

theorem autoRenom_parts {now : Nat} {P : Agent × List Out → Prop} (h : AutoParts now P) (a : Agent)
    (hp : P (a, [])) : P (a.autoRenom now) := autoRenom_closed h.closed a hp

theorem autoCheck_off (a : Agent) (now : Nat) (h : (a.cfg.autoRenom && a.cfg.enableRenomination) = false) :
    a.autoCheck now = (a, []) := by
  unfold Agent.autoCheck Agent.autoDue
  simp [h]

theorem autoRenom_off (a : Agent) (now : Nat) (h : (a.cfg.autoRenom && a.cfg.enableRenomination) = false) :
    a.autoRenom now = (a, []) := by
  unfold Agent.autoRenom
  simp only [h, Bool.false_eq_true, if_false]
  rw [autoCheck_off a now h]
  rfl

theorem autoCheck_noSel (a : Agent) (now : Nat) (hs : a.selected = none) : a.autoCheck now = (a, []) := by
  unfold Agent.autoCheck
  split
  · rfl
  · rw [hs]; rfl

theorem keepAliveAll_nil (a : Agent) (now : Nat) (hc : a.checklist = []) : a.keepAliveAll now = (a, []) := by
  unfold Agent.keepAliveAll
  rw [hc]; rfl

theorem autoRenom_wiped (a : Agent) (now : Nat) (hc : a.checklist = []) (hs : a.selected = none) :
    a.autoRenom now = (a, []) := by
  unfold Agent.autoRenom
  rw [keepAliveAll_nil a now hc]
  simp only []
  split <;> (rw [autoCheck_noSel a now hs]; rfl)

end IceProofs.Auto

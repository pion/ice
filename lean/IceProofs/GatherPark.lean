import IceModel.Gather
import IceProofs.GatherAgent
/-!
Termination structure of the gatherer programs: every unit waits for at most one reply; a unit that
receives its (positive or negative) answer returns.  Consequences for the composed model: `resume`
removes exactly the units it answers (`resume_jobs`); every waiting job of a reachable state is parked
(`Parked`, `runOps_parked`).
-/
namespace IceProofs.GatherPark
open IceModel.Gather IceProofs.GatherAgent

theorem acquireAns_none {s : MState} {j : Job} {l : Lbl} {k : Kind} (h : acquireAns s j l k = none) :
    l = .allocate ∧ j.answer = none := by
  unfold acquireAns at h
  split at h
  · split at h
    · simp at h
    · split at h <;> simp at h
  · simp at h
  · split at h <;> simp at h
  · split at h
    · exact ⟨rfl, by assumption⟩
    · simp at h
    · simp at h
  · simp at h

theorem stepAns_none {s : MState} {j : Job} {l : Lbl} (h : stepAns s j l = none) :
    l = .reply ∧ j.answer = none := by
  unfold stepAns at h
  split at h
  · refine ⟨rfl, ?_⟩
    cases ha : j.answer <;> simp_all
  · simp at h
  · split at h <;> simp at h
  · split at h <;> simp at h
  · split at h <;> simp at h
  · split at h <;> simp at h
  · simp at h

theorem exec_parkFree (p : Prog) : ∀ (s : MState) (j : Job), p.parkFree = true → (exec s j p).2.prog = .ret := by
  induction p with
  | ret => intro s j _; rfl
  | acquire l k a b iha ihb =>
    intro s j h
    simp only [Prog.parkFree, Bool.and_eq_true, bne_iff_ne, ne_eq] at h
    simp only [exec]
    split
    · rename_i hn; exact absurd (acquireAns_none hn).1 h.1.1
    · exact ihb _ _ h.2
    · exact iha _ _ h.1.2
  | step l a b iha ihb =>
    intro s j h
    simp only [Prog.parkFree, Bool.and_eq_true, bne_iff_ne, ne_eq] at h
    simp only [exec]
    split
    · rename_i hn; exact absurd (stepAns_none hn).1 h.1.1
    · exact iha _ _ h.1.2
    · exact ihb _ _ h.2
  | release i n ih => intro s j h; simp only [exec]; exact ih _ _ (by simpa [Prog.parkFree] using h)
  | addCand ci is st fl ihs ihf =>
    intro s j h
    simp only [Prog.parkFree, Bool.and_eq_true] at h
    simp only [exec]
    split
    · exact ihf _ _ h.2
    · split <;> exact ihs _ _ h.1

theorem exec_onePark (p : Prog) : ∀ (s : MState) (j : Job), p.onePark = true →
    (exec s j p).2.prog = .ret ∨ (exec s j p).2.prog.parked = true := by
  induction p with
  | ret => intro s j _; left; rfl
  | acquire l k a b iha ihb =>
    intro s j h
    simp only [Prog.onePark] at h
    simp only [exec]
    split
    · rename_i hn
      right
      have hl := (acquireAns_none hn).1
      subst hl
      simpa [Prog.parked] using h
    · split at h
      · left; exact exec_parkFree b _ _ (by simp only [Bool.and_eq_true] at h; exact h.2)
      · exact ihb _ _ (by simp only [Bool.and_eq_true] at h; exact h.2)
    · split at h
      · left; exact exec_parkFree a _ _ (by simp only [Bool.and_eq_true] at h; exact h.1)
      · exact iha _ _ (by simp only [Bool.and_eq_true] at h; exact h.1)
  | step l a b iha ihb =>
    intro s j h
    simp only [Prog.onePark] at h
    simp only [exec]
    split
    · rename_i hn
      right
      have hl := (stepAns_none hn).1
      subst hl
      simpa [Prog.parked] using h
    · split at h
      · left; exact exec_parkFree a _ _ (by simp only [Bool.and_eq_true] at h; exact h.1)
      · exact iha _ _ (by simp only [Bool.and_eq_true] at h; exact h.1)
    · split at h
      · left; exact exec_parkFree b _ _ (by simp only [Bool.and_eq_true] at h; exact h.2)
      · exact ihb _ _ (by simp only [Bool.and_eq_true] at h; exact h.2)
  | release i n ih => intro s j h; simp only [exec]; exact ih _ _ (by simpa [Prog.onePark] using h)
  | addCand ci is st fl ihs ihf =>
    intro s j h
    simp only [Prog.onePark, Bool.and_eq_true] at h
    simp only [exec]
    split
    · exact ihf _ _ h.2
    · split <;> exact ihs _ _ h.1

theorem exec_answered (s : MState) (j : Job) (a : Ans) (m : Nat) (hp : j.prog.parked = true) :
    (exec s { j with answer := some a, m := m } j.prog).2.prog = .ret := by
  cases hprog : j.prog with
  | ret => simp [hprog, Prog.parked] at hp
  | release i n => simp [hprog, Prog.parked] at hp
  | addCand ci is st fl => simp [hprog, Prog.parked] at hp
  | acquire l k x y =>
    cases l <;> simp [hprog, Prog.parked] at hp
    simp only [exec, acquireAns]
    cases a <;> simp only <;> first
      | exact exec_parkFree x _ _ hp.1
      | exact exec_parkFree y _ _ hp.2
  | step l x y =>
    cases l <;> simp [hprog, Prog.parked] at hp
    simp only [exec, stepAns, Option.map_some]
    cases a
    · exact exec_parkFree x _ _ hp.1
    · exact exec_parkFree y _ _ hp.2
    · exact exec_parkFree y _ _ hp.2

theorem borrowLoop_parkFree (k : Nat) : ∀ i, (borrowLoop i k).parkFree = true := by
  induction k with
  | zero => intro i; rfl
  | succ k ih => intro i; simp [borrowLoop, Prog.parkFree, ih]

theorem mappedLoop_parkFree (k : Nat) : ∀ i, (mappedLoop i k).parkFree = true := by
  induction k with
  | zero => intro i; rfl
  | succ k ih =>
    intro i
    simp only [mappedLoop]
    split <;> simp [Prog.parkFree, ih]

theorem parkFree_onePark (p : Prog) (h : p.parkFree = true) : p.onePark = true := by
  induction p with
  | ret => rfl
  | acquire l k a b iha ihb =>
    simp only [Prog.parkFree, Bool.and_eq_true, bne_iff_ne, ne_eq] at h
    simp only [Prog.onePark]
    split
    · rename_i hl; exact absurd (by simpa using hl) h.1.1
    · simp [iha h.1.2, ihb h.2]
  | step l a b iha ihb =>
    simp only [Prog.parkFree, Bool.and_eq_true, bne_iff_ne, ne_eq] at h
    simp only [Prog.onePark]
    split
    · rename_i hl; exact absurd (by simpa using hl) h.1.1
    · simp [iha h.1.2, ihb h.2]
  | release i n ih => simp only [Prog.parkFree] at h; simpa [Prog.onePark] using ih h
  | addCand ci is st fl ihs ihf =>
    simp only [Prog.parkFree, Bool.and_eq_true] at h
    simp [Prog.onePark, ihs h.1, ihf h.2]

theorem progOf_onePark (u : GUnit) : (progOf u).onePark = true := by
  obtain ⟨kind, net, bind, url, n⟩ := u
  cases kind <;> simp only [progOf]
  · decide
  · decide
  · decide
  · decide
  · decide
  · apply parkFree_onePark
    simp [srflxMappedProg, Prog.parkFree, mappedLoop_parkFree]
  · simp [relayProg, relayProgWith, relayTail, Prog.onePark, Prog.parkFree, borrowLoop_parkFree]

theorem host_parkFree (u : GUnit) (h : u.kind = .hostUdp ∨ u.kind = .hostTcp ∨ u.kind = .hostMux) :
    (progOf u).parkFree = true := by
  obtain ⟨kind, net, bind, url, n⟩ := u
  rcases h with h | h | h <;> (simp only at h; subst h; rfl)

def Parked (s : MState) : Prop := ∀ j ∈ s.jobs, j.prog.parked = true

theorem parked_ne_ret {p : Prog} (h : p.parked = true) : p ≠ .ret := by
  intro hr; subst hr; simp [Prog.parked] at h

theorem settle_jobs_ret {s : MState} {j : Job} (h : j.prog = .ret) : (settle (s, j)).jobs = s.jobs := by
  simp [settle, h]

theorem startUnit_parked {s : MState} (h : Parked s) (c gen : Nat) (u : GUnit) : Parked (startUnit s c gen u) :=
  GatherClosed.forall_run h (fun hne => (exec_onePark _ _ _ (progOf_onePark u)).resolve_left hne)

theorem parked_of_jobs {s s' : MState} (h : Parked s) (hj : s'.jobs = s.jobs) : Parked s' := by
  intro j hx; rw [hj] at hx; exact h j hx

theorem resume_jobs {s : MState} (h : Parked s) (pick : Job → Option (Ans × Nat)) :
    (resume s pick).jobs = s.jobs.filter (fun j => (pick j).isNone) :=
  GatherClosed.resume_ind (I := fun _ s' => s'.jobs = s.jobs.filter (fun j => (pick j).isNone)) s pick rfl
    (fun j _ s' a m hj _ h' => by
      have hret := exec_answered s' j a m (h j hj)
      rw [show settle (exec s' { j with answer := some a, m := m } j.prog) = settle (_, _) from rfl, settle_jobs_ret hret,
        GatherClosed.exec_jobs, h'])

theorem resume_parked {s : MState} (h : Parked s) (pick : Job → Option (Ans × Nat)) : Parked (resume s pick) := by
  intro j hj
  rw [resume_jobs h] at hj
  exact h j (List.mem_filter.1 hj).1

theorem dropCands_jobs (s : MState) : (dropCands s).jobs = s.jobs := rfl
theorem dropCands_mon (s : MState) : (dropCands s).mon = s.mon := rfl

theorem parked_closed : GatherClosed.Closed Parked where
  units := GatherClosed.runCycleUnits_of_start (P := Parked) startUnit_parked (fun h _ => parked_of_jobs h rfl)
  gate h := List.foldl_inv Parked _ _ _ (parked_of_jobs h rfl)
    (fun _ _ hs => GatherClosed.runHost_of_start (P := Parked) startUnit_parked hs _ _)
  resume := resume_parked
  drop h := parked_of_jobs h rfl
  upd h hb _ := parked_of_jobs h hb.jobs
  clock h _ := parked_of_jobs h rfl

theorem step_parked {s : MState} (h : Parked s) (op : Op) : Parked (step s op).1 :=
  parked_closed.of_any_step (fun _ _ h => parked_of_jobs h rfl) h op

theorem runOps_parked : ∀ (ops : List Op) {s : MState}, Parked s → Parked (runOps s ops) := by
  intro ops
  induction ops with
  | nil => intro s h; exact h
  | cons op ops ih => intro s h; exact ih (parked_of_jobs (step_parked h op) rfl)

end IceProofs.GatherPark

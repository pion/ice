/-!
# Counting lemmas over lists with one element replaced; `getElem?_lt`, `getElem?_snoc`
-/
namespace IceProofs

theorem getElem?_lt {α : Type} {l : List α} {i : Nat} {a : α} (h : l[i]? = some a) : i < l.length :=
  (List.getElem?_eq_some_iff.1 h).1

theorem getElem?_snoc {α : Type} {l : List α} {x c : α} {i : Nat} (h : (l ++ [x])[i]? = some c) :
    l[i]? = some c ∨ (i = l.length ∧ c = x) := by
  rw [List.getElem?_append] at h
  split at h
  · exact Or.inl h
  · rcases Nat.eq_zero_or_pos (i - l.length) with h0 | h0
    · rw [h0] at h
      exact Or.inr ⟨by omega, by simpa using h.symm⟩
    · rw [List.getElem?_eq_none (by simp; omega)] at h; cases h

end IceProofs

namespace IceProofs.CountP

theorem countP_eq_eraseIdx {α : Type} (p : α → Bool) {l : List α} {i : Nat} {a : α} (h : l[i]? = some a) :
    l.countP p = (l.eraseIdx i).countP p + (p a).toNat := by
  induction l generalizing i with
  | nil => simp at h
  | cons x xs ih =>
    cases i with
    | zero =>
      cases (Option.some.inj h : x = a)
      simp only [List.countP_cons, List.eraseIdx_zero, List.tail_cons]
      cases p a <;> rfl
    | succ n =>
      have := ih (i := n) h
      simp only [List.countP_cons, List.eraseIdx_cons_succ]
      omega

theorem countP_set_eraseIdx {α : Type} (p : α → Bool) {l : List α} {i : Nat} {a : α} (b : α)
    (h : l[i]? = some a) : (l.set i b).countP p = (l.eraseIdx i).countP p + (p b).toNat := by
  rw [countP_eq_eraseIdx p (List.getElem?_set_self (getElem?_lt h)), List.eraseIdx_set_eq]

theorem countP_ge_of_getElem? {α : Type} (p : α → Bool) {l : List α} {i : Nat} {a : α}
    (h : l[i]? = some a) : (if p a then 1 else 0) ≤ l.countP p := by
  rw [countP_eq_eraseIdx p h]
  cases p a <;> simp

theorem countP_set' {α : Type} (p : α → Bool) {l : List α} {i : Nat} {a : α} (b : α)
    (h : l[i]? = some a) :
    (l.set i b).countP p + (if p a then 1 else 0) = l.countP p + (if p b then 1 else 0) := by
  rw [countP_set_eraseIdx p b h, countP_eq_eraseIdx p h]
  cases p a <;> cases p b <;> simp <;> omega

theorem set_getElem?_self {α : Type} {l : List α} {i : Nat} {a : α} (h : l[i]? = some a) : l.set i a = l := by
  have hlt := getElem?_lt h
  rw [List.getElem?_eq_getElem hlt] at h
  cases h
  exact List.set_getElem_self hlt

end IceProofs.CountP

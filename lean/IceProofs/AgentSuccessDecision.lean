import IceModel.AgentCore
/-!
# The selection decisions of `HandleSuccessResponse` and `isNominatable` as stand-alone model functions

`Agent.handleSuccess` has the decision of both selectors inline (the `answeredNomination` rule of the controlling
selector; the deferred-nomination switch of the controlled selector).  They are written here as functions of
their inputs (`ctlSuccessDecision`, `cldSuccessDecision`) and proved equal to the inline code
(`handleSuccess_nf`); `IceTie/AgentSuccess.lean` proves the effect lists regenerated from selection.go equal to
these functions for all arguments.  Core-only, so that the model proofs do not depend on regenerated files.
-/
namespace IceProofs.Agent
open IceModel.AgentCore

/-- Controlling selector, success response on a found pair: (new `answeredNomination`, select the pair?).
`useCand` / `nom` = the nomination the answered REQUEST carried. -/
def ctlSuccessDecision (useCand : Bool) (nom answered : Option Nat) (hasSelected : Bool) : Option Nat × Bool :=
  if useCand then
    match nom with
    | some v =>
      match answered with
      | some w => if v ≤ w then (answered, false) else (some v, true)
      | none => (some v, true)
    | none => (answered, !hasSelected)
  else (answered, false)

/-- Controlled selector, success response on a pair with a deferred nomination (`nominateOnBindingSuccess`):
select the pair?  `deferred` = `deferredNominationValue`, `last` = `lastNomination`. -/
def cldSuccessDecision (deferred last : Option Nat) (hasSelected samePair needsPrio : Bool)
    (selPrio pairPrio : Nat) : Bool :=
  match deferred with
  | some v =>
    match last with
    | none => false
    | some l => if v < l then false else !samePair
  | none =>
    if !hasSelected then true
    else if !samePair && last.isSome then false
    else !samePair && (!needsPrio || decide (selPrio ≤ pairPrio))

/-- the inline decision of `handleSuccess` (verbatim copy; `handleSuccess_body` is `rfl`): `a` = the agent after
the pair was marked Succeeded, `p` = the pair as found -/
def inlineSuccessDecide (a : Agent) (pd : Pending) (p : Pair) : Agent × List Out :=
  if a.controlling then
    if pd.useCand then
      match pd.nom with
      | some v =>
        let superseded := match a.answeredNomination with | none => false | some w => v ≤ w
        if superseded then (a, [])
        else ({ a with answeredNomination := some v }).select p.id
      | none => if a.selected.isNone then a.select p.id else (a, [])
    else (a, [])
  else
    if p.nomOnSuccess then
      let (a, o) : Agent × List Out :=
        match p.deferredNom with
        | some v =>
          let superseded := match a.lastNomination with | none => true | some last => v < last
          if superseded then (a, [])
          else if a.selected != some p.id then a.select p.id else (a, [])
        | none =>
          match a.selected.bind a.pairById with
          | none => a.select p.id
          | some sp =>
            if sp.id != p.id && a.lastNomination.isSome then (a, [])
            else if sp.id != p.id && (!needsPrioCheck a.cfg || a.pairPrio sp ≤ a.pairPrio p) then a.select p.id
            else (a, [])
      (a.modPair p.id fun p => { p with nomOnSuccess := false, deferredNom := none }, o)
    else (a, [])

theorem handleSuccess_body (a : Agent) (now : Nat) (m : Msg) (l r : Cand) (src : Nat) :
    a.handleSuccess now m l r src =
      match (a.takePending now m.tid).2 with
      | none => ((a.takePending now m.tid).1, [])
      | some pd =>
        if !(pd.net == l.net && pd.dest == src && pd.src == l.addr) then ((a.takePending now m.tid).1, [])
        else
          match (a.takePending now m.tid).1.findPair l r with
          | none => ((a.takePending now m.tid).1, [])
          | some p =>
            let d := inlineSuccessDecide ((a.takePending now m.tid).1.modPair p.id fun p =>
                { p with state := .succeeded, gResp := true, gRespUC := p.gRespUC || pd.useCand }) pd p
            (d.1.modPair p.id (Pair.gotResponse now pd.ts), d.2) := by
  unfold Agent.handleSuccess inlineSuccessDecide
  rfl

/-- the atoms of the controlled decision, as the model instantiates them: with a deferred VALUE the code compares
the selected pair with the pair (`a.selected != some p.id`); without one it first looks the selected pair up -/
def cldAtoms (a : Agent) (p : Pair) : Bool × Bool × Nat :=
  match p.deferredNom with
  | some _ => (a.selected.isSome, a.selected == some p.id, 0)
  | none =>
    match a.selected.bind a.pairById with
    | none => (false, false, 0)
    | some sp => (true, sp.id == p.id, a.pairPrio sp)

/-- the decision of `handleSuccess` in terms of the stand-alone functions -/
def successDecide (a : Agent) (pd : Pending) (p : Pair) : Agent × List Out :=
  if a.controlling then
    let d := ctlSuccessDecision pd.useCand pd.nom a.answeredNomination a.selected.isSome
    if d.2 then ({ a with answeredNomination := d.1 }).select p.id else (a, [])
  else
    if p.nomOnSuccess then
      let atoms := cldAtoms a p
      let sel := cldSuccessDecision p.deferredNom a.lastNomination atoms.1 atoms.2.1 (needsPrioCheck a.cfg) atoms.2.2
        (a.pairPrio p)
      let ao : Agent × List Out := if sel then a.select p.id else (a, [])
      (ao.1.modPair p.id fun p => { p with nomOnSuccess := false, deferredNom := none }, ao.2)
    else (a, [])

theorem ctl_reject_fst (useCand : Bool) (nom answered : Option Nat) (hs : Bool)
    (h : (ctlSuccessDecision useCand nom answered hs).2 = false) :
    (ctlSuccessDecision useCand nom answered hs).1 = answered := by
  unfold ctlSuccessDecision at h ⊢
  cases useCand <;> cases nom <;> cases answered <;> simp at h ⊢
  all_goals (split <;> simp_all)

theorem answered_eta (a : Agent) : { a with answeredNomination := a.answeredNomination } = a := rfl

theorem inlineSuccessDecide_eq (a : Agent) (pd : Pending) (p : Pair) :
    inlineSuccessDecide a pd p = successDecide a pd p := by
  unfold inlineSuccessDecide successDecide
  by_cases hc : a.controlling = true
  · -- controlling
    rw [if_pos hc, if_pos hc]
    unfold ctlSuccessDecision
    cases hu : pd.useCand
    · simp
    · simp only [if_true]
      cases hn : pd.nom with
      | none =>
        by_cases hs : a.selected.isNone = true
        · have : a.selected.isSome = false := by cases h : a.selected <;> simp_all
          simp [hs, this]
        · have : a.selected.isSome = true := by cases h : a.selected <;> simp_all
          simp [hs, this]
      | some v =>
        cases ha : a.answeredNomination with
        | none => simp
        | some w => by_cases hv : v ≤ w <;> simp [hv]
  · -- controlled
    rw [if_neg hc, if_neg hc]
    cases hn : p.nomOnSuccess
    · rfl
    · simp only [if_true]
      unfold cldAtoms cldSuccessDecision
      cases hd : p.deferredNom with
      | some v =>
        cases hl : a.lastNomination with
        | none => simp
        | some last =>
          by_cases hv : v < last
          · simp [hv]
          · by_cases hs : a.selected = some p.id <;> simp [hv, hs]
      | none =>
        cases hb : a.selected.bind a.pairById with
        | none => simp
        | some sp =>
          cases hl : a.lastNomination.isSome <;> by_cases hs : sp.id = p.id <;>
            cases hp : needsPrioCheck a.cfg <;> by_cases hq : a.pairPrio sp ≤ a.pairPrio p <;> simp [hs, hq]

theorem handleSuccess_nf (a : Agent) (now : Nat) (m : Msg) (l r : Cand) (src : Nat) :
    a.handleSuccess now m l r src =
      match (a.takePending now m.tid).2 with
      | none => ((a.takePending now m.tid).1, [])
      | some pd =>
        if !(pd.net == l.net && pd.dest == src && pd.src == l.addr) then ((a.takePending now m.tid).1, [])
        else
          match (a.takePending now m.tid).1.findPair l r with
          | none => ((a.takePending now m.tid).1, [])
          | some p =>
            let d := successDecide ((a.takePending now m.tid).1.modPair p.id fun p =>
                { p with state := .succeeded, gResp := true, gRespUC := p.gRespUC || pd.useCand }) pd p
            (d.1.modPair p.id (Pair.gotResponse now pd.ts), d.2) := by
  rw [handleSuccess_body]
  simp only [inlineSuccessDecide_eq]

/-- `controllingSelector.isNominatable` as a function of the candidate type code, the time since the selector
started and the four waits -/
def nominatableAt (ty elapsed hostWait srflxWait prflxWait relayWait : Nat) : Bool :=
  if ty == 1 then decide (elapsed ≥ hostWait) else if ty == 2 then decide (elapsed ≥ srflxWait)
  else if ty == 3 then decide (elapsed ≥ prflxWait) else if ty == 4 then decide (elapsed ≥ relayWait) else false

theorem nominatable_inline (a : Agent) (now : Nat) (c : Cand) :
    a.nominatable now c
      = nominatableAt c.ty (now - a.selStart) a.cfg.hostWait a.cfg.srflxWait a.cfg.prflxWait a.cfg.relayWait := by
  unfold Agent.nominatable Config.waitFor nominatableAt
  by_cases h1 : c.ty = 1 <;> by_cases h2 : c.ty = 2 <;> by_cases h3 : c.ty = 3 <;> by_cases h4 : c.ty = 4 <;>
    simp [h1, h2, h3, h4]

end IceProofs.Agent

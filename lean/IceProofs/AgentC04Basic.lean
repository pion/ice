import IceProofs.Basic
import IceProofs.AgentRulesTimers
import IceProofs.AgentRulesCand
/-!
# C04 — basic vocabulary: notification traces, paths, frames, and the "quiet" functions of AgentCore

`states o` = the `cbState` notifications inside an output list, in order.  `pathFrom R s l` = the list `l`
is a path of the relation `R` starting at `s`; `endState s l` = where it ends.  `Frame a a'` collects the
fields that almost no function touches; `Quiet a a'` adds `connState`, `selected`,
`checkingStart` and `lastSeen`.
-/
namespace IceProofs.AgentC04
open IceModel.AgentCore

def states : List Out → List ConnState
  | [] => []
  | .cbState s :: r => s :: states r
  | .dgram _ _ _ :: r => states r
  | .data _ _ _ :: r => states r
  | .cbPair _ _ :: r => states r
  | .cbCand _ :: r => states r
  | .res _ :: r => states r

@[simp] theorem states_nil : states [] = [] := rfl

@[simp] theorem states_append (o o' : List Out) : states (o ++ o') = states o ++ states o' := by
  induction o with
  | nil => rfl
  | cons x r ih => cases x <;> simp [states, ih]

@[simp] theorem states_cbState (s : ConnState) : states [.cbState s] = [s] := rfl
@[simp] theorem states_res (s : String) : states [.res s] = [] := rfl
@[simp] theorem states_cbPair (x y : Nat) : states [.cbPair x y] = [] := rfl
@[simp] theorem states_dgram (x y : Nat) (m : Msg) : states [.dgram x y m] = [] := rfl

theorem mem_states {o : List Out} {s : ConnState} : s ∈ states o ↔ Out.cbState s ∈ o := by
  induction o with
  | nil => simp
  | cons x r ih => cases x <;> simp [states, ih]

def pathFrom (R : ConnState → ConnState → Bool) : ConnState → List ConnState → Bool
  | _, [] => true
  | s, t :: r => R s t && pathFrom R t r

def endState (s : ConnState) : List ConnState → ConnState
  | [] => s
  | t :: r => endState t r

@[simp] theorem endState_nil (s : ConnState) : endState s [] = s := rfl
@[simp] theorem pathFrom_nil (R) (s : ConnState) : pathFrom R s [] = true := rfl

theorem endState_append (s : ConnState) (l l' : List ConnState) :
    endState s (l ++ l') = endState (endState s l) l' := by
  induction l generalizing s with
  | nil => rfl
  | cons t r ih => simp [endState, ih]

theorem pathFrom_append (R) (s : ConnState) (l l' : List ConnState) :
    pathFrom R s (l ++ l') = (pathFrom R s l && pathFrom R (endState s l) l') := by
  induction l generalizing s with
  | nil => simp
  | cons t r ih => simp [pathFrom, endState, ih, Bool.and_assoc]

theorem pathFrom_mono {R R' : ConnState → ConnState → Bool} (h : ∀ p n, R p n = true → R' p n = true)
    (s : ConnState) (l : List ConnState) (hp : pathFrom R s l = true) : pathFrom R' s l = true := by
  induction l generalizing s with
  | nil => rfl
  | cons t r ih =>
    simp only [pathFrom, Bool.and_eq_true] at hp ⊢
    exact ⟨h _ _ hp.1, ih _ hp.2⟩

theorem endState_mem_or (s : ConnState) (l : List ConnState) : (l = [] ∧ endState s l = s) ∨ endState s l ∈ l := by
  induction l generalizing s with
  | nil => left; exact ⟨rfl, rfl⟩
  | cons t r ih =>
    right
    rcases ih t with ⟨h1, h2⟩ | h
    · simp [endState, h1]
    · simp [endState, h]

/-- fields no function but `start` / `close` / `addLocalCandidate` touches -/
structure Frame (a a' : Agent) : Prop where
  cfg : a'.cfg = a.cfg
  closed : a'.closed = a.closed
  started : a'.started = a.started
  ctimeout : a'.checkingTimeout = a.checkingTimeout
  locals_nil : a.locals = [] → a'.locals = []

theorem Frame.refl (a : Agent) : Frame a a := ⟨rfl, rfl, rfl, rfl, fun h => h⟩

theorem Frame.trans {a b c : Agent} (h1 : Frame a b) (h2 : Frame b c) : Frame a c :=
  ⟨h2.cfg.trans h1.cfg, h2.closed.trans h1.closed, h2.started.trans h1.started, h2.ctimeout.trans h1.ctimeout,
   fun h => h2.locals_nil (h1.locals_nil h)⟩

/-- a function that neither changes the connection state nor the selection -/
structure Quiet (a a' : Agent) : Prop where
  frame : Frame a a'
  connState : a'.connState = a.connState
  selected : a'.selected = a.selected
  cstart : a'.checkingStart = a.checkingStart
  lastSeen : a'.lastSeen = a.lastSeen

theorem Quiet.refl (a : Agent) : Quiet a a := ⟨Frame.refl a, rfl, rfl, rfl, rfl⟩

theorem Quiet.trans {a b c : Agent} (h1 : Quiet a b) (h2 : Quiet b c) : Quiet a c :=
  ⟨h1.frame.trans h2.frame, h2.connState.trans h1.connState, h2.selected.trans h1.selected,
   h2.cstart.trans h1.cstart, h2.lastSeen.trans h1.lastSeen⟩

def Quiet.fields (a : Agent) :=
  (a.cfg, a.closed, a.started, a.checkingTimeout, a.locals, a.connState, a.selected, a.checkingStart, a.lastSeen)

theorem Quiet.of_fields {a b : Agent} (h : Quiet.fields b = Quiet.fields a) : Quiet a b := by
  simp only [Quiet.fields, Prod.mk.injEq] at h
  obtain ⟨h1, h2, h3, h4, h5, h6, h7, h8, h9⟩ := h
  exact ⟨⟨h1, h2, h3, h4, fun h => h5.trans h⟩, h6, h7, h8, h9⟩

def QuietO (a : Agent) (r : Agent × List Out) : Prop := Quiet a r.1 ∧ states r.2 = []

theorem QuietO.refl (a : Agent) : QuietO a (a, []) := ⟨Quiet.refl a, rfl⟩

theorem QuietO.trans {a : Agent} {r r' : Agent × List Out} (h1 : QuietO a r) (h2 : QuietO r.1 r') :
    QuietO a (r'.1, r.2 ++ r'.2) :=
  ⟨h1.1.trans h2.1, by simp [h1.2, h2.2]⟩

theorem QuietO.then_quiet {a : Agent} {r : Agent × List Out} {c : Agent} (h : QuietO a r) (q : Quiet r.1 c) : QuietO a (c, r.2) :=
  ⟨h.1.trans q, h.2⟩

theorem QuietO.after_quiet {a b : Agent} {r : Agent × List Out} (q : Quiet a b) (h : QuietO b r) : QuietO a r :=
  ⟨q.trans h.1, h.2⟩

theorem updCand_nil (uid : Nat) (f : Cand → Cand) : updCand [] uid f = [] := rfl

theorem modPair_quiet (a : Agent) (id : Nat) (f : Pair → Pair) : Quiet a (a.modPair id f) :=
  .of_fields rfl

theorem seenLocalSent_quiet (a : Agent) (uid now : Nat) : Quiet a (a.seenLocalSent uid now) :=
  ⟨⟨rfl, rfl, rfl, rfl, fun h => by simp [Agent.seenLocalSent, h, updCand]⟩, rfl, rfl, rfl, rfl⟩

theorem requestCheck_quiet (a : Agent) : Quiet a a.requestCheck := .of_fields rfl

theorem resetSelector_quiet (a : Agent) (now : Nat) : Quiet a (a.resetSelector now) :=
  .of_fields rfl

theorem addPair_quiet (a : Agent) (l r : Cand) : Quiet a (a.addPair l r).1 :=
  .of_fields rfl

theorem sendRequest_quiet (a : Agent) (now : Nat) (l r : Cand) (uc : Bool) (nom : Option Nat) :
    QuietO a (a.sendRequest now l r uc nom) := by
  unfold Agent.sendRequest
  simp only
  refine ⟨?_, rfl⟩
  refine Quiet.trans ?_ (seenLocalSent_quiet _ _ _)
  split
  · exact .of_fields rfl
  · exact .of_fields rfl

theorem ping_quiet (a : Agent) (now : Nat) (l r : Cand) : QuietO a (a.ping now l r) :=
  sendRequest_quiet a now l r false none

theorem pingAll_quiet (a : Agent) (now : Nat) : QuietO a (a.pingAll now) :=
  Agent.pingAll_closed (P := QuietO a) a now (QuietO.refl a) (fun b _ id h => h.then_quiet (modPair_quiet b id _))
    (fun b _ id h => h.then_quiet (modPair_quiet b id _))
    fun b _ id l r h => (h.trans (ping_quiet b now l r)).then_quiet (modPair_quiet _ id _)

/-- `Quiet` without the clause about `locals` (for `addLocalCandidate`) -/
structure Same (a a' : Agent) : Prop where
  cfg : a'.cfg = a.cfg
  closed : a'.closed = a.closed
  started : a'.started = a.started
  ctimeout : a'.checkingTimeout = a.checkingTimeout
  connState : a'.connState = a.connState
  selected : a'.selected = a.selected
  cstart : a'.checkingStart = a.checkingStart
  lastSeen : a'.lastSeen = a.lastSeen

theorem Quiet.same {a a' : Agent} (q : Quiet a a') : Same a a' :=
  ⟨q.frame.cfg, q.frame.closed, q.frame.started, q.frame.ctimeout, q.connState, q.selected, q.cstart, q.lastSeen⟩

theorem Same.trans {a b c : Agent} (h1 : Same a b) (h2 : Same b c) : Same a c :=
  ⟨h2.cfg.trans h1.cfg, h2.closed.trans h1.closed, h2.started.trans h1.started, h2.ctimeout.trans h1.ctimeout,
   h2.connState.trans h1.connState, h2.selected.trans h1.selected, h2.cstart.trans h1.cstart, h2.lastSeen.trans h1.lastSeen⟩

theorem addLocalCandidate_same (a : Agent) (c : Cand) :
    Same a (a.addLocalCandidate c).1 ∧ states (a.addLocalCandidate c).2 = [] := by
  unfold Agent.addLocalCandidate
  simp only
  split
  · exact ⟨(Quiet.refl a).same, rfl⟩
  · split
    · exact ⟨(Quiet.refl a).same, rfl⟩
    · refine ⟨?_, rfl⟩
      refine Same.trans ?_ (requestCheck_quiet _).same
      refine List.foldl_inv (fun b => Same a b) _ _ _ ⟨rfl, rfl, rfl, rfl, rfl, rfl, rfl, rfl⟩ ?_
      intro b r hb
      exact hb.trans (addPair_quiet _ _ _).same

end IceProofs.AgentC04

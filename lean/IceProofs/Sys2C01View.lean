import IceModel.AgentCore
import IceProofs.AgentLookups
/-!
# C01, layer 1 — the part of an agent's state the reachability argument looks at (`View`), the
per-agent invariant `AInv` over a view and a ghost log of the agent's own Binding requests, and the
view-level preservation lemmas (pure list reasoning, no model function involved).
-/
namespace IceProofs.C01
open IceModel.AgentCore

/-- ghost log of emitted Binding requests: `(tid, from address, to address)`. -/
abbrev Log := List (Nat × Nat × Nat)

def reqOf : Out → Option (Nat × Nat × Nat)
  | .dgram f t m => if m.cls = 0 then some (m.tid, f, t) else none
  | _ => none

/-- the Binding REQUEST datagrams among some outputs. -/
def reqs (o : List Out) : Log := o.filterMap reqOf

@[simp] theorem reqs_nil : reqs [] = [] := rfl
@[simp] theorem reqs_append (o1 o2 : List Out) : reqs (o1 ++ o2) = reqs o1 ++ reqs o2 := by
  simp [reqs, List.filterMap_append]

structure CV where
  uid : Nat
  addr : Nat
  deriving DecidableEq, Repr

structure PV where
  id : Nat
  l : Nat
  r : Nat
  succ : Bool
  /-- ghost `gResp`: a transaction-matched success response arrived on the pair -/
  resp : Bool
  deriving DecidableEq, Repr

def cv (c : Cand) : CV := ⟨c.uid, c.addr⟩
def pv (p : Pair) : PV := ⟨p.id, p.l, p.r, p.state == .succeeded, p.gResp⟩
/-- a pending transaction as a log entry: `(tid, source address, destination address)` -/
def pdv (p : Pending) : Nat × Nat × Nat := (p.tid, p.src, p.dest)
def isLive (s : ConnState) : Bool := s == .connected || s == .disconnected

structure View where
  tag : Nat
  lite : Bool
  nextTid : Nat
  nextUid : Nat
  nextPairID : Nat
  pend : List (Nat × Nat × Nat)
  locs : List CV
  rems : List CV
  pairs : List PV
  sel : Option Nat
  live : Bool

def view (a : Agent) : View :=
  { tag := a.tag, lite := a.cfg.lite, nextTid := a.nextTid, nextUid := a.nextUid, nextPairID := a.nextPairID,
    pend := a.pending.map pdv, locs := a.locals.map cv, rems := a.remotes.map cv,
    pairs := a.checklist.map pv, sel := a.selected, live := isLive a.connState }

/-- address of the first candidate with this uid. -/
def addrOf (l : List CV) (u : Nat) : Option Nat := (l.find? (·.uid == u)).map (·.addr)

theorem addrOf_view (l : List Cand) (u : Nat) : addrOf (l.map cv) u = (findCand l u).map (·.addr) := by
  unfold addrOf findCand
  rw [List.find?_map]
  cases h : List.find? ((fun x => x.uid == u) ∘ cv) l <;>
    (have : ((fun (x : CV) => x.uid == u) ∘ cv) = (fun (c : Cand) => c.uid == u) := rfl
     rw [this] at h; simp [h, cv])

theorem addrOf_append_fresh (l : List CV) (c : CV) (u : Nat) (h : u ≠ c.uid) :
    addrOf (l ++ [c]) u = addrOf l u := by
  unfold addrOf
  rw [List.find?_append]
  cases List.find? (fun x => x.uid == u) l with
  | some x => simp
  | none =>
    have hb : (c.uid == u) = false := by simp; exact fun e => h e.symm
    simp [hb]

theorem addrOf_some_mem {l : List CV} {u x : Nat} (h : addrOf l u = some x) : ∃ c ∈ l, c.uid = u ∧ c.addr = x := by
  unfold addrOf at h
  cases hf : List.find? (fun c => c.uid == u) l with
  | none => simp [hf] at h
  | some c =>
    simp [hf] at h
    have h1 := List.find?_some hf
    exact ⟨c, List.mem_of_find?_eq_some hf, by simpa using h1, h⟩

theorem addrOf_of_mem_uniq {l : List CV} (hu : l.Pairwise (fun x y => x.uid ≠ y.uid)) {c : CV} (hc : c ∈ l) :
    addrOf l c.uid = some c.addr := by
  induction l with
  | nil => cases hc
  | cons d l ih =>
    rw [List.pairwise_cons] at hu
    unfold addrOf
    by_cases hd : d.uid = c.uid
    · have : d = c := by
        rcases List.mem_cons.mp hc with h | h
        · exact h.symm
        · exact absurd hd (hu.1 c h)
      simp [this]
    · rcases List.mem_cons.mp hc with h | h
      · exact absurd (by rw [h]) hd
      · have := ih hu.2 h
        unfold addrOf at this
        have hb : (d.uid == c.uid) = false := by simp [hd]
        simp only [List.find?_cons, hb]
        exact this

theorem addrOf_sub {l l' : List CV} (hu : l.Pairwise (fun x y => x.uid ≠ y.uid)) (hsub : ∀ c ∈ l', c ∈ l) {u x : Nat}
    (h : addrOf l' u = some x) : addrOf l u = some x := by
  obtain ⟨c, hc, hcu, hcx⟩ := addrOf_some_mem h
  have := addrOf_of_mem_uniq hu (hsub c hc)
  rw [hcu, hcx] at this
  exact this

section
variable (Good : Nat → Nat → Prop) (Sane SaneR : Nat → Prop) (tag : Nat) (lite : Bool)

/-- the per-agent invariant (`L` = the agent's own logged Binding requests). -/
structure AInv (v : View) (L : Log) : Prop where
  tag_eq : v.tag = tag
  lite_eq : v.lite = lite
  /-- K1: logged tids were issued by this agent's counter … -/
  logOK : ∀ e ∈ L, ∃ n, n < v.nextTid ∧ e.1 = 2 * n + tag
  /-- … and are pairwise distinct (the log is a function of the tid) -/
  logFun : ∀ e1 ∈ L, ∀ e2 ∈ L, e1.1 = e2.1 → e1 = e2
  /-- requests leave from NAT-sane local addresses -/
  logSane : ∀ e ∈ L, Sane e.2.1
  /-- … to admissible remote addresses -/
  logSaneR : ∀ e ∈ L, SaneR e.2.2
  /-- K3: every pending transaction is a logged request from the recorded source to the recorded destination -/
  pendOK : ∀ pd ∈ v.pend, pd ∈ L
  locSane : ∀ c ∈ v.locs, Sane c.addr
  remSane : ∀ c ∈ v.rems, SaneR c.addr
  uidL : ∀ c ∈ v.locs, c.uid < v.nextUid
  uidR : ∀ c ∈ v.rems, c.uid < v.nextUid
  uniqR : v.rems.Pairwise (fun x y => x.uid ≠ y.uid)
  pairId : ∀ p ∈ v.pairs, p.id ≤ v.nextPairID
  pairUniq : v.pairs.Pairwise (fun p q => p.id ≠ q.id)
  pairUid : ∀ p ∈ v.pairs, p.l < v.nextUid ∧ p.r < v.nextUid
  /-- K4: a succeeded pair of a full agent lies on a `Good` address pair -/
  succOK : lite = false → ∀ p ∈ v.pairs, p.succ = true →
    ∃ la ra, Good la ra ∧ (∀ x, addrOf v.locs p.l = some x → x = la) ∧ (∀ x, addrOf v.rems p.r = some x → x = ra)
  /-- K5: a pair with a transaction-matched success response (ghost `gResp`; lite or full agent) had a request
  of this agent logged from ITS local address to ITS remote address -/
  respOK : ∀ p ∈ v.pairs, p.resp = true →
    ∃ e ∈ L, (∀ x, addrOf v.locs p.l = some x → x = e.2.1) ∧ (∀ x, addrOf v.rems p.r = some x → x = e.2.2)
  /-- the selected pair is listed and succeeded -/
  selOK : ∀ id, v.sel = some id → ∃ p ∈ v.pairs, p.id = id ∧ p.succ = true
  /-- Connected / Disconnected only with a selected pair -/
  connOK : v.live = true → v.sel.isSome

variable {Good Sane SaneR tag lite}

theorem AInv.anyGood {v : View} {L : Log} (h : AInv Good Sane SaneR tag lite v L) (hl : lite = false)
    {id : Nat} (hs : v.sel = some id) : ∃ la ra, Good la ra := by
  obtain ⟨p, hp, _, hsucc⟩ := h.selOK id hs
  obtain ⟨la, ra, hg, _⟩ := h.succOK hl p hp hsucc
  exact ⟨la, ra, hg⟩

theorem AInv.pendSub {v : View} {L : Log} (h : AInv Good Sane SaneR tag lite v L) (pend' : List (Nat × Nat × Nat))
    (hsub : ∀ x ∈ pend', x ∈ v.pend) : AInv Good Sane SaneR tag lite { v with pend := pend' } L :=
  { h with pendOK := fun pd hpd => h.pendOK pd (hsub pd hpd) }

theorem AInv.addReq {v : View} {L : Log} (h : AInv Good Sane SaneR tag lite v L) (pend' : List (Nat × Nat × Nat))
    (hsub : ∀ x ∈ pend', x ∈ v.pend) (f dest : Nat) (hf : Sane f) (hd : SaneR dest) :
    AInv Good Sane SaneR tag lite { v with nextTid := v.nextTid + 1, pend := pend' ++ [(2 * v.nextTid + v.tag, f, dest)] }
      (L ++ [(2 * v.nextTid + v.tag, f, dest)]) := by
  have htag := h.tag_eq
  refine { h with logOK := ?_, logFun := ?_, logSane := ?_, logSaneR := ?_, pendOK := ?_, respOK := ?_ }
  · intro e he
    rcases List.mem_append.mp he with he | he
    · obtain ⟨n, hn, hen⟩ := h.logOK e he
      exact ⟨n, Nat.lt_succ_of_lt hn, hen⟩
    · rw [List.mem_singleton.mp he]
      exact ⟨v.nextTid, Nat.lt_succ_self _, htag ▸ rfl⟩
  · intro e1 h1 e2 h2 heq
    rcases List.mem_append.mp h1 with h1 | h1 <;> rcases List.mem_append.mp h2 with h2 | h2
    · exact h.logFun e1 h1 e2 h2 heq
    · obtain ⟨n, hn, hen⟩ := h.logOK e1 h1
      rw [List.mem_singleton.mp h2] at heq; simp only [htag] at heq; omega
    · obtain ⟨n, hn, hen⟩ := h.logOK e2 h2
      rw [List.mem_singleton.mp h1] at heq; simp only [htag] at heq; omega
    · rw [List.mem_singleton.mp h1, List.mem_singleton.mp h2]
  · intro e he
    rcases List.mem_append.mp he with he | he
    · exact h.logSane e he
    · rw [List.mem_singleton.mp he]; exact hf
  · intro e he
    rcases List.mem_append.mp he with he | he
    · exact h.logSaneR e he
    · rw [List.mem_singleton.mp he]; exact hd
  · intro pd hpd
    rcases List.mem_append.mp hpd with hpd | hpd
    · exact List.mem_append_left _ (h.pendOK pd (hsub pd hpd))
    · exact List.mem_append_right _ hpd
  · intro p hp hr
    obtain ⟨e, he, h1, h2⟩ := h.respOK p hp hr
    exact ⟨e, List.mem_append_left _ he, h1, h2⟩

theorem AInv.wipe {v : View} {L : Log} (h : AInv Good Sane SaneR tag lite v L) :
    AInv Good Sane SaneR tag lite { v with pend := [], locs := [], rems := [], pairs := [], sel := none, live := false } L :=
  { h with pendOK := nofun, locSane := nofun, remSane := nofun, uidL := nofun, uidR := nofun, uniqR := .nil, pairId := nofun,
           pairUniq := .nil, pairUid := nofun, succOK := fun _ => nofun, respOK := nofun, selOK := nofun, connOK := nofun }

/-- The candidate lists change, and the uid counter may grow, in such a way that whatever the uids of a listed pair
resolve to afterwards they resolved to before: what is claimed of the resolutions stays true. -/
theorem AInv.cands {v : View} {L : Log} (h : AInv Good Sane SaneR tag lite v L) (n : Nat) (locs rems : List CV)
    (hn : v.nextUid ≤ n) (hls : ∀ c ∈ locs, Sane c.addr) (hrs : ∀ c ∈ rems, SaneR c.addr) (hlu : ∀ c ∈ locs, c.uid < n)
    (hru : ∀ c ∈ rems, c.uid < n) (huniq : rems.Pairwise (fun x y => x.uid ≠ y.uid))
    (hl : ∀ p ∈ v.pairs, ∀ x, addrOf locs p.l = some x → addrOf v.locs p.l = some x)
    (hr : ∀ p ∈ v.pairs, ∀ x, addrOf rems p.r = some x → addrOf v.rems p.r = some x) :
    AInv Good Sane SaneR tag lite { v with nextUid := n, locs := locs, rems := rems } L :=
  { h with
    locSane := hls, remSane := hrs, uidL := hlu, uidR := hru, uniqR := huniq
    pairUid := fun p hp => ⟨Nat.lt_of_lt_of_le (h.pairUid p hp).1 hn, Nat.lt_of_lt_of_le (h.pairUid p hp).2 hn⟩
    succOK := fun hlite p hp hs =>
      let ⟨la, ra, hg, h1, h2⟩ := h.succOK hlite p hp hs
      ⟨la, ra, hg, fun x hx => h1 x (hl p hp x hx), fun x hx => h2 x (hr p hp x hx)⟩
    respOK := fun p hp hs =>
      let ⟨e, he, h1, h2⟩ := h.respOK p hp hs
      ⟨e, he, fun x hx => h1 x (hl p hp x hx), fun x hx => h2 x (hr p hp x hx)⟩ }

theorem AInv.close {v : View} {L : Log} (h : AInv Good Sane SaneR tag lite v L) :
    AInv Good Sane SaneR tag lite { v with locs := [], rems := [] } L :=
  h.cands v.nextUid [] [] (Nat.le_refl _) nofun nofun nofun nofun .nil (fun _ _ _ hx => nomatch hx) (fun _ _ _ hx => nomatch hx)

theorem AInv.setLive {v : View} {L : Log} (h : AInv Good Sane SaneR tag lite v L) (b : Bool)
    (hb : b = true → v.sel.isSome) : AInv Good Sane SaneR tag lite { v with live := b } L :=
  { h with connOK := hb }

theorem AInv.select {v : View} {L : Log} (h : AInv Good Sane SaneR tag lite v L) (id : Nat) (b : Bool)
    (hp : ∃ p ∈ v.pairs, p.id = id ∧ p.succ = true) :
    AInv Good Sane SaneR tag lite { v with sel := some id, live := b } L :=
  { h with selOK := fun _ hid => Option.some.inj hid ▸ hp, connOK := fun _ => rfl }

theorem AInv.addLocal {v : View} {L : Log} (h : AInv Good Sane SaneR tag lite v L) (addr : Nat) (hs : Sane addr) :
    AInv Good Sane SaneR tag lite { v with nextUid := v.nextUid + 1, locs := v.locs ++ [⟨v.nextUid, addr⟩] } L := by
  refine h.cands (v.nextUid + 1) _ v.rems (Nat.le_succ _) ?_ h.remSane ?_ (fun c hc => Nat.lt_succ_of_lt (h.uidR c hc)) h.uniqR
    ?_ (fun _ _ _ hx => hx)
  · intro c hc
    rcases List.mem_append.mp hc with hc | hc
    · exact h.locSane c hc
    · rw [List.mem_singleton.mp hc]; exact hs
  · intro c hc
    rcases List.mem_append.mp hc with hc | hc
    · exact Nat.lt_succ_of_lt (h.uidL c hc)
    · rw [List.mem_singleton.mp hc]; exact Nat.lt_succ_self _
  · intro p hp x hx
    rwa [addrOf_append_fresh _ _ _ (Nat.ne_of_lt (h.pairUid p hp).1)] at hx

theorem AInv.addRemote {v : View} {L : Log} (h : AInv Good Sane SaneR tag lite v L) (addr : Nat) (hs : SaneR addr) :
    AInv Good Sane SaneR tag lite { v with nextUid := v.nextUid + 1, rems := v.rems ++ [⟨v.nextUid, addr⟩] } L := by
  refine h.cands (v.nextUid + 1) v.locs _ (Nat.le_succ _) h.locSane ?_ (fun c hc => Nat.lt_succ_of_lt (h.uidL c hc)) ?_ ?_
    (fun _ _ _ hx => hx) ?_
  · intro c hc
    rcases List.mem_append.mp hc with hc | hc
    · exact h.remSane c hc
    · rw [List.mem_singleton.mp hc]; exact hs
  · intro c hc
    rcases List.mem_append.mp hc with hc | hc
    · exact Nat.lt_succ_of_lt (h.uidR c hc)
    · rw [List.mem_singleton.mp hc]; exact Nat.lt_succ_self _
  · rw [List.pairwise_append]
    refine ⟨h.uniqR, List.pairwise_singleton _ _, ?_⟩
    intro x hx y hy
    rw [List.mem_singleton.mp hy]
    exact Nat.ne_of_lt (h.uidR x hx)
  · intro p hp x hx
    rwa [addrOf_append_fresh _ _ _ (Nat.ne_of_lt (h.pairUid p hp).2)] at hx

theorem AInv.dropRemotes {v : View} {L : Log} (h : AInv Good Sane SaneR tag lite v L) {rems : List CV}
    (hs : rems.Sublist v.rems) : AInv Good Sane SaneR tag lite { v with rems := rems } L :=
  h.cands v.nextUid v.locs rems (Nat.le_refl _) h.locSane (fun c hc => h.remSane c (hs.subset hc)) h.uidL
    (fun c hc => h.uidR c (hs.subset hc)) (h.uniqR.sublist hs) (fun _ _ _ hx => hx)
    fun _ _ _ hx => addrOf_sub h.uniqR (fun _ hc => hs.subset hc) hx

theorem AInv.addPair {v : View} {L : Log} (h : AInv Good Sane SaneR tag lite v L) (lu ru : Nat)
    (hl : lu < v.nextUid) (hr : ru < v.nextUid) :
    AInv Good Sane SaneR tag lite { v with nextPairID := v.nextPairID + 1, pairs := v.pairs ++ [⟨v.nextPairID + 1, lu, ru, false, false⟩] } L := by
  refine { h with pairId := ?_, pairUniq := ?_, pairUid := ?_, succOK := ?_, respOK := ?_, selOK := ?_ }
  · exact (IceProofs.Agent.issued_snoc (k := PV.id) _ rfl ⟨h.pairId, h.pairUniq⟩).1
  · exact (IceProofs.Agent.issued_snoc (k := PV.id) _ rfl ⟨h.pairId, h.pairUniq⟩).2
  · intro p hp
    rcases List.mem_append.mp hp with hp | hp
    · exact h.pairUid p hp
    · rw [List.mem_singleton.mp hp]; exact ⟨hl, hr⟩
  · intro hlite p hp hsucc
    rcases List.mem_append.mp hp with hp | hp
    · exact h.succOK hlite p hp hsucc
    · rw [List.mem_singleton.mp hp] at hsucc; cases hsucc
  · intro p hp hr
    rcases List.mem_append.mp hp with hp | hp
    · exact h.respOK p hp hr
    · rw [List.mem_singleton.mp hp] at hr; cases hr
  · intro id hid
    obtain ⟨p, hp, h1, h2⟩ := h.selOK id hid
    exact ⟨p, List.mem_append_left _ hp, h1, h2⟩

theorem eq_of_key {α : Type} (k : α → Nat) {l : List α} (hu : l.Pairwise (fun p q => k p ≠ k q)) {p q : α} (hp : p ∈ l)
    (hq : q ∈ l) (h : k p = k q) : p = q := by
  induction l with
  | nil => cases hp
  | cons d l ih =>
    rw [List.pairwise_cons] at hu
    rcases List.mem_cons.mp hp with hp' | hp' <;> rcases List.mem_cons.mp hq with hq' | hq'
    · rw [hp', hq']
    · rw [hp'] at h; exact absurd h (hu.1 q hq')
    · rw [hq'] at h; exact absurd h.symm (hu.1 p hp')
    · exact ih hu.2 hp' hq'

theorem pv_eq_of_id {l : List PV} (hu : l.Pairwise (fun p q => p.id ≠ q.id)) {p q : PV} (hp : p ∈ l) (hq : q ∈ l)
    (h : p.id = q.id) : p = q := eq_of_key PV.id hu hp hq h

/-- the pairs with id `id` are rewritten by `g`, which keeps the id. -/
def updPV (l : List PV) (id : Nat) (g : PV → PV) : List PV := l.map fun p => if p.id == id then g p else p

theorem mem_updPV {l : List PV} {id : Nat} {g : PV → PV} {q : PV} (h : q ∈ updPV l id g) :
    (q ∈ l ∧ q.id ≠ id) ∨ ∃ p ∈ l, p.id = id ∧ q = g p := by
  unfold updPV at h
  obtain ⟨p, hp, hq⟩ := List.mem_map.mp h
  by_cases hid : p.id = id
  · simp [hid] at hq; exact Or.inr ⟨p, hp, hid, hq.symm⟩
  · simp [hid] at hq; subst hq; exact Or.inl ⟨hp, hid⟩

theorem updPV_ids {l : List PV} {id : Nat} {g : PV → PV} (hg : ∀ p, (g p).id = p.id) :
    (updPV l id g).map (·.id) = l.map (·.id) :=
  IceProofs.Agent.map_upd (·.id) _ g l hg

theorem AInv.updPair {v : View} {L : Log} (h : AInv Good Sane SaneR tag lite v L) (id : Nat) (g : PV → PV)
    (hid : ∀ p, (g p).id = p.id) (hl : ∀ p, (g p).l = p.l)
    (hr : ∀ p ∈ v.pairs, p.id = id → (g p).r < v.nextUid)
    (hsucc : lite = false → ∀ p ∈ v.pairs, p.id = id → (g p).succ = true →
      ∃ la ra, Good la ra ∧ (∀ x, addrOf v.locs p.l = some x → x = la) ∧ (∀ x, addrOf v.rems (g p).r = some x → x = ra))
    (hsel : ∀ p ∈ v.pairs, p.id = id → p.succ = true → (g p).succ = true)
    (hresp : ∀ p ∈ v.pairs, p.id = id → (g p).resp = true →
      ∃ e ∈ L, (∀ x, addrOf v.locs p.l = some x → x = e.2.1) ∧ (∀ x, addrOf v.rems (g p).r = some x → x = e.2.2)) :
    AInv Good Sane SaneR tag lite { v with pairs := updPV v.pairs id g } L := by
  refine { h with pairId := ?_, pairUniq := ?_, pairUid := ?_, succOK := ?_, respOK := ?_, selOK := ?_ }
  · exact (IceProofs.Agent.issued_of_keys (k := PV.id) (k' := PV.id) (updPV_ids hid) (Nat.le_refl _) ⟨h.pairId, h.pairUniq⟩).1
  · exact (IceProofs.Agent.issued_of_keys (k := PV.id) (k' := PV.id) (updPV_ids hid) (Nat.le_refl _) ⟨h.pairId, h.pairUniq⟩).2
  · intro q hq
    rcases mem_updPV hq with ⟨hq, _⟩ | ⟨p, hp, hpid, rfl⟩
    · exact h.pairUid q hq
    · rw [hl]; exact ⟨(h.pairUid p hp).1, hr p hp hpid⟩
  · intro hlite q hq hqs
    rcases mem_updPV hq with ⟨hq, _⟩ | ⟨p, hp, hpid, rfl⟩
    · exact h.succOK hlite q hq hqs
    · obtain ⟨la, ra, hg, h1, h2⟩ := hsucc hlite p hp hpid hqs
      exact ⟨la, ra, hg, by rw [hl]; exact h1, h2⟩
  · intro q hq hqr
    rcases mem_updPV hq with ⟨hq, _⟩ | ⟨p, hp, hpid, rfl⟩
    · exact h.respOK q hq hqr
    · obtain ⟨e, he, h1, h2⟩ := hresp p hp hpid hqr
      exact ⟨e, he, by rw [hl]; exact h1, h2⟩
  · intro id' hid'
    obtain ⟨p, hp, hpid, hps⟩ := h.selOK id' hid'
    by_cases he : p.id = id
    · refine ⟨g p, ?_, by rw [hid]; exact hpid, ?_⟩
      · unfold updPV; exact List.mem_map.mpr ⟨p, hp, by simp [he]⟩
      · exact hsel p hp he hps
    · refine ⟨p, ?_, hpid, hps⟩
      unfold updPV; exact List.mem_map.mpr ⟨p, hp, by simp [he]⟩

end
end IceProofs.C01

import IceProofs.AgentC02
import IceProofs.AgentC02Frame
/-!
# C02 at the level of `step`: the quiescence invariant and the transaction-id frame of every event
-/
namespace IceProofs.AgentC02
open IceModel.AgentCore IceProofs.Agent

/-- Quiescence: a running agent has no forced tick waiting.  (`step` runs a forced tick at the end of the
event that requested it, so between events nothing is waiting.) -/
def Q (a : Agent) : Prop := a.started → ¬ a.closed → a.forcePending = false

instance (a : Agent) : Decidable (Q a) := by unfold Q; infer_instance

theorem Q_of_frame {a b : Agent} (h : Frame a b) (q : Q a) : Q b := by
  unfold Q at *
  rw [h.started, h.closed, h.fp]
  exact q

theorem Q_runForced (a : Agent) (now : Nat) : Q (a.runForced now).1 := by
  rcases runForced_cases a now with ⟨h, hn⟩ | ⟨h, _, _⟩
  · rw [h]
    intro h1 h2
    cases hf : a.forcePending with
    | false => rfl
    | true => exact absurd ⟨h1, by simpa using h2, hf⟩ hn
  · intro _ _
    exact h

theorem Q_of_closed {a : Agent} (h : a.closed = true) : Q a := fun _ h2 => absurd h h2

theorem Q_thenForced (x : Agent × List Out) (now : Nat) : Q (thenForced x now).1 := Q_runForced _ _

/-- `Q` is preserved by every event, from ANY state satisfying it: an event that requests a check ends with the forced
tick, every other event leaves `started`, `closed` and `forcePending` alone (or closes the agent). -/
theorem Q_step (a : Agent) (ev : Ev) (q : Q a) : Q (step a ev).1 := by
  cases ev with
  | addLocal now c => rw [step_addLocal]; exact Q_thenForced _ _
  | addRemote now c =>
    exact step_addRemote_rule (Q := fun x => Q x.1) a now c (fun _ => q) q fun _ _ => Q_thenForced _ _
  | start now ctl ru rp =>
    exact step_start_rule (Q := fun x => Q x.1) a now ctl ru rp (fun _ => q) fun _ _ => Q_thenForced _ _
  | setRemoteCreds ru rp => exact step_setRemoteCreds_rule (Q := fun x => Q x.1) a ru rp (fun _ => q) fun _ => q
  | advance now => exact Q_of_frame (frame_runTimers a now _) q
  | inbound now la src m =>
    exact step_inbound_rule (Q := fun x => Q x.1) a now la src m q fun _ _ _ _ => Q_thenForced _ _
  | inboundData now la src len s =>
    exact step_inboundData_rule (Q := fun x => Q x.1) a now la src len s q
      fun _ _ _ l _ => Q_of_frame (frame_steady (.inboundData a now l src len nofun)) q
  | write now len s => exact Q_of_frame (frame_steady (.write a now len s)) q
  | writeToPair now id len s => exact Q_of_frame (frame_steady (.writeToPair a now id len s)) q
  | read cap => exact step_read_rule (Q := fun x => Q x.1) a cap (fun _ => q) fun _ _ _ _ => q
  | renominate now la ri v =>
    exact step_renominate_rule (Q := fun x => Q x.1) a now la ri v (fun _ => q) fun _ _ l r _ _ _ _ =>
      Q_of_frame ((frame_sendRequest a now l r true _).trans (Frame.of_eq rfl)) q
  | restart now u p =>
    refine step_restart_rule (Q := fun x => Q x.1) a now u p (fun _ => q) fun _ => ?_
    rw [doRestart_update]
    exact q
  | close =>
    exact step_close_rule (Q := fun x => Q x.1) a (fun _ => q) fun _ => Q_of_closed (frame_setConnState _ _).closed

theorem tid_step (a : Agent) (ev : Ev) : TidFrame a (step a ev).1 := tid_chain (step_chain a ev)

/-- the state after a list of events -/
def run (a : Agent) (evs : List Ev) : Agent := evs.foldl (fun a e => (step a e).1) a

theorem tid_run (a : Agent) (evs : List Ev) : TidFrame a (run a evs) := by
  unfold run
  induction evs generalizing a with
  | nil => exact TidFrame.refl _
  | cons e es ih => exact (tid_step a e).trans (ih _)

theorem Q_run (a : Agent) (evs : List Ev) (q : Q a) : Q (run a evs) := by
  unfold run
  induction evs generalizing a with
  | nil => exact q
  | cons e es ih => exact ih _ (Q_step a e q)

theorem doRestart_fields (a : Agent) (now : Nat) (u p : String) :
    (a.doRestart now u p).1.pending = [] ∧ (a.doRestart now u p).1.localUfrag = u ∧
    (a.doRestart now u p).1.localPwd = p ∧ (a.doRestart now u p).1.remoteUfrag = "" ∧
    (a.doRestart now u p).1.remotePwd = "" ∧ (a.doRestart now u p).1.remotes = [] ∧
    (a.doRestart now u p).1.nextTid = a.nextTid ∧ (a.doRestart now u p).1.tag = a.tag := by
  unfold Agent.doRestart
  dsimp only
  split
  · unfold Agent.setConnState
    split
    · exact ⟨rfl, rfl, rfl, rfl, rfl, rfl, rfl, rfl⟩
    · rw [if_neg (by decide)]
      exact ⟨rfl, rfl, rfl, rfl, rfl, rfl, rfl, rfl⟩
  · exact ⟨rfl, rfl, rfl, rfl, rfl, rfl, rfl, rfl⟩

theorem step_restart (a : Agent) (now : Nat) (u p : String) (hc : a.closed = false) :
    (step a (.restart now u p)).1 = (a.doRestart now u p).1 := by
  simp only [step, hc]
  rfl

theorem step_inbound_inactive (a : Agent) (now la src : Nat) (m : Msg) (h : a.started = false ∨ a.closed = true) :
    step a (.inbound now la src m) = (a, []) := by
  simp only [step]
  rcases h with h | h <;> simp [h]

theorem step_inbound_nolocal (a : Agent) (now la src : Nat) (m : Msg) (h : a.localByAddr la = none) :
    step a (.inbound now la src m) = (a, []) := by
  simp only [step, h]
  split <;> rfl

theorem step_inbound_active (a : Agent) (now la src : Nat) (m : Msg) (l : Cand) (b : Agent)
    (hs : a.started = true) (hc : a.closed = false) (hf : a.forcePending = false)
    (hl : a.localByAddr la = some l) (hb : a.handleInbound now l src m = (b, []))
    (h3 : b.forcePending = a.forcePending) :
    step a (.inbound now la src m) = (b, []) := by
  simp only [step, hs, hc, hl, hb]
  have : b.runForced now = (b, []) := by
    unfold Agent.runForced
    simp [h3, hf]
  simp [this]

theorem step_inbound_noop_local (a : Agent) (now la src : Nat) (m : Msg) (q : Q a)
    (hb : ∀ l, a.localByAddr la = some l → a.handleInbound now l src m = (a, [])) :
    step a (.inbound now la src m) = (a, []) := by
  cases hs : a.started with
  | false => exact step_inbound_inactive a now la src m (Or.inl hs)
  | true =>
    cases hc : a.closed with
    | true => exact step_inbound_inactive a now la src m (Or.inr hc)
    | false =>
      cases hl : a.localByAddr la with
      | none => exact step_inbound_nolocal a now la src m hl
      | some l =>
        exact step_inbound_active a now la src m l a hs hc (q (by simp [hs]) (by simp [hc])) hl (hb l hl) rfl

theorem step_inbound_noop (a : Agent) (now la src : Nat) (m : Msg) (q : Q a)
    (hb : ∀ l, a.handleInbound now l src m = (a, [])) :
    step a (.inbound now la src m) = (a, []) :=
  step_inbound_noop_local a now la src m q fun l _ => hb l

end IceProofs.AgentC02

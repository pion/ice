import IceProofs.WriteAbortInv
import IceProofs.Exec
/-!
# Consequences of the write-abort invariant: quiescence, epochs, progress, the failure branch

All statements are about `IceModel.WriteAbort` only.
-/
namespace IceProofs.WriteAbort
open IceModel.WriteAbort IceProofs.CountP

theorem isRun : IsRun step run := ⟨fun _ => rfl, fun s a _ => by rw [run]; cases step s a <;> rfl⟩

theorem reachable_of_run {s s' : State} {l : List Action} (hs : Reachable s) (h : run s l = some s') :
    Reachable s' :=
  (isRun.exec h).inv (fun h hs => .step _ h hs) hs

theorem reachableNF_of_run {s s' : State} {l : List Action} (hs : ReachableNF s)
    (hnf : ∀ a ∈ l, a.nonFailing = true) (h : run s l = some s') : ReachableNF s' :=
  (isRun.exec h).inv_mem (fun hm h hs => .step _ h (hnf _ hm) hs) hs

theorem reachable_of_reachableNF {s : State} (h : ReachableNF s) : Reachable s := by
  induction h with
  | init => exact Reachable.init
  | step a _ _ hs ih => exact Reachable.step a ih hs

theorem quiescent_clear {s : State} (hi : Inv s) (hq : s.quiescent = true) :
    s.cnt = 0 ∧ s.bbit = false ∧ s.dbit = false ∧ s.rpast = false := by
  obtain ⟨cnt, d, b, r, ep, wr, ab⟩ := s
  simp only [State.quiescent, Bool.and_eq_true, beq_iff_eq] at hq
  obtain ⟨⟨q1, q2⟩, q3⟩ := hq
  cases b <;> cases d <;> cases r <;>
    simp only [Inv, InvN, Bool.toNat_false, Bool.toNat_true, true_implies, implies_true, and_true, true_and] at hi <;>
    simp <;> omega

theorem word_zero_iff (s : State) : s.word = 0 ↔ s.cnt = 0 ∧ s.bbit = false ∧ s.dbit = false := by
  obtain ⟨cnt, d, b, r, ep, wr, ab⟩ := s
  cases b <;> cases d <;> simp [State.word, blockedBitPos, deadlineBitPos]

theorem probe_ok {s : State} (hi : Inv s) (hq : s.quiescent = true) :
    ∃ s', probe s = some (WRes.ok, s') ∧ s'.cnt = 0 ∧ s'.bbit = false ∧ s'.dbit = false
      ∧ s'.rpast = false ∧ s'.wr = s.wr ++ [WLoc.done] ∧ s'.ab = s.ab := by
  obtain ⟨h1, h2, h3, h4⟩ := quiescent_clear hi hq
  obtain ⟨cnt, d, b, r, ep, wr, ab⟩ := s
  simp only at h1 h2 h3 h4
  subst h1 h2 h3 h4
  refine ⟨{ cnt := 0, dbit := false, bbit := false, rpast := false, epoch := ep, wr := wr ++ [WLoc.done], ab := ab }, ?_, rfl, rfl, rfl, rfl, rfl, rfl⟩
  simp [probe, run, step, List.set_append_right]

/-- Every writer inside `clearWriteDeadlineAfterAbort` decremented in the current epoch. -/
def NoStale (s : State) : Prop := ∀ w ∈ s.wr, WLoc.staleAt s.epoch w = false

theorem staleAt_of_not_clearing (e : Nat) (w : WLoc) (h : w.clearing = false) : WLoc.staleAt e w = false := by
  cases w <;> simp_all [WLoc.clearing, WLoc.staleAt]

theorem noStale_set {wr : List WLoc} {e i : Nat} {nw : WLoc}
    (h : ∀ w ∈ wr, WLoc.staleAt e w = false) (hn : WLoc.staleAt e nw = false) :
    ∀ w ∈ wr.set i nw, WLoc.staleAt e w = false := by
  intro w hw
  rcases List.mem_or_eq_of_mem_set hw with hm | he
  · exact h w hm
  · subst he; exact hn

theorem noStale_step {s s' : State} {a : Action} (hi : Inv s) (hs : NoStale s) (h : step s a = some s') :
    NoStale s' := by
  cases a with
  | spawnW =>
    cases step_spec h
    intro w hw
    rcases List.mem_append.mp hw with hw | hw
    · exact hs w hw
    · cases List.mem_singleton.mp hw; rfl
  | spawnA => cases step_spec h; exact hs
  | startCtxErr i => obtain ⟨_, rfl⟩ := step_spec h; exact noStale_set hs rfl
  | start i =>
    obtain ⟨_, ⟨_, rfl⟩ | ⟨_, rfl⟩⟩ := step_spec h
    · exact hs
    · exact noStale_set hs rfl
  | writeRet i res => obtain ⟨_, _, rfl⟩ := step_spec h; exact noStale_set hs rfl
  | finish i =>
    obtain ⟨_, ⟨_, rfl⟩ | ⟨_, rfl⟩ | ⟨_, _, rfl⟩⟩ := step_spec h
    · exact noStale_set hs rfl
    · exact noStale_set hs (bne_self_eq_false _)
    · exact noStale_set hs rfl
  | clearLoad i =>
    obtain ⟨ep, hw, ⟨_, rfl⟩ | ⟨_, _, rfl⟩ | ⟨_, _, rfl⟩⟩ := step_spec h
    · exact noStale_set hs rfl
    · exact hs
    · exact noStale_set hs (hs (.w3 ep) (List.mem_of_getElem? hw))
  | clearSet i => obtain ⟨ep, hw, rfl⟩ := step_spec h; exact noStale_set hs (hs (.w3c ep) (List.mem_of_getElem? hw))
  | clearStore i => obtain ⟨ep, _, rfl⟩ := step_spec h; exact noStale_set hs rfl
  | abortCas j =>
    obtain ⟨_, ⟨_, rfl⟩ | ⟨hb, _, rfl⟩⟩ := step_spec h
    · exact hs
    · -- a new epoch begins: blocked was clear, so nobody is inside clearWriteDeadlineAfterAbort (I3)
      have hcl : s.wr.countP WLoc.clearing = 0 := by
        have := hi.2.2.2.2.2.2.1
        rw [hb] at this
        exact Nat.eq_zero_of_not_pos fun hp => absurd (this hp).2 (by decide)
      intro w hwm
      exact staleAt_of_not_clearing _ w (Bool.eq_false_iff.mpr (List.countP_eq_zero.mp hcl w hwm))
  | abortSet j ok => obtain ⟨_, ⟨_, rfl⟩ | ⟨_, rfl⟩⟩ := step_spec h <;> exact hs
  | abortArm j => obtain ⟨_, ⟨_, rfl⟩ | ⟨_, _, rfl⟩⟩ := step_spec h <;> exact hs
  | abortClear j => obtain ⟨_, rfl⟩ := step_spec h; exact hs

theorem noStale_of_reachableNF {s : State} (h : ReachableNF s) : NoStale s := by
  induction h with
  | init => intro w hw; simp [State.init] at hw
  | step a hr _ hs ih => exact noStale_step (inv_of_reachableNF hr) ih hs

theorem setdeadline_error {s : State} {j : Nat} (hj : s.ab[j]? = some ALoc.a1) :
    ∃ s1 s2, step s (.abortSet j false) = some s1 ∧ step s1 (.abortClear j) = some s2
      ∧ s1.rpast = s.rpast ∧ s1.cnt = s.cnt ∧ s1.bbit = s.bbit ∧ s1.dbit = s.dbit ∧ s1.wr = s.wr
      ∧ s2.bbit = false ∧ s2.dbit = false ∧ s2.rpast = s.rpast ∧ s2.cnt = s.cnt ∧ s2.wr = s.wr
      ∧ s2.ab[j]? = some (ALoc.done true) := by
  obtain ⟨cnt, d, b, r, ep, wr, ab⟩ := s
  simp only at hj
  have hlt : j < ab.length := getElem?_lt hj
  refine ⟨{ cnt := cnt, dbit := d, bbit := b, rpast := r, epoch := ep, wr := wr, ab := ab.set j .a3 },
    { cnt := cnt, dbit := false, bbit := false, rpast := r, epoch := ep, wr := wr,
      ab := (ab.set j .a3).set j (.done true) }, ?_, ?_, ?_⟩
  · simp [step, hj]
  · simp [step, hlt]
  · simp [hlt]

theorem writer_enters_when_unblocked {s : State} {i : Nat} (hb : s.bbit = false) (hi : s.wr[i]? = some WLoc.w0) :
    ∃ s', step s (.start i) = some s' ∧ s'.wr[i]? = some WLoc.w1 ∧ s'.cnt = s.cnt + 1 := by
  have hlt : i < s.wr.length := getElem?_lt hi
  have h1 : step s (.start i) = some { s with cnt := s.cnt + 1, wr := s.wr.set i .w1 } := by
    simp [step, hi, hb]
  exact ⟨_, h1, by simp [hlt], rfl⟩

theorem set_ne_self {α : Type} {l : List α} {i : Nat} {a b : α} (h : l[i]? = some a) (hab : b ≠ a) :
    l.set i b ≠ l := by
  intro heq
  have hlt : i < l.length := getElem?_lt h
  have : (l.set i b)[i]? = some b := List.getElem?_set_self hlt
  rw [heq, h] at this
  exact hab (Option.some.inj this).symm

/-- The only way nothing is forced to move: the blocked bit is clear, the socket deadline is zero and
every thread that has not returned is a writer inside the socket write — waiting for the socket. -/
def SocketBlockedOnly (s : State) : Prop :=
  s.bbit = false ∧ s.rpast = false ∧ (∀ a ∈ s.ab, a.isDone = true)
    ∧ ∀ w ∈ s.wr, w = WLoc.w1 ∨ w = WLoc.done

def CanProgress (s : State) : Prop :=
  ∃ a s', a.forced = true ∧ step s a = some s' ∧ s' ≠ s

theorem progress_wr {s : State} {a : Action} {i : Nat} {old : WLoc} (new : WLoc) (hf : a.forced = true)
    (hold : s.wr[i]? = some old) (hne : new ≠ old)
    (hst : ∃ s', step s a = some s' ∧ s'.wr = s.wr.set i new) : CanProgress s := by
  obtain ⟨s', h1, h2⟩ := hst
  exact ⟨a, s', hf, h1, fun h => set_ne_self hold hne (by rw [← h2, h])⟩

theorem progress_ab {s : State} {a : Action} {j : Nat} {old : ALoc} (new : ALoc) (hf : a.forced = true)
    (hold : s.ab[j]? = some old) (hne : new ≠ old)
    (hst : ∃ s', step s a = some s' ∧ s'.ab = s.ab.set j new) : CanProgress s := by
  obtain ⟨s', h1, h2⟩ := hst
  exact ⟨a, s', hf, h1, fun h => set_ne_self hold hne (by rw [← h2, h])⟩

theorem progress_of_live_aborter {s : State} {j : Nat} {a : ALoc} (hj : s.ab[j]? = some a)
    (hnd : a.isDone = false) : CanProgress s := by
  cases a with
  | a0 =>
    by_cases hc : s.bbit = true ∨ s.cnt = 0
    · exact progress_ab (a := .abortCas j) (.done false) rfl hj (by simp) (by simp [step, hj, hc])
    · exact progress_ab (a := .abortCas j) .a1 rfl hj (by simp) (by simp [step, hj, hc])
  | a1 => exact progress_ab (a := .abortSet j true) .a2 rfl hj (by simp) (by simp [step, hj])
  | a2 =>
    by_cases hc : s.bbit = false ∨ s.dbit = true
    · exact progress_ab (a := .abortArm j) (.done false) rfl hj (by simp) (by simp [step, hj, hc])
    · exact progress_ab (a := .abortArm j) (.done false) rfl hj (by simp) (by simp [step, hj, hc])
  | a3 => exact progress_ab (a := .abortClear j) (.done true) rfl hj (by simp) (by simp [step, hj])
  | done f => cases hnd

/-- A writer at this location has a forced, state-changing step: W0 waits for the blocked bit to clear, W1 for the socket
(which an expired deadline releases), W3 for the word to be unblocked or armed; W2, W3c, W4 wait for nothing. -/
def ready (s : State) : WLoc → Bool
  | .w0 => !s.bbit
  | .w1 => s.rpast
  | .w3 _ => !s.bbit || s.dbit
  | .done => false
  | _ => true

theorem progress_of_writer {s : State} {i : Nat} {w : WLoc} (hi : s.wr[i]? = some w) (hr : ready s w = true) :
    CanProgress s := by
  cases w with
  | w0 =>
    have hb : s.bbit = false := by simpa [ready] using hr
    exact progress_wr (a := .start i) .w1 rfl hi (by simp) (by simp [step, hi, hb])
  | w1 => exact progress_wr (a := .writeRet i .timeout) .w2 rfl hi (by simp) (by simp [step, hi, show s.rpast = true from hr])
  | w2 =>
    by_cases h0 : s.cnt = 0
    · exact progress_wr (a := .finish i) .done rfl hi (by simp) (by simp [step, hi, h0])
    · by_cases h1 : s.bbit = true ∧ s.cnt = 1
      · exact progress_wr (a := .finish i) (.w3 s.epoch) rfl hi (by simp) (by simp [step, hi, h1])
      · exact progress_wr (a := .finish i) .done rfl hi (by simp) (by simp [step, hi, h0, h1])
  | w3 e =>
    cases hb : s.bbit with
    | false => exact progress_wr (a := .clearLoad i) .done rfl hi (by simp) (by simp [step, hi, hb])
    | true =>
      have hd : s.dbit = true := by simpa [ready, hb] using hr
      exact progress_wr (a := .clearLoad i) (.w3c e) rfl hi (by simp) (by simp [step, hi, hb, hd])
  | w3c e => exact progress_wr (a := .clearSet i) (.w4 e) rfl hi (by simp) (by simp [step, hi])
  | w4 e => exact progress_wr (a := .clearStore i) .done rfl hi (by simp) (by simp [step, hi])
  | done => cases hr

/-- I6 of DESIGN.md Appendix D.1. -/
theorem progress {s : State} (hinv : Inv s) :
    CanProgress s ∨ SocketBlockedOnly s := by
  -- a live aborter can always move, and so can a ready writer
  cases hab : s.ab.all ALoc.isDone with
  | false =>
    obtain ⟨a, ha, hd⟩ := List.all_eq_false.mp hab
    obtain ⟨j, hj⟩ := List.mem_iff_getElem?.mp ha
    exact Or.inl (progress_of_live_aborter hj (eq_false_of_ne_true hd))
  | true =>
  cases hwr : s.wr.any (ready s) with
  | true =>
    obtain ⟨w, hw, hr⟩ := List.any_eq_true.mp hwr
    obtain ⟨i, hi⟩ := List.mem_iff_getElem?.mp hw
    exact Or.inl (progress_of_writer hi hr)
  | false =>
  right
  have hab := List.all_eq_true.mp hab
  have hnr : ∀ w ∈ s.wr, ready s w = false := fun w hw => eq_false_of_ne_true (List.any_eq_false.mp hwr w hw)
  have hact : s.nActive = 0 :=
    List.countP_eq_zero.mpr fun a ha => by have := hab a ha; cases a <;> first | exact Bool.noConfusion | cases this
  have hw4 : s.nW4 = 0 :=
    List.countP_eq_zero.mpr fun w hw => by have := hnr w hw; cases w <;> first | exact Bool.noConfusion | cases this
  -- a blocked word that nobody works on is armed, and then the writer still counted or clearing is ready
  have hb : s.bbit = false := by
    cases hb : s.bbit with
    | false => rfl
    | true =>
      obtain ⟨hd, hr, hex⟩ := hinv.armed_of_blocked_idle hb hact hw4
      have hex' : ∃ w ∈ s.wr, w.inFlight = true ∨ w.clearing = true := by
        rcases hex with h | h
        · obtain ⟨w, hw, hp⟩ := List.countP_pos_iff.mp h; exact ⟨w, hw, Or.inl hp⟩
        · obtain ⟨w, hw, hp⟩ := List.countP_pos_iff.mp h; exact ⟨w, hw, Or.inr hp⟩
      obtain ⟨w, hw, hp⟩ := hex'
      have := hnr w hw
      cases w <;> simp [ready, WLoc.inFlight, WLoc.clearing, hr, hd] at this hp
  refine ⟨hb, hinv.rpast_of_unblocked hb, hab, fun w hw => ?_⟩
  have := hnr w hw
  cases w <;> simp [ready, hb] at this ⊢

theorem socketBlocked_can_complete {s : State} {i : Nat} (hi : s.wr[i]? = some WLoc.w1) :
    ∃ s', step s (.writeRet i .ok) = some s' ∧ s' ≠ s := by
  have hst : ∃ s', step s (.writeRet i .ok) = some s' ∧ s'.wr = s.wr.set i .w2 := by simp [step, hi]
  obtain ⟨s', h1, h2⟩ := hst
  exact ⟨s', h1, fun h => set_ne_self hi (b := WLoc.w2) (by simp) (by rw [← h2, h])⟩

end IceProofs.WriteAbort

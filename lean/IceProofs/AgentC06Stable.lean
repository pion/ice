import IceProofs.AgentC06Chain
/-!
# C06 — pair ids keep addressing the same transport-address pair; supersession keeps pair data; wipes
-/
namespace IceProofs.AgentC06
open IceModel.AgentCore IceProofs.Agent

/-- remote `u0` of the old state and remote `u` of the new state have the same network type and address -/
def addrOK (rc0 rc : List Cand) (u0 u : Nat) : Prop :=
  ∀ r ∈ rc0, r.uid = u0 → ∃ r' ∈ rc, r'.uid = u ∧ r'.net = r.net ∧ r'.addr = r.addr

structure StableTo (a0 b : Agent) : Prop where
  np : a0.nextPairID ≤ b.nextPairID
  cl : b.closed = false → a0.closed = false
  st : b.closed = false → ∀ k ∈ keysOf a0, ∀ k' ∈ keysOf b, k'.1 = k.1 →
    k'.2.1 = k.2.1 ∧ (∀ l ∈ lcsOf a0, l.uid = k.2.1 → l ∈ lcsOf b) ∧ addrOK (rcsOf a0) (rcsOf b) k.2.2 k'.2.2

theorem StableTo.refl {a : Agent} (h : Inv a) : StableTo a a := by
  refine ⟨Nat.le_refl _, fun h => h, fun _ k hk k' hk' hid => ?_⟩
  have := eq_of_key_nodup h.s.idsNodup hk' hk hid
  subst this
  exact ⟨rfl, fun l hl _ => hl, fun r hr hu => ⟨r, hr, hu, rfl, rfl⟩⟩

theorem arcA3_lcs (a : Agent) (c : Cand) (h : Inv a) : lcsOf (arcA3 a c) = lcsOf a :=
  congrArg (List.map core) (arcA3_spec a c h).2.2.2.2.2.locals

theorem stable_trans {e : Ev} {w : Bool} {a0 b c : Agent} (h0 : Inv a0) (hb : Inv b) (s : StableTo a0 b)
    (t : Trans e w b c) : StableTo a0 c := by
  cases t with
  | evo h =>
    refine ⟨h.nextPairID ▸ s.np, fun hc => s.cl (h.closed ▸ hc), ?_⟩
    rw [h.keys, h.lcs, h.rcs, h.closed]; exact s.st
  | addP h =>
    cases h with
    | none => exact s
    | add l r hl hr hn hfresh =>
      refine ⟨Nat.le_succ_of_le s.np, s.cl, fun hc k hk k' hk' hid => ?_⟩
      rw [keysOf_addPair] at hk'
      rcases List.mem_append.1 hk' with hk' | hk'
      · exact s.st hc k hk k' hk' hid
      · simp at hk'; subst hk'
        have := h0.s.idsLe k hk
        have := s.np
        simp at hid; omega
  | wf _ h =>
    obtain ⟨h1, _⟩ := h.wiped
    refine ⟨h.nextPairID ▸ s.np, fun hc => s.cl (h.closed ▸ hc), fun _ k _ k' hk' _ => ?_⟩
    simp [keysOf, h1] at hk'
  | connState st hs hn => exact ⟨s.np, s.cl, s.st⟩
  | «local» cand hc hf =>
    refine ⟨s.np, s.cl, fun hcl k hk k' hk' hid => ?_⟩
    obtain ⟨h1, h2, h3⟩ := s.st hc k hk k' hk' hid
    refine ⟨h1, fun l hl hu => ?_, h3⟩
    have : lcsOf (alA1 b cand) = lcsOf b ++ [core (alC b cand)] := by simp [lcsOf, alA1]
    rw [this]; exact List.mem_append_left _ (h2 l hl hu)
  | remote cand hc hbk hf hsrc =>
    obtain ⟨_, _, _, _, hnp, f⟩ := arcA3_spec b cand hb
    have hcl := f.closed
    refine ⟨hnp ▸ s.np, fun h => s.cl (hcl ▸ h), fun hcc k hk k' hk' hid => ?_⟩
    rw [arcA3_keys b cand hb] at hk'
    obtain ⟨k1, hk1, rfl⟩ := List.mem_map.1 hk'
    obtain ⟨h1, h2, h3⟩ := s.st hc k hk k1 hk1 (by simpa using hid)
    rw [arcA3_lcs b cand hb]
    refine ⟨by simpa using h1, h2, fun r hr hu => ?_⟩
    obtain ⟨r1, hr1, hu1, hn1, ha1⟩ := h3 r hr hu
    obtain ⟨_, _, hcm⟩ := arcA4_spec hb cand hc hbk hf
    unfold rk
    split
    · rename_i hS
      obtain ⟨e1, he1, heu⟩ := List.mem_map.1 (List.contains_iff_mem.1 hS)
      obtain ⟨m1, n1, _, ad1, _⟩ := arcReplaced_mem he1
      have : r1 = core e1 := eq_of_key_nodup hb.s.rcNodup hr1 (mem_rcsOf m1) (by simp [hu1, heu])
      subst this
      refine ⟨core (arcC b cand), hcm, by simp [arcC_uid], ?_, ?_⟩
      · simp [arcC_net]; rw [← hn1]; simp [n1]
      · simp [arcC_addr]; rw [← ha1]; simp [ad1]
    · rename_i hS
      refine ⟨r1, ?_, hu1, hn1, ha1⟩
      rw [arcA3_rcs b cand hb, List.mem_filter]
      refine ⟨List.mem_append_left _ hr1, ?_⟩
      rw [hu1]; simpa using hS
  | cache x hl hr hc => exact ⟨s.np, s.cl, s.st⟩
  | restart now u p _ _ =>
    refine ⟨s.np, s.cl, fun _ k _ k' hk' _ => ?_⟩
    simp [keysOf, restartCore, Agent.wipe, Agent.resetSelector] at hk'
  | close _ _ =>
    refine ⟨s.np, fun h => ?_, fun h => ?_⟩ <;> simp [closeCore] at h

theorem stable_step {a : Agent} (h : Inv a) (e : Ev) : StableTo a (step a e).1 :=
  Chain.preserves (fun x => StableTo a x) (fun _ _ hb hs t => stable_trans h hb hs t) h (StableTo.refl h)
    (step_chain h e)

theorem localOf_of_mem {a : Agent} (hs : InvS a) {x : Cand} (hx : x ∈ lcsOf a) :
    ∃ l, a.localOf x.uid = some l ∧ core l = x := by
  obtain ⟨y, hy, rfl⟩ := List.mem_map.1 hx
  obtain ⟨l, h1, h2⟩ := findCand_of_core_mem (l := a.locals) hs.lcNodup (c := y) (List.mem_map_of_mem hy)
  exact ⟨l, h1, h2⟩

theorem remoteOf_of_mem {a : Agent} (hs : InvS a) {x : Cand} (hx : x ∈ rcsOf a) :
    ∃ r, a.remoteOf x.uid = some r ∧ core r = x := by
  obtain ⟨y, hy, rfl⟩ := List.mem_map.1 hx
  obtain ⟨r, h1, h2⟩ := findCand_of_core_mem (l := a.remotes) hs.rcNodup (c := y) (List.mem_map_of_mem hy)
  exact ⟨r, h1, h2⟩

/-- **id stability**, for any two states related by `StableTo` -/
theorem StableTo.pairs {a a' : Agent} (h : Inv a) (h' : Inv a') (s : StableTo a a') {p p' : Pair}
    (hp : p ∈ a.checklist) (hp' : p' ∈ a'.checklist) (hid : p'.id = p.id) (hc : a'.closed = false) :
    p'.l = p.l ∧ ∃ l r l' r', a.localOf p.l = some l ∧ a.remoteOf p.r = some r ∧
      a'.localOf p'.l = some l' ∧ a'.remoteOf p'.r = some r' ∧
      core l' = core l ∧ r'.net = r.net ∧ r'.addr = r.addr := by
  have hk : key p ∈ keysOf a := List.mem_map_of_mem hp
  have hk' : key p' ∈ keysOf a' := List.mem_map_of_mem hp'
  obtain ⟨h1, h2, h3⟩ := s.st hc (key p) hk (key p') hk' hid
  obtain ⟨l0, hl0, r0, hr0, hu1, hu2, _⟩ := h.s.ends (s.cl hc) (key p) hk
  simp only [key_snd_fst, key_snd_snd] at h1 hu1 hu2
  obtain ⟨l, hl, hlc⟩ := localOf_of_mem h.s hl0
  obtain ⟨r, hr, hrc⟩ := remoteOf_of_mem h.s hr0
  obtain ⟨l', hl', hlc'⟩ := localOf_of_mem h'.s (h2 l0 hl0 hu1)
  obtain ⟨r1, hr1, hu1', hn1, ha1⟩ := h3 r0 hr0 hu2
  obtain ⟨r', hr', hrc'⟩ := remoteOf_of_mem h'.s hr1
  refine ⟨h1, l, r, l', r', hu1 ▸ hl, hu2 ▸ hr, ?_, ?_, hlc'.trans hlc.symm, ?_, ?_⟩
  · rw [h1, ← hu1]; exact hl'
  · simp only [key_snd_snd] at hu1'; rw [← hu1']; exact hr'
  · have e1 := congrArg Cand.net hrc'; have e2 := congrArg Cand.net hrc
    simp at e1 e2; rw [e1, e2, hn1]
  · have e1 := congrArg Cand.addr hrc'; have e2 := congrArg Cand.addr hrc
    simp at e1 e2; rw [e1, e2, ha1]

structure Grew (a b : Agent) : Prop where
  locals : b.locals = a.locals
  remotes : b.remotes = a.remotes
  ext : ∃ extra, b.checklist = a.checklist ++ extra

theorem AddP.grew {a b : Agent} (p : AddP a b) : Grew a b := by
  cases p with
  | none => exact ⟨rfl, rfl, [], by simp⟩
  | add l r _ _ _ _ => exact ⟨rfl, rfl, _, rfl⟩

theorem AddPs.grew {a b : Agent} (p : AddPs a b) : Grew a b := by
  induction p with
  | refl => exact ⟨rfl, rfl, [], by simp⟩
  | step _ p ih =>
    obtain ⟨x, hx⟩ := ih.ext
    obtain ⟨y, hy⟩ := p.grew.ext
    exact ⟨p.grew.locals.trans ih.locals, p.grew.remotes.trans ih.remotes, x ++ y, by rw [hy, hx, List.append_assoc]⟩

/-- **supersession preserves**: after `addRemoteCandidate` every pair that existed is still listed with the same
id and the same data (state, nominated, deferred flags, counters …) — only its remote uid and its frozen priority
field may differ — and with the same priority VALUE; selection and nomination point at the same ids. -/
theorem supersession {a : Agent} (h : Inv a) (c : Cand) (hc : a.closed = false) :
    (a.addRemoteCandidate c).1.selected = a.selected ∧
    (a.addRemoteCandidate c).1.nominatedPair = a.nominatedPair ∧
    ∀ p ∈ a.checklist, ∃ p' ∈ (a.addRemoteCandidate c).1.checklist,
      { p' with r := p.r, prioOverride := p.prioOverride } = p ∧
      (a.addRemoteCandidate c).1.pairPrio p' = a.pairPrio p ∧
      (p'.r = p.r ∨ (p.r ∈ arcS a c ∧ p'.r = a.nextUid)) := by
  have hf := arc_frame h c hc
  refine ⟨hf.selected, hf.nominatedPair, ?_⟩
  have same : ∀ p ∈ a.checklist, ∃ p' ∈ a.checklist, { p' with r := p.r, prioOverride := p.prioOverride } = p ∧
      a.pairPrio p' = a.pairPrio p ∧ (p'.r = p.r ∨ (p.r ∈ arcS a c ∧ p'.r = a.nextUid)) :=
    fun p hp => ⟨p, hp, rfl, rfl, Or.inl rfl⟩
  refine arc_rule (Q := fun x => ∀ p ∈ a.checklist, ∃ p' ∈ x.1.checklist,
    { p' with r := p.r, prioOverride := p.prioOverride } = p ∧ x.1.pairPrio p' = a.pairPrio p ∧
      (p'.r = p.r ∨ (p.r ∈ arcS a c ∧ p'.r = a.nextUid))) a c same (fun _ _ => same) fun hb hfd p hp => ?_
  obtain ⟨h1, _, _⟩ := arcA4_spec h c hc hb hfd
  obtain ⟨h3, _, hrem3, _, _, f3⟩ := arcA3_spec a c h
  obtain ⟨extra, hext⟩ := h1.grew.ext
  obtain ⟨l0, hl0, r0, hr0, hu1, hu2, _⟩ := h.s.ends hc (key p) (List.mem_map_of_mem hp)
  obtain ⟨r, hr, _⟩ := remoteOf_of_mem h.s hr0
  simp only [key_snd_snd] at hu2
  rw [hu2] at hr
  have hr' : findCand a.remotes p.r = some r := hr
  have hloc : (arcA4 a c).locals = a.locals := h1.grew.locals.trans f3.locals
  have hrem : (arcA4 a c).remotes =
      (a.remotes ++ [arcC a c]).filter (fun e => !((arcReplaced a c).any fun x => x.uid == e.uid)) :=
    h1.grew.remotes.trans hrem3
  have hmem : retarget a.selected (arcA1 a c).pairPrio (arcS a c) a.nextUid p ∈ (arcA4 a c).checklist := by
    rw [hext, h3]
    exact List.mem_append_left _ (List.mem_map_of_mem hp)
  -- `requestCheck` touches nothing that is read below; say so about a variable
  have hreq : ∀ (b : Agent) q, b.requestCheck.checklist = b.checklist ∧ b.requestCheck.pairPrio q = b.pairPrio q :=
    fun _ _ => ⟨rfl, rfl⟩
  show ∃ p' ∈ (arcA4 a c).requestCheck.checklist, _ ∧ (arcA4 a c).requestCheck.pairPrio p' = _ ∧ _
  simp only [hreq]
  refine ⟨_, hmem, ?_⟩
  have hprio1 : (arcA1 a c).pairPrio p = a.pairPrio p := by
    refine pairPrio_of_prios (a := a) (b := arcA1 a c) p rfl (congrArg _ ?_)
    show findCand (a.remotes ++ [arcC a c]) p.r = findCand a.remotes p.r
    rw [hr', findCand_append hr']
  by_cases hS : (arcS a c).contains p.r = true
  · rw [retarget_of_mem _ _ _ _ _ hS]
    refine ⟨?_, ?_, Or.inr ⟨List.contains_iff_mem.1 hS, rfl⟩⟩
    · have : (p.nominated || (a.selected == some p.id)) = p.nominated := by
        by_cases hsel : a.selected = some p.id
        · rw [h.c.selNom p.id hsel p hp rfl]; rfl
        · have : (a.selected == some p.id) = false := by simpa using hsel
          rw [this]; simp
      simp only [this]
    · unfold Agent.pairPrio
      exact hprio1
  · have hS' : (arcS a c).contains p.r = false := by simpa using hS
    rw [retarget_of_not_mem _ _ _ _ _ hS']
    refine ⟨rfl, pairPrio_of_prios p (by unfold Agent.localOf; rw [hloc]) (congrArg _ ?_), Or.inl rfl⟩
    unfold Agent.remoteOf
    rw [hrem, findCand_filter, findCand_append hr', hr']
    intro x _ hxu
    rw [any_uid_eq, hxu]
    show (!(arcS a c).contains p.r) = true
    rw [hS']; rfl

theorem restart_wiped (a : Agent) (now : Nat) (u p : String) (hc : a.closed = false) :
    Wiped (step a (.restart now u p)).1 := by
  simp only [IceModel.AgentCore.step, hc]
  simp only [Bool.false_eq_true, if_false]
  unfold Agent.doRestart
  simp only []
  split
  · rw [setConnState_fst _ _ (by simp)]
    exact ⟨rfl, rfl, rfl, rfl, rfl, rfl⟩
  · exact ⟨rfl, rfl, rfl, rfl, rfl, rfl⟩

theorem nofail_trans {e : Ev} {b c : Agent} (hi : Inv b) (hb : b.connState ≠ .failed) (t : Trans e false b c) :
    c.connState ≠ .failed := by
  cases t with
  | evo h =>
    rcases h.cs with h1 | ⟨h1, _⟩
    · rw [h1]; exact hb
    · exact h1
  | addP h =>
    rcases h.frame.connState with h1 | ⟨h1, _⟩
    · rw [h1]; exact hb
    · rw [h1]; simp
  | wf hw _ => cases hw
  | connState s hs _ => exact hs
  | «local» _ _ _ => exact hb
  | remote cand _ _ _ _ =>
    rcases (arcA3_spec b cand hi).2.2.2.2.2.connState with h1 | ⟨h1, _⟩
    · rw [h1]; exact hb
    · rw [h1]; simp
  | cache _ _ _ _ => exact hb
  | restart _ _ _ _ _ => exact hb
  | close _ _ => exact hb

/-- **no residue after Failed**: a step that ends in Failed from a different state leaves everything wiped -/
theorem failed_wiped {a : Agent} (h : Inv a) (e : Ev) (ha : a.connState ≠ .failed)
    (hf : (step a e).1.connState = .failed) : Wiped (step a e).1 := by
  obtain ⟨b, h1, h2⟩ := step_split h e
  have hb : b.connState ≠ .failed :=
    Chain.preserves (fun x => x.connState ≠ .failed) (fun _ _ hi hx t => nofail_trans hi hx t) h ha h1
  cases h2 with
  | evo ev =>
    rcases ev.cs with h3 | ⟨h3, _⟩
    · rw [h3] at hf; exact absurd hf hb
    · exact absurd hf h3
  | wf w => exact w.wiped

end IceProofs.AgentC06

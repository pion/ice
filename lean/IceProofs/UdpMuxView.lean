import IceProofs.LineProto
import IceProofs.TcpMuxView
import IceSpec.C12View
/-!
# C12: `parseWire` reads back every line printed by `printWire`
-/
namespace IceProofs.UdpMuxView
open IceSpec.LineProto IceProofs.LineProto IceSpec.C12View
open IceModel.UdpMux (Name IP Addr Out)

theorem parseHandle_tok (g : Nat) : parseHandle (handleTok g) = some g := by
  simp only [parseHandle, handleTok, tagged_append, Option.bind_some, toNat?_toString]

theorem parsePid_tok (p : Nat) : parsePid (pidTok p) = some p := by
  simp only [parsePid, pidTok, tagged_append, Option.bind_some, toNat?_toString]

theorem parseHandle_pidTok (p : Nat) : parseHandle (pidTok p) = none := by
  simp [parseHandle, pidTok, tagged, dropPre]

theorem parseConn_tok (i k : Nat) : parseConn (connTok i k) = some (i, k) := by
  simp [parseConn, connTok, tagged_append, splitC_joinC, mem_digits]

theorem connTok_free (i k : Nat) (d : Char) (hd : d.isDigit = false) (hm : d ≠ 'm') (hc : d ≠ 'c') :
    d ∉ (connTok i k).toList := by
  simp [connTok, mem_joinC_cons, mem_joinC_one, mem_digits, hd, hm, hc]

/-- as a `simp` rule (the side condition is written `¬ _ = _`: with `≠` simp cannot assign its proof) -/
theorem connTok_ne (i k : Nat) (w : String) (h : ¬ w.toList.head? = some 'm') : connTok i k ≠ w := by
  rintro rfl
  simp [connTok] at h

theorem parseWord_connTok (i k : Nat) : parseWord (connTok i k) = some (.delivered i k) := by
  simp [parseWord, connTok_ne, parseConn_tok]

theorem parseTo_tok (t : Option (Nat × Nat)) : parseTo (toTok t) = some t := by
  rcases t with _ | ⟨i, k⟩
  · decide
  · simp [parseTo, toTok, connTok_ne, parseConn_tok]

theorem toTok_free (t : Option (Nat × Nat)) : ' ' ∉ (toTok t).toList := by
  rcases t with _ | ⟨i, k⟩
  · decide
  · exact connTok_free _ _ _ (by decide) (by decide) (by decide)

theorem okZone_iff (z : Name) : okZone z = true ↔
    (∀ n ∈ z, (Char.ofNat n).toNat = n ∧ n ≠ 44 ∧ n ≠ 32) ∧ z ≠ [45] := by
  simp [okZone, and_assoc]

theorem nameOf_showName (z : Name) (h : ∀ n ∈ z, (Char.ofNat n).toNat = n) : nameOf (showName z) = z := by
  simp only [nameOf, showName, String.toList_ofList, List.map_map]
  conv => rhs; rw [← List.map_id z]
  apply List.map_congr_left
  intro n hn
  exact h n hn

theorem showName_free (z : Name) (d : Char) (h : ∀ n ∈ z, (Char.ofNat n).toNat = n ∧ n ≠ d.toNat) :
    d ∉ (showName z).toList := by
  intro hm
  simp only [showName, String.toList_ofList, List.mem_map] at hm
  obtain ⟨n, hn, rfl⟩ := hm
  exact (h n hn).2 (h n hn).1.symm

theorem showName_ne_dash (z : Name) (hv : ∀ n ∈ z, (Char.ofNat n).toNat = n) (h : z ≠ [45]) :
    showName z ≠ "-" := by
  intro he
  have h1 : z.map Char.ofNat = ['-'] := by simpa [showName] using congrArg String.toList he
  rcases z with _ | ⟨n, _ | _⟩ <;> simp at h1
  exact h (by rw [← hv n (by simp), h1]; rfl)

def zoneTok (z : Name) : String := if z.isEmpty then "-" else showName z

theorem zoneTok_free (z : Name) (d : Char) (hd : d ≠ '-')
    (h : ∀ n ∈ z, (Char.ofNat n).toNat = n ∧ n ≠ d.toNat) : d ∉ (zoneTok z).toList := by
  unfold zoneTok
  split
  · simpa using hd
  · exact showName_free z d h

theorem zoneTok_back (z : Name) (h : okZone z = true) :
    (if zoneTok z = "-" then [] else nameOf (zoneTok z)) = z := by
  obtain ⟨hv, hd⟩ := (okZone_iff z).mp h
  unfold zoneTok
  cases z with
  | nil => rfl
  | cons n r =>
    have hne : (n :: r).isEmpty = false := rfl
    simp only [hne, Bool.false_eq_true, if_false]
    rw [if_neg (showName_ne_dash _ (fun n hn => (hv n hn).1) hd)]
    exact nameOf_showName _ (fun n hn => (hv n hn).1)

theorem showAddr_eq (a : Addr) : showAddr a =
    if a.ip.is4 then joinC ',' ["4", toString a.ip.lo, toString a.port]
    else joinC ',' ["6", toString a.ip.hi, toString a.ip.lo, zoneTok a.ip.zone, toString a.port] := rfl

theorem showAddr_free (a : Addr) (h : wfAddr a = true) : ' ' ∉ (showAddr a).toList := by
  rw [showAddr_eq]
  split
  · simp [mem_joinC_cons, mem_joinC_one, mem_digits]
  · rename_i h4
    obtain ⟨hv, _⟩ := (okZone_iff _).mp (by simpa [wfAddr, h4] using h : okZone a.ip.zone = true)
    have hz := zoneTok_free a.ip.zone ' ' (by decide) (fun n hn => ⟨(hv n hn).1, (hv n hn).2.2⟩)
    simp [mem_joinC_cons, mem_joinC_one, mem_digits, hz]

theorem parseAddr_showAddr (a : Addr) (h : wfAddr a = true) : parseAddr (showAddr a) = some a := by
  obtain ⟨⟨is4, hi, lo, zone⟩, port⟩ := a
  rw [showAddr_eq]
  cases is4 with
  | true =>
    simp only [wfAddr, if_true, Bool.and_eq_true, beq_iff_eq] at h
    obtain ⟨rfl, rfl⟩ := h
    simp [parseAddr, splitC_joinC, mem_digits]
  | false =>
    simp only [wfAddr, Bool.false_eq_true, if_false] at h
    obtain ⟨hv, _⟩ := (okZone_iff _).mp h
    have hz := zoneTok_free zone ',' (by decide) (fun n hn => ⟨(hv n hn).1, (hv n hn).2.1⟩)
    have hb := zoneTok_back zone h
    simp [parseAddr, splitC_joinC, mem_digits, hz, hb]

theorem mem_splitOnP {α : Type} (p : α → Bool) (xs : List α) :
    ∀ l ∈ List.splitOnP p xs, ∀ x ∈ l, p x = false ∧ x ∈ xs := by
  induction xs with
  | nil => intro l hl x hx; simp [List.splitOnP_nil] at hl; subst hl; cases hx
  | cons a xs ih =>
    intro l hl x hx
    rw [List.splitOnP_cons_eq_if_modifyHead] at hl
    split at hl
    · simp only [List.mem_cons] at hl
      rcases hl with rfl | hl
      · cases hx
      · exact ⟨(ih l hl x hx).1, List.mem_cons_of_mem _ (ih l hl x hx).2⟩
    · rename_i hp
      cases hs : List.splitOnP p xs with
      | nil => rw [hs] at hl; simp at hl
      | cons h t =>
        rw [hs] at hl ih
        simp only [List.modifyHead_cons, List.mem_cons] at hl
        rcases hl with rfl | hl
        · simp only [List.mem_cons] at hx
          rcases hx with rfl | hx
          · exact ⟨by simpa using hp, by simp⟩
          · exact ⟨(ih h (by simp) x hx).1, List.mem_cons_of_mem _ (ih h (by simp) x hx).2⟩
        · exact ⟨(ih l (by simp [hl]) x hx).1, List.mem_cons_of_mem _ (ih l (by simp [hl]) x hx).2⟩

theorem mem_splitC (s : String) (c : Char) (t : String) (ht : t ∈ splitC s c) (d : Char) (hd : d ∈ t.toList) :
    d ≠ c ∧ d ∈ s.toList := by
  simp only [splitC, List.mem_map] at ht
  obtain ⟨l, hl, rfl⟩ := ht
  simp only [String.toList_ofList] at hd
  have := mem_splitOnP (fun x => x == c) s.toList l hl d hd
  exact ⟨by simpa using this.1, this.2⟩

theorem toNat_eq_char (c : Char) (d : Char) (h : c.toNat = d.toNat) : c = d := by
  have h1 : Char.ofNat c.toNat = Char.ofNat d.toNat := by rw [h]
  simpa [Char.ofNat_toNat] using h1

theorem okZone_nameOf (z : String) (hc : ',' ∉ z.toList) (hs : ' ' ∉ z.toList) (hd : z ≠ "-") :
    okZone (nameOf z) = true := by
  rw [okZone_iff]
  constructor
  · intro n hn
    simp only [nameOf, List.mem_map] at hn
    obtain ⟨c, hcm, rfl⟩ := hn
    refine ⟨by rw [Char.ofNat_toNat], ?_, ?_⟩
    · intro h; exact hc (toNat_eq_char c ',' h ▸ hcm)
    · intro h; exact hs (toNat_eq_char c ' ' h ▸ hcm)
  · intro h
    apply hd
    have h1 : z.toList = ['-'] := by
      simp only [nameOf] at h
      cases hz : z.toList with
      | nil => rw [hz] at h; simp at h
      | cons c r =>
        rw [hz] at h
        cases r with
        | cons _ _ => simp at h
        | nil =>
          simp only [List.map_cons, List.map_nil, List.cons.injEq, and_true] at h
          rw [toNat_eq_char c '-' h]
    exact String.toList_inj.mp h1

theorem wfAddr_parseAddr (tok : String) (a : Addr) (h : parseAddr tok = some a) (hs : ' ' ∉ tok.toList) :
    wfAddr a = true := by
  unfold parseAddr at h
  split at h
  · split at h
    · split at h
      · injection h with h; subst h; rfl
      · cases h
    · cases h
  · rename_i f hi lo z p hsp
    split at h
    · split at h
      · injection h with h
        subst h
        simp only [wfAddr, Bool.false_eq_true, if_false]
        split
        · rfl
        · rename_i hz
          have hz' : z ∈ splitC tok ',' := by rw [hsp]; simp
          exact okZone_nameOf z (fun hm => (mem_splitC tok ',' z hz' ',' hm).1 rfl)
            (fun hm => hs (mem_splitC tok ',' z hz' ' ' hm).2) hz
      · cases h
    · cases h
  · cases h

theorem handleTok_free (g : Nat) : ' ' ∉ (handleTok g).toList := by
  simp [handleTok, mem_digits]

theorem pidTok_free (g : Nat) : ' ' ∉ (pidTok g).toList := by
  simp [pidTok, mem_digits]

theorem parseWire_conn (g i k : Nat) : parseWire (printWire (.conn g i k)) = some (.conn g i k) := by
  simp [parseWire, printWire, splitC_joinC, handleTok_free, connTok_free, parseHandle_tok, parseConn_tok]

theorem parseWire_delivered (i k : Nat) : parseWire (printWire (.delivered i k)) = some (.delivered i k) := by
  unfold parseWire printWire
  rw [splitC_single ' ' _ (connTok_free _ _ _ (by decide) (by decide) (by decide))]
  exact parseWord_connTok i k

theorem parseWire_pkt (pid : Nat) (src : Addr) (h : wfAddr src = true) :
    parseWire (printWire (.pkt pid src)) = some (.pkt pid src) := by
  simp [parseWire, printWire, splitC_joinC, pidTok_free, showAddr_free src h, parseHandle_pidTok, parsePid_tok,
    parseAddr_showAddr src h]

theorem parseWire_closeIn (w : Bool) (t : Option (Nat × Nat)) :
    parseWire (printWire (.closeIn w t)) = some (.closeIn w t) := by
  cases w <;> simp [parseWire, printWire, splitC_joinC, flagTok, toTok_free, parseTo_tok]

theorem parseWire_printWire (x : Wire) (h : x.wf = true) : parseWire (printWire x) = some x := by
  cases x with
  | conn g i k => exact parseWire_conn g i k
  | delivered i k => exact parseWire_delivered i k
  | pkt pid src => exact parseWire_pkt pid src h
  | closeIn w t => exact parseWire_closeIn w t
  | errClosed => decide
  | errAddr => decide
  | ok => decide
  | errSock => decide
  | bad => decide
  | dropped => decide
  | empty => decide
  | eof => decide

theorem wf_toWire (i g : Nat) (o : Out) : (toWire i g o).wf = wfOut o := by cases o <;> rfl

theorem parseWire_printOut (i g : Nat) (o : Out) (h : wfOut o = true) :
    parseWire (printOut i g o) = some (toWire i g o) :=
  parseWire_printWire _ (by rw [wf_toWire]; exact h)

theorem printCloseIn_eq (w : Bool) (i : Nat) (o : Out) (x : Wire) (h : closeInWire w i o = some x) :
    printCloseIn w i o = printWire x := by
  cases o <;> simp only [closeInWire, Option.some.injEq, reduceCtorEq] at h <;> subst h <;> rfl

/-- nothing the monitor judges is lost on the line: the typed output is recovered from the line, given what
the operation's plain success is called (`wrote` / `done`) and the mux-local handle id -/
theorem ofWire_toWire (i g : Nat) (o okIs : Out) (h : Nat)
    (hok : o = .wrote ∨ o = .done → o = okIs) (hh : ∀ h' c, o = .conn h' c → h' = h) :
    ofWire okIs h (toWire i g o) = some o := by
  cases o <;> simp only [toWire, ofWire]
  · rw [hh _ _ rfl]
  · rw [← hok (Or.inl rfl)]
  · rw [← hok (Or.inr rfl)]

end IceProofs.UdpMuxView

import IceProofs.Sys2C01LiveLeads
/-!
# C01 liveness — convergence on every fair suffix

`req_hop`, `resp_hop`, `nom_hop`: a tracked request / response / nomination does its work when it is delivered;
`ch1_completes`, `dpy_completes`: a transaction completes within two latencies.
`next_contact`: the clock of a suffix cannot pass the controlling agent's next tick without a tick (timer or forced) not
later than that; until then the controlling agent keeps what it needs for its first valid pair (`Start`).
`first_valid`, `contact_after`, `ctl_selected`, `first_seen`, `converge_fair_from`, `converge_fair`: the convergence
argument in real time, split at the first valid pair (`ValidBy`).
-/

namespace IceProofs.C01Live
open IceModel.AgentCore IceModel.Sys2 IceProofs.Sys2Run IceProofs.C01 IceProofs.Agent

section
variable {nat blocked : List (Nat × Nat)} {SLA SLB SR : Nat → Prop} {liteA liteB : Bool} {T0 H J : Nat} {c : Bool}

variable {x : Bool} {tid la ra : Nat} {uc nomOn : Bool} {ts : Nat}

theorem open_keep {s s' : Sys} (h : FInv nat blocked SLA SLB SR liteA liteB T0 H J c s) {hd : Dgram} {t : List Dgram}
    (he : Effect T0 s s' hd t) (hmem : hd ∈ s.inflight) (hp : Goal c s x uc nomOn ∨ Ob s x tid la ra uc nomOn ts) :
    Goal c s' x uc nomOn ∨ Ob s' x tid la ra uc nomOn ts :=
  hp.elim (fun g => Or.inl (g.keep he)) (resp_keep h.ok he hmem)

theorem open_adv {s s' : Sys} {T : Nat} (h : FInv nat blocked SLA SLB SR liteA liteB T0 H J c s) (he : AdvEffect T0 T s s')
    (hy : T - ts < maxBindingRequestTimeout) (hp : Goal c s x uc nomOn ∨ Ob s x tid la ra uc nomOn ts) :
    Goal c s' x uc nomOn ∨ Ob s' x tid la ra uc nomOn ts :=
  hp.elim (fun g => Or.inl (g.adv he)) (fun hob => Or.inr (hob.adv h.ok he hy))

theorem req_hop {s : Sys} {es : List SysEv} (h : FInv nat blocked SLA SLB SR liteA liteB T0 H J c s) (hs : SufOK c H J s es)
    {dl i : Nat} {d : Dgram} (hp : Goal c s x uc nomOn ∨ Ob s x tid la ra uc nomOn ts) (hi : s.inflight[i]? = some d)
    (hd : ReqD s x tid la ra uc d) (hdel : DeliveredBy dl s es i) (hy : dl - ts < maxBindingRequestTimeout) :
    By (fun s => Ch2 c s x tid la ra uc nomOn ts) dl s es := by
  refine track_exit (P := fun s => Goal c s x uc nomOn ∨ Ob s x tid la ra uc nomOn ts)
    (Q := fun s => Ch2 c s x tid la ra uc nomOn ts) (D := fun s d => ReqD s x tid la ra uc d) ?_ ?_ ?_ ?_ es s i d h hs hp hi hd hdel
  · exact fun _ _ _ _ h he hmem hp => Or.inl (open_keep h he hmem hp)
  · exact fun _ _ T h he hT hp => open_adv h he (by omega) hp
  · intro s s' d he hd'; exact hd'.same he
  · intro s s' d t h he hmem hp hd'
    rcases hp with g | hob
    · exact Or.inl (g.keep he)
    · obtain ⟨k1, d', hd1, hr1⟩ := deliver_req h.ok he hmem hob hd'
      exact Or.inr ⟨k1, d', hd1, hr1⟩

theorem resp_hop {s : Sys} {es : List SysEv} (h : FInv nat blocked SLA SLB SR liteA liteB T0 H J c s) (hs : SufOK c H J s es)
    {dl i : Nat} {d : Dgram} (hp : Goal c s x uc nomOn ∨ Ob s x tid la ra uc nomOn ts) (hi : s.inflight[i]? = some d)
    (hd : RespD s x tid la ra d) (hdel : DeliveredBy dl s es i) (hy : dl - ts < maxBindingRequestTimeout) :
    By (fun s => Goal c s x uc nomOn) dl s es := by
  refine track_exit (P := fun s => Goal c s x uc nomOn ∨ Ob s x tid la ra uc nomOn ts)
    (Q := fun s => Goal c s x uc nomOn) (D := fun s d => RespD s x tid la ra d) ?_ ?_ ?_ ?_ es s i d h hs hp hi hd hdel
  · exact fun _ _ _ _ h he hmem hp => Or.inl (open_keep h he hmem hp)
  · exact fun _ _ T h he hT hp => open_adv h he (by omega) hp
  · intro s s' d he hd'; exact hd'.same he
  · intro s s' d t h he hmem hp hd'
    rcases hp with g | hob
    · exact g.keep he
    · exact resp_fin h.ok he hmem hob hd'

theorem nom_hop {s : Sys} {es : List SysEv} (h : FInv nat blocked SLA SLB SR liteA liteB T0 H J c s) (hs : SufOK c H J s es)
    {dl i la ra : Nat} {d : Dgram} (hl : Link s c la ra) (hi : s.inflight[i]? = some d)
    (hd : NomD c s la ra d) (hdel : DeliveredBy dl s es i) :
    ∃ e1 e2, es = e1 ++ e2 ∧ DP c (Sys.runs s e1) true ∧ (Sys.runs s e1).now ≤ dl := by
  refine track_exit (P := fun s => Link s c la ra) (Q := fun s => DP c s true) (D := fun s d => NomD c s la ra d)
    ?_ ?_ ?_ ?_ es s i d h hs hl hi hd hdel
  · intro s s' hd t h he hmem hp; exact Or.inl (he.net.link hp)
  · intro s s' T h he hT hp; exact he.net.link hp
  · intro s s' d he hd'; exact hd'.same he
  · intro s s' d t h he hmem hp hd'
    exact deliver_nom h.ok he hmem hp hd'

theorem mbrt_pos : 0 < maxBindingRequestTimeout := by unfold maxBindingRequestTimeout; omega

variable {L E : Nat}

theorem ch2_completes {s : Sys} {es : List SysEv} (h : Suf nat blocked SLA SLB SR liteA liteB T0 H J c L E s es)
    (g : Ch2 c s x tid la ra uc nomOn ts) (hend : s.now + L < E) (hy : s.now + L < ts + maxBindingRequestTimeout) :
    By (fun s => Goal c s x uc nomOn) (s.now + L) s es := by
  rcases g with g | ⟨hob, d, hd, hr⟩
  · exact ⟨[], es, rfl, g, Nat.le_add_right _ _⟩
  · obtain ⟨i, hi, he⟩ := mem_getElem_lt hd
    have := mbrt_pos
    exact resp_hop h.inv h.ok (Or.inr hob) he hr (h.fair [] es rfl i hi (by rw [h.fin]; exact hend)) (by omega)

theorem ch1_completes {s : Sys} {es : List SysEv} (h : Suf nat blocked SLA SLB SR liteA liteB T0 H J c L E s es)
    (g : Ch1 c s x tid la ra uc nomOn ts) (hend : s.now + 2 * L < E) (hy : s.now + 2 * L < ts + maxBindingRequestTimeout) :
    By (fun s => Goal c s x uc nomOn) (s.now + 2 * L) s es := by
  rcases g with g2 | ⟨hob, d, hd, hr⟩
  · exact (ch2_completes h g2 (by omega) (by omega)).mono (fun _ g => g) (by omega)
  · obtain ⟨i, hi, he⟩ := mem_getElem_lt hd
    have hdel : DeliveredBy (s.now + L) s es i := h.fair [] es rfl i hi (by rw [h.fin]; show s.now + L < _; omega)
    have := mbrt_pos
    exact By.bind h (req_hop h.inv h.ok (Or.inr hob) he hr hdel (by omega)) fun s' es' h' lt q hn =>
      (ch2_completes h' q (by have := lt.now; omega) (by omega)).mono (fun _ g => g) (by have := lt.now; omega)

/-- progress of the controlled agent with time to spare: a selected pair, or its own transaction on a marked pair,
young enough to complete -/
def DPY (c : Bool) (L : Nat) (s : Sys) : Prop :=
  Sel s (!c) ∨ ∃ tid lb rb ts, Ch1 c s (!c) tid lb rb false true ts ∧ s.now + 2 * L < ts + maxBindingRequestTimeout

theorem DP.dpy {L : Nat} {s : Sys} (g : DP c s true) (hL : 2 * L < maxBindingRequestTimeout) : DPY c L s := by
  rcases g with g | ⟨tid, lb, rb, ts, g, hf⟩
  · exact Or.inl g
  · exact Or.inr ⟨tid, lb, rb, ts, g, by rw [hf rfl]; omega⟩

theorem dpy_completes {s : Sys} {es : List SysEv} (h : Suf nat blocked SLA SLB SR liteA liteB T0 H J c L E s es)
    (g : DPY c L s) (hend : s.now + 2 * L < E) : By (fun s => Sel s (!c)) (s.now + 2 * L) s es := by
  rcases g with g | ⟨tid, lb, rb, ts, g, hy⟩
  · exact ⟨[], es, rfl, g, Nat.le_add_right _ _⟩
  · exact (ch1_completes h g hend hy).mono (fun _ q => q.2 (by cases c <;> simp)) (Nat.le_refl _)

theorem first_seen {s : Sys} {es : List SysEv} (h : FInv nat blocked SLA SLB SR liteA liteB T0 H J c s) (hs : SufOK c H J s es)
    (hns : ¬ NomSeen c s) (hend : NomSeen c (Sys.runs s es)) :
    ∃ e1 e2, es = e1 ++ e2 ∧ DP c (Sys.runs s e1) true := by
  obtain ⟨e1, e, e2, q1, _, q3⟩ := until_exit
    (Wait := fun s es => ¬ NomSeen c s ∧ NomSeen c (Sys.runs s es)) (Q := fun _ _ s' => DP c s' true)
    (fun s e es h he ⟨hns, hend⟩ => by
      by_cases hn1 : NomSeen c (Sys.run s e)
      · left
        obtain ⟨h', hv⟩ := h.step he
        match hv with
        | .same (h := e') .. => rw [e'] at hn1; exact absurd hn1 hns
        | .dlv (hk := hk) (eff := eff) .. =>
          have hj : LinkedJ c False s := fun hx => absurd hx hns
          exact (hj.keep h.ok h'.ok eff (List.mem_of_getElem? hk) (fun d hd' => mem_restOf_or hk hd')
            (fun d hd' => mem_of_mem_restOf hd') hn1).resolve_right id
        | .adv (hH := hH) (eff := eff) (hs := e') (sel := hselc) .. =>
          rw [e'] at hn1 h' eff hselc
          exact absurd (NomSeen.adv_back h.ok hH h'.ok eff (by rw [← eff.agent c]; exact hselc) hn1) hns
      · exact Or.inr ⟨hn1, hend⟩)
    (fun _ _ w => w.1 w.2) h hs ⟨hns, hend⟩
  exact ⟨e1 ++ [e], e2, by rw [q1]; simp, by rw [Sys.runs_snoc]; exact q3⟩

theorem first_seen_by {B : Nat} {s : Sys} {es : List SysEv} (h : Suf nat blocked SLA SLB SR liteA liteB T0 H J c L E s es)
    (hns : ¬ NomSeen c s) (hp : By (NomSeen c) B s es) : By (fun s => DP c s true) B s es := by
  obtain ⟨e1, e2, rfl, q2, q3⟩ := hp
  obtain ⟨g1, g2, rfl, p2⟩ := first_seen h.inv h.ok.head hns q2
  refine ⟨g1, g2 ++ e2, List.append_assoc .., p2, Nat.le_trans ?_ q3⟩
  rw [Sys.runs_append]
  exact now_le_runs (h.inv.runs h.ok.head.head) h.ok.head.tail

end

section
variable {nat blocked : List (Nat × Nat)} {SLA SLB SR : Nat → Prop} {liteA liteB : Bool} {T0 H J : Nat} {c : Bool}

theorem Start.deliver {s s' : Sys} {hd : Dgram} {t : List Dgram} (eff : Effect T0 s s' hd t)
    (bk : BK (s.agent c) (s'.agent c)) (g : Start c s) : Start c s' := by
  rcases g with g | g | ⟨p, hp, hst, hb, l, r, hl, hr, hlink⟩
  · exact Or.inl (g.keep eff)
  · exact Or.inr (Or.inl (g.keep eff))
  · -- the pair at its position
    obtain ⟨i, hi⟩ := List.getElem?_of_mem hp
    obtain ⟨p2, hp2, bp⟩ := bk i p hi
    have hp2m : p2 ∈ (s'.agent c).checklist := List.mem_of_getElem? hp2
    rcases bp.keep with ⟨e1, e2⟩ | hsucc
    · right; right
      obtain ⟨_, lk⟩ := eff.lk c
      obtain ⟨p1, hp1, kp⟩ := lk.pairs i p hi
      rw [hp2] at hp1
      cases hp1
      obtain ⟨l', hl', kl⟩ := lk.localOf hl
      obtain ⟨r', hr', kr⟩ := lk.remoteOf hr
      refine ⟨p2, hp2m, by rw [e1]; exact hst, by rw [e2, (eff.ids c).cfg]; exact hb, l', r', by rw [kp.l]; exact hl',
        by rw [kp.r]; exact hr', ?_⟩
      rw [ckey_addr kl, ckey_addr kr.key]
      exact eff.net.link hlink
    · exact Or.inl ⟨p2, hp2m, hsucc⟩

theorem Start.early {s : Sys} (h : FInv nat blocked SLA SLB SR liteA liteB T0 H J c s) {T t : Nat} (hle : s.now ≤ T) (hH : T ≤ H)
    (ht : (s.agent c).nextTick = some t) (hT : T < t) (g : Start c s) : Start c (s.advance T).1 := by
  obtain ⟨h', eff, early, _⟩ := h.advance hle hH ht (Nat.le_trans (Nat.le_of_lt hT) (Nat.le_add_right _ _))
  have ec := early hT
  rcases g with g | g | ⟨p, hp, hst, hb, l, r, hl, hr, hlink⟩
  · exact Or.inl (g.adv eff)
  · exact Or.inr (Or.inl (g.adv eff))
  · exact Or.inr (Or.inr ⟨p, by rw [ec]; exact hp, hst, by rw [ec]; exact hb, l, r, by rw [ec]; exact hl, by rw [ec]; exact hr,
      eff.net.link hlink⟩)

theorem ev_class {s : Sys} {e : SysEv} {t : Nat} (h : FInv nat blocked SLA SLB SR liteA liteB T0 H J c s) (he : sufOK c H J s e)
    (ht : (s.agent c).nextTick = some t) :
    (((Sys.run s e).agent c).nextTick = some t ∧ (Start c s → Start c (Sys.run s e))) ∨
    (∃ ts, CTick c ts s (Sys.run s e) ∧ ts ≤ t ∧ ts ≤ (Sys.run s e).now ∧ (Sys.run s e).now ≤ ts + J) := by
  have hnt : s.now ≤ t := by
    obtain ⟨t', ht', l1, _⟩ := h.tick
    rw [ht] at ht'; cases ht'; exact l1
  match (h.step he).2 with
  | .same (h := e') .. => rw [e']; exact Or.inl ⟨ht, fun g => g⟩
  | .dlv (eff := eff) (ctl := .inl hq) .. => exact Or.inl ⟨by rw [hq.1]; exact ht, Start.deliver eff hq.2⟩
  | .dlv (eff := eff) (ctl := .inr hc) .. =>
    exact Or.inr ⟨s.now, hc, hnt, by rw [eff.now]; exact Nat.le_refl _, by rw [eff.now]; exact Nat.le_add_right _ _⟩
  | .adv (T := T) (hle := hle) (hH := hH) (ht := ht1) (hT := hT) (eff := eff) (hs := e') (early := early) (tick := tk) .. =>
    rw [ht] at ht1; cases ht1
    rcases Nat.lt_or_ge T t with hlt | hge
    · exact Or.inl ⟨by rw [early hlt]; exact ht, by rw [e']; exact Start.early h hle hH ht hlt⟩
    · exact Or.inr ⟨t, tk hge, Nat.le_refl _, by rw [eff.now]; exact hge, by rw [eff.now]; exact hT⟩

theorem next_contact {s : Sys} {es : List SysEv} {t : Nat} (h : FInv nat blocked SLA SLB SR liteA liteB T0 H J c s)
    (hs : SufOK c H J s es) (ht : (s.agent c).nextTick = some t) (hend : t < (Sys.runs s es).now) :
    ∃ e1 e e2 ts, es = e1 ++ e :: e2 ∧ (Start c s → Start c (Sys.runs s e1)) ∧
      CTick c ts (Sys.runs s e1) (Sys.run (Sys.runs s e1) e) ∧ ts ≤ t ∧ (Sys.run (Sys.runs s e1) e).now ≤ ts + J := by
  obtain ⟨e1, e, e2, q1, ⟨_, q2, _⟩, ts, q3, q4, q5⟩ := until_exit
    (Wait := fun s' es' => (s'.agent c).nextTick = some t ∧ (Start c s → Start c s') ∧ t < (Sys.runs s' es').now)
    (Q := fun s1 _ s2 => ∃ ts, CTick c ts s1 s2 ∧ ts ≤ t ∧ s2.now ≤ ts + J)
    (fun s' e es' h' he ⟨w1, w2, w3⟩ => (ev_class h' he w1).symm.imp (fun ⟨ts, a, b, _, d⟩ => ⟨ts, a, b, d⟩)
      (fun ⟨a, b⟩ => ⟨a, fun g => b (w2 g), w3⟩))
    (fun s' h' ⟨w1, _, w3⟩ => by
      obtain ⟨t', ht', l, _⟩ := h'.tick
      rw [w1] at ht'; cases ht'
      exact absurd w3 (by show ¬ t < s'.now; omega))
    h hs ⟨ht, id, hend⟩
  exact ⟨e1, e, e2, ts, q1, q2, q3, q4, q5⟩

variable {L E : Nat}

theorem first_valid {s : Sys} {es : List SysEv} {t : Nat} (h : Suf nat blocked SLA SLB SR liteA liteB T0 H J c L E s es)
    (hL : J + 2 * L < maxBindingRequestTimeout) (hst : Start c s) (ht : (s.agent c).nextTick = some t)
    (hend : t + J + 2 * L < E) : By (fun s => HasSucc s c ∨ Sel s c) (t + J + 2 * L) s es := by
  obtain ⟨e1, e, e2, ts, rfl, q2, q3, q4, q5⟩ := next_contact h.inv h.ok ht (by rw [h.fin]; omega)
  obtain ⟨h', _⟩ := h.after
  rw [show e1 ++ e :: e2 = (e1 ++ [e]) ++ e2 by simp]
  refine By.append ?_
  rw [Sys.runs_snoc]
  rcases q3.ping (q2 hst) with g | g | ⟨tid, la, ra, hch⟩
  · exact ⟨[], e2, rfl, Or.inl g, by show (Sys.run (Sys.runs s e1) e).now ≤ _; omega⟩
  · exact ⟨[], e2, rfl, Or.inr g, by show (Sys.run (Sys.runs s e1) e).now ≤ _; omega⟩
  · exact (ch1_completes h' hch (by omega) (by omega)).mono (fun _ g => Or.inl g.1) (by omega)

theorem contact_after (N : Nat) {s : Sys} {es : List SysEv} {t : Nat} (h : FInv nat blocked SLA SLB SR liteA liteB T0 H J c s)
    (hs : SufOK c H J s es) (ht : (s.agent c).nextTick = some t) (hend : max t (N + J + 2000000000) < (Sys.runs s es).now) :
    ∃ e1 e e2 ts, es = e1 ++ e :: e2 ∧ CTick c ts (Sys.runs s e1) (Sys.run (Sys.runs s e1) e) ∧
      N ≤ ts ∧ ts ≤ max t (N + J + 2000000000) ∧ (Sys.run (Sys.runs s e1) e).now ≤ ts + J := by
  -- waiting: the next tick of `c`, and the time `N + J + 2 s` by which a later one is due, are not beyond the deadline
  obtain ⟨e1, e, e2, q1, _, ts, q2, q3, q4, q5⟩ := until_exit
    (Wait := fun s' es' => ∃ t', (s'.agent c).nextTick = some t' ∧
      max t' (N + J + 2000000000) ≤ max t (N + J + 2000000000) ∧ max t (N + J + 2000000000) < (Sys.runs s' es').now)
    (Q := fun s1 _ s2 => ∃ ts, CTick c ts s1 s2 ∧ N ≤ ts ∧ ts ≤ max t (N + J + 2000000000) ∧ s2.now ≤ ts + J)
    (fun s' e es' h' he ⟨t', ht', hm, hend'⟩ => by
      rcases ev_class h' he ht' with ⟨htk, _⟩ | ⟨ts, hc, hn, _, hj⟩
      · exact Or.inr ⟨t', htk, hm, hend'⟩
      · by_cases hN : N ≤ ts
        · exact Or.inl ⟨ts, hc, hN, Nat.le_trans (Nat.le_trans hn (Nat.le_max_left _ _)) hm, hj⟩
        · obtain ⟨t'', ht'', _, l2⟩ := (h'.run he).tick
          exact Or.inr ⟨t'', ht'', by rw [Nat.max_eq_right (by omega)]; exact Nat.le_max_right _ _, hend'⟩)
    (fun s' h' ⟨t', ht', hm, hend'⟩ => by
      obtain ⟨t'', ht'', l1, _⟩ := h'.tick
      rw [ht'] at ht''; cases ht''
      have := Nat.le_max_left t' (N + J + 2000000000)
      exact absurd hend' (by show ¬ _ < s'.now; omega))
    h hs ⟨t, ht, Nat.le_refl _, hend⟩
  exact ⟨e1, e, e2, ts, q1, q2, q3, q4, q5⟩

theorem ctl_selected {s : Sys} {es : List SysEv} (h : Suf nat blocked SLA SLB SR liteA liteB T0 H J c L E s es)
    (hL : J + 2 * L < maxBindingRequestTimeout) (hst : HasSucc s c ∨ Sel s c)
    (hend : max s.now (nomTime c s) + 2000000000 + 2 * J + 2 * L < E) :
    By (fun s => Sel s c) (max s.now (nomTime c s) + 2000000000 + 2 * J + 2 * L) s es := by
  by_cases hsel0 : Sel s c
  · exact ⟨[], es, rfl, hsel0, by have := Nat.le_max_left s.now (nomTime c s); show s.now ≤ _; omega⟩
  have hsucc0 : HasSucc s c := hst.elim id (fun g => absurd g hsel0)
  obtain ⟨t0, ht0, l1, l2⟩ := h.inv.tick
  have hmx : max t0 (nomTime c s + J + 2000000000) ≤ max s.now (nomTime c s) + 2000000000 + J := by
    have := Nat.le_max_left s.now (nomTime c s)
    have := Nat.le_max_right s.now (nomTime c s)
    exact Nat.max_le.mpr ⟨by omega, by omega⟩
  obtain ⟨e1, e, e2, ts, rfl, q2, q3, q4, q5⟩ := contact_after (nomTime c s) h.inv h.ok ht0 (by rw [h.fin]; omega)
  obtain ⟨h', _⟩ := h.after
  have hN : nomTime c (Sys.runs s e1) = nomTime c s := h.tail.2.nomTime c
  rw [show e1 ++ e :: e2 = (e1 ++ [e]) ++ e2 by simp]
  refine By.append ?_
  rw [Sys.runs_snoc]
  rcases q2.nom (hasSucc_runs h.inv h.ok.head hsucc0) (by rw [hN]; exact q3) with g | ⟨tid, la, ra, hch⟩
  · exact ⟨[], e2, rfl, g, by show (Sys.run (Sys.runs s e1) e).now ≤ _; omega⟩
  · exact (ch1_completes h' hch (by omega) (by omega)).mono (fun _ g => g.2 (by simp)) (by omega)

end

/-- the time by which a fair suffix has converged -/
def fairBound (c : Bool) (L J : Nat) (s : Sys) : Nat :=
  max (s.now + 2000000000 + J + 2 * L) (nomTime c s) + 2000000000 + 2 * J + 4 * L

/-- at a split point of the schedule `es` (run from `s`) whose clock is at most `B`, the agent `c` has a Succeeded or a
selected pair -/
def ValidBy (c : Bool) (B : Nat) : Sys → List SysEv → Prop
  | s, [] => (HasSucc s c ∨ Sel s c) ∧ s.now ≤ B
  | s, e :: es => ((HasSucc s c ∨ Sel s c) ∧ s.now ≤ B) ∨ ValidBy c B (Sys.run s e) es

/-- decidable (structural recursion on the schedule) -/
def ValidBy.dec (c : Bool) (B : Nat) : (s : Sys) → (es : List SysEv) → Decidable (ValidBy c B s es)
  | s, [] => by unfold ValidBy; exact inferInstance
  | s, e :: es =>
    have := ValidBy.dec c B (Sys.run s e) es
    by unfold ValidBy; exact inferInstance

instance (c : Bool) (B : Nat) (s : Sys) (es : List SysEv) : Decidable (ValidBy c B s es) := ValidBy.dec c B s es

theorem ValidBy.split {c : Bool} {B : Nat} {s : Sys} {es : List SysEv} (h : ValidBy c B s es) :
    ∃ e1 e2, es = e1 ++ e2 ∧ (HasSucc (Sys.runs s e1) c ∨ Sel (Sys.runs s e1) c) ∧ (Sys.runs s e1).now ≤ B := by
  induction es generalizing s with
  | nil => exact ⟨[], [], rfl, h.1, h.2⟩
  | cons e es ih =>
    rcases h with h | h
    · exact ⟨[], e :: es, rfl, h.1, h.2⟩
    · obtain ⟨e1, e2, q1, q2, q3⟩ := ih h
      exact ⟨e :: e1, e2, by rw [q1]; rfl, q2, q3⟩

theorem ValidBy.of_split {c : Bool} {B : Nat} {s : Sys} {e1 e2 : List SysEv}
    (hv : HasSucc (Sys.runs s e1) c ∨ Sel (Sys.runs s e1) c) (hn : (Sys.runs s e1).now ≤ B) :
    ValidBy c B s (e1 ++ e2) := by
  induction e1 generalizing s with
  | nil =>
    cases e2 with
    | nil => exact ⟨hv, hn⟩
    | cons e es => exact Or.inl ⟨hv, hn⟩
  | cons e e1 ih => exact Or.inr (ih hv hn)

theorem validBy_iff {c : Bool} {B : Nat} {s : Sys} {es : List SysEv} :
    ValidBy c B s es ↔ By (fun s => HasSucc s c ∨ Sel s c) B s es :=
  ⟨ValidBy.split, fun ⟨_, _, q1, q2, q3⟩ => q1 ▸ ValidBy.of_split q2 q3⟩

section
variable {c : Bool}

theorem ValidBy.append {B : Nat} {s : Sys} {e1 e2 : List SysEv} (h : ValidBy c B (Sys.runs s e1) e2) :
    ValidBy c B s (e1 ++ e2) := validBy_iff.2 (By.append (validBy_iff.1 h))

end

/-- the time by which a fair suffix has converged when the controlling agent has its first valid pair by `B` -/
def validBound (c : Bool) (L J B : Nat) (s : Sys) : Nat :=
  max B (nomTime c s) + 2000000000 + 2 * J + 4 * L

theorem validBound_mono {c : Bool} {L J B B' : Nat} {s : Sys} (h : B ≤ B') :
    validBound c L J B s ≤ validBound c L J B' s := by
  unfold validBound
  omega

theorem le_validBound {c : Bool} {L J B : Nat} {s : Sys} : B ≤ validBound c L J B s := by
  unfold validBound
  omega

section
variable {nat blocked : List (Nat × Nat)} {SLA SLB SR : Nat → Prop} {liteA liteB : Bool} {T0 H J L : Nat} {c : Bool}

theorem first_valid_by {s : Sys} {es : List SysEv} (h : FInv nat blocked SLA SLB SR liteA liteB T0 H J c s)
    (hs : SufOK c H J s es) (hf : FairL L s es) (hL : J + 2 * L < maxBindingRequestTimeout) (hst : Start c s)
    (hend : s.now + 2000000000 + J + 2 * L < (Sys.runs s es).now) :
    ValidBy c (s.now + 2000000000 + J + 2 * L) s es := by
  obtain ⟨t0, ht0, l1, l2⟩ := h.tick
  exact validBy_iff.2 ((first_valid ⟨h, hs, hf, rfl⟩ hL hst ht0 (by omega)).mono (fun _ g => g) (by omega))

theorem converge_fair_from {s : Sys} {es : List SysEv} {B : Nat} (h : FInv nat blocked SLA SLB SR liteA liteB T0 H J c s)
    (hs : SufOK c H J s es) (hf : FairL L s es) (hL : J + 2 * L < maxBindingRequestTimeout)
    (hlink : NomSeen c s → DPY c L s) (hv : ValidBy c B s es) (hend : validBound c L J B s < (Sys.runs s es).now) :
    ∀ x, Sel (Sys.runs s es) x ∧ ((Sys.runs s es).agent x).connState = .connected := by
  have h : Suf nat blocked SLA SLB SR liteA liteB T0 H J c L (Sys.runs s es).now s es := ⟨h, hs, hf, rfl⟩
  unfold validBound at hend
  have hmR := Nat.le_max_right B (nomTime c s)
  -- from its first valid pair the controlling agent selects
  have hC : By (fun s => Sel s c) (max B (nomTime c s) + 2000000000 + 2 * J + 2 * L) s es :=
    By.bind h (validBy_iff.1 hv) fun s' es' h' lt q hn => by
      have hmax : max s'.now (nomTime c s') ≤ max B (nomTime c s) := by
        rw [lt.nomTime]; exact Nat.max_le.mpr ⟨by omega, hmR⟩
      exact (ctl_selected h' hL q (by omega)).mono (fun _ g => g) (by omega)
  -- the controlled agent follows: its own transaction was open at the start, or opens when the nomination arrives
  have hD : By (fun s => Sel s (!c)) (max B (nomTime c s) + 2000000000 + 2 * J + 4 * L) s es := by
    by_cases hseen : NomSeen c s
    · have hnow := hC.now_le h
      exact (dpy_completes h (hlink hseen) (by omega)).mono (fun _ g => g) (by omega)
    · exact By.bind h (first_seen_by h hseen (hC.mono (fun _ g => Or.inl g) (Nat.le_refl _))) fun s' es' h' _ q hn =>
        (dpy_completes h' (q.dpy (by omega)) (by omega)).mono (fun _ g => g) (by omega)
  intro x
  have hsx : Sel (Sys.runs s es) x := by
    by_cases hx : x = c
    · subst hx; exact hC.sel_end h
    · rw [Bool.eq_not_of_ne hx]; exact hD.sel_end h
  exact ⟨hsx, ((h.inv.runs h.ok).ok.good x).linv.selConn hsx⟩

/-- **convergence on every fair suffix**: `Start` gives the first valid pair by `now + 2 s + J + 2 L`
(`fairBound` is the `validBound` of that time) -/
theorem converge_fair {s : Sys} {es : List SysEv} (h : FInv nat blocked SLA SLB SR liteA liteB T0 H J c s)
    (hs : SufOK c H J s es) (hf : FairL L s es) (hL : J + 2 * L < maxBindingRequestTimeout)
    (hlink : NomSeen c s → DPY c L s) (hst : Start c s) (hend : fairBound c L J s < (Sys.runs s es).now) :
    ∀ x, Sel (Sys.runs s es) x ∧ ((Sys.runs s es).agent x).connState = .connected :=
  converge_fair_from h hs hf hL hlink
    (first_valid_by h hs hf hL hst (Nat.lt_of_le_of_lt (le_validBound (c := c) (L := L) (J := J)) hend)) hend

end

end IceProofs.C01Live

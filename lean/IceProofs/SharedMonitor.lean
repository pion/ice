import IceProofs.SharedConn
import IceSpec.C13
/-!
# Every trace of the handle model passes the spec monitor `IceSpec.C13.sharedViolation`

The monitor's bookkeeping is a function `absM` of the model state (`Rel s m ↔ m = absM s`); one step of the model
is one step of the monitor from `absM s` to `absM` of the successor (`monitor_step`).  Any number of handles, any
legal operation sequence.
-/
namespace IceProofs.SharedConn
open IceModel.SharedConn IceProofs.CountP IceSpec.C13

def resOf : Out → IORes
  | .ok => .ok
  | .errClosed => .errClosed
  | .data => .data
  | .pending => .pending
  | .errTimeout => .errTimeout
  | _ => .other

theorem resOf_orRefused_ok (b : Bool) : resOf (Out.ok.orRefused b) = if b then .other else .ok := by
  cases b <;> rfl

/-- The observation the harness prints for a model step (`none`: the operation named no handle / connection). -/
def obsOf : Op → Out → Option SObs
  | _, .badHandle => none
  | .open, .handle id => some (.opened id)
  | .close h, .closed u rel => some (.closed h u rel)
  | .close h, .closedErr u rel => some (.closedErr h u rel)
  | .abort h, .closed u rel => some (.aborted h .ok u rel)
  | .abort h, .closedErr u rel => some (.aborted h .other u rel)
  | .abort h, .abortedClosed u => some (.aborted h .errClosed u 0)
  | .read h, o => some (.io h .read 0 (resOf o))
  | .write h c, o => some (.io h .write c (resOf o))
  | .setrd h p, o => some (.dl h true false p (resOf o))
  | .setwd h p, o => some (.dl h false true p (resOf o))
  | .setd h p, o => some (.dl h true true p (resOf o))
  | .refuse c on, .ok => some (.fault c on)
  | .feed, .fed r => some (.fed r)
  | .feed, .skip => some .skip
  | _, _ => none

/-- The monitor's bookkeeping agrees with the model state; in particular the handles that HOLD a write deadline for
the monitor are the open wrappers whose `writeDeadlineArmed` is set, and the connections the monitor regards as not
healthy are those with a register of their own. -/
structure Rel (s : State) (m : SMon) : Prop where
  isOpen : m.isOpen = s.handles.map isOpenB
  parked : m.parked = s.handles.map (·.pending)
  u : m.u = s.uCloses
  ownRd : m.ownRd = s.handles.map (·.rdlPast)
  ownWd : m.ownWd = s.handles.map armedOpen
  refusing : m.refusing = s.conns.map (·.refuse)
  everRef : m.everRef = s.conns.map (·.dirty)

/-- What the monitor has seen, read off the model state.  `Rel` says the same field by field (`rel_absM`,
`Rel.eq_absM`); every lemma below is about `absM`. -/
def absM (s : State) : SMon where
  isOpen := s.handles.map isOpenB
  parked := s.handles.map (·.pending)
  u := s.uCloses
  ownRd := s.handles.map (·.rdlPast)
  ownWd := s.handles.map armedOpen
  refusing := s.conns.map (·.refuse)
  everRef := s.conns.map (·.dirty)

theorem rel_absM (s : State) : Rel s (absM s) := ⟨rfl, rfl, rfl, rfl, rfl, rfl, rfl⟩

theorem Rel.eq_absM {s : State} {m : SMon} (h : Rel s m) : m = absM s := by
  cases m; cases h; simp_all [absM]

theorem absM_initK (fwd : Bool) (k : Nat) : absM (State.initK fwd k) = SMon.initK k := by
  simp [absM, State.initK, SMon.initK]

theorem fan_map_refuse (s : State) (v : Bool) : (s.fan v).map (·.refuse) = s.conns.map (·.refuse) := by
  unfold State.fan
  split
  · rw [List.map_map]; congr 1; funext k; exact fan_refuse v k
  · rfl

theorem fan_map_dirty (s : State) (v : Bool) : (s.fan v).map (·.dirty) = s.conns.map (·.dirty) := by
  unfold State.fan
  split
  · rw [List.map_map]; congr 1; funext k
    rcases k with ⟨rf, d, w⟩
    cases d <;> cases rf <;> simp [Conn.fan]
  · rfl

theorem uCloses_zero_of_open {s : State} (hi : SInv s) {h : Nat} {hd : Handle} (hg : s.handles[h]? = some hd)
    (ho : hd.closed = false) : s.uCloses = 0 := by
  have := open_pos hg ho
  rw [hi.closes]
  have hne : nOpen s.handles ≠ 0 := by omega
  simp [hne]

theorem pending_le_total {hs : List Handle} {h : Nat} {hd : Handle} (hg : hs[h]? = some hd) :
    hd.pending ≤ totalPending hs := by
  induction hs generalizing h with
  | nil => simp at hg
  | cons x xs ih =>
    cases h with
    | zero => simp at hg; subst hg; simp [totalPending]
    | succ n =>
      simp at hg
      have := ih hg
      simp only [totalPending, List.map_cons, List.sum_cons] at this ⊢
      omega

theorem firstPending_spec {hs : List Handle} {i k : Nat} (h : firstPending hs i = some k) :
    i ≤ k ∧ ∃ hd, hs[k - i]? = some hd ∧ 0 < hd.pending := by
  induction hs generalizing i with
  | nil => simp [firstPending] at h
  | cons x xs ih =>
    simp only [firstPending] at h
    split at h
    · rename_i hp
      cases h
      exact ⟨Nat.le_refl _, x, by simp, hp⟩
    · obtain ⟨hle, hd, hg, hp⟩ := ih h
      refine ⟨by omega, hd, ?_, hp⟩
      have : k - i = (k - (i + 1)) + 1 := by omega
      rw [this]
      simpa using hg

theorem map_set_same {β : Type} (f : Handle → β) {hs : List Handle} {h : Nat} {hd hd' : Handle}
    (hg : hs[h]? = some hd) (he : f hd' = f hd) : (hs.set h hd').map f = hs.map f := by
  rw [List.map_set, he]
  apply set_getElem?_self
  rw [List.getElem?_map, hg]; rfl

theorem held_of_pos {hs : List Handle} (h : 0 < nHeld hs) : (hs.map armedOpen).any id = true := by
  obtain ⟨a, ha, hp⟩ := List.countP_pos_iff.mp h
  simp only [List.any_map, List.any_eq_true]
  exact ⟨a, ha, hp⟩

theorem faulty_of_refusing {s : State} (h : s.refusing = true) : (absM s).faulty = true := by
  simp only [State.refusing, Bool.and_eq_true] at h
  simp only [SMon.faulty, absM, List.any_map]
  exact h.2

theorem absM_nOpen (s : State) : (absM s).nOpen = nOpen s.handles := by
  simp only [SMon.nOpen, absM, List.countP_map, nOpen_eq]
  rfl

theorem Closes.closeClause {s t : State} {h : Nat} {hd : Handle} {rd : Bool} {out : Out} (hc : Closes s h hd rd t out)
    (hg : s.handles[h]? = some hd) :
    closeClause { absM s with ownRd := (absM s).ownRd.set h rd } h t.uCloses hd.pending = (absM t, none) := by
  have hn : List.countP id (List.map isOpenB s.handles) = nOpen s.handles := absM_nOpen s
  have hcr : t.conns.map (·.refuse) = s.conns.map (·.refuse) := by
    rcases hc.conns with e | ⟨v, e⟩ <;> rw [e]; exact fan_map_refuse s v
  have hcd : t.conns.map (·.dirty) = s.conns.map (·.dirty) := by
    rcases hc.conns with e | ⟨v, e⟩ <;> rw [e]; exact fan_map_dirty s v
  simp only [_root_.IceSpec.C13.closeClause, SMon.nOpen, absM, hc.handles, hc.uCloses, hcr, hcd, List.map_set, isOpenB, armedOpen, hn]
  by_cases h1 : nOpen s.handles = 1 <;> simp [h1, hg]

theorem Closes.close_accepted {s t : State} {h : Nat} {hd : Handle} {out : Out} (hc : Closes s h hd hd.rdlPast t out)
    (hg : s.handles[h]? = some hd) (ho : hd.closed = false) :
    ∃ o, obsOf (.close h) out = some o ∧ sharedViolation (absM s) o = (absM t, none) := by
  have hk := hc.closeClause hg
  rw [set_getElem?_self (by simp [absM, hg])] at hk
  have hm : (absM s).isOpen[h]? = some true := by simp [absM, hg, isOpenB, ho]
  rcases hc.out with e | ⟨hrf, e⟩ <;> rw [e] <;> refine ⟨_, rfl, ?_⟩ <;> simp only [sharedViolation, hm]
  · exact hk
  · rw [faulty_of_refusing hrf]; exact hk ▸ rfl

theorem Closes.abort_accepted {s t : State} {h : Nat} {hd : Handle} {out : Out} (hc : Closes s h hd true t out)
    (hg : s.handles[h]? = some hd) (ho : hd.closed = false) :
    ∃ o, obsOf (.abort h) out = some o ∧ sharedViolation (absM s) o = (absM t, none) := by
  have hk := hc.closeClause hg
  have hm : (absM s).isOpen[h]? = some true := by simp [absM, hg, isOpenB, ho]
  rcases hc.out with e | ⟨hrf, e⟩ <;> rw [e] <;> refine ⟨_, rfl, ?_⟩ <;> simp only [sharedViolation, hm, hk] <;>
    simp [faulty_of_refusing, *]

theorem monitor_step {s : State} {op : Op} (hr : Reachable s) :
    match obsOf op (step s op).2 with
    | none => absM (step s op).1 = absM s
    | some o => sharedViolation (absM s) o = (absM (step s op).1, none) := by
  have hi := sinv_of_reachable hr
  have hnp := npc_of_reachable hr
  have hwi := winv_of_reachable hr
  cases op with
  | «open» => simp [step, obsOf, sharedViolation, absM, isOpenB, armedOpen]
  | refuse c on =>
    simp only [step]
    cases hk : s.conns[c]? with
    | none => rfl
    | some k => simp [obsOf, sharedViolation, absM, List.map_set, hk]
  | close h =>
    cases hg : s.handles[h]? with
    | none => simp [step, hg, obsOf]
    | some hd =>
      cases hcl : hd.closed with
      | true => simp [step, obsOf, sharedViolation, absM, hg, isOpenB, hcl]
      | false =>
        obtain ⟨o, ho, hv⟩ := (closes_close hi hg hcl).close_accepted hg hcl
        rw [ho]; exact hv
  | abort h =>
    cases hg : s.handles[h]? with
    | none => simp [step, hg, obsOf]
    | some hd =>
      cases hcl : hd.closed with
      | true => simp [step, obsOf, sharedViolation, absM, hg, isOpenB, hcl]
      | false =>
        obtain ⟨o, ho, hv⟩ := (closes_abort hi hg hcl).abort_accepted hg hcl
        rw [ho]; exact hv
  | read h =>
    simp only [step]
    cases hg : s.handles[h]? with
    | none => rfl
    | some hd =>
      cases hcl : hd.closed with
      | true => simp [obsOf, resOf, sharedViolation, absM, hg, isOpenB, hcl]
      | false =>
        have hu := uCloses_zero_of_open hi hg hcl
        simp only [hcl, Bool.false_eq_true, if_false, hu, Nat.lt_irrefl]
        by_cases hq' : s.queue > 0
        · simp [hq', obsOf, resOf, sharedViolation, absM, hg, isOpenB, hcl, hu]
        · simp only [hq', if_false]
          cases hp : hd.rdlPast with
          | true => simp [obsOf, resOf, sharedViolation, absM, hg, isOpenB, hcl, hp]
          | false =>
            simp only [Bool.false_eq_true, if_false, obsOf, resOf]
            simp [sharedViolation, absM, hg, isOpenB, hcl, hu, List.map_set, map_set_same _ hg, armedOpen, hp]
  | write h c =>
    simp only [step]
    cases hg : s.handles[h]? with
    | none => rfl
    | some hd =>
      cases hcl : hd.closed with
      | true => simp [obsOf, resOf, sharedViolation, absM, hg, isOpenB, hcl]
      | false =>
        have hu := uCloses_zero_of_open hi hg hcl
        simp only [hcl, Bool.false_eq_true, if_false, hu, Nat.lt_irrefl]
        cases hwp : s.reg c with
        | false => simp [obsOf, resOf, sharedViolation, absM, hg, isOpenB, hcl]
        | true =>
          -- the connection has a register of its own (it has refused: not healthy), or the common register is armed
          -- and then an open handle holds the deadline
          have hheld : s.wdlPast = true → (absM s).held = true := fun hw => by
            rcases hwi.held hw with ⟨_, h0⟩ | hpos
            · have := open_pos hg hcl; omega
            · exact held_of_pos hpos
          have hok : ((absM s).held || (absM s).everRef[c]?.getD false) = true := by
            unfold State.reg at hwp
            cases hk : s.conns[c]? with
            | none => rw [hk] at hwp; simp [hheld hwp]
            | some k =>
              rw [hk] at hwp
              cases hkd : k.dirty with
              | true => simp [absM, hk, hkd]
              | false => simp only [hkd, Bool.false_eq_true, if_false] at hwp; simp [hheld hwp]
          have hm : (absM s).isOpen[h]? = some true := by simp [absM, hg, isOpenB, hcl]
          simp only [if_true, obsOf, resOf, sharedViolation, hm]
          simp [hok]
  | setrd h p =>
    simp only [step]
    cases hg : s.handles[h]? with
    | none => rfl
    | some hd =>
      cases hcl : hd.closed with
      | true => simp [obsOf, resOf, sharedViolation, absM, hg, isOpenB, hcl]
      | false =>
        simp only [hcl, Bool.false_eq_true, if_false, obsOf, resOf]
        simp [sharedViolation, absM, hg, isOpenB, hcl, List.map_set, map_set_same _ hg, armedOpen]
  | setwd h p | setd h p =>
    simp only [step]
    cases hg : s.handles[h]? with
    | none => rfl
    | some hd =>
      cases hcl : hd.closed with
      | true => simp [obsOf, resOf, sharedViolation, absM, hg, isOpenB, hcl]
      | false =>
        simp only [hcl, Bool.false_eq_true, if_false]
        cases hrf : s.refusing with
        | false =>
          simp [Out.orRefused, obsOf, resOf, sharedViolation, absM, hg, isOpenB, hcl, List.map_set, map_set_same _ hg,
            armedOpen, fan_map_refuse, fan_map_dirty]
        | true =>
          have hfa := faulty_of_refusing hrf
          simp only [SMon.faulty, absM] at hfa
          simp [Out.orRefused, obsOf, resOf, sharedViolation, absM, hg, isOpenB, hcl, List.map_set, map_set_same _ hg,
            armedOpen, fan_map_refuse, fan_map_dirty, SMon.faulty, hfa]
  | feed =>
    simp only [step]
    by_cases hu : s.uCloses > 0
    · simp [hu, obsOf, sharedViolation]
    · simp only [hu, if_false]
      by_cases h0 : totalPending s.handles = 0
      · simp [h0, obsOf, sharedViolation, absM]
      · simp only [h0, if_false]
        by_cases h1 : totalPending s.handles = 1
        · simp only [h1, if_true]
          cases hf : firstPending s.handles 0 with
          | none => simp [obsOf, sharedViolation]
          | some k =>
            obtain ⟨_, hd, hg, hp⟩ := firstPending_spec hf
            simp only [Nat.sub_zero] at hg
            have hle := pending_le_total hg
            have hp1 : hd.pending = 1 := by omega
            have hopen : hd.closed = false := by
              cases hc : hd.closed with
              | false => rfl
              | true => have := hnp hd (List.mem_of_getElem? hg) hc; omega
            simp [hg, obsOf, sharedViolation, absM, isOpenB, hopen, hp1, List.map_set, map_set_same _ hg, armedOpen]
        · simp [h1, obsOf, sharedViolation]

/-- observations of a run of the model -/
def traceOf (s : State) : List Op → List SObs
  | [] => []
  | op :: rest =>
    match obsOf op (step s op).2 with
    | some o => o :: traceOf (step s op).1 rest
    | none => traceOf (step s op).1 rest

def legalRun (s : State) : List Op → Bool
  | [] => true
  | op :: rest => op.legal s && legalRun (step s op).1 rest

theorem monitor_run {s : State} (ops : List Op) (hr : Reachable s) (hl : legalRun s ops = true) :
    sharedHistViolation (absM s) (traceOf s ops) = none := by
  induction ops generalizing s with
  | nil => rfl
  | cons op rest ih =>
    simp only [legalRun, Bool.and_eq_true] at hl
    have hstep := monitor_step (op := op) hr
    have h' := ih (Reachable.step op hr hl.1) hl.2
    simp only [traceOf]
    cases ho : obsOf op (step s op).2 with
    | none => rw [ho] at hstep; simp only; rw [← hstep]; exact h'
    | some o => rw [ho] at hstep; simp only [sharedHistViolation, hstep]; exact h'

end IceProofs.SharedConn

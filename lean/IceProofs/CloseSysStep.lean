import IceProofs.CloseSysCall
/-! # CloseSys — `Inv` is preserved by every transition; `Reach → Inv` -/
namespace IceProofs.CloseSys
open IceModel.CloseSys

theorem gk_ret {th : Th} {r : Ret} : (GProg th.prog ∧ GLoc th.loc) → GProg (th.ret r).prog ∧ GLoc (th.ret r).loc :=
  fun h => ⟨h.1.tail, by simp [Th.ret, GLoc]⟩

theorem inv_callStep {s s1 : State} {t : Tid} {th th' : Th} {alt : Bool} (h : Inv s)
    (hget : getTh s t = some th) (ha : Active s t th) (hs : callStep s t th alt = some (s1, th')) :
    Inv (setTh s1 t th') := by
  have hok := h.thOK hget
  apply callStep_cases hs
  case ret =>
    intro r hne hpre
    exact inv_call_simple h hget ha _ ⟨rfl, rfl⟩ (not_finished hne) hpre (by simp [ThOK, Th.ret]) gk_ret
  case run =>
    intro ctx task r hloc hp _
    exact inv_call_simple h hget ha _ ⟨rfl, rfl⟩ (not_finished (by simp [hp])) (by simp [hloc]) (by simp [ThOK])
      (fun hg => ⟨hg.1, by simp [GLoc]⟩)
  case close =>
    intro g r hloc hp
    exact inv_call_simple h hget ha _ ⟨rfl, rfl⟩ (not_finished (by simp [hp])) (by simp [hloc]) (by simp [ThOK])
      (fun hg => by have := hg.1 (.close g) (by simp [hp]); simp at this)
  case read =>
    intro r hloc hp _
    exact inv_call_simple h hget ha _ ⟨rfl, rfl⟩ (not_finished (by simp [hp])) (by simp [hloc]) (by simp [ThOK])
      (fun hg => by have := hg.1 .read (by simp [hp]); simp at this)
  case write =>
    intro c r hloc hp _
    exact inv_call_simple h hget ha _ ⟨rfl, rfl⟩ (not_finished (by simp [hp])) (by simp [hloc]) (by simp [ThOK])
      (fun hg => by have := hg.1 (.write c) (by simp [hp]); simp at this)
  case await =>
    intro r hloc hp
    exact inv_call_simple h hget ha _ ⟨rfl, rfl⟩ (not_finished (by simp [hp])) (by simp [hloc]) (by simp [ThOK])
      (fun hg => by have := hg.1 .await (by simp [hp]); simp at this)
  case handoff =>
    intro ctx task hloc hl hd hwf
    have hrl : ∀ c, t = .rl c → TOp.closeCands ∉ task := by
      intro c e; subst e; simp [getTh] at hget
    have h1 := h.handoff (o := t) (n := s.tasksRun + 1) hl hd hwf hrl
    exact inv_call_simple (th := th) h1 (by cases t <;> exact hget) (by cases t <;> exact ha) _ ⟨rfl, rfl⟩
      (not_finished (by simp [hloc])) (by simp [hloc]) (by simp [ThOK]) (fun hg => ⟨hg.1, by simp [GLoc]⟩)
  case takeOnce => exact fun g hloc hfree => inv_call_takeOnce h hget ha hloc hfree
  case onceOver =>
    intro g hloc hfin
    exact inv_call_simple h hget ha _ ⟨rfl, rfl⟩ (not_finished (by simp [hloc])) (by simp [hloc])
      (by simp [ThOK, hfin]) (fun hg => by have := hg.2; simp [hloc, GLoc] at this)
  case abortNext => exact fun g k hloc ho hk => inv_call_abortNext h hget hloc ho hk
  case finishOnce => exact fun g k hloc ho hk => inv_call_finishOnce h hget ha hloc ho hk
  case loopGone =>
    intro g hloc hex
    simp only [ThOK, hloc] at hok
    exact inv_call_simple h hget ha _ ⟨rfl, rfl⟩ (not_finished (by simp [hloc])) (by simp [hloc])
      ⟨hok, hex, fun j st hj => absurd hj (by omega)⟩ (fun hg => by have := hg.2; simp [hloc, GLoc] at this)
  case closeNotif =>
    intro g i hloc hi
    simp only [ThOK, hloc] at hok
    obtain ⟨ho, hex, hq⟩ := hok
    have h2 := h.ndone hex i
    have ha2 : Active (setNdone s i) t th := by
      cases t with
      | api n => exact ha
      | dr j =>
        intro st' hst'
        obtain ⟨st, h1, _, h3, _⟩ := setNdone_streams s i j st' hst'
        rw [h3]; exact ha st h1
      | rl c => exact ha
    have hmono : StreamsMono s (setNdone s i) := by
      intro j st' hj
      obtain ⟨st, h1, _, h3, h4, _, _⟩ := setNdone_streams s i j st' hj
      exact ⟨st, h1, fun e => by rw [h4 e]; exact ⟨e, id⟩⟩
    have hqi : ∀ st' : Stream, (setNdone s i).streams[i]? = some st' → st'.ndone = true := by
      intro st' hst'
      obtain ⟨st, _, _, _, _, h5, _⟩ := setNdone_streams s i i st' hst'
      exact h5 rfl
    refine inv_call_simple h2 (getTh_setNdone i hget) ha2 _ ⟨rfl, rfl⟩ (not_finished (by simp [hloc]))
      (by simp [hloc]) ?_ (fun hg => by have := hg.2; simp [hloc, GLoc] at this)
    cases g with
    | true => exact ⟨rfl, ho, hex, hq.mono hmono, hqi⟩
    | false =>
      refine ⟨ho, hex, ?_⟩
      intro j st' hj hst'
      rcases Nat.lt_or_ge j i with h6 | h6
      · exact (hq.mono hmono) j st' h6 hst'
      · have : j = i := by omega
        subst this
        exact ⟨hqi st' hst', by simp⟩
  case closed =>
    intro g i hloc hi
    simp only [ThOK, hloc] at hok
    obtain ⟨ho, hex, hq⟩ := hok
    have hall : ∀ (j : Nat) (st : Stream), s.streams[j]? = some st → st.ndone = true ∧ (g = true → st.running = false) := by
      intro j st hj
      have : j < s.streams.length := getElem?_lt hj
      exact hq j st (by omega) hj
    exact inv_call_simple (th := th) (h.retClose g hex hall) (by cases t <;> exact hget) (by cases t <;> exact ha) _ ⟨rfl, rfl⟩
      (not_finished (by simp [hloc])) (by simp [hloc]) (by simp [ThOK, Th.ret]) gk_ret
  case drained =>
    intro g i hloc hrun
    simp only [ThOK, hloc] at hok
    obtain ⟨hg1, ho, hex, hq, hqi⟩ := hok
    refine inv_call_simple h hget ha _ ⟨rfl, rfl⟩ (not_finished (by simp [hloc])) (by simp [hloc]) ⟨ho, hex, ?_⟩
      (fun hg => by have := hg.2; simp [hloc, GLoc] at this)
    intro j st hj hst
    rcases Nat.lt_or_ge j i with h6 | h6
    · exact hq j st h6 hst
    · have : j = i := by omega
      subst this
      exact ⟨hqi st hst, fun _ => by simpa [streamRunning, hst] using hrun⟩

theorem Inv.setStream {s : State} (h : Inv s) {i : Nat} {st st2 : Stream} (hi : s.streams[i]? = some st)
    (hth : st2.th = st.th) (hnd : st2.ndone = st.ndone)
    (hrun : st2.running = st.running ∨ (st2.running = false ∧ st.th.loc = .idle ∧ st.th.prog = [])) :
    Inv { s with streams := s.streams.set i st2 } := by
  have hss : StreamsSame s { s with streams := s.streams.set i st2 } := by
    refine ⟨by simp, ?_⟩
    intro j st' hj
    simp only [List.getElem?_set] at hj
    split at hj
    · subst_vars
      simp at hj; obtain ⟨_, rfl⟩ := hj
      refine ⟨st, hi, hth, fun e => Or.inl (hnd ▸ e), ?_, fun e => ⟨hnd ▸ e, ?_⟩⟩
      · intro e
        rcases hrun with h1 | ⟨_, h2, h3⟩
        · exact Or.inl (h1 ▸ e)
        · exact Or.inr ⟨hth ▸ h2, hth ▸ h3⟩
      · intro e
        rcases hrun with h1 | ⟨h1, _⟩
        · rw [h1]; exact e
        · exact h1
    · exact ⟨st', hj, rfl, Or.inl, Or.inl, fun e => ⟨e, id⟩⟩
  exact h.setTables s.cands _ hss (h.candsKeep rfl id) (.of_eq rfl)

theorem inv_thStep {s s' : State} {t : Tid} {alt : Bool} (h : Inv s) (hs : thStep s t alt = some s') : Inv s' := by
  apply thStep_cases hs
  case leave =>
    rintro n th rfl hth hlv hloc hp _
    exact inv_call_simple (t := .api n) (th := th) h hth hlv _ ⟨rfl, rfl⟩ (not_finished (fun _ => hp)) (by simp [hloc]) (by simp [ThOK, hloc])
      (fun _ => ⟨by simp [GProg], by simp [hloc, GLoc]⟩)
  case drExit =>
    rintro i st rfl hst _ hl hp
    exact h.setStream hst rfl rfl (Or.inr ⟨rfl, hl, hp⟩)
  case drNext =>
    rintro i st e q rfl hst hr hl _ _
    have h2 := h.setStream (st2 := { st with queue := q }) hst rfl rfl (Or.inl rfl)
    have hlt : i < s.streams.length := getElem?_lt hst
    have hget2 : getTh { s with streams := s.streams.set i { st with queue := q } } (.dr i) = some st.th := by
      simp [getTh, hlt]
    have ha2 : Active { s with streams := s.streams.set i { st with queue := q } } (.dr i) st.th := by
      intro st0 h0
      simp [hlt] at h0; subst h0; exact hr
    refine h2.thSimple hget2 _ ?_ ⟨rfl, rfl⟩ (fun st0 h0 _ => ha2 st0 h0) ?_ (fun n e => by cases e)
    · simp [ThOK, hl]
    · intro ⟨g, e⟩; simp [hl] at e
  case call => exact fun th s1 th' hget ha hc => inv_callStep h hget ha hc

theorem Inv.active_of_loc {s : State} (h : Inv s) {t : Tid} {th : Th} (hget : getTh s t = some th)
    (hl : th.loc ≠ .idle) : Active s t th := by
  have hlc := h.thLocal hget
  cases t with
  | api n => exact hlc.1 hl
  | dr i => intro st hst; exact hlc st hst (Or.inl hl)
  | rl c => simp [getTh] at hget

theorem Inv.setBufData {s : State} (h : Inv s) (n : Nat) : Inv { s with bufData := n } :=
  ⟨h.doneOnce, h.closing, h.apiOK, h.drOK, h.candOK, h.onceOK, h.writesLen, h.writesSnap, h.rlTask, h.stages,
    h.gcurOK, h.ghost⟩

theorem inv_envStep {s s' : State} {a : Action} (h : Inv s) (hs : envStep s a = some s') : Inv s' := by
  apply envStep_cases hs
  case data => exact fun c cd hc hrl _ _ => h.candRl hc (by simp [hrl]) .rSel (by simp) (cd.inb - 1)
  case loopWrite => exact fun o c ops hl => inv_loop_taskSkip h hl
  case thRet =>
    intro t th n hget hne hpre
    have h2 := h.setBufData n
    have hget2 : getTh { s with bufData := n } t = some th := by cases t <;> exact hget
    exact inv_call_simple h2 hget2 (h2.active_of_loc hget2 hne) _ ⟨rfl, rfl⟩ (not_finished (fun e => absurd e hne)) hpre
      (by simp [ThOK, Th.ret]) gk_ret

theorem inv_step {s s' : State} {a : Action} (h : Inv s) (hs : step s a = some s') : Inv s' := by
  unfold step at hs
  split at hs
  · exact inv_loopStep h hs
  · exact inv_thStep h hs
  · exact inv_rlStep h hs
  · exact inv_envStep h hs

theorem reach_inv {s0 s : State} (h0 : Init s0) (hr : Reach s0 s) : Inv s := by
  induction hr with
  | init => exact inv_init h0
  | step a _ hs ih => exact inv_step ih hs

end IceProofs.CloseSys

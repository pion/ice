import IceProofs.Sys2C01Agent
import IceProofs.Sys2Run
/-!
# C01, layer 3 — the system invariant `SInv` of the closed two-agent system and its preservation by
every `SysEv`.

Ghost state: `LA`, `LB` = the Binding requests agent A / agent B have emitted so far
(`(tid, from, to)`, read off their `Out.dgram` outputs with `cls = 0`).
-/
namespace IceProofs.C01
open IceModel.AgentCore IceModel.Sys2 IceProofs.Sys2Run IceProofs.Agent

/-- the connection callbacks of a full agent presuppose a `Good` address pair. -/
def ConnOutOK (Good : Nat → Nat → Prop) (lite : Bool) : Out → Prop
  | .cbState s => s = .connected → lite = false → ∃ la ra, Good la ra
  | .cbPair _ _ => lite = false → ∃ la ra, Good la ra
  | _ => True

theorem OutOK.conn {Good : Nat → Nat → Prop} {lite : Bool} {R : Nat → Nat → Nat → Prop} {o : Out}
    (h : OutOK Good lite R o) : ConnOutOK Good lite o := by
  cases o <;> first | exact h | trivial

theorem mem_dgramsOf_stun {o : List Out} {d : Dgram} {m : Msg} (hd : d ∈ dgramsOf o) (hp : d.p = .stun m) :
    Out.dgram d.src d.dst m ∈ o := mem_dgramsOf hd hp

theorem mem_reqs_of_dgram {o : List Out} {f t : Nat} {m : Msg} (h : Out.dgram f t m ∈ o) (hc : m.cls = 0) :
    (m.tid, f, t) ∈ reqs o := by
  unfold reqs
  exact List.mem_filterMap.mpr ⟨_, h, by simp [reqOf, hc]⟩

section
variable (nat blocked : List (Nat × Nat)) (SLA SLB SR : Nat → Prop) (liteA liteB : Bool)

/-- `Reach` between an own local address (`SLx`) and an admissible remote address (`SR`) that is the NAT
image of a local address of some agent (`SLany`, the responder). -/
def GoodS (nat blocked : List (Nat × Nat)) (SLx SLany SR : Nat → Prop) (la ra : Nat) : Prop :=
  Reach nat blocked la ra ∧ SLx la ∧ SR ra ∧ mappedL nat (unmappedL nat ra) = ra ∧ SLany (unmappedL nat ra)

/-- a local address of either agent. -/
def SLor (SLA SLB : Nat → Prop) (x : Nat) : Prop := SLA x ∨ SLB x

abbrev GoodA := GoodS nat blocked SLA (SLor SLA SLB) SR
abbrev GoodB := GoodS nat blocked SLB (SLor SLA SLB) SR

/-- the system invariant. -/
structure SInv (s : Sys) (LA LB : Log) : Prop where
  nat_eq : s.nat = nat
  blocked_eq : s.blocked = blocked
  invA : AInv (GoodA nat blocked SLA SLB SR) SLA SR 0 liteA (view s.a) LA
  invB : AInv (GoodB nat blocked SLA SLB SR) SLB SR 1 liteB (view s.b) LB
  /-- every Binding request in flight is logged with its real source and destination -/
  k0 : ∀ d ∈ s.inflight, ∀ m, d.p = .stun m → m.cls = 0 → (m.tid, d.src, d.dst) ∈ LA ++ LB
  /-- K2: every success response in flight answers a logged request `(tid, l0, r0)` that crossed the
  network (`(l0, r0) ∉ blocked`), from the real address behind `r0` (a local candidate address of the responder)
  to the address `l0` is seen as -/
  k2 : ∀ d ∈ s.inflight, ∀ m, d.p = .stun m → m.cls = 2 →
    ∃ l0 r0, (m.tid, l0, r0) ∈ LA ++ LB ∧ d.src = unmappedL nat r0 ∧ d.dst = mappedL nat l0 ∧ (l0, r0) ∉ blocked ∧ SLor SLA SLB d.src

variable {nat blocked SLA SLB SR liteA liteB}

theorem SInv.hub {s s' : Sys} {LA LB : Log} (h : SInv nat blocked SLA SLB SR liteA liteB s LA LB) (hub : Hub s s') :
    SInv nat blocked SLA SLB SR liteA liteB s' LA LB :=
  { nat_eq := hub.topo.1.trans h.nat_eq, blocked_eq := hub.topo.2.1.trans h.blocked_eq,
    invA := by rw [hub.a]; exact h.invA, invB := by rw [hub.b]; exact h.invB,
    k0 := fun d hd => h.k0 d (hub.fl d hd), k2 := fun d hd => h.k2 d (hub.fl d hd) }

/-- what the success responses an agent emits must satisfy w.r.t. the logs so far. -/
def RespLogged (nat blocked : List (Nat × Nat)) (SL : Nat → Prop) (LA LB : Log) (R : Nat → Nat → Nat → Prop) : Prop :=
  ∀ f t tid, R f t tid →
    ∃ l0 r0, (tid, l0, r0) ∈ LA ++ LB ∧ f = unmappedL nat r0 ∧ t = mappedL nat l0 ∧ (l0, r0) ∉ blocked ∧ SL f

theorem inflight_ok {s : Sys} {LA LB LA' LB' : Log} (h : SInv nat blocked SLA SLB SR liteA liteB s LA LB)
    {Good : Nat → Nat → Prop} {lite : Bool} {R : Nat → Nat → Nat → Prop} {o : List Out}
    (ho : ∀ x ∈ o, OutOK Good lite R x) (hR : RespLogged nat blocked (SLor SLA SLB) LA LB R)
    (hmono : ∀ x, x ∈ LA ++ LB → x ∈ LA' ++ LB') (hreq : ∀ x, x ∈ reqs o → x ∈ LA' ++ LB') :
    (∀ d ∈ s.inflight ++ dgramsOf o, ∀ m, d.p = .stun m → m.cls = 0 → (m.tid, d.src, d.dst) ∈ LA' ++ LB') ∧
    ∀ d ∈ s.inflight ++ dgramsOf o, ∀ m, d.p = .stun m → m.cls = 2 →
      ∃ l0 r0, (m.tid, l0, r0) ∈ LA' ++ LB' ∧ d.src = unmappedL nat r0 ∧ d.dst = mappedL nat l0 ∧ (l0, r0) ∉ blocked ∧
        SLor SLA SLB d.src := by
  refine ⟨fun d hd m hm hc => ?_, fun d hd m hm hc => ?_⟩
  · rcases List.mem_append.mp hd with hd | hd
    · exact hmono _ (h.k0 d hd m hm hc)
    · exact hreq _ (mem_reqs_of_dgram (mem_dgramsOf_stun hd hm) hc)
  · have old : (∃ l0 r0, (m.tid, l0, r0) ∈ LA ++ LB ∧ d.src = unmappedL nat r0 ∧ d.dst = mappedL nat l0 ∧
        (l0, r0) ∉ blocked ∧ SLor SLA SLB d.src) := by
      rcases List.mem_append.mp hd with hd | hd
      · exact h.k2 d hd m hm hc
      · rcases ho _ (mem_dgramsOf_stun hd hm) with h0 | h3 | ⟨_, hr⟩
        · rw [hc] at h0; cases h0
        · rw [hc] at h3; cases h3
        · exact hR _ _ _ hr
    obtain ⟨l0, r0, hl, rest⟩ := old
    exact ⟨l0, r0, hmono _ hl, rest⟩

theorem agentEvA_inv {s : Sys} {LA LB : Log} (h : SInv nat blocked SLA SLB SR liteA liteB s LA LB) (e : Ev)
    {R : Nat → Nat → Nat → Prop}
    (hp : Post (GoodA nat blocked SLA SLB SR) SLA SR 0 liteA R LA (step s.a e))
    (hR : RespLogged nat blocked (SLor SLA SLB) LA LB R) :
    SInv nat blocked SLA SLB SR liteA liteB (s.agentEv false e).1 (LA ++ reqs (step s.a e).2) LB := by
  rw [agentEv_eq]
  have hk := inflight_ok h hp.2 hR (LA' := LA ++ reqs (step s.a e).2) (LB' := LB)
    (fun x hx => (List.mem_append.mp hx).elim (fun hx => List.mem_append_left _ (List.mem_append_left _ hx))
      (List.mem_append_right _))
    (fun x hx => List.mem_append_left _ (List.mem_append_right _ hx))
  exact { nat_eq := h.nat_eq, blocked_eq := h.blocked_eq, invA := hp.1, invB := h.invB, k0 := hk.1, k2 := hk.2 }

theorem agentEvB_inv {s : Sys} {LA LB : Log} (h : SInv nat blocked SLA SLB SR liteA liteB s LA LB) (e : Ev)
    {R : Nat → Nat → Nat → Prop}
    (hp : Post (GoodB nat blocked SLA SLB SR) SLB SR 1 liteB R LB (step s.b e))
    (hR : RespLogged nat blocked (SLor SLA SLB) LA LB R) :
    SInv nat blocked SLA SLB SR liteA liteB (s.agentEv true e).1 LA (LB ++ reqs (step s.b e).2) := by
  rw [agentEv_eq]
  have hk := inflight_ok h hp.2 hR (LA' := LA) (LB' := LB ++ reqs (step s.b e).2)
    (fun x hx => (List.mem_append.mp hx).elim (List.mem_append_left _)
      (fun hx => List.mem_append_right _ (List.mem_append_left _ hx)))
    (fun x hx => List.mem_append_right _ (List.mem_append_right _ hx))
  exact { nat_eq := h.nat_eq, blocked_eq := h.blocked_eq, invA := h.invA, invB := hp.1, k0 := hk.1, k2 := hk.2 }

/-- outcome of one system step: the invariant holds again (for extended logs) and the connection
callbacks emitted are justified. -/
def StepOK (nat blocked : List (Nat × Nat)) (SLA SLB SR : Nat → Prop) (liteA liteB : Bool) (r : Sys × List Out × List Out) : Prop :=
  (∃ LA LB, SInv nat blocked SLA SLB SR liteA liteB r.1 LA LB)
  ∧ (∀ x ∈ r.2.1, ConnOutOK (GoodA nat blocked SLA SLB SR) liteA x) ∧ (∀ x ∈ r.2.2, ConnOutOK (GoodB nat blocked SLA SLB SR) liteB x)

theorem agentEv_ok {s : Sys} {LA LB : Log} (h : SInv nat blocked SLA SLB SR liteA liteB s LA LB) (isB : Bool) (e : Ev)
    (hadd : ∀ now c, e = .addLocal now c → (if isB then SLB else SLA) c.addr)
    (haddR : ∀ now c, e = .addRemote now c → SR c.addr)
    (hresp : ∀ now la src m, e = .inbound now la src m → m.cls = 2 → (if isB then liteB else liteA) = false →
      ∀ f, (m.tid, f, src) ∈ (if isB then LB else LA) →
        GoodS nat blocked (if isB then SLB else SLA) (SLor SLA SLB) SR la src)
    (hsrc : ∀ now la src m, e = .inbound now la src m → m.cls = 0 → SR src)
    (hR : RespLogged nat blocked (SLor SLA SLB) LA LB (Rof e)) :
    StepOK nat blocked SLA SLB SR liteA liteB
      ((s.agentEv isB e).1, if isB then ([], (s.agentEv isB e).2) else ((s.agentEv isB e).2, [])) := by
  cases isB with
  | false =>
    have hresp' : ∀ now la src m, e = .inbound now la src m → m.cls = 2 → liteA = false →
        (m.tid, la, src) ∈ LA → GoodS nat blocked SLA (SLor SLA SLB) SR la src :=
      fun now la src m he hc hl hf => by simpa using hresp now la src m he hc (by simpa using hl) la (by simpa using hf)
    have hp := step_post h.invA e (by simpa using hadd) haddR hresp' hsrc
    refine ⟨⟨_, _, agentEvA_inv h e hp hR⟩, fun x hx => ?_, by simp⟩
    have hx' : x ∈ (s.agentEv false e).2 := hx
    rw [agentEv_eq] at hx'
    exact (hp.2 x hx').conn
  | true =>
    have hresp' : ∀ now la src m, e = .inbound now la src m → m.cls = 2 → liteB = false →
        (m.tid, la, src) ∈ LB → GoodS nat blocked SLB (SLor SLA SLB) SR la src :=
      fun now la src m he hc hl hf => by simpa using hresp now la src m he hc (by simpa using hl) la (by simpa using hf)
    have hp := step_post h.invB e (by simpa using hadd) haddR hresp' hsrc
    refine ⟨⟨_, _, agentEvB_inv h e hp hR⟩, by simp, fun x hx => ?_⟩
    have hx' : x ∈ (s.agentEv true e).2 := hx
    rw [agentEv_eq] at hx'
    exact (hp.2 x hx').conn

theorem respLogged_false (LA LB : Log) : RespLogged nat blocked (SLor SLA SLB) LA LB (fun _ _ _ => False) := by
  intro f t tid h; exact False.elim h

theorem Rof_api {e : Ev} (h : e.isApi = true) : Rof e = fun _ _ _ => False := by
  cases e <;> first | rfl | cases h

theorem StepOK.of_inv {s : Sys} {LA LB : Log} (h : SInv nat blocked SLA SLB SR liteA liteB s LA LB) :
    StepOK nat blocked SLA SLB SR liteA liteB (s, [], []) := ⟨⟨LA, LB, h⟩, by simp, by simp⟩

export IceProofs.Sys2C05 (mem_removeAt)

theorem handOver_ok (hSL : ∀ x, SLor SLA SLB x → SaneAddr nat x) (hSR : ∀ x, SLor SLA SLB x → SR (mappedL nat x))
    {s : Sys} {LA LB : Log} (h : SInv nat blocked SLA SLB SR liteA liteB s LA LB) (d : Dgram)
    (hd : d ∈ s.inflight ∨
      ((∀ m, d.p = .stun m → m.cls = 0 → (m.tid, d.src, d.dst) ∈ LA ++ LB) ∧
       (∀ m, d.p = .stun m → m.cls = 2 →
          ∃ l0 r0, (m.tid, l0, r0) ∈ LA ++ LB ∧ d.src = unmappedL nat r0 ∧ d.dst = mappedL nat l0 ∧ (l0, r0) ∉ blocked ∧ SLor SLA SLB d.src))) :
    StepOK nat blocked SLA SLB SR liteA liteB (s.handOver d) := by
  have hk0 : ∀ m, d.p = .stun m → m.cls = 0 → (m.tid, d.src, d.dst) ∈ LA ++ LB := by
    rcases hd with hd | hd
    · exact h.k0 d hd
    · exact hd.1
  have hk2 : ∀ m, d.p = .stun m → m.cls = 2 →
      ∃ l0 r0, (m.tid, l0, r0) ∈ LA ++ LB ∧ d.src = unmappedL nat r0 ∧ d.dst = mappedL nat l0 ∧ (l0, r0) ∉ blocked ∧ SLor SLA SLB d.src := by
    rcases hd with hd | hd
    · exact h.k2 d hd
    · exact hd.2
  rw [handOver_eq]
  split
  · exact StepOK.of_inv h
  · rename_i hnb
    have hnb' : (d.src, d.dst) ∉ blocked := by
      rw [← h.blocked_eq]
      simpa using hnb
    split
    · exact StepOK.of_inv h
    · rename_i isB hown
      have hun : ∀ x, s.unmapped x = unmappedL nat x := by intro x; rw [unmapped_eq, h.nat_eq]
      have hreal : SLor SLA SLB (s.unmapped d.dst) := by
        obtain ⟨l, hl⟩ := Option.isSome_iff_exists.mp (owner_some hown).1
        obtain ⟨hlm, hla⟩ := localByAddr_listed hl
        rw [← hla]
        cases isB
        · exact Or.inl (h.invA.locSane _ (mem_locals_cv hlm))
        · exact Or.inr (h.invB.locSane _ (mem_locals_cv hlm))
      have hma : ∀ x, s.mapped x = mappedL nat x := by intro x; rw [mapped_eq, h.nat_eq]
      have key : StepOK nat blocked SLA SLB SR liteA liteB ((s.agentEv isB (evOf s d)).1,
          if isB then ([], (s.agentEv isB (evOf s d)).2) else ((s.agentEv isB (evOf s d)).2, [])) := by
        unfold evOf
        cases hp : d.p with
        | data n =>
          exact agentEv_ok h isB _ (fun _ _ he => nomatch he) (fun _ _ he => nomatch he) (fun _ _ _ _ he => nomatch he)
            (fun _ _ _ _ he => nomatch he) (respLogged_false _ _)
        | stun m =>
          refine agentEv_ok h isB _ (fun _ _ he => nomatch he) (fun _ _ he => nomatch he) ?_ ?_ ?_
          · -- a success response: it answers a logged request that crossed the network, and only its sender logged that tid
            intro now la src m' he hc hl f hf
            obtain ⟨_, h2, h3, rfl⟩ := Ev.inbound.inj he
            obtain ⟨l0, r0, hlog, hs, hdst, hnbl, hsrcSL⟩ := hk2 m hp hc
            rw [hun] at h2
            rw [hma] at h3
            have hsame : (f = l0 ∧ src = r0) ∧ (if isB then SLB else SLA) l0 := by
              cases isB with
              | false =>
                simp only [Bool.false_eq_true, ↓reduceIte] at hf ⊢
                rcases List.mem_append.mp hlog with hlog | hlog
                · have := h.invA.logFun _ hf _ hlog rfl
                  simp at this
                  exact ⟨this, h.invA.logSane _ hlog⟩
                · obtain ⟨n1, _, e1⟩ := h.invA.logOK _ hf
                  obtain ⟨n2, _, e2⟩ := h.invB.logOK _ hlog
                  simp only [] at e1 e2
                  omega
              | true =>
                simp only [↓reduceIte] at hf ⊢
                rcases List.mem_append.mp hlog with hlog | hlog
                · obtain ⟨n1, _, e1⟩ := h.invB.logOK _ hf
                  obtain ⟨n2, _, e2⟩ := h.invA.logOK _ hlog
                  simp only [] at e1 e2
                  omega
                · have := h.invB.logFun _ hf _ hlog rfl
                  simp at this
                  exact ⟨this, h.invB.logSane _ hlog⟩
            obtain ⟨⟨_, hsrc⟩, hsl⟩ := hsame
            have hslor : SLor SLA SLB l0 := by
              rcases List.mem_append.mp hlog with hlog | hlog
              · exact Or.inl (h.invA.logSane _ hlog)
              · exact Or.inr (h.invB.logSane _ hlog)
            have hsr : SR r0 := by
              rcases List.mem_append.mp hlog with hlog | hlog
              · exact h.invA.logSaneR _ hlog
              · exact h.invB.logSaneR _ hlog
            have hla : la = l0 := by rw [← h2, hdst]; exact hSL l0 hslor
            refine ⟨⟨?_, ?_⟩, ?_, ?_, ?_, ?_⟩
            · rw [hla, hsrc]; exact hnbl
            · rw [hla, hsrc, ← hs, ← hdst]; exact hnb'
            · rw [hla]; exact hsl
            · rw [hsrc]; exact hsr
            · rw [hsrc, ← hs, h3, hsrc]
            · rw [hsrc, ← hs]; exact hsrcSL
          · -- a request: its sender logged it from a local address, which the receiver sees through the NAT
            intro now la src m' he hc
            obtain ⟨_, _, h3, rfl⟩ := Ev.inbound.inj he
            have hlog := hk0 m hp hc
            have hsl : SLor SLA SLB d.src := by
              rcases List.mem_append.mp hlog with hlog | hlog
              · exact Or.inl (h.invA.logSane _ hlog)
              · exact Or.inr (h.invB.logSane _ hlog)
            rw [← h3, hma]
            exact hSR _ hsl
          · rintro f t tid ⟨hc, hf, ht, htid⟩
            refine ⟨d.src, d.dst, ?_, ?_, ?_, hnb', ?_⟩
            · rw [htid]; exact hk0 m hp hc
            · rw [hf, hun]
            · rw [ht, hma]
            · rw [hf]; exact hreal
      cases isB <;> exact key

/-- the only hypothesis on the schedule: local candidates are added at `SL` addresses, remote
candidates are signalled at `SR` addresses. -/
def evSane (SLA SLB SR : Nat → Prop) : SysEv → Prop
  | .api false (.addLocal _ c) => SLA c.addr
  | .api true (.addLocal _ c) => SLB c.addr
  | .api _ (.addRemote _ c) => SR c.addr
  | _ => True

theorem runOut_ok (hSL : ∀ x, SLor SLA SLB x → SaneAddr nat x) (hSR : ∀ x, SLor SLA SLB x → SR (mappedL nat x))
    {s : Sys} {LA LB : Log} (h : SInv nat blocked SLA SLB SR liteA liteB s LA LB) (ev : SysEv)
    (hev : evSane SLA SLB SR ev) : StepOK nat blocked SLA SLB SR liteA liteB (Sys.runOut s ev) := by
  have fr : ∀ s0, Hub s s0 → SInv nat blocked SLA SLB SR liteA liteB s0 LA LB := fun _ => h.hub
  have tickOK : ∀ {s1 : Sys} {L1 L2 : Log}, SInv nat blocked SLA SLB SR liteA liteB s1 L1 L2 → ∀ X now,
      StepOK nat blocked SLA SLB SR liteA liteB
        ((s1.agentEv X (.advance now)).1,
          if X then ([], (s1.agentEv X (.advance now)).2) else ((s1.agentEv X (.advance now)).2, [])) :=
    fun h1 X now => agentEv_ok h1 X (.advance now) (fun _ _ he => nomatch he) (fun _ _ he => nomatch he)
      (fun _ _ _ _ he => nomatch he) (fun _ _ _ _ he => nomatch he) (respLogged_false _ _)
  refine runOut_rule (P := fun e r => evSane SLA SLB SR e → StepOK nat blocked SLA SLB SR liteA liteB r) s
    (fun _ s0 hub _ _ => StepOK.of_inv (fr s0 hub)) (fun e s0 X ev' hub _ hv hev => ?_) (fun now s0 hub _ _ _ => ?_) ev hev
  · cases hv with
    | api _ _ hapi _ =>
      exact agentEv_ok (fr s0 hub) X ev'
        (by intro now c he; subst he; cases X <;> exact hev)
        (by intro now c he; subst he; cases X <;> exact hev)
        (by intro now la src m he; subst he; cases hapi)
        (by intro now la src m he; subst he; cases hapi)
        (by rw [Rof_api hapi]; exact respLogged_false _ _)
    | tick now _ => exact tickOK (fr s0 hub) false now
    | dgram e X d k hk _ _ hb ho =>
      -- the datagram was in flight in `s`: what `SInv` knows of it there holds in `s0`
      have hdm : d ∈ s.inflight := List.mem_of_getElem? hk
      rw [← handOver_to hb ho]
      exact handOver_ok hSL hSR (fr s0 hub) d (Or.inr ⟨h.k0 d hdm, h.k2 d hdm⟩)
  · obtain ⟨⟨LA1, LB1, h1⟩, hoa, _⟩ := tickOK (fr s0 hub) false now
    obtain ⟨hs2, _, hob⟩ := tickOK h1 true now
    exact ⟨hs2, hoa, hob⟩

theorem AInv.fresh {Good : Nat → Nat → Prop} {Sane SaneR : Nat → Prop} {a : Agent} (hc : a.checklist = []) (hl : a.locals = [])
    (hr : a.remotes = []) (hp : a.pending = []) (hs : a.selected = none) (hn : a.connState = .new) :
    AInv Good Sane SaneR a.tag a.cfg.lite (view a) [] := by
  have hv : view a = ⟨a.tag, a.cfg.lite, a.nextTid, a.nextUid, a.nextPairID, [], [], [], [], none, false⟩ := by
    rw [view, hc, hl, hr, hp, hs, hn]
    rfl
  rw [hv]
  exact { tag_eq := rfl, lite_eq := rfl, logOK := nofun, logFun := nofun, logSane := nofun, logSaneR := nofun, pendOK := nofun,
          locSane := nofun, remSane := nofun, uidL := nofun, uidR := nofun, uniqR := .nil, pairId := nofun, pairUniq := .nil,
          pairUid := nofun, succOK := fun _ => nofun, respOK := nofun, selOK := nofun, connOK := nofun }

theorem init_inv {s : Sys} (hi : Sys.Init s) : SInv s.nat s.blocked SLA SLB SR s.a.cfg.lite s.b.cfg.lite s [] [] :=
  { nat_eq := rfl, blocked_eq := rfl
    invA := hi.a_tag ▸ AInv.fresh hi.a_checklist hi.a_locals hi.a_remotes hi.a_pending hi.a_selected hi.a_conn
    invB := hi.b_tag ▸ AInv.fresh hi.b_checklist hi.b_locals hi.b_remotes hi.b_pending hi.b_selected hi.b_conn
    k0 := by simp [hi.inflight], k2 := by simp [hi.inflight] }

theorem runs_inv_of (hSL : ∀ x, SLor SLA SLB x → SaneAddr nat x) (hSR : ∀ x, SLor SLA SLB x → SR (mappedL nat x))
    {s : Sys} (h : ∃ LA LB, SInv nat blocked SLA SLB SR liteA liteB s LA LB) (evs : List SysEv)
    (hev : ∀ e ∈ evs, evSane SLA SLB SR e) : ∃ LA LB, SInv nat blocked SLA SLB SR liteA liteB (Sys.runs s evs) LA LB :=
  Sys.runs_ind (Q := fun s => ∃ LA LB, SInv nat blocked SLA SLB SR liteA liteB s LA LB)
    (fun _ e ⟨_, _, h⟩ he => (runOut_ok hSL hSR h e he).1) h evs hev

theorem runs_inv {s0 : Sys} (hi : Sys.Init s0) (hSL : ∀ x, SLor SLA SLB x → SaneAddr s0.nat x) (hSR : ∀ x, SLor SLA SLB x → SR (mappedL s0.nat x))
    (evs : List SysEv) (hev : ∀ e ∈ evs, evSane SLA SLB SR e) :
    ∃ LA LB, SInv s0.nat s0.blocked SLA SLB SR s0.a.cfg.lite s0.b.cfg.lite (Sys.runs s0 evs) LA LB :=
  runs_inv_of hSL hSR ⟨[], [], init_inv hi⟩ evs hev

end
end IceProofs.C01

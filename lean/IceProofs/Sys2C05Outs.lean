import IceProofs.AgentC05
import IceProofs.AgentAuto
import IceProofs.AgentClosure
/-!
# What an agent puts on the wire with a role attribute (for the two-agent part of C05)

`step_outs`: every datagram emitted by `step` that carries a role attribute (ICE-CONTROLLING / ICE-CONTROLLED) carries the
agent's OWN tie-breaker and is keyed with the agent's remote password, the one in force after the step.  Role attributes
are written in one place only (`sendRequest`); responses (success, 487) carry none.  Every move but those of the session
events keeps tie-breaker and remote password, and what it sends is keyed with them (`keyed_move`); so that holds of every
chain of such moves (`keyed_chain`).
-/
namespace IceProofs.Sys2C05
open IceModel.AgentCore IceProofs.Agent

/-- an output that carries a role attribute carries tie-breaker `tb` and is keyed with `rp` -/
def ReqOK (tb : Nat) (rp : String) : Out → Prop
  | .dgram _ _ m => ∀ c t, m.role = some (c, t) → t = tb ∧ m.key = some rp
  | _ => True

def OutsOK (tb : Nat) (rp : String) (o : List Out) : Prop := ∀ x ∈ o, ReqOK tb rp x

/-- the same, reading tie-breaker and remote password off an agent projection -/
def OutsOKc (c : Core) (o : List Out) : Prop := OutsOK c.tieBreaker c.remotePwd o

@[simp] theorem OutsOK_nil (tb : Nat) (rp : String) : OutsOK tb rp [] := by simp [OutsOK]
@[simp] theorem OutsOK_append (tb : Nat) (rp : String) (o1 o2 : List Out) :
    OutsOK tb rp (o1 ++ o2) ↔ OutsOK tb rp o1 ∧ OutsOK tb rp o2 := by
  simp only [OutsOK, List.mem_append]
  constructor
  · intro h; exact ⟨fun x hx => h x (Or.inl hx), fun x hx => h x (Or.inr hx)⟩
  · rintro ⟨h1, h2⟩ x (hx | hx)
    · exact h1 x hx
    · exact h2 x hx
@[simp] theorem OutsOK_cons (tb : Nat) (rp : String) (x : Out) (o : List Out) :
    OutsOK tb rp (x :: o) ↔ ReqOK tb rp x ∧ OutsOK tb rp o := by
  simp [OutsOK]
@[simp] theorem OutsOKc_nil (c : Core) : OutsOKc c [] := OutsOK_nil _ _
@[simp] theorem OutsOKc_append (c : Core) (o1 o2 : List Out) : OutsOKc c (o1 ++ o2) ↔ OutsOKc c o1 ∧ OutsOKc c o2 :=
  OutsOK_append _ _ _ _
@[simp] theorem OutsOKc_cons (c : Core) (x : Out) (o : List Out) :
    OutsOKc c (x :: o) ↔ ReqOK c.tieBreaker c.remotePwd x ∧ OutsOKc c o := OutsOK_cons _ _ _ _
@[simp] theorem ReqOK_cbState (tb : Nat) (rp : String) (s : ConnState) : ReqOK tb rp (.cbState s) := trivial
@[simp] theorem ReqOK_cbPair (tb : Nat) (rp : String) (x y : Nat) : ReqOK tb rp (.cbPair x y) := trivial
theorem ReqOK_norole (tb : Nat) (rp : String) (f t : Nat) (m : Msg) (h : m.role = none) : ReqOK tb rp (.dgram f t m) := by
  intro c x hx; rw [h] at hx; cases hx

/-! `simp` discharges a side condition `x.core = c` by rewriting with the `core_*` lemmas; one closed by definitional
(`rfl`) lemmas alone yields a proof whose type matches only after unfolding `Agent.core`, which `simp` refuses to
assign.  The propositional copies below, tried first, avoid that. -/
theorem core_mk' (cfg tieBreaker controlling started closed connState localUfrag localPwd remoteUfrag remotePwd
    locals remotes checklist nextPairID nextUid nextTid tag pending selected selStart nominatedPair lastNomination answeredNomination
    lastSeen checkingStart checkingTimeout forcePending nextTick caches rx connBytesSent connBytesRecv
    onConnectedFired generation nomIssued lastRenomTime nomCounter) :
    (Agent.mk cfg tieBreaker controlling started closed connState localUfrag localPwd remoteUfrag remotePwd
    locals remotes checklist nextPairID nextUid nextTid tag pending selected selStart nominatedPair lastNomination answeredNomination
    lastSeen checkingStart checkingTimeout forcePending nextTick caches rx connBytesSent connBytesRecv
    onConnectedFired generation nomIssued lastRenomTime nomCounter).core = ⟨cfg, tieBreaker, tag, controlling, lastNomination, localUfrag, localPwd,
      remoteUfrag, remotePwd, started, closed⟩ := core_mk ..
theorem core_modPair' (a : Agent) (id : Nat) (f : Pair → Pair) : (a.modPair id f).core = a.core := core_modPair a id f
theorem core_seenRemoteRecv' (a : Agent) (u n : Nat) : (a.seenRemoteRecv u n).core = a.core := core_seenRemoteRecv a u n
@[simp high] theorem core_seenLocalSent' (a : Agent) (u n : Nat) : (a.seenLocalSent u n).core = a.core :=
  (core_seenLocalSent a u n).trans rfl
@[simp high] theorem core_invalidatePending' (a : Agent) (n : Nat) : (a.invalidatePending n).core = a.core :=
  (core_invalidatePending a n).trans rfl
@[simp high] theorem core_wipe' (a : Agent) : a.wipe.core = a.core := (core_wipe a).trans rfl
@[simp high] theorem core_addPair' (a : Agent) (l r : Cand) : (a.addPair l r).1.core = a.core := (core_addPair a l r).trans rfl

theorem ok_res (c : Core) (s : String) : OutsOKc c [.res s] := (OutsOKc_cons _ _ _).2 ⟨trivial, OutsOKc_nil _⟩

@[simp] theorem ok_setConnState (a : Agent) (s : ConnState) (c : Core) : OutsOKc c (a.setConnState s).2 := by
  unfold Agent.setConnState
  split
  · simp
  · simp

@[simp] theorem ok_select (a : Agent) (id : Nat) (c : Core) : OutsOKc c (a.select id).2 := by
  unfold Agent.select
  simp

@[simp] theorem ok_sendRequest (a : Agent) (now : Nat) (l r : Cand) (u : Bool) (n : Option Nat) {c : Core}
    (h : a.core = c) : OutsOKc c (a.sendRequest now l r u n).2 := by
  subst h
  unfold Agent.sendRequest
  simp only [OutsOKc_cons, OutsOKc_nil, and_true]
  intro c t hr
  split at hr <;> (simp [Agent.modPair, Agent.invalidatePending] at hr ⊢; exact hr.2.symm)

/-- the outputs of `r` that carry a role attribute carry the tie-breaker and the remote password of `a`, and `r` keeps both -/
def Keyed (a : Agent) (r : Agent × List Out) : Prop :=
  r.1.tieBreaker = a.tieBreaker ∧ r.1.remotePwd = a.remotePwd ∧ OutsOK a.tieBreaker a.remotePwd r.2

theorem Keyed.seq {a : Agent} {r1 r2 : Agent × List Out} (h1 : Keyed a r1) (h2 : Keyed r1.1 r2) :
    Keyed a (r2.1, r1.2 ++ r2.2) := by
  obtain ⟨t1, p1, o1⟩ := h1
  obtain ⟨t2, p2, o2⟩ := h2
  rw [t1, p1] at o2
  exact ⟨t2.trans t1, p2.trans p1, (OutsOK_append _ _ _ _).2 ⟨o1, o2⟩⟩

theorem ok_noDgram {tb : Nat} {rp : String} {o : List Out} (h : NoDgram o) : OutsOK tb rp o := by
  intro x hx
  have := List.all_eq_true.mp h x hx
  cases x with
  | dgram f t m => cases this
  | _ => trivial

/-- Only `Start`, `SetRemoteCredentials` and `Restart` change the remote password; of the other moves the two that put a
role attribute on the wire (`sendRequest`) take tie-breaker and key from the agent. -/
theorem keyed_move {cx : Ctx} (hs : ¬cx.may .session) {a : Agent} {r : Agent × List Out} (h : Move cx a r) : Keyed a r := by
  cases h with
  | request now l r uc =>
    exact ⟨congrArg Core.tieBreaker (core_sendRequest a now l r uc none),
      congrArg Core.remotePwd (core_sendRequest a now l r uc none), ok_sendRequest a now l r uc none rfl⟩
  | issue now l r v =>
    exact ⟨congrArg Core.tieBreaker (core_sendRequest a now l r true _),
      congrArg Core.remotePwd (core_sendRequest a now l r true _), ok_sendRequest a now l r true _ rfl⟩
  | select id =>
    exact ⟨congrArg Core.tieBreaker (core_select a id), congrArg Core.remotePwd (core_select a id), ok_select a id a.core⟩
  | answer f t now l src m =>
    exact ⟨rfl, rfl, (OutsOK_cons _ _ _ _).2 ⟨ReqOK_norole _ _ _ _ _ rfl, OutsOK_nil _ _⟩⟩
  | refuse f t now l src m =>
    exact ⟨rfl, rfl, (OutsOK_cons _ _ _ _).2 ⟨ReqOK_norole _ _ _ _ _ rfl, OutsOK_nil _ _⟩⟩
  | start now ctl ru rp h => exact absurd h hs
  | creds ru rp h => exact absurd h hs
  | restart now x p h => exact absurd h hs
  | _ => exact ⟨rfl, rfl, ok_noDgram rfl⟩

theorem keyed_chain {cx : Ctx} (hs : ¬cx.may .session) {a : Agent} {r : Agent × List Out} (h : Chain cx a r) : Keyed a r :=
  Chain.ind (R := Keyed) (fun _ => ⟨rfl, rfl, OutsOK_nil _ _⟩) (fun _ _ => keyed_move hs) Keyed.seq h

/-- any work but that of `Start`, `SetRemoteCredentials`, `Restart`, `Close` -/
def Ctx.work : Ctx := { Ctx.any with may := fun | .session => False | _ => True }

theorem keyed_end {a : Agent} {r : Agent × List Out} (h : Chain Ctx.work a r) : OutsOKc r.1.core r.2 := by
  obtain ⟨h1, h2, h3⟩ := keyed_chain (fun h => h) h
  show OutsOK r.1.tieBreaker r.1.remotePwd r.2
  rw [h1, h2]
  exact h3

@[simp] theorem ok_doRestart (a : Agent) (now : Nat) (u p : String) (k : Core) : OutsOKc k (a.doRestart now u p).2 := by
  unfold Agent.doRestart
  dsimp only
  split
  · exact ok_setConnState _ _ _
  · exact OutsOKc_nil _

theorem ok_thenForced (x : Agent × List Out) (now : Nat) (h : OutsOKc x.1.core x.2) :
    OutsOKc (thenForced x now).1.core (thenForced x now).2 := by
  obtain ⟨h1, h2, h3⟩ := keyed_chain (cx := Ctx.work) (fun h => h) (Chain.runForced x.1 now)
  show OutsOK (x.1.runForced now).1.tieBreaker (x.1.runForced now).1.remotePwd (x.2 ++ (x.1.runForced now).2)
  rw [h1, h2]
  exact (OutsOK_append _ _ _ _).2 ⟨h, h3⟩

/-- The session events install the password before anything is sent: their own work sends nothing, and the forced tick
runs on the new state. -/
theorem step_outs (a : Agent) (ev : Ev) : OutsOK a.tieBreaker (step a ev).1.remotePwd (step a ev).2 := by
  have hk : OutsOKc (step a ev).1.core (step a ev).2 := by
    refine step_rule (Q := fun _ x => OutsOKc x.1.core x.2) a (fun _ s => ok_res _ s) (fun _ => OutsOKc_nil _)
      (fun now c => ok_thenForced _ now (keyed_end (Chain.addLocalCandidate a c trivial)))
      (fun now c _ => ok_thenForced _ now (keyed_end (Chain.addRemoteCandidate a c trivial)))
      (fun now ctl ru rp _ _ => ok_thenForced _ now ((OutsOKc_append _ _ _).2 ⟨ok_setConnState _ _ _, ok_res _ _⟩))
      (fun _ _ => ok_res _ _) (fun now => keyed_end (Chain.runTimers a now _))
      (fun now la src m l _ _ _ => ok_thenForced _ now (keyed_end
        (Chain.handleInbound a now l src m (fun _ _ _ _ => trivial) (fun _ => trivial) (fun _ _ _ _ _ _ _ _ _ _ => trivial)
          (fun _ _ => trivial) nofun)))
      (fun now la src len _ l _ => keyed_end (Chain.inboundData a now l src len nofun)) (fun now len sl => keyed_end (Chain.write a now len sl))
      (fun now id len sl => keyed_end (Chain.writeToPair a now id len sl)) (fun _ _ _ _ _ => ok_res _ _) ?_
      (fun now u p _ => (OutsOKc_append _ _ _).2 ⟨ok_doRestart a now u p _, ok_res _ _⟩)
      (fun _ => (OutsOKc_append _ _ _).2 ⟨ok_setConnState _ _ _, ok_res _ _⟩) ev
    intro now la ri v l r _ _ _ _ _
    exact (OutsOKc_append _ _ _).2 ⟨ok_sendRequest a now l r true _ (core_sendRequest a now l r true _).symm, ok_res _ _⟩
  have ht := (step_constants a ev).1
  unfold OutsOKc at hk
  rw [core_tieBreaker, ht] at hk
  exact hk

end IceProofs.Sys2C05

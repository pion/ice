import IceProofs.TcpMuxSimFrame
/-!
# Operations that close one packet connection: `RemoveConnByUfrag`, `Close` of a packet connection,
`Close` of a handle
-/
namespace IceProofs.TcpMux
open IceModel.TcpMux IceSpec.C15 IceSpec.C15.View

theorem nread_clients {s : State} {m m' : Mon} (hn : NRead s m) (h : m'.clients = m.clients) : NRead s m' := by
  intro k t c ht hc
  rw [h] at hc
  exact hn k t c ht hc

theorem map_modify_comm {α β : Type} (l : List α) (p : Nat) (g : α → α) (g' : β → β) (F : α → β)
    (h : ∀ a, F (g a) = g' (F a)) : (l.modify p g).map F = (l.map F).modify p g' := by
  apply List.ext_getElem?
  intro q
  simp only [List.getElem?_map]
  rw [getElem?_modify_map, getElem?_modify_map, List.getElem?_map]
  cases l[q]? with
  | none => rfl
  | some a =>
    simp only [Option.map_some, Option.some.injEq]
    split
    · exact h a
    · rfl

theorem filterMap_range_single {β : Type} (g : Nat → Option β) (n k : Nat) (b : β) (hk : k < n) (hg : g k = some b)
    (hne : ∀ j, j ≠ k → g j = none) : (List.range n).filterMap g = [b] := by
  induction n with
  | zero => omega
  | succ n ih =>
    rw [List.range_succ, List.filterMap_append]
    by_cases hkn : k = n
    · subst hkn
      have : (List.range k).filterMap g = [] := by
        rw [List.filterMap_eq_nil_iff]
        intro a ha
        rw [List.mem_range] at ha
        exact hne a (by omega)
      rw [this]
      simp [hg]
    · rw [ih (by omega)]
      simp [hne n (fun e => hkn e.symm)]

theorem indexed_filter_single {α : Type} (l : List α) (p : Nat × α → Bool) (k : Nat) (a : α) (ha : l[k]? = some a)
    (hp : p (k, a) = true) (hu : ∀ j b, l[j]? = some b → p (j, b) = true → j = k) :
    (indexed l).filter p = [(k, a)] := by
  unfold indexed
  rw [List.filter_filterMap]
  apply filterMap_range_single _ _ k (k, a) (getElem?_lt ha)
  · simp [ha, hp]
  · intro j hj
    cases hb : l[j]? with
    | none => simp
    | some b =>
      simp only [Option.map_some, Option.filter_some]
      cases hpb : p (j, b) with
      | false => simp
      | true => exact absurd (hu j b hb hpb) hj

theorem indexed_filter_nil {α : Type} (l : List α) (p : Nat × α → Bool)
    (hu : ∀ j b, l[j]? = some b → p (j, b) = false) : (indexed l).filter p = [] := by
  rw [List.filter_eq_nil_iff]
  intro ⟨j, b⟩ hx
  simp [hu j b (mem_indexed.1 hx)]

theorem op_remove {s : State} {m : Mon} (hs : Sim s m) (hi : Inv s) (h2 : Inv2 s) (u : String) :
    BookOK s (step s (.removeByUfrag u)).1 m
      (book m (.remove u) (obsOf s.tcps (step s (.removeByUfrag u)).1 (oresOf (.removeByUfrag u) (step s (.removeByUfrag u)).2))) := by
  refine book_cases (.removeByUfrag u) (fun s' r hx h => ?_)
  cases h
  refine bookOK_quiet hs hi h2 (.removeByUfrag u) nofun hx (closePcsWhere_quiet _ s hi) ?_
  refine congrArg (·, none, false) (reread_of (H := m.handles) ?_ (by rw [hs.u.handles, (closePcsWhere_flags _ s).handles])
    ((closePcsWhere_flags _ s).now.symm ▸ hs.u.now))
  show closeWhere m.pcs (fun pc => pc.ufrag == u) = (closePcsWhere (fun pc => decide (pc.key.ufrag = u)) s).pcs.map absPc
  rw [hs.u.pcs, closePcsWhere_pcs]
  apply closeWhere_abs
  intro pc _ _
  simp only [absPc]
  by_cases h : pc.key.ufrag = u <;> simp [h]

theorem closeRec_abs (s : State) (p : Nat) : closeRec (s.pcs.map absPc) p = (closePc1 s p).pcs.map absPc := by
  rw [closePc1_pcs_map]
  unfold closeRec
  rw [map_modify_comm s.pcs p _ closeOne absPc]
  intro pc
  cases hc : pc.closed with
  | false => simp only [closeIfOpen, hc, if_true]; exact absPc_closedPc pc hc
  | true => simp only [closeIfOpen, hc, Bool.true_eq_false, if_false]; exact (absPc_closed_closeOne pc hc).symm

theorem handle_abs {s : State} {m : Mon} (hu : SimU s m) (h : Nat) : m.handles[h]? = (s.handles[h]?).map absH := by
  rw [hu.handles, List.getElem?_map]

theorem op_closepc {s : State} {m : Mon} (hs : Sim s m) (hi : Inv s) (h2 : Inv2 s) (h : Nat)
    (hnb : (step s (.closePacketConn h)).2 ≠ .bad) :
    BookOK s (step s (.closePacketConn h)).1 m
      (book m (.closepc h) (obsOf s.tcps (step s (.closePacketConn h)).1
        (oresOf (.closePacketConn h) (step s (.closePacketConn h)).2))) := by
  refine book_cases (.closePacketConn h) (fun s' r hx hd => ?_)
  cases hd with
  | closepcBad _ hh => rw [hx] at hnb; exact absurd rfl hnb
  | closepc _ hd hh =>
    have hmh : m.handles[h]? = some (absH hd) := by rw [handle_abs hs.u, hh]; rfl
    refine bookOK_quiet hs hi h2 (.closePacketConn h) nofun hx (closePc1_quiet s hd.pc hi) ?_
    show (match m.handles[h]? with
      | some hd => ({ m with pcs := closeRec m.pcs hd.pc }, none, false)
      | none => (m, none, false)) = _
    rw [hmh]
    exact congrArg (·, none, false) (reread_of (H := m.handles) (by rw [hs.u.pcs]; exact closeRec_abs s hd.pc)
      (by rw [(closePc1_flags _ _).handles]; exact hs.u.handles) (by rw [(closePc1_flags _ _).now]; exact hs.u.now))

theorem pcs_pointwise_quiet (s s' : State) (p : Nat) (g : PConn → PConn)
    (hcfg : s'.cfg = s.cfg) (hmux : s'.muxClosed = s.muxClosed) (hcat : s'.closedAt = s.closedAt)
    (htc : s'.tcps = s.tcps) (hpc : s'.pcs = s.pcs.modify p g)
    (hg : ∀ pc, (g pc).hist = pc.hist ∧ (g pc).readLog = pc.readLog ∧ (g pc).closed = pc.closed) :
    Quiet s s' ∧ RLSame s s' := by
  have hpcs : ∀ q : Nat, s'.pcs[q]? = (s.pcs[q]?).map (fun a => if p = q then g a else a) := by
    intro q; rw [hpc]; exact getElem?_modify_map ..
  have htcs : ∀ j : Nat, s'.tcps[j]? = (s.tcps[j]?).map (fun a => a) := by
    intro j; rw [htc]; exact map_id_pointwise _
  refine ⟨?_, ?_⟩
  · apply quiet_of_pointwise ⟨htcs, hpcs⟩ hcfg hmux hcat
    · intro j t _; exact ⟨TcpQ.refl t, fun h p' hp' => by rw [h] at hp'; cases hp'⟩
    · intro q pc _
      split
      · exact ⟨fun h => by rw [(hg pc).2.2]; exact h, [], by simp [(hg pc).1], by simp⟩
      · exact ⟨fun h => h, [], by simp, by simp⟩
  · apply rlSame_of_pointwise ⟨htcs, hpcs⟩
    intro q pc; split
    · exact (hg pc).2.1
    · rfl

theorem op_closeh {s : State} {m : Mon} (hs : Sim s m) (hi : Inv s) (h2 : Inv2 s) (h : Nat)
    (hnb : (step s (.closeHandle h)).2 ≠ .bad) :
    BookOK s (step s (.closeHandle h)).1 m
      (book m (.closeh h) (obsOf s.tcps (step s (.closeHandle h)).1
        (oresOf (.closeHandle h) (step s (.closeHandle h)).2))) := by
  refine book_cases (.closeHandle h) (fun s' r hx hdo => ?_)
  have mon : ∀ hd : Handle, s.handles[h]? = some hd → m.handles[h]? = some (absH hd) ∧
      setAt m.handles h (fun hd => { hd with closed := true }) = (s.handles.modify h closeHd).map absH := by
    intro hd hh
    refine ⟨by rw [handle_abs hs.u, hh]; rfl, ?_⟩
    rw [hs.u.handles]; exact (map_modify_comm s.handles h closeHd _ absH (fun _ => rfl)).symm
  have monPc : ∀ (hd : Handle) (pc : PConn), s.pcs[hd.pc]? = some pc → m.pcs[(absH hd).pc]? = some (absPc pc) ∧
      setAt m.pcs (absH hd).pc (fun pc => { pc with refs := pc.refs - 1 }) = (s.pcs.modify hd.pc decRef).map absPc := by
    intro hd pc hp
    refine ⟨by rw [hs.u.pcs, List.getElem?_map]; show (s.pcs[hd.pc]?).map absPc = _; rw [hp]; rfl, ?_⟩
    rw [hs.u.pcs]; exact (map_modify_comm s.pcs hd.pc decRef _ absPc (fun _ => rfl)).symm
  cases hdo with
  | closehBad _ hh => rw [hx] at hnb; exact absurd rfl hnb
  | closehAgain _ hd hh hc =>
    refine bookOK_quiet hs hi h2 (.closeHandle h) nofun hx ⟨quiet_refl s, RLSame.refl s⟩ ?_
    show bookCloseh m h = _
    simp only [bookCloseh, (mon hd hh).1, show (absH hd).closed = true from hc, if_true]
    rw [mon_reread hs.u.pcs hs.u.handles hs.u.now]
  | closehNoPc _ hd hh hc hp =>
    refine bookOK_quiet hs hi h2 (.closeHandle h) nofun hx (quiet_handles s _) ?_
    have hmp : m.pcs[(absH hd).pc]? = none := by
      rw [hs.u.pcs, List.getElem?_map]; show (s.pcs[hd.pc]?).map absPc = none; rw [hp]; rfl
    show bookCloseh m h = _
    simp only [bookCloseh, (mon hd hh).1, show (absH hd).closed = false from hc, Bool.false_eq_true, if_false, hmp, (mon hd hh).2]
    exact congrArg (·, none, false) (reread_of hs.u.pcs rfl hs.u.now)
  | closehKeep _ hd pc hh hc hp hr =>
    refine bookOK_quiet hs hi h2 (.closeHandle h) nofun hx
      (pcs_pointwise_quiet s (dropRef s h hd.pc) hd.pc decRef rfl rfl rfl rfl rfl (fun _ => ⟨rfl, rfl, rfl⟩)) ?_
    show bookCloseh m h = _
    simp only [bookCloseh, (mon hd hh).1, show (absH hd).closed = false from hc, Bool.false_eq_true, if_false, (monPc hd pc hp).1,
      (mon hd hh).2, (monPc hd pc hp).2, show (absPc pc).refs = pc.refs from rfl, if_neg (Nat.not_le.2 hr)]
    exact congrArg (·, none, false) (reread_of rfl rfl hs.u.now)
  | closehLast _ hd pc hh hc hp hr =>
    have q2 := pcs_pointwise_quiet s (dropRef s h hd.pc) hd.pc decRef rfl rfl rfl rfl rfl (fun _ => ⟨rfl, rfl, rfl⟩)
    have hi2 : Inv (dropRef s h hd.pc) :=
      handles_irrel_inv _ _ (setPc_irrel_inv s hd.pc decRef (fun pc => ⟨rfl, rfl, rfl, rfl, Or.inl rfl⟩) hi)
    obtain ⟨q3, rl3⟩ := closePc1_quiet (dropRef s h hd.pc) hd.pc hi2
    refine bookOK_quiet hs hi h2 (.closeHandle h) nofun hx
      ⟨q2.1.trans' q3 (by simp [dropRef]) hi, q2.2.trans rl3⟩ ?_
    show bookCloseh m h = _
    simp only [bookCloseh, (mon hd hh).1, show (absH hd).closed = false from hc, Bool.false_eq_true, if_false, (monPc hd pc hp).1,
      (mon hd hh).2, (monPc hd pc hp).2, show (absPc pc).refs = pc.refs from rfl, if_pos hr]
    exact congrArg (·, none, false) (reread_of (closeRec_abs (dropRef s h hd.pc) hd.pc)
      (by rw [(closePc1_flags _ _).handles]; rfl) (by rw [(closePc1_flags _ _).now]; exact hs.u.now))

end IceProofs.TcpMux

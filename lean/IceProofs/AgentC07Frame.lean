import IceModel.AgentCore
import IceProofs.AgentLookups
/-!
# Frame lemmas for C07: what the control plane never touches of the data plane

`Fr0 a b` relates a state `a` to a later state `b`: the reader queue `rx` and the two connection byte
counters are equal, `nextPairID` has not decreased, every pair listed in `b` under an id is either the
pair listed in `a` under that id with the same four data counters or has an id issued after `a`
(`> a.nextPairID`), "listed ids are issued (≤ nextPairID) and pairwise distinct" is preserved, and a closed
agent stays closed.
`Fr a b` adds: `nextUid` is equal, either the candidate lists agree on (uid, net, addr) and the caches are
equal or all three are empty (Failed / Restart / Close wipe), and "every listed pair names a current local
and a current remote candidate" (`Res`) is preserved.
Both are reflexive and transitive.  `Fr` holds across every function reached from `Agent.contact`, the
selectors' handlers and Restart (`AgentC07Ctl`); candidate insertion, `handleInbound` and `step` are in
`AgentC07Inv`.
-/
namespace IceProofs.AgentC07
open IceModel.AgentCore

/-- the four data counters of a pair -/
def ctr (p : Pair) : Nat × Nat × Nat × Nat := (p.pktSent, p.bytesSent, p.pktRecv, p.bytesRecv)

/-- what the data plane reads of a candidate -/
def ckey (c : Cand) : Nat × Nat × Nat := (c.uid, c.net, c.addr)

/-- every listed pair id has been issued (`≤ nextPairID`) and no id is listed twice -/
def IdsBounded (a : Agent) : Prop :=
  (∀ p ∈ a.checklist, p.id ≤ a.nextPairID) ∧ a.checklist.Pairwise (fun x y => x.id ≠ y.id)

def luids (a : Agent) : List Nat := a.locals.map (·.uid)
def ruids (a : Agent) : List Nat := a.remotes.map (·.uid)

/-- every listed pair names a current local and a current remote candidate -/
def Res (a : Agent) : Prop := ∀ p ∈ a.checklist, p.l ∈ luids a ∧ p.r ∈ ruids a

structure Fr0 (a b : Agent) : Prop where
  rx : b.rx = a.rx
  sent : b.connBytesSent = a.connBytesSent
  recv : b.connBytesRecv = a.connBytesRecv
  npid : a.nextPairID ≤ b.nextPairID
  ctr : ∀ id q, b.pairById id = some q → (∃ p, a.pairById id = some p ∧ ctr p = ctr q) ∨ a.nextPairID < id
  bnd : IdsBounded a → IdsBounded b
  closed : a.closed = true → b.closed = true

def Keep (a b : Agent) : Prop :=
  b.locals.map ckey = a.locals.map ckey ∧ b.remotes.map ckey = a.remotes.map ckey ∧ b.caches = a.caches

def Wiped (b : Agent) : Prop := b.locals = [] ∧ b.remotes = [] ∧ b.caches = []

structure Fr (a b : Agent) : Prop extends Fr0 a b where
  nuid : b.nextUid = a.nextUid
  cands : Keep a b ∨ Wiped b
  rsv : Res a → Res b

theorem uid_of_ckey (l : List Cand) : l.map (·.uid) = (l.map ckey).map (·.1) := by
  rw [List.map_map]; rfl

theorem Keep.luids {a b : Agent} (h : Keep a b) : luids b = luids a := by
  unfold IceProofs.AgentC07.luids; rw [uid_of_ckey, uid_of_ckey a.locals, h.1]

theorem Keep.ruids {a b : Agent} (h : Keep a b) : ruids b = ruids a := by
  unfold IceProofs.AgentC07.ruids; rw [uid_of_ckey, uid_of_ckey a.remotes, h.2.1]

theorem Fr0.refl (a : Agent) : Fr0 a a :=
  ⟨rfl, rfl, rfl, Nat.le_refl _, fun _ q h => Or.inl ⟨q, h, rfl⟩, id, id⟩

theorem Fr.refl (a : Agent) : Fr a a := ⟨Fr0.refl a, rfl, Or.inl ⟨rfl, rfl, rfl⟩, id⟩

theorem Fr0.trans {a b c : Agent} (h1 : Fr0 a b) (h2 : Fr0 b c) : Fr0 a c where
  rx := h2.rx.trans h1.rx
  sent := h2.sent.trans h1.sent
  recv := h2.recv.trans h1.recv
  npid := Nat.le_trans h1.npid h2.npid
  ctr := fun id q h => by
    rcases h2.ctr id q h with ⟨p, hp, e⟩ | h
    · rcases h1.ctr id p hp with ⟨p0, hp0, e0⟩ | h
      · exact Or.inl ⟨p0, hp0, e0.trans e⟩
      · exact Or.inr h
    · exact Or.inr (Nat.lt_of_le_of_lt h1.npid h)
  bnd := fun h => h2.bnd (h1.bnd h)
  closed := fun h => h2.closed (h1.closed h)

theorem Fr.trans {a b c : Agent} (h1 : Fr a b) (h2 : Fr b c) : Fr a c where
  toFr0 := h1.toFr0.trans h2.toFr0
  nuid := h2.nuid.trans h1.nuid
  cands := by
    rcases h2.cands with ⟨k1, k2, k3⟩ | w
    · rcases h1.cands with ⟨j1, j2, j3⟩ | ⟨w1, w2, w3⟩
      · exact Or.inl ⟨k1.trans j1, k2.trans j2, k3.trans j3⟩
      · right
        rw [w1] at k1; rw [w2] at k2; rw [w3] at k3
        exact ⟨List.map_eq_nil_iff.mp k1, List.map_eq_nil_iff.mp k2, k3⟩
    · exact Or.inr w
  rsv := fun h => h2.rsv (h1.rsv h)

theorem Fr0.of_fields {a b : Agent} (h1 : b.rx = a.rx) (h2 : b.connBytesSent = a.connBytesSent)
    (h3 : b.connBytesRecv = a.connBytesRecv) (h4 : b.nextPairID = a.nextPairID) (h5 : b.checklist = a.checklist)
    (h6 : b.closed = a.closed) : Fr0 a b where
  rx := h1
  sent := h2
  recv := h3
  npid := Nat.le_of_eq h4.symm
  ctr := fun id q h => Or.inl ⟨q, by simpa [Agent.pairById, h5] using h, rfl⟩
  bnd := fun h => by unfold IdsBounded; rw [h4, h5]; exact h
  closed := fun h => h6.trans h

theorem Fr.of_keep {a b : Agent} (h0 : Fr0 a b) (hc : b.checklist = a.checklist) (hn : b.nextUid = a.nextUid)
    (k : Keep a b) : Fr a b where
  toFr0 := h0
  nuid := hn
  cands := Or.inl k
  rsv := fun h => by unfold Res; rw [k.luids, k.ruids, hc]; exact h

theorem Fr.of_fields {a b : Agent} (h1 : b.rx = a.rx) (h2 : b.connBytesSent = a.connBytesSent)
    (h3 : b.connBytesRecv = a.connBytesRecv) (h4 : b.nextPairID = a.nextPairID) (h5 : b.checklist = a.checklist)
    (h6 : b.nextUid = a.nextUid) (h7 : b.locals = a.locals) (h8 : b.remotes = a.remotes)
    (h9 : b.caches = a.caches) (h10 : b.closed = a.closed) : Fr a b :=
  Fr.of_keep (Fr0.of_fields h1 h2 h3 h4 h5 h10) h5 h6 ⟨by rw [h7], by rw [h8], h9⟩

theorem find?_updPair (l : List Pair) (id k : Nat) (f : Pair → Pair) (hf : ∀ p, (f p).id = p.id) :
    (updPair l id f).find? (·.id == k) = (l.find? (·.id == k)).map fun p => if p.id == id then f p else p :=
  Agent.find?_key_upd Pair.id l id k f hf

theorem IdsBounded_updPair (a b : Agent) (id : Nat) (f : Pair → Pair) (hf : ∀ p, (f p).id = p.id)
    (hn : b.nextPairID = a.nextPairID) (hc : b.checklist = updPair a.checklist id f) (h : IdsBounded a) :
    IdsBounded b := by
  unfold IdsBounded
  rw [hn, hc]
  exact Agent.issued_of_keys (k := Pair.id) (k' := Pair.id) (Agent.updPair_map (·.id) a.checklist id f hf) (Nat.le_refl _) h

theorem Res_updPair (a b : Agent) (id : Nat) (f : Pair → Pair) (hf : ∀ p, (f p).l = p.l ∧ ((f p).r = p.r ∨ (f p).r ∈ ruids a))
    (hl : luids b = luids a) (hr : ruids b = ruids a) (hc : b.checklist = updPair a.checklist id f) (h : Res a) :
    Res b := by
  intro p hp
  rw [hc] at hp
  obtain ⟨p0, hp0, rfl⟩ := List.mem_map.mp hp
  have := h p0 hp0
  rw [hl, hr]
  split
  · rw [(hf p0).1]
    exact ⟨this.1, (hf p0).2.elim (fun h' => h' ▸ this.2) fun h' => h'⟩
  · exact this

theorem Fr0.modPair (a : Agent) (id : Nat) (f : Pair → Pair) (hf : ∀ p, (f p).id = p.id ∧ AgentC07.ctr (f p) = AgentC07.ctr p) :
    Fr0 a (a.modPair id f) where
  rx := rfl
  sent := rfl
  recv := rfl
  npid := Nat.le_refl _
  ctr := fun k q h => by
    rw [Agent.modPair_pairById a id k f (fun p => (hf p).1)] at h
    rcases Option.map_eq_some_iff.mp h with ⟨p, hp, e⟩
    refine Or.inl ⟨p, hp, ?_⟩
    rw [← e]
    split
    · exact (hf p).2.symm
    · rfl
  bnd := IdsBounded_updPair a _ id f (fun p => (hf p).1) rfl rfl
  closed := fun h => h

theorem Fr.modPair (a : Agent) (id : Nat) (f : Pair → Pair)
    (hf : ∀ p, (f p).id = p.id ∧ ctr (f p) = ctr p ∧ (f p).l = p.l ∧ ((f p).r = p.r ∨ (f p).r ∈ ruids a)) :
    Fr a (a.modPair id f) where
  toFr0 := Fr0.modPair a id f fun p => ⟨(hf p).1, (hf p).2.1⟩
  nuid := rfl
  cands := Or.inl ⟨rfl, rfl, rfl⟩
  rsv := Res_updPair a _ id f (fun p => (hf p).2.2) rfl rfl rfl

theorem Fr.wipe (a : Agent) : Fr a a.wipe where
  rx := rfl
  sent := rfl
  recv := rfl
  npid := Nat.le_refl _
  ctr := fun k q h => by simp [Agent.wipe, Agent.pairById] at h
  bnd := fun _ => ⟨fun p hp => by simp [Agent.wipe] at hp, by simp [Agent.wipe]⟩
  closed := fun h => h
  nuid := rfl
  cands := Or.inr ⟨rfl, rfl, rfl⟩
  rsv := fun _ p hp => by simp [Agent.wipe] at hp

theorem Fr.seenLocalSent (a : Agent) (uid now : Nat) : Fr a (a.seenLocalSent uid now) :=
  Fr.of_keep (Fr0.of_fields rfl rfl rfl rfl rfl rfl) rfl rfl ⟨Agent.updCand_map ckey _ _ _ (fun _ => rfl), rfl, rfl⟩

theorem Fr.seenRemoteRecv (a : Agent) (uid now : Nat) : Fr a (a.seenRemoteRecv uid now) :=
  Fr.of_keep (Fr0.of_fields rfl rfl rfl rfl rfl rfl) rfl rfl ⟨rfl, Agent.updCand_map ckey _ _ _ (fun _ => rfl), rfl⟩

theorem Fr0.addPair (a : Agent) (l r : Cand) : Fr0 a (a.addPair l r).1 where
  rx := rfl
  sent := rfl
  recv := rfl
  npid := Nat.le_succ _
  ctr := fun k q h => by
    simp only [Agent.addPair, Agent.pairById, List.find?_append] at h
    cases h0 : a.checklist.find? (·.id == k) with
    | some p =>
      rw [h0] at h
      simp only [Option.some_or] at h
      exact Or.inl ⟨p, h0, by rw [Option.some.inj h]⟩
    | none =>
      rw [h0] at h
      simp only [Option.none_or] at h
      right
      have := List.find?_some h
      have hm := List.mem_of_find?_eq_some h
      simp only [List.mem_singleton] at hm
      subst hm
      simp only [beq_iff_eq] at this
      omega
  bnd := fun h => Agent.issued_snoc (k := Pair.id) _ rfl h
  closed := fun h => h

theorem Fr.addPair (a : Agent) (l r : Cand) (hl : l.uid ∈ luids a) (hr : r.uid ∈ ruids a) : Fr a (a.addPair l r).1 where
  toFr0 := Fr0.addPair a l r
  nuid := rfl
  cands := Or.inl ⟨rfl, rfl, rfl⟩
  rsv := fun h p hp => by
    simp only [Agent.addPair, List.mem_append, List.mem_singleton] at hp
    rcases hp with hp | hp
    · exact h p hp
    · subst hp; exact ⟨hl, hr⟩

end IceProofs.AgentC07

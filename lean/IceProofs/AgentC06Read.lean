import IceProofs.AgentC06Dup
import IceProofs.AgentC06Stable
/-!
# C06 — the invariant read back at the level of the agent record; reachability; freshness of new pair ids
-/
namespace IceProofs.AgentC06
open IceModel.AgentCore IceProofs.Agent

/-- a freshly created agent, as far as bookkeeping is concerned (configuration, credentials, role, counters,
connection state … are arbitrary) -/
def Init (a : Agent) : Prop :=
  a.checklist = [] ∧ a.locals = [] ∧ a.remotes = [] ∧ a.caches = [] ∧ a.selected = none ∧ a.nominatedPair = none

def run (a : Agent) (evs : List Ev) : Agent := evs.foldl (fun s e => (step s e).1) a

theorem run_nil (a : Agent) : run a [] = a := rfl
theorem run_append (a : Agent) (evs : List Ev) (e : Ev) : run a (evs ++ [e]) = (step (run a evs) e).1 := by
  simp [run, List.foldl_append]

theorem Inv.init {a : Agent} (h : Init a) : Inv a := by
  obtain ⟨h1, h2, h3, h4, h5, h6⟩ := h
  refine ⟨?_, ?_, ?_, ?_, ?_⟩
  · unfold InvS keysOf lcsOf rcsOf
    rw [h1, h2, h3, h4]
    exact { idsNodup := by simp, idsLe := by simp, uidsNodup := by simp, uidsLt := by simp, ends := by simp,
            closedEmpty := by simp, remNE := by simp, locNE := by simp, notBlocked := by simp,
            cachesOk := by simp }
  · intro id hid; rw [h5] at hid; exact absurd hid (by simp)
  · intro id hid; rw [h5] at hid; exact absurd hid (by simp)
  · intro id hid; rw [h6] at hid; exact absurd hid (by simp)
  · intro id hid; rw [h6] at hid; exact absurd hid (by simp)

theorem Inv.run {a : Agent} (h : Inv a) (evs : List Ev) : Inv (AgentC06.run a evs) := by
  unfold AgentC06.run
  induction evs generalizing a with
  | nil => exact h
  | cons e evs ih => exact ih (h.step e)

theorem Inv.read_ids {a : Agent} (h : Inv a) :
    (a.checklist.map (·.id)).Nodup ∧ ∀ p ∈ a.checklist, p.id ≤ a.nextPairID :=
  ⟨h.idsNodup, fun p hp => h.s.idsLe (key p) (List.mem_map_of_mem hp)⟩

theorem Inv.read_uids {a : Agent} (h : Inv a) :
    (a.locals.map (·.uid)).Nodup ∧ (a.remotes.map (·.uid)).Nodup ∧
    (∀ l ∈ a.locals, ∀ r ∈ a.remotes, l.uid ≠ r.uid) ∧
    (∀ c ∈ a.locals, c.uid < a.nextUid) ∧ (∀ c ∈ a.remotes, c.uid < a.nextUid) := by
  have h1 := h.s.lcNodup
  have h2 := h.s.rcNodup
  have h3 := h.s.uidsNodup
  simp only [lcsOf, rcsOf, List.map_map] at h1 h2
  refine ⟨by simpa [Function.comp_def] using h1, by simpa [Function.comp_def] using h2, ?_, ?_, ?_⟩
  · intro l hl r hr
    rw [List.map_append, List.nodup_append] at h3
    have := h3.2.2 (core l).uid (List.mem_map_of_mem (mem_lcsOf hl)) (core r).uid (List.mem_map_of_mem (mem_rcsOf hr))
    simpa using this
  · intro c hc
    simpa using h.s.uidsLt (core c) (List.mem_append_left _ (mem_lcsOf hc))
  · intro c hc
    simpa using h.s.uidsLt (core c) (List.mem_append_right _ (mem_rcsOf hc))

theorem Inv.read_ends {a : Agent} (h : Inv a) (hc : a.closed = false) :
    ∀ p ∈ a.checklist, ∃ l r, a.localOf p.l = some l ∧ a.remoteOf p.r = some r ∧ l.net = r.net := by
  intro p hp
  obtain ⟨l0, hl0, r0, hr0, hu1, hu2, hn⟩ := h.s.ends hc (key p) (List.mem_map_of_mem hp)
  obtain ⟨l, hl, hlc⟩ := localOf_of_mem h.s hl0
  obtain ⟨r, hr, hrc⟩ := remoteOf_of_mem h.s hr0
  simp only [key_snd_fst, key_snd_snd] at hu1 hu2
  refine ⟨l, r, hu1 ▸ hl, hu2 ▸ hr, ?_⟩
  have e1 := congrArg Cand.net hlc; have e2 := congrArg Cand.net hrc
  simp at e1 e2; rw [e1, e2, hn]

theorem Inv.read_selected {a : Agent} (h : Inv a) (id : Nat) (hs : a.selected = some id) :
    ∃ p, a.pairById id = some p ∧ p ∈ a.checklist ∧ p.id = id ∧ p.nominated = true := by
  obtain ⟨p, hf⟩ := Option.isSome_iff_exists.1 (pairById_isSome.2 (mem_ids_iff.1 (h.c.sel id hs)))
  obtain ⟨hp, hpid⟩ := pairById_listed hf
  exact ⟨p, hf, hp, hpid, h.c.selNom id hs p hp hpid⟩

theorem Inv.read_nominated {a : Agent} (h : Inv a) (id : Nat) (hn : a.nominatedPair = some id) :
    id ≤ a.nextPairID ∧
      ((∃ p ∈ a.checklist, p.id = id) ∨ a.connState = .failed ∨ a.selected.isSome ∨ a.closed = true) := by
  refine ⟨h.c.nomLe id hn, ?_⟩
  rcases h.c.nom id hn with h1 | h1
  · exact Or.inl (mem_ids_iff.1 h1)
  · exact Or.inr h1

theorem Inv.read_remotes {a : Agent} (h : Inv a) :
    a.remotes.Pairwise (fun x y => x.equal y = false) ∧ a.locals.Pairwise (fun x y => x.equal y = false) ∧
      ∀ r ∈ a.remotes, a.cfg.blockedIPs.contains (ipOf r.addr) = false := by
  have h1 := h.s.remNE
  have h2 := h.s.locNE
  simp only [lcsOf, rcsOf, List.pairwise_map, core_equal] at h1 h2
  exact ⟨h1, h2, fun r hr => by simpa using h.s.notBlocked (core r) (mem_rcsOf hr)⟩

theorem Inv.read_caches {a : Agent} (h : Inv a) :
    ∀ x ∈ a.caches, (∃ l ∈ a.locals, l.uid = x.1) ∧ (∃ r ∈ a.remotes, r.uid = x.2.2) := by
  intro x hx
  obtain ⟨⟨l, hl, h1⟩, ⟨r, hr, h2⟩⟩ := h.s.cachesOk x hx
  obtain ⟨l', hl', rfl⟩ := List.mem_map.1 hl
  obtain ⟨r', hr', rfl⟩ := List.mem_map.1 hr
  exact ⟨⟨l', hl', by simpa using h1⟩, ⟨r', hr', by simpa using h2⟩⟩

theorem Inv.read_closed {a : Agent} (h : Inv a) (hc : a.closed = true) :
    a.locals = [] ∧ a.remotes = [] ∧ a.caches = [] := by
  obtain ⟨h1, h2, h3⟩ := h.s.closedEmpty hc
  simp only [lcsOf, rcsOf, List.map_eq_nil_iff] at h1 h2
  exact ⟨h1, h2, h3⟩

theorem NoDupPairs.read {a : Agent} (hd : NoDupPairs a) :
    a.checklist.Pairwise (fun p q => ¬ (p.l = q.l ∧ p.r = q.r)) := by
  unfold NoDupPairs keysOf at hd
  rw [List.map_map] at hd
  have := List.pairwise_map.1 hd
  refine this.imp ?_
  intro p q hne hpq
  apply hne
  simp only [Function.comp, key]
  exact Prod.ext hpq.1 hpq.2

theorem NoDupPairs.read_equal {a : Agent} (h : Inv a) (hd : NoDupPairs a) :
    a.checklist.Pairwise (fun p q => ∀ l1 r1 l2 r2, a.localOf p.l = some l1 → a.remoteOf p.r = some r1 →
      a.localOf q.l = some l2 → a.remoteOf q.r = some r2 → ¬ (l1.equal l2 = true ∧ r1.equal r2 = true)) := by
  refine hd.read.imp ?_
  intro p q hne l1 r1 l2 r2 h1 h2 h3 h4 ⟨e1, e2⟩
  apply hne
  obtain ⟨m1, u1⟩ := findCand_listed h1
  obtain ⟨m2, u2⟩ := findCand_listed h2
  obtain ⟨m3, u3⟩ := findCand_listed h3
  obtain ⟨m4, u4⟩ := findCand_listed h4
  constructor
  · rcases pairwise_mem h.s.locNE (mem_lcsOf m1) (mem_lcsOf m3) with h5 | h5 | h5
    · have := congrArg Cand.uid h5; simp at this; rw [← u1, ← u3, this]
    · simp at h5; rw [e1] at h5; cases h5
    · simp at h5; rw [equal_comm, e1] at h5; cases h5
  · rcases pairwise_mem h.s.remNE (mem_rcsOf m2) (mem_rcsOf m4) with h5 | h5 | h5
    · have := congrArg Cand.uid h5; simp at this; rw [← u2, ← u4, this]
    · simp at h5; rw [e2] at h5; cases h5
    · simp at h5; rw [equal_comm, e2] at h5; cases h5

structure FreshFrom (a0 b : Agent) : Prop where
  np : a0.nextPairID ≤ b.nextPairID
  fresh : ∀ k' ∈ keysOf b, (∃ k ∈ keysOf a0, k.1 = k'.1) ∨ a0.nextPairID < k'.1

theorem fresh_trans {e : Ev} {w : Bool} {a0 b c : Agent} (hb : Inv b) (s : FreshFrom a0 b) (t : Trans e w b c) :
    FreshFrom a0 c := by
  cases t with
  | evo h => exact ⟨h.nextPairID ▸ s.np, by rw [h.keys]; exact s.fresh⟩
  | addP h =>
    cases h with
    | none => exact s
    | add l r _ _ _ _ =>
      refine ⟨Nat.le_succ_of_le s.np, fun k' hk' => ?_⟩
      rw [keysOf_addPair] at hk'
      rcases List.mem_append.1 hk' with hk' | hk'
      · exact s.fresh k' hk'
      · simp at hk'; subst hk'
        exact Or.inr (Nat.lt_succ_of_le s.np)
  | wf _ h =>
    obtain ⟨h1, _⟩ := h.wiped
    exact ⟨h.nextPairID ▸ s.np, fun k' hk' => by simp [keysOf, h1] at hk'⟩
  | connState st hs hn => exact ⟨s.np, s.fresh⟩
  | «local» cand hc hf => exact ⟨s.np, s.fresh⟩
  | remote cand hc hbk hf hsrc =>
    have hnp := (arcA3_spec b cand hb).2.2.2.2.1
    refine ⟨hnp ▸ s.np, fun k' hk' => ?_⟩
    rw [arcA3_keys b cand hb] at hk'
    obtain ⟨k1, hk1, rfl⟩ := List.mem_map.1 hk'
    simpa using s.fresh k1 hk1
  | cache x hl hr hc => exact ⟨s.np, s.fresh⟩
  | restart now u p _ _ =>
    exact ⟨s.np, fun k' hk' => by simp [keysOf, restartCore, Agent.wipe, Agent.resetSelector] at hk'⟩
  | close _ _ => exact ⟨s.np, s.fresh⟩

theorem fresh_step {a : Agent} (h : Inv a) (e : Ev) : FreshFrom a (step a e).1 :=
  Chain.preserves (fun x => FreshFrom a x) (fun _ _ hb hs t => fresh_trans hb hs t) h
    ⟨Nat.le_refl _, fun k' hk' => Or.inl ⟨k', hk', rfl⟩⟩ (step_chain h e)

theorem dup_run {a : Agent} (hi : Inv a) (hd : NoDupPairs a) (hp : PrflxRel0 a) (evs : List Ev)
    (hok : ∀ e ∈ evs, evOK e = true) : NoDupPairs (run a evs) ∧ PrflxRel0 (run a evs) := by
  unfold run
  induction evs generalizing a with
  | nil => exact ⟨hd, hp⟩
  | cons e evs ih =>
    obtain ⟨h1, h2⟩ := dup_step hi hd hp e (hok e List.mem_cons_self)
    exact ih (hi.step e) h1 h2 (fun e' he' => hok e' (List.mem_cons_of_mem _ he'))

theorem Inv.canon {a : Agent} (h : Inv a) : a.remotes.Pairwise (fun x y => canonEqual x y = false) := by
  refine (h.read_remotes.1).imp ?_
  intro x y hne
  rw [canonEqual_eq]; exact hne

theorem Init.noDup {a : Agent} (h : Init a) : NoDupPairs a ∧ PrflxRel0 a := by
  obtain ⟨h1, _, h3, _⟩ := h
  exact ⟨by simp [NoDupPairs, keysOf, h1], by simp [PrflxRel0, rcsOf, h3]⟩

end IceProofs.AgentC06

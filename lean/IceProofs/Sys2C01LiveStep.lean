import IceProofs.Sys2C01LiveWalk
import IceProofs.Sys2C01LiveTF
import IceProofs.AgentC02Step
import IceProofs.AgentC04Tick
import IceProofs.Sys2C01Agent
/-!
# C01 liveness — one `step` of a `Good` agent on the events a loss-free suffix contains
(`inbound`, `advance`): `Good` is kept, the frame `LK` holds, identity (role, credentials) is kept.
-/
namespace IceProofs.C01Live
open IceModel.AgentCore IceProofs.C03 IceProofs.Agent

theorem sfd_quiet (cfg : Config) (cur : ConnState) (d : Nat) (h : QuietFor cfg d) :
    stateForDisconnection cfg cur (some d)
      (if cfg.failedTimeout != 0 then cfg.failedTimeout + cfg.disconnectedTimeout else 0) = .connected := by
  rw [IceProofs.AgentC04.sfd_some]
  obtain ⟨h1, h2, _⟩ := h
  have e1 : ¬ (cfg.disconnectedTimeout ≠ 0 ∧ cfg.disconnectedTimeout < d) := by
    rintro ⟨x, y⟩
    rcases h1 with h1 | h1
    · exact x h1
    · omega
  have e2 : ¬ ((if cfg.failedTimeout != 0 then cfg.failedTimeout + cfg.disconnectedTimeout else 0) ≠ 0 ∧
      (if cfg.failedTimeout != 0 then cfg.failedTimeout + cfg.disconnectedTimeout else 0) < d) := by
    rintro ⟨x, y⟩
    by_cases hf : cfg.failedTimeout = 0
    · simp [hf] at x
    · have : (cfg.failedTimeout != 0) = true := by simp [hf]
      rw [this] at y
      simp only [if_true] at y
      rcases h2 with h2 | h2
      · exact hf h2
      · omega
  rw [if_neg e2, if_neg e1]

theorem Timely.valOK {T0 H : Nat} {a : Agent} (h : Timely T0 H a) {now : Nat} (hn : now ≤ H) : ValOK a now := by
  refine ⟨?_, h.span.2.2⟩
  intro p hp
  cases hs : a.selected with
  | none => rw [hs] at hp; cases hp
  | some id =>
    rw [hs] at hp
    simp only [Option.bind_some] at hp
    obtain ⟨p', r, t, h1, h2, h3, h4⟩ := h.sel id hs
    rw [hp] at h1
    cases h1
    rw [h2]
    simp only [Option.bind_some, silence, h3, Option.map_some]
    exact sfd_quiet _ _ _ (h4.mono (by omega))

theorem Timely.ckOK {T0 H : Nat} {a : Agent} (h : Timely T0 H a) {now : Nat} (hn : now ≤ H) : CkOK a now := by
  intro _
  unfold chk
  rcases h.ck with h0' | ⟨h1, h2⟩
  · split <;> simp [h0']
  · split
    · simp
    · rename_i hls
      have hl : a.lastSeen = .checking := by
        cases hc : a.lastSeen <;> simp [hc] at hls ⊢
      have := h2 hl
      simp only [Bool.and_eq_false_imp, bne_iff_ne, ne_eq, decide_eq_false_iff_not, Nat.not_lt]
      intro _
      omega

theorem interval_bounds (a : Agent) : 0 < a.interval ∧ a.interval ≤ 2000000000 := by
  unfold Agent.interval
  simp only []
  have upd_bd : ∀ i x : Nat, (0 < i ∧ i ≤ 2000000000) →
      (0 < (if x != 0 && (i == 0 || i > x) then x else i) ∧ (if x != 0 && (i == 0 || i > x) then x else i) ≤ 2000000000) := by
    intro i x hi
    split
    · rename_i h
      simp at h
      omega
    · exact hi
  apply upd_bd
  apply upd_bd
  split <;> first | (apply upd_bd; decide) | decide

theorem interval_pos (a : Agent) : 0 < a.interval := (interval_bounds a).1
theorem interval_le (a : Agent) : a.interval ≤ 2000000000 := (interval_bounds a).2

theorem contact_timer (a : Agent) (now : Nat) (hck : CkOK a now) (hcl : a.closed = false) (hnf : a.connState ≠ .failed) :
    (a.contact now).1.checkingTimeout = a.checkingTimeout ∧ (a.contact now).1.lastSeen = (a.contact now).1.connState ∧
    (a.contact now).1.nextTick = a.nextTick ∧
    (a.contact now).1.checkingStart = (if a.connState = .checking then (chk a now).checkingStart else a.checkingStart) := by
  rw [contact_eq]
  simp only [hcl, Bool.false_eq_true, if_false]
  have hchk : (chk a now).tf = ⟨a.nextTick, a.checkingTimeout, (chk a now).checkingStart, a.lastSeen⟩ := by
    unfold chk; split <;> rfl
  cases hc : a.connState with
  | failed => exact absurd hc hnf
  | checking =>
    simp only []
    rw [hck hc]
    simp only [Bool.false_eq_true, if_false]
    have h := tf_contactCandidates (chk a now) now
    rw [hchk] at h
    refine ⟨congrArg TF.checkingTimeout h, rfl, congrArg TF.nextTick h, ?_⟩
    simp only [if_true]
    exact congrArg TF.checkingStart h
  | unknown | new | connected | completed | disconnected | closed =>
    simp only []
    have h := tf_contactCandidates a now
    refine ⟨congrArg TF.checkingTimeout h, rfl, congrArg TF.nextTick h, ?_⟩
    simp only [reduceCtorEq, if_false]
    exact congrArg TF.checkingStart h

/-- `Good` minus the clauses about `forcePending` and `nextTick` -/
structure Good0 (T0 H : Nat) (a : Agent) : Prop where
  full : a.cfg.lite = false
  started : a.started = true
  open_ : a.closed = false
  alive : a.connState ≠ .failed
  locOK : CandsOK a.locals
  linv : LInv a
  timely : Timely T0 H a

theorem Good.good0 {T0 H : Nat} {a : Agent} (h : Good T0 H a) : Good0 T0 H a :=
  ⟨h.full, h.started, h.open_, h.alive, h.locOK, h.linv, h.timely⟩

theorem Timely.of_lk {T0 H now : Nat} {ex : Option Nat} {a a' : Agent} (ht : Timely T0 H a) (hk : LK T0 now ex a a')
    (hcfg : a'.cfg = a.cfg) (hct : a'.checkingTimeout = a.checkingTimeout)
    (hcs : a'.lastSeen = .checking → a'.checkingTimeout = 0 ∨ H ≤ a'.checkingStart + a'.checkingTimeout)
    (hsel : ∀ id, a'.selected = some id → a.selected = some id ∨
      ∃ p r t, a'.pairById id = some p ∧ a'.remoteOf p.r = some r ∧ r.lastRecv = some t ∧ T0 ≤ t) :
    Timely T0 H a' := by
  refine ⟨?_, by rw [hcfg]; exact ht.span, ?_⟩
  · rcases ht.ck with h0 | ⟨h1, _⟩
    · left; rw [hct]; exact h0
    · by_cases hz : a'.checkingTimeout = 0
      · exact Or.inl hz
      · right
        refine ⟨by rw [hct]; exact h1, fun hl => ?_⟩
        rcases hcs hl with h | h
        · exact absurd h hz
        · exact h
  · intro id hid
    rcases hsel id hid with h | ⟨p, r, t, h1, h2, h3, h4⟩
    · obtain ⟨p, r, t, h1, h2, h3, h4⟩ := ht.sel id h
      obtain ⟨p', hp', kp⟩ := hk.pairById h1
      obtain ⟨r', hr', kr⟩ := hk.remoteOf h2
      rw [← kp.r] at hr'
      rcases kr.recv with e | ⟨t', ht', e⟩
      · exact ⟨p', r', t, hp', hr', by rw [e, h3], by rw [hcfg]; exact h4⟩
      · exact ⟨p', r', t', hp', hr', e, by rw [hcfg]; exact ht.span.mono (by omega)⟩
    · exact ⟨p, r, t, h1, h2, h3, by rw [hcfg]; exact ht.span.mono (by omega)⟩

theorem contact_good0 {T0 H now : Nat} {a : Agent} (hg : Good0 T0 H a) (h0 : T0 ≤ now) (hn : now ≤ H) :
    Good0 T0 H (a.contact now).1 ∧ LK T0 now none a (a.contact now).1 ∧
    (a.contact now).1.forcePending = a.forcePending ∧ (a.contact now).1.nextTick = a.nextTick := by
  have hv := hg.timely.valOK hn
  have hck := hg.timely.ckOK hn
  have hk : LK T0 now none a (a.contact now).1 := contact_lk a hg.linv.ids hv hck
  have hcore := core_contact a now
  have hid := SameId.of_core hcore
  obtain ⟨t1, t2, t3, t4⟩ := contact_timer a now hck hg.open_ hg.alive
  have hsel := contact_selected a hv hck
  refine ⟨⟨by rw [hid.cfg]; exact hg.full, by rw [hid.started]; exact hg.started, by rw [hid.closed]; exact hg.open_,
    hk.conn hg.alive, candsOK_congr hk.locals hg.locOK, hk.inv hg.linv, ?_⟩, hk,
    (IceProofs.AgentC02.frame_contact a now).fp, t3⟩
  apply hg.timely.of_lk hk hid.cfg t1
  · intro hls'
    by_cases hz : (a.contact now).1.checkingTimeout = 0
    · exact Or.inl hz
    · right
      rw [t1] at hz ⊢
      rcases hg.timely.ck with h | ⟨h1, h2⟩
      · exact absurd h hz
      · rw [t4]
        by_cases hc : a.connState = .checking
        · simp only [hc, if_true]
          unfold chk
          split
          · simp only []; omega
          · rename_i hls
            have hl : a.lastSeen = .checking := by
              cases hx : a.lastSeen <;> simp [hx] at hls ⊢
            exact h2 hl
        · -- the agent was not checking: it is not checking afterwards, handled by the caller's premise
          simp only [hc, if_false]
          by_cases hl : a.lastSeen = .checking
          · exact h2 hl
          · -- `lastSeen` afterwards is the new connection state, which is not `checking`
            exfalso
            exact hk.notCk hc (by rw [← t2]; exact hls')
  · intro id hid'
    rw [hsel] at hid'
    exact Or.inl hid'

theorem Good.mk0 {T0 H : Nat} {a : Agent} (h : Good0 T0 H a) (hf : a.forcePending = false)
    (ht : ∃ t, a.nextTick = some t ∧ T0 ≤ t) : Good T0 H a :=
  ⟨h.full, h.started, h.open_, hf, h.alive, h.locOK, h.linv, h.timely, ht⟩

theorem LK.nextTick (T0 now : Nat) (ex : Option Nat) (a : Agent) (x : Option Nat) :
    LK T0 now ex a { a with nextTick := x } := LK.of_eq rfl

theorem Good0.of_lk {T0 H now : Nat} {ex : Option Nat} {a a' : Agent} (h : Good0 T0 H a) (hk : LK T0 now ex a a')
    (hid : SameId a a') (ht : Timely T0 H a') : Good0 T0 H a' :=
  ⟨by rw [hid.cfg]; exact h.full, by rw [hid.started]; exact h.started, by rw [hid.closed]; exact h.open_,
   hk.conn h.alive, candsOK_congr hk.locals h.locOK, hk.inv h.linv, ht⟩

theorem sameId_nextTick (a : Agent) (x : Option Nat) : SameId a { a with nextTick := x } :=
  ⟨rfl, rfl, rfl, rfl, rfl, rfl, rfl, rfl, rfl, rfl⟩

theorem Good0.nextTick {T0 H : Nat} {a : Agent} (h : Good0 T0 H a) (x : Option Nat) : Good0 T0 H { a with nextTick := x } :=
  h.of_lk (LK.nextTick T0 0 none a x) (sameId_nextTick a x) ⟨h.timely.ck, h.timely.span, h.timely.sel⟩

theorem Good0.forcePending {T0 H : Nat} {a : Agent} (h : Good0 T0 H a) (x : Bool) : Good0 T0 H { a with forcePending := x } :=
  h.of_lk (now := 0) (ex := none) (LK.of_eq rfl) (SameId.of_core rfl) ⟨h.timely.ck, h.timely.span, h.timely.sel⟩

/-- the agent after its tick at `t`, re-armed -/
abbrev ticked (a : Agent) (t : Nat) : Agent := { (a.contact t).1 with nextTick := some (t + (a.contact t).1.interval) }

/-- what one due tick of a `Good` agent within the horizon does -/
structure Tick (T0 H : Nat) (a : Agent) (t : Nat) : Prop where
  due : a.nextTick = some t
  t0 : T0 ≤ t
  tH : t ≤ H
  good : Good T0 H (ticked a t)
  lk : LK T0 t none a (ticked a t)
  id : SameId a (ticked a t)

theorem tick_of_good {T0 H t : Nat} {a : Agent} (hg : Good T0 H a) (ht : a.nextTick = some t) (hH : t ≤ H) :
    Tick T0 H a t := by
  obtain ⟨t', htk, ht0⟩ := hg.tick
  cases ht.symm.trans htk
  obtain ⟨g1, k1, f1, _⟩ := contact_good0 hg.good0 ht0 hH
  exact ⟨ht, ht0, hH, Good.mk0 (g1.nextTick _) (by simpa using f1.trans hg.noForce) ⟨_, rfl, by omega⟩,
    k1.trans (LK.nextTick _ _ _ _ _), (SameId.of_core (core_contact a t)).trans (sameId_nextTick _ _)⟩

theorem good_ticks {T0 H T : Nat} {Q : Agent → Agent × List Out → Prop} (hT : T ≤ H) (stop : ∀ a, Q a (a, []))
    (tick : ∀ a t r, Good T0 H a → Tick T0 H a t → t ≤ T → Q (ticked a t) r → Q a (r.1, (a.contact t).2 ++ r.2))
    (fuel : Nat) {a : Agent} (hg : Good T0 H a) : Q a (a.runTimers T fuel) :=
  runTimers_due (Q := fun a x => Good T0 H a → Q a x) T (fun a _ => stop a)
    (fun a t r _ _ htk hle ih hg =>
      have k := tick_of_good hg htk (Nat.le_trans hle hT)
      tick a t r hg k hle (ih k.good)) fuel a hg

theorem runTimers_good {T0 H T : Nat} (hT : T ≤ H) (fuel : Nat) {a : Agent} (hg : Good T0 H a) :
    Good T0 H (a.runTimers T fuel).1 ∧ LK T0 T none a (a.runTimers T fuel).1 ∧ SameId a (a.runTimers T fuel).1 :=
  good_ticks (Q := fun a x => Good T0 H a → Good T0 H x.1 ∧ LK T0 T none a x.1 ∧ SameId a x.1) hT
    (fun _ hg => ⟨hg, LK.refl _ _ _ _, SameId.refl _⟩)
    (fun _ _ _ _ k hle ih _ =>
      have ⟨g3, k3, id3⟩ := ih k.good
      ⟨g3, (k.lk.mono_now hle).trans k3, k.id.trans id3⟩) fuel hg hg

theorem runTimers_single (a : Agent) (T fuel : Nat) (hs : a.started = true) (hc : a.closed = false)
    (ht : a.nextTick = some T) :
    a.runTimers T (fuel + 2) =
      ({ (a.contact T).1 with nextTick := some (T + (a.contact T).1.interval) }, (a.contact T).2) := by
  have hpos := interval_pos (a.contact T).1
  have hid := SameId.of_core (core_contact a T)
  unfold Agent.runTimers
  rw [ht]
  simp only [hs, hc, Bool.not_false, Bool.and_self, Bool.true_and, decide_eq_true_eq, Nat.le_refl, if_true]
  rcases hk : a.contact T with ⟨a1, o1⟩
  rw [hk] at hpos hid
  simp only [] at hpos hid ⊢
  unfold Agent.runTimers
  simp only []
  have : ¬ (T + a1.interval ≤ T) := by omega
  simp [this]

theorem step_advance_good {T0 H T : Nat} (hT : T ≤ H) {a : Agent} (hg : Good T0 H a) :
    Good T0 H (step a (.advance T)).1 ∧ LK T0 T none a (step a (.advance T)).1 ∧ SameId a (step a (.advance T)).1 :=
  runTimers_good hT 100000 hg

theorem runForced_of_noForce (b : Agent) (now : Nat) (h : b.forcePending = false) : b.runForced now = (b, []) := by
  unfold Agent.runForced
  rw [h]
  simp

theorem runForced_of_force (b : Agent) (now : Nat) (hs : b.started = true) (hc : b.closed = false)
    (hf : b.forcePending = true) :
    b.runForced now =
      ({ (Agent.contact { b with forcePending := false } now).1 with
          nextTick := some (now + (Agent.contact { b with forcePending := false } now).1.interval) },
       (Agent.contact { b with forcePending := false } now).2) := by
  unfold Agent.runForced
  simp only [hs, hc, hf, Bool.not_false, Bool.and_self, if_true]

theorem runForced_good {T0 H now : Nat} (h0 : T0 ≤ now) (hn : now ≤ H) {b : Agent} (hg : Good0 T0 H b)
    (ht : ∃ t, b.nextTick = some t ∧ T0 ≤ t) :
    Good T0 H (b.runForced now).1 ∧ LK T0 now none b (b.runForced now).1 ∧ SameId b (b.runForced now).1 := by
  have w := (runForced_trail (T0 := T0) (Q := fun _ => False) b (hg.timely.valOK hn) (hg.timely.ckOK hn)).walk hg.linv
  refine ⟨?_, w.lk, w.id⟩
  cases hfp : b.forcePending with
  | false => rw [runForced_of_noForce b now hfp]; exact Good.mk0 hg hfp ht
  | true =>
    rw [runForced_of_force b now hg.started hg.open_ hfp]
    obtain ⟨g1, _, f1, _⟩ := contact_good0 (hg.forcePending false) h0 hn
    exact Good.mk0 (g1.nextTick _) (by simpa using f1) ⟨_, rfl, by omega⟩

theorem runForced_selected {T0 H now : Nat} {b : Agent} (hg : Good0 T0 H b) (hn : now ≤ H) :
    (b.runForced now).1.selected = b.selected :=
  (runForced_trail (T0 := 0) (Q := fun _ => False) b (hg.timely.valOK hn) (hg.timely.ckOK hn)).w.1.sel

theorem Good.step_inbound {T0 H : Nat} {a : Agent} (hg : Good T0 H a) {la : Nat} {l : Cand}
    (hl : a.localByAddr la = some l) (now src : Nat) (m : Msg) :
    step a (.inbound now la src m) = (((a.handleInbound now l src m).1.runForced now).1,
      (a.handleInbound now l src m).2 ++ ((a.handleInbound now l src m).1.runForced now).2) := by
  rw [step_inbound_proj]
  simp only [hg.open_, hg.started, Bool.not_true, Bool.or_self, Bool.false_eq_true, if_false, hl]

theorem Good.step_inbound_none {T0 H : Nat} {a : Agent} (hg : Good T0 H a) {la : Nat} (hl : a.localByAddr la = none)
    (now src : Nat) (m : Msg) : step a (.inbound now la src m) = (a, []) := by
  rw [step_inbound_proj]
  simp only [hg.open_, hg.started, Bool.not_true, Bool.or_self, Bool.false_eq_true, if_false, hl]

theorem handleInbound_good0 {T0 H now : Nat} (h0 : T0 ≤ now) {a : Agent} (hg : Good T0 H a) (l : Cand)
    (hlm : l ∈ a.locals) (src : Nat) (m : Msg) (hok : AuthRequest a m → m.nom = none ∧ NoConflict a m) :
    Good0 T0 H (a.handleInbound now l src m).1 := by
  have hnet : l.net = 0 := (hg.locOK.1 l hlm).1
  have w1 := handleInbound_walk (T0 := T0) (now := now) a l src m h0 hnet hg.full hg.linv hlm hok
  have k1 := w1.lk
  have id1 := w1.id
  have tf1 := tf_handleInbound a now l src m
  have ht1 : Timely T0 H (a.handleInbound now l src m).1 := by
    apply hg.timely.of_lk k1 id1.cfg (congrArg TF.checkingTimeout tf1)
    · intro hls
      rw [show (a.handleInbound now l src m).1.lastSeen = a.lastSeen from congrArg TF.lastSeen tf1] at hls
      rw [show (a.handleInbound now l src m).1.checkingTimeout = a.checkingTimeout from congrArg TF.checkingTimeout tf1,
        show (a.handleInbound now l src m).1.checkingStart = a.checkingStart from congrArg TF.checkingStart tf1]
      rcases hg.timely.ck with h | ⟨_, h⟩
      · exact Or.inl h
      · exact Or.inr (h hls)
    · intro id hid
      rcases handleInbound_selFresh a now l src m hg.linv (fun h => (hok h).2) hnet id hid with h | ⟨p, r, h1, h2, h3⟩
      · exact Or.inl h
      · exact Or.inr ⟨p, r, now, h1, h2, h3, h0⟩
  exact hg.good0.of_lk k1 id1 ht1

theorem inbound_runForced {T0 H now : Nat} (h0 : T0 ≤ now) (hn : now ≤ H) {a : Agent} (hg : Good T0 H a) (l : Cand)
    (hlm : l ∈ a.locals) (src : Nat) (m : Msg) (hok : AuthRequest a m → m.nom = none ∧ NoConflict a m) :
    Good T0 H ((a.handleInbound now l src m).1.runForced now).1 ∧
    LK T0 now none (a.handleInbound now l src m).1 ((a.handleInbound now l src m).1.runForced now).1 ∧
    SameId (a.handleInbound now l src m).1 ((a.handleInbound now l src m).1.runForced now).1 :=
  runForced_good h0 hn (handleInbound_good0 h0 hg l hlm src m hok) (by
    rw [show (a.handleInbound now l src m).1.nextTick = a.nextTick from congrArg TF.nextTick (tf_handleInbound a now l src m)]
    exact hg.tick)

theorem step_inbound_good {T0 H now : Nat} (h0 : T0 ≤ now) (hn : now ≤ H) {a : Agent} (hg : Good T0 H a)
    (la src : Nat) (m : Msg) (hok : AuthRequest a m → m.nom = none ∧ NoConflict a m) :
    Good T0 H (step a (.inbound now la src m)).1 ∧
    LK T0 now (if m.cls = 2 then some m.tid else none) a (step a (.inbound now la src m)).1 ∧
    SameId a (step a (.inbound now la src m)).1 := by
  cases hl : a.localByAddr la with
  | none => rw [hg.step_inbound_none hl]; exact ⟨hg, LK.refl _ _ _ _, SameId.refl _⟩
  | some l =>
    rw [hg.step_inbound hl]
    obtain ⟨hlm, _⟩ := IceProofs.Agent.localByAddr_listed hl
    obtain ⟨g2, k2, id2⟩ := inbound_runForced h0 hn hg l hlm src m hok
    have w1 := handleInbound_walk (T0 := T0) (now := now) a l src m h0 (hg.locOK.1 l hlm).1 hg.full hg.linv hlm hok
    exact ⟨g2, w1.lk.trans k2.weaken, w1.id.trans id2⟩

end IceProofs.C01Live

import IceProofs.Sys2C20Defs
import IceProofs.AgentLookups
import IceProofs.AgentAuto
import IceProofs.AgentRulesTimers
import IceProofs.AgentMoves
/-!
# C20 on `Sys2` — the frame relation `G` on the chains of moves that handle no message

`G wa exs exp iss a a'` (`Sys2C20Defs.lean`) has its address clause switched by `wa`: the retargeting fold of
`addRemoteCandidate` is walked without it, and the clause is recovered from C06's id stability (a pair id keeps addressing
the same transport-address pair).  A move made while no message
is handled and the session stays (`Calm`) is quiet — `pingAll` and the automatic check move pair states among Waiting /
InProgress / Failed only, which with unique pair ids touches no valid pair — except the one that takes the connection to
Failed; Failed then persists (`FW`: a Failed agent has no selected pair for `validateSelectedPair` to revive).
-/
namespace IceProofs.C20S
open IceModel.AgentCore IceProofs.Agent

theorem G.refl (wa : Bool) (exs exp : Option Nat) (iss : Option (Nat × Nat × Nat)) (a : Agent) :
    G wa exs exp iss a a :=
  ⟨Nat.le_refl _, Or.inl rfl, fun p' hp' _ => Or.inl ⟨p', hp', rfl, rfl⟩, fun p hp => ⟨p, hp, rfl⟩,
   fun _ _ _ h => h, fun _ h => Or.inl h, List.prefix_refl _⟩

theorem G.trans {wa : Bool} {exs exp : Option Nat} {iss : Option (Nat × Nat × Nat)} {a b c : Agent}
    (h1 : G wa exs exp iss a b) (h2 : G wa exs exp iss b c) : G wa exs exp iss a c := by
  refine ⟨Nat.le_trans h1.npid h2.npid, ?_, ?_, ?_, ?_, ?_, List.IsPrefix.trans h1.log h2.log⟩
  · rcases h2.sel with e2 | e2
    · rcases h1.sel with e1 | e1
      · exact Or.inl (e2.trans e1)
      · exact Or.inr ⟨e2.trans e1.1, e1.2⟩
    · exact Or.inr e2
  · intro p'' hp'' hne
    rcases h2.pairs p'' hp'' hne with ⟨p', hp', hid', hnk'⟩ | ⟨hlt, hnk'⟩
    · rcases h1.pairs p' hp' (by rw [hid']; exact hne) with ⟨p, hp, hid, hnk⟩ | ⟨hlt, hnk⟩
      · exact Or.inl ⟨p, hp, hid.trans hid', hnk'.trans hnk⟩
      · exact Or.inr ⟨by rw [← hid']; exact hlt, hnk'.trans hnk⟩
    · exact Or.inr ⟨Nat.lt_of_le_of_lt h1.npid hlt, hnk'⟩
  · intro p hp
    obtain ⟨p', hp', hid'⟩ := h1.fwd p hp
    obtain ⟨p'', hp'', hid''⟩ := h2.fwd p' hp'
    exact ⟨p'', hp'', hid''.trans hid'⟩
  · intro hw id x hx
    exact h2.addrs hw id x (h1.addrs hw id x hx)
  · intro pd hpd
    rcases h2.pend pd hpd with h | h | ⟨v, hv, h | h⟩
    · rcases h1.pend pd h with h | h | ⟨v, hv, h | h⟩
      · exact Or.inl h
      · exact Or.inr (Or.inl h)
      · exact Or.inr (Or.inr ⟨v, hv, Or.inl h⟩)
      · exact Or.inr (Or.inr ⟨v, hv, Or.inr (mem_logSfx_left h1.log h2.log h)⟩)
    · exact Or.inr (Or.inl h)
    · exact Or.inr (Or.inr ⟨v, hv, Or.inl h⟩)
    · exact Or.inr (Or.inr ⟨v, hv, Or.inr (mem_logSfx_right h1.log h2.log h)⟩)

theorem G.weaken {wa wa' : Bool} {exs exp exs' exp' : Option Nat} {iss iss' : Option (Nat × Nat × Nat)} {a a' : Agent}
    (h : G wa exs exp iss a a') (hs : exs = none ∨ exs = exs') (hp : exp = none ∨ exp = exp')
    (hi : iss = none ∨ iss = iss') (hw : wa' = true → wa = true) : G wa' exs' exp' iss' a a' := by
  refine ⟨h.npid, ?_, ?_, h.fwd, fun w => h.addrs (hw w), ?_, h.log⟩
  · rcases h.sel with e | ⟨e1, e2⟩
    · exact Or.inl e
    · rcases hs with hs | hs
      · rw [hs] at e2; cases e2
      · rw [hs] at e1 e2; exact Or.inr ⟨e1, e2⟩
  · intro p' hp' hne
    refine h.pairs p' hp' ?_
    rcases hp with hp | hp
    · rw [hp]; intro e; cases e
    · rw [hp]; exact hne
  · intro pd hpd
    rcases h.pend pd hpd with h1 | h1 | ⟨v, h1, h2 | h2⟩
    · exact Or.inl h1
    · exact Or.inr (Or.inl h1)
    · rcases hi with hi | hi
      · rw [hi] at h2; cases h2
      · rw [hi] at h2; exact Or.inr (Or.inr ⟨v, h1, Or.inl h2⟩)
    · exact Or.inr (Or.inr ⟨v, h1, Or.inr h2⟩)

theorem G.w {wa : Bool} {exs exp : Option Nat} {iss : Option (Nat × Nat × Nat)} {a a' : Agent}
    (h : G wa none none none a a') : G wa exs exp iss a a' :=
  h.weaken (Or.inl rfl) (Or.inl rfl) (Or.inl rfl) (fun w => w)

theorem G.then {wa : Bool} {exs exp : Option Nat} {iss : Option (Nat × Nat × Nat)} {a b c : Agent}
    (h1 : G wa exs exp iss a b) (h2 : G wa none none none b c) : G wa exs exp iss a c := h1.trans h2.w

theorem G.after {wa : Bool} {exs exp : Option Nat} {iss : Option (Nat × Nat × Nat)} {a b c : Agent}
    (h1 : G wa none none none a b) (h2 : G wa exs exp iss b c) : G wa exs exp iss a c := h1.w.trans h2

theorem G.selected_eq {wa : Bool} {exp : Option Nat} {iss : Option (Nat × Nat × Nat)} {a a' : Agent}
    (h : G wa none exp iss a a') : a'.selected = a.selected := by
  rcases h.sel with e | ⟨_, e⟩
  · exact e
  · cases e

theorem pairAddrs_eq (a : Agent) (id : Nat) :
    pairAddrs a id = (a.pairById id).bind fun p =>
      ((a.localOf p.l).map (·.addr)).bind fun x => ((a.remoteOf p.r).map (·.addr)).map fun y => (x, y) := by
  unfold pairAddrs
  cases a.pairById id with
  | none => rfl
  | some p =>
    dsimp only [Option.bind_some]
    cases a.localOf p.l <;> cases a.remoteOf p.r <;> rfl

theorem pairAddrs_of_addrs {a b : Agent} (hc : b.checklist = a.checklist)
    (hl : ∀ u, (b.localOf u).map (·.addr) = (a.localOf u).map (·.addr))
    (hr : ∀ u, (b.remoteOf u).map (·.addr) = (a.remoteOf u).map (·.addr)) (id : Nat) : pairAddrs b id = pairAddrs a id := by
  rw [pairAddrs_eq, pairAddrs_eq]
  unfold Agent.pairById
  rw [hc]
  congr 1
  funext p
  rw [hl, hr]

theorem pairAddrs_congr {a a' : Agent} (h1 : a'.checklist = a.checklist) (h2 : a'.locals = a.locals)
    (h3 : a'.remotes = a.remotes) (id : Nat) : pairAddrs a' id = pairAddrs a id :=
  pairAddrs_of_addrs h1 (fun u => by unfold Agent.localOf; rw [h2]) (fun u => by unfold Agent.remoteOf; rw [h3]) id

theorem pairAddrs_some {a : Agent} {id : Nat} {x : Nat × Nat} (h : pairAddrs a id = some x) :
    ∃ p l r, a.pairById id = some p ∧ a.localOf p.l = some l ∧ a.remoteOf p.r = some r ∧ x = (l.addr, r.addr) := by
  unfold pairAddrs at h
  cases hp : a.pairById id with
  | none => rw [hp] at h; cases h
  | some p =>
    rw [hp] at h
    simp only [] at h
    cases hl : a.localOf p.l with
    | none => rw [hl] at h; cases h
    | some l =>
      cases hr : a.remoteOf p.r with
      | none => rw [hl, hr] at h; cases h
      | some r =>
        rw [hl, hr] at h
        simp only [Option.some.injEq] at h
        exact ⟨p, l, r, rfl, hl, hr, h.symm⟩

theorem pairAddrs_of {a : Agent} {id : Nat} {p : Pair} {l r : Cand} (hp : a.pairById id = some p)
    (hl : a.localOf p.l = some l) (hr : a.remoteOf p.r = some r) : pairAddrs a id = some (l.addr, r.addr) := by
  unfold pairAddrs
  rw [hp]
  simp only []
  rw [hl, hr]

theorem pairAddrs_modPair (a : Agent) (id : Nat) (f : Pair → Pair) (hid : ∀ p, (f p).id = p.id)
    (hl : ∀ p, (f p).l = p.l) (hr : ∀ p, (f p).r = p.r) (j : Nat) :
    pairAddrs (a.modPair id f) j = pairAddrs a j := by
  unfold pairAddrs
  rw [IceProofs.Agent.modPair_pairById a id j f hid]
  cases a.pairById j with
  | none => rfl
  | some p =>
    simp only [Option.map_some]
    have e1 : (a.modPair id f).localOf = a.localOf := rfl
    have e2 : (a.modPair id f).remoteOf = a.remoteOf := rfl
    rw [e1, e2]
    by_cases e : (p.id == id) = true
    · simp only [e, if_true, hl, hr]
    · simp only [e]
      rfl

theorem G.of_eq {wa : Bool} {a a' : Agent} (h1 : a'.checklist = a.checklist) (h2 : a'.locals = a.locals)
    (h3 : a'.remotes = a.remotes) (h4 : a'.selected = a.selected) (h5 : ∀ pd ∈ a'.pending, pd ∈ a.pending)
    (h6 : a'.nextPairID = a.nextPairID) (h7 : a'.nomIssued = a.nomIssued := by rfl) : G wa none none none a a' :=
  ⟨by rw [h6]; exact Nat.le_refl _, Or.inl h4, fun p' hp' _ => Or.inl ⟨p', h1 ▸ hp', rfl, rfl⟩,
   fun p hp => ⟨p, h1 ▸ hp, rfl⟩, fun _ id x hx => by rw [pairAddrs_congr h1 h2 h3]; exact hx,
   fun pd hpd => Or.inl (h5 pd hpd), by rw [h7]; exact List.prefix_refl _⟩

theorem G.silent {wa : Bool} {a a' : Agent} (h1 : a'.checklist = a.checklist := by rfl) (h2 : a'.locals = a.locals := by rfl)
    (h3 : a'.remotes = a.remotes := by rfl) (h4 : a'.selected = a.selected := by rfl)
    (h5 : a'.pending = a.pending := by rfl) (h6 : a'.nextPairID = a.nextPairID := by rfl)
    (h7 : a'.nomIssued = a.nomIssued := by rfl) : G wa none none none a a' :=
  G.of_eq h1 h2 h3 h4 (fun _ h => h5 ▸ h) h6 h7

theorem G.modPair {wa : Bool} {exp : Option Nat} (a : Agent) (id : Nat) (f : Pair → Pair)
    (hid : ∀ p, (f p).id = p.id) (hl : ∀ p, (f p).l = p.l) (hr : ∀ p, (f p).r = p.r)
    (hnk : some id ≠ exp → ∀ p ∈ a.checklist, p.id = id → nk (f p) = nk p) :
    G wa none exp none a (a.modPair id f) := by
  refine ⟨Nat.le_refl _, Or.inl rfl, ?_, ?_, ?_, fun pd hpd => Or.inl hpd, List.prefix_refl _⟩
  · intro q hq hne
    obtain ⟨p, hp, h | h⟩ := IceProofs.Agent.mem_modPair hq
    · obtain ⟨e, rfl⟩ := h
      rw [hid, e] at hne
      exact Or.inl ⟨p, hp, (hid p).symm, hnk hne p hp e⟩
    · obtain ⟨_, rfl⟩ := h
      exact Or.inl ⟨q, hp, rfl, rfl⟩
  · intro p hp
    refine ⟨_, IceProofs.Agent.updPair_mem (id := id) (f := f) hp, ?_⟩
    split
    · exact hid p
    · rfl
  · intro _ j x hx
    rw [pairAddrs_modPair a id f hid hl hr]; exact hx

theorem G.modPair_keep {wa : Bool} (a : Agent) (id : Nat) (f : Pair → Pair)
    (hid : ∀ p, (f p).id = p.id) (hl : ∀ p, (f p).l = p.l) (hr : ∀ p, (f p).r = p.r) (hnk : ∀ p, nk (f p) = nk p) :
    G wa none none none a (a.modPair id f) :=
  G.modPair a id f hid hl hr (fun _ p _ _ => hnk p)

theorem G.modPair_ex {wa : Bool} (a : Agent) (id : Nat) (f : Pair → Pair)
    (hid : ∀ p, (f p).id = p.id) (hl : ∀ p, (f p).l = p.l) (hr : ∀ p, (f p).r = p.r) :
    G wa none (some id) none a (a.modPair id f) :=
  G.modPair a id f hid hl hr (fun h => absurd rfl h)

theorem pairAddrs_addPair (a : Agent) (l r : Cand) (id : Nat) (x : Nat × Nat) (h : pairAddrs a id = some x) :
    pairAddrs (a.addPair l r).1 id = some x := by
  obtain ⟨p, l', r', hp, hl, hr, rfl⟩ := pairAddrs_some h
  exact pairAddrs_of (pairById_append hp (b := (a.addPair l r).1) rfl) hl hr

theorem addPair_g {wa : Bool} (a : Agent) (l r : Cand) : G wa none none none a (a.addPair l r).1 := by
  have hnew : ∀ q ∈ (a.addPair l r).1.checklist, q ∈ a.checklist ∨
      q = { id := a.nextPairID + 1, l := l.uid, r := r.uid, controlling := a.controlling } := by
    intro q hq
    simp only [Agent.addPair, List.mem_append, List.mem_singleton] at hq
    exact hq
  refine ⟨Nat.le_succ _, Or.inl rfl, ?_, ?_, fun _ => pairAddrs_addPair a l r, fun pd hpd => Or.inl hpd, List.prefix_refl _⟩
  · intro q hq _
    rcases hnew q hq with h | rfl
    · exact Or.inl ⟨q, h, rfl, rfl⟩
    · exact Or.inr ⟨Nat.lt_succ_self _, rfl⟩
  · intro p hp
    exact ⟨p, List.mem_append_left _ hp, rfl⟩

theorem G.of_eq_na {a a' : Agent} (h1 : a'.checklist = a.checklist) (h4 : a'.selected = a.selected)
    (h5 : ∀ pd ∈ a'.pending, pd ∈ a.pending) (h6 : a'.nextPairID = a.nextPairID)
    (h7 : a'.nomIssued = a.nomIssued := by rfl) : G false none none none a a' :=
  ⟨by rw [h6]; exact Nat.le_refl _, Or.inl h4, fun p' hp' _ => Or.inl ⟨p', h1 ▸ hp', rfl, rfl⟩,
   fun p hp => ⟨p, h1 ▸ hp, rfl⟩, (fun h => Bool.noConfusion h), fun pd hpd => Or.inl (h5 pd hpd),
   by rw [h7]; exact List.prefix_refl _⟩

theorem G.modPair_na (a : Agent) (id : Nat) (f : Pair → Pair) (hid : ∀ p, (f p).id = p.id)
    (hnk : ∀ p, nk (f p) = nk p) : G false none none none a (a.modPair id f) := by
  refine ⟨Nat.le_refl _, Or.inl rfl, ?_, ?_, (fun h => Bool.noConfusion h), fun pd hpd => Or.inl hpd, List.prefix_refl _⟩
  · intro q hq _
    obtain ⟨p, hp, h | h⟩ := IceProofs.Agent.mem_modPair hq
    · obtain ⟨_, rfl⟩ := h
      exact Or.inl ⟨p, hp, (hid p).symm, hnk p⟩
    · obtain ⟨_, rfl⟩ := h
      exact Or.inl ⟨q, hp, rfl, rfl⟩
  · intro p hp
    refine ⟨_, IceProofs.Agent.updPair_mem (id := id) (f := f) hp, ?_⟩
    split
    · exact hid p
    · rfl

theorem pairAddrs_appendLocals {a b : Agent} (extra : List Cand) (h1 : b.checklist = a.checklist)
    (h2 : b.locals = a.locals ++ extra) (h3 : b.remotes = a.remotes) (id : Nat) (x : Nat × Nat)
    (h : pairAddrs a id = some x) : pairAddrs b id = some x := by
  obtain ⟨p, l, r, hp, hl, hr, rfl⟩ := pairAddrs_some h
  refine pairAddrs_of (p := p) ?_ ?_ ?_
  · unfold Agent.pairById at hp ⊢; rw [h1]; exact hp
  · unfold Agent.localOf at hl ⊢; rw [h2]; exact IceProofs.Agent.findCand_append hl _
  · unfold Agent.remoteOf at hr ⊢; rw [h3]; exact hr

theorem newLocal_g {wa : Bool} (a : Agent) (c : Cand) :
    G wa none none none a ({ a with nextUid := a.nextUid + 1, locals := a.locals ++ [c] } : Agent) :=
  ⟨Nat.le_refl _, Or.inl rfl, fun p' hp' _ => Or.inl ⟨p', hp', rfl, rfl⟩, fun p hp => ⟨p, hp, rfl⟩,
   fun _ => pairAddrs_appendLocals [c] rfl rfl rfl, fun _ h => Or.inl h, List.prefix_refl _⟩

theorem setConnState_g {wa : Bool} (a : Agent) (s : ConnState) (hs : s ≠ .failed) :
    G wa none none none a (a.setConnState s).1 := by
  rw [IceProofs.Agent.setConnState_fst a s hs]
  exact G.silent

theorem setConnState_gf {wa : Bool} (a : Agent) (s : ConnState) :
    G wa none none none a (a.setConnState s).1 ∨ (a.setConnState s).1.connState = .failed := by
  by_cases hs : s = .failed
  · exact Or.inr (by rw [setConnState_fst_connState]; exact hs)
  · exact Or.inl (setConnState_g a s hs)

theorem select_g {wa : Bool} (a : Agent) (id : Nat) : G wa (some id) none none a (a.select id).1 := by
  rw [C03.select_fst]
  have h1 : G wa none none none a (a.modPair id fun p => { p with nominated := true }) :=
    G.modPair_keep a id _ (fun _ => rfl) (fun _ => rfl) (fun _ => rfl) (fun _ => rfl)
  refine ⟨h1.npid, Or.inr ⟨rfl, rfl⟩, h1.pairs, h1.fwd, ?_, h1.pend, h1.log⟩
  intro hw j x hx
  have := h1.addrs hw j x hx
  rw [← this]
  exact pairAddrs_congr rfl rfl rfl j

theorem select_same_g {wa : Bool} (a : Agent) (id : Nat) (hs : a.selected = some id) :
    G wa none none none a (a.select id).1 := by
  have h := select_g (wa := wa) a id
  exact ⟨h.npid, Or.inl (by rw [select_selected, hs]), h.pairs, h.fwd, h.addrs, h.pend, h.log⟩

theorem seenLocalSent_g {wa : Bool} (a : Agent) (uid now : Nat) : G wa none none none a (a.seenLocalSent uid now) :=
  ⟨Nat.le_refl _, Or.inl rfl, fun p' hp' _ => Or.inl ⟨p', hp', rfl, rfl⟩, fun p hp => ⟨p, hp, rfl⟩,
   fun _ j x hx => by
     rw [pairAddrs_of_addrs (a := a) (b := a.seenLocalSent uid now) rfl (fun u => updCand_findCand_map (·.addr) a.locals uid
       (fun c => { c with lastSent := some now }) u (fun _ => rfl) fun _ => rfl) (fun _ => rfl)]
     exact hx,
   fun pd hpd => Or.inl hpd, List.prefix_refl _⟩

theorem seenRemoteRecv_g {wa : Bool} (a : Agent) (uid now : Nat) : G wa none none none a (a.seenRemoteRecv uid now) :=
  ⟨Nat.le_refl _, Or.inl rfl, fun p' hp' _ => Or.inl ⟨p', hp', rfl, rfl⟩, fun p hp => ⟨p, hp, rfl⟩,
   fun _ j x hx => by
     rw [pairAddrs_of_addrs (a := a) (b := a.seenRemoteRecv uid now) rfl (fun _ => rfl) (fun u => updCand_findCand_map (·.addr)
       a.remotes uid (fun c => { c with lastRecv := some now }) u (fun _ => rfl) fun _ => rfl)]
     exact hx,
   fun pd hpd => Or.inl hpd, List.prefix_refl _⟩

theorem invalidatePending_g {wa : Bool} (a : Agent) (now : Nat) : G wa none none none a (a.invalidatePending now) :=
  G.of_eq rfl rfl rfl rfl (fun _ hpd => (List.mem_filter.1 hpd).1) rfl

theorem sendRequest_g {wa : Bool} {iss : Option (Nat × Nat × Nat)} (a : Agent) (now : Nat) (l r : Cand) (uc : Bool)
    (nom : Option Nat) (hn : nom = none ∨ ∃ v, nom = some v ∧ iss = some (v, l.addr, r.addr)) :
    G wa none none iss a (a.sendRequest now l r uc nom).1 := by
  have h1 : G wa none none iss a
      ({ (a.invalidatePending now) with
          nextTid := a.nextTid + 1
          pending := (a.invalidatePending now).pending ++
            [{ tid := 2 * a.nextTid + a.tag, src := l.addr, dest := r.addr, net := r.net, useCand := uc, nom := nom, ts := now }] } : Agent) := by
    refine ⟨Nat.le_refl _, Or.inl rfl, fun p' hp' _ => Or.inl ⟨p', hp', rfl, rfl⟩, fun p hp => ⟨p, hp, rfl⟩,
      fun _ j x hx => by rw [← hx]; exact pairAddrs_congr rfl rfl rfl j, ?_, List.prefix_refl _⟩
    intro pd hpd
    rcases List.mem_append.1 hpd with h | h
    · exact Or.inl (List.mem_filter.1 h).1
    · simp only [List.mem_singleton] at h
      subst h
      rcases hn with hn | ⟨v, hn, hi⟩
      · exact Or.inr (Or.inl hn)
      · exact Or.inr (Or.inr ⟨v, hn, Or.inl hi⟩)
  unfold Agent.sendRequest
  simp only []
  split
  · refine G.then (G.then h1 ?_) (seenLocalSent_g _ _ _)
    exact G.modPair_keep _ _ _ (fun _ => rfl) (fun _ => rfl) (fun _ => rfl) (fun _ => rfl)
  · exact G.then h1 (seenLocalSent_g _ _ _)

theorem sendRequest_nomIssued (a : Agent) (now : Nat) (l r : Cand) (uc : Bool) (nom : Option Nat) :
    (a.sendRequest now l r uc nom).1.nomIssued = a.nomIssued := by rw [sendRequest_fst_eq]

/-- a nomination as the automatic check issues it (and `RenominateCandidate`): the request, carrying the value iff it is
positive, together with its entry in the ghost log — quiet: the transaction it adds is a logged one -/
theorem issueRequest_g {wa : Bool} (a : Agent) (now : Nat) (l r : Cand) (v : Nat) :
    G wa none none none a
      ({ (a.sendRequest now l r true (if v > 0 then some v else none)).1 with
          nomIssued := (a.sendRequest now l r true (if v > 0 then some v else none)).1.nomIssued ++ [(v, l.addr, r.addr)] } : Agent) := by
  have h := sendRequest_g (wa := wa) (iss := some (v, l.addr, r.addr)) a now l r true (if v > 0 then some v else none) (by
    by_cases hv : v > 0
    · rw [if_pos hv]; exact Or.inr ⟨v, rfl, rfl⟩
    · rw [if_neg hv]; exact Or.inl rfl)
  have hlog := sendRequest_nomIssued a now l r true (if v > 0 then some v else none)
  generalize a.sendRequest now l r true (if v > 0 then some v else none) = s1 at h hlog ⊢
  obtain ⟨a1, o1⟩ := s1
  simp only [] at h hlog ⊢
  have hs : logSfx a ({ a1 with nomIssued := a1.nomIssued ++ [(v, l.addr, r.addr)] } : Agent) = [(v, l.addr, r.addr)] :=
    logSfx_of_append (by show a1.nomIssued ++ _ = _; rw [hlog])
  refine ⟨h.npid, h.sel, h.pairs, h.fwd, ?_, ?_, ?_⟩
  · intro hw id x hx
    have := h.addrs hw id x hx
    rw [← this]
    exact pairAddrs_congr rfl rfl rfl id
  · intro pd hpd
    rcases h.pend pd hpd with h1 | h1 | ⟨v', h1, h2 | h2⟩
    · exact Or.inl h1
    · exact Or.inr (Or.inl h1)
    · refine Or.inr (Or.inr ⟨v', h1, Or.inr ?_⟩)
      rw [hs]
      simp only [Option.some.injEq] at h2
      rw [h2]; simp
    · have : logSfx a a1 = [] := logSfx_of_eq hlog
      rw [this] at h2; cases h2
  · show a.nomIssued <+: a1.nomIssued ++ _
    rw [hlog]; exact List.prefix_append _ _

theorem ping_g {wa : Bool} (a : Agent) (now : Nat) (l r : Cand) : G wa none none none a (a.ping now l r).1 :=
  sendRequest_g a now l r false none (Or.inl rfl)

theorem sendSuccess_g {wa : Bool} (a : Agent) (now : Nat) (m : Msg) (l r : Cand) :
    G wa none none none a (a.sendSuccess now m l r).1 := by
  unfold Agent.sendSuccess
  simp only []
  split
  · refine G.trans ?_ (seenLocalSent_g _ _ _)
    exact G.modPair_keep _ _ _ (fun _ => rfl) (fun _ => rfl) (fun _ => rfl) (fun _ => rfl)
  · exact seenLocalSent_g _ _ _

theorem takePending_g {wa : Bool} (a : Agent) (now tid : Nat) : G wa none none none a (a.takePending now tid).1 := by
  unfold Agent.takePending
  simp only []
  split
  · exact G.of_eq rfl rfl rfl rfl
      (fun _ hpd => (List.mem_filter.1 (List.mem_filter.1 hpd).1).1) rfl
  · exact invalidatePending_g a now

theorem sendRequest_connState (a : Agent) (now : Nat) (l r : Cand) (uc : Bool) (nom : Option Nat) :
    (a.sendRequest now l r uc nom).1.connState = a.connState := by rw [sendRequest_fst_eq]

theorem sel_sendRequest (a : Agent) (now : Nat) (l r : Cand) (uc : Bool) (n : Option Nat) :
    (a.sendRequest now l r uc n).1.selected = a.selected := by rw [sendRequest_fst_eq]

open IceProofs.AgentC06

/-- quiet, or Failed afterwards -/
def GF (wa : Bool) (a a' : Agent) : Prop := G wa none none none a a' ∨ a'.connState = .failed

theorem evoW_ids {a a' : Agent} (h : EvoW a a') (hnf : a'.connState ≠ .failed) : idsOf a' = idsOf a := by
  cases h with
  | evo h => exact h.ids
  | wf h => exact absurd h.failed hnf

theorem G.modPair_state {wa : Bool} (a : Agent) (id : Nat) (s : PairState) (hs : s ≠ .succeeded)
    (hq : ∀ q ∈ a.checklist, q.id = id → q.state ≠ .succeeded) :
    G wa none none none a (a.modPair id fun q => { q with state := s }) := by
  refine G.modPair a id _ (fun _ => rfl) (fun _ => rfl) (fun _ => rfl) ?_
  intro _ p hp e
  have h1 := hq p hp e
  unfold nk
  have e1 : (p.state == PairState.succeeded) = false := by
    cases hh : p.state <;> first | rfl | exact absurd hh h1
  have e2 : (s == PairState.succeeded) = false := by
    cases s <;> first | rfl | exact absurd rfl hs
  simp only [e1, e2]

/-- no message is being handled and the session stays; where the address clause is wanted, no remote candidate arrives -/
structure Calm (wa : Bool) (cx : Ctx) : Prop where
  validates : ∀ now l r src m pd p, ¬cx.validates now l r src m pd p
  answers : ∀ now l src m, ¬cx.answers now l src m
  session : ¬cx.may .session
  remotes : wa = true → ¬cx.may .remotes

theorem Calm.idle (wa : Bool) : Calm wa .idle :=
  ⟨fun _ _ _ _ _ _ _ h => h, fun _ _ _ _ h => h, by simp, fun _ => by simp⟩

/-- a Failed agent has no pair selected -/
def FW (a : Agent) : Prop := a.connState = .failed → a.selected = none

/-- The frame of a calm chain.  During a tick — given that a Failed agent has no pair selected — that stays so and Failed
stays Failed; and the chain ends Failed (only a tick does that) or is quiet, as far as pair ids are unique: unique at the
end, they were unique before. -/
def GT (wa : Bool) (cx : Ctx) (a : Agent) (r : Agent × List Out) : Prop :=
  (cx.may .tick → FW a) →
    (cx.may .tick → FW r.1 ∧ (a.connState = .failed → r.1.connState = .failed)) ∧
    ((cx.may .tick ∧ r.1.connState = .failed) ∨ ((idsOf r.1).Nodup → (idsOf a).Nodup ∧ G wa none none none a r.1))

/-- a quiet move that only appends pair ids and leaves `connState` and the selection alone.  The three side facts default
to `rfl`: a move writes one field, so a caller (`g_move`) supplies only the one its move does not leave syntactically equal -/
theorem GT.quiet {wa : Bool} {cx : Ctx} {a b : Agent} {o : List Out} (g : (idsOf a).Nodup → G wa none none none a b)
    (hi : idsOf a <+: idsOf b := by exact List.prefix_refl _) (hc : b.connState = a.connState := by rfl)
    (hs : b.selected = a.selected := by rfl) : GT wa cx a (b, o) := fun hw =>
  ⟨fun t => ⟨fun hf => hs.trans (hw t (hc.symm.trans hf)), fun hf => hc.trans hf⟩,
   Or.inr fun hn => ⟨hn.sublist hi.sublist, g (hn.sublist hi.sublist)⟩⟩

theorem GT.seq {wa : Bool} {cx : Ctx} {a : Agent} {r1 r2 : Agent × List Out} (h1 : GT wa cx a r1) (h2 : GT wa cx r1.1 r2) :
    GT wa cx a (r2.1, r1.2 ++ r2.2) := fun hw => by
  obtain ⟨s1, d1⟩ := h1 hw
  obtain ⟨s2, d2⟩ := h2 fun t => (s1 t).1
  refine ⟨fun t => ⟨(s2 t).1, fun hf => (s2 t).2 ((s1 t).2 hf)⟩, ?_⟩
  rcases d2 with d2 | d2
  · exact Or.inl d2
  · rcases d1 with ⟨t, hf⟩ | d1
    · exact Or.inl ⟨t, (s2 t).2 hf⟩
    · exact Or.inr fun hn => ⟨(d1 (d2 hn).1).1, (d1 (d2 hn).1).2.trans (d2 hn).2⟩

theorem prefix_of_eq {x y : List Nat} (h : y = x) : x <+: y := h ▸ List.prefix_refl x

/-- what `GT` reads of an agent -/
def gview (a : Agent) := (a.checklist, a.locals, a.remotes, a.selected, a.pending, a.nextPairID, a.nomIssued, a.connState)

theorem GT.of_view {wa : Bool} {cx : Ctx} {a b : Agent} {o : List Out} (h : gview b = gview a := by rfl) : GT wa cx a (b, o) := by
  simp only [gview, Prod.mk.injEq] at h
  obtain ⟨h1, h2, h3, h4, h5, h6, h7, h8⟩ := h
  exact GT.quiet (fun _ => G.silent h1 h2 h3 h4 h5 h6 h7) (prefix_of_eq (by unfold idsOf; rw [h1])) h8 h4

theorem g_move {wa : Bool} {cx : Ctx} (hcx : Calm wa cx) {a : Agent} {r : Agent × List Out} (h : Move cx a r) :
    GT wa cx a r := by
  have ids : ∀ id (f : Pair → Pair), (∀ p, (f p).id = p.id) → idsOf a <+: idsOf (a.modPair id f) :=
    fun id f h1 => prefix_of_eq (idsOf_modPair a id f h1)
  have keep : ∀ id (f : Pair → Pair), (∀ p, (f p).id = p.id) → (∀ p, (f p).l = p.l) → (∀ p, (f p).r = p.r) →
      (∀ p, nk (f p) = nk p) → GT wa cx a (a.modPair id f, []) :=
    fun id f h1 h2 h3 h4 => GT.quiet (fun _ => G.modPair_keep a id f h1 h2 h3 h4) (ids id f h1)
  -- the pair read under `id` is not valid: with unique ids no valid pair changes its state
  have state : ∀ id (s : PairState) (p : Pair), s ≠ .succeeded → a.pairById id = some p → p.state ≠ .succeeded →
      GT wa cx a (a.modPair id fun q => { q with state := s }, []) :=
    fun id s p hs hp hps => GT.quiet (fun hn => G.modPair_state a id s hs fun q hq hid => by
      rw [pairById_eq_of_mem hn hp hq hid]; exact hps) (ids id _ fun _ => rfl)
  cases h with
  | pair id f hf =>
    cases hf with
    | inProgress hl => obtain ⟨p, hp, hw⟩ := hl; exact state id _ p (by decide) hp (by rw [hw]; decide)
    | failed hl => obtain ⟨p, hp, hs, _⟩ := hl; exact state id _ p (by decide) hp (by rw [hs]; decide)
    | succeeded now l r src m pd p hv => exact absurd hv (hcx.validates _ _ _ _ _ _ _)
    | undefer now l r src m pd p hv => exact absurd hv (hcx.validates _ _ _ _ _ _ _)
    | defer now l src m hm => exact absurd hm (hcx.answers _ _ _ _)
    | liteValid hl now l src m hm => exact absurd hm (hcx.answers _ _ _ _)
    | retarget old c p hr =>
      cases wa with
      | true => exact absurd hr (hcx.remotes rfl)
      | false => exact GT.quiet (fun _ => G.modPair_na a id _ (fun _ => rfl) fun _ => rfl) (ids id _ fun _ => rfl)
    | _ => exact keep _ _ (fun _ => rfl) (fun _ => rfl) (fun _ => rfl) (fun _ => rfl)
  | addPair l r => exact GT.quiet (fun _ => addPair_g a l r) (by rw [idsOf_addPair]; exact List.prefix_append _ _)
  | connState s hne hs why =>
    refine fun hw => ⟨fun t => ⟨fun hf => absurd hf hs, fun hf => ?_⟩, Or.inr fun hn => ⟨hn, G.silent⟩⟩
    -- a Failed agent has no selected pair for `validateSelectedPair` to look at
    cases why with
    | validate now p _ hp => rw [hw t hf] at hp; cases hp
    | deadline now _ _ _ h => exact absurd h hs
    | checking h => exact absurd h hcx.session
    | close h => exact absurd h hcx.session
  | failed hne why =>
    exact fun _ => ⟨fun _ => ⟨fun _ => rfl, fun _ => rfl⟩, Or.inl ⟨why.failed_tick, rfl⟩⟩
  | select id why =>
    cases why with
    | again hsel =>
      -- the selected pair is selected again: quiet; the agent is not Failed, having a pair selected
      refine fun hw => ⟨fun t => ⟨fun hf => ?_, fun hf => ?_⟩, Or.inr fun hn => ⟨?_, select_same_g a id hsel⟩⟩
      · rw [select_update] at hf; cases hf
      · rw [hw t hf] at hsel; cases hsel
      · rw [select_update] at hn
        rw [← idsOf_modPair a id (fun p => { p with nominated := true }) fun _ => rfl]
        exact hn
    | ctl now l r src m pd p ans hv => exact absurd hv (hcx.validates _ _ _ _ _ _ _)
    | deferred now l r src m pd p hv => exact absurd hv (hcx.validates _ _ _ _ _ _ _)
    | nominated now l src m p hm => exact absurd hm (hcx.answers _ _ _ _)
  | request now l r uc =>
    exact GT.quiet (fun _ => sendRequest_g a now l r uc none (Or.inl rfl))
      (prefix_of_eq (Same.sendRequest a now l r uc none).evo.ids) (sendRequest_connState ..) (sel_sendRequest ..)
  | issue now l r v =>
    exact GT.quiet (fun _ => issueRequest_g a now l r v) (prefix_of_eq (Same.sendRequest a now l r true _).evo.ids)
      (sendRequest_connState ..) (sel_sendRequest ..)
  | expire now => exact GT.quiet fun _ => invalidatePending_g a now
  | take tid => exact GT.quiet fun _ => G.of_eq rfl rfl rfl rfl (fun _ h => (List.mem_filter.1 h).1) rfl
  | seenLocalSent uid now => exact GT.quiet fun _ => seenLocalSent_g a uid now
  | seenRemoteRecv uid now => exact GT.quiet fun _ => seenRemoteRecv_g a uid now
  | newLocal c => exact GT.quiet fun _ => newLocal_g a _
  | newRemote c _ hr =>
    cases wa with
    | true => exact absurd hr (hcx.remotes rfl)
    | false => exact GT.quiet fun _ => G.of_eq_na rfl rfl (fun _ h => h) rfl
  | dropRemotes old hr =>
    cases wa with
    | true => exact absurd hr (hcx.remotes rfl)
    | false => exact GT.quiet fun _ => G.of_eq_na rfl rfl (fun _ h => h) rfl
  | restart now x p hs => exact absurd hs hcx.session
  | close hs => exact absurd hs hcx.session
  | _ => exact GT.of_view

theorem g_chain {wa : Bool} {cx : Ctx} (hcx : Calm wa cx) {a : Agent} {r : Agent × List Out} (h : Chain cx a r) :
    GT wa cx a r :=
  Chain.ind (R := GT wa cx) (fun a => GT.quiet fun _ => G.refl _ _ _ _ _) (fun _ _ => g_move hcx) GT.seq h

theorem g_quiet {wa : Bool} {cx : Ctx} (hcx : Calm wa cx) (ht : ¬cx.may .tick) {a : Agent} {r : Agent × List Out}
    (h : Chain cx a r) (hn : (idsOf r.1).Nodup) : G wa none none none a r.1 :=
  (((g_chain hcx h fun t => absurd t ht).2.resolve_left fun h => ht h.1) hn).2

theorem gf_idle {wa : Bool} {a : Agent} {r : Agent × List Out} (h : Chain .idle a r) (hn : (idsOf a).Nodup)
    (hw : EvoW a r.1) (hf : a.connState ≠ .failed) : GF wa a r.1 := by
  by_cases hf' : r.1.connState = .failed
  · exact Or.inr hf'
  · rcases (g_chain (Calm.idle wa) h fun _ h => absurd h hf).2 with ⟨_, h⟩ | h
    · exact Or.inr h
    · exact Or.inl (h (by rw [evoW_ids hw hf']; exact hn)).2

theorem nominate_g {wa : Bool} (a : Agent) (now : Nat) (p : Pair) : G wa none none none a (a.nominate now p).1 := by
  unfold Agent.nominate
  split
  · exact sendRequest_g _ _ _ _ _ _ (Or.inl rfl)
  · exact G.refl _ _ _ _ _

theorem runForced_failed (a : Agent) (now : Nat) (h : a.connState = .failed) : (a.runForced now).1.connState = .failed :=
  runForced_rule (Q := fun r => r.1.connState = .failed) a now h fun _ _ =>
    (contact_failed { a with forcePending := false } now h).connState.trans h

theorem runForced_gf {wa : Bool} (a : Agent) (now : Nat) (hn : (idsOf a).Nodup) : GF wa a (a.runForced now).1 := by
  by_cases hf : a.connState = .failed
  · exact Or.inr (runForced_failed a now hf)
  · exact gf_idle (Chain.runForced a now) hn (EvoW.runForced a now) hf

theorem runTimers_gf {wa : Bool} (a : Agent) (now fuel : Nat) (hn : (idsOf a).Nodup) :
    GF wa a (a.runTimers now fuel).1 := by
  by_cases hf : a.connState = .failed
  · exact Or.inr ((runTimers_failed a now fuel hf).connState.trans hf)
  · exact gf_idle (Chain.runTimers a now fuel) hn (EvoW.runTimers a now fuel) hf

theorem addLocalCandidate_g {wa : Bool} (a : Agent) (c : Cand) : G wa none none none a (a.addLocalCandidate c).1 := by
  unfold Agent.addLocalCandidate
  split
  · exact G.refl _ _ _ _ _
  · split
    · exact G.refl _ _ _ _ _
    · exact (IceProofs.List.foldl_inv (fun b => G wa none none none a b) _ _ _ (newLocal_g a { c with uid := a.nextUid })
        fun b r hb => hb.trans (addPair_g b _ r)).trans (c := Agent.requestCheck _) G.silent

/-- a remote candidate arrives outside any message, tick or session event: pairs are retargeted, the selected one is
selected again -/
def Ctx.arrival : Ctx :=
  { Ctx.idle with may := fun | .tick => False | .session => False | _ => True, addsRemote := fun _ => True }

theorem addRemoteCandidate_g0 (a : Agent) (c : Cand) (hn : (idsOf (a.addRemoteCandidate c).1).Nodup) :
    G false none none none a (a.addRemoteCandidate c).1 :=
  g_quiet (cx := Ctx.arrival) ⟨fun _ _ _ _ _ _ _ h => h, fun _ _ _ _ h => h, fun h => h, fun h => Bool.noConfusion h⟩
    (fun h => h) (Agent.Chain.addRemoteCandidate a c trivial) hn

theorem pairById_of_mem_nodup {a : Agent} (hn : (idsOf a).Nodup) {p : Pair} (hp : p ∈ a.checklist) :
    a.pairById p.id = some p := pairById_of_nodup hn hp

theorem addr_of_core {x y : Cand} (h : core x = core y) : x.addr = y.addr :=
  show (core x).addr = (core y).addr from congrArg Cand.addr h

theorem addrs_stable {a a' : Agent} (h : Inv a) (h' : Inv a') (s : StableTo a a') (hc : a'.closed = false)
    (hf : ∀ p ∈ a.checklist, ∃ p' ∈ a'.checklist, p'.id = p.id) :
    ∀ id x, pairAddrs a id = some x → pairAddrs a' id = some x := by
  intro id x hx
  obtain ⟨p, l, r, hp, hl, hr, rfl⟩ := pairAddrs_some hx
  obtain ⟨hpm, hpid⟩ := pairById_listed hp
  obtain ⟨p', hp', hid'⟩ := hf p hpm
  obtain ⟨_, l0, r0, l', r', e1, e2, e3, e4, e5, _, e7⟩ := s.pairs h h' hpm hp' hid' hc
  rw [hl] at e1; rw [hr] at e2
  cases e1; cases e2
  have hb : a'.pairById id = some p' := by
    have := pairById_of_mem_nodup h'.idsNodup hp'
    rw [hid', hpid] at this; exact this
  rw [pairAddrs_of hb e3 e4]
  rw [addr_of_core e5, e7]

theorem stable_addRemoteCandidate {a : Agent} (hi : Inv a) (c : Cand) (hc : a.closed = false) :
    StableTo a (a.addRemoteCandidate c).1 :=
  AgentC06.Chain.preserves (e := .addRemote 0 c) (w := false) (fun x => StableTo a x)
    (fun _ _ hb hs t => stable_trans hi hb hs t) hi (StableTo.refl hi)
    (AgentC06.Chain.addRemoteCandidate hi c hc (Or.inr ⟨0, rfl⟩))

theorem addRemoteCandidate_closed (a : Agent) (c : Cand) : (a.addRemoteCandidate c).1.closed = a.closed :=
  congrArg Core.closed (core_addRemoteCandidate a c)

theorem addRemoteCandidate_g {a : Agent} (hi : Inv a) (c : Cand) (hc : a.closed = false) :
    G true none none none a (a.addRemoteCandidate c).1 := by
  have h0 := addRemoteCandidate_g0 a c (hi.addRemoteCandidate c hc).1.idsNodup
  refine ⟨h0.npid, h0.sel, h0.pairs, h0.fwd, fun _ => ?_, h0.pend, h0.log⟩
  exact addrs_stable hi (hi.addRemoteCandidate c hc).1 (stable_addRemoteCandidate hi c hc)
    ((addRemoteCandidate_closed a c).trans hc) h0.fwd

end IceProofs.C20S

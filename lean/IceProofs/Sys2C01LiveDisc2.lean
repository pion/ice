import IceProofs.Sys2C01LiveLearn
import IceProofs.Sys2C01LiveWide
/-!
# C01 liveness — the first valid pair through a peer-reflexive discovery inside the suffix

The good pair exists only at the CONTROLLED agent `d = !c`: its check `la → ra` is in flight (`ReqD`, on a `Link`), and the
controlling agent `c` does not know the source `x = mapped la`.  `learn_exit`: the delivery that makes `x` known to `c`
(this request, or any other datagram from that source) is the discovery: `c` pairs `x` with its local candidate at
`lc = unmapped ra`, and the forced tick checks that pair — `Ch1` on the mirror `Link`, unless `c` already has a valid or
selected pair.  `disc_first`: `track_exit` along the fair suffix (`P` = "`x` still unknown to `c`").  `disc_valid`:
`ch1_completes` ⇒ a valid pair by `now + 3 L`.
-/

namespace IceProofs.C01Live
open IceModel.AgentCore IceModel.Sys2 IceProofs.Sys2Run IceProofs.C01 IceProofs.Agent IceProofs.C03

section
variable {nat blocked : List (Nat × Nat)} {SLA SLB SR : Nat → Prop} {liteA liteB : Bool} {T0 H J L : Nat} {c : Bool}

/-- what the discovery achieves at the controlling agent -/
def DiscQ (c : Bool) (lc x : Nat) (s : Sys) : Prop :=
  HasSucc s c ∨ Sel s c ∨ ∃ tid, Ch1 c s c tid lc x false false s.now

theorem learn_exit {s s' : Sys} (h : SysOK nat blocked SLA SLB SR liteA liteB T0 H c s) {hd : Dgram} {t : List Dgram}
    (he : Effect T0 s s' hd t) (hmem : hd ∈ s.inflight) {lc x : Nat} (hlink : Link s c lc x)
    (hunk : (s.agent c).findRemote 0 x = none) (hk : ((s'.agent c).findRemote 0 x).isSome = true) : DiscQ c lc x s' := by
  have hctl : (s.agent c).controlling = true := by rw [h.paired.role]; simp
  rcases he.touched c with e | ⟨m, hm, _, _, hst, _, _, hfl⟩
  · rw [e, hunk] at hk; cases hk
  · have hok := (h.flight hd hmem).hok hm c
    obtain ⟨l1, hl1⟩ := Option.isSome_iff_exists.mp (owner_some hlink.ownL).1
    rw [hst] at hk
    rcases step_learns_pings h.time0 h.timeH (h.good c) (h.c06 c) hok hctl hunk hk hl1 with
      g | ⟨p, hp, hps⟩ | ⟨mt, hout, hc, hu, l', r', q', s1, s2, s3⟩
    · exact Or.inr (Or.inl (by unfold Sel; rw [hst]; exact g))
    · exact Or.inl ⟨p, by rw [hst]; exact hp, hps⟩
    · right; right
      rw [← hst] at s1 s2 s3
      have := touched_req h he hmem hm hst hfl hout hc (he.net.link hlink) ⟨l', r', q', s1, s2, s3, fun hx => by cases hx⟩
      rw [hu] at this
      exact ⟨mt.tid, this⟩

/-- the tracked datagram: the controlled agent's check on a `Link` whose far end is `lc`, seen from `c` as coming from `x` -/
def DiscD (c : Bool) (tid la ra lc x : Nat) (s : Sys) (d : Dgram) : Prop :=
  ReqD s (!c) tid la ra false d ∧ Link s (!c) la ra ∧ s.mapped la = x ∧ s.unmapped ra = lc

theorem disc_first {s : Sys} {es : List SysEv} (h : FInv nat blocked SLA SLB SR liteA liteB T0 H J c s)
    (hs : SufOK c H J s es) {i dl : Nat} {d : Dgram} {tid la ra : Nat} (hi : s.inflight[i]? = some d)
    (hreq : ReqD s (!c) tid la ra false d) (hlink : Link s (!c) la ra)
    (hunk : (s.agent c).findRemote 0 (s.mapped la) = none) (hdel : DeliveredBy dl s es i) :
    By (fun s' => DiscQ c (s.unmapped ra) (s.mapped la) s') dl s es := by
  refine track_exit (P := fun s' => Link s' c (s.unmapped ra) (s.mapped la) ∧ (s'.agent c).findRemote 0 (s.mapped la) = none)
    (Q := fun s' => DiscQ c (s.unmapped ra) (s.mapped la) s')
    (D := fun s' d => DiscD c tid la ra (s.unmapped ra) (s.mapped la) s' d) ?_ ?_ ?_ ?_ es s i d h hs
    ⟨by have := hlink.mirror; rwa [Bool.not_not] at this, hunk⟩ hi ⟨hreq, hlink, rfl, rfl⟩ hdel
  · -- a delivery: the source stays unknown, or this is the discovery …
    intro s1 s1' hd t h1 he hmem hp
    cases hk : (s1'.agent c).findRemote 0 (s.mapped la) with
    | none => exact Or.inl ⟨he.net.link hp.1, rfl⟩
    | some r => exact Or.inr (learn_exit h1.ok he hmem hp.1 hp.2 (by rw [hk]; rfl))
  · intro s1 s1' T h1 he _ hp
    refine ⟨he.net.link hp.1, ?_⟩
    rw [he.agent c]
    exact runTimers_unknown _ _ _ hp.2
  · intro s1 s1' d he ⟨q1, q2, q3, q4⟩
    exact ⟨q1.same he, he.1.link q2, by rw [← q3]; simp [Sys.mapped, he.1.1], by rw [← q4]; simp [Sys.unmapped, he.1.1]⟩
  · -- the tracked request reaches `c`
    intro s1 s1' d t h1 he hmem hp ⟨hq1, hq2, hq3, hq4⟩
    have hk : ((s1'.agent c).findRemote 0 (s.mapped la)).isSome = true := by
      obtain ⟨e1, e2, m, hm, hreqm, _⟩ := hq1
      obtain ⟨hst, _, _, hauth, hnc, hflt, l, hl⟩ := hq2.delivers h1.ok he hmem e1 e2 hm hreqm
      rw [Bool.not_not] at hst hauth hnc hflt hl
      have := step_auth_known h1.ok.time0 h1.ok.timeH (h1.ok.good c) hl hauth hreqm.nom hnc hflt
      rw [hst, ← hq3]
      exact this
    exact learn_exit h1.ok he hmem hp.1 hp.2 hk

theorem disc_valid {E : Nat} {s : Sys} {es : List SysEv} (h : Suf nat blocked SLA SLB SR liteA liteB T0 H J c L E s es)
    (hL : J + 2 * L < maxBindingRequestTimeout)
    {i : Nat} {d : Dgram} {tid la ra : Nat} (hi : s.inflight[i]? = some d)
    (hreq : ReqD s (!c) tid la ra false d) (hlink : Link s (!c) la ra)
    (hunk : (s.agent c).findRemote 0 (s.mapped la) = none) (hend : s.now + 3 * L < E) :
    By (fun s => HasSucc s c ∨ Sel s c) (s.now + 3 * L) s es := by
  have hil : i < s.inflight.length := by
    rcases Nat.lt_or_ge i s.inflight.length with h' | h'
    · exact h'
    · rw [List.getElem?_eq_none h'] at hi; cases hi
  have hdel : DeliveredBy (s.now + L) s es i := h.fair [] es rfl i hil (by rw [h.fin]; show s.now + L < _; omega)
  have := mbrt_pos
  refine By.bind h (disc_first h.inv h.ok hi hreq hlink hunk hdel) fun s' es' h' lt q hn => ?_
  have := lt.now
  rcases q with g | g | ⟨tid', hch⟩
  · exact ⟨[], es', rfl, Or.inl g, by show s'.now ≤ _; omega⟩
  · exact ⟨[], es', rfl, Or.inr g, by show s'.now ≤ _; omega⟩
  · exact (ch1_completes h' hch (by omega) (by omega)).mono (fun _ g => Or.inl g.1) (by omega)

/-- **the start condition of the discovery** (decidable): some datagram in flight is an ordinary check of the controlled
agent `!c` (its credentials and role, no nomination) on an address pair reachable both ways between the two agents
(`Link`), and the controlling agent `c` does not know the source address as a remote candidate. -/
def DiscReqD (c : Bool) (s : Sys) : Prop :=
  ∃ d ∈ s.inflight, (match d.p with
      | .stun m => ReqDD s (!c) m.tid d.src d.dst false d
      | .data _ => False) ∧
    Link s (!c) d.src d.dst ∧ (s.agent c).findRemote 0 (s.mapped d.src) = none

instance (c : Bool) (s : Sys) : Decidable (DiscReqD c s) := by
  unfold DiscReqD
  refine @List.decidableBEx _ _ (fun d => ?_) _
  refine @instDecidableAnd _ _ ?_ _
  split <;> infer_instance

theorem disc_valid_D {s : Sys} {es : List SysEv} (h : FInv nat blocked SLA SLB SR liteA liteB T0 H J c s)
    (hs : SufOK c H J s es) (hf : FairL L s es) (hL : J + 2 * L < maxBindingRequestTimeout)
    (hd : DiscReqD c s) (hend : s.now + 3 * L < (Sys.runs s es).now) : ValidBy c (s.now + 3 * L) s es := by
  obtain ⟨d, hmem, h1, h2, h3⟩ := hd
  obtain ⟨i, hi⟩ := List.getElem?_of_mem hmem
  cases hp : d.p with
  | data n => rw [hp] at h1; exact h1.elim
  | stun m =>
    rw [hp] at h1
    exact validBy_iff.2 (disc_valid ⟨h, hs, hf, rfl⟩ hL hi h1.req h2 h3 hend)

end

end IceProofs.C01Live

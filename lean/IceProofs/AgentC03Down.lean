import IceProofs.AgentC03Lite
/-!
# C03 — the priority guard: where the selection moves from `pid` to another pair `qid` without a
nomination value, the decision compared their priorities in a state `d` from which priorities are
carried unchanged (`Rel True`) to the end of the step.
-/
namespace IceProofs.C03
open IceModel.AgentCore IceProofs.Agent

/-- in state `a` the pairs `i`, `j` are listed and their priorities are related by `R` -/
structure Down (R : Nat → Nat → Prop) (a : Agent) (i j : Nat) : Prop where
  exi : ∃ p ∈ a.checklist, p.id = i
  exj : ∃ q ∈ a.checklist, q.id = j
  rel : ∀ p ∈ a.checklist, ∀ q ∈ a.checklist, p.id = i → q.id = j → R (a.pairPrio p) (a.pairPrio q)

theorem Down.transfer {R : Nat → Nat → Prop} {a b : Agent} {i j : Nat} (h : Down R a i j) (hia : Inv3 a)
    (hr : Rel True a b) :
    ∀ p' ∈ b.checklist, ∀ q' ∈ b.checklist, p'.id = i → q'.id = j → R (b.pairPrio p') (b.pairPrio q') := by
  intro p' hp' q' hq' ei ej
  obtain ⟨p, hp, hpi⟩ := h.exi
  obtain ⟨q, hq, hqj⟩ := h.exj
  obtain ⟨p0, hp0, e0, _, hpr0⟩ := hr.old p' hp' (by rw [ei, ← hpi]; exact hia.ids.le p hp)
  obtain ⟨q0, hq0, e1, _, hpr1⟩ := hr.old q' hq' (by rw [ej, ← hqj]; exact hia.ids.le q hq)
  rw [hpr0 trivial, hpr1 trivial]
  exact h.rel p0 hp0 q0 hq0 (e0.trans ei) (e1.trans ej)

/-- the witness: a decision state `d` -/
def Wit (R : Nat → Nat → Prop) (b : Agent) (i j : Nat) : Prop :=
  ∃ d : Agent, Inv3 d ∧ Rel True d b ∧ Down R d i j

theorem Wit.mono {R : Nat → Nat → Prop} {b c : Agent} {i j : Nat} (h : Wit R b i j) (hr : Rel True b c) :
    Wit R c i j := by
  obtain ⟨d, hd, hr0, hdn⟩ := h
  exact ⟨d, hd, hr0.trans hr, hdn⟩

theorem Wit.concl {R : Nat → Nat → Prop} {b : Agent} {i j : Nat} (h : Wit R b i j) :
    ∀ p' ∈ b.checklist, ∀ q' ∈ b.checklist, p'.id = i → q'.id = j → R (b.pairPrio p') (b.pairPrio q') := by
  obtain ⟨d, hd, hr0, hdn⟩ := h
  exact hdn.transfer hd hr0

theorem cldNom_down (a : Agent) (id : Nat) (m : Msg) (hi : Inv3 a) (hm : Marked a id m)
    (hneed : needsPrioCheck a.cfg = true) (hnom : m.nom = none) {pid qid : Nat}
    (hs : a.selected = some pid) (hs' : (cldNom a id m).1.selected = some qid) (hne : pid ≠ qid) :
    Wit (· < ·) (cldNom a id m).1 pid qid := by
  rcases cldNom_cases a id m with ⟨h, _⟩ | ⟨hn, h | ⟨p, hp, hps, hsw, h⟩ | ⟨p, _, _, h⟩⟩
  · rw [h] at hs'; rw [hs] at hs'; cases hs'; exact absurd rfl hne
  · rw [h, (cldLite_frame a id).2.2, hs] at hs'; cases hs'; exact absurd rfl hne
  · have hg : ∀ q ∈ a.checklist, q.id = id → q.gNomReq = true := fun q hq e => (hm.2 q hq e).2 hn
    have hd : Inv3 (cldLite a id) := ((cldLite_pres (wp := True) (ex := True) a id hg) hi).1
    rw [h] at hs' ⊢
    rw [select_selected] at hs'
    cases hs'
    refine ⟨cldLite a id, hd, select_rel _ _, ?_⟩
    have hsd : (cldLite a id).selected = some pid := (cldLite_frame a id).2.2.trans hs
    obtain ⟨sp, hspm, hspid, _⟩ := hd.sel pid hsd
    have hsp : (cldLite a id).pairById pid = some sp := hspid ▸ pairById_of_mem hd.ids hspm
    obtain ⟨hpm, hpid⟩ := pairById_listed hp
    have hlt : (cldLite a id).pairPrio sp < (cldLite a id).pairPrio p := by
      unfold cldSw at hsw
      rw [hsd] at hsw
      simp only [Option.bind_some, hsp] at hsw
      have e1 : (sp.id == id) = false := by rw [hspid]; simpa using hne
      rw [(cldLite_frame a id).1] at hsw
      simp [e1, hnom, hneed] at hsw
      exact hsw.2
    refine ⟨⟨sp, hspm, hspid⟩, ⟨p, hpm, hpid⟩, ?_⟩
    intro p' hp' q' hq' e1 e2
    rw [mem_unique hd.ids hp' hspm (e1.trans hspid.symm), mem_unique hd.ids hq' hpm (e2.trans hpid.symm)]
    exact hlt
  · rw [h] at hs'
    have : (cldLite a id).selected = some qid := hs'
    rw [(cldLite_frame a id).2.2, hs] at this; cases this; exact absurd rfl hne

theorem cldHandleRequest_down (a : Agent) (now : Nat) (m : Msg) (l r : Cand) (hi : Inv3 a)
    (hc : a.controlling = false) (hneed : needsPrioCheck a.cfg = true) (hnom : m.nom = none) {pid qid : Nat}
    (hs : a.selected = some pid) (hs' : (a.cldHandleRequest now m l r).1.selected = some qid) (hne : pid ≠ qid) :
    Wit (· < ·) (a.cldHandleRequest now m l r).1 pid qid := by
  rw [cldHandleRequest_eq] at hs' ⊢
  obtain ⟨h1, hm1⟩ := cldPre_hok a m l r
  have hi1 := (h1.pres hi).1
  have hs1 : (cldPre a m l r).1.selected = some pid := (h1.selected_eq hi).trans hs
  generalize (cldPre a m l r).1 = a1 at h1 hm1 hi1 hs1 hs' ⊢
  generalize (cldPre a m l r).2 = id at hm1 hs' ⊢
  have h2 := cldAccept_hok (wp := True) (ex := True) a1 m
  have hm2 := cldAccept_marked a1 m id hm1
  have hi2 := (h2.pres hi1).1
  have hs2 : (cldAccept a1 m).1.selected = some pid := (cldAccept_selected a1 m).trans hs1
  have hcfg2 : (cldAccept a1 m).1.cfg = a.cfg := h2.cfg.trans h1.cfg
  have hc2 : (cldAccept a1 m).1.controlling = false := (h2.ctl.trans h1.ctl).trans hc
  generalize (cldAccept a1 m).1 = a2 at h2 hm2 hi2 hs2 hcfg2 hc2 hs' ⊢
  split at hs'
  · rw [sendSuccess_selected, hs2] at hs'; cases hs'; exact absurd rfl hne
  · rename_i hcond
    rw [if_neg hcond]
    have hi3 : Inv3 (cldNom a2 id m).1 :=
      (sel_handling (Agent.Chain.cldNominate (cx := handling) a2 m id (now := now) (l := l) (src := 0) trivial
        (fun _ => ⟨hc2, fun hn q hq e => (hm2.2 q hq e).2 hn⟩) (.inl rfl))).inv hi2
    have h4 := cldTail_hok (wp := True) (ex := True) (cldNom a2 id m).1 now m l r id
    rw [(cldTail_out _ now m l r id _).1] at hs' ⊢
    have hs3 : (cldNom a2 id m).1.selected = some qid := (h4.selected_eq hi3).symm.trans hs'
    exact (cldNom_down a2 id m hi2 hm2 (hcfg2 ▸ hneed) hnom hs2 hs3 hne).mono (h4.pres hi3).2.toRel

theorem hsSel_down (a : Agent) (p : Pair) (pd : Pending) (hi : Inv3 a) (hneed : needsPrioCheck a.cfg = true)
    (hdef : p.deferredNom = none) (hpd : pd.nom = none)
    (hq : ∃ q ∈ a.checklist, q.id = p.id ∧ PrioF p q) {pid qid : Nat}
    (hs : a.selected = some pid) (hs' : (hsSel a p pd).1.selected = some qid) (hne : pid ≠ qid) :
    Wit (· ≤ ·) (hsSel a p pd).1 pid qid := by
  obtain ⟨sp, hspm, hspid, _⟩ := hi.sel pid hs
  have hsp : a.pairById pid = some sp := hspid ▸ pairById_of_mem hi.ids hspm
  obtain ⟨q, hqm, hqid, hqf⟩ := hq
  have hsame : ∀ x : Agent × List Out, x = (a, []) → x.1.selected = some qid → False := by
    intro x hx h; rw [hx, hs] at h; cases h; exact hne rfl
  have hsel : ∀ x : Agent × List Out, x = a.select p.id → x.1.selected = some qid →
      a.pairPrio sp ≤ a.pairPrio p → Wit (· ≤ ·) x.1 pid qid := by
    intro x hx h hle
    rw [hx] at h ⊢
    rw [select_selected] at h
    cases h
    refine ⟨a, hi, select_rel _ _, ⟨sp, hspm, hspid⟩, ⟨q, hqm, hqid⟩, ?_⟩
    intro p' hp' q' hq' e1 e2
    rw [mem_unique hi.ids hp' hspm (e1.trans hspid.symm), mem_unique hi.ids hq' hqm (e2.trans hqid.symm),
      pairPrio_congr a hqf]
    exact hle
  generalize hres : hsSel a p pd = res at hs' ⊢
  unfold hsSel at hres
  simp only [hdef, hs, hpd, Option.isNone_some, Option.bind_some, hsp, Bool.false_eq_true, if_false] at hres
  repeat' split at hres
  all_goals subst hres
  all_goals first
    | exact absurd hs' (fun h => hsame _ rfl h)
    | skip
  rename_i h3
  refine hsel _ rfl hs' ?_
  simp only [hneed, Bool.not_true, Bool.false_or, Bool.and_eq_true, decide_eq_true_eq] at h3
  exact h3.2

theorem handleSuccess_down (a : Agent) (now : Nat) (m : Msg) (l r : Cand) (src : Nat) (hi : Inv3 a)
    (hneed : needsPrioCheck a.cfg = true) {pid qid : Nat}
    (hdef : ∀ q0 ∈ a.checklist, q0.id = qid → q0.deferredNom = none)
    (hpd : ∀ pd ∈ a.pending, pd.tid = m.tid → pd.nom = none)
    (hs : a.selected = some pid) (hs' : (a.handleSuccess now m l r src).1.selected = some qid) (hne : pid ≠ qid) :
    Wit (· ≤ ·) (a.handleSuccess now m l r src).1 pid qid := by
  rw [handleSuccess_eq] at hs' ⊢
  have h0 := takePending_hok (wp := True) (ex := True) a now m.tid
  have hf := takePending_frame a now m.tid
  have hmem := takePending_mem a now m.tid
  have hi1 := (h0.pres hi).1
  generalize (a.takePending now m.tid).1 = a1 at h0 hf hi1 hs' ⊢
  have hs1 : a1.selected = some pid := hf.2.trans hs
  have hsame : a1.selected = some qid → False := by
    intro h; rw [hs1] at h; cases h; exact hne rfl
  split at hs'
  · exact absurd hs' hsame
  · rename_i pd hpdeq
    split at hs'
    · exact absurd hs' hsame
    · split at hs'
      · exact absurd hs' hsame
      · rename_i hsym _ p hfp
        simp only [hsym]
        have hpm : p ∈ a1.checklist := (findPair_listed hfp).1
        have hi2 : Inv3 (a1.modPair p.id (hsMark pd)) := ((succeeded_pres (wp := True) (ex := True) a1 p.id pd.useCand) hi1).1
        have hs3 : (hsSel (a1.modPair p.id (hsMark pd)) p pd).1.selected = some qid := by
          have h3 : (hsFin (a1.modPair p.id (hsMark pd)) p pd (hsSel (a1.modPair p.id (hsMark pd)) p pd).1).selected
              = some qid := hs'
          rw [hsFin_selected] at h3
          exact h3
        have hqid : qid = p.id := by
          rcases hsSel_cases (a1.modPair p.id (hsMark pd)) p pd with h | ⟨h, _⟩
          · rw [h] at hs3; exact absurd hs3 hsame
          · rw [h, select_selected] at hs3; cases hs3; rfl
        have hw := hsSel_down (a1.modPair p.id (hsMark pd)) p pd hi2 (h0.cfg ▸ hneed)
          (hdef p (hf.1 ▸ hpm) hqid.symm) (hpd pd (hmem pd hpdeq).1 (hmem pd hpdeq).2)
          ⟨hsMark pd p, Agent.mem_modPair_of_mem hpm _, rfl, ⟨rfl, rfl, rfl, rfl⟩⟩ hs1 hs3 hne
        exact hw.mono ((hsFin_rel _ p pd _).trans
          (modPair_quiet (wp := True) (ex := True) _ p.id (Pair.gotResponse now pd.ts) (fun _ => rfl)
            (fun _ _ _ => ⟨fun h => h, fun h => h, fun h => h, fun h => h, fun h => h⟩)
            fun _ _ _ _ => ⟨rfl, rfl, rfl, rfl⟩).toRel)

theorem toSelector_down (a : Agent) (now : Nat) (l r : Cand) (m : Msg) (hi : Inv3 a)
    (hneed : needsPrioCheck a.cfg = true) (hnom : m.nom = none) {pid qid : Nat}
    (hs : a.selected = some pid) (hs' : (Agent.toSelector a now l r m []).1.selected = some qid) (hne : pid ≠ qid) :
    Wit (· < ·) (Agent.toSelector a now l r m []).1 pid qid := by
  unfold Agent.toSelector at hs' ⊢
  cases hc : a.controlling
  · simp only [hc, Bool.false_eq_true, if_false] at hs' ⊢
    have hs2 : (a.cldHandleRequest now m l r).1.selected = some qid := hs'
    exact (cldHandleRequest_down a now m l r hi hc hneed hnom hs hs2 hne).mono
      ((seenRemoteRecv_pres (wp := True) (ex := True) _ r.uid now) ((sel_cldHandleRequest a now m l r hc).inv hi)).2.toRel
  · simp only [hc, if_true] at hs' ⊢
    have hs2 : (a.ctlHandleRequest now m l r).1.selected = some qid := hs'
    rw [(ctlHandleRequest_hok a now m l r hc).selected_eq hi, hs] at hs2
    cases hs2; exact absurd rfl hne

theorem handleInbound_down_req (a : Agent) (now : Nat) (l : Cand) (src : Nat) (m : Msg) (hi : Inv3 a)
    (hneed : needsPrioCheck a.cfg = true) (h0 : m.cls = 0) (hnom : m.nom = none) {pid qid : Nat}
    (hs : a.selected = some pid) (hs' : (a.handleInbound now l src m).1.selected = some qid) (hne : pid ≠ qid) :
    Wit (· < ·) (a.handleInbound now l src m).1 pid qid := by
  have hsame : ∀ b : Agent, b.selected = a.selected → b.selected = some qid → False := by
    intro b hb h; rw [hb, hs] at h; cases h; exact hne rfl
  obtain ⟨hd, hn⟩ := resolveSource_hok a l src m
  have hi1 := (hd.pres hi).1
  have hs1 : (Agent.resolveSource a l src m).1.selected = a.selected := hd.selected_eq hi
  generalize hres : a.handleInbound now l src m = res at hs' ⊢
  rw [Agent.handleInbound_stages] at hres
  have e2 : (m.cls == 2) = false := by rw [h0]; rfl
  have e0 : (m.cls == 0) = true := by rw [h0]; rfl
  simp only [e2, e0, Bool.false_eq_true, if_false, if_true] at hres
  repeat' split at hres
  all_goals subst hres
  all_goals first
    | exact absurd hs' (hsame _ rfl)
    | exact absurd hs' (hsame _ hs1)
    | skip
  rename_i r _
  rw [(afterResolve_out _ now l r m _).1] at hs' ⊢
  rcases afterResolve_cases (Agent.resolveSource a l src m).1 now l r m with ⟨m', _, h⟩ | h | h
  · rw [h] at hs'; exact absurd hs' (hsame _ hs1)
  · rw [h] at hs'; exact absurd hs' (hsame _ hs1)
  · rw [h] at hs' ⊢
    exact toSelector_down _ now l r m hi1 (hd.cfg ▸ hneed) hnom (hs1.trans hs) hs' hne

theorem handleInbound_down_resp (a : Agent) (now : Nat) (l : Cand) (src : Nat) (m : Msg) (hi : Inv3 a)
    (hneed : needsPrioCheck a.cfg = true) (h2 : m.cls = 2) {pid qid : Nat}
    (hdef : ∀ q0 ∈ a.checklist, q0.id = qid → q0.deferredNom = none)
    (hpd : ∀ pd ∈ a.pending, pd.tid = m.tid → pd.nom = none)
    (hs : a.selected = some pid) (hs' : (a.handleInbound now l src m).1.selected = some qid) (hne : pid ≠ qid) :
    Wit (· ≤ ·) (a.handleInbound now l src m).1 pid qid := by
  have hsame : ∀ b : Agent, b.selected = a.selected → b.selected = some qid → False := by
    intro b hb h; rw [hb, hs] at h; cases h; exact hne rfl
  generalize hres : a.handleInbound now l src m = res at hs' ⊢
  rw [Agent.handleInbound_stages] at hres
  have e2 : (m.cls == 2) = true := by rw [h2]; rfl
  simp only [e2, if_true] at hres
  repeat' split at hres
  all_goals subst hres
  all_goals first
    | exact absurd hs' (hsame _ rfl)
    | skip
  rename_i r _
  have hs2 : (a.handleSuccess now m l r src).1.selected = some qid := hs'
  exact (handleSuccess_down a now m l r src hi hneed hdef hpd hs hs2 hne).mono
    ((seenRemoteRecv_pres (wp := True) (ex := True) _ r.uid now) ((sel_handleSuccess a now m l r src).inv hi)).2.toRel

theorem handleInbound_other (a : Agent) (now : Nat) (l : Cand) (src : Nat) (m : Msg) (h0 : m.cls ≠ 0) (h2 : m.cls ≠ 2) :
    (a.handleInbound now l src m).1.selected = a.selected := by
  rw [Agent.handleInbound_stages]
  have e2 : (m.cls == 2) = false := by simpa using h2
  have e0 : (m.cls == 0) = false := by simpa using h0
  simp only [e2, e0, Bool.false_eq_true, if_false]
  repeat' split
  all_goals rfl

theorem step_inbound_down (a : Agent) (now la src : Nat) (m : Msg) (hi : Inv3 a)
    (hneed : needsPrioCheck a.cfg = true) {pid qid : Nat}
    (hplainReq : m.cls = 0 → m.nom = none)
    (hplainResp : m.cls = 2 → (∀ q0 ∈ a.checklist, q0.id = qid → q0.deferredNom = none) ∧
      (∀ pd ∈ a.pending, pd.tid = m.tid → pd.nom = none))
    (hs : a.selected = some pid) (hs' : (step a (.inbound now la src m)).1.selected = some qid) (hne : pid ≠ qid) :
    Wit (· ≤ ·) (step a (.inbound now la src m)).1 pid qid ∧
    (m.cls = 0 → Wit (· < ·) (step a (.inbound now la src m)).1 pid qid) := by
  have hsame : ∀ b : Agent, b.selected = a.selected → b.selected = some qid → False := by
    intro b hb h; rw [hb, hs] at h; cases h; exact hne rfl
  refine Agent.step_inbound_rule (Q := fun x => x.1.selected = some qid →
    Wit (· ≤ ·) x.1 pid qid ∧ (m.cls = 0 → Wit (· < ·) x.1 pid qid)) a now la src m
    (fun h => absurd h (hsame _ rfl)) (fun _ _ l hl hs' => ?_) hs'
  unfold Agent.thenForced at hs' ⊢
  have hH := handleInbound_hsel a now l src m
  have hi1 := hH.inv hi
  have hF := runForced_hok (wp := True) (a.handleInbound now l src m).1 now
  have hs1 : (a.handleInbound now l src m).1.selected = some qid := by
    rcases (hF.pres hi1).2.sel with e | e
    · exact e.1 ▸ hs'
    · have h : ((a.handleInbound now l src m).1.runForced now).1.selected = some qid := hs'
      rw [e.2] at h; cases h
  have hr := (hF.pres hi1).2.toRel
  by_cases h0 : m.cls = 0
  · have hw := handleInbound_down_req a now l src m hi hneed h0 (hplainReq h0) hs hs1 hne
    refine ⟨?_, fun _ => hw.mono hr⟩
    obtain ⟨d, hd, hr0, hdn⟩ := hw.mono hr
    exact ⟨d, hd, hr0, hdn.exi, hdn.exj, fun p hp q hq e1 e2 => Nat.le_of_lt (hdn.rel p hp q hq e1 e2)⟩
  · by_cases h2 : m.cls = 2
    · exact ⟨(handleInbound_down_resp a now l src m hi hneed h2 (hplainResp h2).1 (hplainResp h2).2 hs hs1 hne).mono hr,
        fun h => absurd h h0⟩
    · exact absurd hs1 (hsame _ (handleInbound_other a now l src m h0 h2))

theorem handleInbound_rel_true (a : Agent) (now : Nat) (l : Cand) (src : Nat) (m : Msg)
    (hknown : m.cls = 0 → ∃ r, a.findRemote l.net src = some r) (hi : Inv3 a) :
    Rel True a (a.handleInbound now l src m).1 := by
  have hres : ∀ h0 : m.cls = 0, ∃ r0, Agent.resolveSource a l src m = (a, [], some r0) := fun h0 => by
    obtain ⟨r0, hr0⟩ := hknown h0
    exact ⟨r0, by unfold Agent.resolveSource; rw [hr0]⟩
  refine Agent.handleInbound_rule (Q := fun x => Rel True a x.1) a now l src m (Rel.refl _ _) (fun r _ _ _ => ?_)
    (fun r _ => ((seenRemoteRecv_pres (wp := True) (ex := True) a _ now) hi).2.toRel) (fun hauth _ => ?_)
    (fun hauth r hr => ?_)
  · exact ((sel_handleSuccess a now m l r src).rel hi).trans
      ((seenRemoteRecv_pres (wp := True) (ex := True) _ r.uid now) ((sel_handleSuccess a now m l r src).inv hi)).2.toRel
  · obtain ⟨r0, hd⟩ := hres hauth.2.1
    rw [hd]; exact Rel.refl _ _
  · obtain ⟨r0, hd⟩ := hres hauth.2.1
    rw [hd] at hr ⊢
    exact (afterResolve_hsel a now l r m).rel hi

theorem step_inbound_rel_true (a : Agent) (now la src : Nat) (m : Msg)
    (hknown : m.cls = 0 → ∀ l, a.localByAddr la = some l → ∃ r, a.findRemote l.net src = some r) (hi : Inv3 a) :
    Rel True a (step a (.inbound now la src m)).1 := by
  refine Agent.step_inbound_rule (Q := fun x => Rel True a x.1) a now la src m (Rel.refl _ _) fun _ _ l hl => ?_
  have h1 := handleInbound_rel_true a now l src m (fun h0 => hknown h0 l hl) hi
  exact h1.trans ((runForced_hok (wp := True) _ now).pres ((handleInbound_hsel a now l src m).inv hi)).2.toRel

end IceProofs.C03

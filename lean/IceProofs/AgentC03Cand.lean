import IceProofs.AgentC03Timer
/-!
# C03 — candidate bookkeeping (`replaceRemoteInPairs`, `addRemoteCandidate`, `addLocalCandidate`)
keeps the invariant, ghost flags, validity and the selection (prflx supersession re-selects the SAME id), and sends nothing
-/
namespace IceProofs.C03
open IceModel.AgentCore
open IceProofs.Agent (Chain)

theorem HOK.selected_eq {wp : Prop} {a : Agent} {r : Agent × List Out} (h : HOK wp True a r) (hi : Inv3 a) :
    r.1.selected = a.selected := by
  rcases (h.pres hi).2.sel with h | h
  · exact h.1
  · exact absurd trivial h.1

/-- the pairing fold of `addRemoteCandidate` (verbatim) -/
def pairStep (c : Cand) (a : Agent) (l : Cand) : Agent :=
        match a.findPair l c with
        | some _ => a
        | none => (a.addPair l c).1

theorem addRemoteCandidate_noReq (a : Agent) (c : Cand) : NoReq (a.addRemoteCandidate c).2.1 :=
  Agent.addRemoteCandidate_rule (P := fun x => NoReq x.2) a c NoReq.nil (fun _ _ _ _ h => h)
    (fun b _ old c' h => h.append (Agent.replaceRemoteInPairs_rule (P := fun x => NoReq x.2) b old c' NoReq.nil
      (fun _ _ _ _ h => h) fun b _ id _ h => h.append (select_noReq b id)))
    (fun _ _ _ h => h) (fun _ _ _ _ h => h) fun _ _ h => h

theorem addRemoteCandidate_hok {ex : Prop} (a : Agent) (c : Cand) :
    HOK False ex a ((a.addRemoteCandidate c).1, (a.addRemoteCandidate c).2.1)
    ∧ NoReq (a.addRemoteCandidate c).2.1 :=
  ⟨hok_quiet (P := fun k => k = .remotes ∨ k = .select ∨ k = .forced) nofun nofun False.elim (fun _ => nofun)
    (Chain.addRemoteCandidate a c trivial (.inl rfl) (.inr (.inl rfl)) (.inr (.inr rfl))), addRemoteCandidate_noReq a c⟩

theorem addLocalCandidate_hok {ex : Prop} (a : Agent) (c : Cand) :
    HOK False ex a (a.addLocalCandidate c) ∧ NoReq (a.addLocalCandidate c).2 := by
  refine ⟨hok_quiet (P := fun k => k = .locals ∨ k = .forced) nofun nofun False.elim (fun _ => nofun)
    (Chain.addLocalCandidate a c trivial (.inl rfl) (.inr rfl)), ?_⟩
  unfold Agent.addLocalCandidate
  intro f t m hm
  split at hm
  · simp at hm
  · split at hm <;> simp at hm

end IceProofs.C03

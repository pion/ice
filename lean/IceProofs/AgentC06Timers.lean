import IceProofs.AgentC06Handlers
import IceProofs.AgentRulesTimers
/-!
# C06 — the timer path (`contact`, `runForced`, `runTimers`): an evolution, or the Failed wipe
-/
namespace IceProofs.AgentC06
open IceModel.AgentCore IceProofs.Agent

/-- all bookkeeping fields (and `pending`) literally equal -/
structure SameCore (a a' : Agent) : Prop where
  checklist : a'.checklist = a.checklist
  locals : a'.locals = a.locals
  remotes : a'.remotes = a.remotes
  caches : a'.caches = a.caches
  selected : a'.selected = a.selected
  pending : a'.pending = a.pending
  nextUid : a'.nextUid = a.nextUid
  nextPairID : a'.nextPairID = a.nextPairID
  cfg : a'.cfg = a.cfg
  closed : a'.closed = a.closed
  nominatedPair : a'.nominatedPair = a.nominatedPair
  connState : a'.connState = a.connState

theorem SameCore.refl (a : Agent) : SameCore a a := ⟨rfl, rfl, rfl, rfl, rfl, rfl, rfl, rfl, rfl, rfl, rfl, rfl⟩

theorem SameCore.trans {a b c : Agent} (h1 : SameCore a b) (h2 : SameCore b c) : SameCore a c :=
  ⟨h2.checklist.trans h1.checklist, h2.locals.trans h1.locals, h2.remotes.trans h1.remotes,
   h2.caches.trans h1.caches, h2.selected.trans h1.selected, h2.pending.trans h1.pending,
   h2.nextUid.trans h1.nextUid, h2.nextPairID.trans h1.nextPairID, h2.cfg.trans h1.cfg,
   h2.closed.trans h1.closed, h2.nominatedPair.trans h1.nominatedPair, h2.connState.trans h1.connState⟩

theorem SameCore.same {a a' : Agent} (h : SameCore a a') : Same a a' :=
  Same.of_fields h.checklist h.locals h.remotes h.caches h.nextUid h.nextPairID h.cfg h.closed h.selected
    h.nominatedPair h.connState

/-- `a'` is what a transition to Failed leaves behind, seen from `a` -/
structure WF (a a' : Agent) : Prop where
  wiped : Wiped a'
  failed : a'.connState = .failed
  nextUid : a'.nextUid = a.nextUid
  nextPairID : a'.nextPairID = a.nextPairID
  cfg : a'.cfg = a.cfg
  closed : a'.closed = a.closed
  nom : a'.nominatedPair = a.nominatedPair ∨ a'.nominatedPair = none ∨
    ∃ id, a'.nominatedPair = some id ∧ id ∈ idsOf a

inductive EvoW (a a' : Agent) : Prop
  | evo (h : Evo a a')
  | wf (h : WF a a')

theorem Inv.wf {a a' : Agent} (h : Inv a) (w : WF a a') : Inv a' := by
  obtain ⟨h1, h2, h3, h5, _, h4⟩ := w.wiped
  refine h.wiped h1 h2 h3 h4 h5 w.nextUid w.nextPairID w.cfg w.closed (Or.inr ⟨w.failed, fun id hid => ?_⟩)
  rcases w.nom with h10 | h10 | ⟨id', h10, hm⟩
  · exact h.c.nomLe id (h10 ▸ hid)
  · rw [h10] at hid; exact absurd hid (by simp)
  · rw [h10] at hid
    have : id' = id := by simpa using hid
    subst this
    obtain ⟨k, hk, hk1⟩ := mem_ids_iff_keys.1 hm
    exact hk1 ▸ h.s.idsLe k hk

theorem Inv.evoW {a a' : Agent} (h : Inv a) (w : EvoW a a') : Inv a' := by
  cases w with
  | evo e => exact h.evo e
  | wf w => exact h.wf w

theorem WF.l_evo {a b c : Agent} (e : Evo a b) (w : WF b c) : WF a c :=
  { w with
    nextUid := w.nextUid.trans e.nextUid
    nextPairID := w.nextPairID.trans e.nextPairID
    cfg := w.cfg.trans e.cfg
    closed := w.closed.trans e.closed
    nom := by
      rcases w.nom with h | h | ⟨id, h, hm⟩
      · rw [h]; exact e.nom
      · exact Or.inr (Or.inl h)
      · exact Or.inr (Or.inr ⟨id, h, e.ids ▸ hm⟩) }

theorem WF.r_core {a b c : Agent} (w : WF a b) (s : SameCore b c) : WF a c := by
  obtain ⟨h1, h2, h3, h4, h5, h6⟩ := w.wiped
  exact ⟨⟨s.checklist.trans h1, s.locals.trans h2, s.remotes.trans h3, s.selected.trans h4,
    s.pending.trans h5, s.caches.trans h6⟩, s.connState.trans w.failed, s.nextUid.trans w.nextUid,
    s.nextPairID.trans w.nextPairID, s.cfg.trans w.cfg, s.closed.trans w.closed, s.nominatedPair ▸ w.nom⟩

theorem EvoW.l_evo {a b c : Agent} (e : Evo a b) (w : EvoW b c) : EvoW a c := by
  cases w with
  | evo e' => exact .evo (e.trans e')
  | wf w => exact .wf (w.l_evo e)

theorem EvoW.r_core {a b c : Agent} (w : EvoW a b) (s : SameCore b c) : EvoW a c := by
  cases w with
  | evo e => exact .evo (e.r_same s.same)
  | wf w => exact .wf (w.r_core s)

theorem EvoW.refl (a : Agent) : EvoW a a := .evo (Evo.refl a)

theorem EvoW.setConnState (a : Agent) (s : ConnState) (hsel : a.selected.isSome) :
    EvoW a (a.setConnState s).1 := by
  by_cases hs : s = .failed
  · subst hs
    by_cases hc : a.connState = .failed
    · rw [setConnState_same_eq a _ hc]; exact EvoW.refl a
    · rw [setConnState_failed_eq a hc]
      exact .wf ⟨⟨rfl, rfl, rfl, rfl, rfl, rfl⟩, rfl, rfl, rfl, rfl, rfl, Or.inl rfl⟩
  · exact .evo (Evo.setConnState a s hs hsel)

theorem EvoW.validateSelected (a : Agent) (now : Nat) : EvoW a (a.validateSelected now).1 := by
  unfold Agent.validateSelected
  split
  · exact EvoW.refl a
  · rename_i p hp
    have hsel : a.selected.isSome := by
      cases hs : a.selected with
      | none => rw [hs] at hp; simp at hp
      | some _ => rfl
    exact EvoW.setConnState a _ hsel

theorem keepalive_none (a : Agent) (now : Nat) (h : a.selected = none) : (a.keepalive now).1 = a := by
  unfold Agent.keepalive
  simp [h]

theorem EvoW.keepalive {a b : Agent} (w : EvoW a b) (now : Nat) : EvoW a (b.keepalive now).1 := by
  cases w with
  | evo e => exact .evo (e.r_same (Same.keepalive b now))
  | wf w => rw [keepalive_none b now w.wiped.2.2.2.1]; exact .wf w

theorem EvoW.autoRenom {a b : Agent} (w : EvoW a b) (now : Nat) : EvoW a (b.autoRenom now).1 := by
  cases w with
  | evo e => exact .evo (e.r_same (Same.autoRenom b now))
  | wf w => rw [IceProofs.Auto.autoRenom_wiped b now w.wiped.1 w.wiped.2.2.2.1]; exact .wf w

theorem EvoW.validateKeepalive (a : Agent) (now : Nat) (auto : Bool) : EvoW a (validateKeepalive a now auto).1 :=
  validateKeepalive_rule (Q := fun x => EvoW a x.1) a now auto (EvoW.validateSelected a now)
    (fun _ => (EvoW.validateSelected a now).keepalive now)
    fun _ => ((EvoW.validateSelected a now).keepalive now).autoRenom now

theorem EvoW.contactCandidates (a : Agent) (now : Nat) : EvoW a (a.contactCandidates now).1 :=
  contactCandidates_rule (Q := fun x => EvoW a x.1) a now (fun auto _ _ => EvoW.validateKeepalive a now auto)
    (fun p _ _ _ => .evo (Same.nominate a now p).evo) (EvoW.refl a)
    (fun p _ _ _ _ _ hp _ _ => .evo ((((Evo.refl a).r_modPair p.id _).r_setNominated p.id
      (mem_ids_iff.2 ⟨p, (bestBy_listed hp).1, rfl⟩)).r_same (Same.nominate _ now p)))
    (fun _ => .evo (Same.pingAll a now).evo) fun _ => EvoW.validateSelected a now

theorem EvoW.contact (a : Agent) (now : Nat) : EvoW a (a.contact now).1 := by
  have hfin : ∀ x : Agent × List Out, SameCore x.1 (C03.finish x).1 := fun x =>
    ⟨rfl, rfl, rfl, rfl, rfl, rfl, rfl, rfl, rfl, rfl, rfl, rfl⟩
  have eb : Evo a (C03.chk a now) := by
    unfold C03.chk; split
    · exact Same.evo rfl
    · exact Evo.refl a
  refine contact_rule (Q := fun r => EvoW a r.1) a now (fun _ => EvoW.refl a)
    (fun _ => (EvoW.refl a).r_core (hfin (a, []))) (fun hc => ?_)
    (fun _ => (EvoW.l_evo eb (EvoW.contactCandidates _ now)).r_core (hfin _))
    (fun _ => (EvoW.contactCandidates a now).r_core (hfin _))
  -- checking timeout: Failed
  refine EvoW.r_core (EvoW.l_evo eb ?_) (hfin _)
  have hb : (C03.chk a now).connState = .checking := by unfold C03.chk; split <;> exact hc
  generalize C03.chk a now = b at hb ⊢
  have : b.connState ≠ .failed := by rw [hb]; simp
  rw [setConnState_failed_eq b this]
  exact .wf ⟨⟨rfl, rfl, rfl, rfl, rfl, rfl⟩, rfl, rfl, rfl, rfl, rfl, Or.inl rfl⟩

theorem contact_failed (a : Agent) (now : Nat) (h : a.connState = .failed) : SameCore a (a.contact now).1 := by
  exact contact_rule (Q := fun r => SameCore a r.1) a now (fun _ => SameCore.refl a)
    (fun _ => ⟨rfl, rfl, rfl, rfl, rfl, rfl, rfl, rfl, rfl, rfl, rfl, rfl⟩) (fun hc => nomatch h.symm.trans hc)
    (fun hc => nomatch h.symm.trans hc) (fun hn => absurd h hn)

theorem EvoW.runForced (a : Agent) (now : Nat) : EvoW a (a.runForced now).1 :=
  runForced_rule (Q := fun r => EvoW a r.1) a now (EvoW.refl a) fun _ _ =>
    EvoW.r_core (a := a) (EvoW.l_evo (b := { a with forcePending := false }) (Same.evo rfl) (EvoW.contact _ now))
      ⟨rfl, rfl, rfl, rfl, rfl, rfl, rfl, rfl, rfl, rfl, rfl, rfl⟩

theorem runTimers_failed (a : Agent) (now fuel : Nat) (h : a.connState = .failed) :
    SameCore a (a.runTimers now fuel).1 :=
  runTimers_ind (Q := fun a r => a.connState = .failed → SameCore a r.1) now (fun a _ => SameCore.refl a)
    (fun a t _ _ _ _ ih h =>
      have hb : SameCore a { (a.contact t).1 with nextTick := some (t + (a.contact t).1.interval) } :=
        (contact_failed a t h).trans ⟨rfl, rfl, rfl, rfl, rfl, rfl, rfl, rfl, rfl, rfl, rfl, rfl⟩
      hb.trans (ih (hb.connState.trans h))) fuel a h

theorem EvoW.runTimers (a : Agent) (now fuel : Nat) : EvoW a (a.runTimers now fuel).1 := by
  induction fuel generalizing a with
  | zero => exact EvoW.refl a
  | succ n ih =>
    unfold Agent.runTimers
    split
    · split
      · rename_i t _ _
        have hc := EvoW.contact a t
        generalize a.contact t = c at hc
        obtain ⟨b, o⟩ := c
        simp only [] at hc ⊢
        have hb : EvoW a { b with nextTick := some (t + b.interval) } :=
          hc.r_core ⟨rfl, rfl, rfl, rfl, rfl, rfl, rfl, rfl, rfl, rfl, rfl, rfl⟩
        have h2 := ih { b with nextTick := some (t + b.interval) }
        have h3 := fun hf => runTimers_failed { b with nextTick := some (t + b.interval) } now n hf
        generalize Agent.runTimers { b with nextTick := some (t + b.interval) } now n = rt at h2 h3
        obtain ⟨c, o'⟩ := rt
        simp only [] at h2 h3 ⊢
        cases hb with
        | evo e => exact EvoW.l_evo e h2
        | wf w => exact .wf (w.r_core (h3 w.failed))
      · exact EvoW.refl a
    · exact EvoW.refl a

end IceProofs.AgentC06

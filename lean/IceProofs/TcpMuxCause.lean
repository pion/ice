import IceProofs.TcpMuxProps
import IceProofs.TcpMuxDrained
/-!
# Third invariant of the TCP-mux model: why connections get closed, and how long `Close` can take

A routed connection is closed while its packet connection is open only because its client closed / reset, or sent a
frame larger than the read buffer. Deadlines are bounded: a pending handler ends within the first-bind timeout, an armed
alive timer fires within the alive duration; after `Close` only provisional packet connections created by a first frame
that arrived during the wait can be open, and they are gone by close time + first-bind timeout + alive duration.
-/
namespace IceProofs.TcpMux
open IceModel.TcpMux

def isEnd : Item → Bool
  | .eof => true | .reset => true | _ => false

structure TcpC (s : State) (t : Tcp) : Prop where
  ends : ∀ it, it ∈ t.inbox → isEnd it = true → t.cEnd = true
  frames : ∀ f, Item.frame f ∈ t.inbox → f ∈ t.sent
  cause : ∀ (p : Nat) (pc : PConn), t.pc = some p → t.phase = .closed → s.pcs[p]? = some pc → pc.closed = false →
    t.cEnd = true ∨ ∃ f, f ∈ t.sent ∧ receiveMTU < f.len
  dl : ∀ d, t.phase = .pending d →
    d ≤ s.now + effTimeout s.cfg.t1 ∧ (s.muxClosed = true → d ≤ s.closedAt + effTimeout s.cfg.t1)

structure PcC (s : State) (pc : PConn) : Prop where
  al : ∀ d, pc.alive = some d → d ≤ s.now + effTimeout s.cfg.t2
  post : s.muxClosed = true → pc.closed = false →
    ∃ d, pc.alive = some d ∧ d ≤ s.closedAt + effTimeout s.cfg.t1 + effTimeout s.cfg.t2

structure Inv3 (s : State) : Prop where
  tcp : ∀ (k : Nat) (t : Tcp), s.tcps[k]? = some t → TcpC s t
  pc : ∀ (p : Nat) (pc : PConn), s.pcs[p]? = some pc → PcC s pc

theorem inv3_init (cfg : Config) : Inv3 (init cfg) := by
  constructor <;> simp [init]

theorem TcpC.transfer {s s' : State} {t t' : Tcp} (h : TcpC s t)
    (e1 : t'.inbox = t.inbox ∨ t'.inbox = []) (e2 : t'.sent = t.sent) (e3 : t.cEnd = true → t'.cEnd = true)
    (e4 : t'.pc = t.pc) (e5 : t'.phase = t.phase)
    (hp : ∀ (p : Nat) (pc' : PConn), s'.pcs[p]? = some pc' → pc'.closed = false →
      ∃ pc, s.pcs[p]? = some pc ∧ pc.closed = false)
    (hnow : s.now ≤ s'.now) (hcfg : s'.cfg = s.cfg) (hmux : s'.muxClosed = s.muxClosed) (hca : s'.closedAt = s.closedAt) :
    TcpC s' t' := by
  constructor
  · intro it hit he
    rcases e1 with e1 | e1
    · rw [e1] at hit; exact e3 (h.ends it hit he)
    · rw [e1] at hit; cases hit
  · intro f hf
    rcases e1 with e1 | e1
    · rw [e1] at hf; rw [e2]; exact h.frames f hf
    · rw [e1] at hf; cases hf
  · intro p pc' a b c d
    rw [e4] at a; rw [e5] at b
    obtain ⟨pc, c', d'⟩ := hp p pc' c d
    rcases h.cause p pc a b c' d' with x | ⟨f, x, y⟩
    · exact Or.inl (e3 x)
    · exact Or.inr ⟨f, by rw [e2]; exact x, y⟩
  · intro d hd
    rw [e5] at hd
    have := h.dl d hd
    rw [hcfg, hmux, hca]
    exact ⟨by omega, this.2⟩

theorem TcpC.closedNow {s' : State} {t' : Tcp} (e1 : t'.inbox = []) (e5 : t'.phase = .closed)
    (hc : t'.pc = none ∨ ∃ p, t'.pc = some p ∧ ∀ pc', s'.pcs[p]? = some pc' → pc'.closed = true) : TcpC s' t' := by
  constructor
  · intro it hit; rw [e1] at hit; cases hit
  · intro f hf; rw [e1] at hf; cases hf
  · intro p pc' a b c d
    rcases hc with hc | ⟨q, hq, hall⟩
    · rw [hc] at a; cases a
    · rw [hq] at a; cases a
      rw [hall pc' c] at d; cases d
  · intro d hd; rw [e5] at hd; cases hd

theorem PcC.transfer {s s' : State} {pc pc' : PConn} (h : PcC s pc)
    (e1 : pc'.alive = pc.alive ∨ (pc'.alive = none ∧ (pc'.closed = true ∨ s'.muxClosed = false)))
    (e2 : pc'.closed = false → pc.closed = false)
    (hnow : s.now ≤ s'.now) (hcfg : s'.cfg = s.cfg) (hmux : s'.muxClosed = s.muxClosed) (hca : s'.closedAt = s.closedAt) :
    PcC s' pc' := by
  constructor
  · intro d hd
    rcases e1 with e1 | ⟨e1, _⟩
    · rw [e1] at hd; have := h.al d hd; rw [hcfg]; omega
    · rw [e1] at hd; cases hd
  · intro hm ho
    rcases e1 with e1 | ⟨_, e1 | e1⟩
    · rw [e1, hcfg, hca]; exact h.post (by rw [← hmux]; exact hm) (e2 ho)
    · rw [e1] at ho; cases ho
    · rw [e1] at hm; cases hm

theorem inv3_pointwise {s s' : State} {g : Nat → Tcp → Tcp} {h : Nat → PConn → PConn} (pw : Pointwise s s' g h)
    (hg : ∀ (j : Nat) (t : Tcp), s.tcps[j]? = some t → TcpC s t → TcpC s' (g j t))
    (hh : ∀ (q : Nat) (pc : PConn), s.pcs[q]? = some pc → PcC s pc → PcC s' (h q pc))
    (hi : Inv3 s) : Inv3 s' := by
  constructor
  · intro k t' ht'
    obtain ⟨t, ht, rfl⟩ := pw.tget ht'
    exact hg k t ht (hi.tcp k t ht)
  · intro p pc' hp'
    obtain ⟨pc, hp, rfl⟩ := pw.pget hp'
    exact hh p pc hp (hi.pc p pc hp)

theorem open_back {s s' : State} {g : Nat → Tcp → Tcp} {h : Nat → PConn → PConn} (pw : Pointwise s s' g h)
    (hm : ∀ (q : Nat) (pc : PConn), (h q pc).closed = false → pc.closed = false) :
    ∀ (p : Nat) (pc' : PConn), s'.pcs[p]? = some pc' → pc'.closed = false → ∃ pc, s.pcs[p]? = some pc ∧ pc.closed = false := by
  intro p pc' hp' ho
  obtain ⟨pc, hp, rfl⟩ := pw.pget hp'
  exact ⟨pc, hp, hm p pc ho⟩

theorem setTcp_inv3 (s : State) (k : Nat) (f : Tcp → Tcp)
    (hf : ∀ t, s.tcps[k]? = some t → TcpC s t → TcpC s (f t)) (hi : Inv3 s) : Inv3 (setTcp s k f) := by
  apply inv3_pointwise (Pointwise.setTcp s k f) _ _ hi
  · intro j t ht hc
    have back := open_back (Pointwise.setTcp s k f) (fun _ _ x => x)
    by_cases e : k = j
    · subst e; rw [if_pos rfl]
      exact (hf t ht hc).transfer (Or.inl rfl) rfl (fun x => x) rfl rfl back (Nat.le_refl _) rfl rfl rfl
    · rw [if_neg e]
      exact hc.transfer (Or.inl rfl) rfl (fun x => x) rfl rfl back (Nat.le_refl _) rfl rfl rfl
  · intro q pc _ hc
    exact hc.transfer (Or.inl rfl) (fun x => x) (Nat.le_refl _) rfl rfl rfl

theorem setPc_inv3 (s : State) (p : Nat) (f : PConn → PConn)
    (hf : ∀ pc, (f pc).closed = pc.closed ∧ ((f pc).alive = pc.alive ∨ ((f pc).alive = none ∧ s.muxClosed = false)))
    (hi : Inv3 s) : Inv3 (setPc s p f) := by
  apply inv3_pointwise (Pointwise.setPc s p f) _ _ hi
  · intro j t _ hc
    refine hc.transfer (Or.inl rfl) rfl (fun x => x) rfl rfl ?_ (Nat.le_refl _) rfl rfl rfl
    apply open_back (Pointwise.setPc s p f)
    intro q pc ho
    by_cases e : p = q
    · rw [if_pos e] at ho; rw [← (hf pc).1]; exact ho
    · rw [if_neg e] at ho; exact ho
  · intro q pc _ hc
    by_cases e : p = q
    · rw [if_pos e]
      refine hc.transfer ?_ (fun x => by rw [← (hf pc).1]; exact x) (Nat.le_refl _) rfl rfl rfl
      rcases (hf pc).2 with x | ⟨x, y⟩
      · exact Or.inl x
      · exact Or.inr ⟨x, Or.inr y⟩
    · rw [if_neg e]
      exact hc.transfer (Or.inl rfl) (fun x => x) (Nat.le_refl _) rfl rfl rfl

theorem handles_inv3 (s : State) (hs : List Handle) (hi : Inv3 s) : Inv3 { s with handles := hs } := by
  have pw : Pointwise s { s with handles := hs } _ _ := Pointwise.same rfl rfl
  apply inv3_pointwise pw _ _ hi
  · intro j t _ hc
    exact hc.transfer (Or.inl rfl) rfl (fun x => x) rfl rfl (open_back pw (fun _ _ x => x)) (Nat.le_refl _) rfl rfl rfl
  · intro q pc _ hc
    exact hc.transfer (Or.inl rfl) (fun x => x) (Nat.le_refl _) rfl rfl rfl

theorem closePc1_inv3 (s : State) (p : Nat) (hi : Inv s) (h3 : Inv3 s) : Inv3 (closePc1 s p) := by
  refine closePc1_rule s p h3 ?_
  intro pc hp hc
  have back := open_back (Pointwise.closePc1 s p pc) (by
      intro q qc ho
      by_cases e : p = q
      · rw [if_pos e] at ho; simp [closedPc] at ho
      · rw [if_neg e] at ho; exact ho)
  apply inv3_pointwise (Pointwise.closePc1 s p pc) _ _ h3
  · intro j t ht hcj
    unfold closeEffect
    by_cases h1 : j ∈ pc.conns.map (·.2)
    · rw [if_pos h1]
      apply TcpC.closedNow rfl rfl
      -- connection j is attached to p, which is closed now
      obtain ⟨a, ha⟩ := mem_conns_snd.1 h1
      obtain ⟨t2, ht2, hph, _⟩ := (hi.pc p pc hp).1 a j ha
      rw [ht] at ht2; cases ht2
      refine Or.inr ⟨p, (hi.att ht hph).1, ?_⟩
      intro pc' hp'
      simp only at hp'
      rw [getElem?_modify_eq, hp] at hp'
      simp only [Option.map_some, Option.some.injEq] at hp'
      rw [← hp']; rfl
    · rw [if_neg h1]
      by_cases hb : j ∈ pc.blockedQ
      · rw [if_pos hb]
        exact hcj.transfer (Or.inl rfl) rfl (fun x => x) rfl rfl back (Nat.le_refl _) rfl rfl rfl
      · rw [if_neg hb]
        exact hcj.transfer (Or.inl rfl) rfl (fun x => x) rfl rfl back (Nat.le_refl _) rfl rfl rfl
  · intro q qc _ hcq
    by_cases e : p = q
    · rw [if_pos e]
      exact hcq.transfer (Or.inr ⟨rfl, Or.inl rfl⟩) (fun x => by simp [closedPc] at x) (Nat.le_refl _) rfl rfl rfl
    · rw [if_neg e]
      exact hcq.transfer (Or.inl rfl) (fun x => x) (Nat.le_refl _) rfl rfl rfl

/-- why a reader loop ends with the connection closed, and what it leaves unread -/
structure DrainCause (inbox : List Item) (d : Drain) : Prop where
  sub : ∀ x, x ∈ d.inbox → x ∈ inbox
  why : d.phase = .closed →
    (∃ f, Item.frame f ∈ inbox ∧ receiveMTU < f.len) ∨ (∃ it, it ∈ inbox ∧ isEnd it = true)

theorem drainFail_inbox (cap k p : Nat) (peer : Addr) (e : ErrKind) (pc : PConn) :
    (drainFail cap k p peer e pc).inbox = [] := by
  unfold drainFail
  simp only
  split
  · split <;> rfl
  · rfl

theorem drain_cause (cap k p : Nat) (peer : Addr) (inbox : List Item) (pc : PConn) :
    DrainCause inbox (drain cap k p peer inbox pc) := by
  induction inbox generalizing pc with
  | nil => unfold drain; exact ⟨by simp, by simp⟩
  | cons it rest ih =>
    cases it with
    | frame f =>
      unfold drain
      split
      · rename_i hbig
        exact ⟨by rw [drainFail_inbox]; simp, fun _ => Or.inl ⟨f, by simp, hbig⟩⟩
      · simp only
        split
        · have h := ih (enqueue pc { src := peer, fid := f.fid, len := f.len, err := none, conn := k })
          refine ⟨fun x hx => List.mem_cons_of_mem _ (h.sub x hx), ?_⟩
          intro hc
          rcases h.why hc with ⟨g, hg, hl⟩ | ⟨it, hit, he⟩
          · exact Or.inl ⟨g, List.mem_cons_of_mem _ hg, hl⟩
          · exact Or.inr ⟨it, List.mem_cons_of_mem _ hit, he⟩
        · exact ⟨fun x hx => List.mem_cons_of_mem _ hx, by simp⟩
    | eof =>
      unfold drain
      exact ⟨by rw [drainFail_inbox]; simp, fun _ => Or.inr ⟨.eof, by simp, rfl⟩⟩
    | reset =>
      unfold drain
      exact ⟨by rw [drainFail_inbox]; simp, fun _ => Or.inr ⟨.reset, by simp, rfl⟩⟩

theorem runReader_inv3 (s : State) (k : Nat) (h3 : Inv3 s) : Inv3 (runReader s k) := by
  refine runReader_rule s k h3 ?_
  intro t p pc d ht hph hrd hp hd
  have dok : DrainOk k p t.peer pc d := hd ▸ drain_ok ..
  have dca : DrainCause t.inbox d := hd ▸ drain_cause ..
  let s' : State := { s with
    tcps := s.tcps.modify k (fun t => { t with phase := d.phase, reader := d.reader, inbox := d.inbox }),
    pcs := s.pcs.modify p (fun _ => d.pc) }
  have pw : Pointwise s s' _ _ := Pointwise.drain s k p d
  have back : ∀ (q : Nat) (pc' : PConn), s'.pcs[q]? = some pc' → pc'.closed = false →
      ∃ pc0, s.pcs[q]? = some pc0 ∧ pc0.closed = false := by
    intro q pc' hq ho
    obtain ⟨qc, hq0, rfl⟩ := pw.pget hq
    refine ⟨qc, hq0, ?_⟩
    by_cases e : p = q
    · subst e
      rw [if_pos rfl] at ho
      rw [hp] at hq0; cases hq0
      rw [← dok.closed]; exact ho
    · rw [if_neg e] at ho; exact ho
  show Inv3 s'
  apply inv3_pointwise pw _ _ h3
  · intro j tj htj hc
    by_cases e : k = j
    · subst e
      rw [ht] at htj; cases htj
      rw [if_pos rfl]
      constructor
      · intro it hit he; exact hc.ends it (dca.sub it hit) he
      · intro f hf; exact hc.frames f (dca.sub _ hf)
      · intro q qc _ hcl _ _
        simp only at hcl
        rcases dca.why hcl with ⟨f, hf, hl⟩ | ⟨it, hit, he⟩
        · exact Or.inr ⟨f, hc.frames f hf, hl⟩
        · exact Or.inl (hc.ends it hit he)
      · intro dd hdd
        simp only at hdd
        rcases dok.shape with ⟨e1, _⟩ | ⟨e1, _⟩ <;> rw [e1] at hdd <;> cases hdd
    · rw [if_neg e]
      exact hc.transfer (Or.inl rfl) rfl (fun x => x) rfl rfl back (Nat.le_refl _) rfl rfl rfl
  · intro q qc hq hc
    by_cases e : p = q
    · subst e
      rw [hp] at hq; cases hq
      rw [if_pos rfl]
      exact hc.transfer (Or.inl dok.alive) (fun x => by rw [← dok.closed]; exact x) (Nat.le_refl _) rfl rfl rfl
    · rw [if_neg e]
      exact hc.transfer (Or.inl rfl) (fun x => x) (Nat.le_refl _) rfl rfl rfl

theorem appendTcp_inv3 (s : State) (h3 : Inv3 s) (t : Tcp) (ht : TcpC s t) : Inv3 { s with tcps := s.tcps ++ [t] } := by
  constructor
  · intro j tj htj
    simp only at htj
    rw [List.getElem?_append] at htj
    have mk : ∀ x : Tcp, TcpC s x → TcpC { s with tcps := s.tcps ++ [t] } x := fun x hx =>
      ⟨hx.ends, hx.frames, hx.cause, hx.dl⟩
    split at htj
    · exact mk tj (h3.tcp j tj htj)
    · cases hjl : j - s.tcps.length with
      | zero => rw [hjl] at htj; simp at htj; rw [← htj]; exact mk t ht
      | succ n => rw [hjl] at htj; simp at htj
  · intro q qc hq
    have := h3.pc q qc hq
    exact ⟨this.al, this.post⟩

theorem appendPc_inv3 (s : State) (h2 : Inv2 s) (h3 : Inv3 s) (npc : PConn) (hn : PcC s npc) :
    Inv3 { s with pcs := s.pcs ++ [npc] } := by
  constructor
  · intro j tj htj
    have old := h3.tcp j tj htj
    refine ⟨old.ends, old.frames, ?_, old.dl⟩
    intro p pc a b c d
    obtain ⟨pc0, hpc0⟩ := (h2.tcp j tj htj).ref p a
    have : (s.pcs ++ [npc])[p]? = some pc0 := getElem?_append_old _ _ _ _ hpc0
    simp only at c
    rw [this] at c; cases c
    exact old.cause p pc a b hpc0 d
  · intro q qc hq
    simp only at hq
    rw [List.getElem?_append] at hq
    split at hq
    · have := h3.pc q qc hq
      exact ⟨this.al, this.post⟩
    · cases hjl : q - s.pcs.length with
      | zero => rw [hjl] at hq; simp at hq; rw [← hq]; exact ⟨hn.al, hn.post⟩
      | succ n => rw [hjl] at hq; simp at hq

theorem ensurePc_flags (s : State) (key : Key) :
    (ensurePc s key).1.muxClosed = s.muxClosed ∧ (ensurePc s key).1.closedAt = s.closedAt ∧
    (ensurePc s key).1.cfg = s.cfg := by
  unfold ensurePc; split <;> exact ⟨rfl, rfl, rfl⟩

theorem closeFresh_inv3 (s : State) (h3 : Inv3 s) (k : Nat) (f : Tcp → Tcp)
    (hf : ∀ t, s.tcps[k]? = some t → (f t).inbox = [] ∧ (f t).phase = .closed ∧ (f t).pc = none) :
    Inv3 (setTcp s k f) := by
  apply setTcp_inv3 s k f _ h3
  intro t ht _
  obtain ⟨a, b, c⟩ := hf t ht
  exact TcpC.closedNow a b (Or.inl c)

theorem micro_inv3 {s s' : State} (m : Micro s s') (hi : Inv s) (h2 : Inv2 s) (h3 : Inv3 s) : Inv3 s' := by
  have same : ∀ (x : State) (k : Nat) (f : Tcp → Tcp), Inv3 x →
      (∀ t, (f t).inbox = t.inbox ∧ (f t).phase = t.phase ∧ (f t).pc = t.pc ∧ (f t).cEnd = t.cEnd ∧
        (f t).sent = t.sent) → Inv3 (setTcp x k f) := by
    intro x k f hx hf
    apply setTcp_inv3 x k f _ hx
    intro t _ hc
    obtain ⟨a, b, c, d, e⟩ := hf t
    exact ⟨by rw [a, d]; exact hc.ends, by rw [a, e]; exact hc.frames, by rw [b, c, d, e]; exact hc.cause,
      by rw [b]; exact hc.dl⟩
  cases m with
  | accept peer lip hl =>
    apply appendTcp_inv3 s h3
    constructor
    · intro it hit; cases hit
    · intro f hf; cases hf
    · intro p pc a; cases a
    · intro d hd
      simp only [Phase.pending.injEq] at hd
      refine ⟨by omega, ?_⟩
      intro hm
      rw [hi.lis hm] at hl; cases hl
  | refuse peer lip => exact appendTcp_inv3 s h3 _ (TcpC.closedNow rfl rfl (Or.inl rfl))
  | reject k t d f ht hph =>
    apply closeFresh_inv3 s h3
    intro t' ht'
    rw [ht] at ht'; cases ht'
    exact ⟨rfl, rfl, ((h2.tcp k t ht).fresh d hph).1⟩
  | hangup k t d ht hph =>
    apply closeFresh_inv3 s h3
    intro t' ht'
    rw [ht] at ht'; cases ht'
    exact ⟨rfl, rfl, ((h2.tcp k t ht).fresh d hph).1⟩
  | stall k => exact same s k _ h3 (fun t => ⟨rfl, rfl, rfl, rfl, rfl⟩)
  | gone k =>
    apply setTcp_inv3 s k _ _ h3
    intro t' _ hc
    exact ⟨fun _ _ _ => rfl, hc.frames, fun _ _ _ _ _ _ => Or.inl rfl, hc.dl⟩
  | wrote k pid len => exact same s k _ h3 (fun t => ⟨rfl, rfl, rfl, rfl, rfl⟩)
  | push k t q f ht hph =>
    apply runReader_inv3
    apply setTcp_inv3 s k _ _ h3
    intro t' ht' hc
    rw [ht] at ht'; cases ht'
    constructor
    · intro it hit he
      simp only [List.mem_append, List.mem_singleton] at hit
      rcases hit with hit | hit
      · exact hc.ends it hit he
      · rw [hit] at he; cases he
    · intro g hg
      simp only [List.mem_append, List.mem_singleton, Item.frame.injEq] at hg ⊢
      rcases hg with hg | hg
      · exact Or.inl (hc.frames g hg)
      · exact Or.inr hg
    · intro p pc _ hcl; simp only at hcl; rw [hph] at hcl; cases hcl
    · intro d hd; simp only at hd; rw [hph] at hd; cases hd
  | pushEnd k t q reset ht hph =>
    apply runReader_inv3
    apply setTcp_inv3 s k _ _ h3
    intro t' ht' hc
    rw [ht] at ht'; cases ht'
    constructor
    · intro _ _ _; rfl
    · intro g hg
      simp only [List.mem_append, List.mem_singleton] at hg
      rcases hg with hg | hg
      · exact hc.frames g hg
      · cases reset <;> simp at hg
    · intro p pc _ hcl; simp only at hcl; rw [hph] at hcl; cases hcl
    · intro d hd; simp only at hd; rw [hph] at hd; cases hd
  | provision key k t d ht hph hn =>
    apply appendPc_inv3 s h2 h3
    constructor
    · intro d hd
      simp only [Option.some.injEq] at hd
      omega
    · intro hm _
      -- a connection is still pending, so `Close` was called less than the first-bind timeout ago
      have h1 := ((h3.tcp k t ht).dl d hph).2 hm
      have h0 := hi.pend ht hph
      exact ⟨_, rfl, by omega⟩
  | register p k t d pc f ht hph hp ho hdup =>
    apply runReader_inv3
    apply setTcp_inv3
    · intro t' _ _
      constructor
      · intro it hit he
        simp only [List.mem_singleton] at hit
        rw [hit] at he; cases he
      · intro g hg
        simp only [List.mem_singleton, Item.frame.injEq] at hg
        rw [hg]; simp
      · intro q qc _ hcl; simp only at hcl; cases hcl
      · intro d hd; simp only at hd; cases hd
    · exact setPc_inv3 s p _ (fun pc => ⟨rfl, Or.inl rfl⟩) h3
  | close p => exact closePc1_inv3 s p hi h3
  | tick now' hle hsp =>
    apply inv3_pointwise (Pointwise.tick s now') _ _ h3
    · intro j t ht hc
      have back := open_back (Pointwise.tick s now') (fun _ _ x => x)
      unfold expireTcp
      split
      · rename_i d hph
        split
        · exact TcpC.closedNow rfl rfl (Or.inl ((h2.tcp j t ht).fresh d hph).1)
        · exact hc.transfer (Or.inl rfl) rfl (fun x => x) rfl rfl back hle rfl rfl rfl
      · exact hc.transfer (Or.inl rfl) rfl (fun x => x) rfl rfl back hle rfl rfl rfl
    · intro q pc _ hc
      exact hc.transfer (Or.inl rfl) (fun x => x) hle rfl rfl rfl
  | claim key p hm hp =>
    apply handles_inv3
    apply setPc_inv3 s _ _ _ h3
    intro pc
    exact ⟨rfl, Or.inr ⟨rfl, hm⟩⟩
  | create key hm hn =>
    apply handles_inv3 { s with pcs := s.pcs ++ [_] }
    apply appendPc_inv3 s h2 h3
    constructor
    · intro d hd; cases hd
    · intro hm'; rw [hm'] at hm; cases hm
  | closeH h => exact handles_inv3 s _ h3
  | decRef p => exact setPc_inv3 s p _ (fun pc => ⟨rfl, Or.inl rfl⟩) h3
  | pop p pc pkt q hp hq => exact setPc_inv3 s p _ (fun pc => ⟨rfl, Or.inl rfl⟩) h3
  | unblockQ p k pc bq t bp fin hp hbq ht hrd =>
    exact runReader_inv3 _ k (same _ k _ (setPc_inv3 s p _ (fun pc => ⟨rfl, Or.inl rfl⟩) h3)
      (fun t => ⟨rfl, rfl, rfl, rfl, rfl⟩))
  | unblockE p k pc bq t bp fin hp hq hbq ht hrd =>
    exact runReader_inv3 _ k (same _ k _ (setPc_inv3 s p _ (fun pc => ⟨rfl, Or.inl rfl⟩) h3)
      (fun t => ⟨rfl, rfl, rfl, rfl, rfl⟩))
  | shut hm hall =>
    constructor
    · intro k t ht
      have old := h3.tcp k t ht
      refine ⟨old.ends, old.frames, old.cause, ?_⟩
      intro d hd
      exact ⟨(old.dl d hd).1, fun _ => (old.dl d hd).1⟩
    · intro q qc hq
      have old := h3.pc q qc hq
      refine ⟨old.al, ?_⟩
      intro _ ho
      rw [hall q qc hq] at ho; cases ho

theorem step_inv3 (s : State) (op : Op) (hi : Inv s) (h2 : Inv2 s) (h3 : Inv3 s) : Inv3 (step s op).1 :=
  ((step_chain s op).keeps (P := fun x => (Inv x ∧ Inv2 x) ∧ Inv3 x)
    (fun _ _ m h => ⟨⟨micro_inv m h.1.1, micro_inv2 m h.1.1 h.1.2⟩, micro_inv3 m h.1.1 h.1.2 h.2⟩)
    ⟨⟨hi, h2⟩, h3⟩).2

structure Good (s : State) : Prop where
  inv : Inv s
  inv2 : Inv2 s
  inv3 : Inv3 s
  drained : Drained s

theorem good_init (cfg : Config) : Good (init cfg) :=
  ⟨inv_init cfg, inv2_init cfg, inv3_init cfg, by intro k t h; simp [init] at h⟩

theorem good_step {s : State} (g : Good s) (op : Op) : Good (step s op).1 :=
  ⟨step_inv s op g.inv, step_inv2 s op g.inv g.inv2, step_inv3 s op g.inv g.inv2 g.inv3, step_drained s op g.inv g.drained⟩

theorem good_run {s : State} (g : Good s) (ops : List Op) : Good (run s ops) := by
  induction ops generalizing s with
  | nil => exact g
  | cons op ops ih => exact ih (good_step g op)

theorem reachable_good (cfg : Config) (ops : List Op) : Good (run (init cfg) ops) := good_run (good_init cfg) ops

theorem reachable_inv (cfg : Config) (ops : List Op) : Inv (run (init cfg) ops) := (reachable_good cfg ops).inv
theorem reachable_inv2 (cfg : Config) (ops : List Op) : Inv2 (run (init cfg) ops) := (reachable_good cfg ops).inv2
theorem reachable_inv3 (cfg : Config) (ops : List Op) : Inv3 (run (init cfg) ops) := (reachable_good cfg ops).inv3
theorem reachable_drained (cfg : Config) (ops : List Op) : Drained (run (init cfg) ops) := (reachable_good cfg ops).drained

end IceProofs.TcpMux

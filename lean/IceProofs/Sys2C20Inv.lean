import IceProofs.Sys2C20Hist
import IceProofs.Sys2C20Frame
import IceProofs.Sys2C20Outs
/-!
# C20 on `Sys2` — the invariant of a renomination exchange and its preservation by one agent event

`Session s`: both agents started and open, A controlling, B controlled and full, neither Failed.
`QInv nat h s`: what holds in every state of an exchange with history `h` (see the fields).  That one agent event,
clock changes and the removal of datagrams preserve it is proved in `Sys2C20Step` (`qinv_frame`, `qinv_stepA`) and
`Sys2C20Run` (`qinv_stepB`).
-/
namespace IceProofs.C20S
open IceModel.AgentCore IceModel.Sys2 IceProofs.Sys2Run IceProofs.Agent IceProofs.Sys2C05

/-- the roles and liveness assumed of an exchange: A controlling, B controlled and a full agent, both started, open
and not Failed -/
def Session (s : Sys) : Prop :=
  s.a.started = true ∧ s.b.started = true ∧ s.a.closed = false ∧ s.b.closed = false ∧
  s.a.controlling = true ∧ s.b.controlling = false ∧ s.a.connState ≠ .failed ∧ s.b.connState ≠ .failed ∧
  s.b.cfg.lite = false

instance (s : Sys) : Decidable (Session s) := by unfold Session; infer_instance

theorem session_iff {s : Sys} : Session s ↔ PostA s.a ∧ PostB s.b :=
  ⟨fun ⟨h1, h2, h3, h4, h5, h6, h7, h8, h9⟩ => ⟨⟨h1, h3, h5, h7⟩, h2, h4, h6, h8, h9⟩,
   fun ⟨⟨h1, h3, h5, h7⟩, h2, h4, h6, h8, h9⟩ => ⟨h1, h2, h3, h4, h5, h6, h7, h8, h9⟩⟩

theorem session_postA {s : Sys} (h : Session s) : PostA s.a := (session_iff.1 h).1
theorem session_postB {s : Sys} (h : Session s) : PostB s.b := (session_iff.1 h).2

theorem agentEv_nat (s : Sys) (X : Bool) (e : Ev) : (s.agentEv X e).1.nat = s.nat := (agentEv_topo s X e).1

/-! `agentEv_same`, `agentEv_other`, `agentEv_inflight` read for A (`false`) and B (`true`), with `Sys.agent` computed. -/
theorem agentEv_a_false (s : Sys) (e : Ev) : (s.agentEv false e).1.a = (step s.a e).1 := agentEv_same s false e
theorem agentEv_b_false (s : Sys) (e : Ev) : (s.agentEv false e).1.b = s.b := agentEv_other s false e
theorem agentEv_a_true (s : Sys) (e : Ev) : (s.agentEv true e).1.a = s.a := agentEv_other s true e
theorem agentEv_b_true (s : Sys) (e : Ev) : (s.agentEv true e).1.b = (step s.b e).1 := agentEv_same s true e
theorem agentEv_inflight_false (s : Sys) (e : Ev) :
    (s.agentEv false e).1.inflight = s.inflight ++ dgramsOf (step s.a e).2 := agentEv_inflight s false e
theorem agentEv_inflight_true (s : Sys) (e : Ev) :
    (s.agentEv true e).1.inflight = s.inflight ++ dgramsOf (step s.b e).2 := agentEv_inflight s true e

/-- what the invariant says of a datagram in flight: a nomination value is carried only by a Binding request A issued
from `d.src` to `d.dst` with that value -/
def DgramOK (h : Hist) (d : Dgram) : Prop :=
  ∀ m, d.p = .stun m → ∀ v, m.nom = some v → m.cls = 0 ∧ (v, d.src, d.dst) ∈ h.issued

theorem DgramOK.mono {h h' : Hist} {d : Dgram} (hd : DgramOK h d) (hsub : ∀ x ∈ h.issued, x ∈ h'.issued) :
    DgramOK h' d := by
  intro m hm v hv
  exact ⟨(hd m hm v hv).1, hsub _ (hd m hm v hv).2⟩

/-- the mark clause of the invariant for one pair of B: a deferred value is at most the highest accepted value -/
def MarkOK (last : Option Nat) (p : Pair) : Prop :=
  ∀ v', p.deferredNom = some v' → ∃ l, last = some l ∧ v' ≤ l

/-- the invariant of an exchange (`nat` = the NAT mapping of the topology) -/
structure QInv (nat : List (Nat × Nat)) (h : Hist) (s : Sys) : Prop where
  topo : s.nat = nat
  invA : AgentC06.Inv s.a
  invB : AgentC06.Inv s.b
  sess : Session s
  /-- datagrams in flight -/
  fl : ∀ d ∈ s.inflight, DgramOK h d
  /-- every outstanding transaction of A that carries a value belongs to an issued nomination -/
  pendA : ∀ pd ∈ s.a.pending, ∀ v, pd.nom = some v → (v, pd.src, pd.dest) ∈ h.issued
  /-- every answered nomination was issued, and A's `answeredNomination` is at least its value -/
  ansA : ∀ x ∈ h.answered, x ∈ h.issued ∧ ∃ w, s.a.answeredNomination = some w ∧ x.1 ≤ w
  /-- A's `answeredNomination` is the value of an answered nomination, and A's selected pair is that nomination's -/
  selA : ∀ w, s.a.answeredNomination = some w →
    ∃ x ∈ h.answered, x.1 = w ∧ selAddrs s.a = some (x.2.1, x.2.2)
  /-- B's highest accepted value is the value accepted last -/
  lastB : s.b.lastNomination = h.accepted.map (·.1)
  /-- it was issued by A, arrived on the mirror image (modulo NAT) of the pair A issued it on, and the pair it arrived
  on is selected or carries it as a deferred nomination waiting for validation; no other pair carries that value -/
  accB : ∀ v lb rb, h.accepted = some (v, lb, rb) →
    (∃ la ra, (v, la, ra) ∈ h.issued ∧ lb = unmappedL nat ra ∧ rb = mappedL nat la) ∧
    ∃ id, pairAddrs s.b id = some (lb, rb) ∧
      (s.b.selected = some id ∨ ∃ p ∈ s.b.checklist, p.id = id ∧ nk p = (false, true, some v)) ∧
      ∀ p ∈ s.b.checklist, p.deferredNom = some v → p.id = id
  /-- deferred values of B never exceed the highest accepted one -/
  defB : ∀ p ∈ s.b.checklist, MarkOK s.b.lastNomination p

theorem QInv.accepted_of_last {nat : List (Nat × Nat)} {h : Hist} {s : Sys} (q : QInv nat h s) {v : Nat}
    (hv : s.b.lastNomination = some v) : ∃ lb rb, h.accepted = some (v, lb, rb) := by
  rw [q.lastB] at hv
  cases hacc : h.accepted with
  | none => rw [hacc] at hv; cases hv
  | some x =>
    obtain ⟨v', lb, rb⟩ := x
    rw [hacc] at hv
    cases hv
    exact ⟨lb, rb, rfl⟩

theorem ids_unique {a : Agent} (hi : AgentC06.Inv a) {p q : Pair} (hp : p ∈ a.checklist) (hq : q ∈ a.checklist)
    (h : p.id = q.id) : p = q :=
  (IceProofs.Agent.find?_key_unique (k := Pair.id) hi.idsNodup (pairById_of_mem_nodup hi.idsNodup hp) hq h.symm).symm

theorem pairById_of_mem {a : Agent} (hi : AgentC06.Inv a) {p : Pair} (hp : p ∈ a.checklist) :
    a.pairById p.id = some p :=
  pairById_of_mem_nodup hi.idsNodup hp

theorem selAddrs_of_selected {a : Agent} {id : Nat} (h : a.selected = some id) : selAddrs a = pairAddrs a id := by
  unfold selAddrs; rw [h]; rfl

theorem mem_dgramsOf_stun {o : List Out} {d : Dgram} (hd : d ∈ dgramsOf o) {m : Msg} (hp : d.p = .stun m) :
    Out.dgram d.src d.dst m ∈ o := mem_dgramsOf hd hp

theorem selAddrs_keep {ex : Option Nat} {iss : Option (Nat × Nat × Nat)} {a a' : Agent} (hq : NomQ ex iss a a')
    (hs : a'.selected = a.selected) (x : Nat × Nat) (hx : selAddrs a = some x) : selAddrs a' = some x := by
  unfold selAddrs at hx ⊢
  rw [hs]
  cases hsel : a.selected with
  | none => rw [hsel] at hx; cases hx
  | some id =>
    rw [hsel] at hx
    exact hq.addrs id x hx

theorem selAddrs_some_selected {a : Agent} {x : Nat × Nat} (h : selAddrs a = some x) : a.selected.isNone = false := by
  unfold selAddrs at h
  cases hs : a.selected with
  | none => rw [hs] at h; cases h
  | some _ => rfl

end IceProofs.C20S

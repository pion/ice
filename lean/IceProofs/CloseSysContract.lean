import IceProofs.CloseSysAfter
/-! # CloseSys — the documented contract "GracefulClose is not called synchronously from a handler"
(agent.go:1534-1536) as a predicate on states, and its preservation -/
namespace IceProofs.CloseSys
open IceModel.CloseSys

def NoG (p : List UOp) : Prop := UOp.close true ∉ p

def LocNoG : Loc → Prop
  | .cOnce true | .cPre true | .cWaitLoop true | .cNotif true _ | .cWait true _ => False
  | _ => True

/-- no handler program contains `GracefulClose`, and no drainer is inside one. -/
def Contract (s : State) : Prop :=
  ∀ (i : Nat) (st : Stream), s.streams[i]? = some st → (∀ p ∈ st.hdl, NoG p) ∧ NoG st.th.prog ∧ LocNoG st.th.loc

instance : DecidablePred LocNoG := fun l => by
  unfold LocNoG; split <;> infer_instance

theorem Contract.ck {s s' : State} (h : Contract s) (c : StreamsCk s s') : Contract s' := by
  intro j st' hj
  obtain ⟨st, h1, h2, h3⟩ := c j st' hj
  rw [h2, h3]; exact h j st h1

theorem NoG.tail {p : List UOp} (h : NoG p) : NoG p.tail := fun hm => h (List.mem_of_mem_tail hm)

/-- a thread that respects the contract keeps doing so: `GracefulClose` is not in its program, so it never
enters a graceful location. -/
theorem callStep_noG {s s1 : State} {t : Tid} {th th' : Th} {alt : Bool}
    (hs : callStep s t th alt = some (s1, th')) (h1 : NoG th.prog) (h2 : LocNoG th.loc) :
    NoG th'.prog ∧ LocNoG th'.loc := by
  have notG : ∀ {g : Bool} {l : Bool → Loc}, th.loc = l g → ¬ LocNoG (l true) → g = false := by
    intro g l e hl
    cases g with
    | false => rfl
    | true => exact absurd (e ▸ h2) hl
  apply callStep_cases hs
  case ret => exact fun _ _ _ => ⟨h1.tail, trivial⟩
  case close =>
    intro g r _ hp
    cases g with
    | false => exact ⟨h1, trivial⟩
    | true => exact absurd (by simp [hp]) h1
  case takeOnce => intro g hloc _; cases notG (l := .cOnce) hloc id; exact ⟨h1, trivial⟩
  case onceOver => intro g hloc _; cases notG (l := .cOnce) hloc id; exact ⟨h1, trivial⟩
  case abortNext => exact fun _ _ _ _ _ => ⟨h1, h2⟩
  case finishOnce => intro g _ hloc _ _; cases notG (l := .cPre) hloc id; exact ⟨h1, trivial⟩
  case loopGone => intro g hloc _; cases notG (l := .cWaitLoop) hloc id; exact ⟨h1, trivial⟩
  case closeNotif => intro g i hloc _; cases notG (l := (.cNotif · i)) hloc id; exact ⟨h1, trivial⟩
  case closed => exact fun _ _ _ _ => ⟨h1.tail, trivial⟩
  case drained => intro g i hloc _; cases notG (l := (.cWait · i)) hloc id; exact ⟨h1, trivial⟩
  all_goals intros; exact ⟨h1, trivial⟩

theorem Contract.setTh {s s1 : State} (h : Contract s) (ck : StreamsCk s s1) (t : Tid) (x : Th)
    (hx : ∀ i, t = .dr i → NoG x.prog ∧ LocNoG x.loc) : Contract (setTh s1 t x) := by
  intro j st' hj
  obtain ⟨st1, h1, _, _, _, h5, h6⟩ := setTh_streams s1 t x j st' hj
  obtain ⟨st, h0, h2, h3⟩ := ck j st1 h1
  obtain ⟨a1, a2, a3⟩ := h j st h0
  refine ⟨by rw [h5, h2]; exact a1, ?_⟩
  rcases h6 with ⟨rfl, e⟩ | ⟨_, e⟩
  · rw [e]; exact hx j rfl
  · rw [e, h3]; exact ⟨a2, a3⟩

theorem NoG_hdlOf {st : Stream} (h : ∀ p ∈ st.hdl, NoG p) (e : Nat) : NoG (hdlOf st e) := by
  unfold hdlOf
  rcases Nat.lt_or_ge e st.hdl.length with h1 | h1
  · rw [List.getD_eq_getElem?_getD, List.getElem?_eq_getElem h1]; exact h _ (List.getElem_mem h1)
  · rw [List.getD_eq_getElem?_getD, List.getElem?_eq_none h1]; simp [NoG]

theorem contract_step {s s' : State} {a : Action} (h : Contract s) (hs : step s a = some s') : Contract s' := by
  have ckset : ∀ {i : Nat} {st : Stream} (st2 : Stream), s.streams[i]? = some st → st2.hdl = st.hdl → st2.th = st.th →
      StreamsCk s { s with streams := s.streams.set i st2 } := by
    intro i st st2 hst e1 e2 j st' hj
    simp only [List.getElem?_set] at hj
    split at hj
    · subst_vars
      split at hj
      · simp at hj; subst hj; exact ⟨st, hst, e1, e2⟩
      · simp at hj
    · exact ⟨st', hj, rfl, rfl⟩
  have dr : ∀ {t : Tid} {th : Th} {i : Nat}, getTh s t = some th → t = .dr i →
      NoG th.prog ∧ LocNoG th.loc := by
    intro t th i hget e; subst e
    simp only [getTh] at hget
    cases hst : s.streams[i]? with
    | none => simp [hst] at hget
    | some st =>
      simp [hst] at hget; subst hget
      exact (h i st hst).2
  unfold step at hs
  split at hs
  · exact h.ck (loopStep_frame hs).2.2.2.2
  · apply thStep_cases hs
    case leave => rintro n th rfl _ _ _ _ _; exact h.setTh (.of_eq rfl) _ _ (fun i e => by cases e)
    case drExit => rintro i st rfl hst _ _ _; exact h.ck (ckset _ hst rfl rfl)
    case drNext =>
      rintro i st e q rfl hst _ hl _ _
      refine h.setTh (ckset { st with queue := q } hst rfl rfl) _ _ (fun _ _ => ⟨NoG_hdlOf (h i st hst).1 e, ?_⟩)
      show LocNoG st.th.loc
      rw [hl]; trivial
    case call =>
      intro th s1 th' hget _ hc
      exact h.setTh (callStep_stays hc).2 _ _ (fun i e => callStep_noG hc (dr hget e).1 (dr hget e).2)
  · apply rlStep_cases hs <;> (intros; exact h.ck (.of_eq rfl))
  · apply envStep_cases hs
    case thRet =>
      intro t th n hget _ _
      exact h.setTh (s1 := { s with bufData := n }) (.of_eq rfl) _ _ (fun i e => ⟨(dr hget e).1.tail, trivial⟩)
    all_goals intros; exact h.ck (.of_eq rfl)

theorem reach_contract {s0 s : State} (h0 : Contract s0) (hr : Reach s0 s) : Contract s := by
  induction hr with
  | init => exact h0
  | step a _ hs ih => exact contract_step ih hs

end IceProofs.CloseSys

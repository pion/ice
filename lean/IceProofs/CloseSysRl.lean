import IceProofs.CloseSysLoop
/-! # CloseSys — the hand-off of a task and the moves of a receive loop preserve `Inv` -/
namespace IceProofs.CloseSys
open IceModel.CloseSys

theorem taskWF_writes {s : State} {task : List TOp} (h : taskWF s task = true) :
    ∀ c, TOp.write c ∈ task → c < s.cands.length := by
  induction task with
  | nil => simp
  | cons op ops ih =>
    intro c hc
    cases op <;> simp [taskWF] at h <;> simp at hc
    · rcases hc with rfl | hc
      · exact h.1
      · exact ih h.2 c hc
    all_goals exact ih h c hc

theorem taskWF_congr {s s' : State} (h : s'.cands.length = s.cands.length) (task : List TOp) :
    taskWF s' task = taskWF s task := by
  induction task with
  | nil => rfl
  | cons op ops ih => cases op <;> simp [taskWF, ih, h]

/-- taskloop.go:100 ↔ :60: the loop takes a task (only while `done` is open, R1). -/
theorem Inv.handoff {s : State} (h : Inv s) {o : Tid} {task : List TOp} {n : Nat}
    (hl : s.loop = .idle) (hd : s.done = false) (hwf : taskWF s task = true)
    (hrl : ∀ c, o = .rl c → TOp.closeCands ∉ task) :
    Inv { s with loop := .task o task, tasksRun := n } := by
  have hfree : s.once = .free := by
    cases ho : s.once with
    | free => rfl
    | _ => have := h.doneOnce.2 (by simp [ho]); simp [hd] at this
  refine h.loopFrame (by simp) (by simp) (by simp) (by simp) (by simp) (by simp) (by simp [hl]) (by simp [stage])
    (.of_eq rfl) (.of_eq rfl) (h.candsKeep rfl (by simp [stage])) (.of_eq rfl) ?_ ⟨?_, by simp⟩ (by simp [stage])
    (by simpa using h.gcurOK)
  · intro c hc
    exact Or.inr ⟨hfree, taskWF_writes hwf c (by simpa [loopOps] using hc)⟩
  · intro c ops hx
    simp at hx; obtain ⟨rfl, rfl⟩ := hx
    exact hrl c rfl

theorem Inv.candRl {s : State} (h : Inv s) {c : Nat} {cd : Cand} (hc : s.cands[c]? = some cd)
    (hne : cd.rl ≠ .exited) (r : RlLoc) (hr : r = .exited → cd.aborted = true) (inb' : Nat) :
    Inv { s with cands := s.cands.set c { cd with rl := r, inb := inb' } } := by
  obtain ⟨a1, a2, a3⟩ := h.candOK c cd hc
  have hlt : c < s.cands.length := getElem?_lt hc
  have hlisted : cd.listed = true := by
    cases hx : cd.listed with
    | true => rfl
    | false => exact absurd (a1 hx) hne
  have hst4 : ¬ 4 ≤ stage s.loop := fun hx => hne (a3 hx)
  refine h.setTables _ s.streams (.of_eq rfl) ?_ ?_
  · intro j cd' hj
    simp only [List.getElem?_set] at hj
    split at hj
    · subst_vars; simp at hj; subst hj
      exact ⟨⟨by simp [hlisted], by simpa using hr⟩, fun hx => absurd hx hst4⟩
    · obtain ⟨b1, b2, b3⟩ := h.candOK j cd' hj; exact ⟨⟨b1, b2⟩, b3⟩
  · intro j cd0 hj
    simp only [List.getElem?_set]
    split
    · subst_vars; rw [hc] at hj; cases hj; simp
    · exact ⟨cd0, hj, id⟩

theorem inv_rlStep {s s' : State} {c : Nat} {alt : Bool} (h : Inv s) (hs : rlStep s c alt = some s') : Inv s' := by
  apply rlStep_cases hs
  case toRead =>
    intro cd hc hrl
    exact h.candRl hc (by rcases hrl with e | e | e <;> simp [e]) .read (by simp) cd.inb
  case exit =>
    intro cd hc hrl hab
    exact h.candRl hc (by rcases hrl with e | e <;> simp [e]) .exited (fun _ => hab) cd.inb
  case handoff =>
    intro cd hc hrl hl hd hwf
    exact (h.candRl hc (by simp [hrl]) .rWait (by simp) cd.inb).handoff (o := .rl c) hl hd
      (by rw [taskWF_congr (s := s) (by simp)]; exact hwf) (fun _ _ => h.rlTask.2.2)

theorem Inv.ofEq {s s' : State} (h : Inv s) (e : s' = s) : Inv s' := e ▸ h

end IceProofs.CloseSys

import IceProofs.UdpMuxInv
import IceModel.UniMux
/-!
Lemmas about the model of `UniversalUDPMuxDefault` (`IceModel.UniMux`).  What the parts of an operation do, each said
once: `tap_cases` (the interception either leaves everything alone or is `tapped`), `CachedTo` with `cached_to` (the
three outcomes of `cachedXORMappedAddr`; a fact about `cached` is stated about the relation, `CachedTo.proj`,
`CachedTo.hit`, `CachedTo.xinv`, and used through `cached_to`), the equations `inbound_eq` and `xorStart_eq`.  The layer
never touches the embedded mux: what an operation does to `base` is a run of `IceModel.UdpMux` over `proj`
(`step_base`, `run_base`; `inbound_main` for the output).  Then the interception rule in closed form
(`tap_learned_iff`, `tap_xmap_other`, `tap_woke`), the invariant `XInv` of the layer's own state (`XInvX`: with one
entry possibly missing, the state inside `xorStart`) and its preservation, and `started` in terms of the history
(`mem_started_iff`).
-/
namespace IceProofs.UniMux
open IceModel.UdpMux IceModel.UniMux IceProofs.UdpMux

theorem wakeAll_fst (m : UMux) (a : Addr) (r : WRes) (i : Nat) :
    (wakeAll m a r).1 i = if i < m.nwaiters ∧ (m.waiter i).res = none ∧ (m.waiter i).srv = a
      then { m.waiter i with res := some r } else m.waiter i := rfl

theorem wakeAll_snd (m : UMux) (a : Addr) (r : WRes) : (wakeAll m a r).2 = (blockedOn m a).map (fun i => (i, r)) := rfl

/-- `closeWaiters` on the entry `e` of `a`: nothing happens once the channel is closed -/
def wakeIf (m : UMux) (a : Addr) (e : XEntry) (r : WRes) : (Nat → Waiter) × List (Nat × WRes) :=
  if e.signalled then (m.waiter, []) else wakeAll m a r

/-- state and effects after `tap` took a datagram carrying `v` for the entry `e` of `a` -/
def tapped (m : UMux) (a : Addr) (e : XEntry) (v : Nat) : UMux × Fx :=
  ({ m with xmap := setX m.xmap a (some { e with addr := some v, signalled := true }),
            waiter := (wakeIf m a e (.ok v)).1 },
   { learned := some (a, v), woke := (wakeIf m a e (.ok v)).2 })

theorem tap_cases (m : UMux) (src : Addr) (k : Kind) (x : XView) :
    (tap m src k x = (m, {}) ∧
        ∀ v, ¬ (decodable k = true ∧ x.xa = .value v ∧ (m.xmap (canonAddr src)).isSome = true))
    ∨ ∃ v e, decodable k = true ∧ x.xa = .value v ∧ m.xmap (canonAddr src) = some e
        ∧ tap m src k x = tapped m (canonAddr src) e v := by
  unfold tap tapped wakeIf
  dsimp only []
  cases hd : decodable k
  · exact Or.inl ⟨rfl, fun v h => by cases h.1⟩
  · cases hx : x.xa with
    | absent => exact Or.inl ⟨rfl, fun v h => by cases h.2.1⟩
    | malformed => exact Or.inl ⟨rfl, fun v h => by cases h.2.1⟩
    | value v =>
      cases he : m.xmap (canonAddr src) with
      | none => exact Or.inl ⟨rfl, fun v' h => by cases h.2.2⟩
      | some e => exact Or.inr ⟨v, e, rfl, rfl, rfl, rfl⟩

theorem tap_base (m : UMux) (src : Addr) (k : Kind) (x : XView) : (tap m src k x).1.base = m.base := by
  rcases tap_cases m src k x with ⟨h, _⟩ | ⟨v, e, _, _, _, h⟩ <;> rw [h] <;> rfl

theorem inbound_eq (m : UMux) (src : Addr) (k : Kind) (x : XView) (pid : Nat) :
    IceModel.UniMux.inbound m src k x pid =
      if m.base.closed then (m, { main := .base .dropped }) else
      ({ (tap m src k x).1 with base := (IceModel.UdpMux.inbound (tap m src k x).1.base src k pid).1 },
       { main := .base (IceModel.UdpMux.inbound (tap m src k x).1.base src k pid).2, fx := (tap m src k x).2 }) := rfl

theorem inbound_closed (b : Mux) (src : Addr) (k : Kind) (pid : Nat) (h : b.closed = true) :
    IceModel.UdpMux.inbound b src k pid = (b, .dropped) := by
  unfold IceModel.UdpMux.inbound
  rw [if_pos h]

theorem inbound_base (m : UMux) (src : Addr) (k : Kind) (x : XView) (pid : Nat) :
    (IceModel.UniMux.inbound m src k x pid).1.base = (IceModel.UdpMux.inbound m.base src k pid).1 := by
  rw [inbound_eq]
  rcases Bool.eq_false_or_eq_true m.base.closed with h | h
  · rw [if_pos h, inbound_closed _ _ _ _ h]
  · rw [if_neg (by simp [h])]
    simp only [tap_base]

theorem inbound_main (m : UMux) (src : Addr) (k : Kind) (x : XView) (pid : Nat) :
    (IceModel.UniMux.inbound m src k x pid).2.main = .base (IceModel.UdpMux.inbound m.base src k pid).2 := by
  rw [inbound_eq]
  rcases Bool.eq_false_or_eq_true m.base.closed with h | h
  · rw [if_pos h, inbound_closed _ _ _ _ h]
  · rw [if_neg (by simp [h])]
    simp only [tap_base]

/-- the state after `cachedXORMappedAddr` found the entry `e` of `a` expired: the entry deleted, its calls released -/
def expired (m : UMux) (a : Addr) (e : XEntry) : UMux :=
  { m with xmap := setX m.xmap a none, waiter := (wakeIf m a e .noMap).1 }

/-- the three outcomes of `cachedXORMappedAddr` -/
inductive CachedTo (m : UMux) (a : Addr) : UMux × List (Nat × WRes) × Option Nat → Prop
  | miss : m.xmap a = none → CachedTo m a (m, [], none)
  | expired (e) : m.xmap a = some e → e.expiresAt < m.now →
      CachedTo m a (expired m a e, (wakeIf m a e .noMap).2, none)
  | fresh (e) : m.xmap a = some e → m.now ≤ e.expiresAt → CachedTo m a (m, [], e.addr)

theorem cached_to (m : UMux) (a : Addr) : CachedTo m a (cached m a) := by
  unfold cached
  cases he : m.xmap a with
  | none => exact .miss he
  | some e =>
    dsimp only
    by_cases hx : e.expiresAt < m.now
    · rw [if_pos hx]; exact .expired e he hx
    · rw [if_neg hx]; exact .fresh e he (Nat.le_of_not_lt hx)

theorem CachedTo.proj {m : UMux} {a : Addr} {r : UMux × List (Nat × WRes) × Option Nat} (c : CachedTo m a r)
    {β : Type} (g : UMux → β) (hg : ∀ (m : UMux) x w, g { m with xmap := x, waiter := w } = g m) : g r.1 = g m := by
  cases c with
  | expired e _ _ => exact hg m _ _
  | _ => rfl

theorem cached_base (m : UMux) (a : Addr) : (cached m a).1.base = m.base := (cached_to m a).proj UMux.base (fun _ _ _ => rfl)

theorem cached_now (m : UMux) (a : Addr) : (cached m a).1.now = m.now := (cached_to m a).proj UMux.now (fun _ _ _ => rfl)

theorem cached_ttl (m : UMux) (a : Addr) : (cached m a).1.ttl = m.ttl := (cached_to m a).proj UMux.ttl (fun _ _ _ => rfl)

theorem cached_started (m : UMux) (a : Addr) : (cached m a).1.started = m.started :=
  (cached_to m a).proj UMux.started (fun _ _ _ => rfl)

theorem cached_nwaiters (m : UMux) (a : Addr) : (cached m a).1.nwaiters = m.nwaiters :=
  (cached_to m a).proj UMux.nwaiters (fun _ _ _ => rfl)

/-- the entry `writeSTUN` leaves in the table -/
def withEntry (m : UMux) (a : Addr) : UMux :=
  match m.xmap a with
  | some _ => m
  | none => { m with xmap := setX m.xmap a (some { addr := none, signalled := false, expiresAt := m.now + m.ttl }),
                     started := if a ∈ m.started then m.started else m.started ++ [a] }

theorem withEntry_base (m : UMux) (a : Addr) : (withEntry m a).base = m.base := by
  unfold withEntry; split <;> rfl

theorem withEntry_now (m : UMux) (a : Addr) : (withEntry m a).now = m.now := by
  unfold withEntry; split <;> rfl

theorem withEntry_nwaiters (m : UMux) (a : Addr) : (withEntry m a).nwaiters = m.nwaiters := by
  unfold withEntry; split <;> rfl

theorem withEntry_waiter (m : UMux) (a : Addr) : (withEntry m a).waiter = m.waiter := by
  unfold withEntry; split <;> rfl

theorem xorStart_eq (m : UMux) (srv : Addr) (d : Nat) :
    xorStart m srv d =
      let a := canonAddr srv
      let w := m.nwaiters
      let m1 := (cached m a).1
      let woke := (cached m a).2.1
      match (cached m a).2.2 with
      | some v =>
        ({ m1 with nwaiters := w + 1, waiter := upd m1.waiter w { srv := a, deadlineAt := m1.now + d, res := some (.ok v) } },
         { main := .started w false, fx := { woke := woke ++ [(w, .ok v)] } })
      | none =>
        let m2 := withEntry m1 a
        if m2.base.closed then
          ({ m2 with nwaiters := w + 1, waiter := upd m2.waiter w { srv := a, deadlineAt := m2.now + d, res := some .writeErr } },
           { main := .started w false, fx := { woke := woke ++ [(w, .writeErr)] } })
        else if d = 0 then
          ({ m2 with nwaiters := w + 1, nreqs := m2.nreqs + 1,
                     waiter := upd m2.waiter w { srv := a, deadlineAt := m2.now, res := some .timeout } },
           { main := .started w true, fx := { woke := woke ++ [(w, .timeout)] } })
        else
          ({ m2 with nwaiters := w + 1, nreqs := m2.nreqs + 1,
                     waiter := upd m2.waiter w { srv := a, deadlineAt := m2.now + d, res := none } },
           { main := .started w true, fx := { woke := woke } }) := by
  unfold xorStart withEntry
  rcases hc : cached m (canonAddr srv) with ⟨m1, woke, hit⟩
  rfl

theorem xorStart_base (m : UMux) (srv : Addr) (d : Nat) : (xorStart m srv d).1.base = m.base := by
  rw [xorStart_eq]
  simp only []
  split
  · exact cached_base m _
  · split
    · show (withEntry _ _).base = _
      rw [withEntry_base, cached_base]
    · split
      · show (withEntry _ _).base = _
        rw [withEntry_base, cached_base]
      · show (withEntry _ _).base = _
        rw [withEntry_base, cached_base]

theorem step_base (m : UMux) (op : UOp) :
    (IceModel.UniMux.step m op).1.base = (IceModel.UdpMux.run m.base (proj op)).1 := by
  cases op with
  | base op =>
    cases op with
    | inbound src k pid => exact inbound_base m src k _ pid
    | _ => rfl
  | inbound src k x pid => exact inbound_base m src k x pid
  | getConnForURL u url v6 => rfl
  | xorStart srv d => exact xorStart_base m srv d
  | tick dt => rfl

theorem run_cons (m : UMux) (op : UOp) (ops : List UOp) :
    IceModel.UniMux.run m (op :: ops) =
      ((IceModel.UniMux.run (IceModel.UniMux.step m op).1 ops).1,
       (op, (IceModel.UniMux.step m op).2) :: (IceModel.UniMux.run (IceModel.UniMux.step m op).1 ops).2) := rfl

theorem base_run_append (b : Mux) (l1 l2 : List Op) :
    (IceModel.UdpMux.run b (l1 ++ l2)).1 = (IceModel.UdpMux.run (IceModel.UdpMux.run b l1).1 l2).1 := by
  induction l1 generalizing b with
  | nil => rfl
  | cons op l1 ih =>
    show (IceModel.UdpMux.run b (op :: (l1 ++ l2))).1 = _
    rw [IceProofs.UdpMux.run_cons, IceProofs.UdpMux.run_cons]
    exact ih _

theorem run_base (ops : List UOp) (m : UMux) :
    (IceModel.UniMux.run m ops).1.base = (IceModel.UdpMux.run m.base (projAll ops)).1 := by
  induction ops generalizing m with
  | nil => rfl
  | cons op ops ih =>
    rw [run_cons]
    show (IceModel.UniMux.run _ ops).1.base = (IceModel.UdpMux.run m.base (proj op ++ projAll ops)).1
    rw [ih, base_run_append, step_base]

theorem tap_learned_iff (m : UMux) (src : Addr) (k : Kind) (x : XView) (a : Addr) (v : Nat) :
    (tap m src k x).2.learned = some (a, v) ↔
      decodable k = true ∧ x.xa = .value v ∧ a = canonAddr src ∧ (m.xmap (canonAddr src)).isSome = true := by
  rcases tap_cases m src k x with ⟨h, hn⟩ | ⟨v', e, hd, hx, he, h⟩
  · rw [h]
    exact ⟨fun h' => (by cases h'), fun h' => absurd ⟨h'.1, h'.2.1, h'.2.2.2⟩ (hn v)⟩
  · rw [h, hx, he]
    show some (canonAddr src, v') = some (a, v) ↔ _
    constructor
    · intro h'
      injection h' with h'; injection h' with h1 h2
      subst h1; subst h2
      exact ⟨hd, rfl, rfl, rfl⟩
    · rintro ⟨_, h2, h3, _⟩
      injection h2 with h2
      rw [h3, h2]

theorem tap_none (m : UMux) (src : Addr) (k : Kind) (x : XView) (h : (tap m src k x).2.learned = none) :
    tap m src k x = (m, {}) := by
  rcases tap_cases m src k x with ⟨h', _⟩ | ⟨v, e, _, _, _, h'⟩
  · exact h'
  · rw [h'] at h; cases h

theorem tap_xmap_other (m : UMux) (src : Addr) (k : Kind) (x : XView) (b : Addr) (hb : b ≠ canonAddr src) :
    (tap m src k x).1.xmap b = m.xmap b := by
  rcases tap_cases m src k x with ⟨h, _⟩ | ⟨v, e, _, _, _, h⟩ <;> rw [h]
  simp only [tapped, setX, if_neg hb]

theorem tap_xmap_self (m : UMux) (src : Addr) (k : Kind) (x : XView) (v : Nat)
    (h : (tap m src k x).2.learned = some (canonAddr src, v)) :
    ∃ e, m.xmap (canonAddr src) = some e ∧
      (tap m src k x).1.xmap (canonAddr src) = some { e with addr := some v, signalled := true } := by
  rcases tap_cases m src k x with ⟨h', _⟩ | ⟨v', e, _, _, he, h'⟩
  · rw [h'] at h; cases h
  · rw [h'] at h ⊢
    injection h with h; injection h with _ h2
    subst h2
    exact ⟨e, he, by simp [tapped, setX]⟩

theorem tap_started (m : UMux) (src : Addr) (k : Kind) (x : XView) : (tap m src k x).1.started = m.started := by
  rcases tap_cases m src k x with ⟨h, _⟩ | ⟨v, e, _, _, _, h⟩ <;> rw [h] <;> rfl

theorem tap_now (m : UMux) (src : Addr) (k : Kind) (x : XView) : (tap m src k x).1.now = m.now := by
  rcases tap_cases m src k x with ⟨h, _⟩ | ⟨v, e, _, _, _, h⟩ <;> rw [h] <;> rfl

theorem tap_nwaiters (m : UMux) (src : Addr) (k : Kind) (x : XView) : (tap m src k x).1.nwaiters = m.nwaiters := by
  rcases tap_cases m src k x with ⟨h, _⟩ | ⟨v, e, _, _, _, h⟩ <;> rw [h] <;> rfl

/-- the invariant, with the entry of `a` possibly missing (the state between `cachedXORMappedAddr` and
`writeSTUN` inside one call) -/
structure XInvX (x : Option Addr) (m : UMux) : Prop where
  /-- table keys are canonical addresses recorded in `started` -/
  key : ∀ a e, m.xmap a = some e → canonAddr a = a ∧ a ∈ m.started
  /-- entries never disappear -/
  ent : ∀ a, a ∈ m.started → some a ≠ x → (m.xmap a).isSome = true
  /-- pending ⇔ the channel is open -/
  pend : ∀ a e, m.xmap a = some e → (e.addr = none ↔ e.signalled = false)
  /-- a blocked call hangs on the pending entry of its server, its timer in the future -/
  blocked : ∀ i, i < m.nwaiters → (m.waiter i).res = none →
    (∃ e, m.xmap (m.waiter i).srv = some e ∧ e.signalled = false) ∧ m.now < (m.waiter i).deadlineAt

abbrev XInv (m : UMux) : Prop := XInvX none m

theorem xinv_init (ttl : Nat) : XInv (IceModel.UniMux.init ttl) :=
  { key := fun a e h => by cases h
    ent := fun a h => by cases h
    pend := fun a e h => by cases h
    blocked := fun i h => absurd h (Nat.not_lt_zero i) }

theorem xinv_congr {x : Option Addr} (m m' : UMux) (h1 : m'.xmap = m.xmap) (h2 : m'.started = m.started) (h3 : m'.now = m.now)
    (h4 : m'.nwaiters = m.nwaiters) (h5 : m'.waiter = m.waiter) (hi : XInvX x m) : XInvX x m' :=
  { key := by rw [h1, h2]; exact hi.key
    ent := by rw [h1, h2]; exact hi.ent
    pend := by rw [h1]; exact hi.pend
    blocked := by rw [h1, h3, h4, h5]; exact hi.blocked }

theorem wakeIf_left (m : UMux) (hi : XInv m) (a : Addr) (e : XEntry) (he : m.xmap a = some e) (r : WRes)
    (i : Nat) (hn : i < m.nwaiters) (hr : ((wakeIf m a e r).1 i).res = none) :
    (m.waiter i).res = none ∧ (m.waiter i).srv ≠ a ∧ (wakeIf m a e r).1 i = m.waiter i := by
  unfold wakeIf at hr ⊢
  rcases Bool.eq_false_or_eq_true e.signalled with hs | hs
  · rw [if_pos hs] at hr ⊢
    refine ⟨hr, ?_, rfl⟩
    intro hsrv
    obtain ⟨⟨e', h1, h2⟩, _⟩ := hi.blocked i hn hr
    rw [hsrv, he] at h1
    injection h1 with h1; subst h1
    rw [hs] at h2; cases h2
  · rw [if_neg (by simp [hs])] at hr ⊢
    rw [wakeAll_fst] at hr ⊢
    by_cases hc : i < m.nwaiters ∧ (m.waiter i).res = none ∧ (m.waiter i).srv = a
    · rw [if_pos hc] at hr; cases hr
    · rw [if_neg hc] at hr ⊢
      exact ⟨hr, fun hsrv => hc ⟨hn, hr, hsrv⟩, rfl⟩

/-- The entry of `a` replaced by `v` (`none`: deleted, the invariant then has its hole at `a`), `started` possibly
grown by `a`, some calls released: the invariant is kept if the new entry is well-formed and every call still
blocked hangs on another server and is untouched. -/
theorem xinv_setX {x x' : Option Addr} (m : UMux) (hi : XInvX x m) (a : Addr) (v : Option XEntry) (ws : Nat → Waiter)
    (st : List Addr) (hst : ∀ b, b ∈ m.started → b ∈ st) (hst' : ∀ b, b ∈ st → b ∈ m.started ∨ b = a)
    (hv : ∀ e', v = some e' → canonAddr a = a ∧ a ∈ st ∧ (e'.addr = none ↔ e'.signalled = false))
    (hx : v = none → x' = some a) (hxx : ∀ b, b ≠ a → some b ≠ x' → some b ≠ x)
    (hws : ∀ i, i < m.nwaiters → (ws i).res = none →
      (m.waiter i).res = none ∧ (m.waiter i).srv ≠ a ∧ ws i = m.waiter i) :
    XInvX x' { m with xmap := setX m.xmap a v, waiter := ws, started := st } where
  key b e' h := by
    dsimp only at h ⊢
    by_cases hba : b = a
    · rw [setX, if_pos hba] at h; rw [hba]; exact ⟨(hv e' h).1, (hv e' h).2.1⟩
    · rw [setX, if_neg hba] at h; exact ⟨(hi.key b e' h).1, hst b (hi.key b e' h).2⟩
  ent b hb hne := by
    dsimp only at hb ⊢
    by_cases hba : b = a
    · rw [setX, if_pos hba]
      cases v with
      | some _ => rfl
      | none => exact absurd (by rw [hba, hx rfl]) hne
    · rw [setX, if_neg hba]
      exact hi.ent b ((hst' b hb).resolve_right hba) (hxx b hba hne)
  pend b e' h := by
    dsimp only at h
    by_cases hba : b = a
    · rw [setX, if_pos hba] at h; exact (hv e' h).2.2
    · rw [setX, if_neg hba] at h; exact hi.pend b e' h
  blocked i hn hr := by
    dsimp only at hn hr ⊢
    obtain ⟨k1, k2, k3⟩ := hws i hn hr
    rw [k3]
    obtain ⟨⟨e', h1, h2⟩, h3⟩ := hi.blocked i hn k1
    exact ⟨⟨e', by rw [setX, if_neg k2]; exact h1, h2⟩, h3⟩

theorem xinv_tap (m : UMux) (hi : XInv m) (src : Addr) (k : Kind) (x : XView) : XInv (tap m src k x).1 := by
  rcases tap_cases m src k x with ⟨h, _⟩ | ⟨v, e, _, _, he, h⟩ <;> rw [h]
  · exact hi
  · exact xinv_setX m hi _ _ _ m.started (fun _ h => h) (fun _ h => Or.inl h)
      (fun e' h => by injection h with h; subst h; exact ⟨(hi.key _ e he).1, (hi.key _ e he).2, by simp⟩)
      nofun (fun _ _ h => h) (wakeIf_left m hi _ e he _)

theorem CachedTo.hit {m : UMux} {a : Addr} {r : UMux × List (Nat × WRes) × Option Nat} (c : CachedTo m a r)
    {v : Nat} (h : r.2.2 = some v) :
    r.1 = m ∧ r.2.1 = [] ∧ ∃ e, m.xmap a = some e ∧ e.addr = some v ∧ m.now ≤ e.expiresAt := by
  cases c with
  | miss _ => cases h
  | expired _ _ _ => cases h
  | fresh e he hx => exact ⟨rfl, rfl, e, he, h, hx⟩

theorem CachedTo.xinv {m : UMux} {a : Addr} {r : UMux × List (Nat × WRes) × Option Nat} (c : CachedTo m a r)
    (hi : XInv m) (h : r.2.2 = none) :
    XInvX (some a) r.1 ∧ (r.1.xmap a = none ∨ ∃ e, r.1.xmap a = some e ∧ e.signalled = false) := by
  have weaken : XInvX (some a) m :=
    { key := hi.key, ent := fun b hb _ => hi.ent b hb (by simp), pend := hi.pend, blocked := hi.blocked }
  cases c with
  | miss he => exact ⟨weaken, Or.inl he⟩
  | expired e he _ =>
    exact ⟨xinv_setX m hi a none _ m.started (fun _ h => h) (fun _ h => Or.inl h) nofun (fun _ => rfl)
      (fun _ _ _ => by simp) (wakeIf_left m hi a e he _), Or.inl (by simp [UniMux.expired, setX])⟩
  | fresh e he _ => exact ⟨weaken, Or.inr ⟨e, he, (hi.pend a e he).mp h⟩⟩

theorem xinv_withEntry (m : UMux) (a : Addr) (hc : canonAddr a = a) (hi : XInvX (some a) m)
    (hp : m.xmap a = none ∨ ∃ e, m.xmap a = some e ∧ e.signalled = false) :
    XInv (withEntry m a) ∧ ∃ e, (withEntry m a).xmap a = some e ∧ e.signalled = false := by
  unfold withEntry
  cases he : m.xmap a with
  | some e =>
    dsimp only []
    rcases hp with hp | ⟨e', hp, hs⟩
    · rw [he] at hp; cases hp
    · rw [he] at hp; injection hp with hp; subst hp
      refine ⟨{ key := hi.key, ent := ?_, pend := hi.pend, blocked := hi.blocked }, e, he, hs⟩
      intro b hb _
      by_cases hba : b = a
      · rw [hba, he]; rfl
      · exact hi.ent b hb (fun e => hba (Option.some.inj e))
  | none =>
    dsimp only []
    refine ⟨xinv_setX m hi a _ m.waiter _ ?_ ?_ ?_ nofun (fun b hba _ e => hba (Option.some.inj e)) ?_,
      { addr := none, signalled := false, expiresAt := m.now + m.ttl }, by simp [setX], rfl⟩
    · intro b hb; split
      · exact hb
      · exact List.mem_append_left _ hb
    · intro b hb; split at hb
      · exact Or.inl hb
      · simpa using hb
    · intro e' h
      injection h with h; subst h
      refine ⟨hc, ?_, by simp⟩
      split
      · assumption
      · simp
    · intro i hn hr
      obtain ⟨⟨e', h1, _⟩, _⟩ := hi.blocked i hn hr
      exact ⟨hr, (fun e => by rw [e, he] at h1; cases h1), rfl⟩

theorem xinv_addWaiter (m : UMux) (hi : XInv m) (w : Waiter)
    (hw : w.res = none → (∃ e, m.xmap w.srv = some e ∧ e.signalled = false) ∧ m.now < w.deadlineAt)
    (m' : UMux) (h1 : m'.xmap = m.xmap) (h2 : m'.started = m.started) (h3 : m'.now = m.now)
    (h4 : m'.nwaiters = m.nwaiters + 1) (h5 : m'.waiter = upd m.waiter m.nwaiters w) : XInv m' :=
  { key := by rw [h1, h2]; exact hi.key
    ent := by rw [h1, h2]; exact hi.ent
    pend := by rw [h1]; exact hi.pend
    blocked := by
      rw [h1, h3, h4, h5]
      intro i hn hr
      by_cases hiw : i = m.nwaiters
      · subst hiw
        rw [upd_apply, if_pos rfl] at hr ⊢
        exact hw hr
      · rw [upd_ne _ _ hiw] at hr ⊢
        exact hi.blocked i (by omega) hr }

theorem xinv_xorStart (m : UMux) (hi : XInv m) (srv : Addr) (d : Nat) : XInv (xorStart m srv d).1 := by
  rw [xorStart_eq]
  dsimp only []
  cases hh : (cached m (canonAddr srv)).2.2 with
  | some v =>
    dsimp only []
    obtain ⟨k1, _, _⟩ := (cached_to m _).hit hh
    rw [k1]
    exact xinv_addWaiter m hi { srv := canonAddr srv, deadlineAt := m.now + d, res := some (.ok v) }
      (fun h => by cases h) _ rfl rfl rfl rfl rfl
  | none =>
    dsimp only []
    obtain ⟨i1, i2⟩ := (cached_to m _).xinv hi hh
    obtain ⟨j1, e, j2, j3⟩ := xinv_withEntry _ _ (canonAddr_idem srv) i1 i2
    have hnw : (withEntry (cached m (canonAddr srv)).1 (canonAddr srv)).nwaiters = m.nwaiters := by
      rw [withEntry_nwaiters, cached_nwaiters]
    split
    · exact xinv_addWaiter _ j1 { srv := canonAddr srv, deadlineAt := _, res := some .writeErr }
        (fun h => by cases h) _ rfl rfl rfl (by rw [hnw]) (by rw [hnw])
    · split
      · exact xinv_addWaiter _ j1 { srv := canonAddr srv, deadlineAt := _, res := some .timeout }
          (fun h => by cases h) _ rfl rfl rfl (by rw [hnw]) (by rw [hnw])
      · next hd =>
        exact xinv_addWaiter _ j1
          { srv := canonAddr srv, deadlineAt := (withEntry (cached m (canonAddr srv)).1 (canonAddr srv)).now + d, res := none }
          (fun _ => ⟨⟨e, j2, j3⟩, by show _ < _ + d; omega⟩) _ rfl rfl rfl (by rw [hnw]) (by rw [hnw])

theorem xinv_tick (m : UMux) (hi : XInv m) (dt : Nat) : XInv (tick m dt).1 := by
  unfold tick
  refine { key := hi.key, ent := hi.ent, pend := hi.pend, blocked := ?_ }
  intro i hn hr
  dsimp only [] at hn hr ⊢
  by_cases hc : i < m.nwaiters ∧ (m.waiter i).res = none ∧ (m.waiter i).deadlineAt ≤ m.now + dt
  · rw [if_pos hc] at hr; cases hr
  · rw [if_neg hc] at hr ⊢
    obtain ⟨k1, _⟩ := hi.blocked i hn hr
    exact ⟨k1, by have : ¬ (m.waiter i).deadlineAt ≤ m.now + dt := fun h => hc ⟨hn, hr, h⟩; omega⟩

theorem xinv_inbound (m : UMux) (hi : XInv m) (src : Addr) (k : Kind) (x : XView) (pid : Nat) :
    XInv (IceModel.UniMux.inbound m src k x pid).1 := by
  rw [inbound_eq]
  split
  · exact hi
  · exact xinv_congr (tap m src k x).1 _ rfl rfl rfl rfl rfl (xinv_tap m hi src k x)

theorem xinv_step (m : UMux) (hi : XInv m) (op : UOp) : XInv (IceModel.UniMux.step m op).1 := by
  cases op with
  | base op =>
    cases op with
    | inbound src k pid => exact xinv_inbound m hi src k _ pid
    | _ => exact xinv_congr m _ rfl rfl rfl rfl rfl hi
  | inbound src k x pid => exact xinv_inbound m hi src k x pid
  | getConnForURL u url v6 => exact xinv_congr m _ rfl rfl rfl rfl rfl hi
  | xorStart srv d => exact xinv_xorStart m hi srv d
  | tick dt => exact xinv_tick m hi dt

theorem xinv_run (ops : List UOp) (m : UMux) (hi : XInv m) : XInv (IceModel.UniMux.run m ops).1 := by
  induction ops generalizing m with
  | nil => exact hi
  | cons op ops ih => rw [run_cons]; exact ih _ (xinv_step m hi op)

theorem mem_blockedOn (m : UMux) (a : Addr) (i : Nat) :
    i ∈ blockedOn m a ↔ i < m.nwaiters ∧ (m.waiter i).res = none ∧ (m.waiter i).srv = a := by
  unfold blockedOn
  simp only [List.mem_filter, List.mem_range, Bool.and_eq_true, decide_eq_true_eq, Option.isNone_iff_eq_none]

theorem tap_woke (m : UMux) (hi : XInv m) (src : Addr) (k : Kind) (x : XView) (v : Nat)
    (h : (tap m src k x).2.learned = some (canonAddr src, v)) :
    (tap m src k x).2.woke = (blockedOn m (canonAddr src)).map (fun i => (i, WRes.ok v)) := by
  rcases tap_cases m src k x with ⟨h', _⟩ | ⟨v', e, _, _, he, h'⟩
  · rw [h'] at h; cases h
  · rw [h'] at h ⊢
    injection h with h; injection h with _ h2
    subst h2
    show (wakeIf m (canonAddr src) e (.ok v')).2 = _
    unfold wakeIf
    rcases Bool.eq_false_or_eq_true e.signalled with hs | hs
    · -- the channel is closed: nobody is blocked on this entry
      rw [if_pos hs]
      have : blockedOn m (canonAddr src) = [] := by
        rw [List.eq_nil_iff_forall_not_mem]
        intro i hi'
        rw [mem_blockedOn] at hi'
        obtain ⟨⟨e', h1, h2⟩, _⟩ := hi.blocked i hi'.1 hi'.2.1
        rw [hi'.2.2, he] at h1
        injection h1 with h1; subst h1
        rw [hs] at h2; cases h2
      rw [this]; rfl
    · rw [if_neg (by simp [hs])]; rfl

theorem tap_woke_none (m : UMux) (src : Addr) (k : Kind) (x : XView) (h : (tap m src k x).2.learned = none) :
    (tap m src k x).2.woke = [] := by
  rw [tap_none m src k x h]

theorem withEntry_started (m : UMux) (hi : ∀ a e, m.xmap a = some e → a ∈ m.started) (a b : Addr) :
    b ∈ (withEntry m a).started ↔ b ∈ m.started ∨ b = a := by
  unfold withEntry
  cases he : m.xmap a with
  | some e =>
    dsimp only []
    constructor
    · exact Or.inl
    · rintro (h | h)
      · exact h
      · rw [h]; exact hi a e he
  | none =>
    dsimp only []
    split
    · next hm =>
      constructor
      · exact Or.inl
      · rintro (h | h)
        · exact h
        · rw [h]; exact hm
    · simp

theorem xorStart_started (m : UMux) (hi : XInv m) (srv : Addr) (d : Nat) (b : Addr) :
    b ∈ (xorStart m srv d).1.started ↔ b ∈ m.started ∨ b = canonAddr srv := by
  rw [xorStart_eq]
  dsimp only []
  cases hh : (cached m (canonAddr srv)).2.2 with
  | some v =>
    dsimp only []
    obtain ⟨k1, _, e, k2, _⟩ := (cached_to m _).hit hh
    rw [k1]
    show b ∈ m.started ↔ _
    constructor
    · exact Or.inl
    · rintro (h | h)
      · exact h
      · rw [h]; exact (hi.key _ e k2).2
  | none =>
    dsimp only []
    obtain ⟨i1, _⟩ := (cached_to m _).xinv hi hh
    have := withEntry_started (cached m (canonAddr srv)).1 (fun a e h => (i1.key a e h).2) (canonAddr srv) b
    rw [cached_started] at this
    split
    · exact this
    · split
      · exact this
      · exact this

theorem step_started (m : UMux) (hi : XInv m) (op : UOp) (b : Addr) :
    b ∈ (IceModel.UniMux.step m op).1.started ↔
      b ∈ m.started ∨ ∃ srv d, op = .xorStart srv d ∧ canonAddr srv = b := by
  have inb : ∀ src k x pid, (IceModel.UniMux.inbound m src k x pid).1.started = m.started := by
    intro src k x pid
    rw [inbound_eq]
    split
    · rfl
    · exact tap_started m src k x
  have triv : ∀ (m' : UMux), m'.started = m.started → (∀ srv d, op ≠ .xorStart srv d) →
      (b ∈ m'.started ↔ b ∈ m.started ∨ ∃ srv d, op = .xorStart srv d ∧ canonAddr srv = b) := by
    intro m' h1 h2
    rw [h1]
    constructor
    · exact Or.inl
    · rintro (h | ⟨srv, d, h, _⟩)
      · exact h
      · exact absurd h (h2 srv d)
  cases op with
  | base op =>
    cases op with
    | inbound src k pid => exact triv _ (inb src k _ pid) (fun _ _ h => by cases h)
    | _ => exact triv _ rfl (fun _ _ h => by cases h)
  | inbound src k x pid => exact triv _ (inb src k x pid) (fun _ _ h => by cases h)
  | getConnForURL u url v6 => exact triv _ rfl (fun _ _ h => by cases h)
  | tick dt => exact triv _ rfl (fun _ _ h => by cases h)
  | xorStart srv d =>
    show b ∈ (xorStart m srv d).1.started ↔ _
    rw [xorStart_started m hi srv d b]
    constructor
    · rintro (h | h)
      · exact Or.inl h
      · exact Or.inr ⟨srv, d, rfl, h.symm⟩
    · rintro (h | ⟨srv', d', h1, h2⟩)
      · exact Or.inl h
      · injection h1 with h1 _; subst h1; exact Or.inr h2.symm

theorem mem_started_iff (ops : List UOp) (m : UMux) (hi : XInv m) (b : Addr) :
    b ∈ (IceModel.UniMux.run m ops).1.started ↔
      b ∈ m.started ∨ ∃ srv d, UOp.xorStart srv d ∈ ops ∧ canonAddr srv = b := by
  induction ops generalizing m with
  | nil => simp [IceModel.UniMux.run]
  | cons op ops ih =>
    rw [run_cons]
    show b ∈ (IceModel.UniMux.run _ ops).1.started ↔ _
    rw [ih _ (xinv_step m hi op), step_started m hi op b]
    constructor
    · rintro ((h | ⟨srv, d, h1, h2⟩) | ⟨srv, d, h1, h2⟩)
      · exact Or.inl h
      · exact Or.inr ⟨srv, d, by rw [h1]; exact List.mem_cons_self, h2⟩
      · exact Or.inr ⟨srv, d, List.mem_cons_of_mem _ h1, h2⟩
    · rintro (h | ⟨srv, d, h1, h2⟩)
      · exact Or.inl (Or.inl h)
      · rcases List.mem_cons.mp h1 with h1 | h1
        · exact Or.inl (Or.inr ⟨srv, d, h1.symm, h2⟩)
        · exact Or.inr ⟨srv, d, h1, h2⟩

theorem inbound_fx (m : UMux) (src : Addr) (k : Kind) (x : XView) (pid : Nat) :
    (IceModel.UniMux.inbound m src k x pid).2.fx = if m.base.closed then {} else (tap m src k x).2 := by
  rw [inbound_eq]; split <;> rfl

theorem inbound_xmap (m : UMux) (src : Addr) (k : Kind) (x : XView) (pid : Nat) :
    (IceModel.UniMux.inbound m src k x pid).1.xmap = if m.base.closed then m.xmap else (tap m src k x).1.xmap := by
  rw [inbound_eq]; split <;> rfl

theorem inbound_waiter (m : UMux) (src : Addr) (k : Kind) (x : XView) (pid : Nat) :
    (IceModel.UniMux.inbound m src k x pid).1.waiter = if m.base.closed then m.waiter else (tap m src k x).1.waiter := by
  rw [inbound_eq]; split <;> rfl

end IceProofs.UniMux

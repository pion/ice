import IceProofs.Notifier
/-!
# After a graceful close has returned nothing moves any more (`graceful_run`, used by `C11_graceful`);
`accepted` grows only by `enqueue` on an open notifier (`accepted_step`)
-/
namespace IceProofs.Notifier
open IceModel.Notifier

theorem no_live_get {s : State} (hi : Inv s) (hg : s.gracefulReturned = true) {i : Nat} {x : DPc}
    (h : s.drainers[i]? = some x) (hx : x.isLive = true) : False := by
  have h1 := live_pos_of_get h hx
  have h2 := (hi.graceful hg).2
  have h3 := hi.k4
  omega

theorem graceful_step {s s' : State} (a : Action) (hi : Inv s) (hg : s.gracefulReturned = true)
    (h : step s a = some s') :
    s'.gracefulReturned = true ∧ s'.drainers = s.drainers ∧ s'.delivered = s.delivered := by
  have hcl := (hi.graceful hg).1
  cases a with
  | enqueue e =>
    simp only [step, hcl, if_true] at h
    cases h; exact ⟨hg, rfl, rfl⟩
  | drainLock i =>
    simp only [step] at h
    split at h
    · rename_i hd; exact (no_live_get hi hg hd rfl).elim
    · cases h
  | callHandler i =>
    simp only [step] at h
    split at h
    · rename_i e hd; exact (no_live_get hi hg hd rfl).elim
    · cases h
  | handlerReturn i =>
    simp only [step] at h
    split at h
    · rename_i e hd; exact (no_live_get hi hg hd rfl).elim
    · cases h
  | drainDone i =>
    simp only [step] at h
    split at h
    · rename_i hd; exact (no_live_get hi hg hd rfl).elim
    · cases h
  | closeCall g =>
    simp only [step] at h
    cases h; exact ⟨hg, rfl, rfl⟩
  | closeBody j =>
    simp only [step] at h
    split at h
    · cases h; exact ⟨hg, rfl, rfl⟩
    · cases h
  | closeWait j =>
    simp only [step] at h
    split at h
    · split at h
      · cases h; exact ⟨rfl, rfl, rfl⟩
      · cases h
    · cases h

theorem graceful_run {s s' : State} (as : List Action) (hi : Inv s) (hg : s.gracefulReturned = true)
    (h : run s as = some s') :
    s'.gracefulReturned = true ∧ s'.drainers = s.drainers ∧ s'.delivered = s.delivered := by
  have hx := isRun.exec h; clear h
  induction hx with
  | nil => exact ⟨hg, rfl, rfl⟩
  | cons hs _ ih =>
    obtain ⟨g1, d1, e1⟩ := graceful_step _ hi hg hs
    obtain ⟨g2, d2, e2⟩ := ih (inv_step _ hi hs) g1
    exact ⟨g2, d2.trans d1, e2.trans e1⟩

theorem accepted_step {s s' : State} (a : Action) (h : step s a = some s') :
    s'.accepted = s.accepted ∨ (∃ e, a = .enqueue e ∧ s.closed = false ∧ s'.accepted = s.accepted ++ [e]) := by
  cases a with
  | enqueue e =>
    simp only [step] at h
    split at h
    · cases h; exact Or.inl rfl
    · rename_i hc
      right
      refine ⟨e, rfl, by simpa using hc, ?_⟩
      split at h <;> cases h <;> rfl
  | drainLock i =>
    simp only [step] at h
    split at h
    · split at h <;> cases h <;> exact Or.inl rfl
    · cases h
  | callHandler i =>
    simp only [step] at h
    split at h
    · cases h; exact Or.inl rfl
    · cases h
  | handlerReturn i =>
    simp only [step] at h
    split at h
    · cases h; exact Or.inl rfl
    · cases h
  | drainDone i =>
    simp only [step] at h
    split at h
    · cases h; exact Or.inl rfl
    · cases h
  | closeCall g => simp only [step] at h; cases h; exact Or.inl rfl
  | closeBody j =>
    simp only [step] at h
    split at h
    · cases h; exact Or.inl rfl
    · cases h
  | closeWait j =>
    simp only [step] at h
    split at h
    · split at h
      · cases h; exact Or.inl rfl
      · cases h
    · cases h

end IceProofs.Notifier

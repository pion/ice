import IceModel.Gather
import IceProofs.GatherList
/-!
Invariants of the gathering-cycle machine `IceModel.Gather.Cycle` for ALL event sequences
(= all interleavings of GatherCandidates / Restart / Close calls with the tasks and context checks of
every cycle's goroutine).

This is the machine INSIDE the agent model of C18 / C09 (generations, the check/hand-off window, continual gathering;
it emits outputs).  `IceProofs.GatherCycle` is about the other, stand-alone model `IceModel.GatherCycle` of C11 (ufrags,
the published stream, the nil candidate); the two share no definition, only the shape of their proofs.
-/
namespace IceProofs.GatherCyc
open IceModel.Gather IceModel.Gather.Cycle

/-- the invariant: cycles never belong to a future generation; a cycle that is not cancelled belongs
to the current generation and is applied exactly when the state has left New; every cycle but the
newest is cancelled; a cycle inside the check/hand-off window has been applied -/
structure Inv (s : Cycle.State) : Prop where
  genLe : ∀ (i : Nat) (c : Cyc), s.cycles[i]? = some c → c.gen ≤ s.gen
  live : ∀ (i : Nat) (c : Cyc), s.cycles[i]? = some c → c.cancelled = false →
    c.gen = s.gen ∧ (c.applied = true ↔ s.gs ≠ GS.new)
  last : ∀ (i : Nat) (c : Cyc), s.cycles[i]? = some c → i + 1 < s.cycles.length → c.cancelled = true
  win : ∀ (i : Nat) (c : Cyc), s.cycles[i]? = some c → 0 < c.inWindow → c.applied = true

theorem inv_init' (k : Bool) : Inv ({ continual := k } : Cycle.State) := by
  constructor <;> intro i c h <;> simp at h

theorem inv_init : Inv ({} : Cycle.State) := inv_init' false

theorem Inv.unique {s : Cycle.State} (h : Inv s) {i j : Nat} {ci cj : Cyc}
    (hi : s.cycles[i]? = some ci) (hj : s.cycles[j]? = some cj)
    (li : ci.cancelled = false) (lj : cj.cancelled = false) : i = j := by
  have hil : i < s.cycles.length := (List.getElem?_eq_some_iff.1 hi).1
  have hjl : j < s.cycles.length := (List.getElem?_eq_some_iff.1 hj).1
  have h1 : ¬ (i + 1 < s.cycles.length) := fun hh => by simp [h.last i ci hi hh] at li
  have h2 : ¬ (j + 1 < s.cycles.length) := fun hh => by simp [h.last j cj hj hh] at lj
  omega

theorem getElem?_cancelAll (cs : List Cyc) (i : Nat) :
    (cancelAll cs)[i]? = (cs[i]?).map (fun c => { c with cancelled := true }) := by
  simp [cancelAll]

theorem inv_modify {s : Cycle.State} (h : Inv s) (k : Nat) (f : Cyc → Cyc) (gs' : GS)
    (hgen : ∀ c, (f c).gen = c.gen) (hcan : ∀ c, (f c).cancelled = c.cancelled)
    (hk : ∀ c, s.cycles[k]? = some c → c.cancelled = false → ((f c).applied = true ↔ gs' ≠ GS.new))
    (hgs : gs' = s.gs ∨ ∃ c, s.cycles[k]? = some c ∧ c.cancelled = false)
    (hwin : ∀ c, s.cycles[k]? = some c → 0 < (f c).inWindow → (f c).applied = true) :
    Inv { Cycle.modify s k f with gs := gs' } where
  genLe := GatherList.forall_modify (fun i c hc _ => h.genLe i c hc) (fun c hc => (hgen c) ▸ h.genLe k c hc)
  live := GatherList.forall_modify
    (fun i c hc hki hl => ⟨(h.live i c hc hl).1, by
      rcases hgs with hgs | ⟨ck, hck, hlk⟩
      · rw [show ({ Cycle.modify s k f with gs := gs' } : Cycle.State).gs = s.gs from hgs]
        exact (h.live i c hc hl).2
      · exact absurd (h.unique hck hc hlk hl) hki⟩)
    (fun c hc hl => by
      rw [hcan] at hl
      exact ⟨(hgen c).trans (h.live k c hc hl).1, hk c hc hl⟩)
  last := GatherList.forall_modify (fun i c hc _ hlen => h.last i c hc (by simpa [Cycle.modify] using hlen))
    (fun c hc hlen => (hcan c).trans (h.last k c hc (by simpa [Cycle.modify] using hlen)))
  win := GatherList.forall_modify (fun i c hc _ => h.win i c hc) hwin

theorem of_cancelAll {cs : List Cyc} {i : Nat} {c' : Cyc} (h : (cancelAll cs)[i]? = some c') :
    ∃ c, cs[i]? = some c ∧ c' = { c with cancelled := true } := by
  rw [getElem?_cancelAll, Option.map_eq_some_iff] at h
  obtain ⟨c, hc, rfl⟩ := h
  exact ⟨c, hc, rfl⟩

theorem inv_cancelAll {s : Cycle.State} (h : Inv s) (gs' : GS) (gen' : Nat) (closed' : Bool) (hg : s.gen ≤ gen') :
    Inv { s with cycles := cancelAll s.cycles, gs := gs', gen := gen', closed := closed' } where
  genLe i c' hc := by obtain ⟨c, hc1, rfl⟩ := of_cancelAll hc; exact Nat.le_trans (h.genLe i c hc1) hg
  live i c' hc hl := by obtain ⟨c, _, rfl⟩ := of_cancelAll hc; cases hl
  last i c' hc _ := by obtain ⟨c, _, rfl⟩ := of_cancelAll hc; rfl
  win i c' hc hw := by obtain ⟨c, hc1, rfl⟩ := of_cancelAll hc; exact h.win i c hc1 hw

/-! The nine events of `Cycle.step` have some thirty outcomes; for the invariants below they fall into ten effects.
The fields `finished` and `monitoring` of a cycle are read by `step` only, so setting one of them is a single
effect (`flag`); outputs that no clause speaks of are `plain`. -/

def plain : Out → Bool
  | .nilCand .. | .published .. | .regather .. => false
  | _ => true

/-- `f` changes none of the fields of a cycle that the invariants read -/
def Core (f : Cyc → Cyc) : Prop :=
  ∀ y, (f y).gen = y.gen ∧ (f y).cancelled = y.cancelled ∧ (f y).applied = y.applied ∧ (f y).inWindow = y.inWindow

inductive Eff (r : Bool) (s : Cycle.State) : Ev → Cycle.State × List Out → Prop
  /-- refused, failed or ignored -/
  | same (e : Ev) (outs : List Out) (ho : ∀ o ∈ outs, plain o = true) : Eff r s e (s, outs)
  | regather (c : Nat) (cy : Cyc) (hcy : s.cycles[c]? = some cy) (hm : cy.monitoring = true) (ha : cy.applied = true)
      (hk : s.continual = true) (hc : s.closed = false) (hl : cy.cancelled = false) :
      Eff r s (.tick c) (s, [.regather c cy.gen])
  | accept (hc : s.closed = false) (hn : s.gs = .new) :
      Eff r s .gather ({ s with cycles := cancelAll s.cycles ++ [{ gen := s.gen }] }, [.accepted s.cycles.length s.gen])
  | flag (e : Ev) (c : Nat) (f : Cyc → Cyc) (outs : List Out) (hf : Core f) (ho : ∀ o ∈ outs, plain o = true) :
      Eff r s e (Cycle.modify s c f, outs)
  | apply (c : Nat) (cy : Cyc) (hcy : s.cycles[c]? = some cy) (ha : cy.applied = false) (hl : cy.cancelled = false) :
      Eff r s (.start c) ({ Cycle.modify s c (fun y => { y with applied := true }) with gs := .gathering },
        [.stateSet c .gathering])
  | enter (c : Nat) (cy : Cyc) (hcy : s.cycles[c]? = some cy) (ha : cy.applied = true) (hl : cy.cancelled = false) :
      Eff r s (.addCheck c) (Cycle.modify s c (fun y => { y with inWindow := y.inWindow + 1 }), [])
  /-- hand-off or abort; a candidate is published only by an open agent and, with the re-check, a live cycle -/
  | leave (e : Ev) (c : Nat) (cy : Cyc) (out : Out) (hcy : s.cycles[c]? = some cy) (hw : 0 < cy.inWindow)
      (ho : out = .addFailed c ∨
        (out = .published c cy.gen s.gen ∧ s.closed = false ∧ (r = true → cy.cancelled = false))) :
      Eff r s e (Cycle.modify s c (fun y => { y with inWindow := y.inWindow - 1 }), [out])
  | complete (c : Nat) (cy : Cyc) (hcy : s.cycles[c]? = some cy) (ha : cy.applied = true) (hl : cy.cancelled = false)
      (hk : s.continual = false) :
      Eff r s (.complete c) ({ Cycle.modify s c (fun y => { y with finished := true }) with gs := .complete },
        (if s.gs != .complete then [.nilCand c cy.gen] else []) ++ [.stateSet c .complete])
  | restart (hc : s.closed = false) :
      Eff r s .restart ({ s with cycles := cancelAll s.cycles, gs := .new, gen := s.gen + 1 }, [.restarted (s.gen + 1)])
  | close : Eff r s .close ({ s with closed := true, cycles := cancelAll s.cycles }, [])

theorem step_eff (r : Bool) (s : Cycle.State) (e : Ev) : Eff r s e (Cycle.step r s e) := by
  cases e with
  | gather =>
    simp only [Cycle.step]
    split
    · exact .same _ _ (by simp [plain])
    · split
      · exact .same _ _ (by simp [plain])
      · rename_i hc hn
        exact .accept (by simpa using hc) (by simpa using hn)
  | start c =>
    simp only [Cycle.step]
    split
    · exact .same _ _ (by simp)
    · rename_i cy hcy
      split
      · exact .same _ _ (by simp)
      · rename_i ha
        split
        · exact .flag _ c _ _ (fun _ => ⟨rfl, rfl, rfl, rfl⟩) (by simp)
        · rename_i hl
          exact .apply c cy hcy (by simpa using ha : _ ∧ _).1 (by simpa using hl : _ ∧ _).2
  | addCheck c =>
    simp only [Cycle.step]
    split
    · exact .same _ _ (by simp)
    · rename_i cy hcy
      split
      · exact .same _ _ (by simp)
      · rename_i ha
        split
        · exact .same _ _ (by simp [plain])
        · rename_i hl
          exact .enter c cy hcy (by simpa using ha : _ ∧ _).1 (by simpa using hl : _ ∧ _).2
  | addHandoff c =>
    simp only [Cycle.step]
    split
    · exact .same _ _ (by simp)
    · rename_i cy hcy
      split
      · exact .same _ _ (by simp)
      · rename_i hw
        have hw' : 0 < cy.inWindow := Nat.pos_of_ne_zero (by simpa using hw)
        split
        · exact .leave _ c cy _ hcy hw' (Or.inl rfl)
        · rename_i hl
          have hl' : s.closed = false ∧ (r = true → cy.cancelled = false) := by simpa using hl
          exact .leave _ c cy _ hcy hw' (Or.inr ⟨rfl, hl'⟩)
  | addAbort c =>
    simp only [Cycle.step]
    split
    · exact .same _ _ (by simp)
    · rename_i cy hcy
      split
      · exact .same _ _ (by simp)
      · rename_i hw
        have hw' : ¬ cy.inWindow = 0 := fun h0 => hw (by simp [h0])
        exact .leave _ c cy _ hcy (Nat.pos_of_ne_zero hw') (Or.inl rfl)
  | complete c =>
    simp only [Cycle.step]
    split
    · exact .same _ _ (by simp)
    · rename_i cy hcy
      split
      · exact .same _ _ (by simp)
      · rename_i ha
        split
        · exact .flag _ c _ _ (fun _ => ⟨rfl, rfl, rfl, rfl⟩) (by simp)
        · rename_i hl
          split
          · exact .flag _ c _ _ (fun _ => ⟨rfl, rfl, rfl, rfl⟩) (by simp [plain])
          · rename_i hk
            have ha' : cy.applied = true := by
              cases h : cy.applied
              · simp [h] at ha
              · rfl
            exact .complete c cy hcy ha' (by simpa using hl : _ ∧ _).2 (by simpa using hk)
  | restart =>
    simp only [Cycle.step]
    split
    · exact .same _ _ (by simp [plain])
    · rename_i hc
      exact .restart (by simpa using hc)
  | close => exact .close
  | tick c =>
    simp only [Cycle.step]
    split
    · exact .same _ _ (by simp)
    · rename_i cy hcy
      split
      · exact .same _ _ (by simp)
      · rename_i hm
        split
        · exact .flag _ c _ _ (fun _ => ⟨rfl, rfl, rfl, rfl⟩) (by simp)
        · rename_i hl
          have hm' : ((cy.monitoring = true ∧ cy.finished = false) ∧ cy.applied = true) ∧ s.continual = true := by
            simpa using hm
          have hl' : s.closed = false ∧ cy.cancelled = false := by simpa using hl
          exact .regather c cy hcy hm'.1.1.1 hm'.1.2 hm'.2 hl'.1 hl'.2

theorem Eff.inv {r : Bool} {s : Cycle.State} {e : Ev} {p : Cycle.State × List Out} (h : Eff r s e p) (hi : Inv s) :
    Inv p.1 := by
  cases h with
  | same | regather => exact hi
  | accept hc hn =>
    -- the old cycles are cancelled; the new one is of the current generation, not applied, and the state is New
    have hk := inv_cancelAll hi s.gs s.gen s.closed (Nat.le_refl _)
    exact {
      genLe := GatherList.forall_snoc hk.genLe (Nat.le_refl _)
      live := GatherList.forall_snoc (fun i c' hc' hl => by obtain ⟨c, _, rfl⟩ := of_cancelAll hc'; cases hl)
        (fun _ => ⟨rfl, by simp [hn]⟩)
      last := fun i c' hc' hlen => by
        rcases getElem?_snoc hc' with h1 | ⟨h1, _⟩
        · obtain ⟨c, _, rfl⟩ := of_cancelAll h1; rfl
        · simp only [List.length_append, List.length_cons, List.length_nil] at hlen
          omega
      win := GatherList.forall_snoc hk.win (fun hw => by cases hw) }
  | flag e c f outs hf =>
    exact inv_modify hi c f s.gs (fun y => (hf y).1) (fun y => (hf y).2.1)
      (fun y hy hl => by rw [(hf y).2.2.1]; exact (hi.live c y hy hl).2) (Or.inl rfl)
      (fun y hy hw => by rw [(hf y).2.2.1]; exact hi.win c y hy (by rw [← (hf y).2.2.2]; exact hw))
  | apply c cy hcy ha hl =>
    exact inv_modify hi c _ GS.gathering (fun _ => rfl) (fun _ => rfl) (fun _ _ _ => by simp)
      (Or.inr ⟨cy, hcy, hl⟩) (fun _ _ _ => rfl)
  | enter c cy hcy ha hl =>
    exact inv_modify hi c _ s.gs (fun _ => rfl) (fun _ => rfl) (fun y hy hl' => (hi.live c y hy hl').2) (Or.inl rfl)
      (fun y hy _ => by rw [hcy] at hy; cases hy; exact ha)
  | leave e c cy out hcy hw =>
    exact inv_modify hi c _ s.gs (fun _ => rfl) (fun _ => rfl) (fun y hy hl' => (hi.live c y hy hl').2) (Or.inl rfl)
      (fun y hy _ => by rw [hcy] at hy; cases hy; exact hi.win c cy hcy hw)
  | complete c cy hcy ha hl =>
    exact inv_modify hi c _ GS.complete (fun _ => rfl) (fun _ => rfl)
      (fun y hy _ => by rw [hcy] at hy; cases hy; simpa using ha)
      (Or.inr ⟨cy, hcy, hl⟩) (fun y hy hw => hi.win c y hy hw)
  | restart hc => exact inv_cancelAll hi GS.new (s.gen + 1) s.closed (Nat.le_succ _)
  | close => exact inv_cancelAll hi s.gs s.gen true (Nat.le_refl _)

theorem inv_step (r : Bool) {s : Cycle.State} (h : Inv s) (e : Ev) : Inv (Cycle.step r s e).1 :=
  (step_eff r s e).inv h

theorem inv_run (r : Bool) : ∀ (evs : List Ev) {s : Cycle.State}, Inv s → Inv (Cycle.run r s evs).1 := by
  intro evs
  induction evs with
  | nil => intro s h; simpa [Cycle.run] using h
  | cons e es ih =>
    intro s h
    simp only [Cycle.run]
    exact ih (inv_step r h e)

theorem gather_refused (r : Bool) (s : Cycle.State) (hc : s.closed = false) (hg : s.gs ≠ GS.new) :
    Cycle.step r s .gather = (s, [Out.refused]) := by
  simp [Cycle.step, hc, hg]

theorem gather_accepted (r : Bool) (s : Cycle.State) (hc : s.closed = false) (hg : s.gs = GS.new) :
    Cycle.step r s .gather
      = ({ s with cycles := cancelAll s.cycles ++ [{ gen := s.gen }] }, [Out.accepted s.cycles.length s.gen]) := by
  simp [Cycle.step, hc, hg]

theorem restart_effect (r : Bool) (s : Cycle.State) (hc : s.closed = false) :
    let s' := (Cycle.step r s .restart).1
    s'.gs = GS.new ∧ s'.gen = s.gen + 1 ∧ (∀ c ∈ s'.cycles, c.cancelled = true) := by
  simp [Cycle.step, hc, cancelAll]

def rank : GS → Nat
  | .new => 0 | .gathering => 1 | .complete => 2

theorem rank_le_two (g : GS) : rank g ≤ 2 := by cases g <;> decide

theorem Eff.forward {r : Bool} {s : Cycle.State} {e : Ev} {p : Cycle.State × List Out} (h : Eff r s e p) (hi : Inv s) :
    (rank s.gs ≤ rank p.1.gs ∧ p.1.gen = s.gen) ∨ (e = .restart ∧ p.1.gen = s.gen + 1) := by
  cases h with
  | same | regather | accept | flag | enter | leave | close => exact .inl ⟨Nat.le_refl _, rfl⟩
  | apply c cy hcy ha hl =>
    -- a live cycle that is not yet applied: the state is New
    have : s.gs = GS.new := by
      cases hgs : s.gs
      · rfl
      all_goals exact absurd ((hi.live c cy hcy hl).2.2 (by simp [hgs])) (by simp [ha])
    exact .inl ⟨by rw [this]; exact Nat.zero_le _, rfl⟩
  | complete => exact .inl ⟨rank_le_two _, rfl⟩
  | restart => exact .inr ⟨rfl, rfl⟩

theorem gs_forward (r : Bool) {s : Cycle.State} (h : Inv s) (e : Ev) (he : e ≠ .restart) :
    rank s.gs ≤ rank (Cycle.step r s e).1.gs ∧ (Cycle.step r s e).1.gen = s.gen :=
  ((step_eff r s e).forward h).resolve_right (fun hh => he hh.1)

def isNil (g : Nat) : Out → Bool
  | .nilCand _ g' => g' == g
  | _ => false

def nilCount (outs : List Out) (g : Nat) : Nat := (outs.filter (isNil g)).length

theorem nilCount_append (a b : List Out) (g : Nat) : nilCount (a ++ b) g = nilCount a g + nilCount b g := by
  simp [nilCount]

theorem nilCount_plain {outs : List Out} (ho : ∀ o ∈ outs, plain o = true) (g : Nat) : nilCount outs g = 0 := by
  rw [nilCount, List.length_eq_zero_iff, List.filter_eq_nil_iff]
  intro o hm
  have := ho o hm
  cases o <;> first | exact Bool.false_ne_true | cases this

structure NInv (s : Cycle.State) (outs : List Out) : Prop where
  inv : Inv s
  future : ∀ g, s.gen < g → nilCount outs g = 0
  once : ∀ g, nilCount outs g ≤ 1
  done : nilCount outs s.gen = 1 → s.gs = GS.complete

theorem Eff.nil {r : Bool} {s : Cycle.State} {e : Ev} {p : Cycle.State × List Out} (h : Eff r s e p) (hi : Inv s)
    (g : Nat) :
    nilCount p.2 g = 0 ∨
      (nilCount p.2 g = 1 ∧ g = s.gen ∧ s.gs ≠ GS.complete ∧ p.1.gs = GS.complete ∧ p.1.gen = s.gen) := by
  cases h with
  | same _ _ ho | flag _ _ _ _ _ ho => exact Or.inl (nilCount_plain ho g)
  | regather | accept | apply | enter | restart | close => exact Or.inl rfl
  | leave e c cy out hcy hw ho =>
    left
    rcases ho with rfl | ⟨rfl, _⟩ <;> rfl
  | complete c cy hcy ha hl =>
    have hg := (hi.live c cy hcy hl).1
    by_cases hc : s.gs = GS.complete
    · left; simp [hc, nilCount, isNil]
    · by_cases hgg : cy.gen = g
      · right
        subst hgg
        exact ⟨by simp [hc, nilCount, isNil], hg, hc, rfl, rfl⟩
      · left; simp [hc, nilCount, isNil, hgg]

theorem Eff.ninv {r : Bool} {s : Cycle.State} {e : Ev} {p : Cycle.State × List Out} (h : Eff r s e p) {outs : List Out}
    (hn : NInv s outs) : NInv p.1 (outs ++ p.2) := by
  have hinv := h.inv hn.inv
  rcases h.forward hn.inv with ⟨hrk, hgen⟩ | ⟨_, hgen⟩
  · refine ⟨hinv, fun g hg => ?_, fun g => ?_, fun hh => ?_⟩
    · rw [hgen] at hg
      rcases h.nil hn.inv g with h0 | ⟨_, hg', _⟩
      · rw [nilCount_append, h0, hn.future g hg]
      · omega
    · rcases h.nil hn.inv g with h0 | ⟨h1, rfl, hnc, _, _⟩
      · rw [nilCount_append, h0]; exact hn.once g
      · -- the nil of this generation: none was delivered before, or the state would be Complete already
        have := hn.once s.gen
        have h0 : nilCount outs s.gen = 0 :=
          (Nat.lt_or_ge (nilCount outs s.gen) 1).elim (by omega) (fun hge => absurd (hn.done (by omega)) hnc)
        rw [nilCount_append, h0, h1]; exact Nat.le_refl 1
    · rw [hgen] at hh
      rcases h.nil hn.inv s.gen with h0 | ⟨_, _, _, hcomp, _⟩
      · have hd := hn.done (by simpa [nilCount_append, h0] using hh)
        rw [hd] at hrk
        cases hgs : p.1.gs <;> simp_all [rank]
      · exact hcomp
  · -- an accepted Restart: the next generation, in which nothing has been delivered yet
    have h0 : ∀ g, nilCount p.2 g = 0 := fun g => (h.nil hn.inv g).resolve_right (fun hh => by have := hh.2.2.2.2; omega)
    refine ⟨hinv, fun g hg => ?_, fun g => ?_, fun hh => ?_⟩
    · rw [nilCount_append, h0, hn.future g (by omega)]
    · rw [nilCount_append, h0]; exact hn.once g
    · rw [nilCount_append, h0, hgen, hn.future _ (by omega)] at hh; cases hh

theorem ninv_step (r : Bool) {s : Cycle.State} {outs : List Out} (h : NInv s outs) (e : Ev) :
    NInv (Cycle.step r s e).1 (outs ++ (Cycle.step r s e).2) :=
  (step_eff r s e).ninv h

theorem ninv_run (r : Bool) : ∀ (evs : List Ev) {s : Cycle.State} {outs : List Out}, NInv s outs →
    NInv (Cycle.run r s evs).1 (outs ++ (Cycle.run r s evs).2) := by
  intro evs
  induction evs with
  | nil => intro s outs h; simpa [Cycle.run] using h
  | cons e es ih =>
    intro s outs h
    simp only [Cycle.run]
    have := ih (ninv_step r h e)
    simpa [List.append_assoc] using this

theorem ninv_init' (k : Bool) : NInv ({ continual := k } : Cycle.State) [] :=
  ⟨inv_init' k, by intro g _; rfl, by intro g; simp [nilCount], by intro h; simp [nilCount] at h⟩

theorem ninv_init : NInv ({} : Cycle.State) [] := ninv_init' false

def stale : Out → Bool
  | .published _ cg into => cg != into
  | _ => false

theorem Eff.no_stale {r : Bool} {s : Cycle.State} {e : Ev} {p : Cycle.State × List Out} (h : Eff r s e p) (hi : Inv s)
    (hlive : ∀ (c : Nat) (cy : Cyc), s.cycles[c]? = some cy → 0 < cy.inWindow → s.closed = false → (r = true → cy.cancelled = false) →
      cy.cancelled = false) :
    ∀ o ∈ p.2, stale o = false := by
  cases h with
  | same _ _ ho | flag _ _ _ _ _ ho =>
    intro o hm
    have := ho o hm
    cases o <;> first | rfl | cases this
  | regather | accept | apply | enter | restart | close => simp [stale]
  | complete => intro o hm; split at hm <;> simp at hm <;> rcases hm with rfl | rfl <;> rfl
  | leave e c cy out hcy hw ho =>
    intro o hm
    rw [List.mem_singleton] at hm
    subst hm
    rcases ho with rfl | ⟨rfl, hc, hr⟩
    · rfl
    · simp [stale, (hi.live c cy hcy (hlive c cy hcy hw hc hr)).1]

theorem no_stale_run_recheck : ∀ (evs : List Ev) {s : Cycle.State}, Inv s →
    ∀ o ∈ (Cycle.run true s evs).2, stale o = false := by
  intro evs
  induction evs with
  | nil => intro s _ o ho; simp [Cycle.run] at ho
  | cons e es ih =>
    intro s h o ho
    simp only [Cycle.run, List.mem_append] at ho
    rcases ho with ho | ho
    · exact (step_eff true s e).no_stale h (fun _ _ _ _ _ hr => hr rfl) o ho
    · exact ih (inv_step true h e) o ho

/-- hypothesis for the code as it stands: no `Restart` task runs while an `addCandidate` call of a
running cycle is between its context check and its hand-off to the task loop -/
def quiet : Cycle.State → List Ev → Bool
  | _, [] => true
  | s, e :: es =>
    (match e with
      | .restart => s.cycles.all (fun c => c.inWindow == 0)
      | _ => true) && quiet (Cycle.step false s e).1 es

/-- a cycle inside the window is not cancelled (unless the agent is closed) -/
def WInv (s : Cycle.State) : Prop :=
  ∀ (i : Nat) (c : Cyc), s.cycles[i]? = some c → 0 < c.inWindow → c.cancelled = false ∨ s.closed = true

theorem winv_modify {s : Cycle.State} (w : WInv s) (k : Nat) (f : Cyc → Cyc) (hcan : ∀ c, (f c).cancelled = c.cancelled)
    (hk : ∀ c, s.cycles[k]? = some c → 0 < (f c).inWindow → c.cancelled = false ∨ s.closed = true) :
    WInv (Cycle.modify s k f) :=
  GatherList.forall_modify (fun i c hc _ => w i c hc) (fun c hc hw => by rw [hcan]; exact hk c hc hw)

theorem Eff.winv {s : Cycle.State} {e : Ev} {p : Cycle.State × List Out} (h : Eff false s e p) (hi : Inv s) (w : WInv s)
    (hq : e = .restart → s.cycles.all (fun c => c.inWindow == 0) = true) : WInv p.1 := by
  cases h with
  | same | regather => exact w
  | accept hc hn =>
    intro i c' hc' hw
    rcases getElem?_snoc hc' with h1 | ⟨_, rfl⟩
    · -- an old cycle inside the window would be applied and live, but the state is New
      obtain ⟨c, hc1, rfl⟩ := of_cancelAll h1
      rcases w i c hc1 hw with hl | hcl
      · exact absurd hn ((hi.live i c hc1 hl).2.1 (hi.win i c hc1 hw))
      · rw [hc] at hcl; cases hcl
    · cases hw
  | flag e c f outs hf =>
    exact winv_modify w c f (fun y => (hf y).2.1) (fun y hy hw => w c y hy (by rw [← (hf y).2.2.2]; exact hw))
  | apply c cy hcy ha hl => exact winv_modify w c _ (fun _ => rfl) (fun y hy hw => w c y hy hw)
  | enter c cy hcy ha hl =>
    exact winv_modify w c _ (fun _ => rfl) (fun y hy _ => by rw [hcy] at hy; cases hy; exact Or.inl hl)
  | leave e c cy out hcy hw' =>
    exact winv_modify w c _ (fun _ => rfl) (fun y hy hw => w c y hy (Nat.lt_of_lt_of_le hw (Nat.sub_le _ _)))
  | complete c cy hcy ha hl => exact winv_modify w c _ (fun _ => rfl) (fun y hy hw => w c y hy hw)
  | restart hc =>
    intro i c' hc' hw
    obtain ⟨c, hc1, rfl⟩ := of_cancelAll hc'
    have := List.all_eq_true.1 (hq rfl) c (List.mem_of_getElem? hc1)
    rw [beq_iff_eq] at this
    exact absurd hw (by rw [this]; exact Nat.lt_irrefl 0)
  | close => intro _ _ _ _; exact Or.inr rfl

theorem no_stale_run_quiet : ∀ (evs : List Ev) {s : Cycle.State}, Inv s → WInv s → quiet s evs = true →
    ∀ o ∈ (Cycle.run false s evs).2, stale o = false := by
  intro evs
  induction evs with
  | nil => intro s _ _ _ o ho; simp [Cycle.run] at ho
  | cons e es ih =>
    intro s h w hq o ho
    simp only [quiet, Bool.and_eq_true] at hq
    simp only [Cycle.run, List.mem_append] at ho
    rcases ho with ho | ho
    · refine (step_eff false s e).no_stale h (fun c cy hcy hw hc _ => ?_) o ho
      exact (w c cy hcy hw).resolve_right (by simp [hc])
    · refine ih (inv_step false h e) ((step_eff false s e).winv h w ?_) hq.2 o ho
      intro he; subst he; simpa using hq.1

theorem winv_init' (k : Bool) : WInv ({ continual := k } : Cycle.State) := by
  intro i c h; simp at h

theorem winv_init : WInv ({} : Cycle.State) := winv_init' false

theorem step_continual (r : Bool) (s : Cycle.State) (e : Ev) : (Cycle.step r s e).1.continual = s.continual :=
  keeps (step_eff r s e)
where
  keeps {r : Bool} {s : Cycle.State} {e : Ev} {p : Cycle.State × List Out} (h : Eff r s e p) : p.1.continual = s.continual := by
    cases h <;> rfl

theorem run_continual (r : Bool) : ∀ (evs : List Ev) (s : Cycle.State), (Cycle.run r s evs).1.continual = s.continual := by
  intro evs
  induction evs with
  | nil => intro s; rfl
  | cons e es ih => intro s; simp only [Cycle.run]; rw [ih, step_continual]

theorem Eff.no_nil_continual {r : Bool} {s : Cycle.State} {e : Ev} {p : Cycle.State × List Out} (h : Eff r s e p)
    (hk : s.continual = true) (hg : s.gs ≠ GS.complete) : (∀ g, nilCount p.2 g = 0) ∧ p.1.gs ≠ GS.complete := by
  cases h with
  | same _ _ ho | flag _ _ _ _ _ ho => exact ⟨nilCount_plain ho, hg⟩
  | regather | accept | enter | close => exact ⟨fun _ => rfl, hg⟩
  | apply | restart => exact ⟨fun _ => rfl, by simp⟩
  | leave e c cy out hcy hw ho => exact ⟨fun _ => by rcases ho with rfl | ⟨rfl, _⟩ <;> rfl, hg⟩
  | complete c cy hcy ha hl hk' => rw [hk] at hk'; cases hk'

theorem run_no_nil_continual (r : Bool) : ∀ (evs : List Ev) {s : Cycle.State}, s.continual = true → s.gs ≠ GS.complete →
    (∀ g, nilCount (Cycle.run r s evs).2 g = 0) ∧ (Cycle.run r s evs).1.gs ≠ GS.complete := by
  intro evs
  induction evs with
  | nil => intro s _ hg; exact ⟨fun g => by simp [Cycle.run, nilCount], by simpa [Cycle.run] using hg⟩
  | cons e es ih =>
    intro s hk hg
    have h1 := (step_eff r s e).no_nil_continual hk hg
    have h2 := ih (s := (Cycle.step r s e).1) (by rw [step_continual]; exact hk) h1.2
    simp only [Cycle.run]
    exact ⟨fun g => by rw [nilCount_append, h1.1 g, h2.1 g], h2.2⟩

theorem regather_live (r : Bool) {s : Cycle.State} (h : Inv s) (hnc : s.continual = true → s.gs ≠ GS.complete) (e : Ev) (c g : Nat)
    (ho : Out.regather c g ∈ (Cycle.step r s e).2) :
    e = .tick c ∧ s.closed = false ∧ g = s.gen ∧ s.gs = GS.gathering ∧ s.continual = true ∧ (Cycle.step r s e).1 = s
      ∧ ∃ cy, s.cycles[c]? = some cy ∧ cy.cancelled = false ∧ cy.monitoring = true ∧ cy.gen = g :=
  of_eff (step_eff r s e) ho
where
  of_eff {e : Ev} {p : Cycle.State × List Out} (he : Eff r s e p) (ho : Out.regather c g ∈ p.2) :
      e = .tick c ∧ s.closed = false ∧ g = s.gen ∧ s.gs = GS.gathering ∧ s.continual = true ∧ p.1 = s
        ∧ ∃ cy, s.cycles[c]? = some cy ∧ cy.cancelled = false ∧ cy.monitoring = true ∧ cy.gen = g := by
    cases he with
    | same _ _ hp | flag _ _ _ _ _ hp => cases hp _ ho
    | accept | apply | enter | restart | close => simp at ho
    | leave e c' cy out hcy hw hout => rcases hout with rfl | ⟨rfl, _⟩ <;> simp at ho
    | complete => split at ho <;> simp at ho
    | regather c' cy hcy hm ha hk hc hl =>
      simp only [List.mem_singleton, Out.regather.injEq] at ho
      obtain ⟨rfl, rfl⟩ := ho
      have hlv := h.live c cy hcy hl
      refine ⟨rfl, hc, hlv.1, ?_, hk, rfl, cy, hcy, hl, hm, rfl⟩
      have h1 : s.gs ≠ GS.new := hlv.2.1 ha
      have h2 : s.gs ≠ GS.complete := hnc hk
      cases hgs : s.gs <;> simp_all

theorem tick_after_cancel (r : Bool) (s : Cycle.State) (hc : ∀ cy ∈ s.cycles, cy.cancelled = true) (c : Nat) :
    (Cycle.step r s (.tick c)).2 = [] := by
  simp only [Cycle.step]
  split
  · rfl
  · rename_i cy hcy
    have := hc cy (List.mem_of_getElem? hcy)
    split
    · rfl
    · simp [this]

/-- the window is real: Restart between the context check and the hand-off publishes a candidate of
the cancelled cycle (generation 0) into generation 1 -/
theorem stale_witness :
    (Cycle.run false {} [.gather, .start 0, .addCheck 0, .restart, .addHandoff 0]).2
      = [Out.accepted 0 0, Out.stateSet 0 GS.gathering, Out.restarted 1, Out.published 0 0 1] := by
  decide

end IceProofs.GatherCyc

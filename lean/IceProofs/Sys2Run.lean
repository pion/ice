import IceModel.Sys2
/-!
# Sys2Run — the closed two-agent system as a transition system over `SysEv`

No third party forges traffic: an agent receives `inbound` / `inboundData` / `advance` only through the
hub functions of `IceModel.Sys2` (`Sys.handOver`, `Sys.advance`); the application may call the API
events (`Ev.isApi`) of either agent at any time.  The topology (`nat`, `blocked`, `hasB`) is fixed by
the initial state: no `SysEv` changes it.  What one `SysEv` does — a move of the hub, then the agent events
`microEvs` — is said once, in `run_rule`; proofs about `Sys.run` go through it.  A new invariant of system states
needs a frame lemma (`Hub s s' → Q s → Q s'`) and a lemma for `Sys.agentEv`, and is then kept by every event by
`Sys.run_closure`; what each agent step keeps of one agent needs only `Sys.runs_agents`.  (`C20S.sched_run` is for
predicates that follow the history of an exchange as well.)
-/
namespace IceModel.AgentCore

/-- the events an application can issue directly (everything but the three hub-driven events). -/
def Ev.isApi : Ev → Bool
  | .advance _ => false
  | .inbound _ _ _ _ => false
  | .inboundData _ _ _ _ _ => false
  | _ => true

end IceModel.AgentCore

namespace IceProofs.Sys2Run
open IceModel.AgentCore IceModel.Sys2

inductive SysEv where
  | api (isB : Bool) (e : Ev)
  | deliver (k : Nat)
  | dup (k : Nat)
  | drop (k : Nat)
  | advance (now : Nat)
  deriving Repr, Inhabited

/-- one system step with the outputs of agent A and of agent B.  An `api` event that is not an API
event (`inbound`, `inboundData`, `advance`) is refused (no-op).  `advance` may carry any time (the
safety theorems do not need monotone time). -/
def Sys.runOut (s : Sys) : SysEv → Sys × List Out × List Out
  | .api isB e =>
    if e.isApi then
      let r := s.agentEv isB e
      if isB then (r.1, [], r.2) else (r.1, r.2, [])
    else (s, [], [])
  | .deliver k => s.deliver k false
  | .dup k => s.deliver k true
  | .drop k => (s.drop k, [], [])
  | .advance now => s.advance now

def Sys.run (s : Sys) (e : SysEv) : Sys := (Sys.runOut s e).1

def Sys.runs (s : Sys) (evs : List SysEv) : Sys := evs.foldl Sys.run s

theorem Sys.runs_append (s : Sys) (e1 e2 : List SysEv) : Sys.runs s (e1 ++ e2) = Sys.runs (Sys.runs s e1) e2 := by
  simp [Sys.runs, List.foldl_append]

theorem Sys.runs_snoc (s : Sys) (es : List SysEv) (e : SysEv) : Sys.runs s (es ++ [e]) = Sys.run (Sys.runs s es) e := by
  simp [Sys.runs, List.foldl_append]

/-- both agents fresh, nothing in flight.  Configuration, credentials, tie-breakers, counters, the
topology and `hasB` are arbitrary. -/
structure Sys.Init (s : Sys) : Prop where
  a_tag : s.a.tag = 0
  b_tag : s.b.tag = 1
  a_checklist : s.a.checklist = []
  a_locals : s.a.locals = []
  a_remotes : s.a.remotes = []
  a_pending : s.a.pending = []
  a_selected : s.a.selected = none
  a_conn : s.a.connState = .new
  b_checklist : s.b.checklist = []
  b_locals : s.b.locals = []
  b_remotes : s.b.remotes = []
  b_pending : s.b.pending = []
  b_selected : s.b.selected = none
  b_conn : s.b.connState = .new
  inflight : s.inflight = []

/-- NAT functions on the bare mapping list (`Sys.mapped` / `Sys.unmapped` are these on `s.nat`). -/
def mappedL (nat : List (Nat × Nat)) (src : Nat) : Nat := ((nat.find? (·.1 == src)).map (·.2)).getD src
def unmappedL (nat : List (Nat × Nat)) (dst : Nat) : Nat := ((nat.find? (·.2 == dst)).map (·.1)).getD dst

theorem mapped_eq (s : Sys) (x : Nat) : s.mapped x = mappedL s.nat x := rfl
theorem unmapped_eq (s : Sys) (x : Nat) : s.unmapped x = unmappedL s.nat x := rfl

/-- address `x` survives the round trip through the NAT (`unmapped (mapped x) = x`). -/
def SaneAddr (nat : List (Nat × Nat)) (x : Nat) : Prop := unmappedL nat (mappedL nat x) = x

instance (nat : List (Nat × Nat)) (x : Nat) : Decidable (SaneAddr nat x) := by unfold SaneAddr; infer_instance

/-- `Reach`: a check from local address `la` to remote address `ra` can reach the peer, and the peer's
answer (sent from the real address behind `ra` to the address `la` is seen as) can come back. -/
def Reach (nat : List (Nat × Nat)) (blocked : List (Nat × Nat)) (la ra : Nat) : Prop :=
  (la, ra) ∉ blocked ∧ (unmappedL nat ra, mappedL nat la) ∉ blocked

instance (nat blocked : List (Nat × Nat)) (la ra : Nat) : Decidable (Reach nat blocked la ra) := by
  unfold Reach; infer_instance

def SameTopo (s t : Sys) : Prop := t.nat = s.nat ∧ t.blocked = s.blocked ∧ t.hasB = s.hasB

/-! What `Sys.agentEv` does: agent `X` takes the step and the other agent stays, what `X` emits joins the hub, the clock
and the topology stay. -/

theorem agentEv_eq (s : Sys) (X : Bool) (e : Ev) :
    s.agentEv X e = ({ s.setAgent X (step (s.agent X) e).1 with inflight := s.inflight ++ dgramsOf (step (s.agent X) e).2 },
      (step (s.agent X) e).2) := rfl

theorem agentEv_same (s : Sys) (X : Bool) (e : Ev) : (s.agentEv X e).1.agent X = (step (s.agent X) e).1 := by
  cases X <;> rfl

theorem agentEv_other (s : Sys) (X : Bool) (e : Ev) : (s.agentEv X e).1.agent (!X) = s.agent (!X) := by
  cases X <;> rfl

theorem agentEv_inflight (s : Sys) (X : Bool) (e : Ev) :
    (s.agentEv X e).1.inflight = s.inflight ++ dgramsOf (step (s.agent X) e).2 := by
  cases X <;> rfl

theorem agentEv_now (s : Sys) (X : Bool) (e : Ev) : (s.agentEv X e).1.now = s.now := by
  cases X <;> rfl

theorem agentEv_topo (s : Sys) (isB : Bool) (e : Ev) : SameTopo s (s.agentEv isB e).1 := by
  cases isB <;> exact ⟨rfl, rfl, rfl⟩

theorem agentEv_each {P : Bool → Agent → Prop} (s : Sys) (X : Bool) (e : Ev) (hX : P X (step (s.agent X) e).1)
    (h : ∀ Y, P Y (s.agent Y)) : ∀ Y, P Y ((s.agentEv X e).1.agent Y) := by
  intro Y
  by_cases hY : Y = X
  · rw [hY, agentEv_same]; exact hX
  · rw [Bool.eq_not_of_ne hY, agentEv_other]; exact h _

/-- the owner of an address has a local candidate there and is open -/
theorem owner_some {s : Sys} {x : Nat} {X : Bool} (h : s.owner x = some X) :
    ((s.agent X).localByAddr x).isSome = true ∧ (s.agent X).closed = false := by
  unfold Sys.owner at h
  split at h
  · rename_i ha
    cases h
    simp only [Bool.and_eq_true, Bool.not_eq_true'] at ha
    exact ha
  · split at h
    · rename_i hb
      cases h
      simp only [Bool.and_eq_true, Bool.not_eq_true'] at hb
      exact ⟨hb.1.2, hb.2⟩
    · cases h

/-- the event a delivered datagram becomes at its receiver. -/
def evOf (s : Sys) (d : Dgram) : Ev := match d.p with
  | .stun m => .inbound s.now (s.unmapped d.dst) (s.mapped d.src) m
  | .data n => .inboundData s.now (s.unmapped d.dst) (s.mapped d.src) n false

theorem mem_dgramsOf {o : List Out} {d : Dgram} {m : Msg} (hd : d ∈ dgramsOf o) (hp : d.p = .stun m) :
    Out.dgram d.src d.dst m ∈ o := by
  simp only [dgramsOf, List.mem_filterMap] at hd
  obtain ⟨x, hx, hxd⟩ := hd
  cases x with
  | dgram f t m' =>
    simp only [Option.some.injEq] at hxd
    subst hxd
    simp only [Payload.stun.injEq] at hp
    subst hp
    exact hx
  | data f t n =>
    simp only [Option.some.injEq] at hxd
    subst hxd
    cases hp
  | _ => cases hxd

/-- a STUN datagram in flight after an agent event was in flight before or is one of the agent's outputs -/
theorem agentEv_stun {s : Sys} {X : Bool} {e : Ev} {d : Dgram} {m : Msg} (hd : d ∈ (s.agentEv X e).1.inflight)
    (hp : d.p = .stun m) : d ∈ s.inflight ∨ Out.dgram d.src d.dst m ∈ (step (s.agent X) e).2 := by
  rw [agentEv_inflight] at hd
  exact (List.mem_append.mp hd).imp_right fun h => mem_dgramsOf h hp

theorem evOf_inbound {s : Sys} {d : Dgram} {now la src : Nat} {m : Msg} (h : evOf s d = .inbound now la src m) :
    d.p = .stun m := by
  unfold evOf at h
  cases hp : d.p with
  | stun m' =>
    rw [hp] at h
    simp only [Ev.inbound.injEq] at h
    rw [h.2.2.2]
  | data n => rw [hp] at h; cases h

theorem handOver_eq (s : Sys) (d : Dgram) :
    s.handOver d =
      if s.blocked.contains (d.src, d.dst) then (s, [], [])
      else match s.owner (s.unmapped d.dst) with
        | none => (s, [], [])
        | some isB =>
          if isB then ((s.agentEv isB (evOf s d)).1, [], (s.agentEv isB (evOf s d)).2)
          else ((s.agentEv isB (evOf s d)).1, (s.agentEv isB (evOf s d)).2, []) := by
  simp only [Sys.handOver, evOf]
  split
  · rfl
  · cases s.owner (s.unmapped d.dst) with
    | none => rfl
    | some isB => cases isB <;> simp <;> exact ⟨rfl, rfl⟩

theorem handOver_to {s : Sys} {d : Dgram} {X : Bool} (hb : s.blocked.contains (d.src, d.dst) = false)
    (ho : s.owner (s.unmapped d.dst) = some X) :
    s.handOver d = ((s.agentEv X (evOf s d)).1,
      if X then ([], (s.agentEv X (evOf s d)).2) else ((s.agentEv X (evOf s d)).2, [])) := by
  rw [handOver_eq, hb, if_neg (by simp), ho]
  cases X <;> rfl

theorem advance_eq (s : Sys) (now : Nat) :
    s.advance now =
      if (({ s with now := now } : Sys).agentEv false (.advance now)).1.hasB then
        (((({ s with now := now } : Sys).agentEv false (.advance now)).1.agentEv true (.advance now)).1,
         (({ s with now := now } : Sys).agentEv false (.advance now)).2,
         ((({ s with now := now } : Sys).agentEv false (.advance now)).1.agentEv true (.advance now)).2)
      else ((({ s with now := now } : Sys).agentEv false (.advance now)).1,
            (({ s with now := now } : Sys).agentEv false (.advance now)).2, []) := by
  simp only [Sys.advance]

theorem deliver_eq (s : Sys) (k : Nat) (keep : Bool) :
    s.deliver k keep =
      match s.inflight[k]? with
      | none => (s, [], [])
      | some d => (if keep then s else { s with inflight := removeAt s.inflight k }).handOver d := by
  rfl

end IceProofs.Sys2Run

namespace IceProofs.Sys2C05
open IceModel.Sys2

theorem mem_removeAt {α : Type} {l : List α} {k : Nat} {x : α} (h : x ∈ removeAt l k) : x ∈ l := by
  unfold removeAt at h
  rcases List.mem_append.mp h with h | h
  · exact List.mem_of_mem_take h
  · exact List.mem_of_mem_drop h

end IceProofs.Sys2C05

namespace IceProofs.C20S
open IceModel.AgentCore IceModel.Sys2 IceProofs.Sys2Run

/-- the agent events of one system event -/
def microEvs (s : Sys) : SysEv → List (Bool × Ev)
  | .api X e => if e.isApi then [(X, e)] else []
  | .deliver k | .dup k =>
    match s.inflight[k]? with
    | none => []
    | some d =>
      if s.blocked.contains (d.src, d.dst) then []
      else match s.owner (s.unmapped d.dst) with
        | none => []
        | some X => [(X, evOf s d)]
  | .drop _ => []
  | .advance now => (false, .advance now) :: (if s.hasB then [(true, .advance now)] else [])

end IceProofs.C20S

namespace IceProofs.Sys2Run
open IceModel.AgentCore IceModel.Sys2 IceProofs.C20S

/-! `Sys.run s e` is a move of the hub (`Hub s s0`: the clock moves, datagrams leave the hub; both agents and the topology
stay) followed by the agent events `microEvs s e`, run one after the other: none, one, or the two ticks of `advance`.
-/

structure Hub (s s0 : Sys) : Prop where
  a : s0.a = s.a
  b : s0.b = s.b
  topo : SameTopo s s0
  fl : ∀ d ∈ s0.inflight, d ∈ s.inflight

theorem Hub.refl (s : Sys) : Hub s s := ⟨rfl, rfl, ⟨rfl, rfl, rfl⟩, fun _ h => h⟩

theorem Hub.removeAt (s : Sys) (k : Nat) : Hub s { s with inflight := removeAt s.inflight k } :=
  ⟨rfl, rfl, ⟨rfl, rfl, rfl⟩, fun _ hx => Sys2C05.mem_removeAt hx⟩

theorem Hub.setNow (s : Sys) (now : Nat) : Hub s { s with now := now } := ⟨rfl, rfl, ⟨rfl, rfl, rfl⟩, fun _ h => h⟩

theorem Hub.agent {s s0 : Sys} (h : Hub s s0) (X : Bool) : s0.agent X = s.agent X := by
  cases X
  · exact h.a
  · exact h.b

theorem Hub.unmapped {s s0 : Sys} (h : Hub s s0) (x : Nat) : s0.unmapped x = s.unmapped x := by
  unfold Sys.unmapped; rw [h.topo.1]

theorem Hub.owner {s s0 : Sys} (h : Hub s s0) (x : Nat) : s0.owner x = s.owner x := by
  unfold Sys.owner; rw [h.a, h.b, h.topo.2.2]

theorem Hub.evOf {s s0 : Sys} (h : Hub s s0) (hnow : s0.now = s.now) (d : Dgram) : evOf s0 d = evOf s d := by
  unfold Sys2Run.evOf Sys.unmapped Sys.mapped; rw [h.topo.1, hnow]

/-- the one agent event of system event `e`, run in `s0`: an API call, the tick of A when there is no B, or what
datagram `k` of `s` becomes (`deliver` takes it out of the hub, `dup` leaves it) -/
inductive Handed (s s0 : Sys) : SysEv → Bool → Ev → Prop
  | api (X : Bool) (ev : Ev) (h : ev.isApi = true) (hs : s0 = s) : Handed s s0 (.api X ev) X ev
  | tick (now : Nat) (hs : s0 = { s with now := now }) : Handed s s0 (.advance now) false (.advance now)
  | dgram (e : SysEv) (X : Bool) (d : Dgram) (k : Nat) (hk : s.inflight[k]? = some d) (hnow : s0.now = s.now)
      (hfl : (e = .dup k ∧ s0.inflight = s.inflight) ∨ (e = .deliver k ∧ s0.inflight = removeAt s.inflight k))
      (hb : s0.blocked.contains (d.src, d.dst) = false) (ho : s0.owner (s0.unmapped d.dst) = some X) :
      Handed s s0 e X (evOf s0 d)

theorem Handed.cases {s s0 : Sys} {e : SysEv} {X : Bool} {ev : Ev} (h : Handed s s0 e X ev) :
    (∀ now la src m, ev ≠ .inbound now la src m) ∨ ∃ d ∈ s.inflight, ev = evOf s0 d := by
  cases h with
  | api X ev h _ => exact Or.inl fun _ _ _ _ he => by subst he; cases h
  | tick now _ => exact Or.inl fun _ _ _ _ he => by cases he
  | dgram e X d k hk _ _ _ _ => exact Or.inr ⟨d, List.mem_of_getElem? hk, rfl⟩

theorem Handed.isApi {s s0 : Sys} {e : SysEv} {X : Bool} {ev : Ev} (h : Handed s s0 e X ev) :
    (ev.isApi = true ∧ e = .api X ev) ∨ ev.isApi = false := by
  cases h with
  | api X ev h _ => exact Or.inl ⟨h, rfl⟩
  | tick now _ => exact Or.inr rfl
  | dgram e X d k _ _ _ _ _ => exact Or.inr (by unfold evOf; cases d.p <;> rfl)

theorem runOut_rule {P : SysEv → Sys × List Out × List Out → Prop} (s : Sys)
    (idle : ∀ e s0, Hub s s0 → microEvs s e = [] → P e (s0, [], []))
    (one : ∀ e s0 X ev, Hub s s0 → microEvs s e = [(X, ev)] → Handed s s0 e X ev →
      P e ((s0.agentEv X ev).1, if X then ([], (s0.agentEv X ev).2) else ((s0.agentEv X ev).2, [])))
    (tick : ∀ now s0, Hub s s0 → s0 = { s with now := now } →
      microEvs s (.advance now) = [(false, .advance now), (true, .advance now)] →
      P (.advance now) (((s0.agentEv false (.advance now)).1.agentEv true (.advance now)).1,
        (s0.agentEv false (.advance now)).2, ((s0.agentEv false (.advance now)).1.agentEv true (.advance now)).2))
    (e : SysEv) : P e (Sys.runOut s e) := by
  have hand : ∀ (e : SysEv) (s0 : Sys) (k : Nat) (d : Dgram), Hub s s0 → s.inflight[k]? = some d → s0.now = s.now →
      ((e = .dup k ∧ s0.inflight = s.inflight) ∨ (e = .deliver k ∧ s0.inflight = removeAt s.inflight k)) →
      microEvs s e = microEvs s (.deliver k) → P e (s0.handOver d) := by
    intro e s0 k d hub hk hnow hfl hm
    have hev := hub.evOf hnow d
    have hown : s0.owner (s0.unmapped d.dst) = s.owner (s.unmapped d.dst) := by rw [hub.unmapped, hub.owner]
    simp only [microEvs, hk] at hm
    rw [handOver_eq, hub.topo.2.1, hown]
    split
    · rename_i hb; rw [if_pos hb] at hm; exact idle e s0 hub hm
    · rename_i hb
      rw [if_neg hb] at hm
      cases ho : s.owner (s.unmapped d.dst) with
      | none => rw [ho] at hm; exact idle e s0 hub hm
      | some X =>
        rw [ho, ← hev] at hm
        have := one e s0 X (evOf s0 d) hub hm
          (.dgram e X d k hk hnow hfl (by rw [hub.topo.2.1]; simpa using hb) (hown.trans ho))
        cases X <;> exact this
  cases e with
  | api X ev =>
    simp only [Sys.runOut]
    by_cases hapi : ev.isApi = true
    · rw [if_pos hapi]
      have := one (.api X ev) s X ev (Hub.refl s) (by simp [microEvs, hapi]) (.api X ev hapi rfl)
      cases X <;> exact this
    · rw [if_neg hapi]
      exact idle _ s (Hub.refl s) (by simp [microEvs, hapi])
  | deliver k =>
    show P _ (s.deliver k false)
    rw [deliver_eq]
    cases hk : s.inflight[k]? with
    | none => exact idle _ s (Hub.refl s) (by simp [microEvs, hk])
    | some d =>
      exact hand _ _ k d (Hub.removeAt s k) hk rfl (Or.inr ⟨rfl, rfl⟩) rfl
  | dup k =>
    show P _ (s.deliver k true)
    rw [deliver_eq]
    cases hk : s.inflight[k]? with
    | none => exact idle _ s (Hub.refl s) (by simp [microEvs, hk])
    | some d => exact hand _ _ k d (Hub.refl s) hk rfl (Or.inl ⟨rfl, rfl⟩) rfl
  | drop k => exact idle _ _ (Hub.removeAt s k) rfl
  | advance now =>
    show P _ (s.advance now)
    rw [advance_eq]
    have hub := Hub.setNow s now
    have hB : (({ s with now := now } : Sys).agentEv false (.advance now)).1.hasB = s.hasB :=
      (agentEv_topo _ false _).2.2
    by_cases hh : s.hasB = true
    · rw [if_pos (hB.trans hh)]
      exact tick now _ hub rfl (by simp [microEvs, hh])
    · rw [if_neg (fun h => hh (hB.symm.trans h))]
      exact one _ _ false (.advance now) hub (by simp [microEvs, hh]) (.tick now rfl)

theorem run_rule {P : SysEv → Sys → Prop} (s : Sys)
    (idle : ∀ e s0, Hub s s0 → microEvs s e = [] → P e s0)
    (one : ∀ e s0 X ev, Hub s s0 → microEvs s e = [(X, ev)] → Handed s s0 e X ev → P e (s0.agentEv X ev).1)
    (tick : ∀ now s0, Hub s s0 → s0 = { s with now := now } →
      microEvs s (.advance now) = [(false, .advance now), (true, .advance now)] →
      P (.advance now) ((s0.agentEv false (.advance now)).1.agentEv true (.advance now)).1)
    (e : SysEv) : P e (Sys.run s e) :=
  runOut_rule (P := fun e r => P e r.1) s idle one tick e

theorem SameTopo.trans {s s0 s1 : Sys} (h1 : SameTopo s s0) (h2 : SameTopo s0 s1) : SameTopo s s1 :=
  ⟨h2.1.trans h1.1, h2.2.1.trans h1.2.1, h2.2.2.trans h1.2.2⟩

theorem Sys.run_topology (s : Sys) (e : SysEv) :
    (Sys.run s e).nat = s.nat ∧ (Sys.run s e).blocked = s.blocked ∧ (Sys.run s e).hasB = s.hasB :=
  run_rule (P := fun _ s' => SameTopo s s') s (fun _ _ hub _ => hub.topo)
    (fun _ s0 X ev hub _ _ => hub.topo.trans (agentEv_topo s0 X ev))
    (fun _ s0 hub _ _ => (hub.topo.trans (agentEv_topo s0 false _)).trans (agentEv_topo _ true _)) e

theorem Sys.runs_ind {Q : Sys → Prop} {OK : SysEv → Prop} (h : ∀ s e, Q s → OK e → Q (Sys.run s e)) {s : Sys} (q : Q s)
    (es : List SysEv) (he : ∀ e ∈ es, OK e) : Q (Sys.runs s es) := by
  induction es generalizing s with
  | nil => exact q
  | cons e es ih =>
    exact ih (h s e q (he e List.mem_cons_self)) fun x hx => he x (List.mem_cons_of_mem _ hx)

/-- A predicate `Q` on system states that hub moves keep and that one agent event keeps is kept by every system event.
`K`: what is asked of an API call (`hk`; what the hub hands over passes, `hub`).  `D s d`: what `Q s` knows of a datagram in
flight, so that the agent event may use it of the datagram it is handed. -/
theorem Sys.run_closure {K : Bool → Ev → Prop} {Q : Sys → Prop} {D : Sys → Dgram → Prop}
    (hub : ∀ X ev, ev.isApi = false → K X ev)
    (dgram : ∀ s, Q s → ∀ d ∈ s.inflight, D s d)
    (dframe : ∀ s s0 d, Hub s s0 → D s d → D s0 d)
    (frame : ∀ s s0, Hub s s0 → Q s → Q s0)
    (agent : ∀ s X ev, Q s → K X ev → ((∀ now la src m, ev ≠ .inbound now la src m) ∨ ∃ d, D s d ∧ ev = evOf s d) →
      Q (s.agentEv X ev).1)
    {s : Sys} (q : Q s) (e : SysEv) (hk : ∀ X ev, e = .api X ev → K X ev) : Q (Sys.run s e) := by
  have tick : ∀ s1 X now, Q s1 → Q (s1.agentEv X (.advance now)).1 := fun s1 X now q1 =>
    agent s1 X _ q1 (hub X _ rfl) (Or.inl fun _ _ _ _ he => by cases he)
  exact run_rule (P := fun e s' => (∀ X ev, e = .api X ev → K X ev) → Q s') s (fun _ s0 h _ _ => frame s s0 h q)
    (fun _ s0 X ev h _ hv hk => agent s0 X ev (frame s s0 h q) (hv.isApi.elim (fun ha => hk X ev ha.2) (hub X ev))
      (hv.cases.imp id fun ⟨d, hd, he⟩ => ⟨d, dframe s s0 d h (dgram s q d hd), he⟩))
    (fun now s0 h _ _ _ => tick _ true now (tick s0 false now (frame s s0 h q))) e hk

theorem Sys.runs_closure {K : Bool → Ev → Prop} {Q : Sys → Prop} {D : Sys → Dgram → Prop}
    (hub : ∀ X ev, ev.isApi = false → K X ev)
    (dgram : ∀ s, Q s → ∀ d ∈ s.inflight, D s d)
    (dframe : ∀ s s0 d, Hub s s0 → D s d → D s0 d)
    (frame : ∀ s s0, Hub s s0 → Q s → Q s0)
    (agent : ∀ s X ev, Q s → K X ev → ((∀ now la src m, ev ≠ .inbound now la src m) ∨ ∃ d, D s d ∧ ev = evOf s d) →
      Q (s.agentEv X ev).1)
    {s : Sys} (q : Q s) (es : List SysEv) (hk : ∀ e ∈ es, ∀ X ev, e = .api X ev → K X ev) : Q (Sys.runs s es) :=
  Sys.runs_ind (Q := Q) (fun _ e q he => Sys.run_closure hub dgram dframe frame agent q e he) q es hk

theorem Sys.run_agents {P : Agent → Prop} (hP : ∀ a e, P a → P (step a e).1) {s : Sys} (h : ∀ X, P (s.agent X))
    (e : SysEv) : ∀ X, P ((Sys.run s e).agent X) :=
  Sys.run_closure (K := fun _ _ => True) (Q := fun s => ∀ X, P (s.agent X)) (D := fun _ _ => True) (fun _ _ _ => trivial)
    (fun _ _ _ _ => trivial) (fun _ _ _ _ _ => trivial) (fun _ _ hub q X => by rw [hub.agent]; exact q X)
    (fun s1 Y ev q _ _ => agentEv_each s1 Y ev (hP _ ev (q Y)) q) h e fun _ _ _ => trivial

theorem Sys.runs_agents {P : Agent → Prop} (hP : ∀ a e, P a → P (step a e).1) {s : Sys} (h : ∀ X, P (s.agent X))
    (es : List SysEv) : ∀ X, P ((Sys.runs s es).agent X) :=
  Sys.runs_ind (Q := fun s => ∀ X, P (s.agent X)) (OK := fun _ => True) (fun _ e q _ => Sys.run_agents hP q e) h es
    fun _ _ => trivial

theorem Sys.runs_topology (s : Sys) (es : List SysEv) :
    (Sys.runs s es).nat = s.nat ∧ (Sys.runs s es).blocked = s.blocked ∧ (Sys.runs s es).hasB = s.hasB :=
  Sys.runs_ind (Q := SameTopo s) (OK := fun _ => True) (fun s1 e h _ => h.trans (Sys.run_topology s1 e)) ⟨rfl, rfl, rfl⟩
    es fun _ _ => trivial

end IceProofs.Sys2Run

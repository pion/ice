import IceProofs.Sys2C01LiveChain
/-!
# C01 liveness — what a delivery keeps; the controlled agent follows the nomination

`X.keep`: what survives ANY delivery or duplication (`Effect`): valid and selected pairs, a transaction in progress
(`Ch1`: request or response in flight; `Ch2`: response in flight).  `deliver_nom`: a USE-CANDIDATE request of the controlling
agent over a `Link`, handed to the controlled agent, makes it select a pair or open a transaction of its own on the pair it
marked (`DP`).  `LinkedJ`: whenever the controlling agent has a selected pair — or a success response to one of its
USE-CANDIDATE transactions is in flight (`NomSeen`) — the controlled agent has a selected pair or such a transaction in
progress: the response exists only because the controlled agent handled the nomination.
-/
namespace IceProofs.C01Live
open IceModel.AgentCore IceModel.Sys2 IceProofs.Sys2Run IceProofs.C01 IceProofs.Agent

section
variable {nat blocked : List (Nat × Nat)} {SLA SLB SR : Nat → Prop} {liteA liteB : Bool} {T0 H : Nat} {c : Bool}

theorem HasSucc.keep {s s' : Sys} {hd : Dgram} {t : List Dgram} (he : Effect T0 s s' hd t) {x : Bool} (g : HasSucc s x) :
    HasSucc s' x := by
  obtain ⟨p, hp, hs⟩ := g
  obtain ⟨_, k⟩ := he.lk x
  obtain ⟨p', hp', kp⟩ := k.mem_pair hp
  exact ⟨p', hp', kp.succ hs⟩

theorem Sel.keep {s s' : Sys} {hd : Dgram} {t : List Dgram} (he : Effect T0 s s' hd t) {x : Bool} (g : Sel s x) : Sel s' x := by
  obtain ⟨_, k⟩ := he.lk x
  exact k.sel g

theorem Goal.keep {s s' : Sys} {hd : Dgram} {t : List Dgram} (he : Effect T0 s s' hd t) {x : Bool} {uc nomOn : Bool}
    (g : Goal c s x uc nomOn) : Goal c s' x uc nomOn :=
  ⟨HasSucc.keep he g.1, fun hc => Sel.keep he (g.2 hc)⟩

/-- the response is in flight (or the transaction is complete) -/
def Ch2 (c : Bool) (s : Sys) (x : Bool) (tid la ra : Nat) (uc nomOn : Bool) (ts : Nat) : Prop :=
  Goal c s x uc nomOn ∨ (Ob s x tid la ra uc nomOn ts ∧ ∃ d ∈ s.inflight, RespD s x tid la ra d)

/-- the request or the response is in flight (or the transaction is complete) -/
def Ch1 (c : Bool) (s : Sys) (x : Bool) (tid la ra : Nat) (uc nomOn : Bool) (ts : Nat) : Prop :=
  Ch2 c s x tid la ra uc nomOn ts ∨ (Ob s x tid la ra uc nomOn ts ∧ ∃ d ∈ s.inflight, ReqD s x tid la ra uc d)

variable {x : Bool} {tid la ra : Nat} {uc nomOn : Bool} {ts : Nat}

theorem resp_keep {s s' : Sys} (h : SysOK nat blocked SLA SLB SR liteA liteB T0 H c s) {hd : Dgram} {t : List Dgram}
    (he : Effect T0 s s' hd t) (hmem : hd ∈ s.inflight) (hob : Ob s x tid la ra uc nomOn ts) :
    Goal c s' x uc nomOn ∨ Ob s' x tid la ra uc nomOn ts := by
  by_cases hq : ∃ m, hd.p = .stun m ∧ m.cls = 2 ∧ m.tid = tid
  · obtain ⟨m, hm, hc, ht⟩ := hq
    exact (deliver_resp h he hmem hob hm hc ht).1
  · exact Or.inr (hob.keep h he (fun m hm hc ht _ => hq ⟨m, hm, hc, ht⟩))

theorem resp_fin {s s' : Sys} (h : SysOK nat blocked SLA SLB SR liteA liteB T0 H c s) {hd : Dgram} {t : List Dgram}
    (he : Effect T0 s s' hd t) (hmem : hd ∈ s.inflight) (hob : Ob s x tid la ra uc nomOn ts) (hr : RespD s x tid la ra hd) :
    Goal c s' x uc nomOn := by
  obtain ⟨_, _, m, hm, hc, hmeth, ht, hkey⟩ := hr
  exact (deliver_resp h he hmem hob hm hc ht).2 hmeth hkey

theorem Ch2.keep {s s' : Sys} (h : SysOK nat blocked SLA SLB SR liteA liteB T0 H c s) {hd : Dgram} {t : List Dgram}
    (he : Effect T0 s s' hd t) (hmem : hd ∈ s.inflight) (hall : ∀ d ∈ s.inflight, d ∈ t ∨ d = hd)
    (g : Ch2 c s x tid la ra uc nomOn ts) : Ch2 c s' x tid la ra uc nomOn ts := by
  rcases g with g | ⟨hob, d, hd', hr⟩
  · exact Or.inl (g.keep he)
  · rcases hall d hd' with hin | heq
    · rcases resp_keep h he hmem hob with g | hob'
      · exact Or.inl g
      · exact Or.inr ⟨hob', d, he.mem_tail hin, hr.same he.same⟩
    · subst heq
      exact Or.inl (resp_fin h he hmem hob hr)

theorem Ch1.keep {s s' : Sys} (h : SysOK nat blocked SLA SLB SR liteA liteB T0 H c s) {hd : Dgram} {t : List Dgram}
    (he : Effect T0 s s' hd t) (hmem : hd ∈ s.inflight) (hall : ∀ d ∈ s.inflight, d ∈ t ∨ d = hd)
    (g : Ch1 c s x tid la ra uc nomOn ts) : Ch1 c s' x tid la ra uc nomOn ts := by
  rcases g with g | ⟨hob, d, hd', hr⟩
  · exact Or.inl (g.keep h he hmem hall)
  · rcases hall d hd' with hin | heq
    · rcases resp_keep h he hmem hob with g | hob'
      · exact Or.inl (Or.inl g)
      · exact Or.inr ⟨hob', d, he.mem_tail hin, hr.same he.same⟩
    · subst heq
      obtain ⟨k1, d', hd1, hr1⟩ := deliver_req h he hmem hob hr
      exact Or.inl (Or.inr ⟨k1, d', hd1, hr1⟩)

theorem Effect.getElem_tail {s s' : Sys} {hd : Dgram} {t : List Dgram} (he : Effect T0 s s' hd t) {i : Nat} {d : Dgram}
    (h : t[i]? = some d) : s'.inflight[i]? = some d := by
  have hi : i < t.length := by
    rcases Nat.lt_or_ge i t.length with h' | h'
    · exact h'
    · rw [List.getElem?_eq_none h'] at h; cases h
  rcases he.cases with ⟨e, _, _⟩ | ⟨x, m, _, _, _, _, _, _, e⟩
  · rw [e]; exact h
  · rw [e, List.getElem?_append_left hi]; exact h

theorem mem_getElem_lt {α : Type} {l : List α} {d : α} (h : d ∈ l) : ∃ i, i < l.length ∧ l[i]? = some d := by
  obtain ⟨i, hi⟩ := List.getElem?_of_mem h
  refine ⟨i, ?_, hi⟩
  rcases Nat.lt_or_ge i l.length with h' | h'
  · exact h'
  · rw [List.getElem?_eq_none h'] at hi; cases hi

/-- datagram `d` is a nomination request of the controlling agent on the route `la → ra` -/
def NomD (c : Bool) (s : Sys) (la ra : Nat) (d : Dgram) : Prop :=
  d.src = la ∧ d.dst = ra ∧ ∃ m, d.p = .stun m ∧ IsReq (s.agent c) true m

/-- progress of the controlled agent: a selected pair, or a transaction of its own on a marked pair in progress
(`fresh`: opened at the current time) -/
def DP (c : Bool) (s : Sys) (fresh : Bool) : Prop :=
  Sel s (!c) ∨ ∃ tid lb rb ts, Ch1 c s (!c) tid lb rb false true ts ∧ (fresh = true → ts = s.now)

theorem DP.weaken {s : Sys} {fresh : Bool} (g : DP c s fresh) : DP c s false := by
  rcases g with g | ⟨tid, lb, rb, ts, g, _⟩
  · exact Or.inl g
  · exact Or.inr ⟨tid, lb, rb, ts, g, fun hf => by cases hf⟩

theorem deliver_nom {s s' : Sys} (h : SysOK nat blocked SLA SLB SR liteA liteB T0 H c s) {hd : Dgram} {t : List Dgram}
    (he : Effect T0 s s' hd t) (hmem : hd ∈ s.inflight) {la ra : Nat} (hl : Link s c la ra) (hn : NomD c s la ra hd) :
    DP c s' true := by
  obtain ⟨e1, e2, m, hm, hreqm⟩ := hn
  obtain ⟨hst, _, hfl, hauth, hnc, hflt, l, hl'⟩ := hl.delivers h he hmem e1 e2 hm hreqm
  have hctl : (s.agent (!c)).controlling = false := by rw [h.paired.role]; cases c <;> rfl
  rcases step_request_nominates h.time0 h.timeH (h.good (!c)) (h.c06 (!c)) hl' hauth hnc hflt hctl hreqm.uc hreqm.nom with
    hsel | ⟨l', rc, q, mt, f1, f2, f3, f4, f5, f6, f7⟩
  · left
    show (s'.agent (!c)).selected.isSome = true
    rw [hst]; exact hsel
  · right
    rw [← hst] at f1 f2 f3 f7
    refine ⟨mt.tid, s.unmapped ra, s.mapped la, s'.now, Or.inr ⟨⟨he.net.link hl.mirror,
      ⟨_, f7, rfl, rfl, rfl, rfl, rfl, ?_⟩, ⟨l', rc, q, f1, f2, f3, fun _ => Or.inl f4⟩, ?_⟩,
      _, by rw [hfl]; exact List.mem_append_right _ (mem_dgramsOf_of_dgram f5), rfl, rfl, mt, rfl,
      f6.congr (he.ids (!c)), rfl⟩, fun _ => rfl⟩
    · simp [pendOf, he.now]
    · simp [maxBindingRequestTimeout]

theorem DP.keep {s s' : Sys} (h : SysOK nat blocked SLA SLB SR liteA liteB T0 H c s) {hd : Dgram} {t : List Dgram}
    (he : Effect T0 s s' hd t) (hmem : hd ∈ s.inflight) (hall : ∀ d ∈ s.inflight, d ∈ t ∨ d = hd) {fresh : Bool}
    (g : DP c s fresh) : DP c s' fresh := by
  rcases g with g | ⟨tid, lb, rb, ts, g, hf⟩
  · exact Or.inl (g.keep he)
  · exact Or.inr ⟨tid, lb, rb, ts, g.keep h he hmem hall, fun hfr => by rw [he.now]; exact hf hfr⟩

theorem NomD.same {s s' : Sys} (he : Same s s') {la ra : Nat} {d : Dgram} (h : NomD c s la ra d) : NomD c s' la ra d := by
  obtain ⟨h1, h2, m, h3, h4⟩ := h
  exact ⟨h1, h2, m, h3, h4.congr (he.2 c)⟩

/-- the controlling agent has a selected pair, or a success response to one of its pending USE-CANDIDATE
transactions is in flight -/
def NomSeen (c : Bool) (s : Sys) : Prop :=
  Sel s c ∨ ∃ d ∈ s.inflight, ∃ m, d.p = .stun m ∧ m.cls = 2 ∧ ∃ pd ∈ (s.agent c).pending, pd.tid = m.tid ∧ pd.useCand = true

/-- `P0` stands for "`NomSeen` held already when the round's deliveries began" -/
def LinkedJ (c : Bool) (P0 : Prop) (s : Sys) : Prop := NomSeen c s → DP c s true ∨ P0

theorem sinv_resp_tid {s : Sys} {LA LB : Log} (h : SInv nat blocked SLA SLB SR liteA liteB s LA LB)
    {d : Dgram} (hd : d ∈ s.inflight) {m : Msg} (hm : d.p = .stun m) (hc : m.cls = 2) :
    ∃ z n, n < (s.agent z).nextTid ∧ m.tid = 2 * n + (if z then 1 else 0) := by
  obtain ⟨l0, r0, hlog, _⟩ := h.k2 d hd m hm hc
  rcases List.mem_append.mp hlog with hl | hl
  · obtain ⟨n, hn, e⟩ := h.invA.logOK _ hl
    exact ⟨false, n, hn, e⟩
  · obtain ⟨n, hn, e⟩ := h.invB.logOK _ hl
    exact ⟨true, n, hn, e⟩

theorem pending_old {s s' : Sys} (h : SysOK nat blocked SLA SLB SR liteA liteB T0 H c s)
    (h' : SysOK nat blocked SLA SLB SR liteA liteB T0 H c s') {hd : Dgram} {t : List Dgram} (he : Effect T0 s s' hd t)
    {pd : Pending} (hpd : pd ∈ (s'.agent c).pending) {z : Bool} {n : Nat} (hn : n < (s.agent z).nextTid)
    (ht : pd.tid = 2 * n + (if z then 1 else 0)) : pd ∈ (s.agent c).pending := by
  obtain ⟨LA, LB, hsi⟩ := h.sinv
  obtain ⟨LA', LB', hsi'⟩ := h'.sinv
  rcases he.agent_cases c with e | ⟨m, _, e⟩
  · rw [e] at hpd; exact hpd
  · exact pending_old_step hsi hsi' e hpd hn ht

theorem LinkedJ.keep {s s' : Sys} (h : SysOK nat blocked SLA SLB SR liteA liteB T0 H c s)
    (h' : SysOK nat blocked SLA SLB SR liteA liteB T0 H c s') {hd : Dgram} {t : List Dgram}
    (he : Effect T0 s s' hd t) (hhd : hd ∈ s.inflight) (hall : ∀ d ∈ s.inflight, d ∈ t ∨ d = hd) (hsub : ∀ d ∈ t, d ∈ s.inflight)
    {P0 : Prop} (hj : LinkedJ c P0 s) : LinkedJ c P0 s' := by
  · intro hseen'
    by_cases hseen : NomSeen c s
    · rcases hj hseen with g | g
      · exact Or.inl (g.keep h he hhd hall)
      · exact Or.inr g
    · left
      obtain ⟨LA, LB, hsi⟩ := h.sinv
      rcases hseen' with hsel | ⟨d', hd', m', hm', hc', pd, hpd, hpt, hpu⟩
      · -- the controlling agent became selected: impossible without a response to a nomination
        exfalso
        unfold Sel at hsel
        rcases he.agent_cases c with e | ⟨m, hm, hst⟩
        · rw [e] at hsel; exact hseen (Or.inl hsel)
        · rw [hst] at hsel
          cases hl : (s.agent c).localByAddr (s.unmapped hd.dst) with
          | none => rw [(h.good c).step_inbound_none hl] at hsel; exact hseen (Or.inl hsel)
          | some l =>
            rw [(h.good c).step_inbound hl] at hsel
            have hok := (h.flight hd hhd).hok hm c
            have g0 := handleInbound_good0 h.time0 (h.good c) l (localByAddr_listed hl).1 (s.mapped hd.src) m hok
            rw [runForced_selected g0 h.timeH] at hsel
            have hctl : (s.agent c).controlling = true := by rw [h.paired.role]; simp
            rcases ctl_select_needs_uc (s.agent c) s.now l (s.mapped hd.src) m hctl (fun ha => (hok ha).2) hsel with
              hold | ⟨hcls, pd, hpd, hpt, hpu⟩
            · exact hseen (Or.inl hold)
            · exact hseen (Or.inr ⟨hd, hhd, m, hm, hcls, pd, hpd, hpt, hpu⟩)
      · -- a response to a nomination is in flight
        rcases he.cases with ⟨e1, e, _⟩ | ⟨y, m, hm, hown, hnb, hst, ho, k, hfl⟩
        · exfalso
          rw [e1] at hd'
          rw [e] at hpd
          exact hseen (Or.inr ⟨d', hsub d' hd', m', hm', hc', pd, hpd, hpt, hpu⟩)
        · rw [hfl] at hd'
          rcases List.mem_append.mp hd' with hold | hnew
          · exfalso
            have hdm : d' ∈ s.inflight := hsub d' hold
            obtain ⟨z, n, hn, en⟩ := sinv_resp_tid hsi hdm hm' hc'
            have := pending_old h h' he hpd hn (hpt.trans en)
            exact hseen (Or.inr ⟨d', hdm, m', hm', hc', pd, this, hpt, hpu⟩)
          · -- emitted by this delivery: an answer to the authenticated request `m`
            have hok := (h.flight hd hhd).hok hm y
            obtain ⟨_, hresp⟩ := step_inbound_reqs h.time0 h.timeH (h.good y) (s.unmapped hd.dst) (s.mapped hd.src) m hok
            obtain ⟨_, hm0, htid, hauth⟩ := hresp _ _ _ (mem_dgramsOf_stun hnew hm') (by rw [hc']; decide)
            obtain ⟨z, n, hn, en⟩ := sinv_flight_tid hsi hhd hm hm0
            have hpold := pending_old h h' he hpd hn ((hpt.trans htid).trans en)
            obtain ⟨q1, q2, q3, q4⟩ := h.agree hd hhd m hm hm0 pd hpold (hpt.trans htid) hpu
            exact deliver_nom h he hhd q4 ⟨rfl, rfl, m, hm, q1⟩

end

end IceProofs.C01Live

import IceProofs.AgentC06Struct
import IceProofs.AgentRulesStep
/-!
# C06 — the non-wiping handlers are evolutions (`Evo`), possibly around one guarded `addPair`
-/
namespace IceProofs.AgentC06
open IceModel.AgentCore IceProofs.Agent

theorem mem_lcsOf {a : Agent} {c : Cand} (h : c ∈ a.locals) : core c ∈ lcsOf a := List.mem_map_of_mem h
theorem mem_rcsOf {a : Agent} {c : Cand} (h : c ∈ a.remotes) : core c ∈ rcsOf a := List.mem_map_of_mem h

theorem findPair_some_ids {a : Agent} {l r : Cand} {p : Pair} (h : a.findPair l r = some p) :
    p.id ∈ idsOf a := mem_ids_iff.2 ⟨p, (findPair_listed h).1, rfl⟩

theorem idsOf_modPair (a : Agent) (id : Nat) (f : Pair → Pair) (h : ∀ p, (f p).id = p.id) :
    idsOf (a.modPair id f) = idsOf a := by
  simp only [idsOf, Agent.modPair]
  exact updPair_map (·.id) _ _ _ h

theorem Evo.r_same {a b c : Agent} (h : Evo a b) (s : Same b c) : Evo a c := h.trans s.evo

theorem Evo.r_modPair {a b : Agent} (h : Evo a b) (id : Nat) (f : Pair → Pair)
    (hk : ∀ p, key (f p) = key p := by intro _; rfl)
    (hn : ∀ p, p.nominated = true → (f p).nominated = true := by intro _ h; first | exact h | rfl) :
    Evo a (b.modPair id f) :=
  h.trans (Evo.modPair b id f hk hn)

theorem Evo.r_select {a b : Agent} (h : Evo a b) (id : Nat) (hid : id ∈ idsOf a) : Evo a (b.select id).1 :=
  h.trans (Evo.select b id (h.ids ▸ hid))

theorem Evo.r_setNominated {a b : Agent} (h : Evo a b) (id : Nat) (hid : id ∈ idsOf a) :
    Evo a { b with nominatedPair := some id } :=
  h.trans (Evo.setNominatedPair b id (h.ids ▸ hid))

theorem Same.answered (a : Agent) (v : Option Nat) : Same a { a with answeredNomination := v } := rfl

theorem Same.lastNomination (a : Agent) (v : Option Nat) : Same a { a with lastNomination := v } := rfl

theorem Evo.successDecide (a : Agent) (pd : Pending) (p : Pair) (hid : p.id ∈ idsOf a) :
    Evo a (successDecide a pd p).1 :=
  successDecide_rule (Q := fun x => Evo a x.1) a pd p (Evo.refl a)
    (fun _ v => (Same.answered a v).evo.r_select p.id hid)
    fun _ ao h => by
      rcases h with rfl | rfl
      · exact (Evo.select a p.id hid).r_modPair _ _
      · exact (Evo.refl a).r_modPair _ _

theorem Evo.handleSuccess (a : Agent) (now : Nat) (m : Msg) (l r : Cand) (src : Nat) :
    Evo a (a.handleSuccess now m l r src).1 := by
  have e0 : Evo a (a.takePending now m.tid).1 := (Same.takePending a now m.tid).evo
  refine handleSuccess_rule (Q := fun x => Evo a x.1) a now m l r src e0 fun pd p _ hp => ?_
  have e1 := (Evo.refl (a.takePending now m.tid).1).r_modPair p.id fun p =>
    { p with state := .succeeded, gResp := true, gRespUC := p.gRespUC || pd.useCand }
  exact ((e0.trans e1).trans (Evo.successDecide _ pd p (e1.ids ▸ findPair_some_ids hp))).r_modPair _ _

theorem StructOK.lcNodup {ks lc rc ca nu np bl cl} (h : StructOK ks lc rc ca nu np bl cl) :
    (lc.map (·.uid)).Nodup := by
  have := h.uidsNodup
  rw [List.map_append, List.nodup_append] at this
  exact this.1

theorem StructOK.rcNodup {ks lc rc ca nu np bl cl} (h : StructOK ks lc rc ca nu np bl cl) :
    (rc.map (·.uid)).Nodup := by
  have := h.uidsNodup
  rw [List.map_append, List.nodup_append] at this
  exact this.2.1

theorem findCand_of_core_mem {l : List Cand} (hn : ((l.map core).map (·.uid)).Nodup) {c : Cand}
    (hc : core c ∈ l.map core) : ∃ c0, findCand l c.uid = some c0 ∧ core c0 = core c := by
  obtain ⟨c1, hc1, he⟩ := List.mem_map.1 hc
  have hu : c1.uid = c.uid := by have := congrArg Cand.uid he; simpa using this
  cases hf : findCand l c.uid with
  | none => exact absurd hu (findCand_eq_none.1 hf c1 hc1)
  | some c0 =>
    obtain ⟨h0, h0u⟩ := findCand_listed hf
    refine ⟨c0, rfl, ?_⟩
    have : core c0 = core c1 :=
      eq_of_key_nodup hn (List.mem_map_of_mem h0) (List.mem_map_of_mem hc1) (by simp [h0u, hu])
    rw [this, he]

theorem findPair_none_fresh {a : Agent} (hs : InvS a) {l r : Cand} (hl : core l ∈ lcsOf a)
    (hr : core r ∈ rcsOf a) (hf : a.findPair l r = none) : (l.uid, r.uid) ∉ (keysOf a).map (·.2) := by
  intro hm
  obtain ⟨k, hk, hk2⟩ := List.mem_map.1 hm
  obtain ⟨p, hp, rfl⟩ := List.mem_map.1 hk
  have hpl : p.l = l.uid := by have := congrArg Prod.fst hk2; simpa using this
  have hpr : p.r = r.uid := by have := congrArg Prod.snd hk2; simpa using this
  obtain ⟨l0, hl0, hl0c⟩ := findCand_of_core_mem hs.lcNodup hl
  obtain ⟨r0, hr0, hr0c⟩ := findCand_of_core_mem hs.rcNodup hr
  refine findPair_eq_none.1 hf p hp l0 r0 (hpl ▸ hl0) (hpr ▸ hr0) ⟨?_, ?_⟩
  · rw [← core_equal, hl0c, core_equal]; exact equal_self l
  · rw [← core_equal, hr0c, core_equal]; exact equal_self r

/-- nothing, or one `addPair` of two current candidates of the same network type that `findPair` does not know -/
inductive AddP (a : Agent) : Agent → Prop
  | none : AddP a a
  | add (l r : Cand) (hl : core l ∈ lcsOf a) (hr : core r ∈ rcsOf a) (hn : l.net = r.net)
      (hfresh : (l.uid, r.uid) ∉ (keysOf a).map (·.2)) : AddP a (a.addPair l r).1

def Hand (a a' : Agent) : Prop := ∃ a1 a2, Evo a a1 ∧ AddP a1 a2 ∧ Evo a2 a'

theorem Evo.hand {a a' : Agent} (h : Evo a a') : Hand a a' := ⟨a, a, Evo.refl a, .none, h⟩

theorem Hand.r_evo {a b c : Agent} (h : Hand a b) (e : Evo b c) : Hand a c := by
  obtain ⟨a1, a2, h1, h2, h3⟩ := h
  exact ⟨a1, a2, h1, h2, h3.trans e⟩

theorem Hand.l_evo {a b c : Agent} (e : Evo a b) (h : Hand b c) : Hand a c := by
  obtain ⟨a1, a2, h1, h2, h3⟩ := h
  exact ⟨a1, a2, e.trans h1, h2, h3⟩

theorem Inv.addP {a a' : Agent} (h : Inv a) (p : AddP a a') : Inv a' := by
  cases p with
  | none => exact h
  | add l r hl hr hn _ => exact h.addPair l r hl hr hn

theorem AddP.lcs {a a' : Agent} (p : AddP a a') : lcsOf a' = lcsOf a := by
  cases p <;> rfl

theorem AddP.rcs {a a' : Agent} (p : AddP a a') : rcsOf a' = rcsOf a := by
  cases p <;> rfl

/-- any number of such `addPair`s -/
inductive AddPs (a : Agent) : Agent → Prop
  | refl : AddPs a a
  | step {b c : Agent} (h : AddPs a b) (p : AddP b c) : AddPs a c

theorem AddPs.lcs {a a' : Agent} (p : AddPs a a') : lcsOf a' = lcsOf a := by
  induction p with
  | refl => rfl
  | step _ p ih => rw [p.lcs, ih]

theorem AddPs.rcs {a a' : Agent} (p : AddPs a a') : rcsOf a' = rcsOf a := by
  induction p with
  | refl => rfl
  | step _ p ih => rw [p.rcs, ih]

theorem Evo.cldNominate (a : Agent) (m : Msg) (id : Nat) (hid : id ∈ idsOf a) : Evo a (cldNominate a m id).1 := by
  have hb : ∀ b, LiteMarked a id b → Evo a b := by
    rintro b (rfl | ⟨_, rfl⟩)
    · exact Evo.refl _
    · exact (Evo.refl a).r_modPair _ _
  exact cldNominate_rule (Q := fun x => Evo a x.1) a m id (fun b h => hb b h)
    (fun b h _ _ _ _ _ => (hb b h).r_select id hid) (fun b h _ _ _ _ => (hb b h).r_modPair _ _)

theorem Evo.cldProceed (a : Agent) (now : Nat) (m : Msg) (l r : Cand) (id : Nat) (hid : id ∈ idsOf a) :
    Evo a (cldProceed a now m l r id).1 := by
  have hn := Evo.cldNominate a m id hid
  refine cldProceed_rule (Q := fun x => Evo a x.1) a now m l r id ?_ ?_
  · rintro n s rfl rfl
    exact hn.r_same (Same.sendSuccess _ now m l r)
  · rintro n s rfl rfl
    exact (hn.r_same (Same.sendSuccess _ now m l r)).r_same (Same.ping _ now l r)

theorem Hand.cldHandleRequest (a : Agent) (hi : Inv a) (now : Nat) (m : Msg) (l r : Cand)
    (hl : core l ∈ lcsOf a) (hr : core r ∈ rcsOf a) (hn : l.net = r.net) :
    Hand a (a.cldHandleRequest now m l r).1 := by
  have hp : AddP a (ensurePair a l r).1 :=
    ensurePair_rule (Q := fun x => AddP a x.1) a l r (fun _ _ => .none)
      fun hf => .add l r hl hr hn (findPair_none_fresh hi.s hl hr hf)
  have hid : (ensurePair a l r).2.id ∈ idsOf (ensurePair a l r).1 :=
    ensurePair_rule (Q := fun x => x.2.id ∈ idsOf x.1) a l r (fun p h => findPair_some_ids h)
      fun _ => by rw [idsOf_addPair]; exact List.mem_append_right _ (List.mem_singleton.2 rfl)
  have e1 := (Evo.refl (ensurePair a l r).1).r_modPair (ensurePair a l r).2.id (countReq m)
  refine ⟨a, (ensurePair a l r).1, Evo.refl a, hp, ?_⟩
  refine cldHandleRequest_rule (Q := fun x => Evo (ensurePair a l r).1 x.1) a now m l r ?_ ?_
  · rintro a1 rfl _ _
    exact e1.r_same (Same.sendSuccess _ now m l r)
  · rintro a1 rfl
    exact (e1.r_same (Same.lastNomination _ _)).trans (Evo.cldProceed _ now m l r _ (e1.ids ▸ hid))

theorem Hand.ctlHandleRequest (a : Agent) (hi : Inv a) (now : Nat) (m : Msg) (l r : Cand)
    (hl : core l ∈ lcsOf a) (hr : core r ∈ rcsOf a) (hn : l.net = r.net) :
    Hand a (a.ctlHandleRequest now m l r).1 := by
  have e0 : Evo a (a.sendSuccess now m l r).1 := (Same.sendSuccess a now m l r).evo
  refine ctlHandleRequest_rule (Q := fun x => Hand a x.1) a now m l r (fun hf => ?_) fun p hf => ?_
  · exact ⟨_, _, e0, .add l r (e0.lcs ▸ hl) (e0.rcs ▸ hr) hn
      (findPair_none_fresh (hi.evo e0).s (e0.lcs ▸ hl) (e0.rcs ▸ hr) hf), (Evo.refl _).r_modPair _ _⟩
  · have e1 := e0.r_modPair p.id (countReq m)
    have hid : p.id ∈ idsOf ((a.sendSuccess now m l r).1.modPair p.id (countReq m)) :=
      e1.ids ▸ e0.ids ▸ findPair_some_ids hf
    refine Evo.hand (e1.trans ?_)
    exact ctlTail_rule (Q := fun x => Evo _ x.1) _ now l r p _ (Evo.refl _)
      fun _ _ _ => (Evo.setNominatedPair _ p.id hid).r_same (Same.nominate _ _ _)

end IceProofs.AgentC06

import IceProofs.CandTextTokens
import IceProofs.CandTextEq
/-! `parse (marshal c) = reparsed c` for well-formed `c`, stage by stage. -/
namespace IceProofs.CandText
open IceModel.CandText
open IceModel.Prio (TcpType)

theorem atEnd_cons_cons (a b : Str) (r : List Str) : atEnd (a :: b :: r) = false := by
  cases a <;> rfl

theorem atEnd_cons_ne (a : Str) (r : List Str) (h : a ≠ []) : atEnd (a :: r) = false := by
  cases a with
  | nil => exact absurd rfl h
  | cons x a => cases r <;> rfl

theorem parseHead_ok (f ct proto pt adr pot ty : Str) (rest : List Str) (comp prio port : Nat)
    (hf : readChars 32 f 0 = true) (hc : readDigits 5 ct 0 0 = some comp)
    (hp : readDigits 10 pt 0 0 = some prio) (hpo : readPort pot = some port) (hty : ty ≠ []) :
    parseHead (f :: ct :: proto :: pt :: adr :: pot :: sTyp :: ty :: rest) =
      .ok ({ foundation := if f = [] then [32] else f, component := comp, protocol := proto, priority := prio,
             address := stripZone adr, port := port, typ := ty }, rest) := by
  simp only [parseHead, nextTok, hf, hc, hp, hpo, atEnd_cons_cons, atEnd_cons_ne _ _ hty, Bool.not_true,
    Bool.false_eq_true, if_false, ne_eq, not_true_eq_false]
  rfl

theorem readRel_none (r : List Str) (h : r.head? ≠ some sRaddr) : readRel r = .ok ([], 0, r) := by
  unfold readRel
  cases r with
  | nil => simp [nextTok, sRaddr]
  | cons t r =>
    have : t ≠ sRaddr := fun e => h (by simp [e])
    simp [nextTok, this]

theorem readRel_some (a : Str) (p : Nat) (rest : List Str) (hp : p ≤ 65535) :
    readRel (sRaddr :: a :: sRport :: natToDigits p :: rest) = .ok (a, p, rest) := by
  simp only [readRel, nextTok, atEnd_cons_cons, atEnd_cons_ne _ _ (natToDigits_ne_nil p),
    readPort_natToDigits p hp, ne_eq, not_true_eq_false, if_false, Bool.false_eq_true]

theorem pairExts_pairToks : ∀ (ps : List (Str × Str)), pairExts (pairToks ps) = ps
  | [] => rfl
  | (k, v) :: r => by
    simp only [pairToks]
    rw [pairExts, pairExts_pairToks r]

theorem atEnd_pairToks (ps : List (Str × Str)) : atEnd (pairToks ps) = ps.isEmpty := by
  cases ps with
  | nil => rfl
  | cons e r => obtain ⟨k, v⟩ := e; simp [pairToks, atEnd_cons_cons]

theorem splitTT_fold (l : List (Str × Str)) (h : ∀ e ∈ l, e.1 ≠ sTcptype) (acc : List (Str × Str)) (tt : Str) :
    l.foldl (fun (acc : List (Str × Str) × Str) kv =>
      if kv.1 = sTcptype then (acc.1, kv.2) else (acc.1 ++ [kv], acc.2)) (acc, tt) = (acc ++ l, tt) := by
  induction l generalizing acc with
  | nil => simp
  | cons e l ih =>
    have he := h e List.mem_cons_self
    simp only [List.foldl_cons, he, if_false]
    rw [ih (fun x hx => h x (List.mem_cons_of_mem e hx))]
    simp

theorem splitTT_extensions (c : Cand) (h : ∀ e ∈ c.exts, e.1 ≠ sTcptype) :
    splitTT (extensions c) = (c.exts, tcpTypeStr c.tcpType) := by
  unfold splitTT extensions
  split
  · simp only [List.singleton_append, List.foldl_cons, if_true]
    rw [splitTT_fold c.exts h]; simp
  · rename_i ht
    have : c.tcpType = .unspecified := by simpa using ht
    rw [List.nil_append, splitTT_fold c.exts h, this]; simp [tcpTypeStr]

theorem validBS_sTcptype : validBS sTcptype = true := by decide

theorem validBS_tcpTypeStr (t : TcpType) : validBS (tcpTypeStr t) = true := by cases t <;> decide

theorem newTCPType_tcpTypeStr (t : TcpType) : newTCPType (tcpTypeStr t) = t := by cases t <;> decide

theorem tcpTypeStr_eq_nil (t : TcpType) : tcpTypeStr t = [] ↔ t = .unspecified := by cases t <;> decide

theorem all_validBS_pairToks (ps : List (Str × Str)) (h : ∀ e ∈ ps, validBS e.1 = true ∧ validBS e.2 = true) :
    (pairToks ps).all validBS = true := by
  induction ps with
  | nil => rfl
  | cons e r ih =>
    obtain ⟨k, v⟩ := e
    have := h (k, v) List.mem_cons_self
    simp only [pairToks, List.all_cons, this.1, this.2, Bool.true_and]
    exact ih (fun x hx => h x (List.mem_cons_of_mem _ hx))

theorem parseExtSection_extToks (c : Cand)
    (hx : ∀ e ∈ c.exts, tokOK e.1 ∧ tokOK e.2 ∧ e.1 ≠ sTcptype) (hh : extHeadRepr c) :
    parseExtSection (extToks c) = .ok (c.exts, c.tcpType) := by
  unfold parseExtSection
  by_cases he : extensions c = []
  · have h1 : c.exts = [] := by
      unfold extensions at he; exact (List.append_eq_nil_iff.mp he).2
    have h2 : c.tcpType = .unspecified := by
      unfold extensions at he
      have := (List.append_eq_nil_iff.mp he).1
      by_cases ht : c.tcpType = .unspecified
      · exact ht
      · simp [ht] at this
    simp [extToks, he, pairToks, atEnd, h1, h2]
  · have hne : atEnd (extToks c) = false := by
      rw [extToks, atEnd_pairToks]
      cases h : extensions c with
      | nil => exact absurd h he
      | cons _ _ => rfl
    rw [hne]
    simp only [Bool.false_eq_true, if_false]
    have hhead : (extToks c).head? ≠ some [] := by
      unfold extHeadRepr at hh
      split at hh
      · rename_i heq; rw [heq]; simp
      · rename_i t r heq; rw [heq]; simp [hh.1]
    rw [if_neg hhead]
    have hall : (extToks c).all validBS = true := by
      apply all_validBS_pairToks
      intro e hm
      unfold extensions at hm
      rcases List.mem_append.mp hm with hm | hm
      · split at hm
        · simp only [List.mem_singleton] at hm; subst hm
          exact ⟨validBS_sTcptype, validBS_tcpTypeStr _⟩
        · cases hm
      · exact ⟨(hx e hm).1.1, (hx e hm).2.1.1⟩
    rw [hall]
    simp only [Bool.not_true, Bool.false_eq_true, if_false]
    rw [extToks, pairExts_pairToks, splitTT_extensions c (fun e hm => (hx e hm).2.2)]
    simp only
    by_cases ht : c.tcpType = .unspecified
    · simp [ht, tcpTypeStr]
    · rw [if_neg (by rw [tcpTypeStr_eq_nil]; exact ht), newTCPType_tcpTypeStr]
      revert ht
      cases c.tcpType <;> intro ht <;> first | exact absurd rfl ht | rfl

theorem typOfStr_typStr (t : CType) : typOfStr (typStr t) = some t := by cases t <;> decide

theorem netOf_netShort (n : NetType) (cl : AddrClass)
    (h : (cl = .v4 ∧ (n = .udp4 ∨ n = .tcp4)) ∨ (cl = .v6 ∧ (n = .udp6 ∨ n = .tcp6))) :
    netOf (netShort n) cl = some n := by
  rcases h with ⟨rfl, rfl | rfl⟩ | ⟨rfl, rfl | rfl⟩ <;> decide

theorem priority_lt (c : Cand) (h : c.prioOverride < 4294967296) : priority c < 4294967296 := by
  unfold priority
  split
  · exact h
  · unfold IceModel.Prio.priority; exact Nat.mod_lt _ (by decide)

theorem nospace_typStr (t : CType) : 32 ∉ typStr t := by cases t <;> decide
theorem nospace_netShort (n : NetType) : 32 ∉ netShort n := by cases n <;> decide
theorem nospace_tcpTypeStr (t : TcpType) : 32 ∉ tcpTypeStr t := by cases t <;> decide
theorem typStr_ne_nil (t : CType) : typStr t ≠ [] := by cases t <;> decide

theorem iceChar_ne_space (f : Str) (h : ∀ ch ∈ f, isIceChar ch = true) : 32 ∉ f := by
  intro hm; have := h 32 hm; simp [isIceChar] at this

theorem mem_pairToks (ps : List (Str × Str)) (t : Str) (h : t ∈ pairToks ps) : ∃ e ∈ ps, t = e.1 ∨ t = e.2 := by
  induction ps with
  | nil => cases h
  | cons e r ih =>
    obtain ⟨k, v⟩ := e
    simp only [pairToks, List.mem_cons] at h
    rcases h with rfl | rfl | h
    · exact ⟨(t, v), List.mem_cons_self, Or.inl rfl⟩
    · exact ⟨(k, t), List.mem_cons_self, Or.inr rfl⟩
    · obtain ⟨e, he, ht⟩ := ih h
      exact ⟨e, List.mem_cons_of_mem _ he, ht⟩

theorem marshalToks_nospace (env : Env) (c : Cand) (h : WFcore env c) : ∀ t ∈ marshalToks env c, 32 ∉ t := by
  obtain ⟨hf, _, _, _, ha, _, _, _, hrel, _, hx⟩ := h
  intro t ht
  simp only [marshalToks, List.mem_cons, List.mem_append] at ht
  rcases ht with rfl | rfl | rfl | rfl | rfl | rfl | rfl | rfl | ht | ht
  · split
    · simp
    · rename_i hne
      rcases hf with hf | hf
      · exact absurd hf hne
      · exact iceChar_ne_space _ hf.2.2
  · exact natToDigits_nospace _
  · exact nospace_netShort _
  · exact natToDigits_nospace _
  · exact fun hm => ha (stripZone_sub _ _ hm)
  · exact natToDigits_nospace _
  · decide
  · exact nospace_typStr _
  · unfold relToks at ht
    unfold relatedOK at hrel
    split at ht
    · rename_i a p heq
      rw [heq] at hrel
      split at ht
      · simp only [List.mem_cons, List.not_mem_nil, or_false] at ht
        rcases ht with rfl | rfl | rfl | rfl
        · decide
        · exact hrel.2.1
        · decide
        · exact natToDigits_nospace _
      · cases ht
    · cases ht
  · obtain ⟨e, he, hte⟩ := mem_pairToks _ _ ht
    unfold extensions at he
    rcases List.mem_append.mp he with he | he
    · split at he
      · simp only [List.mem_singleton] at he
        subst he
        rcases hte with rfl | rfl
        · show 32 ∉ sTcptype; decide
        · exact nospace_tcpTypeStr _
      · cases he
    · rcases hte with rfl | rfl
      · exact (hx e he).1.2
      · exact (hx e he).2.1.2

theorem mkCand_reparsed (env : Env) (c : Cand) (h : WFcore env c) (ra : Str) (rp : Nat)
    (hrel : c.typ ≠ .host → c.related = some (ra, rp)) :
    mkCand env c.typ (netShort c.net) c.address c.port c.component (priority c) (foundation env c)
        c.tcpType ra rp defaultRelayLP = .ok { reparsed env c with exts := [] } := by
  obtain ⟨_, _, _, _, _, _, han, _, hro, htt, _⟩ := h
  generalize hpr : priority c = pr
  generalize hfd : foundation env c = fd
  obtain ⟨typ, net, address, port, component, po, fo, tt, related, exts, relayLP⟩ := c
  simp only at hrel htt
  unfold relatedOK at hro
  unfold addrNetOK at han
  simp only at hro han
  cases typ with
  | host =>
    have hrn : related = none := by
      cases related with
      | none => rfl
      | some r => obtain ⟨a, p⟩ := r; simp at hro
    subst hrn
    by_cases hm : isMDNS address = true
    · rw [if_pos ⟨rfl, hm⟩] at han
      subst han
      simp [mkCand, hm, reparsed, hpr, hfd]
    · rw [if_neg (fun x => hm x.2)] at han
      have hn := netOf_netShort net (env.cls address) han
      rcases han with ⟨hc, _⟩ | ⟨hc, _⟩ <;>
      · rw [hc] at hn
        simp [mkCand, hm, hc, hn, reparsed, hpr, hfd]
  | srflx | prflx | relay =>
    have hrs := hrel (by simp)
    subst hrs
    have ht : tt = .unspecified := by
      by_cases ht : tt = .unspecified
      · exact ht
      · exact absurd (htt ht) (by simp)
    subst ht
    rw [if_neg (by simp)] at han
    have hn := netOf_netShort net (env.cls address) han
    rcases han with ⟨hc, _⟩ | ⟨hc, _⟩ <;>
    · rw [hc] at hn
      simp [mkCand, hc, hn, reparsed, hpr, hfd]

theorem readRel_marshal (c : Cand) (h : relatedOK c) (hr : Repr c) :
    ∃ ra rp, readRel (relToks c ++ extToks c) = .ok (ra, rp, extToks c) ∧
      (c.typ ≠ .host → c.related = some (ra, rp)) := by
  obtain ⟨hrr, hhr⟩ := hr
  unfold relatedOK at h
  unfold relRepr at hrr
  unfold extHeadRepr at hhr
  -- nothing printed: the next token, if any, is not `raddr`
  have hnone : relToks c = [] → readRel (relToks c ++ extToks c) = .ok ([], 0, extToks c) := by
    intro hrt
    rw [hrt] at hhr ⊢
    rw [List.nil_append]
    apply readRel_none
    split at hhr
    · rename_i heq; rw [heq]; simp
    · rename_i t r heq; rw [heq]
      simp only [List.head?_cons, ne_eq, Option.some.injEq]
      rcases hhr.2 with h2 | h2
      · exact h2
      · exact absurd rfl h2
  cases hrel : c.related with
  | none =>
    rw [hrel] at h
    exact ⟨[], 0, hnone (by simp [relToks, hrel]), fun hne => absurd h hne⟩
  | some r =>
    obtain ⟨a, p⟩ := r
    rw [hrel] at h hrr
    simp only at h hrr
    by_cases ha : a = []
    · have hp := hrr ha
      subst ha hp
      exact ⟨[], 0, hnone (by simp [relToks, hrel]), fun _ => rfl⟩
    · refine ⟨a, p, ?_, fun _ => rfl⟩
      have hrt : relToks c = [sRaddr, a, sRport, natToDigits p] := by simp [relToks, hrel, ha]
      rw [hrt]
      exact readRel_some a p _ h.2.2

theorem parseToks_marshalToks (env : Env) (c : Cand) (h : WF env c) :
    parseToks env (marshalToks env c) = .ok (reparsed env c) := by
  obtain ⟨hc, hr⟩ := h
  have hc' := hc
  obtain ⟨hf, hcomp, hpo, _, _, h37, _, hport, hrel, _, hx⟩ := hc'
  have hpl := priority_lt c hpo
  have hfr : readChars 32 (if foundation env c = [32] then [] else foundation env c) 0 = true := by
    split
    · rfl
    · rename_i hne
      rcases hf with hf | hf
      · exact absurd hf hne
      · exact readChars_ok 32 _ 0 hf.2.2 (by omega)
  have hhead := parseHead_ok (if foundation env c = [32] then [] else foundation env c)
    (natToDigits c.component) (netShort c.net) (natToDigits (priority c)) (stripZone c.address)
    (natToDigits c.port) (typStr c.typ) (relToks c ++ extToks c) c.component (priority c) c.port
    hfr (readDigits5_natToDigits _ (by omega)) (readDigits10_natToDigits _ (by omega))
    (readPort_natToDigits _ hport) (typStr_ne_nil _)
  have hfd : (if (if foundation env c = [32] then [] else foundation env c) = [] then [32]
      else (if foundation env c = [32] then [] else foundation env c)) = foundation env c := by
    by_cases h32 : foundation env c = [32]
    · simp [h32]
    · rcases hf with hf | hf
      · exact absurd hf h32
      · simp [h32, hf.1]
  have hz := stripZone_id _ h37
  rw [hfd, hz, hz] at hhead
  obtain ⟨ra, rp, hrr, hrelv⟩ := readRel_marshal c hrel hr
  have hext := parseExtSection_extToks c hx hr.2
  have hmk := mkCand_reparsed env c hc ra rp hrelv
  unfold parseToks marshalToks
  rw [hz, hhead]
  simp only
  rw [hrr]
  simp only
  rw [hext]
  simp only [typOfStr_typStr]
  rw [Nat.mod_eq_of_lt hcomp, Nat.mod_eq_of_lt hpl, hmk]
  rfl

theorem stripCandidatePrefix_marshal (env : Env) (c : Cand) (h : WFcore env c) :
    stripCandidatePrefix (marshal env c) = marshal env c := by
  unfold stripCandidatePrefix
  rw [if_neg]
  intro hp
  rw [List.isPrefixOf_iff_prefix] at hp
  unfold marshal marshalToks at hp
  simp only [joinSp] at hp
  rcases prefix_append_sep hp with h1 | h1
  · -- "candidate:" would be a prefix of the foundation token: it contains ':'
    have hm : 58 ∈ (if foundation env c = [32] then [] else foundation env c) :=
      h1.subset (by decide)
    split at hm
    · cases hm
    · rename_i hne
      rcases h.1 with hf | hf
      · exact absurd hf hne
      · have := hf.2.2 58 hm
        simp [isIceChar] at this
  · revert h1; decide

theorem parse_marshal (env : Env) (c : Cand) (h : WF env c) :
    parse env (marshal env c) = .ok (reparsed env c) := by
  unfold parse
  rw [stripCandidatePrefix_marshal env c h.1]
  unfold marshal
  rw [splitSp_joinSp _ (by simp [marshalToks]) (marshalToks_nospace env c h.1)]
  exact parseToks_marshalToks env c h

theorem reparsed_foundation (env : Env) (c : Cand) (h : foundationOK (foundation env c)) :
    foundation env (reparsed env c) = foundation env c := by
  have hne : foundation env c ≠ [] := by
    rcases h with h | h
    · rw [h]; simp
    · exact h.1
  have key : ∀ (x : Cand) (f : Str), x.foundationOverride = f → f ≠ [] → foundation env x = f := by
    intro x f h1 h2; unfold foundation; rw [h1]; exact if_pos h2
  exact key _ _ rfl hne

theorem reparsed_priority (c : Cand) (env : Env)
    (h : priority c ≠ 0 ∨ c.typ ≠ .relay ∨ c.relayLP = defaultRelayLP) :
    priority (reparsed env c) = priority c := by
  by_cases h0 : priority c = 0
  · have hov : c.prioOverride = 0 := by
      by_cases hov : c.prioOverride = 0
      · exact hov
      · unfold priority at h0; rw [if_pos hov] at h0; exact absurd h0 hov
    have hcomp : priority c = IceModel.Prio.priority
        (IceModel.Prio.typePreference c.typ.toPrio c.net.isTCP IceModel.Prio.defaultTCPPriorityOffset)
        (IceModel.Prio.localPreference c.typ.toPrio c.net.isTCP c.tcpType c.relayLP) c.component := by
      unfold priority; rw [if_neg (by simpa using hov)]
    -- the relay preference is read only for relay candidates, and those keep it
    have hlp : IceModel.Prio.localPreference c.typ.toPrio c.net.isTCP c.tcpType (if c.typ = .relay then defaultRelayLP else 0)
        = IceModel.Prio.localPreference c.typ.toPrio c.net.isTCP c.tcpType c.relayLP := by
      by_cases ht : c.typ = .relay
      · rw [if_pos ht]
        rcases h with h | h | h
        · exact absurd h0 h
        · exact absurd ht h
        · rw [h]
      · cases ht2 : c.typ <;> simp_all [IceModel.Prio.localPreference, CType.toPrio]
    rw [hcomp]
    unfold priority
    simp only [reparsed, h0, ne_eq, not_true_eq_false, if_false]
    rw [hlp]
  · have key : ∀ (x : Cand) (p : Nat), x.prioOverride = p → p ≠ 0 → priority x = p := by
      intro x p h1 h2; unfold priority; rw [h1]; exact if_pos h2
    exact key _ _ rfl h0

theorem reparsed_extensions (env : Env) (c : Cand) : extensions (reparsed env c) = extensions c := rfl

theorem reparsed_equal (env : Env) (c : Cand) : equal env (reparsed env c) c = true :=
  equal_of_fields env _ _ rfl rfl rfl rfl rfl rfl

theorem reparsed_deepEqual (env : Env) (c : Cand) : deepEqual env (reparsed env c) c = true := by
  unfold deepEqual
  rw [reparsed_equal, reparsed_extensions, extensionsEqual_refl]; rfl

end IceProofs.CandText

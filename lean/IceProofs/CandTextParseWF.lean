import IceProofs.CandTextRoundtrip
/-! Whatever `parse` accepts satisfies `WFcore` (`parse_wfCore`: inversion of the parser, stage by stage);
what `mkCand`, the common end of the public constructors, returns (`mkCand_inv`, `mkCand_wf`, `mkCand_net`,
`mkCand_literal_forms`). -/
namespace IceProofs.CandText
open IceModel.CandText
open IceModel.Prio (TcpType)

/-- all tokens of the list are free of spaces -/
def NoSp (l : List Str) : Prop := ∀ t ∈ l, 32 ∉ t

theorem NoSp.tail {t : Str} {l : List Str} (h : NoSp (t :: l)) : NoSp l :=
  fun x hx => h x (List.mem_cons_of_mem t hx)

theorem readPort_le (t : Str) (p : Nat) (h : readPort t = some p) : p ≤ 65535 := by
  unfold readPort at h
  split at h
  · split at h
    · cases h
    · simp only [Option.some.injEq] at h; omega
  · cases h

/-! The parser stages are chains of checks, each leaving with an error; a successful run passed them all. -/

theorem guard_ok {ε α : Type} {c : Prop} [Decidable c] {e : ε} {x : Except ε α} {v : α}
    (h : (if c then Except.error e else x) = .ok v) : ¬ c ∧ x = .ok v := by
  by_cases hc : c
  · rw [if_pos hc] at h; cases h
  · rw [if_neg hc] at h; exact ⟨hc, h⟩

theorem nextTok_eta {l : List Str} (h : l ≠ []) : l = (nextTok l).1 :: (nextTok l).2 := by
  cases l with
  | nil => exact absurd rfl h
  | cons t r => rfl

theorem ne_nil_of_not_atEnd {l : List Str} (h : ¬ atEnd l = true) : l ≠ [] := by
  rintro rfl; exact h rfl

theorem parseHead_inv (toks : List Str) (hd : Head) (r : List Str) (h : parseHead toks = .ok (hd, r)) :
    ∃ f ct proto pt adr pot ty comp prio port,
      toks = f :: ct :: proto :: pt :: adr :: pot :: sTyp :: ty :: r ∧
      readChars 32 f 0 = true ∧ readDigits 5 ct 0 0 = some comp ∧ readDigits 10 pt 0 0 = some prio ∧
      readPort pot = some port ∧
      hd = { foundation := if f = [] then [32] else f, component := comp, protocol := proto, priority := prio,
             address := stripZone adr, port := port, typ := ty } := by
  unfold parseHead at h
  simp only at h
  obtain ⟨hf, h⟩ := guard_ok h
  obtain ⟨e1, h⟩ := guard_ok h
  split at h
  · cases h
  rename_i comp hc
  obtain ⟨e2, h⟩ := guard_ok h
  obtain ⟨e3, h⟩ := guard_ok h
  split at h
  · cases h
  rename_i prio hp
  obtain ⟨e4, h⟩ := guard_ok h
  obtain ⟨e5, h⟩ := guard_ok h
  split at h
  · cases h
  rename_i port hpo
  obtain ⟨hty, h⟩ := guard_ok h
  obtain ⟨e7, h⟩ := guard_ok h
  injection h with h
  injection h with h1 h2
  have hf : readChars 32 (nextTok toks).1 0 = true := by simpa using hf
  have hk := Decidable.not_not.mp hty
  -- no end-of-text check precedes the `typ` keyword; that it was read shows there was a token
  have n6 : (nextTok (nextTok (nextTok (nextTok (nextTok (nextTok toks).2).2).2).2).2).2 ≠ [] := by
    intro e; rw [e] at hk; exact absurd hk (by decide)
  refine ⟨_, _, _, _, _, _, _, comp, prio, port, ?_, hf, hc, hp, hpo, h1.symm⟩
  rw [← h2, ← hk, ← nextTok_eta (ne_nil_of_not_atEnd e7), ← nextTok_eta n6,
    ← nextTok_eta (ne_nil_of_not_atEnd e5), ← nextTok_eta (ne_nil_of_not_atEnd e4),
    ← nextTok_eta (ne_nil_of_not_atEnd e3), ← nextTok_eta (ne_nil_of_not_atEnd e2),
    ← nextTok_eta (ne_nil_of_not_atEnd e1)]
  exact nextTok_eta (fun e => ne_nil_of_not_atEnd e1 (by rw [e]; rfl))

theorem readRel_inv (r : List Str) (ra : Str) (rp : Nat) (r' : List Str) (h : readRel r = .ok (ra, rp, r')) :
    (ra = [] ∧ rp = 0 ∧ r' = r) ∨ ∃ pt, r = sRaddr :: ra :: sRport :: pt :: r' ∧ readPort pt = some rp := by
  unfold readRel at h
  simp only at h
  by_cases hk : (nextTok r).1 ≠ sRaddr
  · rw [if_pos hk] at h
    injection h with h
    injection h with h1 h
    injection h with h2 h3
    exact Or.inl ⟨h1.symm, h2.symm, h3.symm⟩
  rw [if_neg hk] at h
  obtain ⟨e1, h⟩ := guard_ok h
  obtain ⟨e2, h⟩ := guard_ok h
  obtain ⟨hk2, h⟩ := guard_ok h
  obtain ⟨e3, h⟩ := guard_ok h
  split at h
  · cases h
  rename_i port hpo
  injection h with h
  injection h with h1 h
  injection h with h2 h3
  refine Or.inr ⟨_, ?_, h2 ▸ hpo⟩
  rw [← h1, ← h3, ← Decidable.not_not.mp hk, ← Decidable.not_not.mp hk2, ← nextTok_eta (ne_nil_of_not_atEnd e3),
    ← nextTok_eta (ne_nil_of_not_atEnd e2), ← nextTok_eta (ne_nil_of_not_atEnd e1)]
  exact nextTok_eta (fun e => ne_nil_of_not_atEnd e1 (by rw [e]; rfl))

theorem pairExts_mem : ∀ (r : List Str), ∀ e ∈ pairExts r, (e.1 ∈ r) ∧ (e.2 ∈ r ∨ e.2 = [])
  | [], e, he => by simp [pairExts] at he
  | [t], e, he => by
    cases t with
    | nil => simp [pairExts] at he
    | cons x t =>
      simp only [pairExts, List.mem_singleton] at he
      subst he; simp
  | k :: v :: rest, e, he => by
    rw [pairExts] at he
    rcases List.mem_cons.mp he with rfl | he
    · simp
    · have := pairExts_mem rest e he
      exact ⟨List.mem_cons_of_mem _ (List.mem_cons_of_mem _ this.1),
        this.2.imp (fun h => List.mem_cons_of_mem _ (List.mem_cons_of_mem _ h)) id⟩

theorem splitTT_fold_inv (R : Str × Str → Prop) (l : List (Str × Str)) (acc : List (Str × Str) × Str)
    (hl : ∀ e ∈ l, R e) (hacc : ∀ e ∈ acc.1, R e ∧ e.1 ≠ sTcptype) :
    ∀ e ∈ (l.foldl (fun (acc : List (Str × Str) × Str) kv =>
      if kv.1 = sTcptype then (acc.1, kv.2) else (acc.1 ++ [kv], acc.2)) acc).1, R e ∧ e.1 ≠ sTcptype := by
  induction l generalizing acc with
  | nil => simpa using hacc
  | cons x l ih =>
    simp only [List.foldl_cons]
    apply ih _ (fun e he => hl e (List.mem_cons_of_mem x he))
    split
    · exact hacc
    · rename_i hne
      intro e he
      rcases List.mem_append.mp he with he | he
      · exact hacc e he
      · simp only [List.mem_singleton] at he
        subst he
        exact ⟨hl e List.mem_cons_self, hne⟩

theorem parseExtSection_inv (r : List Str) (exts : List (Str × Str)) (tt : TcpType) (hs : NoSp r)
    (h : parseExtSection r = .ok (exts, tt)) : ∀ e ∈ exts, tokOK e.1 ∧ tokOK e.2 ∧ e.1 ≠ sTcptype := by
  unfold parseExtSection at h
  by_cases he : atEnd r = true
  · rw [if_pos he] at h
    injection h with h
    injection h with h1 _
    rw [← h1]; simp
  rw [if_neg he] at h
  obtain ⟨_, h⟩ := guard_ok h
  obtain ⟨hall, h⟩ := guard_ok h
  have hall : ∀ t ∈ r, validBS t = true := by simpa using hall
  have key : ∀ e ∈ (splitTT (pairExts r)).1, (tokOK e.1 ∧ tokOK e.2) ∧ e.1 ≠ sTcptype := by
    apply splitTT_fold_inv (fun e => tokOK e.1 ∧ tokOK e.2)
    · intro e he
      have := pairExts_mem r e he
      refine ⟨⟨hall _ this.1, hs _ this.1⟩, ?_⟩
      rcases this.2 with h2 | h2
      · exact ⟨hall _ h2, hs _ h2⟩
      · rw [h2]; exact ⟨rfl, by simp⟩
    · simp
  -- both ways out return the first component of `splitTT`
  have hex : exts = (splitTT (pairExts r)).1 := by
    simp only at h
    split at h
    · injection h with h; injection h with h1 _; exact h1.symm
    · split at h
      · cases h
      · injection h with h; injection h with h1 _; exact h1.symm
  rw [hex]
  exact fun e he => ⟨(key e he).1.1, (key e he).1.2, (key e he).2⟩

theorem netOf_inv (p : Str) (cl : AddrClass) (n : NetType) (h : netOf p cl = some n) (hcl : cl ≠ .invalid) :
    (cl = .v4 ∧ (n = .udp4 ∨ n = .tcp4)) ∨ (cl = .v6 ∧ (n = .udp6 ∨ n = .tcp6)) := by
  unfold netOf at h
  simp only at h
  split at h
  · cases cl <;> simp_all
    all_goals (subst h; simp)
  · split at h
    · cases cl <;> simp_all
      all_goals (subst h; simp)
    · cases h

theorem mkCand_ok (env : Env) (ty : CType) (network address : Str) (port comp prio : Nat) (fnd : Str)
    (tt : TcpType) (ra : Str) (rp rlp : Nat) (c0 : Cand)
    (h : mkCand env ty network address port comp prio fnd tt ra rp rlp = .ok c0) :
    ∃ n, c0 = { typ := ty, net := n, address := address, port := port, component := comp, prioOverride := prio,
                foundationOverride := fnd, tcpType := if ty = .host then tt else .unspecified,
                related := if ty = .host then none else some (ra, rp), exts := [],
                relayLP := if ty = .relay then rlp else 0 } ∧
      ((ty = .host ∧ isMDNS address = true ∧ n = .udp4) ∨
       (¬(ty = .host ∧ isMDNS address = true) ∧ env.cls address ≠ .invalid ∧
        netOf network (env.cls address) = some n)) := by
  unfold mkCand at h
  split at h
  · split at h
    · rename_i hm
      injection h with h
      exact ⟨.udp4, h.symm, Or.inl ⟨rfl, hm, rfl⟩⟩
    · rename_i hm
      split at h
      · cases h
      · rename_i cl hcl
        split at h
        · cases h
        · rename_i n hn
          injection h with h
          exact ⟨n, h.symm, Or.inr ⟨fun x => hm x.2, fun e => hcl e, hn⟩⟩
  · rename_i hnh
    have hne : ty ≠ .host := fun e => hnh e
    split at h
    · cases h
    · rename_i cl hcl
      split at h
      · cases h
      · rename_i n hn
        injection h with h
        refine ⟨n, ?_, Or.inr ⟨fun x => hne x.1, fun e => hcl e, hn⟩⟩
        rw [← h, if_neg hne, if_neg hne]
theorem mkCand_inv (env : Env) (ty : CType) (network address : Str) (port comp prio : Nat) (fnd : Str)
    (tt : TcpType) (ra : Str) (rp rlp : Nat) (c0 : Cand)
    (h : mkCand env ty network address port comp prio fnd tt ra rp rlp = .ok c0) :
    c0.typ = ty ∧ c0.address = address ∧ c0.port = port ∧ c0.component = comp ∧ c0.prioOverride = prio ∧
    c0.foundationOverride = fnd ∧ addrNetOK env c0 ∧
    (ty = .host → c0.related = none) ∧ (ty ≠ .host → c0.related = some (ra, rp) ∧ c0.tcpType = .unspecified) ∧
    (ty = .relay → c0.relayLP = rlp) := by
  obtain ⟨n, rfl, hn⟩ := mkCand_ok _ _ _ _ _ _ _ _ _ _ _ _ _ h
  refine ⟨rfl, rfl, rfl, rfl, rfl, rfl, ?_, fun e => if_pos e, fun e => ⟨if_neg e, if_neg e⟩, fun e => if_pos e⟩
  unfold addrNetOK
  rcases hn with ⟨hh, hm, rfl⟩ | ⟨hnm, hcl, hnet⟩
  · exact (if_pos ⟨hh, hm⟩).mpr rfl
  · exact (if_neg hnm).mpr (netOf_inv _ _ _ hnet hcl)

theorem parse_wfCore (env : Env) (s : Str) (c : Cand) (h : parse env s = .ok c) : WFcore env c := by
  unfold parse parseToks at h
  have hs : NoSp (splitSp (stripCandidatePrefix s)) := splitSp_nospace_tokens _
  split at h
  · cases h
  · rename_i hd r8 hhead
    obtain ⟨f, _, _, _, adr, pot, _, _, _, port, htoks, hfr, _, _, hpo, rfl⟩ := parseHead_inv _ _ _ hhead
    rw [htoks] at hs
    have hice := readChars_true 32 f 0 hfr (by omega)
    have hf : foundationOK (if f = [] then [32] else f) := by
      split
      · exact Or.inl rfl
      · rename_i hne; exact Or.inr ⟨hne, by have := hice.2; omega, hice.1⟩
    have hfne : (if f = [] then [32] else f) ≠ [] := by
      split
      · simp
      · assumption
    have hport := readPort_le _ _ hpo
    have ha32 : 32 ∉ stripZone adr := fun hm => hs adr (by simp) (stripZone_sub _ _ hm)
    have ha37 := stripZone_no37 adr
    have hs8 : NoSp r8 := hs.tail.tail.tail.tail.tail.tail.tail.tail
    split at h
    · cases h
    · rename_i ra rp r9 hrel
      have hr : 32 ∉ ra ∧ rp ≤ 65535 ∧ NoSp r9 := by
        rcases readRel_inv _ _ _ _ hrel with ⟨rfl, rfl, rfl⟩ | ⟨pt, rfl, hp⟩
        · exact ⟨by simp, by omega, hs8⟩
        · exact ⟨hs8 ra (by simp), readPort_le _ _ hp, hs8.tail.tail.tail.tail⟩
      obtain ⟨hra, hrp, hs9⟩ := hr
      split at h
      · cases h
      · rename_i exts tt hext
        have hx := parseExtSection_inv _ _ _ hs9 hext
        split at h
        · cases h
        · rename_i ty hty
          split at h
          · cases h
          · rename_i c0 hmk
            obtain ⟨m1, m2, m3, m4, m5, m6, m7, m8, m9, m10⟩ := mkCand_inv _ _ _ _ _ _ _ _ _ _ _ _ _ hmk
            simp only [Except.ok.injEq] at h
            subst h
            have hfo : foundation env { c0 with exts := exts } = (if f = [] then [32] else f) := by
              unfold foundation; simp only [m6]; exact if_pos hfne
            refine ⟨by rw [hfo]; exact hf, ?_, ?_, ?_, ?_, ?_, ?_, ?_, ?_, ?_, hx⟩
            · simp only [m4]; exact Nat.mod_lt _ (by decide)
            · simp only [m5]; exact Nat.mod_lt _ (by decide)
            · by_cases hr : ty = .relay
              · right; right; exact m10 hr
              · right; left; simp only [m1]; exact hr
            · simp only [m2]; exact ha32
            · simp only [m2]; exact ha37
            · exact m7
            · simp only [m3]; exact hport
            · unfold relatedOK
              by_cases hh : ty = .host
              · simp only [m8 hh, m1]; exact hh
              · simp only [(m9 hh).1, m1]; exact ⟨hh, hra, hrp⟩
            · intro htt
              by_cases hh : ty = .host
              · simp only [m1]; exact hh
              · exact absurd (m9 hh).2 htt

theorem mkCand_exts (env : Env) (ty : CType) (network address : Str) (port comp prio : Nat) (fnd : Str)
    (tt : TcpType) (ra : Str) (rp rlp : Nat) (c0 : Cand)
    (h : mkCand env ty network address port comp prio fnd tt ra rp rlp = .ok c0) : c0.exts = [] := by
  obtain ⟨n, rfl, _⟩ := mkCand_ok _ _ _ _ _ _ _ _ _ _ _ _ _ h
  rfl

theorem crcDigits_foundationOK (n : Nat) : foundationOK (natToDigits (n % 4294967296)) := by
  right
  refine ⟨natToDigits_ne_nil _, ?_, ?_⟩
  · have := natToDigits_length (n % 4294967296) 9 (by omega); omega
  · intro ch hch
    have := natToDigits_digits _ ch hch
    simp only [isDigit, Bool.and_eq_true, decide_eq_true_eq] at this
    simp only [isIceChar, Bool.or_eq_true, Bool.and_eq_true, decide_eq_true_eq]
    omega

theorem mkCand_wf (env : Env) (ty : CType) (network address : Str) (port comp prio : Nat) (fnd : Str)
    (tt : TcpType) (ra : Str) (rp rlp : Nat) (c : Cand)
    (h : mkCand env ty network address port comp prio fnd tt ra rp rlp = .ok c)
    (hf : fnd = [] ∨ foundationOK fnd) (hcomp : comp < 65536) (hprio : prio < 4294967296)
    (hp0 : priority c ≠ 0 ∨ ty ≠ .relay ∨ rlp = defaultRelayLP)
    (ha : 32 ∉ address ∧ 37 ∉ address) (hport : port ≤ 65535)
    (hra : 32 ∉ ra ∧ rp ≤ 65535 ∧ (ra = [] → rp = 0)) : WF env c := by
  obtain ⟨m1, m2, m3, m4, m5, m6, m7, m8, m9, m10⟩ := mkCand_inv _ _ _ _ _ _ _ _ _ _ _ _ _ h
  have mx := mkCand_exts _ _ _ _ _ _ _ _ _ _ _ _ _ h
  refine ⟨⟨?_, by omega, by omega, ?_, by rw [m2]; exact ha.1, by rw [m2]; exact ha.2, m7, by omega, ?_, ?_, ?_⟩, ?_, ?_⟩
  · unfold foundation
    rw [m6]
    rcases hf with hf | hf
    · rw [if_neg (by simp [hf])]; exact crcDigits_foundationOK _
    · have : fnd ≠ [] := by
        rcases hf with hf | hf
        · rw [hf]; simp
        · exact hf.1
      rw [if_pos this]; exact hf
  · rcases hp0 with h0 | h0 | h0
    · exact Or.inl h0
    · exact Or.inr (Or.inl (by rw [m1]; exact h0))
    · by_cases hr : ty = .relay
      · exact Or.inr (Or.inr (by rw [m10 hr]; exact h0))
      · exact Or.inr (Or.inl (by rw [m1]; exact hr))
  · unfold relatedOK
    by_cases hh : ty = .host
    · simp only [m8 hh, m1]; exact hh
    · simp only [(m9 hh).1, m1]; exact ⟨hh, hra.1, hra.2.1⟩
  · intro htt
    by_cases hh : ty = .host
    · rw [m1]; exact hh
    · exact absurd (m9 hh).2 htt
  · rw [mx]; simp
  · unfold relRepr
    by_cases hh : ty = .host
    · simp only [m8 hh]
    · simp only [(m9 hh).1]; exact hra.2.2
  · unfold extHeadRepr extToks extensions
    rw [mx]
    by_cases ht : c.tcpType = .unspecified
    · simp [ht, pairToks]
    · simp only [ne_eq, ht, not_false_eq_true, if_true, List.append_nil, pairToks]
      exact ⟨by decide, Or.inl (by decide)⟩

theorem mkCand_net (env : Env) (ty : CType) (network address : Str) (port comp prio : Nat) (fnd : Str)
    (tt : TcpType) (ra : Str) (rp rlp : Nat) (c0 : Cand)
    (h : mkCand env ty network address port comp prio fnd tt ra rp rlp = .ok c0)
    (hm : isMDNS address = false) :
    netOf network (env.cls address) = some c0.net ∧ c0.tcpType = (if ty = .host then tt else .unspecified) := by
  obtain ⟨n, rfl, ⟨_, hm', _⟩ | ⟨_, _, hnet⟩⟩ := mkCand_ok _ _ _ _ _ _ _ _ _ _ _ _ _ h
  · rw [hm] at hm'; cases hm'
  · exact ⟨hnet, rfl⟩

theorem mkCand_literal_forms (env : Env) (hl : EnvLaw env) (ty : CType) (network a₁ a₂ : Str)
    (port comp prio : Nat) (fnd : Str) (tt : TcpType) (ra : Str) (rp rlp : Nat) (c₁ c₂ : Cand) (k : Str)
    (h1 : mkCand env ty network a₁ port comp prio fnd tt ra rp rlp = .ok c₁)
    (h2 : mkCand env ty network a₂ port comp prio fnd tt ra rp rlp = .ok c₂)
    (hk1 : env.canon a₁ = some k) (hk2 : env.canon a₂ = some k)
    (hm1 : isMDNS a₁ = false) (hm2 : isMDNS a₂ = false) :
    equal env c₁ c₂ = true ∧ deepEqual env c₁ c₂ = true := by
  obtain ⟨m1, m2, m3, _, _, _, _, m8, m9, _⟩ := mkCand_inv _ _ _ _ _ _ _ _ _ _ _ _ _ h1
  obtain ⟨n1, n2, n3, _, _, _, _, n8, n9, _⟩ := mkCand_inv _ _ _ _ _ _ _ _ _ _ _ _ _ h2
  obtain ⟨p1, p2⟩ := mkCand_net _ _ _ _ _ _ _ _ _ _ _ _ _ h1 hm1
  obtain ⟨q1, q2⟩ := mkCand_net _ _ _ _ _ _ _ _ _ _ _ _ _ h2 hm2
  have hcls := cls_eq_of_canon env hl a₁ a₂ k hk1 hk2
  have hnet : c₁.net = c₂.net := by
    rw [hcls, q1] at p1; exact (Option.some.inj p1).symm
  have htt : c₁.tcpType = c₂.tcpType := by rw [p2, q2]
  have hrel : c₁.related = c₂.related := by
    by_cases hh : ty = .host
    · rw [m8 hh, n8 hh]
    · rw [(m9 hh).1, (n9 hh).1]
  have he : equal env c₁ c₂ = true := by
    rw [equal_iff env hl]
    refine ⟨by rw [m1, n1], hnet, by rw [m3, n3], htt, hrel, ?_, ?_⟩
    · rw [m2, n2, sameAddressLiteral_iff]; exact Or.inr ⟨k, hk1, hk2⟩
    · intro _; rw [m2, n2, hm1, hm2]
  refine ⟨he, ?_⟩
  unfold deepEqual
  rw [he, Bool.true_and]
  have : extensions c₁ = extensions c₂ := by
    unfold extensions
    rw [htt, mkCand_exts _ _ _ _ _ _ _ _ _ _ _ _ _ h1, mkCand_exts _ _ _ _ _ _ _ _ _ _ _ _ _ h2]
  rw [this]; exact extensionsEqual_refl _

end IceProofs.CandText

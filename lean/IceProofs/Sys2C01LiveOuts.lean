import IceProofs.Sys2C01LiveStep
import IceProofs.AgentRulesTimers
/-!
# C01 liveness — what a `Good` agent puts on the wire during an inbound step / a tick

The walk of `Sys2C01LiveWalk.lean` (`Walk`, `ReqsOK`) read at the level of `step`: one tick (`contact_reqs`), one inbound STUN
message with its forced tick (`step_inbound_reqs`), any number of catch-up ticks at different times (`ReqsOK'`, the form of
`ReqsOK` that does not name the time; `runTimers_reqs'`); and application data is never emitted on these paths (`NoData`).
-/
namespace IceProofs.C01Live
open IceModel.AgentCore IceProofs.C03 IceProofs.Agent

theorem contact_reqs {T0 H now : Nat} (hn : now ≤ H) {a : Agent} (hg : Good0 T0 H a) :
    ReqsOK a now (a.contact now) ∧ ∀ f t m, Out.dgram f t m ∈ (a.contact now).2 → m.cls = 0 := by
  have w := (contact_trail (T0 := T0) (Q := fun _ => False) a (hg.timely.valOK hn) (hg.timely.ckOK hn)).walk hg.linv
  exact ⟨w.reqs, fun f t m hm => Decidable.byContradiction (fun hc => w.other f t m hm hc)⟩

theorem step_inbound_reqs {T0 H now : Nat} (h0 : T0 ≤ now) (hn : now ≤ H) {a : Agent} (hg : Good T0 H a)
    (la src : Nat) (m : Msg) (hok : AuthRequest a m → m.nom = none ∧ NoConflict a m) :
    ReqsOK a now (step a (.inbound now la src m)) ∧
    ∀ f t m', Out.dgram f t m' ∈ (step a (.inbound now la src m)).2 → m'.cls ≠ 0 →
      (m'.cls = 2 ∨ m'.cls = 3) ∧ m.cls = 0 ∧ m'.tid = m.tid ∧ AuthRequest a m := by
  cases hl : a.localByAddr la with
  | none => rw [hg.step_inbound_none hl]; exact ⟨ReqsOK.silent NoDgram.nil, fun f t m' h => by cases h⟩
  | some l =>
    rw [hg.step_inbound hl]
    obtain ⟨hlm, _⟩ := IceProofs.Agent.localByAddr_listed hl
    have hnet : l.net = 0 := (hg.locOK.1 l hlm).1
    have w1 := handleInbound_walk (T0 := T0) (now := now) a l src m h0 hnet hg.full hg.linv hlm hok
    have g1 := handleInbound_good0 (now := now) h0 hg l hlm src m hok
    have w := w1.seq (((runForced_trail (T0 := T0) (Q := fun _ => False) _ (g1.timely.valOK hn) (g1.timely.ckOK hn)).walk
      g1.linv).mono (fun _ h => h.elim))
    exact ⟨w.reqs, w.other⟩

/-- the requests among the outputs of `r`: conditional form that also holds for several ticks at different times -/
structure ReqsOK' (a : Agent) (r : Agent × List Out) : Prop where
  req : ∀ f t m, Out.dgram f t m ∈ r.2 → m.cls = 0 → ReqOut a f t m
  pend : ∀ f t m, Out.dgram f t m ∈ r.2 → m.cls = 0 → ∀ pd ∈ r.1.pending, pd.tid = m.tid →
    pd.src = f ∧ pd.dest = t ∧ pd.useCand = m.useCand
  uc : ∀ f t m, Out.dgram f t m ∈ r.2 → m.cls = 0 → m.useCand = true →
    ∃ p l r', p ∈ r.1.checklist ∧ p.state = .succeeded ∧ r.1.localOf p.l = some l ∧ r.1.remoteOf p.r = some r' ∧
      l.addr = f ∧ r'.addr = t

theorem find?_unique {l : List Pending} (hu : l.Pairwise (fun x y => x.tid ≠ y.tid)) {t : Nat} {x pd : Pending}
    (hx : l.find? (·.tid == t) = some x) (hpd : pd ∈ l) (ht : pd.tid = t) : pd = x := by
  have hxm := List.mem_of_find?_eq_some hx
  have hxt : x.tid = t := by simpa using List.find?_some hx
  exact Prog.pairwise_inj_mem (f := Pending.tid) hu hpd hxm (ht.trans hxt.symm)

theorem ReqsOK.weak {a : Agent} {now : Nat} {r : Agent × List Out} (h : ReqsOK a now r)
    (hu : r.1.pending.Pairwise (fun x y => x.tid ≠ y.tid)) : ReqsOK' a r := by
  refine ⟨h.req, ?_, h.uc⟩
  intro f t m hm hc pd hpd htid
  have e := find?_unique hu (h.pend f t m hm hc) hpd htid
  subst e
  exact ⟨rfl, rfl, rfl⟩

theorem ReqsOK'.silent {a : Agent} {r : Agent × List Out} (h : NoDgram r.2) : ReqsOK' a r :=
  ⟨fun f t m hm => absurd hm (h f t m), fun f t m hm => absurd hm (h f t m), fun f t m hm => absurd hm (h f t m)⟩

theorem runTimers_reqs' {T0 H T : Nat} (hT : T ≤ H) (fuel : Nat) {a : Agent} (hg : Good T0 H a) :
    ReqsOK' a (a.runTimers T fuel) ∧ ∀ f t m, Out.dgram f t m ∈ (a.runTimers T fuel).2 → m.cls = 0 := by
  -- together with the two frames of the run, which the step for one tick needs of the ticks after it
  refine (good_ticks (Q := fun a x => IceProofs.AgentC02.TidFrame a x.1 ∧ LK T0 T none a x.1 ∧ ReqsOK' a x ∧
      ∀ f t m, Out.dgram f t m ∈ x.2 → m.cls = 0) hT
    (fun a => ⟨.refl a, LK.refl _ _ _ _, .silent NoDgram.nil, fun f t m h => absurd h (NoDgram.nil f t m)⟩)
    (fun a tk r hg k hle ih => ?_) fuel hg).2.2
  obtain ⟨fr2, k2, ih2, ihc⟩ := ih
  obtain ⟨c1, c1c⟩ := contact_reqs k.tH hg.good0
  have tid1 : IceProofs.AgentC02.TidFrame a (ticked a tk) :=
    (IceProofs.AgentC02.frame_contact a tk).toTidFrame.trans (.of_fields rfl rfl fun _ h => h)
  have hpo := k.good.linv.pendOK
  refine ⟨tid1.trans fr2, (k.lk.mono_now hle).trans k2, ⟨?_, ?_, ?_⟩,
    fun f t m hm => (List.mem_append.mp hm).elim (c1c f t m) (ihc f t m)⟩
  · intro f t m hm hc
    rcases List.mem_append.mp hm with hm | hm
    · exact c1.req f t m hm hc
    · exact (ih2.req f t m hm hc).of_earlier k.id k.lk.locals tid1.tid
  · intro f t m hm hc pd hpd htid
    rcases List.mem_append.mp hm with hm | hm
    · have hf := c1.pend f t m hm hc
      rcases fr2.pend pd hpd with hold | hnew
      · cases find?_unique hpo.2 hf hold htid
        exact ⟨rfl, rfl, rfl⟩
      · -- a transaction of a later tick has a later id
        have hlt := hpo.1 _ (List.mem_of_find?_eq_some hf)
        rw [htid] at hnew
        exact absurd (Nat.lt_of_lt_of_le hlt hnew) (Nat.lt_irrefl _)
    · exact ih2.pend f t m hm hc pd hpd htid
  · intro f t m hm hc hu
    rcases List.mem_append.mp hm with hm | hm
    · exact UcOK.of_lk k2 (c1.uc f t m hm hc hu)
    · exact ih2.uc f t m hm hc hu

def NoData (o : List Out) : Prop := ∀ f t n, Out.data f t n ∉ o

theorem NoData.nil : NoData [] := fun _ _ _ h => by cases h
theorem NoData.append {o1 o2 : List Out} (h1 : NoData o1) (h2 : NoData o2) : NoData (o1 ++ o2) := by
  intro f t n h
  rcases List.mem_append.mp h with h | h
  · exact h1 f t n h
  · exact h2 f t n h

theorem sendRequest_nd (a : Agent) (t : Nat) (l r : Cand) (uc : Bool) (nom : Option Nat) :
    NoData (a.sendRequest t l r uc nom).2 := by
  intro f t' n h
  unfold Agent.sendRequest at h
  simp at h

theorem setConnState_nd (a : Agent) (s : ConnState) : NoData (a.setConnState s).2 := by
  unfold Agent.setConnState
  split
  · exact NoData.nil
  · exact fun _ _ _ hm => by cases List.mem_singleton.mp hm

theorem select_nd (a : Agent) (id : Nat) : NoData (a.select id).2 := by
  obtain ⟨x, y, h⟩ := select_snd_eq a id
  rw [h]
  intro f t n hm
  split at hm <;> simp at hm

theorem doRestart_nd (a : Agent) (now : Nat) (x p : String) : NoData (a.doRestart now x p).2 := by
  unfold Agent.doRestart
  dsimp only
  split
  · exact setConnState_nd _ _
  · exact NoData.nil

/-- only the data plane (`Conn.Write`, `WriteToPair`) emits application data -/
theorem nd_move {cx : Ctx} (hd : ¬ cx.may .data) {a : Agent} {r : Agent × List Out} (h : Move cx a r) : NoData r.2 := by
  cases h with
  | data _ _ _ h => exact absurd h hd
  | request now l r uc => exact sendRequest_nd a now l r uc none
  | issue now l r v => exact sendRequest_nd a now l r true _
  | select id => exact select_nd a id
  | restart now x p => exact doRestart_nd a now x p
  | connState | failed | res | cbCand | answer | refuse =>
    intro _ _ _ h
    cases List.mem_singleton.mp h
  | _ => exact NoData.nil

theorem nd_chain {cx : Ctx} (hd : ¬ cx.may .data) {a : Agent} {r : Agent × List Out} (h : Chain cx a r) : NoData r.2 :=
  Chain.ind (R := fun _ r => NoData r.2) (fun _ => NoData.nil) (fun _ _ => nd_move hd) NoData.append h

theorem step_inbound_noData (a : Agent) (now la src : Nat) (m : Msg) :
    ∀ f t n, Out.data f t n ∉ (step a (.inbound now la src m)).2 :=
  nd_chain (cx := .step (.inbound now la src m) a) (by simp [Ctx.step, mayOf]) (step_chain a _)

theorem runTimers_noData (a : Agent) (T fuel : Nat) : ∀ f t n, Out.data f t n ∉ (a.runTimers T fuel).2 :=
  nd_chain (cx := .idle) (by decide) (Chain.runTimers a T fuel)

end IceProofs.C01Live

import IceProofs.CloseSysInv
/-! # CloseSys — what one transition does: a case rule per step function, the postcondition a variable

Every fact about the result of a transition (invariant, contract, measure, ghost flags) is derived from these
rules. -/
namespace IceProofs.CloseSys
open IceModel.CloseSys

theorem firstListed_some {l : List Cand} {i c : Nat} {cd : Cand} (h : firstListed l i = some (c, cd)) :
    i ≤ c ∧ l[c - i]? = some cd ∧ cd.listed = true := by
  induction l generalizing i with
  | nil => simp [firstListed] at h
  | cons a l ih =>
    simp only [firstListed] at h
    split at h
    · simp at h; obtain ⟨h1, h2⟩ := h; subst h1; subst h2; simp [*]
    · obtain ⟨h1, h2, h3⟩ := ih h
      refine ⟨by omega, ?_, h3⟩
      have : c - i = (c - (i + 1)) + 1 := by omega
      rw [this]; simpa using h2

theorem firstListed_none {l : List Cand} {i : Nat} (h : firstListed l i = none) :
    ∀ (c : Nat) (cd : Cand), l[c]? = some cd → cd.listed = false := by
  induction l generalizing i with
  | nil => simp
  | cons a l ih =>
    simp only [firstListed] at h
    split at h
    · simp at h
    · intro c cd hc
      cases c with
      | zero => simp at hc; subst hc; simpa using ‹¬ _ = true›
      | succ c => exact ih h c cd (by simpa using hc)

theorem delStep_cases {s s' : State} {fin : Bool} (h : delStep s = some (s', fin)) :
    (fin = true ∧ s' = s ∧ ∀ (c : Nat) (cd : Cand), s.cands[c]? = some cd → cd.listed = false) ∨
    (fin = false ∧ ∃ (c : Nat) (cd : Cand), s.cands[c]? = some cd ∧ cd.listed = true ∧
      ((cd.aborted = false ∧ s' = abortCand s c) ∨ (cd.aborted = true ∧ cd.rl = .exited ∧
        s' = { s with cands := s.cands.set c { cd with listed := false } }))) := by
  unfold delStep at h
  split at h
  · rename_i hf
    simp at h
    exact Or.inl ⟨h.2, h.1.symm, firstListed_none hf⟩
  · rename_i c cd hf
    obtain ⟨_, h2, h3⟩ := firstListed_some hf
    simp at h2
    split at h
    · rename_i hab
      simp at h
      exact Or.inr ⟨h.2, c, cd, h2, h3, Or.inl ⟨by simpa using hab, h.1.symm⟩⟩
    · rename_i hab
      split at h
      · rename_i hex
        simp at h
        exact Or.inr ⟨h.2, c, cd, h2, h3, Or.inr ⟨by simpa using hab, by simpa using hex, h.1.symm⟩⟩
      · simp at h

theorem delStep_frame {s s' : State} {fin : Bool} (h : delStep s = some (s', fin)) :
    ∃ cands : List Cand, s' = { s with cands := cands } := by
  rcases delStep_cases h with ⟨_, rfl, _⟩ | ⟨_, c, cd, _, _, ⟨_, rfl⟩ | ⟨_, _, rfl⟩⟩
  · exact ⟨_, rfl⟩
  · exact ⟨_, rfl⟩
  · exact ⟨_, rfl⟩

/-- the loop thread (taskloop.go:50-65, agent.go:556-572).  `skip` stands for a socket write that is enabled to
return and for a `gather` statement that finds its thread missing or already started. -/
theorem loopStep_cases {s s' : State} {P : State → Prop} (hs : loopStep s = some s')
    (idle : s.loop = .idle → s.done = true → P { s with loop := .ocCancel })
    (taskEnd : ∀ o, s.loop = .task o [] → P { s with loop := .idle })
    (skip : ∀ o op ops, s.loop = .task o (op :: ops) → P { s with loop := .task o ops })
    (startCand : ∀ o b n f ops, s.loop = .task o (.startCand b n f :: ops) →
      P { s with loop := .task o ops, cands := s.cands ++ [{ blocking := b, inb := n, closeFails := f }] })
    (closeCands : ∀ o ops, s.loop = .task o (.closeCands :: ops) → P { s with loop := .tclose o ops })
    (enq : ∀ o i e ops, s.loop = .task o (.enq i e :: ops) → P (enqueue { s with loop := .task o ops } i e))
    (gather : ∀ o t ops th, s.loop = .task o (.gather t :: ops) → s.thr[t]? = some th → th.kind = .gather →
      P { cancelCur { s with loop := .task o ops } with
          gcur := some t, thr := (cancelCur { s with loop := .task o ops }).thr.set t { th with live := true } })
    (cancelGather : ∀ o ops, s.loop = .task o (.cancelGather :: ops) → P (cancelCur { s with loop := .task o ops }))
    (spawn : ∀ o t ops, s.loop = .task o (.spawn t :: ops) →
      P { s with loop := .task o ops, thr := s.thr.modify t (fun th => { th with live := true }) })
    (startedFn : ∀ o ops, s.loop = .task o (.startedFn :: ops) → P { s with loop := .task o ops, startedCh := true })
    (tclose : ∀ o ops s1 fin, s.loop = .tclose o ops → delStep s = some (s1, fin) →
      P { s1 with loop := if fin then .task o ops else .tclose o ops })
    (ocCancel : s.loop = .ocCancel → P { cancelCur s with loop := .ocWaitGather })
    (ocWaitGather : s.loop = .ocWaitGather → gatherFinished s = true → P { s with loop := .ocDel })
    (ocDel : ∀ s1 fin, s.loop = .ocDel → delStep s = some (s1, fin) →
      P { s1 with loop := if fin then .ocStarted else .ocDel })
    (ocStarted : s.loop = .ocStarted → P { s with startedCh := true, loop := .ocBuf })
    (ocBuf : s.loop = .ocBuf → P { s with bufClosed := true, loop := .ocNotify })
    (ocNotify : s.loop = .ocNotify → P { enqueue s 0 0 with loop := .ocDone })
    (ocDone : s.loop = .ocDone → P { s with loop := .exited }) : P s' := by
  unfold loopStep at hs
  split at hs
  · rename_i hl
    split at hs
    · obtain rfl := Option.some.inj hs; exact idle hl ‹_›
    · simp at hs
  · rename_i o hl
    obtain rfl := Option.some.inj hs; exact taskEnd o hl
  · rename_i o op ops hl
    simp only at hs
    split at hs
    · split at hs
      · obtain rfl := Option.some.inj hs; exact skip _ _ _ hl
      · simp at hs
    · obtain rfl := Option.some.inj hs; exact startCand _ _ _ _ _ hl
    · obtain rfl := Option.some.inj hs; exact closeCands _ _ hl
    · obtain rfl := Option.some.inj hs; exact enq _ _ _ _ hl
    · split at hs
      · rename_i th ht
        split at hs
        · rename_i hc
          obtain rfl := Option.some.inj hs
          simp at hc
          exact gather _ _ _ th hl ht hc.1
        · obtain rfl := Option.some.inj hs; exact skip _ _ _ hl
      · obtain rfl := Option.some.inj hs; exact skip _ _ _ hl
    · obtain rfl := Option.some.inj hs; exact cancelGather _ _ hl
    · obtain rfl := Option.some.inj hs; exact spawn _ _ _ hl
    · obtain rfl := Option.some.inj hs; exact startedFn _ _ hl
  · rename_i o ops hl
    split at hs
    · simp at hs
    · rename_i s1 fin hd
      obtain rfl := Option.some.inj hs; exact tclose _ _ _ _ hl hd
  · rename_i hl; obtain rfl := Option.some.inj hs; exact ocCancel hl
  · rename_i hl
    split at hs
    · obtain rfl := Option.some.inj hs; exact ocWaitGather hl ‹_›
    · simp at hs
  · rename_i hl
    split at hs
    · simp at hs
    · rename_i s1 fin hd
      obtain rfl := Option.some.inj hs; exact ocDel _ _ hl hd
  · rename_i hl; obtain rfl := Option.some.inj hs; exact ocStarted hl
  · rename_i hl; obtain rfl := Option.some.inj hs; exact ocBuf hl
  · rename_i hl; obtain rfl := Option.some.inj hs; exact ocNotify hl
  · rename_i hl; obtain rfl := Option.some.inj hs; exact ocDone hl
  · simp at hs

/-- a receive loop (candidate_base.go:270-311, 385-407). -/
theorem rlStep_cases {s s' : State} {c : Nat} {alt : Bool} {P : State → Prop} (hs : rlStep s c alt = some s')
    (toRead : ∀ cd, s.cands[c]? = some cd → cd.rl = .waitInit ∨ cd.rl = .rSel ∨ cd.rl = .rWait →
      P { s with cands := s.cands.set c { cd with rl := .read } })
    (exit : ∀ cd, s.cands[c]? = some cd → cd.rl = .waitInit ∨ cd.rl = .read → cd.aborted = true →
      P { s with cands := s.cands.set c { cd with rl := .exited } })
    (handoff : ∀ cd, s.cands[c]? = some cd → cd.rl = .rSel → s.loop = .idle → s.done = false →
      taskWF s s.rtask = true →
      P { s with cands := s.cands.set c { cd with rl := .rWait }, loop := .task (.rl c) s.rtask,
                 tasksRun := s.tasksRun + 1 }) : P s' := by
  unfold rlStep at hs
  split at hs
  · simp at hs
  · rename_i cd hc
    simp only at hs
    split at hs
    · rename_i hrl
      split at hs
      · split at hs
        · obtain rfl := Option.some.inj hs; exact toRead cd hc (Or.inl hrl)
        · simp at hs
      · split at hs
        · obtain rfl := Option.some.inj hs; exact exit cd hc (Or.inl hrl) ‹_›
        · simp at hs
    · rename_i hrl
      split at hs
      · obtain rfl := Option.some.inj hs; exact exit cd hc (Or.inr hrl) ‹_›
      · simp at hs
    · rename_i hrl
      split at hs
      · split at hs
        · rename_i hcond
          obtain rfl := Option.some.inj hs
          simp at hcond
          exact handoff cd hc hrl hcond.1.1 hcond.1.2 hcond.2
        · simp at hs
      · split at hs
        · obtain rfl := Option.some.inj hs; exact toRead cd hc (Or.inr (Or.inl hrl))
        · simp at hs
    · rename_i hrl
      split at hs
      · obtain rfl := Option.some.inj hs; exact toRead cd hc (Or.inr (Or.inr hrl))
      · simp at hs
    · simp at hs

/-- one statement of an API call.  `ret` collects the ten branches in which the call returns (closed, cancelled,
done, I/O error) and the shared state is not written. -/
theorem callStep_cases {s s1 : State} {t : Tid} {th th' : Th} {alt : Bool} {P : State → Th → Prop}
    (hs : callStep s t th alt = some (s1, th'))
    (ret : ∀ r, (th.loc = .idle → th.prog ≠ []) → (∀ g, th.loc ≠ .cPre g) → P s (th.ret r))
    (run : ∀ ctx task r, th.loc = .idle → th.prog = .run ctx task :: r → s.done = false →
      P s { th with loc := .rSel ctx task })
    (close : ∀ g r, th.loc = .idle → th.prog = .close g :: r → P s { th with loc := .cOnce g })
    (read : ∀ r, th.loc = .idle → th.prog = .read :: r → s.done = false → P s { th with loc := .rdBlk })
    (write : ∀ c r, th.loc = .idle → th.prog = .write c :: r → s.done = false → P s { th with loc := .wrBlk c })
    (await : ∀ r, th.loc = .idle → th.prog = .await :: r → P s { th with loc := .awBlk })
    (handoff : ∀ ctx task, th.loc = .rSel ctx task → s.loop = .idle → s.done = false → taskWF s task = true →
      P { s with loop := .task t task, tasksRun := s.tasksRun + 1 } { th with loc := .rWait })
    (takeOnce : ∀ g, th.loc = .cOnce g → s.once = .free →
      P { s with once := .running t 0, done := true, snap := s.cands.length } { th with loc := .cPre g })
    (onceOver : ∀ g, th.loc = .cOnce g → s.once = .finished → P s { th with loc := .cWaitLoop g })
    (abortNext : ∀ g k, th.loc = .cPre g → s.once = .running t k → k < s.snap →
      P { abortCand s k with once := .running t (k + 1) } th)
    (finishOnce : ∀ g k, th.loc = .cPre g → s.once = .running t k → ¬ k < s.snap →
      P { s with once := .finished } { th with loc := .cWaitLoop g })
    (loopGone : ∀ g, th.loc = .cWaitLoop g → s.loop = .exited → P s { th with loc := .cNotif g 0 })
    (closeNotif : ∀ g i, th.loc = .cNotif g i → i < s.streams.length →
      P (setNdone s i) { th with loc := if g then .cWait g i else .cNotif g (i + 1) })
    (closed : ∀ g i, th.loc = .cNotif g i → ¬ i < s.streams.length →
      P { s with closeRet := true, gcloseRet := s.gcloseRet || g } (th.ret .ok))
    (drained : ∀ g i, th.loc = .cWait g i → streamRunning s i = false → P s { th with loc := .cNotif g (i + 1) }) :
    P s1 th' := by
  have retLoc : ∀ r, th.loc ≠ .idle → (∀ g, th.loc ≠ .cPre g) → P s (th.ret r) :=
    fun r h1 h2 => ret r (fun e => absurd e h1) h2
  have retIdle : ∀ r u p, th.loc = .idle → th.prog = u :: p → P s (th.ret r) :=
    fun r u p h1 h2 => ret r (fun _ => by simp [h2]) (by simp [h1])
  unfold callStep at hs
  split at hs
  · rename_i hloc
    split at hs
    · simp at hs
    · rename_i ctx task r hp
      split at hs <;> obtain ⟨rfl, rfl⟩ := Prod.mk.inj (Option.some.inj hs)
      · exact retIdle _ _ _ hloc hp
      · exact run _ _ _ hloc hp (Bool.eq_false_iff.2 ‹_›)
    · rename_i g r hp
      obtain ⟨rfl, rfl⟩ := Prod.mk.inj (Option.some.inj hs); exact close _ _ hloc hp
    · rename_i r hp
      split at hs <;> obtain ⟨rfl, rfl⟩ := Prod.mk.inj (Option.some.inj hs)
      · exact retIdle _ _ _ hloc hp
      · exact read _ hloc hp (Bool.eq_false_iff.2 ‹_›)
    · rename_i c r hp
      split at hs <;> obtain ⟨rfl, rfl⟩ := Prod.mk.inj (Option.some.inj hs)
      · exact retIdle _ _ _ hloc hp
      · exact write _ _ hloc hp (Bool.eq_false_iff.2 ‹_›)
    · rename_i r hp
      obtain ⟨rfl, rfl⟩ := Prod.mk.inj (Option.some.inj hs); exact await _ hloc hp
    · rename_i r hp
      obtain ⟨rfl, rfl⟩ := Prod.mk.inj (Option.some.inj hs); exact retIdle _ _ _ hloc hp
  · rename_i ctx task hloc
    split at hs
    · split at hs
      · rename_i hcond
        obtain ⟨rfl, rfl⟩ := Prod.mk.inj (Option.some.inj hs)
        simp at hcond
        exact handoff _ _ hloc hcond.1.1 hcond.1.2 hcond.2
      · simp at hs
    · split at hs
      · obtain ⟨rfl, rfl⟩ := Prod.mk.inj (Option.some.inj hs)
        exact retLoc _ (by simp [hloc]) (by simp [hloc])
      · split at hs
        · obtain ⟨rfl, rfl⟩ := Prod.mk.inj (Option.some.inj hs)
          exact retLoc _ (by simp [hloc]) (by simp [hloc])
        · simp at hs
  · rename_i hloc
    split at hs
    · obtain ⟨rfl, rfl⟩ := Prod.mk.inj (Option.some.inj hs)
      exact retLoc _ (by simp [hloc]) (by simp [hloc])
    · simp at hs
  · rename_i g hloc
    split at hs
    · rename_i hfree
      obtain ⟨rfl, rfl⟩ := Prod.mk.inj (Option.some.inj hs); exact takeOnce _ hloc hfree
    · simp at hs
    · rename_i hfin
      obtain ⟨rfl, rfl⟩ := Prod.mk.inj (Option.some.inj hs); exact onceOver _ hloc hfin
  · rename_i g hloc
    split at hs
    · rename_i o k ho
      split at hs
      · rename_i hot
        simp at hot; subst hot
        split at hs <;> obtain ⟨rfl, rfl⟩ := Prod.mk.inj (Option.some.inj hs)
        · exact abortNext _ _ hloc ho ‹_›
        · exact finishOnce _ _ hloc ho ‹_›
      · simp at hs
    · simp at hs
  · rename_i g hloc
    split at hs
    · rename_i hex
      obtain ⟨rfl, rfl⟩ := Prod.mk.inj (Option.some.inj hs); exact loopGone _ hloc (by simpa using hex)
    · simp at hs
  · rename_i g i hloc
    split at hs <;> obtain ⟨rfl, rfl⟩ := Prod.mk.inj (Option.some.inj hs)
    · exact closeNotif _ _ hloc ‹_›
    · exact closed _ _ hloc ‹_›
  · rename_i g i hloc
    split at hs
    · rename_i hrun
      obtain ⟨rfl, rfl⟩ := Prod.mk.inj (Option.some.inj hs); exact drained _ _ hloc (by simpa using hrun)
    · simp at hs
  · rename_i hloc
    split at hs
    · obtain ⟨rfl, rfl⟩ := Prod.mk.inj (Option.some.inj hs)
      exact retLoc _ (by simp [hloc]) (by simp [hloc])
    · simp at hs
  · rename_i c hloc
    split at hs
    · obtain ⟨rfl, rfl⟩ := Prod.mk.inj (Option.some.inj hs)
      exact retLoc _ (by simp [hloc]) (by simp [hloc])
    · simp at hs
  · rename_i hloc
    split at hs
    · obtain ⟨rfl, rfl⟩ := Prod.mk.inj (Option.some.inj hs)
      exact retLoc _ (by simp [hloc]) (by simp [hloc])
    · simp at hs

theorem thStep_cases {s s' : State} {t : Tid} {alt : Bool} {P : State → Prop} (hs : thStep s t alt = some s')
    (leave : ∀ n th, t = .api n → s.thr[n]? = some th → th.live = true → th.loc = .idle → th.prog ≠ [] →
      s.done = true → P (setTh s t { th with prog := [] }))
    (drExit : ∀ i st, t = .dr i → s.streams[i]? = some st → st.running = true → st.th.loc = .idle →
      st.th.prog = [] → P { s with streams := s.streams.set i { st with running := false } })
    (drNext : ∀ i st e q, t = .dr i → s.streams[i]? = some st → st.running = true → st.th.loc = .idle →
      st.th.prog = [] → st.queue = e :: q →
      P (setTh { s with streams := s.streams.set i { st with queue := q } } t { st.th with prog := hdlOf st e }))
    (call : ∀ th s1 th', getTh s t = some th → Active s t th → callStep s t th alt = some (s1, th') →
      P (setTh s1 t th')) : P s' := by
  unfold thStep at hs
  split at hs
  · simp at hs
  · rename_i n
    split at hs
    · simp at hs
    · rename_i th hth
      split at hs
      · simp at hs
      · rename_i hlive
        have hlv : th.live = true := by simpa using hlive
        split at hs
        · rename_i hq
          obtain rfl := Option.some.inj hs
          simp at hq
          obtain ⟨⟨⟨⟨_, hloc⟩, hd⟩, _⟩, hp⟩ := hq
          exact leave n th rfl hth hlv hloc hp hd
        · split at hs
          · simp at hs
          · rename_i s1 th' hc
            obtain rfl := Option.some.inj hs
            exact call th s1 th' hth hlv hc
  · rename_i i
    split at hs
    · simp at hs
    · rename_i st hst
      split at hs
      · simp at hs
      · rename_i hrun
        have hr : st.running = true := by simpa using hrun
        split at hs
        · rename_i hidle
          simp at hidle
          split at hs
          · obtain rfl := Option.some.inj hs; exact drExit i st rfl hst hr hidle.1 hidle.2
          · rename_i e q hq
            obtain rfl := Option.some.inj hs; exact drNext i st e q rfl hst hr hidle.1 hidle.2 hq
        · split at hs
          · simp at hs
          · rename_i s1 th' hc
            obtain rfl := Option.some.inj hs
            refine call st.th s1 th' (by simp [getTh, hst]) ?_ hc
            intro st0 h0; rw [hst] at h0; cases h0; exact hr

theorem envStep_cases {s s' : State} {a : Action} {P : State → Prop} (hs : envStep s a = some s')
    (data : ∀ c cd, s.cands[c]? = some cd → cd.rl = .read → cd.aborted = false → 0 < cd.inb →
      P { s with cands := s.cands.set c { cd with rl := .rSel, inb := cd.inb - 1 } })
    (loopWrite : ∀ o c ops, s.loop = .task o (.write c :: ops) → P { s with loop := .task o ops })
    (thRet : ∀ t th n, getTh s t = some th → th.loc ≠ .idle → (∀ g, th.loc ≠ .cPre g) →
      P (setTh { s with bufData := n } t (th.ret .ok))) : P s' := by
  unfold envStep at hs
  split at hs
  · rename_i c
    split at hs
    · rename_i cd hc
      split at hs
      · rename_i hcond
        obtain rfl := Option.some.inj hs
        simp at hcond
        exact data c cd hc hcond.1.1 hcond.1.2 hcond.2
      · simp at hs
    · simp at hs
  · split at hs
    · rename_i o c ops hl
      obtain rfl := Option.some.inj hs; exact loopWrite o c ops hl
    · simp at hs
  · rename_i t
    split at hs
    · simp at hs
    · rename_i th hget
      split at hs
      · rename_i c hloc
        obtain rfl := Option.some.inj hs
        exact thRet t th s.bufData hget (by simp [hloc]) (by simp [hloc])
      · rename_i hloc
        split at hs
        · obtain rfl := Option.some.inj hs
          exact thRet t th (s.bufData - 1) hget (by simp [hloc]) (by simp [hloc])
        · simp at hs
      · rename_i hloc
        obtain rfl := Option.some.inj hs
        exact thRet t th s.bufData hget (by simp [hloc]) (by simp [hloc])
      · simp at hs
  · simp at hs

end IceProofs.CloseSys

import IceProofs.CloseSysFrame
/-! # CloseSys — `Inv` is preserved by every statement of the loop thread (`inv_loopStep`) -/
namespace IceProofs.CloseSys
open IceModel.CloseSys

theorem Inv.gcurSame {s s' : State} (h : Inv s) (ht : ThrSame s s') (hg : s'.gcur = s.gcur) :
    ∀ t, s'.gcur = some t → ∃ th : Th, s'.thr[t]? = some th ∧ th.kind = .gather ∧ th.live = true := by
  intro t e
  obtain ⟨th, h1, h2, h3⟩ := h.gcurOK t (hg ▸ e)
  obtain ⟨th', h1'⟩ := getElem?_of_length_eq ht.1 h1
  obtain ⟨th0, h0, _, _, hlv, hk⟩ := ht.2 t th' h1'
  rw [h1] at h0; cases h0
  exact ⟨th', h1', by rw [hk, h2], hlv h3⟩

theorem Inv.candsKeep {s s' : State} (h : Inv s) (hc : s'.cands = s.cands)
    (h4 : 4 ≤ stage s'.loop → 4 ≤ stage s.loop) :
    ∀ (c : Nat) (cd' : Cand), s'.cands[c]? = some cd' → CandOK1 cd' ∧ (4 ≤ stage s'.loop → cd'.rl = .exited) := by
  intro c cd' hcd
  rw [hc] at hcd
  obtain ⟨a1, a2, a3⟩ := h.candOK c cd' hcd
  exact ⟨⟨a1, a2⟩, fun hx => a3 (h4 hx)⟩

theorem Inv.setTables {s : State} (h : Inv s) (cands' : List Cand) (streams' : List Stream)
    (hs : StreamsSame s { s with streams := streams' })
    (hc : ∀ (c : Nat) (cd' : Cand), cands'[c]? = some cd' → CandOK1 cd' ∧ (4 ≤ stage s.loop → cd'.rl = .exited))
    (hm : CandsMono s { s with cands := cands' }) : Inv { s with cands := cands', streams := streams' } := by
  refine h.loopFrame rfl rfl rfl rfl rfl rfl id (fun hx => h.closing hx) (.of_eq rfl) hs hc hm
    (fun c hc => Or.inl hc) ⟨h.rlTask.1, h.rlTask.2.1⟩
    ⟨fun hx => h.stages.1 hx, fun hx st' h0 => ?_, fun hx => (gatherFinished_congr (s := s) rfl rfl).trans (h.stages.2.2 hx)⟩
    h.gcurOK
  obtain ⟨st0, h1, _⟩ := hs.2 0 st' h0
  exact h.stages.2.1 hx st0 h1

theorem Inv.moveLoop {s s' : State} (h : Inv s)
    (hdone : s'.done = s.done) (honce : s'.once = s.once) (hsnap : s'.snap = s.snap) (hrt : s'.rtask = s.rtask)
    (hcr : s'.closeRet = s.closeRet) (hgr : s'.gcloseRet = s.gcloseRet)
    (hthr : s'.thr = s.thr) (hstr : s'.streams = s.streams) (hcd : s'.cands = s.cands) (hgc : s'.gcur = s.gcur)
    (hne : s.loop ≠ .exited)
    (hcl : 1 ≤ stage s'.loop → s.done = true)
    (h4 : 4 ≤ stage s'.loop → 4 ≤ stage s.loop ∨ ∀ (c : Nat) (cd : Cand), s.cands[c]? = some cd → cd.rl = .exited)
    (hw : ∀ c, TOp.write c ∈ loopOps s'.loop → TOp.write c ∈ loopOps s.loop)
    (hrl : (∀ c ops, s'.loop = .task (.rl c) ops → TOp.closeCands ∉ ops) ∧ (∀ c ops, s'.loop ≠ .tclose (.rl c) ops))
    (hst : (6 ≤ stage s'.loop → s'.bufClosed = true) ∧ (7 ≤ stage s'.loop → ∀ st : Stream, s'.streams[0]? = some st → s'.lastAcc = some 0) ∧
      (3 ≤ stage s'.loop → gatherFinished s' = true)) : Inv s' := by
  refine h.loopFrame hdone honce hsnap hrt hcr hgr (fun e => absurd e hne) hcl (.of_eq hthr) (.of_eq hstr) ?_ (.of_eq hcd) (fun c hc => Or.inl (hw c hc)) hrl hst ?_
  · intro c cd' hc
    rw [hcd] at hc
    obtain ⟨a1, a2, a3⟩ := h.candOK c cd' hc
    refine ⟨⟨a1, a2⟩, fun hx => ?_⟩
    rcases h4 hx with h5 | h5
    · exact a3 h5
    · exact h5 c cd' hc
  · rw [hgc, hthr]; exact h.gcurOK

theorem mem_of_mem_tail_ops {op : TOp} {ops : List TOp} {c : Nat} (h : TOp.write c ∈ ops) : TOp.write c ∈ op :: ops :=
  List.mem_cons_of_mem _ h

theorem inv_loop_taskSkip {s : State} (h : Inv s) {o : Tid} {op : TOp} {ops : List TOp}
    (hl : s.loop = .task o (op :: ops)) : Inv { s with loop := .task o ops } := by
  apply h.moveLoop <;> simp [hl, stage, loopOps]
  · intro c hc; exact Or.inr hc
  · intro c ho hm
    subst ho
    exact h.rlTask.1 c _ hl (List.mem_cons_of_mem _ hm)

theorem Inv.delCands {s s' : State} {fin : Bool} (h : Inv s) (hd : delStep s = some (s', fin)) :
    (∀ (c : Nat) (cd' : Cand), s'.cands[c]? = some cd' → CandOK1 cd') ∧ CandsMono s s' ∧
    (fin = true → ∀ (c : Nat) (cd' : Cand), s'.cands[c]? = some cd' → cd'.rl = .exited) := by
  have keep : ∀ (j : Nat) (cd0 : Cand), s.cands[j]? = some cd0 → CandOK1 cd0 :=
    fun j cd0 hj => ⟨(h.candOK j cd0 hj).1, (h.candOK j cd0 hj).2.1⟩
  rcases delStep_cases hd with ⟨hf, rfl, hall⟩ | ⟨hf, c, cd, hc, _, ⟨_, rfl⟩ | ⟨hab, hex, rfl⟩⟩
  · exact ⟨keep, .of_eq rfl, fun _ c cd' hc => (h.candOK c cd' hc).1 (hall c cd' hc)⟩
  · refine ⟨?_, ?_, by simp [hf]⟩
    · intro j cd' hj
      obtain ⟨cd0, h1, h2, h3, h4, _⟩ := abortCand_cands s c j cd' hj
      obtain ⟨a1, a2⟩ := keep j cd0 h1
      exact ⟨fun e => h2 ▸ a1 (h3 ▸ e), fun e => h4 (a2 (h2 ▸ e))⟩
    · exact abortCand_mono s c
  · refine ⟨?_, ?_, by simp [hf]⟩
    · intro j cd' hj
      simp only [List.getElem?_set] at hj
      split at hj
      · simp at hj; obtain ⟨_, rfl⟩ := hj
        exact ⟨fun _ => hex, fun _ => hab⟩
      · exact keep j cd' hj
    · intro j cd0 hj
      simp only [List.getElem?_set]
      split
      · subst_vars; simp [getElem?_lt hc]; rw [hc] at hj; cases hj; exact fun _ => hab
      · exact ⟨cd0, hj, id⟩

/-- gather.go:130-137 inside GatherCandidates' task: cancel the previous cycle, start cycle `t`. -/
theorem inv_loop_gather {s1 : State} (h1 : Inv s1) {o : Tid} {ops : List TOp} {t : Nat} {th : Th}
    (hl1 : s1.loop = .task o ops) (ht1 : s1.thr[t]? = some th) (hk : th.kind = .gather) :
    Inv { cancelCur s1 with gcur := some t, thr := (cancelCur s1).thr.set t { th with live := true } } := by
  have hcs := cancelCur_thrSame s1
  obtain ⟨thr', he⟩ := cancelCur_eq s1
  rw [he] at hcs ⊢
  have hlen : thr'.length = s1.thr.length := hcs.1
  have htlt : t < thr'.length := hlen ▸ getElem?_lt ht1
  have hts : ThrSame s1 { s1 with gcur := some t, thr := thr'.set t { th with live := true } } := by
    refine ⟨by simp [hlen], fun n th' hn => ?_⟩
    simp only [List.getElem?_set] at hn
    split at hn
    · subst_vars
      simp at hn; subst hn
      exact ⟨th, ht1, rfl, rfl, fun _ => rfl, rfl⟩
    · exact hcs.2 n th' hn
  refine h1.loopFrame (s' := { s1 with gcur := some t, thr := thr'.set t { th with live := true } })
    rfl rfl rfl rfl rfl rfl (by simp [hl1]) (by simp [stage, hl1]) hts (.of_eq rfl)
    (h1.candsKeep rfl (by simp [stage, hl1])) (.of_eq rfl) (fun c hc => Or.inl hc) ⟨h1.rlTask.1, h1.rlTask.2.1⟩
    (by simp [stage, hl1]) ?_
  intro g hg
  simp at hg; subst hg
  exact ⟨{ th with live := true }, by simp [htlt], hk, rfl⟩

theorem inv_loopStep {s s' : State} (h : Inv s) (hs : loopStep s = some s') : Inv s' := by
  have hd : 1 ≤ stage s.loop → s.done = true := h.closing
  have hg : 3 ≤ stage s.loop → gatherFinished s = true := h.stages.2.2
  have tailOK : ∀ {o op ops}, s.loop = .task o (op :: ops) → ∀ c ops', o = .rl c → ops = ops' → TOp.closeCands ∉ ops' := by
    intro o op ops hl c ops' ho e hm
    subst ho; subst e
    exact h.rlTask.1 c _ hl (List.mem_cons_of_mem _ hm)
  apply loopStep_cases hs
  case idle => intro hl hdn; apply h.moveLoop <;> simp [hl, hdn, stage, loopOps]
  case taskEnd => intro o hl; apply h.moveLoop <;> simp [hl, stage, loopOps]
  case skip => exact fun _ _ _ => inv_loop_taskSkip h
  case closeCands =>
    intro o ops hl
    apply h.moveLoop <;> simp [hl, stage, loopOps]
    intro c ho
    subst ho
    exact absurd (List.mem_cons_self) (h.rlTask.1 c _ hl)
  case startedFn =>
    intro o ops hl
    apply h.moveLoop <;> simp [hl, stage, loopOps]
    exact fun c ho hm => tailOK hl c ops ho rfl hm
  case ocCancel =>
    intro hl
    have hts := cancelCur_thrSame s
    obtain ⟨thr', he⟩ := cancelCur_eq s
    rw [he] at hts ⊢
    exact h.loopFrame rfl rfl rfl rfl rfl rfl (by simp [hl]) (fun _ => hd (by simp [hl, stage])) hts (.of_eq rfl)
      (h.candsKeep rfl (by simp [stage])) (.of_eq rfl) (by simp [loopOps]) (by simp) (by simp [stage])
      (h.gcurSame hts rfl)
  case ocWaitGather =>
    intro hl hgf
    have hdn := hd (by simp [hl, stage])
    apply h.moveLoop <;> simp [hl, hdn, stage, loopOps]
    exact (gatherFinished_congr (s := s) rfl rfl).trans hgf
  case ocStarted =>
    intro hl
    have hdn := hd (by simp [hl, stage])
    apply h.moveLoop <;> simp [hl, hdn, stage, loopOps]
    exact (gatherFinished_congr (s := s) rfl rfl).trans (hg (by simp [hl, stage]))
  case ocBuf =>
    intro hl
    have hdn := hd (by simp [hl, stage])
    apply h.moveLoop <;> simp [hl, hdn, stage, loopOps]
    exact (gatherFinished_congr (s := s) rfl rfl).trans (hg (by simp [hl, stage]))
  case ocDone =>
    intro hl
    have hdn := hd (by simp [hl, stage])
    apply h.moveLoop <;> simp [hl, hdn, stage, loopOps]
    exact ⟨h.stages.1 (by simp [hl, stage]), h.stages.2.1 (by simp [hl, stage]),
      (gatherFinished_congr (s := s) rfl rfl).trans (hg (by simp [hl, stage]))⟩
  case ocNotify =>
    -- agent.go:571 → agent_handlers.go:89-122: Closed is handed to (and accepted by) the state notifier
    intro hl
    have hss := enqueue_same s 0 0
    have hla : ∀ st' : Stream, (enqueue s 0 0).streams[0]? = some st' → (enqueue s 0 0).lastAcc = some 0 := by
      intro st' hst'
      obtain ⟨st, h1, _⟩ := enqueue_stream s 0 0 0 st' hst'
      have hnd : st.ndone = false := by
        cases hx : st.ndone with
        | false => rfl
        | true => have := (h.drOK 0 st h1).2.2 hx; simp [hl] at this
      simp [enqueue, h1, hnd]
    obtain ⟨str', la', he⟩ := enqueue_eq s 0 0
    rw [he] at hss hla ⊢
    exact h.loopFrame rfl rfl rfl rfl rfl rfl (by simp [hl]) (fun _ => hd (by simp [hl, stage])) (.of_eq rfl) hss
      (h.candsKeep rfl (by simp [stage, hl])) (.of_eq rfl) (by simp [loopOps]) (by simp)
      ⟨fun _ => h.stages.1 (by simp [hl, stage]), fun _ => hla,
        fun _ => (gatherFinished_congr (s := s) rfl rfl).trans (hg (by simp [hl, stage]))⟩ h.gcurOK
  case enq =>
    intro o i e ops hl
    have h1 : Inv { s with loop := .task o ops } := inv_loop_taskSkip h hl
    have hss := enqueue_same { s with loop := .task o ops } i e
    obtain ⟨str', la', he⟩ := enqueue_eq { s with loop := .task o ops } i e
    rw [he] at hss ⊢
    exact h1.loopFrame rfl rfl rfl rfl rfl rfl (by simp) (by simp [stage]) (.of_eq rfl) hss
      (h1.candsKeep rfl (by simp [stage])) (.of_eq rfl) (fun c hc => Or.inl hc) ⟨h1.rlTask.1, by simp⟩ (by simp [stage])
      h1.gcurOK
  case cancelGather =>
    intro o ops hl
    have h1 : Inv { s with loop := .task o ops } := inv_loop_taskSkip h hl
    generalize hs1 : ({ s with loop := .task o ops } : State) = s1 at h1 ⊢
    have hl1 : s1.loop = .task o ops := by rw [← hs1]
    have hts := cancelCur_thrSame s1
    obtain ⟨thr', he⟩ := cancelCur_eq s1
    rw [he] at hts ⊢
    exact h1.loopFrame rfl rfl rfl rfl rfl rfl (by simp [hl1]) (by simp [stage, hl1]) hts (.of_eq rfl)
      (h1.candsKeep rfl (by simp [stage, hl1])) (.of_eq rfl) (fun c hc => Or.inl hc) ⟨h1.rlTask.1, h1.rlTask.2.1⟩
      (by simp [stage, hl1]) (h1.gcurSame hts rfl)
  case tclose =>
    intro o ops s1 fin hl hdl
    obtain ⟨hc, hm, _⟩ := h.delCands hdl
    obtain ⟨cands, rfl⟩ := delStep_frame hdl
    have hno : ∀ c, o ≠ .rl c := fun c hc => h.rlTask.2.1 c ops (hc ▸ hl)
    refine h.loopFrame (s' := { s with cands := cands, loop := if fin then .task o ops else .tclose o ops })
      rfl rfl rfl rfl rfl rfl (by simp [hl]) ?_ (.of_eq rfl) (.of_eq rfl) ?_ hm ?_ ⟨?_, ?_⟩ ?_ h.gcurOK
    · cases fin <;> simp [stage]
    · intro c cd' hcd; exact ⟨hc c cd' hcd, by cases fin <;> simp [stage]⟩
    · intro c hc; left; cases fin <;> simpa [hl, loopOps] using hc
    · intro c ops' hx; cases fin <;> simp at hx; exact absurd hx.1 (hno c)
    · intro c ops' hx; cases fin <;> simp at hx; exact absurd hx.1 (hno c)
    · cases fin <;> simp [stage]
  case ocDel =>
    intro s1 fin hl hdl
    obtain ⟨hc, hm, hfin⟩ := h.delCands hdl
    obtain ⟨cands, rfl⟩ := delStep_frame hdl
    refine h.loopFrame (s' := { s with cands := cands, loop := if fin then .ocStarted else .ocDel })
      rfl rfl rfl rfl rfl rfl (by simp [hl]) (fun _ => hd (by simp [hl, stage])) (.of_eq rfl) (.of_eq rfl) ?_ hm ?_ ⟨?_, ?_⟩ ?_ h.gcurOK
    · intro c cd' hcd
      refine ⟨hc c cd' hcd, ?_⟩
      cases fin
      · simp [stage]
      · intro _; exact hfin rfl c cd' hcd
    · cases fin <;> simp [loopOps]
    · intro c ops' hx; cases fin <;> simp at hx
    · intro c ops' hx; cases fin <;> simp at hx
    · refine ⟨?_, ?_, fun _ => (gatherFinished_congr (s := s) rfl rfl).trans (hg (by simp [hl, stage]))⟩ <;> cases fin <;> simp [stage]
  case startCand =>
    intro o b n f ops hl
    have h1 : Inv { s with loop := .task o ops } := inv_loop_taskSkip h hl
    refine h1.loopFrame (s' := { s with loop := .task o ops, cands := s.cands ++ [{ blocking := b, inb := n, closeFails := f }] })
      rfl rfl rfl rfl rfl rfl (by simp) (by simp [stage]) (.of_eq rfl) (.of_eq rfl) ?_ ?_ (fun c hc => Or.inl hc)
      ⟨h1.rlTask.1, by simp⟩ (by simp [stage]) (by simpa using h1.gcurOK)
    · intro c cd' hc
      simp only [List.getElem?_append] at hc
      split at hc
      · obtain ⟨a1, a2, _⟩ := h.candOK c cd' hc; exact ⟨⟨a1, a2⟩, by simp [stage]⟩
      · cases hx : c - s.cands.length with
        | zero => simp [hx] at hc; subst hc; exact ⟨⟨by simp, by simp⟩, by simp [stage]⟩
        | succ k => simp [hx] at hc
    · intro i cd hi
      have : i < s.cands.length := getElem?_lt hi
      exact ⟨cd, by rw [List.getElem?_append, if_pos this]; exact hi, id⟩
  case spawn =>
    intro o t ops hl
    have hts : ThrSame { s with loop := .task o ops }
        { s with loop := .task o ops, thr := s.thr.modify t (fun th => { th with live := true }) } := by
      refine ⟨by simp, ?_⟩
      intro n th' hn
      simp only [List.getElem?_modify] at hn
      cases hx : s.thr[n]? with
      | none => simp [hx] at hn
      | some th =>
        simp [hx] at hn; subst hn
        refine ⟨th, rfl, ?_⟩
        split <;> simp
    have h1 : Inv { s with loop := .task o ops } := inv_loop_taskSkip h hl
    exact h1.loopFrame rfl rfl rfl rfl rfl rfl (by simp) (by simp [stage]) hts (.of_eq rfl)
      (h1.candsKeep rfl (by simp [stage])) (.of_eq rfl) (fun c hc => Or.inl hc) ⟨h1.rlTask.1, by simp⟩ (by simp [stage])
      (h1.gcurSame hts rfl)
  case gather => exact fun _ _ _ _ hl ht hk => inv_loop_gather (inv_loop_taskSkip h hl) rfl ht hk

end IceProofs.CloseSys

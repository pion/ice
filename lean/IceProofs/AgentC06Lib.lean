import IceModel.AgentCore
import IceProofs.AgentAuto
import IceProofs.AgentRulesStep
import IceProofs.AgentLookups
/-!
# C06 — library: the bookkeeping *view* of an agent and the relations `Same` / `Evo`

`sview a` keeps exactly what the bookkeeping invariant of C06 talks about: pair keys
`(id, l, r)` + nominated flag, candidates without their activity timestamps (`core`), caches, the two id
counters, configuration, `closed`, `selected`, `nominatedPair`, `connState`.

* `Same a a'`  : `sview a' = sview a` (helpers that only touch counters, states, pending, timestamps …)
* `Evo a a'`   : same structure (keys, candidates, caches, counters), selection/nomination/connection state
                 may move, but only in the ways the non-wiping helpers move them.
-/
namespace IceProofs.AgentC06
open IceModel.AgentCore IceProofs.Agent

theorem nodup_map_of_nodup_map {α β γ : Type} (f : α → β) (g : β → γ) (l : List α)
    (h : (l.map (fun x => g (f x))).Nodup) : (l.map f).Nodup := by
  induction l with
  | nil => simp
  | cons a l ih =>
    simp only [List.map_cons, List.nodup_cons, List.mem_map, not_exists, not_and] at h ⊢
    exact ⟨fun x hx hfx => h.1 x hx (by rw [hfx]), ih h.2⟩

/-- a candidate without its activity timestamps -/
def core (c : Cand) : Cand := { c with lastRecv := none, lastSent := none }

@[simp] theorem core_uid (c : Cand) : (core c).uid = c.uid := rfl
@[simp] theorem core_net (c : Cand) : (core c).net = c.net := rfl
@[simp] theorem core_addr (c : Cand) : (core c).addr = c.addr := rfl
@[simp] theorem core_ty (c : Cand) : (core c).ty = c.ty := rfl
@[simp] theorem core_rel (c : Cand) : (core c).rel = c.rel := rfl
@[simp] theorem core_prio (c : Cand) : (core c).prio = c.prio := rfl
@[simp] theorem core_form (c : Cand) : (core c).form = c.form := rfl
@[simp] theorem core_tt (c : Cand) : (core c).tt = c.tt := rfl
@[simp] theorem core_core (c : Cand) : core (core c) = core c := rfl
@[simp] theorem core_equal (a b : Cand) : (core a).equal (core b) = a.equal b := rfl
@[simp] theorem core_equal_l (a b : Cand) : (core a).equal b = a.equal b := rfl
@[simp] theorem core_equal_r (a b : Cand) : a.equal (core b) = a.equal b := rfl
@[simp] theorem core_taEqual_l (a b : Cand) : (core a).taEqual b = a.taEqual b := rfl
@[simp] theorem core_taEqual_r (a b : Cand) : a.taEqual (core b) = a.taEqual b := rfl

/-- pair key: (id, local uid, remote uid) -/
abbrev Key := Nat × Nat × Nat

def key (p : Pair) : Key := (p.id, p.l, p.r)
def pk4 (p : Pair) : Key × Bool := (key p, p.nominated)

@[simp] theorem key_fst (p : Pair) : (key p).1 = p.id := rfl
@[simp] theorem key_snd_fst (p : Pair) : (key p).2.1 = p.l := rfl
@[simp] theorem key_snd_snd (p : Pair) : (key p).2.2 = p.r := rfl
@[simp] theorem pk4_fst (p : Pair) : (pk4 p).1 = key p := rfl
@[simp] theorem pk4_snd (p : Pair) : (pk4 p).2 = p.nominated := rfl

structure SView where
  pks : List (Key × Bool)
  lcs : List Cand
  rcs : List Cand
  caches : List (Nat × Nat × Nat)
  nextUid : Nat
  nextPairID : Nat
  cfg : Config
  closed : Bool
  selected : Option Nat
  nominatedPair : Option Nat
  connState : ConnState

def sview (a : Agent) : SView :=
  { pks := a.checklist.map pk4, lcs := a.locals.map core, rcs := a.remotes.map core, caches := a.caches,
    nextUid := a.nextUid, nextPairID := a.nextPairID, cfg := a.cfg, closed := a.closed,
    selected := a.selected, nominatedPair := a.nominatedPair, connState := a.connState }

def SView.keys (v : SView) : List Key := v.pks.map (·.1)
def SView.ids (v : SView) : List Nat := v.pks.map (·.1.1)

def keysOf (a : Agent) : List Key := a.checklist.map key
def idsOf (a : Agent) : List Nat := a.checklist.map (·.id)
def lcsOf (a : Agent) : List Cand := a.locals.map core
def rcsOf (a : Agent) : List Cand := a.remotes.map core

theorem sview_keys (a : Agent) : (sview a).keys = keysOf a := by
  simp [SView.keys, sview, keysOf, List.map_map, Function.comp_def]
theorem sview_ids (a : Agent) : (sview a).ids = idsOf a := by
  simp [SView.ids, sview, idsOf, List.map_map, Function.comp_def]
theorem keys_ids (a : Agent) : (keysOf a).map (·.1) = idsOf a := by
  simp [keysOf, idsOf, List.map_map, Function.comp_def]
@[simp] theorem sview_lcs (a : Agent) : (sview a).lcs = lcsOf a := rfl
@[simp] theorem sview_rcs (a : Agent) : (sview a).rcs = rcsOf a := rfl

def Same (a a' : Agent) : Prop := sview a' = sview a

theorem Same.refl (a : Agent) : Same a a := rfl
theorem Same.trans {a b c : Agent} (h1 : Same a b) (h2 : Same b c) : Same a c := by
  unfold Same at *; rw [h2, h1]

theorem Same.modPair (a : Agent) (id : Nat) (f : Pair → Pair) (h : ∀ p, pk4 (f p) = pk4 p) :
    Same a (a.modPair id f) := by
  simp [Same, sview, Agent.modPair, updPair_map pk4 _ _ _ h]

theorem Same.seenLocalSent (a : Agent) (u now : Nat) : Same a (a.seenLocalSent u now) := by
  have h := updCand_map core a.locals u (fun c => { c with lastSent := some now }) (fun c => rfl)
  simp only [Same, sview, Agent.seenLocalSent, h]

theorem Same.seenRemoteRecv (a : Agent) (u now : Nat) : Same a (a.seenRemoteRecv u now) := by
  have h := updCand_map core a.remotes u (fun c => { c with lastRecv := some now }) (fun c => rfl)
  simp only [Same, sview, Agent.seenRemoteRecv, h]

theorem Same.invalidatePending (a : Agent) (now : Nat) : Same a (a.invalidatePending now) := rfl

theorem Same.of_fields {a a' : Agent} (h1 : a'.checklist = a.checklist) (h2 : a'.locals = a.locals)
    (h3 : a'.remotes = a.remotes) (h4 : a'.caches = a.caches) (h5 : a'.nextUid = a.nextUid)
    (h6 : a'.nextPairID = a.nextPairID) (h7 : a'.cfg = a.cfg) (h8 : a'.closed = a.closed)
    (h9 : a'.selected = a.selected) (h10 : a'.nominatedPair = a.nominatedPair)
    (h11 : a'.connState = a.connState) : Same a a' := by
  simp [Same, sview, *]

theorem Same.sendRequest (a : Agent) (now : Nat) (l r : Cand) (uc : Bool) (nom : Option Nat) :
    Same a (a.sendRequest now l r uc nom).1 := by
  unfold Agent.sendRequest
  simp only []
  refine Same.trans ?_ (Same.seenLocalSent _ _ _)
  split
  · exact Same.trans (b := { a.invalidatePending now with nextTid := _, pending := _ }) rfl (Same.modPair _ _ _ (fun p => rfl))
  · rfl

theorem Same.ping (a : Agent) (now : Nat) (l r : Cand) : Same a (a.ping now l r).1 :=
  Same.sendRequest a now l r false none

theorem Same.sendSuccess (a : Agent) (now : Nat) (m : Msg) (l r : Cand) :
    Same a (a.sendSuccess now m l r).1 := by
  unfold Agent.sendSuccess
  simp only []
  refine Same.trans ?_ (Same.seenLocalSent _ _ _)
  split
  · exact Same.modPair _ _ _ (fun p => rfl)
  · rfl

theorem Same.nominate (a : Agent) (now : Nat) (p : Pair) : Same a (a.nominate now p).1 := by
  unfold Agent.nominate
  split
  · exact Same.sendRequest _ _ _ _ _ _
  · rfl

theorem Same.keepalive (a : Agent) (now : Nat) : Same a (a.keepalive now).1 := by
  unfold Agent.keepalive
  split
  · rfl
  · split
    · split
      · exact Same.ping _ _ _ _
      · rfl
    · rfl

theorem Same.takePending (a : Agent) (now tid : Nat) : Same a (a.takePending now tid).1 := by
  rw [takePending_eq_find]
  rfl

theorem Same.writeVia (a : Agent) (now : Nat) (p : Pair) (len : Nat) : Same a (a.writeVia now p len).1 := by
  unfold Agent.writeVia
  split
  · simp only []
    split
    · exact Same.trans (Same.seenLocalSent _ _ _) (Same.modPair _ _ _ (fun p => rfl))
    · exact Same.seenLocalSent _ _ _
  · rfl

theorem Same.pingAll (a : Agent) (now : Nat) : Same a (a.pingAll now).1 :=
  IceProofs.Agent.pingAll_closed (P := fun x => Same a x.1) a now (Same.refl a)
    (fun b _ id h => h.trans (Same.modPair b id _ fun _ => rfl))
    (fun b _ id h => h.trans (Same.modPair b id _ fun _ => rfl))
    fun b _ id l r h => (h.trans (Same.ping b now l r)).trans (Same.modPair _ id _ fun _ => rfl)

theorem Same.autoRenom (a : Agent) (now : Nat) : Same a (a.autoRenom now).1 := by
  refine IceProofs.Auto.autoRenom_parts (P := fun x => Same a x.1) ?_ a (Same.refl a)
  exact {
    mark := fun b _ id _ h _ _ => h.trans (Same.modPair b id _ (fun _ => rfl))
    ping := fun b _ l r h _ _ => h.trans (Same.ping b now l r)
    time := fun _ _ h => h.trans rfl
    count := fun _ _ h => h.trans rfl
    issue := fun b _ l r nom h _ _ _ _ _ => h.trans (Same.sendRequest b now l r true nom)
    log := fun _ _ _ h => h.trans rfl }

structure Evo (a a' : Agent) : Prop where
  keys : keysOf a' = keysOf a
  lcs : lcsOf a' = lcsOf a
  rcs : rcsOf a' = rcsOf a
  caches : a'.caches = a.caches
  nextUid : a'.nextUid = a.nextUid
  nextPairID : a'.nextPairID = a.nextPairID
  cfg : a'.cfg = a.cfg
  closed : a'.closed = a.closed
  sel : ∀ id, a'.selected = some id →
    a.selected = some id ∨ (id ∈ idsOf a ∧ ∀ p' ∈ a'.checklist, p'.id = id → p'.nominated = true)
  selSome : a.selected.isSome → a'.selected.isSome
  nom : a'.nominatedPair = a.nominatedPair ∨ a'.nominatedPair = none ∨
    ∃ id, a'.nominatedPair = some id ∧ id ∈ idsOf a
  cs : a'.connState = a.connState ∨ (a'.connState ≠ .failed ∧ a'.selected.isSome)
  nomMono : ∀ p' ∈ a'.checklist, p'.nominated = false →
    ∃ p ∈ a.checklist, p.id = p'.id ∧ p.nominated = false

theorem Evo.ids {a a' : Agent} (h : Evo a a') : idsOf a' = idsOf a := by
  rw [← keys_ids, ← keys_ids, h.keys]

theorem Evo.refl (a : Agent) : Evo a a :=
  ⟨rfl, rfl, rfl, rfl, rfl, rfl, rfl, rfl, fun _ h => Or.inl h, fun h => h, Or.inl rfl, Or.inl rfl,
   fun p hp hn => ⟨p, hp, rfl, hn⟩⟩

theorem Evo.trans {a b c : Agent} (h1 : Evo a b) (h2 : Evo b c) : Evo a c where
  keys := h2.keys.trans h1.keys
  lcs := h2.lcs.trans h1.lcs
  rcs := h2.rcs.trans h1.rcs
  caches := h2.caches.trans h1.caches
  nextUid := h2.nextUid.trans h1.nextUid
  nextPairID := h2.nextPairID.trans h1.nextPairID
  cfg := h2.cfg.trans h1.cfg
  closed := h2.closed.trans h1.closed
  sel := by
    intro id hc
    rcases h2.sel id hc with hb | ⟨hm, hn⟩
    · rcases h1.sel id hb with ha | ⟨hm, hn⟩
      · exact Or.inl ha
      · refine Or.inr ⟨hm, fun p'' hp'' hid => ?_⟩
        cases hnn : p''.nominated with
        | true => rfl
        | false =>
          obtain ⟨p', hp', hid', hn'⟩ := h2.nomMono p'' hp'' hnn
          rw [hn p' hp' (hid'.trans hid)] at hn'
          exact absurd hn' (by simp)
    · exact Or.inr ⟨h1.ids ▸ hm, hn⟩
  selSome := fun h => h2.selSome (h1.selSome h)
  nom := by
    rcases h2.nom with h | h | ⟨id, h, hm⟩
    · rw [h]; exact h1.nom
    · exact Or.inr (Or.inl h)
    · exact Or.inr (Or.inr ⟨id, h, h1.ids ▸ hm⟩)
  cs := by
    rcases h2.cs with h | h
    · rcases h1.cs with h' | ⟨h', hs⟩
      · exact Or.inl (h.trans h')
      · exact Or.inr ⟨h ▸ h', h2.selSome hs⟩
    · exact Or.inr h
  nomMono := by
    intro p'' hp'' hn
    obtain ⟨p', hp', hid', hn'⟩ := h2.nomMono p'' hp'' hn
    obtain ⟨p, hp, hid, hn0⟩ := h1.nomMono p' hp' hn'
    exact ⟨p, hp, hid.trans hid', hn0⟩

theorem Same.evo {a a' : Agent} (h : Same a a') : Evo a a' := by
  have hv : sview a' = sview a := h
  have hp : a'.checklist.map pk4 = a.checklist.map pk4 := congrArg SView.pks hv
  have hk : keysOf a' = keysOf a := by
    have := congrArg (List.map (·.1)) hp
    simpa [List.map_map, Function.comp_def, keysOf] using this
  have hsel : a'.selected = a.selected := congrArg SView.selected hv
  refine ⟨hk, congrArg SView.lcs hv, congrArg SView.rcs hv, congrArg SView.caches hv,
    congrArg SView.nextUid hv, congrArg SView.nextPairID hv, congrArg SView.cfg hv,
    congrArg SView.closed hv, fun id hid => Or.inl (hsel ▸ hid), fun hs => hsel ▸ hs,
    Or.inl (congrArg SView.nominatedPair hv), Or.inl (congrArg SView.connState hv), ?_⟩
  intro p' hp' hn
  have : pk4 p' ∈ a.checklist.map pk4 := hp ▸ List.mem_map_of_mem hp'
  obtain ⟨p, hpm, he⟩ := List.mem_map.1 this
  refine ⟨p, hpm, ?_, ?_⟩
  · have := congrArg (·.1.1) he; simpa using this
  · have := congrArg (·.2) he; simp at this; rw [this]; exact hn

theorem Evo.modPair (a : Agent) (id : Nat) (f : Pair → Pair) (hk : ∀ p, key (f p) = key p)
    (hn : ∀ p, p.nominated = true → (f p).nominated = true) : Evo a (a.modPair id f) where
  keys := by simp [keysOf, Agent.modPair, updPair_map key _ _ _ hk]
  lcs := rfl
  rcs := rfl
  caches := rfl
  nextUid := rfl
  nextPairID := rfl
  cfg := rfl
  closed := rfl
  sel := fun _ h => Or.inl h
  selSome := fun h => h
  nom := Or.inl rfl
  cs := Or.inl rfl
  nomMono := by
    intro p' hp' hnn
    obtain ⟨p, hp, ⟨_, h⟩ | ⟨_, h⟩⟩ := mem_updPair_iff.1 hp'
    · refine ⟨p, hp, ?_, ?_⟩
      · have := congrArg (·.1) (hk p); simp at this; rw [h, this]
      · cases hpn : p.nominated with
        | false => rfl
        | true => rw [h, hn p hpn] at hnn; exact absurd hnn (by simp)
    · exact ⟨p, hp, h ▸ rfl, h ▸ hnn⟩

theorem Evo.setConnState (a : Agent) (s : ConnState) (hs : s ≠ .failed) (hsel : a.selected.isSome) :
    Evo a (a.setConnState s).1 := by
  rw [setConnState_fst a s hs]
  exact ⟨rfl, rfl, rfl, rfl, rfl, rfl, rfl, rfl, fun _ h => Or.inl h, fun h => h, Or.inl rfl,
    Or.inr ⟨hs, hsel⟩, fun p hp hn => ⟨p, hp, rfl, hn⟩⟩

theorem Evo.select (a : Agent) (id : Nat) (hid : id ∈ idsOf a) : Evo a (a.select id).1 := by
  rw [select_update]
  refine ⟨?_, rfl, rfl, rfl, rfl, rfl, rfl, rfl, fun id' h => ?_, fun _ => rfl, Or.inl rfl, Or.inr ⟨by simp, rfl⟩,
    fun p' hp' hn => ?_⟩
  · exact updPair_map key _ _ _ fun _ => rfl
  · obtain rfl : id = id' := by simpa using h
    refine Or.inr ⟨hid, fun p' hp' hpid => ?_⟩
    obtain ⟨p, _, ⟨_, h⟩ | ⟨hne, h⟩⟩ := mem_updPair_iff.1 hp'
    · rw [h]
    · exact absurd (h ▸ hpid) hne
  · obtain ⟨p, hp, ⟨_, h⟩ | ⟨_, h⟩⟩ := mem_updPair_iff.1 hp'
    · rw [h] at hn
      cases hn
    · exact ⟨p, hp, h ▸ rfl, h ▸ hn⟩

theorem Evo.setNominatedPair (a : Agent) (id : Nat) (hid : id ∈ idsOf a) :
    Evo a { a with nominatedPair := some id } :=
  ⟨rfl, rfl, rfl, rfl, rfl, rfl, rfl, rfl, fun _ h => Or.inl h, fun h => h, Or.inr (Or.inr ⟨id, rfl, hid⟩),
   Or.inl rfl, fun p hp hn => ⟨p, hp, rfl, hn⟩⟩

theorem Evo.clearNominatedPair (a a' : Agent) (h1 : a'.checklist = a.checklist) (h2 : a'.locals = a.locals)
    (h3 : a'.remotes = a.remotes) (h4 : a'.caches = a.caches) (h5 : a'.nextUid = a.nextUid)
    (h6 : a'.nextPairID = a.nextPairID) (h7 : a'.cfg = a.cfg) (h8 : a'.closed = a.closed)
    (h9 : a'.selected = a.selected) (h10 : a'.nominatedPair = none)
    (h11 : a'.connState = a.connState) : Evo a a' :=
  ⟨by simp [keysOf, h1], by simp [lcsOf, h2], by simp [rcsOf, h3], h4, h5, h6, h7, h8,
   fun _ h => Or.inl (h9 ▸ h), fun h => h9 ▸ h, Or.inr (Or.inl h10), Or.inl h11,
   fun p hp hn => ⟨p, h1 ▸ hp, rfl, hn⟩⟩

end IceProofs.AgentC06

import IceProofs.Sys2C01LiveStep2
/-!
# C01 liveness — the tick of a `Good` controlling agent without a selected pair

`tick_ping`: no valid pair yet ⇒ `pingAllCandidates` runs and every pair under budget gets its check.
`tick_nominate`: a valid pair and the acceptance waits over ⇒ a USE-CANDIDATE request goes out on a Succeeded pair (the
nominated one, or the best valid one, which becomes the nominated pair).  Both are about `contact`;
`agent_tick_ping` / `agent_tick_nominate` say the same of the clock advance that runs exactly this tick.
-/
namespace IceProofs.C01Live
open IceModel.AgentCore IceProofs.C03 IceProofs.Agent

/-- the longest acceptance wait of the configuration -/
def Config.maxWait (cfg : Config) : Nat := max (max cfg.hostWait cfg.srflxWait) (max cfg.prflxWait cfg.relayWait)

/-- the agent with `checkingStart` set -/
def withCS (a : Agent) (x : Nat) : Agent := { a with checkingStart := x }

theorem withCS_self (a : Agent) : withCS a a.checkingStart = a := rfl

theorem IsReq.of_withCS {a : Agent} {x : Nat} {uc : Bool} {m : Msg} (h : IsReq (withCS a x) uc m) : IsReq a uc m :=
  ⟨h.cls, h.method, h.user, h.key, h.role, h.nom, h.uc⟩

theorem contact_cc (a : Agent) (T : Nat) (hcl : a.closed = false) (hnf : a.connState ≠ .failed) (hck : CkOK a T) :
    ∃ x, a.contact T = finish ((withCS a x).contactCandidates T) := by
  have hchk : ∃ x, chk a T = withCS a x := by
    unfold chk
    split
    · exact ⟨T, rfl⟩
    · exact ⟨a.checkingStart, rfl⟩
  rw [contact_eq]
  simp only [hcl, Bool.false_eq_true, if_false]
  split
  · rename_i hc; exact absurd hc hnf
  · rename_i hc
    rw [hck hc]
    simp only [Bool.false_eq_true, if_false]
    obtain ⟨x, hx⟩ := hchk
    exact ⟨x, by rw [hx]⟩
  · exact ⟨a.checkingStart, by rw [withCS_self]⟩

section
variable {T0 H T : Nat} {a : Agent}

theorem tick_eq (hg : Good T0 H a) (hT : T ≤ H) (htk : a.nextTick = some T) :
    ∃ x, (step a (.advance T)).2 = ((withCS a x).contactCandidates T).2 ∧
      (step a (.advance T)).1.pending = ((withCS a x).contactCandidates T).1.pending ∧
      (step a (.advance T)).1.nominatedPair = ((withCS a x).contactCandidates T).1.nominatedPair := by
  obtain ⟨x, hx⟩ := contact_cc a T hg.open_ hg.alive (hg.timely.ckOK hT)
  refine ⟨x, ?_⟩
  show (a.runTimers T (99998 + 2)).2 = _ ∧ (a.runTimers T (99998 + 2)).1.pending = _ ∧ (a.runTimers T (99998 + 2)).1.nominatedPair = _
  rw [runTimers_single a T 99998 hg.started hg.open_ htk, hx]
  exact ⟨rfl, rfl, rfl⟩

theorem tick_ping (hg : Good0 T0 H a) (hT : T ≤ H) (hc : a.controlling = true)
    (hs : a.selected = none) (hns : ∀ p ∈ a.checklist, p.state ≠ .succeeded)
    {p0 : Pair} (hp0 : p0 ∈ a.checklist) (hst : p0.state = .waiting ∨ p0.state = .inProgress)
    (hb : p0.reqCount ≤ a.cfg.maxBindingRequests) {l r : Cand} (hl : a.localOf p0.l = some l) (hr : a.remoteOf p0.r = some r) :
    ∃ m, Out.dgram l.addr r.addr m ∈ (a.contact T).2 ∧ IsReq a false m ∧
      (a.contact T).1.pending.find? (·.tid == m.tid) = some (pendOf m.tid l.addr r.addr r.net false T) := by
  obtain ⟨x, hx⟩ := contact_cc a T hg.open_ hg.alive (hg.timely.ckOK hT)
  rw [hx]
  show ∃ m, Out.dgram l.addr r.addr m ∈ ((withCS a x).contactCandidates T).2 ∧ IsReq a false m ∧
    ((withCS a x).contactCandidates T).1.pending.find? (·.tid == m.tid) = some (pendOf m.tid l.addr r.addr r.net false T)
  have hnom : a.nominatedPair = none := by
    cases hn : a.nominatedPair with
    | none => rfl
    | some id =>
      obtain ⟨p, hp, _, hps⟩ := hg.linv.nomOK id hn
      exact absurd hps (hns p hp)
  rcases cc_cases (withCS a x) T hc hs with ⟨id, p, h1, _⟩ | ⟨id, h1, _⟩ | ⟨_, h2, _⟩ |
      ⟨p, _, _, _, h2, _⟩
  · rw [show (withCS a x).nominatedPair = a.nominatedPair from rfl, hnom] at h1; cases h1
  · rw [show (withCS a x).nominatedPair = a.nominatedPair from rfl, hnom] at h1; cases h1
  · rw [h2]
    obtain ⟨m, q1, q2, q3⟩ := pingAll_emits (withCS a x) T ⟨hg.linv.ids.le, hg.linv.ids.uniq⟩ hg.linv.pendOK p0 hp0 hst hb l r hl hr
    exact ⟨m, q1, q2.of_withCS, q3⟩
  · have := bestValid_some h2
    exact absurd this.2 (hns p this.1)

theorem tick_nominate (hg : Good0 T0 H a) (hT : T ≤ H) (hc : a.controlling = true)
    (hs : a.selected = none) (hsucc : ∃ p ∈ a.checklist, p.state = .succeeded)
    (htime : a.selStart + Config.maxWait a.cfg ≤ T) :
    ∃ p l r m, p ∈ a.checklist ∧ p.state = .succeeded ∧ a.localOf p.l = some l ∧ a.remoteOf p.r = some r ∧
      Out.dgram l.addr r.addr m ∈ (a.contact T).2 ∧ IsReq a true m ∧
      (a.contact T).1.pending.find? (·.tid == m.tid) = some (pendOf m.tid l.addr r.addr r.net true T) := by
  obtain ⟨x, hx⟩ := contact_cc a T hg.open_ hg.alive (hg.timely.ckOK hT)
  rw [hx]
  show ∃ p l r m, p ∈ a.checklist ∧ p.state = .succeeded ∧ a.localOf p.l = some l ∧ a.remoteOf p.r = some r ∧
    Out.dgram l.addr r.addr m ∈ ((withCS a x).contactCandidates T).2 ∧ IsReq a true m ∧
    ((withCS a x).contactCandidates T).1.pending.find? (·.tid == m.tid) = some (pendOf m.tid l.addr r.addr r.net true T)
  have ends : ∀ p ∈ a.checklist, p.state = .succeeded → ∃ l r, a.localOf p.l = some l ∧ a.remoteOf p.r = some r := by
    intro p hp hps
    obtain ⟨h1, h2⟩ := hg.linv.succEnds p hp hps
    obtain ⟨l, hl⟩ := Option.isSome_iff_exists.mp h1
    obtain ⟨r, hr⟩ := Option.isSome_iff_exists.mp h2
    exact ⟨l, r, hl, hr⟩
  have emit : ∀ (b : Agent) (p : Pair) (l r : Cand), b.localOf p.l = some l → b.remoteOf p.r = some r → PendOK b →
      ∃ m, Out.dgram l.addr r.addr m ∈ (b.nominate T p).2 ∧ IsReq b true m ∧
        (b.nominate T p).1.pending.find? (·.tid == m.tid) = some (pendOf m.tid l.addr r.addr r.net true T) := by
    intro b p l r hl hr hpo
    rw [nominate_eq b T p l r hl hr]
    obtain ⟨m, h1, h2, h3, h4⟩ := sendRequest_emits b T l r true hpo
    exact ⟨m, by rw [h1]; exact List.mem_singleton.mpr rfl, h2, by rw [h3]; exact h4⟩
  have nomable : ∀ cd : Cand, (cd ∈ a.locals ∨ cd ∈ a.remotes) → (withCS a x).nominatable T cd = true := by
    intro cd hcd
    apply nominatable_of_time
    · rcases hcd with h | h
      · exact (hg.locOK.1 cd h).2
      · exact (hg.linv.remOK.1 cd h).2
    · exact htime
  rcases cc_cases (withCS a x) T hc hs with ⟨id, p, h1, h2, h3⟩ | ⟨id, h1, h2, _⟩ | ⟨_, _, h3⟩ |
      ⟨p, l, r, _, h2, hl, hr, _, h3⟩
  · -- the nominated pair
    rw [h3]
    obtain ⟨hpm, hpid⟩ := pairById_listed h2
    obtain ⟨p', hp', hid', hps'⟩ := hg.linv.nomOK id h1
    have : p' = p := mem_unique hg.linv.ids hp' hpm (hid'.trans hpid.symm)
    subst this
    obtain ⟨l, r, hl, hr⟩ := ends p' hpm hps'
    obtain ⟨m, q1, q2, q3⟩ := emit (withCS a x) p' l r hl hr hg.linv.pendOK
    exact ⟨p', l, r, m, hpm, hps', hl, hr, q1, q2.of_withCS, q3⟩
  · exfalso
    obtain ⟨p', hp', hid', _⟩ := hg.linv.nomOK id h1
    have := pairById_of_mem hg.linv.ids hp'
    rw [hid'] at this
    rw [show (withCS a x).pairById id = a.pairById id from rfl, this] at h2
    cases h2
  · exfalso
    obtain ⟨p, hp, hps⟩ := hsucc
    have hb := bestValid_isSome (a := (withCS a x)) hp hps
    obtain ⟨q, hq⟩ := Option.isSome_iff_exists.mp hb
    obtain ⟨hqm, hqs⟩ := bestValid_some hq
    obtain ⟨l, r, hl, hr⟩ := ends q hqm hqs
    have := h3 q l r hq hl hr
    rw [nomable l (Or.inl ((IceProofs.Agent.findCand_listed hl).1)), nomable r (Or.inr ((IceProofs.Agent.findCand_listed hr).1))] at this
    cases this
  · -- the best valid pair becomes the nominated pair
    rw [h3]
    obtain ⟨hpm, hps⟩ := bestValid_some h2
    obtain ⟨m, q1, q2, q3⟩ := emit ({ ((withCS a x).modPair p.id fun p => { p with nominated := true }) with
      nominatedPair := some p.id } : Agent) p l r hl hr hg.linv.pendOK
    exact ⟨p, l, r, m, hpm, hps, hl, hr, q1, ⟨q2.cls, q2.method, q2.user, q2.key, q2.role, q2.nom, q2.uc⟩, q3⟩

theorem agent_tick_ping (hg : Good T0 H a) (hT : T ≤ H) (htk : a.nextTick = some T) (hc : a.controlling = true)
    (hs : a.selected = none) (hns : ∀ p ∈ a.checklist, p.state ≠ .succeeded)
    {p0 : Pair} (hp0 : p0 ∈ a.checklist) (hst : p0.state = .waiting ∨ p0.state = .inProgress)
    (hb : p0.reqCount ≤ a.cfg.maxBindingRequests) {l r : Cand} (hl : a.localOf p0.l = some l) (hr : a.remoteOf p0.r = some r) :
    ∃ m, Out.dgram l.addr r.addr m ∈ (step a (.advance T)).2 ∧ IsReq a false m ∧
      (step a (.advance T)).1.pending.find? (·.tid == m.tid) = some (pendOf m.tid l.addr r.addr r.net false T) := by
  show ∃ m, Out.dgram l.addr r.addr m ∈ (a.runTimers T (99998 + 2)).2 ∧ IsReq a false m ∧
    (a.runTimers T (99998 + 2)).1.pending.find? (·.tid == m.tid) = _
  rw [runTimers_single a T 99998 hg.started hg.open_ htk]
  exact tick_ping hg.good0 hT hc hs hns hp0 hst hb hl hr

theorem agent_tick_nominate (hg : Good T0 H a) (hT : T ≤ H) (htk : a.nextTick = some T) (hc : a.controlling = true)
    (hs : a.selected = none) (hsucc : ∃ p ∈ a.checklist, p.state = .succeeded)
    (htime : a.selStart + Config.maxWait a.cfg ≤ T) :
    ∃ p l r m, p ∈ a.checklist ∧ p.state = .succeeded ∧ a.localOf p.l = some l ∧ a.remoteOf p.r = some r ∧
      Out.dgram l.addr r.addr m ∈ (step a (.advance T)).2 ∧ IsReq a true m ∧
      (step a (.advance T)).1.pending.find? (·.tid == m.tid) = some (pendOf m.tid l.addr r.addr r.net true T) := by
  show ∃ p l r m, p ∈ a.checklist ∧ p.state = .succeeded ∧ a.localOf p.l = some l ∧ a.remoteOf p.r = some r ∧
    Out.dgram l.addr r.addr m ∈ (a.runTimers T (99998 + 2)).2 ∧ IsReq a true m ∧
    (a.runTimers T (99998 + 2)).1.pending.find? (·.tid == m.tid) = _
  rw [runTimers_single a T 99998 hg.started hg.open_ htk]
  exact tick_nominate hg.good0 hT hc hs hsucc htime

end

end IceProofs.C01Live

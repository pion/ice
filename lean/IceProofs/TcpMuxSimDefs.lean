import IceProofs.TcpMuxCause
import IceProofs.TcpMuxDrained
import IceSpec.C15View
import IceProofs.CountP
/-!
# Simulation between the TCP-mux model and the spec monitor of C15: the relation

`Sim s m` relates a state `s` of `IceModel.TcpMux` to the state `m` the monitor `IceSpec.C15.observeT`
is in after it has read the lines the model printed on its way to `s`:

* the monitor's packet-connection records and handles are the model's, forgetting queues (`absPc`, `absH`);
* per client: address, routing target, frames sent, frames read, "client is gone" … (`CRel`, `NRead`, `Flags`);
* joint facts about the order in which connections were routed (`MClient.seq`), needed to show that the
  monitor attributes every packet that is read to the connection it really came from:
  `last`  — an attached connection is the most recently routed one of its packet connection and address,
  `ho`    — in the history of a packet connection, data from one address is ordered by routing order,
  `cc`    — a closed routed connection has delivered everything up to a frame the mux refuses (> 8192
            bytes), unless it was cut off by the closing of its packet connection (then it is the last one),
  and two facts about the model alone (`pl`, `plb`: delivered data fits the read buffer; `endLast`: nothing
  follows an end-of-stream marker in an inbox).

`SimU` is `Hdr`, `Cl`, `Ord` and `Bnd` together (`simU_iff`); `Ord` mentions the monitor only through the numbering
`seqOf m` and `m.stamp`, and `loose_ord` is the one proof that the routing order survives the changes of the state listed
in `Loose`; the only change that is not `Loose` is the routing of a connection (`register_simU`).  `Quiet s s'` describes
the model transformations that need no bookkeeping in the monitor (closing, draining, queue manipulation): a special case
of `Loose` (`quiet_simU`).
-/
namespace IceProofs.TcpMux
open IceModel.TcpMux IceSpec.C15 IceSpec.C15.View

theorem any_range_false {n : Nat} {f : Nat → Bool} (h : ∀ k, k < n → f k = false) : (List.range n).any f = false := by
  rw [List.any_eq_false]
  intro k hk
  rw [List.mem_range] at hk
  simp [h k hk]

theorem any_clients_false {α : Type} {l : List α} {f : Nat → Bool} (h : ∀ k a, l[k]? = some a → f k = false) :
    (List.range l.length).any f = false :=
  any_range_false (fun k hk => h k l[k] (List.getElem?_eq_getElem hk))

theorem mem_indexed {α : Type} {l : List α} {k : Nat} {a : α} : (k, a) ∈ indexed l ↔ l[k]? = some a := by
  unfold indexed
  rw [List.mem_filterMap]
  constructor
  · rintro ⟨j, _, hj⟩
    cases h : l[j]? with
    | none => simp [h] at hj
    | some b =>
      simp only [h, Option.map_some, Option.some.injEq, Prod.mk.injEq] at hj
      obtain ⟨rfl, rfl⟩ := hj
      exact h
  · intro h
    refine ⟨k, ?_, by simp [h]⟩
    rw [List.mem_range]
    apply Nat.lt_of_not_le
    intro hle
    rw [List.getElem?_eq_none_iff.2 hle] at h
    cases h

theorem getElem?_of_lt {α : Type} {l : List α} {k : Nat} (h : k < l.length) : ∃ a, l[k]? = some a :=
  ⟨l[k], List.getElem?_eq_getElem h⟩

theorem map_modify_at {α β : Type} (F : α → β) {l : List α} {p : Nat} {a : α} (g : α → α) (hp : l[p]? = some a)
    (h : F (g a) = F a) : (l.modify p g).map F = l.map F := by
  apply List.ext_getElem?
  intro q
  simp only [List.getElem?_map]
  rw [getElem?_modify_map]
  cases hq : l[q]? with
  | none => rfl
  | some b =>
    simp only [Option.map_some, Option.some.injEq]
    split
    · rename_i e; subst e; rw [hp] at hq; cases hq; exact h
    · rfl

theorem addr_ext {a b : Addr} (h1 : a.ip = b.ip) (h2 : a.port = b.port) : a = b := by
  cases a; cases b; simp only at h1 h2; rw [h1, h2]

def absPc (pc : PConn) : MPc :=
  { ufrag := pc.key.ufrag, v6 := pc.key.v6, lip := pc.key.lip, provisional := pc.provisional,
    expires := pc.alive, refs := pc.refs, isOpen := !pc.closed }

def absH (h : Handle) : MHandle := { pc := h.pc, closed := h.closed }

def mframes (l : List Frame) : List MFrame := l.map (fun f => ⟨f.fid, f.len⟩)

/-- the client sent a frame the mux refuses to read (larger than the read buffer) -/
def big (t : Tcp) : Bool := t.sent.any (fun f => decide (8192 < f.len))

/-- number of data packets from TCP connection `k` that have been read from its packet connection -/
def nreadOf (s : State) (k : Nat) (t : Tcp) : Nat :=
  match t.pc with
  | some p => (match s.pcs[p]? with
    | some pc => (dataIds (fromConn k pc.readLog)).length
    | none => 0)
  | none => 0

/-- routing stamp of client `k` in the monitor -/
def seqOf (m : Mon) (k : Nat) : Nat := match m.clients[k]? with | some c => c.seq | none => 0

/-- everything `k` sent up to the first frame the mux refuses has entered the receive channel -/
def Complete (k : Nat) (t : Tcp) (pc : PConn) : Prop :=
  ∀ f, (sentIds t.sent)[(dataIds (fromConn k pc.hist)).length]? = some f → 8192 < f.2

structure CRel (t : Tcp) (c : MClient) : Prop where
  ip : c.ip = t.peer.ip
  port : c.port = t.peer.port
  lip : c.lip = t.lip
  pend : ∀ d, t.phase = .pending d → c.accepted = true ∧ c.hasFirst = false ∧ c.deadline = d
  first : c.hasFirst = false → ∀ p, t.phase ≠ .attached p
  target : c.target = t.pc
  done : c.done = (t.cEnd || t.stuck)
  gone : c.gone = (t.cEnd || (t.pc.isSome && big t))
  sent : t.pc.isSome = true → c.sent = mframes t.sent
  acc : c.accepted = false → t.phase = .closed

/-- the relation, up to the clients' `closed` flags (taken over from the observation at the end of every
step), their `nread` counters and `returned` -/
structure SimU (s : State) (m : Mon) : Prop where
  active : m.active = true
  t1 : m.t1 = effTimeout s.cfg.t1
  t2 : m.t2 = effTimeout s.cfg.t2
  now : m.now = s.now
  called : m.closeCalled = s.muxClosed
  ctime : s.muxClosed = true → m.closeTime = s.closedAt
  pcs : m.pcs = s.pcs.map absPc
  handles : m.handles = s.handles.map absH
  len : m.clients.length = s.tcps.length
  cl : ∀ (k : Nat) (t : Tcp) (c : MClient), s.tcps[k]? = some t → m.clients[k]? = some c → CRel t c
  stamp : ∀ (k : Nat) (c : MClient), m.clients[k]? = some c → c.target.isSome = true → c.seq < m.stamp
  last : ∀ (k k' : Nat) (t t' : Tcp) (p : Nat), s.tcps[k]? = some t → s.tcps[k']? = some t' →
    t.phase = .attached p → t'.pc = some p → t'.peer = t.peer → k' ≠ k → seqOf m k' < seqOf m k
  ho : ∀ (p : Nat) (pc : PConn) (h1 h2 : List Pkt) (x y : Pkt), s.pcs[p]? = some pc → pc.hist = h1 ++ x :: h2 → y ∈ h2 →
    x.err = none → y.err = none → x.src = y.src → x.conn ≠ y.conn → seqOf m x.conn < seqOf m y.conn
  cc : ∀ (k : Nat) (t : Tcp) (p : Nat) (pc : PConn), s.tcps[k]? = some t → t.pc = some p → t.phase = .closed →
    s.pcs[p]? = some pc →
    Complete k t pc ∨ (pc.closed = true ∧ ∀ (k' : Nat) (t' : Tcp), s.tcps[k']? = some t' → t'.pc = some p →
      t'.peer = t.peer → seqOf m k' ≤ seqOf m k)
  pl : ∀ (p : Nat) (pc : PConn) (pkt : Pkt), s.pcs[p]? = some pc → pkt ∈ pc.hist → pkt.err = none → pkt.len ≤ 8192
  plb : ∀ (k : Nat) (t : Tcp) (bp : Pkt), s.tcps[k]? = some t → t.reader = .blocked bp false → bp.len ≤ 8192
  endLast : ∀ (k : Nat) (t : Tcp) (a b : List Item) (it : Item), s.tcps[k]? = some t → t.inbox = a ++ it :: b →
    isEnd it = true → b = []
  uniq : ∀ (k k' : Nat) (c c' : MClient), m.clients[k]? = some c → m.clients[k']? = some c' →
    c.target.isSome = true → c'.target.isSome = true → c.seq = c'.seq → k = k'

/-- the monitor's read counters are the model's -/
def NRead (s : State) (m : Mon) : Prop :=
  ∀ (k : Nat) (t : Tcp) (c : MClient), s.tcps[k]? = some t → m.clients[k]? = some c → c.nread = nreadOf s k t

/-- the monitor's `closed` flags are those of the connections `tc` -/
def Flags (tc : List Tcp) (m : Mon) : Prop :=
  ∀ (k : Nat) (t : Tcp) (c : MClient), tc[k]? = some t → m.clients[k]? = some c → c.closed = t.isClosed

structure Sim (s : State) (m : Mon) : Prop where
  u : SimU s m
  nread : NRead s m
  flags : Flags s.tcps m
  ret : m.returned = closeReturned s

structure TcpQ (t t' : Tcp) : Prop where
  peer : t'.peer = t.peer
  lip : t'.lip = t.lip
  pc : t'.pc = t.pc
  cEnd : t'.cEnd = t.cEnd
  stuck : t'.stuck = t.stuck
  sent : t'.sent = t.sent
  phase : t'.phase = t.phase ∨ t'.phase = .closed
  inbox : ∃ pre, t.inbox = pre ++ t'.inbox
  blk : ∀ bp, t'.reader = .blocked bp false → t.reader = .blocked bp false ∨ bp.len ≤ 8192

theorem TcpQ.refl (t : Tcp) : TcpQ t t :=
  ⟨rfl, rfl, rfl, rfl, rfl, rfl, Or.inl rfl, ⟨[], rfl⟩, fun _ h => Or.inl h⟩

structure Quiet (s s' : State) : Prop where
  cfg : s'.cfg = s.cfg
  mux : s'.muxClosed = s.muxClosed
  cat : s'.closedAt = s.closedAt
  tlen : s'.tcps.length = s.tcps.length
  tcps : ∀ (k : Nat) (t : Tcp), s.tcps[k]? = some t → ∃ t', s'.tcps[k]? = some t' ∧ TcpQ t t'
  plen : s.pcs.length ≤ s'.pcs.length
  pcs : ∀ (p : Nat) (pc : PConn), s.pcs[p]? = some pc → ∃ pc', s'.pcs[p]? = some pc' ∧
    (pc.closed = true → pc'.closed = true) ∧
    ∃ new, pc'.hist = pc.hist ++ new ∧ ∀ y, y ∈ new → y.err = none →
      y.len ≤ 8192 ∧ ∃ t, s.tcps[y.conn]? = some t ∧ t.phase = .attached p ∧ y.src = t.peer
  fresh : ∀ (p : Nat) (pc' : PConn), s.pcs.length ≤ p → s'.pcs[p]? = some pc' → pc'.hist = []
  done : ∀ (k : Nat) (t t' : Tcp) (p : Nat) (pc' : PConn), s.tcps[k]? = some t → t.phase = .attached p →
    s'.tcps[k]? = some t' → t'.phase = .closed → s'.pcs[p]? = some pc' → Complete k t' pc' ∨ pc'.closed = true

theorem Quiet.tback {s s' : State} (q : Quiet s s') {k : Nat} {t' : Tcp} (h : s'.tcps[k]? = some t') :
    ∃ t, s.tcps[k]? = some t ∧ TcpQ t t' := by
  have hlt : k < s.tcps.length := by rw [← q.tlen]; exact getElem?_lt h
  obtain ⟨t, ht⟩ := getElem?_of_lt hlt
  obtain ⟨t2, ht2, hq⟩ := q.tcps k t ht
  rw [h] at ht2; cases ht2
  exact ⟨t, ht, hq⟩

theorem seqOf_eq {m m' : Mon} (h : ∀ k : Nat, (m'.clients[k]?).map MClient.seq = (m.clients[k]?).map MClient.seq) (k : Nat) :
    seqOf m' k = seqOf m k := by
  unfold seqOf
  have := h k
  cases h1 : m'.clients[k]? <;> cases h2 : m.clients[k]? <;> simp [h1, h2] at this ⊢
  exact this

theorem dataIds_fromConn_length_le (k : Nat) (a b : List Pkt) :
    dataIds (fromConn k (a ++ b)) = dataIds (fromConn k a) ++ dataIds (fromConn k b) := by
  rw [fromConn_append, dataIds_append]

theorem dataIds_fromConn_append_irrel (k : Nat) (a new : List Pkt)
    (h : ∀ y, y ∈ new → y.err = none → y.conn ≠ k) :
    dataIds (fromConn k (a ++ new)) = dataIds (fromConn k a) := by
  rw [fromConn_append, dataIds_append]
  have : dataIds (fromConn k new) = [] := by
    unfold dataIds fromConn
    simp only [List.map_eq_nil_iff, List.filter_eq_nil_iff, List.mem_filter, decide_eq_true_eq]
    intro y ⟨hy, hk⟩ hn
    have he : y.err = none := by cases h' : y.err <;> simp [h'] at hn ⊢
    exact h y hy he hk
  rw [this, List.append_nil]

/-- the monitor re-reads records, handles and clock from the state (they are functions of it) -/
def reread (m : Mon) (s' : State) : Mon :=
  { m with pcs := s'.pcs.map absPc, handles := s'.handles.map absH, now := s'.now }

theorem reread_of {m : Mon} {s' : State} {P : List MPc} {H : List MHandle} (hp : P = s'.pcs.map absPc)
    (hh : H = s'.handles.map absH) (hn : m.now = s'.now) : ({ m with pcs := P, handles := H } : Mon) = reread m s' := by
  subst hp hh; unfold reread; rw [← hn]

/-- the monitor's scalars, records and handles are read off the state -/
structure Hdr (s : State) (m : Mon) : Prop where
  active : m.active = true
  t1 : m.t1 = effTimeout s.cfg.t1
  t2 : m.t2 = effTimeout s.cfg.t2
  now : m.now = s.now
  called : m.closeCalled = s.muxClosed
  ctime : s.muxClosed = true → m.closeTime = s.closedAt
  pcs : m.pcs = s.pcs.map absPc
  handles : m.handles = s.handles.map absH

/-- one client record per connection, related by `CRel` -/
structure Cl (s : State) (cl : List MClient) : Prop where
  len : cl.length = s.tcps.length
  rel : ∀ (k : Nat) (t : Tcp) (c : MClient), s.tcps[k]? = some t → cl[k]? = some c → CRel t c

/-- the routing order `seq` (stamps below `stamp`) fits the state: no monitor in it -/
structure Ord (s : State) (seq : Nat → Nat) (stamp : Nat) : Prop where
  stamp : ∀ (k : Nat) (t : Tcp) (p : Nat), s.tcps[k]? = some t → t.pc = some p → seq k < stamp
  uniq : ∀ (k k' : Nat) (t t' : Tcp) (p p' : Nat), s.tcps[k]? = some t → s.tcps[k']? = some t' → t.pc = some p →
    t'.pc = some p' → seq k = seq k' → k = k'
  last : ∀ (k k' : Nat) (t t' : Tcp) (p : Nat), s.tcps[k]? = some t → s.tcps[k']? = some t' →
    t.phase = .attached p → t'.pc = some p → t'.peer = t.peer → k' ≠ k → seq k' < seq k
  ho : ∀ (p : Nat) (pc : PConn) (h1 h2 : List Pkt) (x y : Pkt), s.pcs[p]? = some pc → pc.hist = h1 ++ x :: h2 → y ∈ h2 →
    x.err = none → y.err = none → x.src = y.src → x.conn ≠ y.conn → seq x.conn < seq y.conn
  cc : ∀ (k : Nat) (t : Tcp) (p : Nat) (pc : PConn), s.tcps[k]? = some t → t.pc = some p → t.phase = .closed →
    s.pcs[p]? = some pc →
    Complete k t pc ∨ (pc.closed = true ∧ ∀ (k' : Nat) (t' : Tcp), s.tcps[k']? = some t' → t'.pc = some p →
      t'.peer = t.peer → seq k' ≤ seq k)

/-- delivered data fits the read buffer; nothing follows an end-of-stream marker -/
structure Bnd (s : State) : Prop where
  pl : ∀ (p : Nat) (pc : PConn) (pkt : Pkt), s.pcs[p]? = some pc → pkt ∈ pc.hist → pkt.err = none → pkt.len ≤ 8192
  plb : ∀ (k : Nat) (t : Tcp) (bp : Pkt), s.tcps[k]? = some t → t.reader = .blocked bp false → bp.len ≤ 8192
  endLast : ∀ (k : Nat) (t : Tcp) (a b : List Item) (it : Item), s.tcps[k]? = some t → t.inbox = a ++ it :: b →
    isEnd it = true → b = []

theorem seqOf_of {m : Mon} {k : Nat} {c : MClient} (h : m.clients[k]? = some c) : seqOf m k = c.seq := by
  unfold seqOf; rw [h]

theorem Cl.client {s : State} {cl : List MClient} (h : Cl s cl) {k : Nat} {t : Tcp} (ht : s.tcps[k]? = some t) :
    ∃ c, cl[k]? = some c ∧ CRel t c := by
  obtain ⟨c, hc⟩ := getElem?_of_lt (show k < cl.length by rw [h.len]; exact getElem?_lt ht)
  exact ⟨c, hc, h.rel k t c ht hc⟩

theorem Cl.tcp {s : State} {cl : List MClient} (h : Cl s cl) {k : Nat} {c : MClient} (hc : cl[k]? = some c) :
    ∃ t, s.tcps[k]? = some t ∧ CRel t c := by
  obtain ⟨t, ht⟩ := getElem?_of_lt (show k < s.tcps.length by rw [← h.len]; exact getElem?_lt hc)
  exact ⟨t, ht, h.rel k t c ht hc⟩

theorem simU_iff {s : State} {m : Mon} :
    SimU s m ↔ Hdr s m ∧ Cl s m.clients ∧ Ord s (seqOf m) m.stamp ∧ Bnd s := by
  constructor
  · intro h
    have cl : Cl s m.clients := ⟨h.len, h.cl⟩
    refine ⟨⟨h.active, h.t1, h.t2, h.now, h.called, h.ctime, h.pcs, h.handles⟩, cl, ⟨?_, ?_, h.last, h.ho, h.cc⟩,
      ⟨h.pl, h.plb, h.endLast⟩⟩
    · intro k t p ht hp
      obtain ⟨c, hc, r⟩ := cl.client ht
      rw [seqOf_of hc]; exact h.stamp k c hc (by rw [r.target, hp]; rfl)
    · intro k k' t t' p p' ht ht' hp hp' e
      obtain ⟨c, hc, r⟩ := cl.client ht
      obtain ⟨c', hc', r'⟩ := cl.client ht'
      rw [seqOf_of hc, seqOf_of hc'] at e
      exact h.uniq k k' c c' hc hc' (by rw [r.target, hp]; rfl) (by rw [r'.target, hp']; rfl) e
  · rintro ⟨hd, cl, o, b⟩
    refine ⟨hd.active, hd.t1, hd.t2, hd.now, hd.called, hd.ctime, hd.pcs, hd.handles, cl.len, cl.rel, ?_, o.last, o.ho, o.cc,
      b.pl, b.plb, b.endLast, ?_⟩
    · intro k c hc hp
      obtain ⟨t, ht, r⟩ := cl.tcp hc
      obtain ⟨p, hp⟩ := Option.isSome_iff_exists.1 hp
      rw [← seqOf_of hc]; exact o.stamp k t p ht (by rw [← r.target]; exact hp)
    · intro k k' c c' hc hc' hp hp' e
      obtain ⟨t, ht, r⟩ := cl.tcp hc
      obtain ⟨t', ht', r'⟩ := cl.tcp hc'
      obtain ⟨p, hp⟩ := Option.isSome_iff_exists.1 hp
      obtain ⟨p', hp'⟩ := Option.isSome_iff_exists.1 hp'
      exact o.uniq k k' t t' p p' ht ht' (by rw [← r.target]; exact hp) (by rw [← r'.target]; exact hp')
        (by rw [seqOf_of hc, seqOf_of hc']; exact e)

theorem client_of {s : State} {m : Mon} (hu : SimU s m) {k : Nat} {t : Tcp} (ht : s.tcps[k]? = some t) :
    ∃ c, m.clients[k]? = some c ∧ CRel t c :=
  (Cl.mk hu.len hu.cl).client ht

theorem tcp_of {s : State} {m : Mon} (hu : SimU s m) {k : Nat} {c : MClient} (hc : m.clients[k]? = some c) :
    ∃ t, s.tcps[k]? = some t ∧ CRel t c :=
  (Cl.mk hu.len hu.cl).tcp hc

structure TcpL (t t' : Tcp) : Prop where
  peer : t'.peer = t.peer
  pc : t'.pc = t.pc
  phase : t'.phase = t.phase ∨ t'.phase = .closed
  sent : t.phase = .closed → t'.sent = t.sent

theorem TcpL.refl (t : Tcp) : TcpL t t := ⟨rfl, rfl, Or.inl rfl, fun _ => rfl⟩

/-- every connection is an old one that has kept address and packet connection and at most got closed, or a new one that
is not routed; packet connections may get closed and receive packets from connections attached to them (as in `Quiet`) -/
structure Loose (s s' : State) : Prop where
  tcps : ∀ (k : Nat) (t' : Tcp), s'.tcps[k]? = some t' →
    (∃ t, s.tcps[k]? = some t ∧ TcpL t t') ∨ (t'.pc = none ∧ ∀ p, t'.phase ≠ .attached p)
  pcs : ∀ (p : Nat) (pc : PConn), s.pcs[p]? = some pc → ∃ pc', s'.pcs[p]? = some pc' ∧
    (pc.closed = true → pc'.closed = true) ∧
    ∃ new, pc'.hist = pc.hist ++ new ∧ ∀ y, y ∈ new → y.err = none →
      ∃ t, s.tcps[y.conn]? = some t ∧ t.phase = .attached p ∧ y.src = t.peer
  fresh : ∀ (p : Nat) (pc' : PConn), s.pcs.length ≤ p → s'.pcs[p]? = some pc' → pc'.hist = []
  done : ∀ (k : Nat) (t t' : Tcp) (p : Nat) (pc' : PConn), s.tcps[k]? = some t → t.phase = .attached p →
    s'.tcps[k]? = some t' → t'.phase = .closed → s'.pcs[p]? = some pc' → Complete k t' pc' ∨ pc'.closed = true

theorem Loose.routed {s s' : State} (L : Loose s s') {k p : Nat} {t' : Tcp} (h : s'.tcps[k]? = some t')
    (hp : t'.pc = some p) : ∃ t, s.tcps[k]? = some t ∧ TcpL t t' ∧ t.pc = some p := by
  rcases L.tcps k t' h with ⟨t, ht, l⟩ | ⟨e, _⟩
  · exact ⟨t, ht, l, by rw [← l.pc]; exact hp⟩
  · rw [hp] at e; cases e

theorem Loose.attached {s s' : State} (L : Loose s s') {k p : Nat} {t' : Tcp} (h : s'.tcps[k]? = some t')
    (hp : t'.phase = .attached p) : ∃ t, s.tcps[k]? = some t ∧ TcpL t t' ∧ t.phase = .attached p := by
  rcases L.tcps k t' h with ⟨t, ht, l⟩ | ⟨_, e⟩
  · refine ⟨t, ht, l, ?_⟩
    rcases l.phase with e | e
    · rw [← e]; exact hp
    · rw [e] at hp; cases hp
  · exact absurd hp (e p)

theorem loose_ord {s s' : State} {seq : Nat → Nat} {st : Nat} (L : Loose s s') (hi : Inv s) (h2 : Inv2 s)
    (o : Ord s seq st) : Ord s' seq st := by
  have att_unique : ∀ (k k' p : Nat) (t t' : Tcp), s.tcps[k]? = some t → s.tcps[k']? = some t' →
      t.phase = .attached p → t'.phase = .attached p → t'.peer = t.peer → k' = k := by
    intro k k' p t t' ht ht' hph hph' hpe
    obtain ⟨_, pc, hp, _, hm⟩ := hi.att ht hph
    obtain ⟨_, pc2, hp2, _, hm2⟩ := hi.att ht' hph'
    rw [hp] at hp2; cases hp2
    rw [hpe] at hm2
    exact nodup_fst_unique (hi.pc p pc hp).2.1 hm2 hm
  constructor
  · intro k t' p ht' hp
    obtain ⟨t, ht, _, e⟩ := L.routed ht' hp
    exact o.stamp k t p ht e
  · intro k k' t1 t1' p p' ht1 ht1' hp hp' e
    obtain ⟨t, ht, _, e1⟩ := L.routed ht1 hp
    obtain ⟨t', ht', _, e1'⟩ := L.routed ht1' hp'
    exact o.uniq k k' t t' p p' ht ht' e1 e1' e
  · intro k k' t1 t1' p ht1 ht1' hph hpc hpe hne
    obtain ⟨t, ht, l, hph0⟩ := L.attached ht1 hph
    obtain ⟨t', ht', l', hpc0⟩ := L.routed ht1' hpc
    exact o.last k k' t t' p ht ht' hph0 hpc0 (by rw [← l'.peer, ← l.peer]; exact hpe) hne
  · -- ho
    intro p pc' h1 h2' x y hp' hh hy hxe hye hsrc hne
    by_cases hlt : p < s.pcs.length
    · obtain ⟨pc, hp⟩ := getElem?_of_lt hlt
      obtain ⟨pc2, hp2, _, new, hnew, hprop⟩ := L.pcs p pc hp
      rw [hp'] at hp2; cases hp2
      rw [hnew] at hh
      have srcOld : ∀ z, z ∈ pc.hist → ∃ tz, s.tcps[z.conn]? = some tz ∧ tz.pc = some p ∧ z.src = tz.peer :=
        (h2.pc p pc hp).src
      have ynew_case : ∀ z, z ∈ pc.hist → z.err = none → z.src = y.src → z.conn ≠ y.conn → y ∈ new →
          seq z.conn < seq y.conn := by
        intro z hz _ hzs hzc hyn
        obtain ⟨ty, hty, hphy, hsy⟩ := hprop y hyn hye
        obtain ⟨tz, htz, hpcz, hsz⟩ := srcOld z hz
        exact o.last y.conn z.conn ty tz p hty htz hphy hpcz (by rw [← hsz, ← hsy]; exact hzs) hzc
      -- two new packets from one address come from one connection
      have both_new : x ∈ new → y ∈ new → False := by
        intro hxn hyn
        obtain ⟨tx, htx, hphx, hsx⟩ := hprop x hxn hxe
        obtain ⟨ty, hty, hphy, hsy⟩ := hprop y hyn hye
        exact hne (att_unique y.conn x.conn p ty tx hty htx hphy hphx (by rw [← hsx, ← hsy]; exact hsrc))
      rcases List.append_eq_append_iff.1 hh with ⟨a', ha1, ha2⟩ | ⟨c', hc1, hc2⟩
      · exact (both_new (by rw [ha2]; simp) (by rw [ha2]; simp [hy])).elim
      · cases c' with
        | nil =>
          simp only [List.nil_append] at hc2
          exact (both_new (by rw [← hc2]; simp) (by rw [← hc2]; simp [hy])).elim
        | cons c0 cs =>
          simp only [List.cons_append, List.cons.injEq] at hc2
          obtain ⟨rfl, hc3⟩ := hc2
          rw [hc3] at hy
          rcases List.mem_append.1 hy with hy1 | hy2
          · exact o.ho p pc h1 cs x y hp hc1 hy1 hxe hye hsrc hne
          · exact ynew_case x (by rw [hc1]; simp) hxe hsrc hne hy2
    · have := L.fresh p pc' (Nat.le_of_not_lt hlt) hp'
      rw [this] at hh
      exact absurd hh (by simp)
  · -- cc
    intro k t1 p pc' ht1 hpc1 hph1 hp'
    obtain ⟨t, ht, tq, hpc0⟩ := L.routed ht1 hpc1
    obtain ⟨pc, hp⟩ := (h2.tcp k t ht).ref p hpc0
    obtain ⟨pc2, hp2, hcl, new, hnew, hprop⟩ := L.pcs p pc hp
    rw [hp'] at hp2; cases hp2
    have lastOf : (∀ (k' : Nat) (t' : Tcp), s.tcps[k']? = some t' → t'.pc = some p → t'.peer = t.peer → seq k' ≤ seq k) →
        ∀ (k' : Nat) (t' : Tcp), s'.tcps[k']? = some t' → t'.pc = some p → t'.peer = t1.peer → seq k' ≤ seq k := by
      intro h k' t1' ht1' hpc1' hpe1
      obtain ⟨t', ht', tq', e'⟩ := L.routed ht1' hpc1'
      exact h k' t' ht' e' (by rw [← tq'.peer, hpe1, tq.peer])
    cases hph0 : t.phase with
    | pending d =>
      have := ((h2.tcp k t ht).fresh d hph0).1
      rw [hpc0] at this; cases this
    | closed =>
      rcases o.cc k t p pc ht hpc0 hph0 hp with hc | ⟨hcl0, hlast⟩
      · left
        intro f hf
        apply hc f
        rw [← tq.sent hph0]
        rw [hnew, dataIds_fromConn_append_irrel] at hf
        · exact hf
        · intro y hy hye hyk
          obtain ⟨ty, hty, hphy, _⟩ := hprop y hy hye
          rw [hyk, ht] at hty; cases hty
          rw [hph0] at hphy; cases hphy
      · exact Or.inr ⟨hcl hcl0, lastOf hlast⟩
    | attached p0 =>
      obtain rfl := hi.att_eq ht hph0 hpc0
      rcases L.done k t t1 p0 pc' ht hph0 ht1 hph1 hp' with hc | hc
      · exact Or.inl hc
      · right
        refine ⟨hc, lastOf ?_⟩
        intro k' t' ht' hpc' hpe'
        by_cases hkk : k' = k
        · subst hkk; exact Nat.le_refl _
        · exact Nat.le_of_lt (o.last k k' t t' p0 ht ht' hph0 hpc' hpe' hkk)

theorem Quiet.loose {s s' : State} (q : Quiet s s') : Loose s s' := by
  refine ⟨?_, ?_, q.fresh, q.done⟩
  · intro k t' ht'
    obtain ⟨t, ht, tq⟩ := q.tback ht'
    exact Or.inl ⟨t, ht, tq.peer, tq.pc, tq.phase, fun _ => tq.sent⟩
  · intro p pc hp
    obtain ⟨pc', hp', hc, new, hn, hy⟩ := q.pcs p pc hp
    exact ⟨pc', hp', hc, new, hn, fun y h e => (hy y h e).2⟩

theorem Quiet.bnd {s s' : State} (q : Quiet s s') (b : Bnd s) : Bnd s' := by
  refine ⟨?_, ?_, ?_⟩
  · intro p pc' pkt hp' hmem herr
    by_cases hlt : p < s.pcs.length
    · obtain ⟨pc, hp⟩ := getElem?_of_lt hlt
      obtain ⟨pc2, hp2, _, new, hnew, hprop⟩ := q.pcs p pc hp
      rw [hp'] at hp2; cases hp2
      rw [hnew] at hmem
      rcases List.mem_append.1 hmem with h | h
      · exact b.pl p pc pkt hp h herr
      · exact (hprop pkt h herr).1
    · have := q.fresh p pc' (Nat.le_of_not_lt hlt) hp'
      rw [this] at hmem; cases hmem
  · intro k t' bp ht' hrd
    obtain ⟨t, ht, tq⟩ := q.tback ht'
    rcases tq.blk bp hrd with h | h
    · exact b.plb k t bp ht h
    · exact h
  · intro k t' a b' it ht' hin he
    obtain ⟨t, ht, tq⟩ := q.tback ht'
    obtain ⟨pre, hpre⟩ := tq.inbox
    rw [hin] at hpre
    exact b.endLast k t (pre ++ a) b' it ht (by rw [hpre]; simp) he

theorem Ord.congr {s : State} {seq seq' : Nat → Nat} {st : Nat} (h2 : Inv2 s) (o : Ord s seq st)
    (h : ∀ k, k < s.tcps.length → seq' k = seq k) : Ord s seq' st := by
  have e : ∀ {k : Nat} {t : Tcp}, s.tcps[k]? = some t → seq' k = seq k := fun ht => h _ (getElem?_lt ht)
  refine ⟨?_, ?_, ?_, ?_, ?_⟩
  · intro k t p ht hp; rw [e ht]; exact o.stamp k t p ht hp
  · intro k k' t t' p p' ht ht' hp hp' hs; rw [e ht, e ht'] at hs; exact o.uniq k k' t t' p p' ht ht' hp hp' hs
  · intro k k' t t' p ht ht' a b c d; rw [e ht, e ht']; exact o.last k k' t t' p ht ht' a b c d
  · intro p pc h1 h2' x y hp hh hy a b c d
    obtain ⟨tx, htx, _⟩ := (h2.pc p pc hp).src x (by rw [hh]; simp)
    obtain ⟨ty, hty, _⟩ := (h2.pc p pc hp).src y (by rw [hh]; simp [hy])
    rw [e htx, e hty]; exact o.ho p pc h1 h2' x y hp hh hy a b c d
  · intro k t p pc ht a b c
    rcases o.cc k t p pc ht a b c with h | ⟨h1, h2'⟩
    · exact Or.inl h
    · exact Or.inr ⟨h1, fun k' t' ht' a' b' => by rw [e ht, e ht']; exact h2' k' t' ht' a' b'⟩

theorem CRel.quiet {t t' : Tcp} {c : MClient} (r : CRel t c) (tq : TcpQ t t') : CRel t' c := by
  constructor
  · rw [tq.peer]; exact r.ip
  · rw [tq.peer]; exact r.port
  · rw [tq.lip]; exact r.lip
  · intro d hd
    rcases tq.phase with e | e
    · rw [e] at hd; exact r.pend d hd
    · rw [e] at hd; cases hd
  · intro hf p hp
    rcases tq.phase with e | e
    · rw [e] at hp; exact r.first hf p hp
    · rw [e] at hp; cases hp
  · rw [tq.pc]; exact r.target
  · rw [tq.cEnd, tq.stuck]; exact r.done
  · unfold big; rw [tq.cEnd, tq.pc, tq.sent]; exact r.gone
  · rw [tq.pc, tq.sent]; exact r.sent
  · intro ha
    rcases tq.phase with e | e
    · rw [e]; exact r.acc ha
    · exact e

theorem quiet_simU {s s' : State} {m : Mon} (q : Quiet s s') (hi : Inv s) (h2 : Inv2 s) (hs : SimU s m) :
    SimU s' (reread m s') := by
  obtain ⟨hd, cl, o, b⟩ := simU_iff.1 hs
  refine simU_iff.2 ⟨⟨hd.active, ?_, ?_, rfl, ?_, ?_, rfl, rfl⟩, ⟨?_, ?_⟩, loose_ord q.loose hi h2 o, q.bnd b⟩
  · show m.t1 = _; rw [q.cfg]; exact hd.t1
  · show m.t2 = _; rw [q.cfg]; exact hd.t2
  · show m.closeCalled = _; rw [q.mux]; exact hd.called
  · intro h; show m.closeTime = _; rw [q.cat]; rw [q.mux] at h; exact hd.ctime h
  · show m.clients.length = _; rw [q.tlen]; exact cl.len
  · intro k t' c ht' hc
    obtain ⟨t, ht, tq⟩ := q.tback ht'
    exact (cl.rel k t c ht hc).quiet tq

end IceProofs.TcpMux

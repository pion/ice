import IceProofs.AgentC04Tick
/-!
# C04 — one `step`: invariant, shape of the notifications it emits, release on Failed
-/
namespace IceProofs.AgentC04
open IceModel.AgentCore

def isStart : Ev → Bool | .start _ _ _ _ => true | _ => false
def isRestart : Ev → Bool | .restart _ _ _ => true | _ => false
def isClose : Ev → Bool | .close => true | _ => false
def isInbound : Ev → Bool | .inbound _ _ _ _ => true | _ => false
def isAddRemote : Ev → Bool | .addRemote _ _ => true | _ => false
def isAddLocal : Ev → Bool | .addLocal _ _ => true | _ => false

/-- edges that the non-timer part of a step can take (`a` = the agent before the step) -/
def headEdge (a : Agent) (e : Ev) : ConnState → ConnState → Bool
  | .new, .checking => isStart e
  | .checking, .connected => isInbound e
  | .disconnected, .connected => isInbound e || isAddRemote e
  | .failed, .connected => isInbound e && !a.locals.isEmpty
  | .connected, .checking => isRestart e
  | .disconnected, .checking => isRestart e
  | .failed, .checking => isRestart e
  | .closed, .closed => false
  | _, .closed => isClose e
  | _, _ => false

/-- invariant of every reachable agent -/
structure Inv (a : Agent) : Prop where
  good : a.closed = false → Good a
  closed : a.closed = true → a.connState = .closed
  ctimeout : a.started = true → a.checkingTimeout = a.initialCheckingTimeout

/-- the notifications of one step: at most one non-timer edge, then a path of timer edges -/
def Shape (a : Agent) (e : Ev) (l : List ConnState) : Prop :=
  ∃ hd tl, l = hd ++ tl ∧ (hd = [] ∨ ∃ x, hd = [x] ∧ headEdge a e a.connState x = true) ∧
    pathFrom (tickEdge a.cfg) (endState a.connState hd) tl = true

structure StepOK (a : Agent) (e : Ev) (r : Agent × List Out) : Prop where
  cfg : r.1.cfg = a.cfg
  inv : Inv r.1
  shape : Shape a e (states r.2)
  last : endState a.connState (states r.2) = r.1.connState
  released : ConnState.failed ∈ states r.2 → Wiped r.1 ∧ r.1.connState = .failed
  locals_nil : isAddLocal e = false → a.locals = [] → r.1.locals = []
  closedMono : a.closed = true → r.1.closed = true
  nofail : a.cfg.failedTimeout = 0 → ConnState.failed ∉ states r.2

theorem ict_zero (a : Agent) (h : a.cfg.failedTimeout = 0) : a.initialCheckingTimeout = 0 := by
  unfold Agent.initialCheckingTimeout; simp [h]

theorem ict_cfg {a a' : Agent} (h : a'.cfg = a.cfg) : a'.initialCheckingTimeout = a.initialCheckingTimeout := by
  unfold Agent.initialCheckingTimeout; rw [h]

theorem Inv.of_frame {a a' : Agent} (hi : Inv a) (f : Frame a a') (hg : a'.closed = false → Good a')
    (hc : a'.connState = a.connState ∨ a'.closed = false) : Inv a' := by
  refine ⟨hg, ?_, ?_⟩
  · intro h
    rcases hc with hc | hc
    · rw [hc]; exact hi.closed (f.closed ▸ h)
    · rw [hc] at h; cases h
  · intro h
    rw [f.ctimeout, ict_cfg f.cfg]
    exact hi.ctimeout (f.started ▸ h)

theorem StepOK.of_quiet {a : Agent} {e : Ev} {r : Agent × List Out} (hi : Inv a) (q : QuietO a r) : StepOK a e r := by
  refine ⟨q.1.frame.cfg, ?_, ⟨[], [], by rw [q.2]; rfl, Or.inl rfl, rfl⟩, by rw [q.2]; exact q.1.connState.symm,
    by rw [q.2]; simp, fun _ h => q.1.frame.locals_nil h, fun h => q.1.frame.closed ▸ h, by rw [q.2]; simp⟩
  exact hi.of_frame q.1.frame (fun h => (hi.good (q.1.frame.closed ▸ h)).of_quiet q.1) (Or.inl q.1.connState)

theorem StepOK.of_head_tick {a : Agent} {e : Ev} {x y : Agent × List Out} (hc : a.closed = false)
    (hcfg : x.1.cfg = a.cfg) (hcl : x.1.closed = false)
    (hct : x.1.started = true → x.1.checkingTimeout = a.initialCheckingTimeout)
    (hloc : isAddLocal e = false → a.locals = [] → x.1.locals = [])
    (hout : (states x.2 = [] ∧ x.1.connState = a.connState) ∨
      ∃ s, states x.2 = [s] ∧ s ≠ .failed ∧ headEdge a e a.connState s = true ∧ x.1.connState = s)
    (h2 : TickEff x.1 y) : StepOK a e (y.1, x.2 ++ y.2) := by
  have hnf : ConnState.failed ∉ states x.2 := by
    rcases hout with ⟨h, _⟩ | ⟨s, h, hs, _⟩ <;> rw [h]
    · exact List.not_mem_nil
    · exact fun hm => hs (List.mem_singleton.mp hm).symm
  have hend : endState a.connState (states x.2) = x.1.connState := by
    rcases hout with ⟨h, c⟩ | ⟨s, h, _, _, c⟩ <;> rw [h, c] <;> rfl
  refine ⟨h2.frame.cfg.trans hcfg, ⟨fun _ => h2.good, fun h => ?_, fun h => ?_⟩,
    ⟨states x.2, states y.2, states_append _ _, ?_, ?_⟩, ?_, ?_, fun hl h => h2.frame.locals_nil (hloc hl h),
    fun h => (by rw [hc] at h; cases h), fun hf => ?_⟩
  · rw [h2.frame.closed, hcl] at h; cases h
  · rw [h2.frame.ctimeout, ict_cfg (h2.frame.cfg.trans hcfg)]; exact hct (h2.frame.started ▸ h)
  · rcases hout with ⟨h, _⟩ | ⟨s, h, _, hk, _⟩
    · exact Or.inl h
    · exact Or.inr ⟨s, h, hk⟩
  · rw [hend, ← hcfg]; exact h2.path
  · rw [states_append, endState_append, hend]; exact h2.last
  · rw [states_append, List.mem_append]
    exact fun hm => h2.released (hm.resolve_left hnf)
  · rw [states_append, List.mem_append]
    rintro (hm | hm)
    · exact hnf hm
    · exact h2.nofail (hcfg ▸ hf) (fun hs => by rw [hct hs]; exact ict_zero a hf) hm

theorem StepOK.of_tick {a : Agent} {e : Ev} {r : Agent × List Out} (hi : Inv a) (hc : a.closed = false)
    (h : TickEff a r) : StepOK a e r :=
  StepOK.of_head_tick (x := (a, [])) hc rfl hc hi.ctimeout (fun _ h => h) (Or.inl ⟨rfl, rfl⟩) h

theorem StepOK.of_sel_tick {ok : ConnState → Bool} {a : Agent} {e : Ev} {x y : Agent × List Out} (hi : Inv a)
    (hc : a.closed = false) (h1 : SelEff ok a x) (hhead : ok a.connState = true → headEdge a e a.connState .connected = true)
    (h2 : TickEff x.1 y) : StepOK a e (y.1, x.2 ++ y.2) :=
  StepOK.of_head_tick hc h1.frame.cfg (h1.frame.closed.trans hc)
    (fun hs => by rw [h1.frame.ctimeout]; exact hi.ctimeout (h1.frame.started ▸ hs)) (fun _ => h1.frame.locals_nil)
    (h1.out.imp id fun ⟨h, _, hk, c⟩ => ⟨.connected, h, by decide, hhead hk, c⟩) h2

theorem runForced_closed (a : Agent) (now : Nat) (h : a.closed = true) : a.runForced now = (a, []) := by
  unfold Agent.runForced; simp [h]

theorem runTimers_closed (a : Agent) (now fuel : Nat) (h : a.closed = true) : a.runTimers now fuel = (a, []) := by
  cases fuel with
  | zero => rfl
  | succ n =>
    unfold Agent.runTimers
    split
    · simp [h]
    · rfl

theorem step_closed (a : Agent) (e : Ev) (h : a.closed = true) : QuietO a (step a e) := by
  cases e with
  | addLocal now c =>
    have e1 : a.addLocalCandidate c = (a, [.res "err:closed"]) := by unfold Agent.addLocalCandidate; simp [h]
    simp only [step, e1, runForced_closed a now h]
    exact ⟨Quiet.refl a, rfl⟩
  | addRemote now c => simp only [step, h, if_true]; exact ⟨Quiet.refl a, rfl⟩
  | start now ctl ru rp => simp only [step, h, if_true]; exact ⟨Quiet.refl a, rfl⟩
  | setRemoteCreds ru rp =>
    simp only [step, h, if_true]
    repeat' split
    all_goals exact ⟨Quiet.refl a, rfl⟩
  | advance now => simp only [step, runTimers_closed a now _ h]; exact QuietO.refl a
  | inbound now la src m => simp only [step, h, Bool.true_or, if_true]; exact QuietO.refl a
  | inboundData => exact step_quiet a _ rfl
  | write | writeToPair | read => exact step_quiet a _ rfl
  | renominate => exact step_quiet a _ rfl
  | restart now u p => simp only [step, h, if_true]; exact ⟨Quiet.refl a, rfl⟩
  | close => simp only [step, h, if_true]; exact ⟨Quiet.refl a, rfl⟩

theorem step_addLocal (a : Agent) (now : Nat) (c : Cand) (hi : Inv a) (hc : a.closed = false) :
    StepOK a (.addLocal now c) (step a (.addLocal now c)) := by
  rw [Agent.step_addLocal]
  obtain ⟨hs, ho⟩ := addLocalCandidate_same a c
  exact StepOK.of_head_tick hc hs.cfg (hs.closed.trans hc) (fun h => by rw [hs.ctimeout]; exact hi.ctimeout (hs.started ▸ h))
    (fun h => by cases h) (Or.inl ⟨ho, hs.connState⟩) (runForced_eff _ now ((hi.good hc).of_same hs))

theorem step_addRemote (a : Agent) (now : Nat) (c : Cand) (hi : Inv a) (hc : a.closed = false) :
    StepOK a (.addRemote now c) (step a (.addRemote now c)) := by
  refine Agent.step_addRemote_rule (Q := StepOK a (.addRemote now c)) a now c
    (fun _ => StepOK.of_quiet hi ⟨Quiet.refl a, rfl⟩) (StepOK.of_quiet hi (QuietO.refl a)) fun _ _ => ?_
  have h1 := addRemoteCandidate_eff a c (hi.good hc)
  exact StepOK.of_sel_tick (x := ((a.addRemoteCandidate c).1, (a.addRemoteCandidate c).2.1)) hi hc h1
    (fun hk => by unfold okResel at hk; simp at hk; rw [hk]; rfl) (runForced_eff _ now h1.good)

theorem step_advance (a : Agent) (now : Nat) (hi : Inv a) (hc : a.closed = false) :
    StepOK a (.advance now) (step a (.advance now)) :=
  StepOK.of_tick hi hc (runTimers_eff a now _ (hi.good hc))

theorem localByAddr_some {a : Agent} {la : Nat} {l : Cand} (h : a.localByAddr la = some l) : a.locals.isEmpty = false := by
  unfold Agent.localByAddr at h
  cases hl : a.locals with
  | nil => rw [hl] at h; simp at h
  | cons _ _ => rfl

theorem step_inbound (a : Agent) (now la src : Nat) (m : Msg) (hi : Inv a) (hc : a.closed = false) :
    StepOK a (.inbound now la src m) (step a (.inbound now la src m)) := by
  refine Agent.step_inbound_rule (Q := StepOK a (.inbound now la src m)) a now la src m
    (StepOK.of_quiet hi (QuietO.refl a)) fun _ hs l hl => ?_
  have h1 := handleInbound_eff a now l src m (hi.good hc) hs
  refine StepOK.of_sel_tick hi hc h1 (fun hk => ?_) (runForced_eff _ now h1.good)
  have hne := localByAddr_some hl
  unfold okInb at hk
  cases hcs : a.connState <;> rw [hcs] at hk <;> simp at hk <;> simp [headEdge, isInbound, hne]

theorem step_start (a : Agent) (now : Nat) (ctl : Bool) (ru rp : String) (hi : Inv a) (hc : a.closed = false) :
    StepOK a (.start now ctl ru rp) (step a (.start now ctl ru rp)) := by
  have g := hi.good hc
  refine Agent.step_start_rule (Q := StepOK a (.start now ctl ru rp)) a now ctl ru rp
    (fun _ => StepOK.of_quiet hi ⟨Quiet.refl a, rfl⟩) fun _ hs => ?_
  have hnew : a.connState = .new := g.newIff.mpr hs
  have hsel : a.selected.isSome = false := by
    cases h : a.selected.isSome with
    | false => rfl
    | true => have := g.sel.mp h; rw [hnew] at this; simp at this
  unfold Agent.startCore
  rw [setConnState_ne _ .checking (by show a.connState ≠ _; rw [hnew]; decide) (by decide)]
  refine StepOK.of_head_tick (x := (_, _)) hc rfl hc (fun _ => rfl) (fun _ h => h)
    (Or.inr ⟨.checking, rfl, by decide, by rw [hnew]; rfl, rfl⟩) (runForced_eff _ now ⟨hc, ?_, ?_, ?_⟩)
  · show ConnState.checking ≠ .closed ∧ ConnState.checking ≠ .unknown ∧ ConnState.checking ≠ .completed
    decide
  · show ConnState.checking = .new ↔ true = false
    decide
  · show a.selected.isSome = true ↔ ConnState.checking = .connected ∨ ConnState.checking = .disconnected
    rw [hsel]; decide

theorem step_setRemoteCreds_quiet (a : Agent) (ru rp : String) : QuietO a (step a (.setRemoteCreds ru rp)) :=
  Agent.step_setRemoteCreds_rule (Q := QuietO a) a ru rp (fun _ => ⟨Quiet.refl a, rfl⟩) fun _ => ⟨.of_fields rfl, rfl⟩

/-- the agent `Restart` hands to `setConnState` -/
def restartPre (a : Agent) (now : Nat) (ufrag pwd : String) : Agent :=
  let a1 : Agent := { a with localUfrag := ufrag, localPwd := pwd, remoteUfrag := "", remotePwd := "" }
  let a2 := (a1.wipe).resetSelector now
  { a2 with generation := a2.generation + 1 }

theorem doRestart_eq (a : Agent) (now : Nat) (u p : String) :
    a.doRestart now u p =
      (if (restartPre a now u p).connState != .new then (restartPre a now u p).setConnState .checking
       else (restartPre a now u p, [])) := rfl

theorem step_restart (a : Agent) (now : Nat) (u p : String) (hi : Inv a) (hc : a.closed = false) :
    StepOK a (.restart now u p) (step a (.restart now u p)) := by
  have g := hi.good hc
  refine Agent.step_restart_rule (Q := StepOK a (.restart now u p)) a now u p
    (fun _ => StepOK.of_quiet hi ⟨Quiet.refl a, rfl⟩) fun _ => ?_
  rw [doRestart_eq]
  have hcs : (restartPre a now u p).connState = a.connState := rfl
  have fr : Frame a (restartPre a now u p) := ⟨rfl, rfl, rfl, rfl, fun _ => rfl⟩
  have hsel : (restartPre a now u p).selected = none := rfl
  have hloc : (restartPre a now u p).locals = [] := rfl
  generalize restartPre a now u p = P at hcs fr hsel hloc ⊢
  -- the restarted agent in a connection state `s` that goes with "nothing selected", `o` notified, `[.res "ok"]` the rest
  have fin : ∀ (o : List Out) (s : ConnState), (s = .new ↔ a.started = false) → (s = .new ∨ s = .checking) →
      ((states o = [] ∧ s = a.connState) ∨ (states o = [s] ∧ headEdge a (.restart now u p) a.connState s = true)) →
      StepOK a (.restart now u p) ({ P with connState := s }, o ++ [.res "ok"]) := by
    intro o s hn hs ho
    have gx : Good { P with connState := s } := by
      refine ⟨fr.closed.trans hc, ?_, fr.started ▸ hn, ?_⟩
      · show s ≠ .closed ∧ s ≠ .unknown ∧ s ≠ .completed
        rcases hs with rfl | rfl <;> decide
      · show P.selected.isSome = true ↔ s = .connected ∨ s = .disconnected
        rw [hsel]
        rcases hs with rfl | rfl <;> decide
    refine StepOK.of_head_tick (x := ({ P with connState := s }, o)) (y := (_, [.res "ok"])) hc fr.cfg (fr.closed.trans hc)
      (fun h => fr.ctimeout.trans (hi.ctimeout (fr.started ▸ h))) (fun _ _ => hloc) ?_ (TickEff.of_quiet gx ⟨Quiet.refl _, rfl⟩)
    rcases ho with ⟨h, e⟩ | ⟨h, e⟩
    · exact Or.inl ⟨h, e⟩
    · exact Or.inr ⟨s, h, by rcases hs with rfl | rfl <;> decide, e, rfl⟩
  by_cases hnew : a.connState = .new
  · rw [if_neg (by rw [hcs, hnew]; simp)]
    exact fin [] P.connState (hcs ▸ g.newIff) (Or.inl (hcs.trans hnew)) (Or.inl ⟨rfl, hcs⟩)
  rw [if_pos (by rw [hcs]; simp [hnew])]
  by_cases hck : a.connState = .checking
  · rw [Agent.setConnState_same_eq _ _ (hcs.trans hck)]
    exact fin [] P.connState (hcs ▸ g.newIff) (Or.inr (hcs.trans hck)) (Or.inl ⟨rfl, hcs⟩)
  rw [setConnState_ne _ _ (by rw [hcs]; exact hck) (by decide)]
  refine fin _ .checking ⟨fun h => (by cases h), fun h => absurd (g.newIff.mpr h) hnew⟩ (Or.inr rfl) (Or.inr ⟨rfl, ?_⟩)
  cases hcs' : a.connState
  all_goals first
    | rfl
    | exact absurd hcs' hnew
    | exact absurd hcs' hck
    | exact absurd hcs' g.live.1
    | exact absurd hcs' g.live.2.1
    | exact absurd hcs' g.live.2.2

theorem step_close (a : Agent) (hi : Inv a) (hc : a.closed = false) : StepOK a .close (step a .close) := by
  have g := hi.good hc
  refine Agent.step_close_rule (Q := StepOK a .close) a (fun _ => StepOK.of_quiet hi ⟨Quiet.refl a, rfl⟩) fun _ => ?_
  rw [setConnState_ne ({ a with locals := [], remotes := [], caches := [], closed := true } : Agent) .closed g.live.1 (by decide)]
  have hedge : headEdge a .close a.connState .closed = true := by
    cases hcs' : a.connState
    all_goals first
      | rfl
      | exact absurd hcs' g.live.1
  have hnf : ConnState.failed ∉ [ConnState.closed] := by decide
  exact ⟨rfl, ⟨fun h => (by cases h), fun _ => rfl, hi.ctimeout⟩, ⟨[.closed], [], rfl, Or.inr ⟨_, rfl, hedge⟩, rfl⟩, rfl,
    fun hm => absurd hm hnf, fun _ _ => rfl, fun _ => rfl, fun _ => hnf⟩

theorem step_ok (a : Agent) (e : Ev) (hi : Inv a) : StepOK a e (step a e) := by
  cases hc : a.closed with
  | true => exact StepOK.of_quiet hi (step_closed a e hc)
  | false =>
    cases e with
    | addLocal now c => exact step_addLocal a now c hi hc
    | addRemote now c => exact step_addRemote a now c hi hc
    | start now ctl ru rp => exact step_start a now ctl ru rp hi hc
    | setRemoteCreds ru rp => exact StepOK.of_quiet hi (step_setRemoteCreds_quiet a ru rp)
    | advance now => exact step_advance a now hi hc
    | inbound now la src m => exact step_inbound a now la src m hi hc
    | inboundData | write | writeToPair | read => exact StepOK.of_quiet hi (step_quiet a _ rfl)
    | renominate => exact StepOK.of_quiet hi (step_quiet a _ rfl)
    | restart now u p => exact step_restart a now u p hi hc
    | close => exact step_close a hi hc

end IceProofs.AgentC04

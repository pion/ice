import IceProofs.TaskLoopInv
import IceProofs.Exec
/-!
# Every transition of the task-loop model keeps `Inv`

What a transition does to the record of the call it belongs to is a fact about `SubOK` alone (`SubOK.cancel` …
`SubOK.closePriv`); `inv_step` puts each into the shape lemma of its kind (`inv_sub_only`, `inv_retSub`, `inv_work`,
`inv_closer_action`); the four transitions of the loop's way out (`loopDone`, `onClose`, `onCloseEnd`, `closeTLD`) touch no
record and are checked in place.  Then executions and reachable states.
-/
namespace IceProofs.TaskLoop
open IceModel.TaskLoop

/-- Split a submitter record and the loop's view into all their cases and simplify. -/
macro "sub_cases " u:ident v:ident : tactic => `(tactic| (
  rcases $u:ident with ⟨pc, cd, pd, off, tk, st, fi, rt⟩
  cases $v:ident <;> rcases pc with _ | _ | _ | _ | ⟨_ | _ | _⟩ <;> simp_all [SubOK]))

/-- Destructure a submitter record, all pcs, and simplify (the view is concrete). -/
macro "sub_cases1 " u:ident : tactic => `(tactic| (
  rcases $u:ident with ⟨pc, cd, pd, off, tk, st, fi, rt⟩
  rcases pc with _ | _ | _ | _ | ⟨_ | _ | _⟩ <;> simp_all [SubOK]))

namespace SubOK

theorem cancel {v : View} {u : Sub} (h : SubOK v u) : SubOK v { u with ctxDone := true } := by
  sub_cases u v

theorem call {v : View} {u : Sub} (h : SubOK v u) (hpc : u.pc = .idle) : SubOK v { u with pc := .check } := by
  obtain ⟨pc, cd, pd, off, tk, st, fi, rt⟩ := u
  cases hpc; cases v <;> simp_all [SubOK]

theorem pass {v : View} {u : Sub} (h : SubOK v u) (hpc : u.pc = .check) :
    SubOK v { u with pc := .select, offered := true } := by
  obtain ⟨pc, cd, pd, off, tk, st, fi, rt⟩ := u
  cases hpc; cases v <;> simp_all [SubOK]

/-- the four exits of `Run`: `ErrClosed` or the context's error before the hand-off, nil once the task's private
channel is closed. -/
theorem ret {v : View} {u : Sub} {r : RunRes} (h : SubOK v u)
    (hr : (u.pc = .check ∨ u.pc = .select) ∧ (r = .closed ∨ r = .ctx ∧ u.ctxDone = true)
      ∨ u.pc = .handedOff ∧ u.privDone = true ∧ r = .nil) :
    SubOK v { u with pc := .ret r, returned := some r } := by
  obtain ⟨pc, cd, pd, off, tk, st, fi, rt⟩ := u
  rcases hr with ⟨hpc | hpc, rfl | ⟨rfl, hc⟩⟩ | ⟨hpc, hp, rfl⟩ <;> cases hpc <;> cases v <;> simp_all [SubOK]

theorem handoff {u : Sub} (h : SubOK .other u) (hpc : u.pc = .select) :
    SubOK .got { u with pc := .handedOff, taken := u.taken + 1 } := by
  sub_cases1 u

theorem start {u : Sub} (h : SubOK .got u) : SubOK .running { u with started := u.started + 1 } := by
  sub_cases1 u

theorem finish {u : Sub} (h : SubOK .running u) : SubOK .closing { u with finished := u.finished + 1 } := by
  sub_cases1 u

theorem closePriv {u : Sub} (h : SubOK .closing u) : SubOK .other { u with privDone := true } := by
  sub_cases1 u

end SubOK

theorem inv_retSub {s : State} (h : Inv s) (i : Nat) (r : RunRes)
    (hi : SubOK (view s.loop i) { s.subs i with pc := .ret r, returned := some r }) : Inv (retSub s i r) := by
  unfold retSub
  apply inv_sub_action h i _ (resume s.loop i)
  · intro x _; simp
  · simpa using hi
  · simp
  · simp
  · simp
  · simp

theorem work_facts {i : Nat} {lp : LoopPc} (h : lp ∈ [.select, .got i, .running i, .closePriv i]) :
    (∀ x, x ≠ i → view lp x = .other) ∧ left lp = false ∧ onclosed lp = false ∧ oncloseEnded lp = false ∧ lp ≠ .exited := by
  simp only [List.mem_cons, List.not_mem_nil, or_false] at h
  rcases h with rfl | rfl | rfl | rfl <;> simp +contextual [view, left, onclosed, oncloseEnded]

theorem inv_work {s : State} (h : Inv s) (i : Nat) (u : Sub) {lp : LoopPc}
    (h0 : s.loop ∈ [.select, .got i, .running i, .closePriv i]) (h1 : lp ∈ [.select, .got i, .running i, .closePriv i])
    (hi : SubOK (view lp i) u) : Inv { s with subs := upd s.subs i u, loop := lp } := by
  obtain ⟨a0, b0, c0, d0, e0⟩ := work_facts h0
  obtain ⟨a1, b1, c1, d1, e1⟩ := work_facts h1
  exact inv_sub_action h i u lp (fun x hx => (a1 x hx).trans (a0 x hx).symm) hi (b1.trans b0.symm) (c1.trans c0.symm)
    (d1.trans d0.symm) (by simp [e0, e1])

theorem inv_step {s s' : State} (h : Inv s) (a : Action) (hs : step s a = some s') : Inv s' := by
  cases a <;> simp only [step] at hs
  case cancel i => cases hs; exact inv_sub_only h i _ (h.subs i).cancel
  all_goals split at hs <;> cases hs <;> rename_i hg
  case call i => exact inv_sub_only h i _ ((h.subs i).call hg)
  case errCheckPass i => exact inv_sub_only h i _ ((h.subs i).pass hg.1)
  case errCheckFail i => exact inv_retSub h i _ ((h.subs i).ret (.inl ⟨.inl hg.1, .inl rfl⟩))
  case selCtx i => exact inv_retSub h i _ ((h.subs i).ret (.inl ⟨.inr hg.1, .inr ⟨rfl, hg.2⟩⟩))
  case selDone i => exact inv_retSub h i _ ((h.subs i).ret (.inl ⟨.inr hg.1, .inl rfl⟩))
  case wake i => exact inv_retSub h i _ ((h.subs i).ret (.inr ⟨hg.1, hg.2, rfl⟩))
  case handoff i =>
    have hi := h.subs i
    rw [hg.2] at hi
    exact inv_work h i _ (by simp [hg.2]) (by simp) (by simpa [view] using SubOK.handoff (by simpa [view] using hi) hg.1)
  case start i =>
    have hi := h.subs i
    rw [hg] at hi
    exact inv_work h i _ (by simp [hg]) (by simp) (by simpa [view] using SubOK.start (by simpa [view] using hi))
  case finish i =>
    have hi := h.subs i
    rw [hg] at hi
    exact inv_work h i _ (by simp [hg]) (by simp) (by simpa [view] using SubOK.finish (by simpa [view] using hi))
  case closePriv i =>
    have hi := h.subs i
    rw [hg.1] at hi
    exact inv_work h i _ (by simp [hg.1]) (by simp) (by simpa [view] using SubOK.closePriv (by simpa [view] using hi))
  case callNested i k =>
    apply inv_sub_action h k _ (.nested i k) (fun x _ => by simp [view, hg.1])
      (by simpa [view, hg.1] using (h.subs k).call hg.2) <;> simp [left, onclosed, oncloseEnded, hg.1]
  case loopDone =>
    obtain ⟨hloop, hdone⟩ := hg
    refine ⟨?_, ?_, ?_⟩
    · intro x; have := h.subs x; rw [hloop] at this; simpa [view] using this
    · intro j; exact closerOK_congr (s := s) j _ rfl rfl rfl rfl rfl (h.closers j)
    · obtain ⟨g1, g2, g3, g3e, g4, g5, g6, g7⟩ := h.glob
      rw [hloop] at g1 g2 g3 g3e
      exact ⟨fun _ => hdone, by simpa using g2, by simpa [onclosed] using g3, by simpa [oncloseEnded] using g3e, g4, g5, g6, g7⟩
  case onClose =>
    refine ⟨?_, ?_, ?_⟩
    · intro x; have := h.subs x; rw [hg] at this; simpa [view] using this
    · intro j; exact closerOK_congr (s := s) j _ rfl rfl rfl rfl rfl (h.closers j)
    · obtain ⟨g1, g2, g3, g3e, g4, g5, g6, g7⟩ := h.glob
      rw [hg] at g1 g2 g3 g3e
      exact ⟨fun _ => g1 rfl, by simpa using g2, by simpa [onclosed] using g3, by simpa [oncloseEnded] using g3e, g4, g5, g6, g7⟩
  case onCloseEnd =>
    refine ⟨?_, ?_, ?_⟩
    · intro x; have := h.subs x; rw [hg] at this; simpa [view] using this
    · intro j; exact closerOK_congr (s := s) j _ rfl rfl rfl rfl rfl (h.closers j)
    · obtain ⟨g1, g2, g3, g3e, g4, g5, g6, g7⟩ := h.glob
      rw [hg] at g1 g2 g3 g3e
      exact ⟨fun _ => g1 rfl, by simpa using g2, by simpa [onclosed] using g3, by simp [oncloseEnded] at g3e ⊢; omega, g4, g5, g6, g7⟩
  case closeTLD =>
    obtain ⟨hloop, htld⟩ := hg
    refine ⟨?_, ?_, ?_⟩
    · intro x; have := h.subs x; rw [hloop] at this; simpa [view] using this
    · intro j
      have := h.closers j
      revert this
      generalize s.closers j = c
      rcases c with ⟨pc, hp⟩
      cases pc <;> simp_all [CloserOK]
    · obtain ⟨g1, g2, g3, g3e, g4, g5, g6, g7⟩ := h.glob
      rw [hloop] at g1 g2 g3 g3e
      refine ⟨fun _ => g1 rfl, by simp, by simpa [onclosed] using g3, by simpa [oncloseEnded] using g3e, g4, g5, ?_, g7⟩
      intro hc; have := g6 hc; simp [htld] at this
  case closeCall j pre =>
    obtain ⟨g1, g2, g3, g3e, g4, g5, g6, g7⟩ := h.glob
    refine inv_closer_action h j _ rfl rfl rfl (fun _ => rfl) rfl id (fun _ _ _ => ⟨rfl, rfl, rfl⟩) rfl
      ⟨g1, g2, g3, g3e, ?_, fun _ => rfl, g6, g7⟩
    -- the closer that holds the `Once` is not the one calling now
    cases ho : s.once with
    | fresh => rw [ho] at g4; simpa only [ho] using g4
    | finished => rw [ho] at g4; simpa only [ho] using g4
    | running j1 =>
      rw [ho] at g4; dsimp only at g4
      have e : j1 ≠ j := fun e => by rw [e, hg] at g4; cases g4
      simpa only [ho, upd_other _ _ e] using g4
  case onceWin j =>
    obtain ⟨hpc, honce⟩ := hg
    have hcj := h.closers j
    simp only [CloserOK, hpc] at hcj
    obtain ⟨g1, g2, g3, g3e, g4, g5, g6, g7⟩ := h.glob
    rw [honce] at g4
    refine inv_closer_action h j _ rfl rfl rfl id rfl (fun e => by rw [honce] at e; cases e)
      (fun j' _ e => by rw [honce] at e; cases e) ⟨rfl, g4.1, g4.2⟩
      ⟨g1, g2, g3, g3e, ?_, fun _ => hcj, fun hc => ?_, g7⟩
    · simp only [setCloserPc, upd_same]; rfl
    · have := (g6 hc).2; rw [honce] at this; cases this
  case onceSkip j =>
    obtain ⟨hpc, honce⟩ := hg
    obtain ⟨g1, g2, g3, g3e, g4, g5, g6, g7⟩ := h.glob
    refine inv_closer_action h j _ rfl rfl rfl id rfl id (fun _ _ _ => ⟨rfl, rfl, rfl⟩) honce
      ⟨g1, g2, g3, g3e, ?_, g5, g6, g7⟩
    rw [honce] at g4
    simpa only [setCloserPc, honce] using g4
  case storeErr j =>
    have hcj := h.closers j
    simp only [CloserOK, hg] at hcj
    obtain ⟨g1, g2, g3, g3e, g4, g5, g6, g7⟩ := h.glob
    refine inv_closer_action h j _ rfl rfl rfl id rfl id (fun j' e ho => absurd (once_running_unique hcj.1 ho) e) hcj
      ⟨g1, g2, g3, g3e, ?_, g5, g6, g7⟩
    simp only [setCloserPc, hcj.1, upd_same]; rfl
  case closeDoneCh j =>
    obtain ⟨hpc, hdone⟩ := hg
    have hcj := h.closers j
    simp only [CloserOK, hpc] at hcj
    obtain ⟨g1, g2, g3, g3e, g4, g5, g6, g7⟩ := h.glob
    refine inv_closer_action h j _ rfl rfl rfl id rfl id (fun j' e ho => absurd (once_running_unique hcj.1 ho) e)
      ⟨hcj.1, rfl, hcj.2.2⟩ ⟨fun _ => rfl, g2, g3, g3e, ?_, g5, g6, g7⟩
    simp only [setCloserPc, hcj.1, upd_same]; rfl
  case preStopRun j =>
    have hcj := h.closers j
    simp only [CloserOK, hg.1] at hcj
    obtain ⟨g1, g2, g3, g3e, g4, g5, g6, g7⟩ := h.glob
    refine inv_closer_action h j _ rfl rfl rfl id rfl id (fun j' e ho => absurd (once_running_unique hcj.1 ho) e)
      ⟨hcj.1, hcj.2.1⟩ ⟨g1, g2, g3, g3e, ?_, g5, g6, ?_⟩
    · simp only [setCloserPc, hcj.1, upd_same]; rfl
    · show s.prestopRuns + 1 ≤ 1
      rw [hcj.2.2]; exact Nat.le_refl 1
  case preStopNil j =>
    have hcj := h.closers j
    simp only [CloserOK, hg.1] at hcj
    obtain ⟨g1, g2, g3, g3e, g4, g5, g6, g7⟩ := h.glob
    refine inv_closer_action h j _ rfl rfl rfl id rfl id (fun j' e ho => absurd (once_running_unique hcj.1 ho) e)
      ⟨hcj.1, hcj.2.1⟩ ⟨g1, g2, g3, g3e, ?_, g5, g6, g7⟩
    simp only [setCloserPc, hcj.1, upd_same]; rfl
  case onceExit j =>
    have hcj := h.closers j
    simp only [CloserOK, hg] at hcj
    obtain ⟨g1, g2, g3, g3e, g4, g5, g6, g7⟩ := h.glob
    refine inv_closer_action h j _ rfl rfl rfl id rfl (fun _ => rfl) (fun j' e ho => absurd (once_running_unique hcj.1 ho) e) rfl
      ⟨g1, g2, g3, g3e, hcj.2, fun _ => g5 (by rw [hcj.1]; exact Once.noConfusion), fun hc => ⟨(g6 hc).1, rfl⟩, g7⟩
  case waitTLD j =>
    obtain ⟨hpc, htld⟩ := hg
    have hcj := h.closers j
    simp only [CloserOK, hpc] at hcj
    obtain ⟨g1, g2, g3, g3e, g4, g5, g6, g7⟩ := h.glob
    refine inv_closer_action h j _ rfl rfl rfl id rfl id (fun _ _ _ => ⟨rfl, rfl, rfl⟩) ⟨hcj, htld⟩
      ⟨g1, g2, g3, g3e, ?_, g5, fun _ => ⟨htld, hcj⟩, g7⟩
    rw [hcj] at g4
    simpa only [setCloserPc, hcj] using g4

theorem isRun : IsRun step run := ⟨fun _ => rfl, fun s a _ => by rw [run]; cases step s a <;> rfl⟩

theorem inv_run {s s' : State} (h : Inv s) (as : List Action) (hs : run s as = some s') : Inv s' :=
  (isRun.exec hs).inv (fun hi hs => inv_step hi _ hs) h

theorem inv_reachable {s : State} (h : Reachable s) : Inv s := by
  obtain ⟨as, h⟩ := h
  exact inv_run inv_init as h

theorem reachable_run {s s' : State} (h : Reachable s) (as : List Action) (hs : run s as = some s') : Reachable s' := by
  obtain ⟨xs, h⟩ := h
  exact ⟨xs ++ as, by rw [isRun.append, h]; exact hs⟩

theorem reachable_step {s s' : State} (h : Reachable s) (a : Action) (hs : step s a = some s') : Reachable s' :=
  reachable_run h [a] (isRun.of_exec (.cons hs (.nil _)))

end IceProofs.TaskLoop

import IceProofs.Sys2C20FrameG
/-!
# C20 on `Sys2` — what the handlers decide: `handleSuccess`, the two request handlers, `handleInbound`

The marks a handler leaves on the pair it handles are said of the lookup (`nkAt`); which exception of the frame a deciding
move makes (`hsB_g`, `handleSuccess_tail_g`, `cld_accept_nk`, `cld_plain_nk`); `handleInbound` when nothing is decided
(`hi_quiet`) and when a transaction is completed (`hi_success`); the addresses of the pair a handler works on and source
resolution (`ensurePair_addrs`, `resolveSource_spec`).
-/
namespace IceProofs.C20S
open IceModel.AgentCore IceProofs.Agent IceProofs.AgentC06

theorem nk_carry {wa : Bool} {exs : Option Nat} {iss : Option (Nat × Nat × Nat)} {b c : Agent} {id : Nat}
    {X : Bool × Bool × Option Nat} (h : G wa exs none iss b c) (hle : id ≤ b.nextPairID)
    (hb : ∀ p' ∈ b.checklist, p'.id = id → nk p' = X) : ∀ p'' ∈ c.checklist, p''.id = id → nk p'' = X := by
  intro p'' hp'' hid
  rcases h.pairs p'' hp'' (fun e => by cases e) with ⟨p', hp', hid', hnk⟩ | ⟨hlt, _⟩
  · rw [hnk]; exact hb p' hp' (hid'.trans hid)
  · rw [hid] at hlt; exact absurd hle (Nat.not_le_of_gt hlt)

/-- the marks of the pair the model resolves `id` to.  The handlers read a pair by `pairById` and write it by `modPair`: what
they leave on the pair they handle is said of this lookup, where no uniqueness of ids is needed; `nkAt_all` turns it into a
statement about the list where ids are unique. -/
def nkAt (a : Agent) (id : Nat) : Option (Bool × Bool × Option Nat) := (a.pairById id).map nk

theorem nkAt_congr {a b : Agent} (h : b.checklist = a.checklist) (id : Nat) : nkAt b id = nkAt a id := by
  unfold nkAt Agent.pairById; rw [h]

theorem nkAt_modPair_self {a : Agent} {id : Nat} {p : Pair} (f : Pair → Pair) (hf : ∀ p, (f p).id = p.id)
    (h : a.pairById id = some p) : nkAt (a.modPair id f) id = some (nk (f p)) := by
  unfold nkAt; rw [modPair_pairById_self f hf h]; rfl

theorem nkAt_modPair_keep (a : Agent) (i id : Nat) (f : Pair → Pair) (hf : ∀ p, (f p).id = p.id)
    (hk : ∀ p, nk (f p) = nk p) : nkAt (a.modPair i f) id = nkAt a id := by
  unfold nkAt
  rw [modPair_pairById a i id f hf, Option.map_map]
  congr 1; funext p; simp only [Function.comp]; split
  · exact hk p
  · rfl

theorem nkAt_select (a : Agent) (id j : Nat) : nkAt (a.select id).1 j = nkAt a j := by
  rw [select_update]
  exact (nkAt_congr (a := a.modPair id fun p => { p with nominated := true }) rfl j).trans
    (nkAt_modPair_keep a id j _ (fun _ => rfl) fun _ => rfl)

theorem nkAt_of_view {a b : Agent} (h : nomView b = nomView a) (id : Nat) : nkAt b id = nkAt a id := by
  have e : ∀ x : Agent, nkAt x id = ((x.pairById id).map nv).map fun v => (v.2.1 == .succeeded, v.2.2.2.1, v.2.2.2.2) :=
    fun x => by unfold nkAt; rw [Option.map_map]; rfl
  rw [e, e, pairById_nv_congr h id]

theorem nkAt_all {a : Agent} (hn : (idsOf a).Nodup) {id : Nat} {X : Bool × Bool × Option Nat} (h : nkAt a id = some X) :
    ∀ p' ∈ a.checklist, p'.id = id → nk p' = X := by
  intro p' hp' hid
  unfold nkAt at h
  cases hq : a.pairById id with
  | none => rw [hq] at h; cases h
  | some q =>
    rw [hq] at h
    rw [pairById_eq_of_mem hn hq hp' hid]
    exact Option.some.inj h

/-- the transaction a success response on `(l, r)` from `src` completes, with the pair it validates -/
def ansPair (a : Agent) (now : Nat) (m : Msg) (l r : Cand) (src : Nat) : Option (Pending × Pair) :=
  match (a.takePending now m.tid).2 with
  | none => none
  | some pd =>
    if pd.net == l.net && pd.dest == src && pd.src == l.addr then (a.findPair l r).map fun p => (pd, p) else none

theorem handleSuccess_skip (a : Agent) (now : Nat) (m : Msg) (l r : Cand) (src : Nat)
    (h : ansPair a now m l r src = none) : a.handleSuccess now m l r src = ((a.takePending now m.tid).1, []) :=
  handleSuccess_sym_rule (Q := fun x => x = ((a.takePending now m.tid).1, [])) a now m l r src rfl fun pd p hpd hsym hp => by
    rw [IceProofs.Agent.takePending_findPair] at hp
    unfold ansPair at h
    rw [hpd] at h
    simp only [hsym, if_true, hp, Option.map_some] at h
    cases h

theorem handleSuccess_none {wa : Bool} (a : Agent) (now : Nat) (m : Msg) (l r : Cand) (src : Nat)
    (h : ansPair a now m l r src = none) : G wa none none none a (a.handleSuccess now m l r src).1 := by
  rw [handleSuccess_skip a now m l r src h]
  exact takePending_g a now m.tid

theorem ansPair_some {a : Agent} {now : Nat} {m : Msg} {l r : Cand} {src : Nat} {pd : Pending} {p : Pair}
    (h : ansPair a now m l r src = some (pd, p)) :
    (a.takePending now m.tid).2 = some pd ∧ pd.net = l.net ∧ pd.dest = src ∧ pd.src = l.addr ∧
    a.findPair l r = some p := by
  unfold ansPair at h
  split at h
  · cases h
  · rename_i pd' hp
    split at h
    · rename_i hc
      obtain ⟨p', hf, he⟩ := Option.map_eq_some_iff.mp h
      cases he
      simp only [Bool.and_eq_true, beq_iff_eq] at hc
      exact ⟨hp, hc.1.1, hc.1.2, hc.2, hf⟩
    · cases h

/-- the state right after the pair has been marked valid -/
def hsB (a : Agent) (now : Nat) (m : Msg) (pd : Pending) (p : Pair) : Agent :=
  (a.takePending now m.tid).1.modPair p.id (C03.hsMark pd)

theorem handleSuccess_some (a : Agent) (now : Nat) (m : Msg) (l r : Cand) (src : Nat) (pd : Pending) (p : Pair)
    (h : ansPair a now m l r src = some (pd, p)) :
    (a.handleSuccess now m l r src).1 =
      (C03.hsFin (hsB a now m pd p) p pd (C03.hsSel (hsB a now m pd p) p pd).1).modPair p.id
        (Pair.gotResponse now pd.ts) := by
  obtain ⟨h1, h2, h3, h4, h5⟩ := ansPair_some h
  rw [C03.handleSuccess_eq, h1]
  simp only [h2, h3, h4, beq_self_eq_true, Bool.and_self, Bool.not_true, Bool.false_eq_true, if_false]
  rw [IceProofs.Agent.takePending_findPair, h5]
  rfl

theorem hsB_g {wa : Bool} (a : Agent) (now : Nat) (m : Msg) (pd : Pending) (p : Pair) :
    G wa none (some p.id) none a (hsB a now m pd p) :=
  G.after (takePending_g a now m.tid)
    (G.modPair_ex _ p.id (C03.hsMark pd) (fun _ => rfl) (fun _ => rfl) (fun _ => rfl))

theorem hsB_selected (a : Agent) (now : Nat) (m : Msg) (pd : Pending) (p : Pair) :
    (hsB a now m pd p).selected = a.selected :=
  (hsB_g (wa := false) a now m pd p).selected_eq

theorem hsB_core (a : Agent) (now : Nat) (m : Msg) (pd : Pending) (p : Pair) :
    (hsB a now m pd p).core = a.core := by
  unfold hsB; simp

theorem hsSel_g {wa : Bool} (a : Agent) (p : Pair) (pd : Pending) :
    G wa (some p.id) none none a (C03.hsSel a p pd).1 := by
  rcases C03.hsSel_cases a p pd with h | ⟨h, _⟩
  · rw [h]; exact G.refl _ _ _ _ _
  · rw [h]; exact select_g a p.id

theorem hsFin_g {wa : Bool} (a : Agent) (p : Pair) (pd : Pending) (x : Agent) :
    G wa none (some p.id) none x (C03.hsFin a p pd x) := by
  unfold C03.hsFin
  split
  · split
    · exact G.w (wa := wa) (G.of_eq (a := x) rfl rfl rfl rfl (fun _ h => h) rfl)
    · exact G.refl _ _ _ _ _
  · split
    · exact G.modPair_ex x p.id C03.hsClear (fun _ => rfl) (fun _ => rfl) (fun _ => rfl)
    · exact G.refl _ _ _ _ _

theorem handleSuccess_tail_g {wa : Bool} (a : Agent) (now : Nat) (m : Msg) (l r : Cand) (src : Nat) (pd : Pending)
    (p : Pair) (h : ansPair a now m l r src = some (pd, p)) :
    G wa (some p.id) (some p.id) none (hsB a now m pd p) (a.handleSuccess now m l r src).1 ∧
    (a.handleSuccess now m l r src).1.selected = (C03.hsSel (hsB a now m pd p) p pd).1.selected := by
  rw [handleSuccess_some a now m l r src pd p h]
  refine ⟨G.then (((hsSel_g _ p pd).weaken (Or.inr rfl) (Or.inl rfl) (Or.inl rfl) (fun w => w)).trans
    ((hsFin_g _ p pd _).weaken (Or.inl rfl) (Or.inr rfl) (Or.inl rfl) (fun w => w)))
    (G.modPair_keep _ p.id (Pair.gotResponse now pd.ts) (fun _ => rfl) (fun _ => rfl)
      (fun _ => rfl) (fun _ => rfl)), ?_⟩
  show (C03.hsFin _ p pd _).selected = _
  rw [C03.hsFin_selected]

/-- what the response leaves on the pair: valid; its deferred mark is consumed on a controlled agent -/
def marksAfter (ctl : Bool) (p : Pair) : Bool × Bool × Option Nat :=
  if !ctl && p.nomOnSuccess then (true, false, none) else (true, p.nomOnSuccess, p.deferredNom)

theorem handleSuccess_nk (a : Agent) (now : Nat) (m : Msg) (l r : Cand) (src : Nat) (pd : Pending) (p : Pair)
    (h : ansPair a now m l r src = some (pd, p)) (hp : a.pairById p.id = some p) :
    nkAt (a.handleSuccess now m l r src).1 p.id = some (marksAfter a.controlling p) := by
  rw [handleSuccess_some a now m l r src pd p h]
  -- the marks of `p` followed through the stages of `handleSuccess`: `hsB` makes the pair valid, `hsSel` leaves the marks
  -- alone (`hS`), so does `gotResponse`; `hsFin` clears the deferred mark, on a controlled agent
  have hS : nkAt (C03.hsSel (hsB a now m pd p) p pd).1 p.id = some (true, p.nomOnSuccess, p.deferredNom) := by
    have hB : nkAt (hsB a now m pd p) p.id = some (true, p.nomOnSuccess, p.deferredNom) := by
      have : (a.takePending now m.tid).1.pairById p.id = some p := by
        rw [← hp]; unfold Agent.pairById; rw [(C03.takePending_frame a now m.tid).1]
      unfold hsB
      rw [nkAt_modPair_self (C03.hsMark pd) (fun _ => rfl) this]
      rfl
    rcases C03.hsSel_cases (hsB a now m pd p) p pd with e | ⟨e, _⟩ <;> rw [e]
    · exact hB
    · rw [nkAt_select]; exact hB
  rw [nkAt_modPair_keep _ _ _ (Pair.gotResponse now pd.ts) (fun _ => rfl) fun _ => rfl]
  have hctl : (hsB a now m pd p).controlling = a.controlling := congrArg Core.controlling (hsB_core a now m pd p)
  unfold C03.hsFin marksAfter
  rw [hctl]
  cases hc : a.controlling with
  | true =>
    simp only [if_true, Bool.not_true, Bool.false_and, Bool.false_eq_true, if_false]
    split
    · exact (nkAt_congr rfl _).trans hS
    · exact hS
  | false =>
    simp only [Bool.false_eq_true, if_false, Bool.not_false, Bool.true_and]
    cases hno : p.nomOnSuccess with
    | true =>
      simp only [if_true]
      unfold nkAt at hS
      cases hq : (C03.hsSel (hsB a now m pd p) p pd).1.pairById p.id with
      | none => rw [hq] at hS; cases hS
      | some q =>
        rw [hq] at hS
        rw [nkAt_modPair_self C03.hsClear (fun _ => rfl) hq]
        simp only [Option.map_some, Option.some.injEq] at hS ⊢
        unfold nk at hS ⊢
        simp only [Prod.mk.injEq] at hS
        simp [C03.hsClear, hS.1]
    | false =>
      simp only [Bool.false_eq_true, if_false]
      rw [hno] at hS
      exact hS

theorem handleSuccess_marks (a : Agent) (now : Nat) (m : Msg) (l r : Cand) (src : Nat) (pd : Pending) (p : Pair)
    (h : ansPair a now m l r src = some (pd, p)) (hn : (idsOf a).Nodup) (hle : p.id ≤ a.nextPairID)
    (hp : p ∈ a.checklist) :
    ∀ p' ∈ (a.handleSuccess now m l r src).1.checklist, p'.id = p.id → nk p' = marksAfter a.controlling p :=
  nkAt_all (by rw [(Evo.handleSuccess a now m l r src).ids]; exact hn)
    (handleSuccess_nk a now m l r src pd p h (pairById_of_mem_nodup hn hp))

theorem hsSel_ctl (a : Agent) (p : Pair) (pd : Pending) (hc : a.controlling = true) :
    (C03.hsSel a p pd).1.selected =
      if pd.useCand then
        match pd.nom with
        | some v => if supersededBy a.answeredNomination v then a.selected else some p.id
        | none => if a.selected.isNone then some p.id else a.selected
      else a.selected := by
  unfold C03.hsSel supersededBy
  simp only [hc, if_true]
  cases pd.useCand with
  | false => simp
  | true =>
    simp only [if_true]
    cases pd.nom with
    | none => simp only []; split <;> simp [select_selected]
    | some v =>
      simp only []
      cases a.answeredNomination with
      | none => simp [select_selected]
      | some w => by_cases hle : v ≤ w <;> simp [hle, select_selected]

theorem hsFin_answered (a : Agent) (p : Pair) (pd : Pending) (x : Agent) (hc : a.controlling = true)
    (hx : x.answeredNomination = a.answeredNomination) :
    (C03.hsFin a p pd x).answeredNomination =
      if pd.useCand then
        match pd.nom with
        | some v => if supersededBy a.answeredNomination v then a.answeredNomination else some v
        | none => a.answeredNomination
      else a.answeredNomination := by
  unfold C03.hsFin C03.hsAnswered supersededBy
  simp only [hc, if_true]
  cases pd.useCand with
  | false => simp [hx]
  | true =>
    simp only [if_true]
    cases pd.nom with
    | none => simp [hx]
    | some v =>
      simp only []
      cases ha : a.answeredNomination with
      | none => simp
      | some w => by_cases hle : v ≤ w <;> simp [hle, hx, ha]

/-- a controlled agent validates a pair marked by an ordinary nomination: the selection stays, or moves to `p` — which a
pair selected before allows only while no valued nomination has been accepted (`lastNomination = none`) -/
theorem hsSel_cld_unvalued (a : Agent) (p : Pair) (pd : Pending) (hc : a.controlling = false)
    (hn : p.nomOnSuccess = true) (hd : p.deferredNom = none) (hsel : ∀ sid, a.selected = some sid → (a.pairById sid).isSome = true) :
    (C03.hsSel a p pd).1.selected = a.selected ∨
      ((C03.hsSel a p pd).1.selected = some p.id ∧ (a.selected = none ∨ a.lastNomination = none)) := by
  unfold C03.hsSel
  simp only [hc, Bool.false_eq_true, if_false, hn, if_true, hd]
  cases hs : a.selected with
  | none => simp [select_selected]
  | some sid =>
    obtain ⟨sp, hsp⟩ := Option.isSome_iff_exists.mp (hsel sid hs)
    simp only [Option.bind_some, hsp]
    split
    · exact Or.inl hs
    · rename_i h1
      split
      · refine Or.inr ⟨select_selected _ _, Or.inr ?_⟩
        rename_i h2
        simp only [Bool.and_eq_true] at h1 h2
        cases hl : a.lastNomination with
        | none => rfl
        | some w =>
          have : a.lastNomination = none := by
            have h1' := h1
            simp only [Option.isSome_iff_ne_none, ne_eq, not_and, Classical.not_not, bne_iff_ne] at h1'
            exact h1' (by simpa using h2.1)
          rw [hl] at this; cases this
      · exact Or.inl hs

theorem hsSel_cld_plain (a : Agent) (p : Pair) (pd : Pending) (hc : a.controlling = false)
    (hn : p.nomOnSuccess = false) : C03.hsSel a p pd = (a, []) := by
  unfold C03.hsSel
  simp [hc, hn]

theorem countReq_g {wa : Bool} (a : Agent) (id : Nat) (m : Msg) : G wa none none none a (a.modPair id (countReq m)) :=
  G.modPair_keep a id (countReq m) (fun _ => rfl) (fun _ => rfl) (fun _ => rfl) (fun _ => rfl)

theorem ctlHandleRequest_g {wa : Bool} (a : Agent) (now : Nat) (m : Msg) (l r : Cand) :
    G wa none none none a (a.ctlHandleRequest now m l r).1 :=
  have h1 := sendSuccess_g (wa := wa) a now m l r
  ctlHandleRequest_rule (Q := fun x => G wa none none none a x.1) a now m l r
    (fun _ => (h1.trans (addPair_g _ l r)).trans (countReq_g _ _ m)) fun p _ =>
    ctlTail_rule (Q := fun x => G wa none none none a x.1) _ now l r p _ (h1.trans (countReq_g _ p.id m)) fun _ _ _ =>
      ((h1.trans (countReq_g _ p.id m)).trans G.silent).trans (nominate_g _ now p)

theorem ensurePair_g {wa : Bool} (a : Agent) (l r : Cand) : G wa none none none a (ensurePair a l r).1 := by
  unfold ensurePair
  split
  · exact G.refl _ _ _ _ _
  · exact addPair_g a l r

theorem counted_g {wa : Bool} (a : Agent) (m : Msg) (l r : Cand) :
    G wa none none none (ensurePair a l r).1 (counted a m l r) := countReq_g _ _ m

theorem cldProceed_tail_g {wa : Bool} (a : Agent) (now : Nat) (m : Msg) (l r : Cand) (id : Nat) :
    G wa none none none (cldNominate a m id).1 (cldProceed a now m l r id).1 := by
  refine cldProceed_rule (Q := fun x => G wa none none none (cldNominate a m id).1 x.1) a now m l r id ?_ ?_ <;>
    rintro n s rfl rfl
  · exact sendSuccess_g _ now m l r
  · exact (sendSuccess_g _ now m l r).trans (ping_g _ now l r)

theorem cldNominate_not (a : Agent) (m : Msg) (id : Nat) (h : (m.useCand || m.nom.isSome) = false) :
    cldNominate a m id = (a, []) := by
  unfold cldNominate
  simp [h]

theorem cld_quiet_g {wa : Bool} (a : Agent) (now : Nat) (m : Msg) (l r : Cand)
    (hq : (m.useCand || m.nom.isSome) = false ∨ (shouldAcceptNomination m.nom a.lastNomination).2 = false) :
    G wa none none none a (a.cldHandleRequest now m l r).1 := by
  rw [cldHandleRequest_nf]
  simp only []
  have h1 : G wa none none none a ((ensurePair a l r).1.modPair (ensurePair a l r).2.id (countReq m)) :=
    (ensurePair_g a l r).trans (countReq_g _ _ m)
  have hln := counted_lastNomination a m l r
  unfold counted at hln
  rw [hln]
  split
  · exact h1.trans (sendSuccess_g _ now m l r)
  · rename_i hc
    have hnn : (m.useCand || m.nom.isSome) = false := by
      rcases hq with hq | hq
      · exact hq
      · rw [hq] at hc
        simpa using hc
    have h2 := cldProceed_tail_g (wa := wa)
      { ((ensurePair a l r).1.modPair (ensurePair a l r).2.id (countReq m)) with
        lastNomination := (shouldAcceptNomination m.nom a.lastNomination).1 } now m l r (ensurePair a l r).2.id
    rw [cldNominate_not _ _ _ hnn] at h2
    have h1' : G wa none none none a
        ({ ((ensurePair a l r).1.modPair (ensurePair a l r).2.id (countReq m)) with
          lastNomination := (shouldAcceptNomination m.nom a.lastNomination).1 } : Agent) :=
      h1.trans (G.silent)
    exact h1'.trans h2

theorem ensurePair_listed (a : Agent) (l r : Cand) (hle : ∀ p ∈ a.checklist, p.id ≤ a.nextPairID) :
    (ensurePair a l r).2 ∈ (ensurePair a l r).1.checklist ∧ (ensurePair a l r).2.id ≤ (ensurePair a l r).1.nextPairID := by
  unfold ensurePair
  split
  · rename_i p hp
    exact ⟨(IceProofs.Agent.findPair_listed hp).1, hle p ((IceProofs.Agent.findPair_listed hp).1)⟩
  · exact ⟨C03.addPair_snd_mem a l r, Nat.le_refl _⟩

theorem cldProceed_tail_nk (a : Agent) (now : Nat) (m : Msg) (l r : Cand) (id j : Nat) :
    nkAt (cldProceed a now m l r id).1 j = nkAt (cldNominate a m id).1 j :=
  nkAt_of_view (cldProceed_nomView a now m l r id) j

theorem cldNominate_valid (a : Agent) (m : Msg) (id v : Nat) (q : Pair) (hn : m.nom = some v)
    (hq : a.pairById id = some q) (hs : q.state = .succeeded) (hl : a.cfg.lite = false) :
    cldNominate a m id = a.select id ∨ cldNominate a m id = (a, []) := by
  unfold cldNominate
  simp only [hn, Option.isSome_some, Bool.or_true, if_true, hl, Bool.false_eq_true, if_false, hq, hs,
    beq_self_eq_true]
  split
  · exact Or.inl rfl
  · exact Or.inr rfl

/-- **an accepted nomination value** on a full controlled agent: from the state in which the pair of the request
exists, either the pair is selected at once and no mark changes, or the selection stays and the pair is marked -/
theorem cld_accept_nk {wa : Bool} (a1 : Agent) (now : Nat) (m : Msg) (l r : Cand) (v : Nat) (hn : m.nom = some v)
    (hacc : (shouldAcceptNomination (some v) a1.lastNomination).2 = true) (hl : a1.cfg.lite = false) :
    (G wa (some (ensurePair a1 l r).2.id) none none (ensurePair a1 l r).1 (a1.cldHandleRequest now m l r).1 ∧
        (a1.cldHandleRequest now m l r).1.selected = some (ensurePair a1 l r).2.id) ∨
    (G wa none (some (ensurePair a1 l r).2.id) none (ensurePair a1 l r).1 (a1.cldHandleRequest now m l r).1 ∧
        nkAt (a1.cldHandleRequest now m l r).1 (ensurePair a1 l r).2.id = some (false, true, some v)) := by
  rw [cld_accepted a1 now m l r v hn ((accept_some_iff v a1.lastNomination).1 hacc)]
  have hc0 : G wa none none none (ensurePair a1 l r).1
      ({ counted a1 m l r with lastNomination := some v } : Agent) :=
    (counted_g a1 m l r).trans (G.silent)
  have hcfg : ({ counted a1 m l r with lastNomination := some v } : Agent).cfg.lite = false := by
    have : (ensurePair a1 l r).1.cfg = a1.cfg := congrArg Core.cfg (core_ensurePair a1 l r)
    show (ensurePair a1 l r).1.cfg.lite = false
    rw [this]; exact hl
  obtain ⟨q, hq⟩ := ensurePair_pairById a1 l r
  have hqc : ({ counted a1 m l r with lastNomination := some v } : Agent).pairById (ensurePair a1 l r).2.id
      = some (countReq m q) := counted_pairById a1 m l r q hq
  generalize (ensurePair a1 l r).2.id = id at hqc ⊢
  generalize ({ counted a1 m l r with lastNomination := some v } : Agent) = c at hc0 hcfg hqc ⊢
  have htail := cldProceed_tail_g (wa := wa) c now m l r id
  by_cases hs : q.state = .succeeded
  · left
    have hsel : (cldNominate c m id).1.selected = some id :=
      cldNominate_immediate c m id v (countReq m q) hn hqc (Or.inl hs)
    have hg : G wa (some id) none none c (cldNominate c m id).1 := by
      rcases cldNominate_valid c m id v (countReq m q) hn hqc hs hcfg with h | h
      · rw [h]; exact select_g c id
      · rw [h]; exact G.refl _ _ _ _ _
    exact ⟨G.after hc0 (G.then hg htail), htail.selected_eq.trans hsel⟩
  · right
    have hdef := cldNominate_deferred c m id v (countReq m q) hn hqc hs hcfg
    rw [cldProceed_tail_nk]
    rw [hdef] at htail ⊢
    refine ⟨G.after hc0 (G.then (G.modPair_ex c id (fun p => { p with nomOnSuccess := true, deferredNom := some v })
      (fun _ => rfl) (fun _ => rfl) (fun _ => rfl)) htail), ?_⟩
    rw [nkAt_modPair_self (fun p => { p with nomOnSuccess := true, deferredNom := some v }) (fun _ => rfl) hqc]
    have : (q.state == PairState.succeeded) = false := by cases hh : q.state <;> simp_all
    simp [nk, countReq, this]

theorem pairById_isSome_of_fwd {a b : Agent} (hf : ∀ p ∈ a.checklist, ∃ p' ∈ b.checklist, p'.id = p.id) {sid : Nat}
    (h : (a.pairById sid).isSome = true) : (b.pairById sid).isSome = true := by
  obtain ⟨p, hp, hid⟩ := pairById_isSome.1 h
  obtain ⟨p', hp', hid'⟩ := hf p hp
  exact pairById_isSome.2 ⟨p', hp', hid'.trans hid⟩

theorem inlineSwitch_plain (c : Agent) (id : Nat) (m : Msg) (p : Pair) (hn : m.nom = none)
    (hsel : ∀ sid, c.selected = some sid → (c.pairById sid).isSome = true) (h : inlineSwitch c id m p = true) :
    c.selected = none ∨ c.lastNomination = none := by
  unfold inlineSwitch at h
  cases hs : c.selected with
  | none => exact Or.inl rfl
  | some sid =>
    obtain ⟨sp, hsp⟩ := Option.isSome_iff_exists.mp (hsel sid hs)
    rw [hs] at h
    simp only [Option.bind_some, hsp, hn, Option.isSome_none, Bool.false_eq_true, if_false] at h
    split at h
    · cases h
    · split at h
      · cases h
      · rename_i h2
        right
        cases hl : c.lastNomination with
        | none => rfl
        | some w => rw [hl] at h2; simp at h2

/-- **an ordinary nomination** (USE-CANDIDATE, no value) on a full controlled agent, from the state in which the pair
of the request exists: the selection moves to the pair only if nothing was selected or no nomination value has been
accepted; of the pair's marks only `nomOnSuccess` may be set — a deferred value is never replaced -/
theorem cld_plain_nk {wa : Bool} (a1 : Agent) (now : Nat) (m : Msg) (l r : Cand) (hu : m.useCand = true)
    (hn : m.nom = none) (hl : a1.cfg.lite = false)
    (hsel : ∀ sid, a1.selected = some sid → (a1.pairById sid).isSome = true) :
    G wa (some (ensurePair a1 l r).2.id) (some (ensurePair a1 l r).2.id) none (ensurePair a1 l r).1
      (a1.cldHandleRequest now m l r).1 ∧
    ((a1.cldHandleRequest now m l r).1.selected = a1.selected ∨
      ((a1.cldHandleRequest now m l r).1.selected = some (ensurePair a1 l r).2.id ∧
        (a1.selected = none ∨ a1.lastNomination = none))) ∧
    (∀ q, (ensurePair a1 l r).1.pairById (ensurePair a1 l r).2.id = some q →
      nkAt (a1.cldHandleRequest now m l r).1 (ensurePair a1 l r).2.id = some (nk q) ∨
      nkAt (a1.cldHandleRequest now m l r).1 (ensurePair a1 l r).2.id = some ((nk q).1, true, (nk q).2.2)) := by
  have hnf : a1.cldHandleRequest now m l r
      = cldProceed { counted a1 m l r with lastNomination := a1.lastNomination } now m l r (ensurePair a1 l r).2.id := by
    rw [cldHandleRequest_nf]
    simp only []
    have h1 := counted_lastNomination a1 m l r
    unfold counted at h1
    rw [h1, hn, accept_none]
    simp [counted]
  rw [hnf]
  have hc0 : G wa none none none (ensurePair a1 l r).1
      ({ counted a1 m l r with lastNomination := a1.lastNomination } : Agent) :=
    (counted_g a1 m l r).trans (G.silent)
  have hcfg : ({ counted a1 m l r with lastNomination := a1.lastNomination } : Agent).cfg.lite = false := by
    have : (ensurePair a1 l r).1.cfg = a1.cfg := congrArg Core.cfg (core_ensurePair a1 l r)
    show (ensurePair a1 l r).1.cfg.lite = false
    rw [this]; exact hl
  have hselC : ({ counted a1 m l r with lastNomination := a1.lastNomination } : Agent).selected = a1.selected :=
    (counted_spec a1 m l r).1
  have hlastC : ({ counted a1 m l r with lastNomination := a1.lastNomination } : Agent).lastNomination
      = a1.lastNomination := rfl
  have hfwdC : ∀ p ∈ a1.checklist,
      ∃ p' ∈ ({ counted a1 m l r with lastNomination := a1.lastNomination } : Agent).checklist, p'.id = p.id :=
    ((ensurePair_g (wa := wa) a1 l r).trans hc0).fwd
  obtain ⟨q, hq⟩ := ensurePair_pairById a1 l r
  have hqc : ({ counted a1 m l r with lastNomination := a1.lastNomination } : Agent).pairById (ensurePair a1 l r).2.id
      = some (countReq m q) := counted_pairById a1 m l r q hq
  generalize (ensurePair a1 l r).2.id = id at hq hqc ⊢
  generalize ({ counted a1 m l r with lastNomination := a1.lastNomination } : Agent) = c
    at hc0 hcfg hqc hselC hlastC hfwdC ⊢
  have hselOK : ∀ sid, c.selected = some sid → (c.pairById sid).isSome = true := by
    intro sid hs
    rw [hselC] at hs
    exact pairById_isSome_of_fwd hfwdC (hsel sid hs)
  have htail := cldProceed_tail_g (wa := wa) c now m l r id
  have hmc : nkAt c id = some (nk q) := by unfold nkAt; rw [hqc]; rfl
  have key : G wa (some id) (some id) none c (cldNominate c m id).1 ∧
      ((cldNominate c m id).1.selected = c.selected ∨
        ((cldNominate c m id).1.selected = some id ∧ (c.selected = none ∨ c.lastNomination = none))) ∧
      (nkAt (cldNominate c m id).1 id = some (nk q) ∨
        nkAt (cldNominate c m id).1 id = some ((nk q).1, true, (nk q).2.2)) := by
    unfold cldNominate
    simp only [hu, Bool.true_or, if_true, hcfg, Bool.false_eq_true, if_false, hqc]
    by_cases hs : (countReq m q).state = .succeeded
    · have e : ((countReq m q).state == PairState.succeeded) = true := by simp [hs]
      simp only [e, if_true]
      by_cases hsw : inlineSwitch c id m (countReq m q) = true
      · rw [if_pos hsw]
        exact ⟨(select_g c id).weaken (Or.inr rfl) (Or.inl rfl) (Or.inl rfl) (fun w => w),
          Or.inr ⟨select_selected c id, inlineSwitch_plain c id m _ hn hselOK hsw⟩,
          Or.inl ((nkAt_select c id id).trans hmc)⟩
      · rw [if_neg hsw]
        exact ⟨G.refl _ _ _ _ _, Or.inl rfl, Or.inl hmc⟩
    · have e : ((countReq m q).state == PairState.succeeded) = false := by
        cases hh : (countReq m q).state <;> simp_all
      simp only [e, Bool.false_eq_true, if_false, hn, Option.isSome_none, Bool.false_or]
      by_cases hdn : (countReq m q).deferredNom.isNone = true
      · rw [if_pos hdn]
        refine ⟨(G.modPair_ex c id (fun p => { p with nomOnSuccess := true, deferredNom := none }) (fun _ => rfl)
          (fun _ => rfl) (fun _ => rfl)).weaken (Or.inl rfl) (Or.inr rfl)
          (Or.inl rfl) (fun w => w), Or.inl rfl, Or.inr ?_⟩
        rw [nkAt_modPair_self (fun p => { p with nomOnSuccess := true, deferredNom := none }) (fun _ => rfl) hqc]
        have hdq : q.deferredNom = none := by simpa [countReq] using hdn
        simp [nk, countReq, hdq]
      · rw [if_neg hdn]
        exact ⟨G.refl _ _ _ _ _, Or.inl rfl, Or.inl hmc⟩
  obtain ⟨hg, hsd, hmk⟩ := key
  refine ⟨G.after hc0 (G.then hg htail), ?_, ?_⟩
  · rw [htail.selected_eq]
    rcases hsd with h | ⟨h1, h2⟩
    · exact Or.inl (h.trans hselC)
    · exact Or.inr ⟨h1, by rw [hselC, hlastC] at h2; exact h2⟩
  · intro q' hq'
    have : q' = q := by rw [hq] at hq'; cases hq'; rfl
    subst this
    rw [cldProceed_tail_nk]
    exact hmk

theorem cldHandleRequest_nodup (a1 : Agent) (now : Nat) (m : Msg) (l r : Cand) (hnd : (idsOf a1).Nodup)
    (hle : ∀ p ∈ a1.checklist, p.id ≤ a1.nextPairID) : (idsOf (a1.cldHandleRequest now m l r).1).Nodup := by
  have h0 : (idsOf (ensurePair a1 l r).1).Nodup := by
    unfold ensurePair
    split
    · exact hnd
    · rw [idsOf_addPair, List.nodup_append]
      refine ⟨hnd, by simp, fun x hx y hy => ?_⟩
      obtain ⟨p, hp, rfl⟩ := List.mem_map.1 hx
      have := hle p hp
      simp at hy; omega
  have hids := idsOf_modPair (ensurePair a1 l r).1 (ensurePair a1 l r).2.id (countReq m) (fun _ => rfl)
  refine cldHandleRequest_rule (Q := fun x => (idsOf x.1).Nodup) a1 now m l r ?_ ?_
  · rintro a' rfl _ _
    rw [(Same.sendSuccess _ now m l r).evo.ids, hids]; exact h0
  · rintro a' rfl
    rw [(Evo.cldProceed _ now m l r _ (by
      show _ ∈ idsOf (Agent.modPair _ _ _)
      rw [hids]; exact List.mem_map_of_mem (ensurePair_listed a1 l r hle).1)).ids]
    show (idsOf (Agent.modPair _ _ _)).Nodup
    rw [hids]; exact h0

theorem cld_accept_g {wa : Bool} (a1 : Agent) (now : Nat) (m : Msg) (l r : Cand) (v : Nat) (hn : m.nom = some v)
    (hacc : (shouldAcceptNomination (some v) a1.lastNomination).2 = true) (hl : a1.cfg.lite = false)
    (hnd : (idsOf a1).Nodup) (hle : ∀ p ∈ a1.checklist, p.id ≤ a1.nextPairID) :
    (ensurePair a1 l r).2 ∈ (ensurePair a1 l r).1.checklist ∧
    (ensurePair a1 l r).2.id ≤ (ensurePair a1 l r).1.nextPairID ∧
    ((G wa (some (ensurePair a1 l r).2.id) none none (ensurePair a1 l r).1 (a1.cldHandleRequest now m l r).1 ∧
        (a1.cldHandleRequest now m l r).1.selected = some (ensurePair a1 l r).2.id) ∨
     (G wa none (some (ensurePair a1 l r).2.id) none (ensurePair a1 l r).1 (a1.cldHandleRequest now m l r).1 ∧
        ∀ p' ∈ (a1.cldHandleRequest now m l r).1.checklist, p'.id = (ensurePair a1 l r).2.id →
          nk p' = (false, true, some v))) :=
  ⟨(ensurePair_listed a1 l r hle).1, (ensurePair_listed a1 l r hle).2,
    (cld_accept_nk a1 now m l r v hn hacc hl).imp_right fun h =>
      ⟨h.1, nkAt_all (cldHandleRequest_nodup a1 now m l r hnd hle) h.2⟩⟩

theorem cld_plain_g {wa : Bool} (a1 : Agent) (now : Nat) (m : Msg) (l r : Cand) (hu : m.useCand = true)
    (hn : m.nom = none) (hl : a1.cfg.lite = false) (hnd : (idsOf a1).Nodup)
    (hle : ∀ p ∈ a1.checklist, p.id ≤ a1.nextPairID)
    (hsel : ∀ sid, a1.selected = some sid → (a1.pairById sid).isSome = true) :
    (ensurePair a1 l r).2 ∈ (ensurePair a1 l r).1.checklist ∧
    (ensurePair a1 l r).2.id ≤ (ensurePair a1 l r).1.nextPairID ∧
    G wa (some (ensurePair a1 l r).2.id) (some (ensurePair a1 l r).2.id) none (ensurePair a1 l r).1
      (a1.cldHandleRequest now m l r).1 ∧
    ((a1.cldHandleRequest now m l r).1.selected = a1.selected ∨
      ((a1.cldHandleRequest now m l r).1.selected = some (ensurePair a1 l r).2.id ∧
        (a1.selected = none ∨ a1.lastNomination = none))) ∧
    (∀ q, (ensurePair a1 l r).1.pairById (ensurePair a1 l r).2.id = some q →
      ∀ p' ∈ (a1.cldHandleRequest now m l r).1.checklist, p'.id = (ensurePair a1 l r).2.id →
        nk p' = nk q ∨ nk p' = ((nk q).1, true, (nk q).2.2)) := by
  obtain ⟨hG, hsd, hmk⟩ := cld_plain_nk (wa := wa) a1 now m l r hu hn hl hsel
  have hnd' := cldHandleRequest_nodup a1 now m l r hnd hle
  exact ⟨(ensurePair_listed a1 l r hle).1, (ensurePair_listed a1 l r hle).2, hG, hsd, fun q hq p' hp' hid =>
    (hmk q hq).imp (fun h => nkAt_all hnd' h p' hp' hid) (fun h => nkAt_all hnd' h p' hp' hid)⟩

/-- the transaction (and pair) an inbound message on `l` from `src` completes: an authenticated success response from
a known source whose transaction is pending, symmetric, on a listed pair -/
def ansOf (a : Agent) (now : Nat) (l : Cand) (src : Nat) (m : Msg) : Option (Pending × Pair) :=
  if m.method == 1 && m.cls == 2 && m.key == some a.remotePwd then
    match a.findRemote l.net src with
    | none => none
    | some r => ansPair a now m l r src
  else none

theorem ansOf_some {a : Agent} {now : Nat} {l : Cand} {src : Nat} {m : Msg} {pd : Pending} {p : Pair}
    (h : ansOf a now l src m = some (pd, p)) :
    ∃ r, m.method = 1 ∧ m.cls = 2 ∧ m.key = some a.remotePwd ∧ a.findRemote l.net src = some r ∧
      ansPair a now m l r src = some (pd, p) := by
  unfold ansOf at h
  split at h
  · rename_i hc
    simp only [Bool.and_eq_true, beq_iff_eq] at hc
    cases hr : a.findRemote l.net src with
    | none => rw [hr] at h; cases h
    | some r =>
      rw [hr] at h
      exact ⟨r, hc.1.1, hc.1.2, hc.2, rfl, h⟩
  · cases h

theorem hi_success {a : Agent} {now : Nat} {l : Cand} {src : Nat} {m : Msg} {pd : Pending} {p : Pair}
    (h : ansOf a now l src m = some (pd, p)) :
    ∃ r, a.findRemote l.net src = some r ∧ ansPair a now m l r src = some (pd, p) ∧
      (a.handleInbound now l src m).1 = (a.handleSuccess now m l r src).1.seenRemoteRecv r.uid now := by
  obtain ⟨r, h1, h2, h3, h4, h5⟩ := ansOf_some h
  refine ⟨r, h4, h5, ?_⟩
  rw [handleInbound_success a now l src m r h1 h2 h3 h4]

theorem hiDisc_eq (a : Agent) (l : Cand) (src : Nat) (m : Msg) : C03.hiDisc a l src m = resolveSource a l src m :=
  C03.hiDisc_eq a l src m

theorem resolveSource_g {a : Agent} (hi : Inv a) (hc : a.closed = false) (l : Cand) (src : Nat) (m : Msg) :
    G true none none none a (resolveSource a l src m).1 := by
  unfold resolveSource
  split
  · exact G.refl _ _ _ _ _
  · exact addRemoteCandidate_g hi _ hc

theorem ansPair_none_of_ansOf {a : Agent} {now : Nat} {l r : Cand} {src : Nat} {m : Msg} (hans : ansOf a now l src m = none)
    (hm : m.method = 1) (hc : m.cls = 2) (hk : m.key = some a.remotePwd) (hr : a.findRemote l.net src = some r) :
    ansPair a now m l r src = none := by
  unfold ansOf at hans
  rw [hr] at hans
  simpa [hm, hc, hk] using hans

theorem hi_quiet {a : Agent} (hi : Inv a) (hc : a.closed = false) (now : Nat) (l : Cand) (src : Nat) (m : Msg)
    (hans : ansOf a now l src m = none)
    (hq : a.controlling = false → cldDelivers a l src m = true →
      (m.useCand || m.nom.isSome) = false ∨ (shouldAcceptNomination m.nom a.lastNomination).2 = false) :
    G true none none none a (a.handleInbound now l src m).1 := by
  by_cases hm1 : m.method = 1
  · have hd := resolveSource_g hi hc l src m
    have hcore := core_resolveSource a l src m
    refine handleInbound_rule (Q := fun x => G true none none none a x.1) a now l src m (G.refl _ _ _ _ _)
      (fun r hc2 hk hr => (handleSuccess_none a now m l r src (ansPair_none_of_ansOf hans hm1 hc2 hk hr)).trans
        (seenRemoteRecv_g _ _ _))
      (fun _ _ => seenRemoteRecv_g _ _ _) (fun _ _ => hd) fun hauth r hr => ?_
    refine afterResolve_rule (Q := fun x => G true none none none a x.1) _ now l m _ r
      (fun _ _ _ => hd.trans (seenLocalSent_g _ _ _)) (fun _ _ _ => hd.trans G.silent) fun hnc =>
      toSelector_rule (Q := fun x => G true none none none a x.1) _ now l r m _
        (fun _ => (hd.trans (ctlHandleRequest_g _ now m l r)).trans (seenRemoteRecv_g _ _ _)) fun hc1 => ?_
    -- the controlled selector gets the request: `hq` applies, read off the state after source resolution
    have hca : a.controlling = false := (congrArg Core.controlling hcore).symm.trans hc1
    have hdel : cldDelivers a l src m = true :=
      (cldDelivers_iff a l src m).2 ⟨hauth, by rw [hr]; rfl, hca,
        (roleConflict_eq_none a m).1 ((roleConflict_congr hcore m).symm.trans hnc)⟩
    refine (hd.trans (cld_quiet_g _ now m l r ?_)).trans (seenRemoteRecv_g _ _ _)
    have hln : (resolveSource a l src m).1.lastNomination = a.lastNomination := congrArg Core.lastNomination hcore
    rw [hln]
    exact hq hca hdel
  · rw [handleInbound_stages, if_pos (by simp [hm1])]
    exact G.refl _ _ _ _ _

theorem findPair_addrs {a : Agent} (hi : Inv a) {l r : Cand} {p : Pair} (h : a.findPair l r = some p) :
    pairAddrs a p.id = some (l.addr, r.addr) := by
  obtain ⟨hm, pl, pr, hl, hr, el, er⟩ := findPair_listed h
  rw [pairAddrs_of (pairById_of_mem_nodup hi.idsNodup hm) hl hr, (equal_addr el).2, (equal_addr er).2]

theorem ensurePair_addrs {a : Agent} (hi : Inv a) {l r : Cand} (hl : l ∈ a.locals) (hr : core r ∈ rcsOf a) :
    pairAddrs (ensurePair a l r).1 (ensurePair a l r).2.id = some (l.addr, r.addr) := by
  unfold ensurePair
  split
  · rename_i p hp
    exact findPair_addrs hi hp
  · obtain ⟨l', hl1, hl2⟩ := localOf_of_mem hi.s (mem_lcsOf hl)
    obtain ⟨r', hr1, hr2⟩ := remoteOf_of_mem hi.s hr
    have hpb : (a.addPair l r).1.pairById (a.addPair l r).2.id = some (a.addPair l r).2 := by
      unfold Agent.pairById Agent.addPair
      simp only []
      rw [List.find?_append]
      have : a.checklist.find? (fun x => x.id == a.nextPairID + 1) = none := by
        rw [List.find?_eq_none]
        intro x hx
        have := hi.read_ids.2 x hx
        simp; omega
      rw [this]
      simp
    have e1 : (a.addPair l r).1.localOf (a.addPair l r).2.l = some l' := hl1
    have e2 : (a.addPair l r).1.remoteOf (a.addPair l r).2.r = some r' := hr1
    rw [pairAddrs_of hpb e1 e2, addr_of_core hl2, addr_of_core hr2]

theorem resolveSource_spec {a : Agent} (hi : Inv a) (hc : a.closed = false) (l : Cand) (src : Nat) (m : Msg)
    {a1 : Agent} {o0 : List Out} {r : Cand} (hres : resolveSource a l src m = (a1, o0, some r)) :
    Inv a1 ∧ G true none none none a a1 ∧ a1.locals = a.locals ∧ core r ∈ rcsOf a1 ∧ r.addr = src ∧
    a1.core = a.core := by
  have hg := resolveSource_g hi hc l src m
  have hcore := core_resolveSource a l src m
  have hd := (resolveSource_discovered a l src m).1
  rw [hres] at hg hcore hd
  simp only [] at hg hcore hd
  have hinv : Inv a1 := by
    unfold resolveSource at hres
    split at hres
    · simp only [Prod.mk.injEq] at hres
      rw [← hres.1]; exact hi
    · have := (hi.addRemoteCandidate (Agent.prflxCand l src m) hc).1
      rw [hres] at this; exact this
  have hra : core r ∈ rcsOf a1 ∧ r.addr = src := by
    unfold resolveSource at hres
    split at hres
    · rename_i r0 hr0
      simp only [Prod.mk.injEq, Option.some.injEq] at hres
      obtain ⟨rfl, _, rfl⟩ := hres
      obtain ⟨h1, _, h3⟩ := findRemote_listed hr0
      exact ⟨mem_rcsOf h1, h3⟩
    · have h3 := (hi.addRemoteCandidate (Agent.prflxCand l src m) hc).2.2 r (by rw [hres])
      rw [hres] at h3
      exact ⟨h3.1, h3.2.2⟩
  exact ⟨hinv, hg, hd.locals, hra.1, hra.2, hcore⟩

end IceProofs.C20S

import IceProofs.Sys2C01LiveLinked
import IceProofs.Sys2C01LiveJump
/-!
# C01 liveness — the clock advance

`AdvEffect`: what a clock advance within the horizon does to the system (both agents run their due ticks); what it keeps
(`X.adv`); a request sent by a tick of the controlling agent as an open transaction of the system (`tick_ob`,
`sys_tick_nominate`); nomination seen, request budget, `nomTime`.
-/
namespace IceProofs.C01Live
open IceModel.AgentCore IceModel.Sys2 IceProofs.Sys2Run IceProofs.C01 IceProofs.Agent

section
variable {nat blocked : List (Nat × Nat)} {SLA SLB SR : Nat → Prop} {liteA liteB : Bool} {T0 H : Nat} {c : Bool}

theorem advance_struct (s : Sys) (T : Nat) (hb : s.hasB = true) :
    (s.advance T).1.a = (step s.a (.advance T)).1 ∧ (s.advance T).1.b = (step s.b (.advance T)).1 ∧
    (s.advance T).1.inflight = s.inflight ++ dgramsOf (step s.a (.advance T)).2 ++ dgramsOf (step s.b (.advance T)).2 ∧
    (s.advance T).1.now = T ∧ (s.advance T).1.nat = s.nat ∧ (s.advance T).1.blocked = s.blocked ∧
    (s.advance T).1.hasB = s.hasB := by
  simp [Sys.advance, Sys.agentEv, Sys.setAgent, Sys.agent, hb]

theorem advance_agent (s : Sys) (T : Nat) (hb : s.hasB = true) (x : Bool) :
    (s.advance T).1.agent x = (step (s.agent x) (.advance T)).1 := by
  obtain ⟨h1, h2, _⟩ := advance_struct s T hb
  cases x
  · exact h1
  · exact h2

/-- what a clock advance does -/
structure AdvEffect (T0 T : Nat) (s s' : Sys) : Prop where
  net : SameNet s s'
  now : s'.now = T
  ids : ∀ x, SameId (s.agent x) (s'.agent x)
  lk : ∀ x, LK T0 T none (s.agent x) (s'.agent x)
  agent : ∀ x, s'.agent x = (step (s.agent x) (.advance T)).1
  flight : s'.inflight = s.inflight ++ dgramsOf (step s.a (.advance T)).2 ++ dgramsOf (step s.b (.advance T)).2

theorem advance_effect_any {s : Sys} (h : SysOK nat blocked SLA SLB SR liteA liteB T0 H c s) (T : Nat) (h0 : T0 ≤ T) (hT : T ≤ H) :
    SysOK nat blocked SLA SLB SR liteA liteB T0 H c (s.advance T).1 ∧ AdvEffect T0 T s (s.advance T).1 := by
  refine ⟨h.advanceAny T h0 hT, ?_⟩
  obtain ⟨q1, q2, q3, q4, q5, q6, q7⟩ := advance_struct s T h.paired.hasB
  have hag := advance_agent s T h.paired.hasB
  have hg : ∀ x, Good T0 H ((s.advance T).1.agent x) ∧ LK T0 T none (s.agent x) ((s.advance T).1.agent x) ∧
      SameId (s.agent x) ((s.advance T).1.agent x) := by
    intro x
    rw [hag]
    exact step_advance_good hT (h.good x)
  exact ⟨sameNet_of q5 q6 q7 (fun x => (hg x).2.1.locals) (fun x => (hg x).2.2.closed), q4, fun x => (hg x).2.2,
    fun x => (hg x).2.1, hag, q3⟩

theorem AdvEffect.mem {T : Nat} {s s' : Sys} (he : AdvEffect T0 T s s') {d : Dgram} (hd : d ∈ s.inflight) : d ∈ s'.inflight := by
  rw [he.flight]
  exact List.mem_append_left _ (List.mem_append_left _ hd)

theorem AdvEffect.new_req {T : Nat} {s s' : Sys} (h : SysOK nat blocked SLA SLB SR liteA liteB T0 H c s) (hT : T ≤ H)
    (he : AdvEffect T0 T s s') {d : Dgram} (hd : d ∈ s'.inflight) : d ∈ s.inflight ∨ ∃ m, d.p = .stun m ∧ m.cls = 0 := by
  rw [he.flight] at hd
  have key : ∀ x, d ∈ dgramsOf (step (s.agent x) (.advance T)).2 → ∃ m, d.p = .stun m ∧ m.cls = 0 := by
    intro x hx
    unfold dgramsOf at hx
    obtain ⟨o, ho, hod⟩ := List.mem_filterMap.mp hx
    cases o with
    | dgram f t m =>
      simp at hod; subst hod
      exact ⟨m, rfl, (runTimers_reqs' hT 100000 (h.good x)).2 f t m ho⟩
    | data f t n => exact absurd ho (runTimers_noData _ _ _ f t n)
    | cbState _ => simp at hod
    | cbPair _ _ => simp at hod
    | cbCand _ => simp at hod
    | res _ => simp at hod
  rcases List.mem_append.mp hd with hd | hd
  · rcases List.mem_append.mp hd with hd | hd
    · exact Or.inl hd
    · exact Or.inr (key false hd)
  · exact Or.inr (key true hd)

theorem HasSucc.adv {T : Nat} {s s' : Sys} (he : AdvEffect T0 T s s') {x : Bool} (g : HasSucc s x) : HasSucc s' x := by
  obtain ⟨p, hp, hs⟩ := g
  obtain ⟨p', hp', kp⟩ := (he.lk x).mem_pair hp
  exact ⟨p', hp', kp.succ hs⟩

theorem Sel.adv {T : Nat} {s s' : Sys} (he : AdvEffect T0 T s s') {x : Bool} (g : Sel s x) : Sel s' x := (he.lk x).sel g

theorem Goal.adv {T : Nat} {s s' : Sys} (he : AdvEffect T0 T s s') {x : Bool} {uc nomOn : Bool} (g : Goal c s x uc nomOn) :
    Goal c s' x uc nomOn := ⟨g.1.adv he, fun hc => (g.2 hc).adv he⟩

theorem Ob.adv {T : Nat} {s s' : Sys} (h : SysOK nat blocked SLA SLB SR liteA liteB T0 H c s) (he : AdvEffect T0 T s s')
    {x : Bool} {tid la ra : Nat} {uc nomOn : Bool} {ts : Nat} (hob : Ob s x tid la ra uc nomOn ts)
    (hy : T - ts < maxBindingRequestTimeout) : Ob s' x tid la ra uc nomOn ts := by
  refine ⟨he.net.link hob.link, ?_, ?_, by rw [he.now]; exact hy⟩
  · obtain ⟨pd, h1, h2⟩ := hob.pend
    exact ⟨pd, (he.lk x).pend tid pd h1 (by rw [h2.2.2.2.2.2]; exact hy) (by simp), h2⟩
  · exact hob.slot.lk h (he.lk x)

theorem AdvEffect.same {T : Nat} {s s' : Sys} (he : AdvEffect T0 T s s') : Same s s' := ⟨he.net, he.ids⟩

theorem Ch1.adv {T : Nat} {s s' : Sys} (h : SysOK nat blocked SLA SLB SR liteA liteB T0 H c s) (he : AdvEffect T0 T s s')
    {x : Bool} {tid la ra : Nat} {uc nomOn : Bool} {ts : Nat} (g : Ch1 c s x tid la ra uc nomOn ts)
    (hy : T - ts < maxBindingRequestTimeout) : Ch1 c s' x tid la ra uc nomOn ts := by
  rcases g with (g | ⟨hob, d, hd, hr⟩) | ⟨hob, d, hd, hr⟩
  · exact Or.inl (Or.inl (g.adv he))
  · exact Or.inl (Or.inr ⟨hob.adv h he hy, d, he.mem hd, hr.same he.same⟩)
  · exact Or.inr ⟨hob.adv h he hy, d, he.mem hd, hr.same he.same⟩

theorem DP.adv {T : Nat} {s s' : Sys} (h : SysOK nat blocked SLA SLB SR liteA liteB T0 H c s) (he : AdvEffect T0 T s s')
    (g : DP c s true) (hy : T - s.now < maxBindingRequestTimeout) : DP c s' false := by
  rcases g with g | ⟨tid, lb, rb, ts, g, hf⟩
  · exact Or.inl (g.adv he)
  · exact Or.inr ⟨tid, lb, rb, ts, g.adv h he (by rw [hf rfl]; exact hy), fun hx => by cases hx⟩

theorem tick_ob {s : Sys} (h : SysOK nat blocked SLA SLB SR liteA liteB T0 H c s) {T ts : Nat}
    (he : AdvEffect T0 T s (s.advance T).1) {p : Pair} (hp : p ∈ (s.agent c).checklist) {l r : Cand}
    (hl : (s.agent c).localOf p.l = some l) (hr : (s.agent c).remoteOf p.r = some r) (hlink : Link s c l.addr r.addr)
    {uc : Bool} {m : Msg} (hout : Out.dgram l.addr r.addr m ∈ (step (s.agent c) (.advance T)).2) (hreq : IsReq (s.agent c) uc m)
    (hpend : (step (s.agent c) (.advance T)).1.pending.find? (·.tid == m.tid) = some (pendOf m.tid l.addr r.addr r.net uc ts))
    (hy : T - ts < maxBindingRequestTimeout) :
    Ob (s.advance T).1 c m.tid l.addr r.addr uc false ts ∧
    ∃ d ∈ (s.advance T).1.inflight, ReqD (s.advance T).1 c m.tid l.addr r.addr uc d ∧ (uc = true → NomD c (s.advance T).1 l.addr r.addr d) := by
  have hg := h.good c
  have hrnet : r.net = 0 := (hg.linv.remOK.1 r ((findCand_listed hr).1)).1
  obtain ⟨s1, s2, q, s3⟩ := slot_of_pair hg.locOK hg.linv.remOK hp hl hr
  obtain ⟨l', hl', el⟩ := (he.lk c).localByAddr s1
  obtain ⟨r', hr', er⟩ := (he.lk c).findRemote s2
  obtain ⟨q', hq', _⟩ := (he.lk c).findPair (endsOK_of_c06 (h.c06 c) hg.open_) el er.key s3
  refine ⟨⟨he.net.link hlink, ⟨_, by rw [he.agent c]; exact hpend, rfl, rfl, hrnet, rfl, rfl, rfl⟩,
    ⟨l', r', q', hl', hr', hq', fun hx => by cases hx⟩, by rw [he.now]; exact hy⟩, ?_⟩
  refine ⟨{ src := l.addr, dst := r.addr, p := .stun m }, ?_, ⟨rfl, rfl, m, rfl, hreq.congr (he.ids c), rfl⟩,
    fun hu => ⟨rfl, rfl, m, rfl, by subst hu; exact hreq.congr (he.ids c)⟩⟩
  rw [he.flight]
  have := mem_dgramsOf_of_dgram hout
  cases c
  · exact List.mem_append_left _ (List.mem_append_right _ this)
  · exact List.mem_append_right _ this

theorem sys_tick_nominate {s : Sys} (h : SysOK nat blocked SLA SLB SR liteA liteB T0 H c s) {T : Nat} (hT : T ≤ H)
    (he : AdvEffect T0 T s (s.advance T).1) (htk : (s.agent c).nextTick = some T) (hsel : ¬ Sel s c) (hsucc : HasSucc s c)
    (htime : (s.agent c).selStart + Config.maxWait (s.agent c).cfg ≤ T) :
    ∃ tid la ra, Ch1 c (s.advance T).1 c tid la ra true false T ∧ Link (s.advance T).1 c la ra ∧
      ∃ d ∈ (s.advance T).1.inflight, NomD c (s.advance T).1 la ra d := by
  have hctl : (s.agent c).controlling = true := by rw [h.paired.role]; simp
  have hs := sel_none hsel
  obtain ⟨p, l, r, m, hp, hps, hl, hr, q1, q2, q3⟩ := agent_tick_nominate (h.good c) hT htk hctl hs hsucc htime
  obtain ⟨LA, LB, hsi⟩ := h.sinv
  have hlink := link_of_succ hsi h.topo h.paired (fun x => (h.good x).open_) (h.good c).full hp hps hl hr
  obtain ⟨ob, d, hd, hrd, hnd⟩ := tick_ob h he hp hl hr hlink q1 q2 q3 (by rw [Nat.sub_self]; decide)
  exact ⟨m.tid, l.addr, r.addr, Or.inr ⟨ob, d, hd, hrd⟩, he.net.link hlink, d, hd, hnd rfl⟩

theorem NomSeen.adv_back {T : Nat} {s : Sys} (h : SysOK nat blocked SLA SLB SR liteA liteB T0 H c s) (hT : T ≤ H)
    (h1 : SysOK nat blocked SLA SLB SR liteA liteB T0 H c (s.advance T).1) (he : AdvEffect T0 T s (s.advance T).1)
    (hsel : (step (s.agent c) (.advance T)).1.selected = (s.agent c).selected) (g : NomSeen c (s.advance T).1) :
    NomSeen c s := by
  rcases g with g | ⟨d, hd, m, hm, hc, pd, hpd, hpt, hpu⟩
  · left
    unfold Sel at *
    rw [he.agent c, hsel] at g
    exact g
  · right
    rcases he.new_req h hT hd with hold | ⟨m', hm', hc'⟩
    · obtain ⟨LA, LB, hsi⟩ := h.sinv
      obtain ⟨LA', LB', hsi'⟩ := h1.sinv
      obtain ⟨z, n, hn, en⟩ := sinv_resp_tid hsi hold hm hc
      exact ⟨d, hold, m, hm, hc, pd, pending_old_step hsi hsi' (he.agent c) hpd hn (hpt.trans en), hpt, hpu⟩
    · rw [hm] at hm'; cases hm'; rw [hc] at hc'; cases hc'

/-- a pair of the controlling agent that is waiting / in progress, under its request budget, on a `Link` -/
def BudgetPair (c : Bool) (s : Sys) : Prop :=
  ∃ p ∈ (s.agent c).checklist, (p.state = .waiting ∨ p.state = .inProgress) ∧ p.reqCount ≤ (s.agent c).cfg.maxBindingRequests ∧
    ∃ l r, (s.agent c).localOf p.l = some l ∧ (s.agent c).remoteOf p.r = some r ∧ Link s c l.addr r.addr

/-- the time the controlling agent may nominate from: selector start + the longest acceptance wait -/
def nomTime (c : Bool) (s : Sys) : Nat := (s.agent c).selStart + Config.maxWait (s.agent c).cfg

/-- the fields of an agent no suffix event changes -/
def Static (s s' : Sys) : Prop := ∀ x, (s'.agent x).selStart = (s.agent x).selStart ∧ (s'.agent x).cfg = (s.agent x).cfg

theorem Static.refl (s : Sys) : Static s s := fun _ => ⟨rfl, rfl⟩
theorem Static.trans {s1 s2 s3 : Sys} (h1 : Static s1 s2) (h2 : Static s2 s3) : Static s1 s3 :=
  fun x => ⟨(h2 x).1.trans (h1 x).1, (h2 x).2.trans (h1 x).2⟩

end

end IceProofs.C01Live

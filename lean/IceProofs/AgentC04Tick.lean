import IceProofs.AgentC04Sel
import IceProofs.AgentAuto
/-!
# C04 — the timer side

`stateForDisconnection` and its edges; `TickEff`: what a tick does to the connection state — a path of timer edges, and
everything released where it notifies Failed.  It holds of `setConnState` called for the reasons the tick has
(`setConnState_eff`), hence of every move of the tick (`tick_move`) and of `runForced`, `runTimers`.  Then the exact rules
of one tick: the tick rule (`contact_tick_rule`) and the checking deadline (`contact_checking`).
-/
namespace IceProofs.AgentC04
open IceModel.AgentCore IceProofs.Agent

/-- edges a timer tick can take -/
def tickEdge (cfg : Config) : ConnState → ConnState → Bool
  | .checking, .failed => true
  | .connected, .disconnected => true
  | .disconnected, .connected => true
  | .disconnected, .failed => true
  | .connected, .failed => cfg.disconnectedTimeout == 0
  | _, _ => false

/-- `totalTimeToFailure` of `validateSelectedPair` -/
def totalToFailure (cfg : Config) : Nat :=
  if cfg.failedTimeout != 0 then cfg.failedTimeout + cfg.disconnectedTimeout else 0

/-- everything `updateConnectionState(Failed)` releases -/
def Wiped (a : Agent) : Prop :=
  a.checklist = [] ∧ a.locals = [] ∧ a.remotes = [] ∧ a.selected = none ∧ a.pending = []

theorem wipe_wiped (a : Agent) : Wiped a.wipe := ⟨rfl, rfl, rfl, rfl, rfl⟩

theorem sfd_range (cfg : Config) (cur : ConnState) (d : Option Nat) (total : Nat) :
    stateForDisconnection cfg cur d total = .connected ∨ stateForDisconnection cfg cur d total = .disconnected ∨
    stateForDisconnection cfg cur d total = .failed := by
  unfold stateForDisconnection
  simp only
  repeat' split
  all_goals simp

theorem sfd_some (cfg : Config) (cur : ConnState) (d total : Nat) :
    stateForDisconnection cfg cur (some d) total =
      if total ≠ 0 ∧ total < d then
        (if (cfg.disconnectedTimeout ≠ 0 ∧ cfg.disconnectedTimeout < d) ∧ cur ≠ .disconnected ∧ cur ≠ .failed
          then .disconnected else .failed)
      else if cfg.disconnectedTimeout ≠ 0 ∧ cfg.disconnectedTimeout < d then .disconnected else .connected := by
  unfold stateForDisconnection
  simp only [Bool.and_eq_true, bne_iff_ne, ne_eq, decide_eq_true_eq, gt_iff_lt, and_assoc]

theorem sfd_none (cfg : Config) (cur : ConnState) (total : Nat) :
    stateForDisconnection cfg cur none total =
      if total ≠ 0 then
        (if cfg.disconnectedTimeout ≠ 0 ∧ cur ≠ .disconnected ∧ cur ≠ .failed then .disconnected else .failed)
      else if cfg.disconnectedTimeout ≠ 0 then .disconnected else .connected := by
  unfold stateForDisconnection
  simp only [Bool.and_eq_true, bne_iff_ne, ne_eq, Bool.and_true, and_assoc]

theorem totalToFailure_eq (cfg : Config) :
    totalToFailure cfg = if cfg.failedTimeout ≠ 0 then cfg.failedTimeout + cfg.disconnectedTimeout else 0 := by
  unfold totalToFailure
  by_cases h : cfg.failedTimeout = 0 <;> simp [h]

theorem sfd_connected_failed (cfg : Config) (d : Option Nat)
    (h : stateForDisconnection cfg .connected d (totalToFailure cfg) = .failed) : cfg.disconnectedTimeout = 0 := by
  have ht := totalToFailure_eq cfg
  generalize totalToFailure cfg = total at ht h
  have hle : total ≠ 0 → cfg.disconnectedTimeout ≤ total := by
    intro h0
    split at ht <;> omega
  by_cases h0 : cfg.disconnectedTimeout = 0
  · exact h0
  exfalso
  cases d with
  | none =>
    rw [sfd_none] at h
    simp [h0] at h
  | some d =>
    rw [sfd_some] at h
    simp only [ne_eq, h0, not_false_eq_true, true_and, reduceCtorEq, and_self, and_true] at h
    split at h
    · rename_i h1
      split at h
      · cases h
      · have := hle h1.1
        omega
    · split at h <;> cases h

theorem sfd_edge (cfg : Config) (cur : ConnState) (d : Option Nat) (hcur : cur = .connected ∨ cur = .disconnected) :
    stateForDisconnection cfg cur d (totalToFailure cfg) = cur ∨
    tickEdge cfg cur (stateForDisconnection cfg cur d (totalToFailure cfg)) = true := by
  rcases hcur with rfl | rfl <;> rcases sfd_range cfg _ d (totalToFailure cfg) with h | h | h
  · exact Or.inl h
  · exact Or.inr (by rw [h]; rfl)
  · exact Or.inr (by rw [h, tickEdge, sfd_connected_failed cfg d h]; rfl)
  · exact Or.inr (by rw [h]; rfl)
  · exact Or.inl h
  · exact Or.inr (by rw [h]; rfl)
theorem sfd_not_failed (cfg : Config) (cur : ConnState) (d : Option Nat) (h : cfg.failedTimeout = 0) :
    stateForDisconnection cfg cur d (totalToFailure cfg) ≠ .failed := by
  have ht : totalToFailure cfg = 0 := by rw [totalToFailure_eq]; simp [h]
  rw [ht]
  cases d with
  | none => rw [sfd_none]; simp only [ne_eq, not_true_eq_false, if_false]; split <;> simp
  | some d => rw [sfd_some]; simp only [ne_eq, not_true_eq_false, false_and, if_false]; split <;> simp

structure TickEff (a : Agent) (r : Agent × List Out) : Prop where
  frame : Frame a r.1
  good : Good r.1
  path : pathFrom (tickEdge a.cfg) a.connState (states r.2) = true
  last : endState a.connState (states r.2) = r.1.connState
  released : ConnState.failed ∈ states r.2 → Wiped r.1 ∧ r.1.connState = .failed
  nofail : a.cfg.failedTimeout = 0 → (a.started = true → a.checkingTimeout = 0) → ConnState.failed ∉ states r.2

theorem TickEff.of_quiet {a : Agent} {r : Agent × List Out} (g : Good a) (q : QuietO a r) : TickEff a r :=
  ⟨q.1.frame, g.of_quiet q.1, by rw [q.2]; rfl, by rw [q.2]; exact q.1.connState.symm, by rw [q.2]; simp,
   by rw [q.2]; simp⟩

theorem TickEff.refl {a : Agent} (g : Good a) : TickEff a (a, []) := TickEff.of_quiet g (QuietO.refl a)

theorem TickEff.comp {a : Agent} {r r' : Agent × List Out} (h1 : TickEff a r) (h2 : TickEff r.1 r')
    (hstay : r.1.connState = .failed → Wiped r.1 → states r'.2 = [] ∧ Wiped r'.1) :
    TickEff a (r'.1, r.2 ++ r'.2) := by
  refine ⟨h1.frame.trans h2.frame, h2.good, ?_, ?_, ?_, ?_⟩
  rotate_left 3
  · intro hf hct
    simp only [states_append, List.mem_append]
    rintro (hm | hm)
    · exact h1.nofail hf hct hm
    · exact h2.nofail (h1.frame.cfg ▸ hf) (fun hs => by rw [h1.frame.ctimeout]; exact hct (h1.frame.started ▸ hs)) hm
  · simp only [states_append]
    rw [pathFrom_append, h1.path, h1.last, ← h1.frame.cfg, h2.path]; rfl
  · simp only [states_append]
    rw [endState_append, h1.last, h2.last]
  · simp only [states_append, List.mem_append]
    intro hm
    by_cases h2m : ConnState.failed ∈ states r'.2
    · exact h2.released h2m
    · have h1m : ConnState.failed ∈ states r.2 := by
        rcases hm with h | h
        · exact h
        · exact absurd h h2m
      obtain ⟨w, c⟩ := h1.released h1m
      obtain ⟨e, w'⟩ := hstay c w
      refine ⟨w', ?_⟩
      have := h2.last
      rw [e, c] at this
      exact this.symm

theorem TickEff.upd {a : Agent} {r : Agent × List Out} {c : Agent} (h : TickEff a r)
    (hc : (c.cfg, c.closed, c.started, c.checkingTimeout, c.locals, c.connState, c.selected, c.checklist, c.remotes, c.pending) =
      (r.1.cfg, r.1.closed, r.1.started, r.1.checkingTimeout, r.1.locals, r.1.connState, r.1.selected, r.1.checklist,
        r.1.remotes, r.1.pending)) : TickEff a (c, r.2) := by
  simp only [Prod.mk.injEq] at hc
  obtain ⟨h1, h2, h3, h4, h5, h6, h7, h8, h9, h10⟩ := hc
  have g := h.good
  refine ⟨h.frame.trans ⟨h1, h2, h3, h4, fun hl => h5.trans hl⟩, ⟨h2.trans g.notClosed, h6 ▸ g.live, by rw [h6, h3]; exact g.newIff,
    by rw [h6, h7]; exact g.sel⟩, h.path, by rw [h6]; exact h.last, fun hm => ?_, h.nofail⟩
  obtain ⟨⟨w1, w2, w3, w4, w5⟩, hf⟩ := h.released hm
  exact ⟨⟨h8.trans w1, h5.trans w2, h9.trans w3, h7.trans w4, h10.trans w5⟩, h6.trans hf⟩

theorem why_tick {cx : Ctx} {a : Agent} {s : ConnState} (g : Good a) (hs : ¬cx.may .session) (hne : a.connState ≠ s)
    (hw : StateWhy cx a s) :
    a.started = true ∧ tickEdge a.cfg a.connState s = true ∧ (s = .connected ∨ s = .disconnected ∨ s = .failed) ∧
      (s = .failed → a.cfg.failedTimeout = 0 → (a.started = true → a.checkingTimeout = 0) → False) := by
  cases hw with
  | validate now p _ hp hX =>
    have hsel : a.selected.isSome = true := by
      cases h : a.selected with
      | none => simp [h] at hp
      | some _ => rfl
    have hedge := sfd_edge a.cfg a.connState ((a.remoteOf p.r).bind (silence now)) (g.sel.mp hsel)
    have hrange := sfd_range a.cfg a.connState ((a.remoteOf p.r).bind (silence now)) (totalToFailure a.cfg)
    have hX : s = stateForDisconnection a.cfg a.connState ((a.remoteOf p.r).bind (silence now)) (totalToFailure a.cfg) := hX
    rw [← hX] at hedge hrange
    exact ⟨g.started_of_sel hsel, hedge.resolve_left fun h => hne h.symm, hrange, fun hf h0 _ =>
      sfd_not_failed a.cfg a.connState _ h0 (hX.symm.trans hf)⟩
  | deadline now _ hc ht hf =>
    subst hf
    have hst : a.started = true := by
      cases h : a.started
      · have := g.newIff.mpr h; rw [hc] at this; cases this
      · rfl
    refine ⟨hst, by rw [hc]; rfl, Or.inr (Or.inr rfl), fun _ _ h0 => ?_⟩
    rw [h0 hst] at ht
    simp at ht
  | checking h _ => exact absurd h hs
  | close h _ _ => exact absurd h hs

theorem setConnState_eff {cx : Ctx} {a : Agent} {s : ConnState} (g : Good a) (hs : ¬cx.may .session) (hw : StateWhy cx a s) :
    TickEff a (a.setConnState s) := by
  by_cases hne : a.connState = s
  · rw [setConnState_same_eq a s hne]; exact TickEff.refl g
  obtain ⟨hst, hedge, hr, hnf⟩ := why_tick g hs hne hw
  have hnew : ∀ b : Agent, b.started = a.started → (s = .new ↔ b.started = false) := fun b hb =>
    ⟨fun h => (by rcases hr with rfl | rfl | rfl <;> cases h), fun h => (by rw [hb, hst] at h; cases h)⟩
  by_cases hf : s = .failed
  · subst hf
    rw [setConnState_failed_eq a hne]
    exact ⟨⟨rfl, rfl, rfl, rfl, fun _ => rfl⟩,
      ⟨g.notClosed,
        show ConnState.failed ≠ .closed ∧ ConnState.failed ≠ .unknown ∧ ConnState.failed ≠ .completed by decide, hnew _ rfl,
        show (none : Option Nat).isSome = true ↔ ConnState.failed = .connected ∨ ConnState.failed = .disconnected by
          decide⟩,
      by simp [pathFrom, hedge], rfl, fun _ => ⟨wipe_wiped a, rfl⟩, fun h0 h1 _ => hnf rfl h0 h1⟩
  · have hsel : a.selected.isSome = true := by
      cases hw with
      | validate _ _ _ hp _ => cases h : a.selected with
        | none => simp [h] at hp
        | some _ => rfl
      | deadline _ _ _ _ h => exact absurd h hf
      | checking h _ => exact absurd h hs
      | close h _ _ => exact absurd h hs
    have hr' : s = .connected ∨ s = .disconnected := by
      rcases hr with h | h | h
      · exact Or.inl h
      · exact Or.inr h
      · exact absurd h hf
    rw [setConnState_ne a s hne hf]
    refine ⟨⟨rfl, rfl, rfl, rfl, fun h => h⟩, ⟨g.notClosed, ?_, hnew _ rfl, ?_⟩, by simp [pathFrom, hedge], rfl, ?_, ?_⟩
    · show s ≠ .closed ∧ s ≠ .unknown ∧ s ≠ .completed
      rcases hr' with rfl | rfl <;> decide
    · show a.selected.isSome = true ↔ s = .connected ∨ s = .disconnected
      exact ⟨fun _ => hr', fun _ => hsel⟩
    · intro hm
      exact absurd (List.mem_singleton.mp hm).symm hf
    · intro _ _ hm
      exact absurd (List.mem_singleton.mp hm).symm hf

/-- contexts of the tick: no candidate is listed, no pair selected, no session call, and checks are sent between listed
candidates -/
structure Ticking (cx : Ctx) : Prop where
  session : ¬cx.may .session
  locals : ¬cx.may .locals
  remotes : ¬cx.may .remotes
  select : ¬cx.may .select
  strict : cx.strict

/-- the effect of the tick on an agent that satisfies the invariant — and none on an agent that has failed and released
everything -/
def TickRel (a : Agent) (r : Agent × List Out) : Prop :=
  (Good a → TickEff a r) ∧ (a.connState = .failed → Wiped a → states r.2 = [] ∧ Wiped r.1 ∧ r.1.connState = .failed)

theorem TickRel.of_quiet {a : Agent} {r : Agent × List Out} (q : QuietO a r) (hw : Wiped a → Wiped r.1) : TickRel a r :=
  ⟨fun g => TickEff.of_quiet g q, fun hf w => ⟨q.2, hw w, q.1.connState.trans hf⟩⟩

theorem TickRel.seq {a : Agent} {r1 r2 : Agent × List Out} (h1 : TickRel a r1) (h2 : TickRel r1.1 r2) :
    TickRel a (r2.1, r1.2 ++ r2.2) := by
  refine ⟨fun g => (h1.1 g).comp (h2.1 (h1.1 g).good) fun hf w => ⟨(h2.2 hf w).1, (h2.2 hf w).2.1⟩, fun hf w => ?_⟩
  obtain ⟨e1, w1, c1⟩ := h1.2 hf w
  obtain ⟨e2, w2, c2⟩ := h2.2 c1 w1
  exact ⟨by rw [states_append, e1, e2]; rfl, w2, c2⟩

/-- Once the agent has failed nothing is listed, so that no check is sent and no pair formed: whatever the tick still does
leaves it as it is. -/
theorem tick_move {cx : Ctx} (T : Ticking cx) {a : Agent} {r : Agent × List Out} (h : Move cx a r) : TickRel a r := by
  have unlisted : ∀ {l : Cand}, Listed a.locals l → Wiped a → False := fun ⟨_, hd, _⟩ w => by rw [w.2.1] at hd; cases hd
  cases h with
  | connState s hne hf hw =>
    refine ⟨fun g => by rw [← setConnState_ne a s hne hf]; exact setConnState_eff g T.session hw, fun hfl w => ?_⟩
    cases hw with
    | validate _ _ _ hp => rw [w.2.2.2.1] at hp; cases hp
    | deadline _ _ hc => rw [hfl] at hc; cases hc
    | checking h => exact absurd h T.session
    | close h => exact absurd h T.session
  | failed hne hw =>
    exact ⟨fun g => by rw [← setConnState_failed_eq a hne]; exact setConnState_eff g T.session hw, fun hfl => absurd hfl hne⟩
  | sawState => exact ⟨fun g => (TickEff.refl g).upd rfl, fun hf w => ⟨rfl, w, hf⟩⟩
  | checkingStart now => exact ⟨fun g => (TickEff.refl g).upd rfl, fun hf w => ⟨rfl, w, hf⟩⟩
  | pair id f =>
    exact .of_quiet ⟨modPair_quiet a id f, rfl⟩ fun w => ⟨by show updPair a.checklist id f = []; rw [w.1]; rfl, w.2⟩
  | addPair l r hp => exact .of_quiet ⟨addPair_quiet a l r, rfl⟩ fun w => (unlisted (hp T.strict).loc w).elim
  | request now l r uc hs =>
    exact .of_quiet (sendRequest_quiet a now l r uc none) fun w => (unlisted (hs T.strict).loc w).elim
  | issue now l r v _ hl =>
    exact .of_quiet ((sendRequest_quiet a now l r true _).then_quiet (.of_fields rfl)) fun w => (unlisted hl w).elim
  | expire now =>
    exact .of_quiet ⟨.of_fields rfl, rfl⟩ fun w =>
      ⟨w.1, w.2.1, w.2.2.1, w.2.2.2.1, by show List.filter _ a.pending = []; rw [w.2.2.2.2]; rfl⟩
  | take tid =>
    exact .of_quiet ⟨.of_fields rfl, rfl⟩ fun w =>
      ⟨w.1, w.2.1, w.2.2.1, w.2.2.2.1, by show List.filter _ a.pending = []; rw [w.2.2.2.2]; rfl⟩
  | seenLocalSent uid now =>
    exact .of_quiet ⟨seenLocalSent_quiet a uid now, rfl⟩ fun w =>
      ⟨w.1, by show updCand a.locals _ _ = []; rw [w.2.1]; rfl, w.2.2⟩
  | seenRemoteRecv uid now =>
    exact .of_quiet ⟨.of_fields rfl, rfl⟩ fun w =>
      ⟨w.1, w.2.1, by show updCand a.remotes _ _ = []; rw [w.2.2.1]; rfl, w.2.2.2⟩
  | select _ _ h => exact absurd h T.select
  | newLocal _ _ _ h => exact absurd h T.locals
  | newRemote _ _ h => exact absurd h T.remotes
  | dropRemotes _ h => exact absurd h T.remotes
  | armChecks h => exact absurd h T.session
  | start _ _ _ _ h => exact absurd h T.session
  | restart _ _ _ h => exact absurd h T.session
  | close h => exact absurd h T.session
  | _ => exact .of_quiet ⟨.of_fields rfl, rfl⟩ fun w => w

theorem tick_chain {cx : Ctx} (T : Ticking cx) {a : Agent} {r : Agent × List Out} (h : Chain cx a r) : TickRel a r :=
  Chain.ind (R := TickRel) (fun a => .of_quiet (QuietO.refl a) id) (fun _ _ => tick_move T) TickRel.seq h

theorem Ticking.idle : Ticking .idle := ⟨by decide, by decide, by decide, by decide, trivial⟩

theorem runForced_eff (a : Agent) (now : Nat) (g : Good a) : TickEff a (a.runForced now) :=
  (tick_chain .idle (Chain.runForced a now)).1 g

theorem runTimers_eff (a : Agent) (now fuel : Nat) (g : Good a) : TickEff a (a.runTimers now fuel) :=
  (tick_chain .idle (Chain.runTimers a now fuel)).1 g

theorem nominate_after (a x : Agent) (np : Option Nat) (now : Nat) (p : Pair) (hx : Quiet a x) :
    QuietO a (({ x with nominatedPair := np } : Agent).nominate now p) := by
  have hq : Quiet x ({ x with nominatedPair := np } : Agent) := .of_fields rfl
  exact QuietO.after_quiet (hx.trans hq) (nominate_quiet _ _ _)

theorem validateSelected_none (a : Agent) (now : Nat) (h : a.selected = none) : a.validateSelected now = (a, [], false) := by
  unfold Agent.validateSelected
  simp [h]

theorem autoRenom_quiet (a : Agent) (now : Nat) : QuietO a (a.autoRenom now) := by
  refine IceProofs.Auto.autoRenom_parts (P := fun x => QuietO a x) ?_ a (QuietO.refl a)
  exact {
    mark := fun b _ id _ h _ _ => QuietO.then_quiet h (modPair_quiet b id _)
    ping := fun b _ l r h _ _ => QuietO.trans h (ping_quiet b now l r)
    time := fun _ _ h => QuietO.then_quiet h (.of_fields rfl)
    count := fun _ _ h => QuietO.then_quiet h (.of_fields rfl)
    issue := fun b _ l r nom h _ _ _ _ _ => QuietO.trans h (sendRequest_quiet b now l r true nom)
    log := fun _ _ _ h => QuietO.then_quiet h (.of_fields rfl) }

theorem contactCandidates_quiet (a : Agent) (now : Nat) (h : a.selected = none) : QuietO a (a.contactCandidates now) :=
  contactCandidates_rule (Q := QuietO a) a now (fun _ _ hs => by rw [h] at hs; cases hs)
    (fun p _ _ _ => nominate_quiet a now p) (QuietO.refl a)
    (fun p _ _ _ _ _ _ _ _ => nominate_after a _ _ now p (modPair_quiet _ _ _)) (fun _ => pingAll_quiet a now)
    (fun _ => by rw [validateSelected_none a now h]; exact QuietO.refl a)

theorem wiped_lastSeen {a : Agent} (s : ConnState) (h : Wiped a) : Wiped { a with lastSeen := s } := h

theorem chk_frame (a : Agent) (now : Nat) : Frame a (C03.chk a now) := by
  unfold C03.chk; split
  · exact ⟨rfl, rfl, rfl, rfl, fun h => h⟩
  · exact Frame.refl a

theorem chk_connState (a : Agent) (now : Nat) : (C03.chk a now).connState = a.connState := by
  unfold C03.chk; split <;> rfl

theorem chk_selected (a : Agent) (now : Nat) : (C03.chk a now).selected = a.selected := by
  unfold C03.chk; split <;> rfl

theorem contact_stay (a : Agent) (now : Nat) (h : a.connState = .failed) :
    states (a.contact now).2 = [] ∧ (a.contact now).1.connState = .failed ∧ (Wiped a → Wiped (a.contact now).1) := by
  rw [C03.contact_eq]
  split
  · exact ⟨rfl, h, fun w => w⟩
  · simp only [h]
    exact ⟨rfl, h, fun w => w⟩

theorem runForced_stay (a : Agent) (now : Nat) (h : a.connState = .failed) :
    states (a.runForced now).2 = [] ∧ (a.runForced now).1.connState = .failed ∧ (Wiped a → Wiped (a.runForced now).1) := by
  unfold Agent.runForced
  split
  · have hs := contact_stay ({ a with forcePending := false }) now h
    generalize ({ a with forcePending := false } : Agent).contact now = x at hs
    exact ⟨hs.1, hs.2.1, fun w => hs.2.2 w⟩
  · exact ⟨rfl, h, fun w => w⟩

theorem validateSelected_some (a : Agent) (now : Nat) (p : Pair) (hp : a.selected.bind a.pairById = some p) :
    a.validateSelected now =
      ((a.setConnState (stateForDisconnection a.cfg a.connState ((a.remoteOf p.r).bind (silence now)) (totalToFailure a.cfg))).1,
       (a.setConnState (stateForDisconnection a.cfg a.connState ((a.remoteOf p.r).bind (silence now)) (totalToFailure a.cfg))).2,
       true) := by
  unfold Agent.validateSelected
  simp only [hp]
  rfl

theorem validateKeepalive_connState (a : Agent) (now : Nat) (auto : Bool) (p : Pair)
    (hp : a.selected.bind a.pairById = some p) :
    (validateKeepalive a now auto).1.connState =
      stateForDisconnection a.cfg a.connState ((a.remoteOf p.r).bind (silence now)) (totalToFailure a.cfg) := by
  have hv : (a.validateSelected now).1.connState =
      stateForDisconnection a.cfg a.connState ((a.remoteOf p.r).bind (silence now)) (totalToFailure a.cfg) := by
    rw [validateSelected_some a now p hp]
    exact setConnState_fst_connState _ _
  refine validateKeepalive_rule (Q := fun x => x.1.connState =
    stateForDisconnection a.cfg a.connState ((a.remoteOf p.r).bind (silence now)) (totalToFailure a.cfg)) a now auto hv
    (fun _ => ?_) (fun _ => ?_)
  · exact (keepalive_quiet _ now).1.connState.trans hv
  · exact (autoRenom_quiet _ now).1.connState.trans ((keepalive_quiet _ now).1.connState.trans hv)

theorem contactCandidates_connState (a : Agent) (now : Nat) (p : Pair) (hp : a.selected.bind a.pairById = some p) :
    (a.contactCandidates now).1.connState =
      stateForDisconnection a.cfg a.connState ((a.remoteOf p.r).bind (silence now)) (totalToFailure a.cfg) := by
  have hsel : a.selected.isSome = true := by
    cases hs : a.selected with
    | none => simp [hs] at hp
    | some _ => rfl
  rw [contactCandidates_stages]
  simp only [hsel, if_true]
  split
  · exact validateKeepalive_connState a now true p hp
  · split
    · rw [validateSelected_some a now p hp]; exact setConnState_fst_connState _ _
    · exact validateKeepalive_connState a now false p hp

/-- **Tick rule.** One timer tick on an open agent in Connected/Disconnected with a selected pair: the new
state is `connectionStateForDisconnection` of the selected remote's silence. -/
theorem contact_tick_rule (a : Agent) (now : Nat) (p : Pair) (hcl : a.closed = false)
    (hcur : a.connState = .connected ∨ a.connState = .disconnected)
    (hp : a.selected.bind a.pairById = some p) :
    (a.contact now).1.connState =
      stateForDisconnection a.cfg a.connState ((a.remoteOf p.r).bind (silence now)) (totalToFailure a.cfg) := by
  rw [C03.contact_eq]
  simp only [hcl, Bool.false_eq_true, if_false]
  rcases hcur with h | h <;> simp only [h] <;> rw [← h] <;> exact contactCandidates_connState a now p hp

theorem contact_checking_eq (a : Agent) (now : Nat) (hcl : a.closed = false) (hc : a.connState = .checking) :
    a.contact now =
      (if ((C03.chk a now).checkingTimeout != 0 && now - (C03.chk a now).checkingStart > (C03.chk a now).checkingTimeout) = true then
        C03.finish ((C03.chk a now).setConnState .failed)
      else C03.finish ((C03.chk a now).contactCandidates now)) := by
  rw [C03.contact_eq]
  simp only [hcl, Bool.false_eq_true, if_false, hc]

theorem contact_checking (a : Agent) (now : Nat) (hcl : a.closed = false) (hc : a.connState = .checking)
    (hsel : a.selected = none) :
    let start := if a.lastSeen = .checking then a.checkingStart else now
    let r := a.contact now
    r.1.connState = (if a.checkingTimeout ≠ 0 ∧ now - start > a.checkingTimeout then .failed else .checking) ∧
    r.1.checkingStart = start ∧ r.1.lastSeen = r.1.connState ∧ r.1.checkingTimeout = a.checkingTimeout ∧
    states r.2 = (if a.checkingTimeout ≠ 0 ∧ now - start > a.checkingTimeout then [.failed] else []) := by
  have e1 : (C03.chk a now).checkingStart = (if a.lastSeen = .checking then a.checkingStart else now) := by
    unfold C03.chk
    by_cases h : a.lastSeen = .checking <;> simp [h]
  have e2 : (C03.chk a now).checkingTimeout = a.checkingTimeout := (chk_frame a now).ctimeout
  have e3 : (C03.chk a now).connState = .checking := (chk_connState a now).trans hc
  have e4 : (C03.chk a now).selected = none := (chk_selected a now).trans hsel
  simp only
  rw [contact_checking_eq a now hcl hc]
  generalize (if a.lastSeen = .checking then a.checkingStart else now) = start at e1
  generalize C03.chk a now = b at e1 e2 e3 e4 ⊢
  by_cases hd : a.checkingTimeout ≠ 0 ∧ now - start > a.checkingTimeout
  · have hd' : (b.checkingTimeout != 0 && decide (now - b.checkingStart > b.checkingTimeout)) = true := by
      rw [e1, e2]; simp [hd.1, hd.2]
    rw [if_pos hd', if_pos hd, if_pos hd, setConnState_failed_eq _ (by rw [e3]; decide)]
    exact ⟨rfl, e1, rfl, e2, rfl⟩
  · have hd' : ¬ (b.checkingTimeout != 0 && decide (now - b.checkingStart > b.checkingTimeout)) = true := by
      rw [e1, e2]
      by_cases h0 : a.checkingTimeout = 0
      · simp [h0]
      · have : ¬ now - start > a.checkingTimeout := fun h => hd ⟨h0, h⟩
        simp [this]
    rw [if_neg hd', if_neg hd, if_neg hd]
    have q := contactCandidates_quiet b now e4
    generalize b.contactCandidates now = x at q
    exact ⟨q.1.connState.trans e3, q.1.cstart.trans e1, rfl, q.1.frame.ctimeout.trans e2, q.2⟩

end IceProofs.AgentC04

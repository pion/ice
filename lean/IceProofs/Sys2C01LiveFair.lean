import IceProofs.Sys2C01LiveAdv
import IceProofs.Sys2C01LiveForced
/-!
# C01 liveness — fair schedules

An abstract fairness notion on INDEX-BASED schedules (`SysEv` lists): the events of the suffix are deliveries,
duplications and clock advances that are monotone, stay within the horizon and go at most `J` beyond a tick of the
controlling agent (`SufOK`); every datagram that is in flight at some point of the schedule is delivered — its
position tracked through the removals before it (`hits`, `shift`) — before the clock has moved by more than `L` (`FairL`).
-/

namespace IceProofs.C01Live
open IceModel.AgentCore IceModel.Sys2 IceProofs.Sys2Run IceProofs.C01 IceProofs.Agent

/-- event `e` delivers (a copy of) the datagram at position `i` -/
def hits : SysEv → Nat → Bool
  | .deliver k, i => k == i
  | .dup k, i => k == i
  | _, _ => false

/-- the position of the datagram at `i` after an event that does not deliver it -/
def shift : SysEv → Nat → Nat
  | .deliver k, i => if k < i then i - 1 else i
  | _, i => i

/-- an event of a loss-free suffix: a delivery, a duplication, or a clock advance that is monotone, within the horizon
`H`, and goes at most `J` beyond the next tick of the controlling agent `c` (`J = 0`: its timer fires exactly when it is
due; `J > 0`: an advance may run several of its ticks; the controlled agent may always run any number of due ticks).
No drop, no API call (Restart, Close, signalling). -/
def sufOK (c : Bool) (H J : Nat) (s : Sys) : SysEv → Prop
  | .deliver _ => True
  | .dup _ => True
  | .advance T => s.now ≤ T ∧ T ≤ H ∧ ∃ t, (s.agent c).nextTick = some t ∧ T ≤ t + J
  | _ => False

instance (c : Bool) (H J : Nat) (s : Sys) (e : SysEv) : Decidable (sufOK c H J s e) := by
  cases e <;> unfold sufOK
  · exact isFalse (fun h => h)
  · exact isTrue trivial
  · exact isTrue trivial
  · exact isFalse (fun h => h)
  · rename_i T
    cases ht : (s.agent c).nextTick with
    | none => exact isFalse (fun ⟨_, _, t, h, _⟩ => by cases h)
    | some t =>
      exact decidable_of_iff (s.now ≤ T ∧ T ≤ H ∧ T ≤ t + J)
        ⟨fun ⟨a, b, c'⟩ => ⟨a, b, t, rfl, c'⟩, fun ⟨a, b, t', h, c'⟩ => by cases h; exact ⟨a, b, c'⟩⟩

def SufOK (c : Bool) (H J : Nat) : Sys → List SysEv → Prop
  | _, [] => True
  | s, e :: es => sufOK c H J s e ∧ SufOK c H J (Sys.run s e) es

def SufOK.dec (c : Bool) (H J : Nat) : (s : Sys) → (es : List SysEv) → Decidable (SufOK c H J s es)
  | _, [] => isTrue trivial
  | s, e :: es => @instDecidableAnd _ _ _ (SufOK.dec c H J (Sys.run s e) es)

instance (c : Bool) (H J : Nat) (s : Sys) (es : List SysEv) : Decidable (SufOK c H J s es) := SufOK.dec c H J s es

/-- the datagram at position `i` of `s` is delivered by the schedule, and the clock does not pass `dl` before -/
def DeliveredBy (dl : Nat) : Sys → List SysEv → Nat → Prop
  | _, [], _ => False
  | s, e :: es, i => s.now ≤ dl ∧ (hits e i = true ∨ DeliveredBy dl (Sys.run s e) es (shift e i))

def DeliveredBy.dec (dl : Nat) : (s : Sys) → (es : List SysEv) → (i : Nat) → Decidable (DeliveredBy dl s es i)
  | _, [], _ => isFalse (fun h => h)
  | s, e :: es, i => @instDecidableAnd _ _ _ (@instDecidableOr _ _ _ (DeliveredBy.dec dl (Sys.run s e) es (shift e i)))

instance (dl : Nat) (s : Sys) (es : List SysEv) (i : Nat) : Decidable (DeliveredBy dl s es i) := DeliveredBy.dec dl s es i

/-- **fair delivery within `L`**: whatever is in flight at some point of the schedule, more than `L` before its end, is
delivered before the clock has moved by more than `L`. -/
def FairL (L : Nat) (s : Sys) (evs : List SysEv) : Prop :=
  ∀ e1 e2, evs = e1 ++ e2 → ∀ i, i < (Sys.runs s e1).inflight.length →
    (Sys.runs s e1).now + L < (Sys.runs s evs).now →
    DeliveredBy ((Sys.runs s e1).now + L) (Sys.runs s e1) e2 i

/-- `FairL`, decidable: the split points are the lengths `0 … evs.length` -/
def FairLD (L : Nat) (s : Sys) (evs : List SysEv) : Prop :=
  ∀ n, n < evs.length + 1 → ∀ i, i < (Sys.runs s (evs.take n)).inflight.length →
    (Sys.runs s (evs.take n)).now + L < (Sys.runs s evs).now →
    DeliveredBy ((Sys.runs s (evs.take n)).now + L) (Sys.runs s (evs.take n)) (evs.drop n) i

instance (L : Nat) (s : Sys) (evs : List SysEv) : Decidable (FairLD L s evs) := by unfold FairLD; infer_instance

theorem FairLD.fair {L : Nat} {s : Sys} {evs : List SysEv} (h : FairLD L s evs) : FairL L s evs := by
  intro e1 e2 he i hi hn
  subst he
  have := h e1.length (by rw [List.length_append]; omega)
  rw [List.take_left', List.drop_left'] at this
  · exact this i hi hn
  · rfl
  · rfl

theorem FairL.tail {L : Nat} {s : Sys} {e1 e2 : List SysEv} (h : FairL L s (e1 ++ e2)) : FairL L (Sys.runs s e1) e2 := by
  intro f1 f2 hf i hi hn
  have := h (e1 ++ f1) f2 (by rw [hf, List.append_assoc]) i (by rw [Sys.runs_append]; exact hi)
    (by rw [Sys.runs_append, Sys.runs_append]; exact hn)
  rw [Sys.runs_append] at this
  exact this

theorem SufOK.tail {c : Bool} {H J : Nat} {s : Sys} {e1 e2 : List SysEv} (h : SufOK c H J s (e1 ++ e2)) :
    SufOK c H J (Sys.runs s e1) e2 := by
  induction e1 generalizing s with
  | nil => exact h
  | cons e es ih => exact ih h.2

theorem SufOK.head {c : Bool} {H J : Nat} {s : Sys} {e1 e2 : List SysEv} (h : SufOK c H J s (e1 ++ e2)) : SufOK c H J s e1 := by
  induction e1 generalizing s with
  | nil => trivial
  | cons e es ih => exact ⟨h.1, ih h.2⟩

theorem SufOK.not_api {c : Bool} {H J : Nat} {s : Sys} {es : List SysEv} (h : SufOK c H J s es) {e : SysEv} (he : e ∈ es) :
    ∀ b ev, e ≠ SysEv.api b ev := by
  induction es generalizing s with
  | nil => cases he
  | cons x xs ih =>
    rcases List.mem_cons.mp he with hx | hm
    · intro b ev hb
      rw [← hx, hb] at h
      exact h.1
    · exact ih h.2 hm

end IceProofs.C01Live

/-!
## when an inbound step runs no forced tick

`step_inbound_quiet` (`Sys2C01LiveForced.lean`): an inbound message whose source the agent knows makes it discover nothing, so
there is no forced tick: the timer stays and the pairs keep state and request count (`BK`).  `KnownSrc c s`: the controlling agent `c` knows
(as a remote candidate) every address its peer can appear from; `KnownSrc.keep`: a suffix event keeps that.  (The
convergence theorems do not assume `KnownSrc`: a forced tick is treated as a tick, `Sys2C01LiveFairSys`.)
-/

namespace IceProofs.C01Live
open IceModel.AgentCore IceModel.Sys2 IceProofs.Sys2Run IceProofs.C01 IceProofs.Agent IceProofs.C03

/-- a Binding request in flight that verifies at `c` comes from an address `c` knows -/
def KnownD (c : Bool) (s : Sys) (d : Dgram) : Prop :=
  match d.p with
  | .stun m => m.cls = 0 → m.key = some (s.agent c).localPwd → ((s.agent c).findRemote 0 (s.mapped d.src)).isSome = true
  | .data _ => True

instance (c : Bool) (s : Sys) (d : Dgram) : Decidable (KnownD c s d) := by unfold KnownD; split <;> infer_instance

/-- the controlling agent `c` knows every (mapped) address of a local candidate of its peer, and the source of every
request in flight that verifies under its password -/
def KnownSrc (c : Bool) (s : Sys) : Prop :=
  (∀ l ∈ (s.agent (!c)).locals, ((s.agent c).findRemote 0 (s.mapped l.addr)).isSome = true) ∧
  ∀ d ∈ s.inflight, KnownD c s d

instance (c : Bool) (s : Sys) : Decidable (KnownSrc c s) := by unfold KnownSrc; infer_instance

theorem KnownSrc.keep {s s' : Sys} {c : Bool} (hk : KnownSrc c s) (hp : Paired s c)
    (hloc : (s'.agent (!c)).locals.map ckey = (s.agent (!c)).locals.map ckey)
    (hrem : ∀ y r, (s.agent c).findRemote 0 y = some r → ∃ r', (s'.agent c).findRemote 0 y = some r')
    (hmap : ∀ y, s'.mapped y = s.mapped y)
    (hpwd : (s'.agent c).localPwd = (s.agent c).localPwd)
    (hfl : ∀ d ∈ s'.inflight, d ∈ s.inflight ∨
      ∃ (x : Bool) (o : List Out), d ∈ dgramsOf o ∧ ∀ f t m, Out.dgram f t m ∈ o → m.cls = 0 → ReqOut (s.agent x) f t m) :
    KnownSrc c s' := by
  have hsome : ∀ y, ((s.agent c).findRemote 0 y).isSome = true → ((s'.agent c).findRemote 0 y).isSome = true := by
    intro y hy
    obtain ⟨r, hr⟩ := Option.isSome_iff_exists.mp hy
    obtain ⟨r', hr'⟩ := hrem y r hr
    rw [hr']; rfl
  refine ⟨?_, ?_⟩
  · intro l' hl'
    obtain ⟨l, hl, e⟩ := mem_of_map_ckey hl' hloc
    rw [hmap, ckey_addr e]
    exact hsome _ (hk.1 l hl)
  · intro d hd
    rcases hfl d hd with hold | ⟨x, o, hdo, hreq⟩
    · have := hk.2 d hold
      unfold KnownD at this ⊢
      split
      · rename_i m hm
        rw [hm] at this
        intro hc hkey
        rw [hpwd] at hkey
        rw [hmap]
        exact hsome _ (this hc hkey)
      · trivial
    · unfold KnownD
      split
      · rename_i m hm
        intro hc hkey
        have hro := hreq _ _ _ (mem_dgramsOf_stun hdo hm) hc
        rw [hro.isReq.key, hpwd] at hkey
        have hkey' : (s.agent x).remotePwd = (s.agent c).localPwd := by simpa using hkey
        have hxc : x = !c := by
          have := hp.key_peer hkey'
          rw [this, Bool.not_not]
        subst hxc
        obtain ⟨l, hl, hla⟩ := hro.src
        rw [hmap, ← hla]
        exact hsome _ (hk.1 l hl)
      · trivial

end IceProofs.C01Live

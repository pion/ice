import IceProofs.Sys2C20Defs
import IceProofs.Sys2C20OutsQ
import IceProofs.AgentClosure
/-!
# C20 on `Sys2` — success responses and transaction ids of a `step`

Two relations closed under the moves of `step` (`IceProofs.Agent.Closed`), so that `Closed.step` gives them for every
event and, on the way, for every helper.
`OutsR`: a Binding success response carries the id of the request answered.
`Tx`: what a helper does to the transaction ids; the facts about `UP` (every outstanding transaction is old or carries an
id handed out by the counter), `nreq`, `Seq` (the Binding requests among some outputs, numbered consecutively) and the
link between a valued transaction and its request (`VL`) are read off `tx_step`.
-/
namespace IceProofs.C20S
open IceModel.AgentCore IceProofs.Agent IceProofs.Sys2C05

/-- a success response among the outputs carries a transaction id satisfying `P` -/
def OutR (P : Nat → Prop) : Out → Prop
  | .dgram _ _ m => m.cls = 2 → P m.tid
  | _ => True

def OutsR (P : Nat → Prop) (o : List Out) : Prop := ∀ x ∈ o, OutR P x

@[simp] theorem OutsR_nil (P : Nat → Prop) : OutsR P [] := by simp [OutsR]
@[simp] theorem OutsR_append (P : Nat → Prop) (o1 o2 : List Out) : OutsR P (o1 ++ o2) ↔ OutsR P o1 ∧ OutsR P o2 := by
  simp only [OutsR, List.mem_append]
  constructor
  · intro h; exact ⟨fun x hx => h x (Or.inl hx), fun x hx => h x (Or.inr hx)⟩
  · rintro ⟨h1, h2⟩ x (hx | hx)
    · exact h1 x hx
    · exact h2 x hx
@[simp] theorem OutsR_cons (P : Nat → Prop) (x : Out) (o : List Out) : OutsR P (x :: o) ↔ OutR P x ∧ OutsR P o := by
  simp [OutsR]
@[simp] theorem OutR_dgram (P : Nat → Prop) (f t : Nat) (m : Msg) : OutR P (.dgram f t m) ↔ (m.cls = 2 → P m.tid) := Iff.rfl

theorem OutsR.mem {P : Nat → Prop} {o : List Out} (h : OutsR P o) {f t : Nat} {m : Msg} (hm : Out.dgram f t m ∈ o)
    (hc : m.cls = 2) : P m.tid := h _ hm hc

theorem outsR_of_noDgram (P : Nat → Prop) {o : List Out} (h : NoDgram o) : OutsR P o := by
  intro x hx
  have := List.all_eq_true.mp h x hx
  cases x with
  | dgram f t m => cases this
  | _ => trivial

theorem r_sendRequest (a : Agent) (now : Nat) (l r : Cand) (uc : Bool) (n : Option Nat) (P : Nat → Prop) :
    OutsR P (a.sendRequest now l r uc n).2 := by
  rw [sendRequest_snd_eq]
  simp

theorem outsR_closed (P : Nat → Prop) : Closed P (fun _ r => OutsR P r.2) where
  seq := fun h1 h2 => (OutsR_append P _ _).2 ⟨h1, h2⟩
  quiet := fun _ _ ho => outsR_of_noDgram P ho
  request := fun a now l r uc => r_sendRequest a now l r uc none P
  issue := fun a now l r _ => r_sendRequest a now l r true _ P
  answer := fun _ _ _ _ _ _ h => by simp [h]
  refuse := fun _ _ _ _ _ _ => by simp
  switch := fun _ _ => OutsR_nil P
  accept := fun _ _ => OutsR_nil P
  start := fun _ _ _ _ _ => OutsR_nil P
  creds := fun _ _ _ => OutsR_nil P
  restart := fun _ _ _ _ => OutsR_nil P
  close := fun _ => OutsR_nil P

@[simp] theorem r_runForced (a : Agent) (now : Nat) (P : Nat → Prop) : OutsR P (a.runForced now).2 :=
  (outsR_closed P).of_chain (cx := .idle) (fun _ _ _ _ h => h.elim) (.runForced a now)

theorem handleInbound_resp (a : Agent) (now : Nat) (l : Cand) (src : Nat) (m' : Msg) (f t : Nat) (m : Msg)
    (hm : Out.dgram f t m ∈ (a.handleInbound now l src m').2) (hc : m.cls = 2) :
    AuthRequest a m' ∧ (resolveSource a l src m').2.2.isSome = true ∧ roleConflict a m' = none ∧ m.tid = m'.tid := by
  let P : Nat → Prop := fun x =>
    AuthRequest a m' ∧ (resolveSource a l src m').2.2.isSome = true ∧ roleConflict a m' = none ∧ x = m'.tid
  suffices hs : OutsR P (a.handleInbound now l src m').2 from hs.mem hm hc
  refine (outsR_closed P).of_chain (cx := { Ctx.any with answers := fun _ _ _ m => P m.tid })
    (fun _ _ _ _ h => h) (.handleInbound a now l src m' (fun hauth r hr hn => ?_) (fun _ => trivial)
      (fun _ _ _ _ _ _ _ _ _ _ => trivial) (fun _ _ => trivial) nofun)
  exact ⟨hauth, by rw [hr]; rfl, (roleConflict_congr (core_resolveSource a l src m') m').symm.trans hn, rfl⟩

theorem step_noresp (a : Agent) (e : Ev) (hne : ∀ now la src m, e ≠ .inbound now la src m) (P : Nat → Prop) :
    OutsR P (step a e).2 :=
  (outsR_closed P).step a e fun now la src m h => absurd h (hne now la src m)

theorem sendRequest_nextTid (a : Agent) (now : Nat) (l r : Cand) (u : Bool) (n : Option Nat) :
    (a.sendRequest now l r u n).1.nextTid = a.nextTid + 1 := by rw [sendRequest_fst_eq]

theorem sendRequest_pending (a : Agent) (now : Nat) (l r : Cand) (u : Bool) (n : Option Nat) :
    (a.sendRequest now l r u n).1.pending = (a.invalidatePending now).pending ++
      [{ tid := 2 * a.nextTid + a.tag, src := l.addr, dest := r.addr, net := r.net, useCand := u, nom := n, ts := now }] := by
  rw [sendRequest_fst_eq]
  rfl

theorem mem_invalidatePending {a : Agent} {now : Nat} {pd : Pending} (h : pd ∈ (a.invalidatePending now).pending) :
    pd ∈ a.pending := by
  unfold Agent.invalidatePending at h
  exact (List.mem_filter.mp h).1

theorem issueOf_inv {a : Agent} {e : Ev} {v la ra : Nat} (h : issueOf a e = some (v, la, ra)) :
    ∃ now ri l r, e = .renominate now la ri v ∧ a.controlling = true ∧ a.cfg.enableRenomination = true ∧
      a.localByAddr la = some l ∧ a.remotes[ri]? = some r ∧ (a.findPair l r).isSome = true ∧ ra = r.addr := by
  cases e with
  | renominate now la' ri v' =>
    simp only [issueOf] at h
    split at h
    · rename_i hce
      split at h
      · rename_i l r hl hr
        split at h
        · rename_i hp
          simp only [Option.some.injEq, Prod.mk.injEq] at h
          obtain ⟨rfl, rfl, rfl⟩ := h
          simp only [Bool.and_eq_true] at hce
          exact ⟨now, ri, l, r, rfl, hce.1, hce.2, hl, hr, hp, rfl⟩
        · cases h
      · cases h
    · cases h
  | _ => simp [issueOf] at h

theorem step_renominate_ok (a : Agent) (now la ri v : Nat) (l r : Cand) (hc : a.controlling = true)
    (hen : a.cfg.enableRenomination = true) (hl : a.localByAddr la = some l) (hr : a.remotes[ri]? = some r)
    (hp : (a.findPair l r).isSome = true) :
    step a (.renominate now la ri v) =
      ({ (a.sendRequest now l r true (if v > 0 then some v else none)).1 with
          nomIssued := (a.sendRequest now l r true (if v > 0 then some v else none)).1.nomIssued ++ [(v, l.addr, r.addr)] },
       (a.sendRequest now l r true (if v > 0 then some v else none)).2 ++ [.res "ok"]) := by
  obtain ⟨p, hp⟩ := Option.isSome_iff_exists.mp hp
  simp only [step, hc, hen, hl, hr, hp]
  rfl

/-- tag `t` is `g`; every transaction in `p` satisfies `P` or carries an id `2 * k + g` with `k` below the counter `n` -/
def UK (g : Nat) (P : Pending → Prop) (t n : Nat) (p : List Pending) : Prop :=
  t = g ∧ ∀ pd ∈ p, P pd ∨ ∃ k, pd.tid = 2 * k + g ∧ k < n

def UP (g : Nat) (P : Pending → Prop) (a : Agent) : Prop := UK g P a.tag a.nextTid a.pending

@[simp] theorem UK_nil (g : Nat) (P : Pending → Prop) (t n : Nat) : UK g P t n [] ↔ t = g := by simp [UK]

theorem UP.tag {g : Nat} {P : Pending → Prop} {a : Agent} (h : UP g P a) : a.tag = g := h.1

/-- transaction id of a Binding request datagram -/
def rq : Out → Option Nat
  | .dgram _ _ m => if m.cls = 0 then some m.tid else none
  | _ => none

/-- number of Binding requests among some outputs -/
def nreq : List Out → Nat
  | [] => 0
  | x :: o => (if (rq x).isSome then 1 else 0) + nreq o

/-- the Binding requests in `o` carry, in order, the ids `2 * n + g`, `2 * (n + 1) + g`, … -/
def Seq (g : Nat) : Nat → List Out → Prop
  | _, [] => True
  | n, x :: o =>
    match rq x with
    | some t => t = 2 * n + g ∧ Seq g (n + 1) o
    | none => Seq g n o

@[simp] theorem nreq_nil : nreq [] = 0 := rfl
@[simp] theorem nreq_res (s : String) (o : List Out) : nreq (.res s :: o) = nreq o := by simp [nreq, rq]
@[simp] theorem nreq_cbState (s : ConnState) (o : List Out) : nreq (.cbState s :: o) = nreq o := by simp [nreq, rq]
@[simp] theorem nreq_cbPair (x y : Nat) (o : List Out) : nreq (.cbPair x y :: o) = nreq o := by simp [nreq, rq]
@[simp] theorem nreq_cbCand (x : Nat) (o : List Out) : nreq (.cbCand x :: o) = nreq o := by simp [nreq, rq]
@[simp] theorem nreq_data (x y z : Nat) (o : List Out) : nreq (.data x y z :: o) = nreq o := by simp [nreq, rq]
@[simp] theorem nreq_dgram (f t : Nat) (m : Msg) (o : List Out) :
    nreq (.dgram f t m :: o) = (if m.cls = 0 then 1 else 0) + nreq o := by
  simp only [nreq, rq]
  split <;> simp
@[simp] theorem nreq_append (o1 o2 : List Out) : nreq (o1 ++ o2) = nreq o1 + nreq o2 := by
  induction o1 with
  | nil => simp
  | cons x o ih => simp only [List.cons_append, nreq, ih]; omega

@[simp] theorem Seq_nil (g n : Nat) : Seq g n [] := trivial
@[simp] theorem Seq_res (g n : Nat) (s : String) (o : List Out) : Seq g n (.res s :: o) ↔ Seq g n o := Iff.rfl
@[simp] theorem Seq_cbState (g n : Nat) (s : ConnState) (o : List Out) : Seq g n (.cbState s :: o) ↔ Seq g n o := Iff.rfl
@[simp] theorem Seq_cbPair (g n : Nat) (x y : Nat) (o : List Out) : Seq g n (.cbPair x y :: o) ↔ Seq g n o := Iff.rfl
@[simp] theorem Seq_cbCand (g n : Nat) (x : Nat) (o : List Out) : Seq g n (.cbCand x :: o) ↔ Seq g n o := Iff.rfl
@[simp] theorem Seq_data (g n : Nat) (x y z : Nat) (o : List Out) : Seq g n (.data x y z :: o) ↔ Seq g n o := Iff.rfl
@[simp] theorem Seq_dgram (g n : Nat) (f t : Nat) (m : Msg) (o : List Out) :
    Seq g n (.dgram f t m :: o) ↔ if m.cls = 0 then m.tid = 2 * n + g ∧ Seq g (n + 1) o else Seq g n o := by
  by_cases hc : m.cls = 0 <;> simp [Seq, rq, hc]

@[simp] theorem Seq_append (g n : Nat) (o1 o2 : List Out) :
    Seq g n (o1 ++ o2) ↔ Seq g n o1 ∧ Seq g (n + nreq o1) o2 := by
  induction o1 generalizing n with
  | nil => simp
  | cons x o ih =>
    simp only [List.cons_append, Seq, nreq]
    cases hx : rq x with
    | none => simp [ih]
    | some t =>
      simp only [ih, Option.isSome_some, if_true, and_assoc]
      have : n + 1 + nreq o = n + (1 + nreq o) := by omega
      rw [this]

theorem Seq_of_nreq {g n : Nat} {o : List Out} (h : nreq o = 0) : Seq g n o := by
  induction o with
  | nil => trivial
  | cons x o ih =>
    simp only [nreq] at h
    cases hx : rq x with
    | none => simp only [Seq, hx]; exact ih (by simp [hx] at h; exact h)
    | some t => simp [hx] at h

theorem Seq.mem {g n : Nat} {o : List Out} (h : Seq g n o) {f t : Nat} {m : Msg} (hm : Out.dgram f t m ∈ o) (hc : m.cls = 0) :
    ∃ k, m.tid = 2 * k + g ∧ n ≤ k ∧ k < n + nreq o := by
  induction o generalizing n with
  | nil => cases hm
  | cons x o ih =>
    rcases List.mem_cons.mp hm with hx | hx
    · subst hx
      simp only [Seq_dgram, hc, if_true] at h
      exact ⟨n, h.1, Nat.le_refl _, by simp [hc]; omega⟩
    · cases hr : rq x with
      | none =>
        simp only [Seq, hr] at h
        obtain ⟨k, h1, h2, h3⟩ := ih h hx
        exact ⟨k, h1, h2, by simp only [nreq, hr]; simpa using h3⟩
      | some t' =>
        simp only [Seq, hr] at h
        obtain ⟨k, h1, h2, h3⟩ := ih h.2 hx
        exact ⟨k, h1, by omega, by simp only [nreq, hr]; simp; omega⟩

@[simp] theorem tg_modPair (a : Agent) (id : Nat) (f : Pair → Pair) : (a.modPair id f).tag = a.tag := rfl
@[simp] theorem tg_seenLocalSent (a : Agent) (x n : Nat) : (a.seenLocalSent x n).tag = a.tag := rfl
@[simp] theorem tg_seenRemoteRecv (a : Agent) (x n : Nat) : (a.seenRemoteRecv x n).tag = a.tag := rfl
@[simp] theorem tg_requestCheck (a : Agent) : a.requestCheck.tag = a.tag := rfl
@[simp] theorem tg_addPair (a : Agent) (l r : Cand) : (a.addPair l r).1.tag = a.tag := rfl
@[simp] theorem tg_resetSelector (a : Agent) (n : Nat) : (a.resetSelector n).tag = a.tag := rfl
@[simp] theorem tg_wipe (a : Agent) : a.wipe.tag = a.tag := rfl
@[simp] theorem tg_invalidatePending (a : Agent) (n : Nat) : (a.invalidatePending n).tag = a.tag := rfl
@[simp] theorem nt_modPair (a : Agent) (id : Nat) (f : Pair → Pair) : (a.modPair id f).nextTid = a.nextTid := rfl
@[simp] theorem nt_seenLocalSent (a : Agent) (x n : Nat) : (a.seenLocalSent x n).nextTid = a.nextTid := rfl
@[simp] theorem nt_seenRemoteRecv (a : Agent) (x n : Nat) : (a.seenRemoteRecv x n).nextTid = a.nextTid := rfl
@[simp] theorem nt_requestCheck (a : Agent) : a.requestCheck.nextTid = a.nextTid := rfl
@[simp] theorem nt_addPair (a : Agent) (l r : Cand) : (a.addPair l r).1.nextTid = a.nextTid := rfl
@[simp] theorem nt_resetSelector (a : Agent) (n : Nat) : (a.resetSelector n).nextTid = a.nextTid := rfl
@[simp] theorem nt_wipe (a : Agent) : a.wipe.nextTid = a.nextTid := rfl
@[simp] theorem nt_invalidatePending (a : Agent) (n : Nat) : (a.invalidatePending n).nextTid = a.nextTid := rfl

/-! `Tx a r`: what a helper that takes `a` to the state and outputs `r` does to the transaction ids.  The tag is kept; the
Binding requests among the outputs are numbered consecutively from the counter, which moves by their number; a
transaction that was not outstanding before has its request among the outputs.  The relation is closed under running
one helper after the other (`Tx.seq`) and under updates that add no transaction (`Tx.upd`), and `sendRequest` satisfies
it: that makes it `Closed` (`tx_closed`); everything else in this file about ids is read off it. -/

structure Tx (a : Agent) (r : Agent × List Out) : Prop where
  tag : r.1.tag = a.tag
  next : r.1.nextTid = a.nextTid + nreq r.2
  ord : Seq a.tag a.nextTid r.2
  link : ∀ pd ∈ r.1.pending, pd ∈ a.pending ∨
    ∃ m, Out.dgram pd.src pd.dest m ∈ r.2 ∧ m.cls = 0 ∧ m.tid = pd.tid ∧ m.nom = pd.nom

theorem Tx.upd {a b : Agent} {o : List Out} (ht : b.tag = a.tag) (hn : b.nextTid = a.nextTid)
    (hp : ∀ pd ∈ b.pending, pd ∈ a.pending) (ho : nreq o = 0) : Tx a (b, o) :=
  ⟨ht, by rw [ho]; exact hn, Seq_of_nreq ho, fun pd h => Or.inl (hp pd h)⟩

theorem Tx.seq {a : Agent} {r1 r2 : Agent × List Out} (h1 : Tx a r1) (h2 : Tx r1.1 r2) : Tx a (r2.1, r1.2 ++ r2.2) where
  tag := h2.tag.trans h1.tag
  next := by
    show r2.1.nextTid = a.nextTid + nreq (r1.2 ++ r2.2)
    rw [h2.next, h1.next, nreq_append, Nat.add_assoc]
  ord := by
    have := h2.ord
    rw [h1.tag, h1.next] at this
    exact (Seq_append _ _ _ _).2 ⟨h1.ord, this⟩
  link := fun pd hpd => by
    rcases h2.link pd hpd with h | ⟨m, hm, h⟩
    · rcases h1.link pd h with h | ⟨m, hm, h⟩
      · exact Or.inl h
      · exact Or.inr ⟨m, List.mem_append_left _ hm, h⟩
    · exact Or.inr ⟨m, List.mem_append_right _ hm, h⟩

theorem Tx.le {a : Agent} {r : Agent × List Out} (h : Tx a r) : a.nextTid ≤ r.1.nextTid := by
  rw [h.next]; exact Nat.le_add_right _ _

theorem Tx.fresh {a : Agent} {r : Agent × List Out} (h : Tx a r) {pd : Pending} (hpd : pd ∈ r.1.pending) :
    pd ∈ a.pending ∨ ∃ k, pd.tid = 2 * k + a.tag ∧ a.nextTid ≤ k ∧ k < r.1.nextTid := by
  rcases h.link pd hpd with h1 | ⟨m, hm, hc, ht, _⟩
  · exact Or.inl h1
  · obtain ⟨k, h1, h2, h3⟩ := h.ord.mem hm hc
    exact Or.inr ⟨k, ht ▸ h1, h2, by rw [h.next]; exact h3⟩

theorem Tx.up {g : Nat} {P : Pending → Prop} {a : Agent} {r : Agent × List Out} (h : Tx a r) (hu : UP g P a) : UP g P r.1 := by
  refine ⟨h.tag.trans hu.1, fun pd hpd => ?_⟩
  rcases h.fresh hpd with h1 | ⟨k, h1, _, h3⟩
  · rcases hu.2 pd h1 with h2 | ⟨k, h2, h3⟩
    · exact Or.inl h2
    · exact Or.inr ⟨k, h2, Nat.lt_of_lt_of_le h3 h.le⟩
  · exact Or.inr ⟨k, by rw [h1, hu.1], h3⟩

theorem tx_sendRequest (a : Agent) (now : Nat) (l r : Cand) (uc : Bool) (nom : Option Nat) :
    Tx a (a.sendRequest now l r uc nom) where
  tag := congrArg Core.tag (core_sendRequest a now l r uc nom)
  next := by rw [sendRequest_nextTid, sendRequest_snd_eq]; simp
  ord := by rw [sendRequest_snd_eq]; simp
  link := fun pd hpd => by
    rw [sendRequest_pending] at hpd
    rcases List.mem_append.mp hpd with hpd | hpd
    · exact Or.inl (mem_invalidatePending hpd)
    · refine Or.inr ?_
      rw [List.mem_singleton.mp hpd, sendRequest_snd_eq]
      exact ⟨_, List.mem_singleton.mpr rfl, rfl, rfl, rfl⟩

theorem nreq_of_noDgram {o : List Out} (h : NoDgram o) : nreq o = 0 := by
  induction o with
  | nil => rfl
  | cons x o ih =>
    unfold NoDgram at h
    rw [List.all_cons, Bool.and_eq_true] at h
    cases x with
    | dgram f t m => cases h.1
    | _ => exact (by simp : nreq (_ :: o) = nreq o).trans (ih h.2)

/-- only `sendRequest` touches what `Tx` speaks of -/
theorem tx_closed : Closed (fun _ => True) Tx where
  seq := Tx.seq
  quiet := fun hb hp ho => Tx.upd (congrArg (·.1.tag) hb) (congrArg (·.2.1) hb) hp (nreq_of_noDgram ho)
  request := fun a now l r uc => tx_sendRequest a now l r uc none
  issue := fun a now l r v => by
    have h := tx_sendRequest a now l r true (if v > 0 then some v else none)
    generalize a.sendRequest now l r true _ = x at h ⊢
    exact ⟨h.tag, h.next, h.ord, h.link⟩
  answer := fun a b _ _ _ hb _ =>
    Tx.upd (congrArg (·.1.1.tag) hb) (congrArg (·.1.2.1) hb) (fun _ hp => (congrArg (·.2) hb : b.pending = a.pending) ▸ hp) rfl
  refuse := fun a b _ _ _ hb =>
    Tx.upd (congrArg (·.1.1.tag) hb) (congrArg (·.1.2.1) hb) (fun _ hp => (congrArg (·.2) hb : b.pending = a.pending) ▸ hp) rfl
  switch := fun _ _ => Tx.upd rfl rfl (fun _ hp => hp) rfl
  accept := fun _ _ => Tx.upd rfl rfl (fun _ hp => hp) rfl
  start := fun _ _ _ _ _ => Tx.upd rfl rfl (fun _ hp => hp) rfl
  creds := fun _ _ _ => Tx.upd rfl rfl (fun _ hp => hp) rfl
  restart := fun _ _ _ _ => Tx.upd rfl rfl (fun _ hp => by cases hp) rfl
  close := fun _ => Tx.upd rfl rfl (fun _ hp => hp) rfl

theorem tx_chain {a : Agent} {r : Agent × List Out} (h : Chain .any a r) : Tx a r := tx_closed.of_chain (fun _ _ _ _ _ => trivial) h

theorem tx_step (a : Agent) (e : Ev) : Tx a (step a e) := tx_closed.step a e fun _ _ _ _ _ => trivial

theorem u_step (g : Nat) (P : Pending → Prop) (a : Agent) (e : Ev) (h : UP g P a) : UP g P (step a e).1 :=
  (tx_step a e).up h

theorem nt_step (a : Agent) (e : Ev) : (step a e).1.nextTid = a.nextTid + nreq (step a e).2 := (tx_step a e).next

theorem sq_step (a : Agent) (e : Ev) : Seq a.tag a.nextTid (step a e).2 := (tx_step a e).ord

@[simp] theorem tg_select (a : Agent) (id : Nat) : (a.select id).1.tag = a.tag := by rw [select_update]; rfl
@[simp] theorem tg_nominate (a : Agent) (now : Nat) (p : Pair) : (a.nominate now p).1.tag = a.tag :=
  (tx_chain (.nominate a now p nofun)).tag
@[simp] theorem tg_pingAll (a : Agent) (now : Nat) : (a.pingAll now).1.tag = a.tag := (tx_chain (.pingAll a now)).tag
@[simp] theorem tg_autoRenom (a : Agent) (now : Nat) : (a.autoRenom now).1.tag = a.tag := (tx_chain (.autoRenom a now)).tag
@[simp] theorem tg_contactCandidates (a : Agent) (now : Nat) : (a.contactCandidates now).1.tag = a.tag :=
  (tx_chain (.contactCandidates a now)).tag
@[simp] theorem tg_runForced (a : Agent) (now : Nat) : (a.runForced now).1.tag = a.tag :=
  (tx_chain (.runForced a now)).tag
@[simp] theorem tg_runTimers (a : Agent) (now fuel : Nat) : (a.runTimers now fuel).1.tag = a.tag :=
  (tx_chain (.runTimers a now fuel)).tag
@[simp] theorem tg_handleSuccess (a : Agent) (now : Nat) (m : Msg) (l r : Cand) (src : Nat) : (a.handleSuccess now m l r src).1.tag = a.tag :=
  (tx_chain (.handleSuccess a now m l r src fun _ _ _ _ _ => trivial)).tag
@[simp] theorem tg_cldProceed (a : Agent) (now : Nat) (m : Msg) (l r : Cand) (id : Nat) : (cldProceed a now m l r id).1.tag = a.tag :=
  (tx_chain (.cldProceed a now m l r id (src := 0) trivial nofun nofun)).tag
@[simp] theorem tg_cldHandleRequest (a : Agent) (now : Nat) (m : Msg) (l r : Cand) : (a.cldHandleRequest now m l r).1.tag = a.tag :=
  (tx_chain (.cldHandleRequest a now m l r (src := 0) trivial nofun nofun)).tag
@[simp] theorem tg_ctlHandleRequest (a : Agent) (now : Nat) (m : Msg) (l r : Cand) : (a.ctlHandleRequest now m l r).1.tag = a.tag :=
  (tx_chain (.ctlHandleRequest a now m l r (src := 0) trivial nofun nofun)).tag
@[simp] theorem tg_write (a : Agent) (now len : Nat) (s : Bool) : (a.write now len s).1.tag = a.tag :=
  (tx_chain (.write a now len s)).tag
@[simp] theorem tg_writeToPair (a : Agent) (now id len : Nat) (s : Bool) : (a.writeToPair now id len s).1.tag = a.tag :=
  (tx_chain (.writeToPair a now id len s)).tag
@[simp] theorem tg_inboundData (a : Agent) (now : Nat) (l : Cand) (src len : Nat) : (a.inboundData now l src len).1.tag = a.tag :=
  (tx_chain (.inboundData a now l src len nofun)).tag

theorem nr_select (a : Agent) (id : Nat) : nreq (a.select id).2 = 0 := by
  unfold Agent.select Agent.setConnState
  dsimp only
  split <;> rfl

@[simp] theorem sq_select (g n : Nat) (a : Agent) (id : Nat) : Seq g n (a.select id).2 := Seq_of_nreq (nr_select a id)

@[simp] theorem sq_writeVia (g n : Nat) (a : Agent) (now : Nat) (p : Pair) (len : Nat) : Seq g n (a.writeVia now p len).2 := by
  refine Seq_of_nreq ?_
  unfold Agent.writeVia
  split <;> rfl

@[simp] theorem sq_replaceRemoteInPairs (g n : Nat) (a : Agent) (old c : Cand) : Seq g n (a.replaceRemoteInPairs old c).2 :=
  Seq_of_nreq <| replaceRemoteInPairs_rule (P := fun x => nreq x.2 = 0) a old c rfl (fun _ _ _ _ h => h)
    fun b o id _ h => by rw [nreq_append, h, nr_select]

/-! `VL a r`: every transaction outstanding after `r` that was not outstanding in `a` carries no nomination value, or its
request is among the outputs of `r`: from its source to its destination, with its id and its value.  (`sendRequest` adds the
transaction and emits the request in one go; the value is handed to it only by `step` on `.renominate` and by
`Agent.autoIssue`.) -/

def VL (a : Agent) (r : Agent × List Out) : Prop :=
  ∀ pd ∈ r.1.pending, pd ∈ a.pending ∨ pd.nom = none ∨
    ∃ m, Out.dgram pd.src pd.dest m ∈ r.2 ∧ m.cls = 0 ∧ m.tid = pd.tid ∧ m.nom = pd.nom

theorem step_valued_link (a : Agent) (e : Ev) : VL a (step a e) :=
  fun pd hpd => ((tx_step a e).link pd hpd).imp_right Or.inr

theorem Seq.tid_inj {g n : Nat} {o : List Out} (h : Seq g n o) {f t f' t' : Nat} {m m' : Msg}
    (hm : Out.dgram f t m ∈ o) (hm' : Out.dgram f' t' m' ∈ o) (hc : m.cls = 0) (hc' : m'.cls = 0)
    (ht : m.tid = m'.tid) : m = m' := by
  induction o generalizing n with
  | nil => cases hm
  | cons x o ih =>
    cases hr : rq x with
    | none =>
      have hx : ∀ {f t : Nat} {m : Msg}, Out.dgram f t m ∈ x :: o → m.cls = 0 → Out.dgram f t m ∈ o := by
        intro f t m hmem hcls
        rcases List.mem_cons.mp hmem with e | e
        · subst e
          simp [rq, hcls] at hr
        · exact e
      simp only [Seq, hr] at h
      exact ih h (hx hm hc) (hx hm' hc')
    | some tx =>
      simp only [Seq, hr] at h
      obtain ⟨h0, h1⟩ := h
      rcases List.mem_cons.mp hm with e | e <;> rcases List.mem_cons.mp hm' with e' | e'
      · rw [← e] at e'; cases e'; rfl
      · subst e
        obtain ⟨k, hk, hk1, _⟩ := h1.mem e' hc'
        have : tx = m.tid := by simp [rq, hc] at hr; exact hr.symm
        omega
      · subst e'
        obtain ⟨k, hk, hk1, _⟩ := h1.mem e hc
        have : tx = m'.tid := by simp [rq, hc'] at hr; exact hr.symm
        omega
      · exact ih h1 e e'

end IceProofs.C20S

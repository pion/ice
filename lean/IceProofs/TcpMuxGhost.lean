import IceProofs.TcpMuxExt
/-!
# Ghost-state invariant of the TCP-mux model: what has been delivered, in which order, from whom

`sent` (per TCP connection), `hist` and `readLog` (per packet connection) are ghost logs; the
invariant ties them to the real queues: FIFO, source tags, per-connection order, and the alive
timer of unclaimed provisional packet connections.
-/
namespace IceProofs.TcpMux
open IceModel.TcpMux

/-- identifiers (frame id, length) of the DATA packets in a list of packets -/
def dataIds (l : List Pkt) : List (Nat × Nat) := (l.filter (fun p => p.err.isNone)).map (fun p => (p.fid, p.len))
/-- the data packet a (non-final) blocked reader is holding -/
def blkIds : Reader → List (Nat × Nat)
  | .blocked bp false => [(bp.fid, bp.len)]
  | _ => []
def frameId : Item → Option (Nat × Nat)
  | .frame f => some (f.fid, f.len)
  | _ => none
def frameIds (l : List Item) : List (Nat × Nat) := l.filterMap frameId
def sentIds (l : List Frame) : List (Nat × Nat) := l.map (fun f => (f.fid, f.len))
/-- the packets of a log that came from TCP connection `k` -/
def fromConn (k : Nat) (l : List Pkt) : List Pkt := l.filter (fun p => decide (p.conn = k))

theorem dataIds_append (a b : List Pkt) : dataIds (a ++ b) = dataIds a ++ dataIds b := by
  simp [dataIds]
theorem fromConn_append (k : Nat) (a b : List Pkt) : fromConn k (a ++ b) = fromConn k a ++ fromConn k b := by
  simp [fromConn]
theorem frameIds_append (a b : List Item) : frameIds (a ++ b) = frameIds a ++ frameIds b := by
  simp [frameIds]
theorem sentIds_append (a b : List Frame) : sentIds (a ++ b) = sentIds a ++ sentIds b := by
  simp [sentIds]

theorem fromConn_all {k : Nat} {l : List Pkt} (h : ∀ x, x ∈ l → x.conn = k) : fromConn k l = l := by
  unfold fromConn
  apply List.filter_eq_self.2
  intro x hx; simp [h x hx]

theorem fromConn_none {k : Nat} {l : List Pkt} (h : ∀ x, x ∈ l → x.conn ≠ k) : fromConn k l = [] := by
  unfold fromConn
  apply List.filter_eq_nil_iff.2
  intro x hx; simp [h x hx]

structure BlkOk (k : Nat) (peer : Addr) (r : Reader) : Prop where
  ok : ∀ bp fin, r = .blocked bp fin →
    bp.conn = k ∧ bp.src = peer ∧ (fin = false → bp.err = none) ∧ (fin = true → bp.err ≠ none)

/-- exact effect of the reader loop on the logs -/
structure DrainSpec (k p : Nat) (peer : Addr) (inbox : List Item) (pc : PConn) (d : Drain) : Prop where
  ex : ∃ new : List Pkt,
    d.pc.hist = pc.hist ++ new ∧ d.pc.recvQ = pc.recvQ ++ new ∧
    (∀ x, x ∈ new → x.conn = k ∧ x.src = peer) ∧
    (d.phase = .attached p → dataIds new ++ blkIds d.reader ++ frameIds d.inbox = frameIds inbox) ∧
    (dataIds new <+: frameIds inbox)
  blk : BlkOk k peer d.reader
  idle : d.reader = .idle → d.inbox = []

theorem drainFail_spec (cap k p : Nat) (peer : Addr) (e : ErrKind) (pc : PConn) (inbox : List Item) :
    DrainSpec k p peer inbox pc (drainFail cap k p peer e pc) := by
  unfold drainFail
  simp only
  split
  · split
    · refine ⟨⟨[{ src := peer, fid := 0, len := 0, err := some e, conn := k }], by simp [enqueue], by simp [enqueue],
        by simp, by simp, by simp [dataIds]⟩, ⟨by simp⟩, by simp⟩
    · refine ⟨⟨[], by simp, by simp, by simp, by simp, by simp [dataIds]⟩, ⟨?_⟩, by simp⟩
      intro bp fin h
      simp only [Reader.blocked.injEq] at h
      obtain ⟨rfl, rfl⟩ := h
      simp
  · exact ⟨⟨[], by simp, by simp, by simp, by simp, by simp [dataIds]⟩, ⟨by simp⟩, by simp⟩

theorem drain_spec (cap k p : Nat) (peer : Addr) (inbox : List Item) (pc : PConn) :
    DrainSpec k p peer inbox pc (drain cap k p peer inbox pc) := by
  induction inbox generalizing pc with
  | nil =>
    unfold drain
    exact ⟨⟨[], by simp, by simp, by simp, by simp [dataIds, blkIds, frameIds], by simp [dataIds]⟩, ⟨by simp⟩, by simp⟩
  | cons it rest ih =>
    cases it with
    | frame f =>
      unfold drain
      split
      · exact drainFail_spec ..
      · simp only
        split
        · have h := ih (enqueue pc { src := peer, fid := f.fid, len := f.len, err := none, conn := k })
          obtain ⟨⟨new, h1, h2, h3, h4, h5⟩, hb, hi⟩ := h
          refine ⟨⟨{ src := peer, fid := f.fid, len := f.len, err := none, conn := k } :: new, ?_, ?_, ?_, ?_, ?_⟩, hb, hi⟩
          · rw [h1]; simp [enqueue]
          · rw [h2]; simp [enqueue]
          · intro x hx
            rcases List.mem_cons.1 hx with rfl | hx
            · simp
            · exact h3 x hx
          · intro hph
            have := h4 hph
            simp only [dataIds, List.filter_cons, Option.isNone_none, if_true, List.map_cons, frameIds,
              List.filterMap_cons, frameId] at this ⊢
            simp only [List.cons_append]
            rw [this]
          · simp only [dataIds, List.filter_cons, Option.isNone_none, if_true, List.map_cons, frameIds,
              List.filterMap_cons, frameId] at h5 ⊢
            exact List.cons_prefix_cons.2 ⟨rfl, h5⟩
        · refine ⟨⟨[], by simp, by simp, by simp, ?_, by simp [dataIds]⟩, ⟨?_⟩, by simp⟩
          · intro _; simp [dataIds, blkIds, frameIds, frameId]
          · intro bp fin h
            simp only [Reader.blocked.injEq] at h
            obtain ⟨rfl, rfl⟩ := h
            simp
    | eof => unfold drain; exact drainFail_spec ..
    | reset => unfold drain; exact drainFail_spec ..

structure TcpG (s : State) (k : Nat) (t : Tcp) : Prop where
  fresh : ∀ d, t.phase = .pending d → t.pc = none ∧ t.sent = [] ∧ t.inbox = []
  ref : ∀ p, t.pc = some p → ∃ pc, s.pcs[p]? = some pc
  blk : BlkOk k t.peer t.reader
  order : ∀ (p : Nat) (pc : PConn), t.pc = some p → s.pcs[p]? = some pc →
    (∀ q, t.phase = .attached q →
      dataIds (fromConn k pc.hist) ++ blkIds t.reader ++ frameIds t.inbox = sentIds t.sent) ∧
    dataIds (fromConn k pc.hist) <+: sentIds t.sent

structure PcG (s : State) (p : Nat) (pc : PConn) : Prop where
  fifo : pc.hist = pc.readLog ++ pc.recvQ
  src : ∀ pkt, pkt ∈ pc.hist → ∃ t, s.tcps[pkt.conn]? = some t ∧ t.pc = some p ∧ pkt.src = t.peer
  prov : pc.provisional = true → pc.claimed = false → pc.closed = false →
    pc.alive = some (pc.created + effTimeout s.cfg.t2)

structure Inv2 (s : State) : Prop where
  tcp : ∀ (k : Nat) (t : Tcp), s.tcps[k]? = some t → TcpG s k t
  pc : ∀ (p : Nat) (pc : PConn), s.pcs[p]? = some pc → PcG s p pc

theorem inv2_init (cfg : Config) : Inv2 (init cfg) := by
  constructor <;> simp [init]

theorem inv2_pointwise {s s' : State} {g : Nat → Tcp → Tcp} {h : Nat → PConn → PConn} (pw : Pointwise s s' g h)
    (hcfg : s'.cfg = s.cfg)
    (hg : ∀ (j : Nat) (t : Tcp), s.tcps[j]? = some t →
      (g j t).peer = t.peer ∧ (g j t).pc = t.pc ∧ (g j t).sent = t.sent ∧
      (((g j t).phase = t.phase ∧ (g j t).reader = t.reader ∧ (g j t).inbox = t.inbox) ∨
       ((g j t).phase = .closed ∧ (g j t).reader = .none)))
    (hh : ∀ (q : Nat) (pc : PConn), s.pcs[q]? = some pc →
      (h q pc).hist = pc.hist ∧ (h q pc).hist = (h q pc).readLog ++ (h q pc).recvQ ∧
      (h q pc).provisional = pc.provisional ∧ (h q pc).created = pc.created ∧
      ((h q pc).claimed = false → pc.claimed = false) ∧ ((h q pc).closed = false → pc.closed = false) ∧
      ((h q pc).claimed = false → (h q pc).closed = false → (h q pc).alive = pc.alive))
    (hi : Inv2 s) : Inv2 s' := by
  constructor
  · intro k t' ht'
    obtain ⟨t, ht, rfl⟩ := pw.tget ht'
    obtain ⟨g1, g2, g3, g4⟩ := hg k t ht
    have old := hi.tcp k t ht
    constructor
    · intro d hd
      rcases g4 with ⟨e1, e2, e3⟩ | ⟨e1, _⟩
      · rw [e1] at hd; rw [g2, g3, e3]; exact old.fresh d hd
      · rw [e1] at hd; cases hd
    · intro p hp
      rw [g2] at hp
      obtain ⟨pc, hpc0⟩ := old.ref p hp
      exact ⟨h p pc, pw.pfw hpc0⟩
    · rcases g4 with ⟨e1, e2, e3⟩ | ⟨_, e2⟩
      · rw [g1, e2]; exact old.blk
      · rw [e2]; exact ⟨by simp⟩
    · intro p pc' hp hpc'
      rw [g2] at hp
      obtain ⟨pc, hpc0, rfl⟩ := pw.pget hpc'
      obtain ⟨b1, _⟩ := hh p pc hpc0
      have o := old.order p pc hp hpc0
      rw [b1, g3]
      rcases g4 with ⟨e1, e2, e3⟩ | ⟨e1, _⟩
      · rw [e1, e2, e3]; exact o
      · refine ⟨?_, o.2⟩
        intro q hq; rw [e1] at hq; cases hq
  · intro p pc' hpc'
    obtain ⟨pc, hpc0, rfl⟩ := pw.pget hpc'
    obtain ⟨b1, b2, b3, b4, b5, b6, b7⟩ := hh p pc hpc0
    have old := hi.pc p pc hpc0
    constructor
    · exact b2
    · intro pkt hpkt
      rw [b1] at hpkt
      obtain ⟨t, ht, e1, e2⟩ := old.src pkt hpkt
      obtain ⟨g1, g2, _⟩ := hg pkt.conn t ht
      exact ⟨g pkt.conn t, pw.tfw ht, by rw [g2]; exact e1, by rw [g1]; exact e2⟩
    · intro c1 c2 c3
      rw [b7 c2 c3, b4, hcfg]
      exact old.prov (by rw [← b3]; exact c1) (b5 c2) (b6 c3)

theorem pcSame (hi : Inv2 s) (q : Nat) (pc pc' : PConn) (hq : s.pcs[q]? = some pc)
    (e1 : pc'.hist = pc.hist) (e2 : pc'.readLog = pc.readLog) (e3 : pc'.recvQ = pc.recvQ)
    (e4 : pc'.provisional = pc.provisional) (e5 : pc'.created = pc.created)
    (e6 : pc'.claimed = false → pc.claimed = false) (e7 : pc'.closed = false → pc.closed = false)
    (e8 : pc'.claimed = false → pc'.closed = false → pc'.alive = pc.alive) :
    pc'.hist = pc.hist ∧ pc'.hist = pc'.readLog ++ pc'.recvQ ∧
      pc'.provisional = pc.provisional ∧ pc'.created = pc.created ∧
      (pc'.claimed = false → pc.claimed = false) ∧ (pc'.closed = false → pc.closed = false) ∧
      (pc'.claimed = false → pc'.closed = false → pc'.alive = pc.alive) :=
  ⟨e1, by rw [e1, e2, e3]; exact (hi.pc q pc hq).fifo, e4, e5, e6, e7, e8⟩

theorem setTcp_irrel_inv2 (s : State) (k : Nat) (f : Tcp → Tcp)
    (hf : ∀ t, (f t).peer = t.peer ∧ (f t).pc = t.pc ∧ (f t).sent = t.sent ∧ (f t).phase = t.phase ∧
      (f t).reader = t.reader ∧ (f t).inbox = t.inbox)
    (hi : Inv2 s) : Inv2 (setTcp s k f) := by
  apply inv2_pointwise (Pointwise.setTcp s k f) rfl
  · intro j t _
    by_cases e : k = j
    · obtain ⟨a, b, c, d, e', f'⟩ := hf t
      rw [if_pos e]; exact ⟨a, b, c, Or.inl ⟨d, e', f'⟩⟩
    · rw [if_neg e]; exact ⟨rfl, rfl, rfl, Or.inl ⟨rfl, rfl, rfl⟩⟩
  · intro q pc hq
    exact pcSame hi q pc pc hq rfl rfl rfl rfl rfl (fun x => x) (fun x => x) (fun _ _ => rfl)
  · exact hi

theorem setPc_irrel_inv2 (s : State) (p : Nat) (f : PConn → PConn)
    (hf : ∀ pc, (f pc).hist = pc.hist ∧ (f pc).readLog = pc.readLog ∧ (f pc).recvQ = pc.recvQ ∧
      (f pc).provisional = pc.provisional ∧ (f pc).created = pc.created ∧
      ((f pc).claimed = false → pc.claimed = false) ∧ ((f pc).closed = false → pc.closed = false) ∧
      ((f pc).claimed = false → (f pc).closed = false → (f pc).alive = pc.alive))
    (hi : Inv2 s) : Inv2 (setPc s p f) := by
  apply inv2_pointwise (Pointwise.setPc s p f) rfl
  · intro j t _; exact ⟨rfl, rfl, rfl, Or.inl ⟨rfl, rfl, rfl⟩⟩
  · intro q pc hq
    by_cases e : p = q
    · obtain ⟨a, b, c, d, e', f', g', h'⟩ := hf pc
      rw [if_pos e]
      exact pcSame hi q pc (f pc) hq a b c d e' f' g' h'
    · rw [if_neg e]
      exact pcSame hi q pc pc hq rfl rfl rfl rfl rfl (fun x => x) (fun x => x) (fun _ _ => rfl)
  · exact hi

theorem handles_irrel_inv2 (s : State) (hs : List Handle) (hi : Inv2 s) : Inv2 { s with handles := hs } := by
  apply inv2_pointwise (Pointwise.same (s := s) (s' := { s with handles := hs }) rfl rfl) rfl
  · intro j t _; exact ⟨rfl, rfl, rfl, Or.inl ⟨rfl, rfl, rfl⟩⟩
  · intro q pc hq
    exact pcSame hi q pc pc hq rfl rfl rfl rfl rfl (fun x => x) (fun x => x) (fun _ _ => rfl)
  · exact hi

theorem closePc1_inv2 (s : State) (p : Nat) (hi : Inv s) (h2 : Inv2 s) : Inv2 (closePc1 s p) := by
  refine closePc1_rule s p h2 ?_
  intro pc hp hc
  apply inv2_pointwise (Pointwise.closePc1 s p pc) rfl
  · intro j t ht
    unfold closeEffect
    by_cases h1 : j ∈ pc.conns.map (·.2)
    · rw [if_pos h1]
      exact ⟨rfl, rfl, rfl, Or.inr ⟨rfl, rfl⟩⟩
    · rw [if_neg h1]
      by_cases hb : j ∈ pc.blockedQ
      · rw [if_pos hb]
        refine ⟨rfl, rfl, rfl, Or.inr ⟨?_, rfl⟩⟩
        -- a blocked reader whose connection is not registered holds the final error packet
        obtain ⟨t2, ht2, hpc2, pkt, fin, hrd⟩ := (hi.pc p pc hp).2.2.1 j hb
        rw [ht] at ht2; cases ht2
        have hr := (hi.blocked ht hrd).2
        cases fin with
        | true => simpa using hr
        | false =>
          obtain ⟨q, hq⟩ := hr
          obtain ⟨e1, pcq, e2, _, e4⟩ := hi.att ht hq
          rw [hpc2] at e1; cases e1
          rw [hp] at e2; cases e2
          exact absurd (mem_conns_snd.2 ⟨_, e4⟩) h1
      · rw [if_neg hb]
        exact ⟨rfl, rfl, rfl, Or.inl ⟨rfl, rfl, rfl⟩⟩
  · intro q qc hq
    by_cases e : p = q
    · rw [if_pos e]
      exact pcSame h2 q qc (closedPc qc) hq rfl rfl rfl rfl rfl (fun x => x) (fun x => by simp [closedPc] at x)
        (fun _ x => by simp [closedPc] at x)
    · rw [if_neg e]
      exact pcSame h2 q qc qc hq rfl rfl rfl rfl rfl (fun x => x) (fun x => x) (fun _ _ => rfl)
  · exact h2

theorem runReader_inv2 (s : State) (k : Nat) (hi : Inv s) (h2 : Inv2 s) : Inv2 (runReader s k) := by
  refine runReader_rule s k h2 ?_
  intro t p pc d ht hph hrd hp hd
  have dok : DrainOk k p t.peer pc d := hd ▸ drain_ok ..
  have dsp : DrainSpec k p t.peer t.inbox pc d := hd ▸ drain_spec ..
  obtain ⟨⟨new, n1, n2, n3, n4, n5⟩, nblk, _⟩ := dsp
  have htpc := (hi.att ht hph).1
  let f : Tcp → Tcp := fun t => { t with phase := d.phase, reader := d.reader, inbox := d.inbox }
  obtain ⟨tk, tkk⟩ := modify_lookup (l := s.tcps) f ht
  have pq : ∀ q, q ≠ p → (s.pcs.modify p (fun _ => d.pc))[q]? = s.pcs[q]? :=
    fun q hq => getElem?_modify_ne _ _ _ _ hq
  have pp : (s.pcs.modify p (fun _ => d.pc))[p]? = some d.pc := by rw [getElem?_modify_eq, hp]; rfl
  have tfw : ∀ (j : Nat) (tj : Tcp), s.tcps[j]? = some tj →
      ∃ tj', (s.tcps.modify k f)[j]? = some tj' ∧ tj'.pc = tj.pc ∧ tj'.peer = tj.peer := by
    intro j tj h
    by_cases hjk : j = k
    · subst hjk; rw [ht] at h; cases h; exact ⟨f t, tkk, rfl, rfl⟩
    · exact ⟨tj, by rw [tk j hjk]; exact h, rfl, rfl⟩
  have pfw : ∀ (q : Nat) (qc : PConn), s.pcs[q]? = some qc → ∃ qc', (s.pcs.modify p (fun _ => d.pc))[q]? = some qc' := by
    intro q qc h
    by_cases hqp : q = p
    · subst hqp; exact ⟨d.pc, pp⟩
    · exact ⟨qc, by rw [pq q hqp]; exact h⟩
  show Inv2 { s with tcps := s.tcps.modify k f, pcs := s.pcs.modify p (fun _ => d.pc) }
  constructor
  · intro j tj htj
    simp only at htj
    by_cases hjk : j = k
    · subst hjk
      rw [tkk] at htj; cases htj
      have old := h2.tcp j t ht
      constructor
      · intro dd hdd
        simp only [f] at hdd
        rcases dok.shape with ⟨e, _⟩ | ⟨e, _⟩ <;> rw [e] at hdd <;> cases hdd
      · intro p0 hp0
        obtain ⟨qc, hqc⟩ := old.ref p0 hp0
        exact pfw p0 qc hqc
      · exact nblk
      · intro p0 pc0 hp0 hpc0
        simp only [f] at hp0
        rw [htpc] at hp0; cases hp0
        simp only at hpc0
        rw [pp] at hpc0; cases hpc0
        have o := (old.order p pc htpc hp).1 p hph
        rw [hrd] at o
        simp only [blkIds, List.append_nil] at o
        have hfc : fromConn j d.pc.hist = fromConn j pc.hist ++ new := by
          rw [n1, fromConn_append, fromConn_all (l := new) (fun x hx => (n3 x hx).1)]
        rw [hfc, dataIds_append]
        refine ⟨?_, ?_⟩
        · intro q hq
          simp only [f] at hq ⊢
          have hq' : d.phase = .attached p := by
            rcases dok.shape with ⟨e, _⟩ | ⟨e, _⟩
            · exact e
            · rw [e] at hq; cases hq
          have := n4 hq'
          rw [← o]
          simp only [List.append_assoc]
          rw [← this]
          simp only [List.append_assoc]
        · simp only [f]
          rw [← o]
          exact (List.prefix_append_right_inj _).2 n5
    · rw [tk j hjk] at htj
      have old := h2.tcp j tj htj
      constructor
      · exact old.fresh
      · intro p0 hp0
        obtain ⟨qc, hqc⟩ := old.ref p0 hp0
        exact pfw p0 qc hqc
      · exact old.blk
      · intro p0 pc0 hp0 hpc0
        simp only at hpc0
        by_cases hqp : p0 = p
        · subst hqp
          rw [pp] at hpc0; cases hpc0
          have hfc : fromConn j d.pc.hist = fromConn j pc.hist := by
            rw [n1, fromConn_append, fromConn_none (l := new) (fun x hx => by rw [(n3 x hx).1]; exact Ne.symm hjk)]
            simp
          rw [hfc]
          exact old.order p0 pc hp0 hp
        · rw [pq p0 hqp] at hpc0
          exact old.order p0 pc0 hp0 hpc0
  · intro q qc hq
    simp only at hq
    by_cases hqp : q = p
    · subst hqp
      rw [pp] at hq; cases hq
      have old := h2.pc q pc hp
      constructor
      · rw [n1, n2, dok.readLog, old.fifo]; simp
      · intro pkt hpkt
        rw [n1] at hpkt
        rcases List.mem_append.1 hpkt with hm | hm
        · obtain ⟨tj, htj, e1, e2⟩ := old.src pkt hm
          obtain ⟨tj', a1, a2, a3⟩ := tfw pkt.conn tj htj
          exact ⟨tj', a1, by rw [a2]; exact e1, by rw [a3]; exact e2⟩
        · obtain ⟨c1, c2⟩ := n3 pkt hm
          rw [c1]
          exact ⟨f t, tkk, htpc, c2⟩
      · intro c1 c2 c3
        rw [dok.alive, dok.created]
        exact old.prov (by rw [← dok.provisional]; exact c1) (by rw [← dok.claimed]; exact c2)
          (by rw [← dok.closed]; exact c3)
    · rw [pq q hqp] at hq
      have old := h2.pc q qc hq
      constructor
      · exact old.fifo
      · intro pkt hpkt
        obtain ⟨tj, htj, e1, e2⟩ := old.src pkt hpkt
        obtain ⟨tj', a1, a2, a3⟩ := tfw pkt.conn tj htj
        exact ⟨tj', a1, by rw [a2]; exact e1, by rw [a3]; exact e2⟩
      · exact old.prov

theorem dataIds_single_data (bp : Pkt) (h : bp.err = none) : dataIds [bp] = [(bp.fid, bp.len)] := by
  simp [dataIds, h]

theorem dataIds_single_err (bp : Pkt) (h : bp.err ≠ none) : dataIds [bp] = [] := by
  cases he : bp.err with
  | none => exact absurd he h
  | some e => simp [dataIds, he]

theorem unblock_inv2 (s : State) (hi : Inv s) (h2 : Inv2 s) (k p : Nat) (t : Tcp) (pc : PConn) (bq : List Nat)
    (bp : Pkt) (fin : Bool)
    (ht : s.tcps[k]? = some t) (hrd : t.reader = .blocked bp fin)
    (hp : s.pcs[p]? = some pc) (hbq : pc.blockedQ = k :: bq)
    (g : PConn → PConn)
    (hg : (g pc).hist = pc.hist ++ [bp] ∧ (g pc).hist = (g pc).readLog ++ (g pc).recvQ ∧
      (g pc).provisional = pc.provisional ∧ (g pc).created = pc.created ∧ (g pc).claimed = pc.claimed ∧
      (g pc).closed = pc.closed ∧ (g pc).alive = pc.alive) :
    Inv2 (setTcp (setPc s p g) k (fun t => { t with reader := if fin then .none else .idle })) := by
  let f : Tcp → Tcp := fun t => { t with reader := if fin then .none else .idle }
  obtain ⟨g1, g2, g3, g4, g5, g6, g7⟩ := hg
  have hkmem : k ∈ pc.blockedQ := by rw [hbq]; simp
  have htpc : t.pc = some p := by
    obtain ⟨t2, ht2, e, _⟩ := (hi.pc p pc hp).2.2.1 k hkmem
    rw [ht] at ht2; cases ht2; exact e
  have oldk := h2.tcp k t ht
  obtain ⟨b1, b2, b3, b4⟩ := oldk.blk.ok bp fin hrd
  have hrk := hi.blocked ht hrd
  obtain ⟨tk, tkk⟩ := modify_lookup (l := s.tcps) f ht
  obtain ⟨pq, pp⟩ := modify_lookup (l := s.pcs) g hp
  have tfw : ∀ (j : Nat) (tj : Tcp), s.tcps[j]? = some tj →
      ∃ tj', (s.tcps.modify k f)[j]? = some tj' ∧ tj'.pc = tj.pc ∧ tj'.peer = tj.peer := by
    intro j tj h
    by_cases hjk : j = k
    · subst hjk; rw [ht] at h; cases h; exact ⟨f t, tkk, rfl, rfl⟩
    · exact ⟨tj, by rw [tk j hjk]; exact h, rfl, rfl⟩
  have pfw : ∀ (q : Nat) (qc : PConn), s.pcs[q]? = some qc → ∃ qc', (s.pcs.modify p g)[q]? = some qc' := by
    intro q qc h
    by_cases hqp : q = p
    · subst hqp; exact ⟨g pc, pp⟩
    · exact ⟨qc, by rw [pq q hqp]; exact h⟩
  show Inv2 { s with pcs := s.pcs.modify p g, tcps := s.tcps.modify k f }
  constructor
  · intro j tj htj
    simp only at htj
    by_cases hjk : j = k
    · subst hjk
      rw [tkk] at htj; cases htj
      constructor
      · exact oldk.fresh
      · intro p0 hp0
        obtain ⟨qc, hqc⟩ := oldk.ref p0 hp0
        exact pfw p0 qc hqc
      · refine ⟨?_⟩
        intro bp' fin' h
        simp only [f] at h
        cases fin <;> simp at h
      · intro p0 pc0 hp0 hpc0
        simp only [f] at hp0
        rw [htpc] at hp0; cases hp0
        simp only at hpc0
        rw [pp] at hpc0; cases hpc0
        have o := oldk.order p pc htpc hp
        have hfc : fromConn j (g pc).hist = fromConn j pc.hist ++ [bp] := by
          rw [g1, fromConn_append, fromConn_all (l := [bp]) (fun x hx => by simp at hx; rw [hx]; exact b1)]
        rw [hfc, dataIds_append]
        cases fin with
        | false =>
          have hatt : ∃ q, t.phase = .attached q := by simpa using hrk.2
          obtain ⟨q0, hq0⟩ := hatt
          have e := o.1 q0 hq0
          rw [hrd] at e
          simp only [blkIds] at e
          rw [dataIds_single_data bp (b3 rfl)]
          refine ⟨?_, ?_⟩
          · intro q _
            simp only [f, blkIds, Bool.false_eq_true, if_false, List.append_nil]
            exact e
          · simp only [f]
            rw [← e]
            simp only [List.append_assoc]
            exact (List.prefix_append_right_inj _).2 (List.prefix_append _ _)
        | true =>
          have hcl : t.phase = .closed := by simpa using hrk.2
          rw [dataIds_single_err bp (b4 rfl)]
          simp only [List.append_nil]
          refine ⟨?_, o.2⟩
          intro q hq
          simp only [f] at hq
          rw [hcl] at hq; cases hq
    · rw [tk j hjk] at htj
      have old := h2.tcp j tj htj
      constructor
      · exact old.fresh
      · intro p0 hp0
        obtain ⟨qc, hqc⟩ := old.ref p0 hp0
        exact pfw p0 qc hqc
      · exact old.blk
      · intro p0 pc0 hp0 hpc0
        simp only at hpc0
        by_cases hqp : p0 = p
        · subst hqp
          rw [pp] at hpc0; cases hpc0
          have hfc : fromConn j (g pc).hist = fromConn j pc.hist := by
            rw [g1, fromConn_append, fromConn_none (l := [bp]) (fun x hx => by
              simp at hx; rw [hx, b1]; exact Ne.symm hjk)]
            simp
          rw [hfc]
          exact old.order p0 pc hp0 hp
        · rw [pq p0 hqp] at hpc0
          exact old.order p0 pc0 hp0 hpc0
  · intro q qc hq
    simp only at hq
    by_cases hqp : q = p
    · subst hqp
      rw [pp] at hq; cases hq
      have old := h2.pc q pc hp
      constructor
      · exact g2
      · intro pkt hpkt
        rw [g1] at hpkt
        rcases List.mem_append.1 hpkt with hm | hm
        · obtain ⟨tj, htj, e1, e2⟩ := old.src pkt hm
          obtain ⟨tj', a1, a2, a3⟩ := tfw pkt.conn tj htj
          exact ⟨tj', a1, by rw [a2]; exact e1, by rw [a3]; exact e2⟩
        · simp at hm
          subst hm
          rw [b1]
          exact ⟨f t, tkk, htpc, b2⟩
      · intro c1 c2 c3
        rw [g7, g4]
        exact old.prov (by rw [← g3]; exact c1) (by rw [← g5]; exact c2) (by rw [← g6]; exact c3)
    · rw [pq q hqp] at hq
      have old := h2.pc q qc hq
      constructor
      · exact old.fifo
      · intro pkt hpkt
        obtain ⟨tj, htj, e1, e2⟩ := old.src pkt hpkt
        obtain ⟨tj', a1, a2, a3⟩ := tfw pkt.conn tj htj
        exact ⟨tj', a1, by rw [a2]; exact e1, by rw [a3]; exact e2⟩
      · exact old.prov

theorem register_inv2 (s : State) (h2 : Inv2 s) (k p : Nat) (t : Tcp) (pc : PConn) (fr : Frame)
    (ht : s.tcps[k]? = some t) (d : Nat) (hph : t.phase = .pending d)
    (hp : s.pcs[p]? = some pc) :
    Inv2 (setTcp (setPc s p (fun pc => { pc with conns := pc.conns ++ [(t.peer, k)] })) k
      (fun t => { t with phase := .attached p, reader := .idle, pc := some p, inbox := [.frame fr], sent := t.sent ++ [fr] })) := by
  let f : Tcp → Tcp := fun t => { t with phase := .attached p, reader := .idle, pc := some p, inbox := [.frame fr], sent := t.sent ++ [fr] }
  let g : PConn → PConn := fun pc => { pc with conns := pc.conns ++ [(t.peer, k)] }
  have oldk := h2.tcp k t ht
  obtain ⟨f1, f2, f3⟩ := oldk.fresh d hph
  obtain ⟨tk, tkk⟩ := modify_lookup (l := s.tcps) f ht
  obtain ⟨pq, pp⟩ := modify_lookup (l := s.pcs) g hp
  -- no logged packet carries the tag of a connection that was never attached
  have notag : ∀ (q : Nat) (qc : PConn), s.pcs[q]? = some qc → ∀ x, x ∈ qc.hist → x.conn ≠ k := by
    intro q qc hq x hx hxk
    obtain ⟨tj, htj, e1, _⟩ := (h2.pc q qc hq).src x hx
    rw [hxk, ht] at htj; cases htj
    rw [f1] at e1; cases e1
  have pfw : ∀ (q : Nat) (qc : PConn), s.pcs[q]? = some qc → ∃ qc', (s.pcs.modify p g)[q]? = some qc' ∧ qc'.hist = qc.hist := by
    intro q qc h
    by_cases hqp : q = p
    · subst hqp; rw [hp] at h; cases h; exact ⟨g pc, pp, rfl⟩
    · exact ⟨qc, by rw [pq q hqp]; exact h, rfl⟩
  have pbw : ∀ (q : Nat) (qc' : PConn), (s.pcs.modify p g)[q]? = some qc' → ∃ qc, s.pcs[q]? = some qc ∧
      qc'.hist = qc.hist ∧ qc'.readLog = qc.readLog ∧ qc'.recvQ = qc.recvQ ∧ qc'.provisional = qc.provisional ∧
      qc'.claimed = qc.claimed ∧ qc'.closed = qc.closed ∧ qc'.alive = qc.alive ∧ qc'.created = qc.created := by
    intro q qc' h
    by_cases hqp : q = p
    · subst hqp; rw [pp] at h; cases h; exact ⟨pc, hp, rfl, rfl, rfl, rfl, rfl, rfl, rfl, rfl⟩
    · rw [pq q hqp] at h; exact ⟨qc', h, rfl, rfl, rfl, rfl, rfl, rfl, rfl, rfl⟩
  show Inv2 { s with pcs := s.pcs.modify p g, tcps := s.tcps.modify k f }
  constructor
  · intro j tj htj
    simp only at htj
    by_cases hjk : j = k
    · subst hjk
      rw [tkk] at htj; cases htj
      constructor
      · intro dd hdd; simp only [f] at hdd; cases hdd
      · intro p0 hp0
        simp only [f] at hp0; cases hp0
        exact ⟨g pc, pp⟩
      · exact ⟨by simp [f]⟩
      · intro p0 pc0 hp0 hpc0
        simp only [f] at hp0; cases hp0
        simp only at hpc0
        rw [pp] at hpc0; cases hpc0
        have : fromConn j (g pc).hist = [] := fromConn_none (notag p pc hp)
        rw [this]
        simp [f, dataIds, blkIds, frameIds, frameId, sentIds, f2]
    · rw [tk j hjk] at htj
      have old := h2.tcp j tj htj
      constructor
      · exact old.fresh
      · intro p0 hp0
        obtain ⟨qc, hqc⟩ := old.ref p0 hp0
        obtain ⟨qc', h', _⟩ := pfw p0 qc hqc
        exact ⟨qc', h'⟩
      · exact old.blk
      · intro p0 pc0 hp0 hpc0
        simp only at hpc0
        obtain ⟨qc, hqc, e, _⟩ := pbw p0 pc0 hpc0
        rw [e]
        exact old.order p0 qc hp0 hqc
  · intro q qc' hq
    simp only at hq
    obtain ⟨qc, hqc, e1, e2, e3, e4, e5, e6, e7, e8⟩ := pbw q qc' hq
    have old := h2.pc q qc hqc
    constructor
    · rw [e1, e2, e3]; exact old.fifo
    · intro pkt hpkt
      rw [e1] at hpkt
      obtain ⟨tj, htj, a1, a2⟩ := old.src pkt hpkt
      have hne : pkt.conn ≠ k := notag q qc hqc pkt hpkt
      exact ⟨tj, by rw [tk _ hne]; exact htj, a1, a2⟩
    · intro c1 c2 c3
      rw [e7, e8]
      exact old.prov (by rw [← e4]; exact c1) (by rw [← e5]; exact c2) (by rw [← e6]; exact c3)

/-- a pending connection is closed (its `sent` log may record the rejected frame) -/
theorem closePending_inv2 (s : State) (h2 : Inv2 s) (k : Nat) (t : Tcp) (ht : s.tcps[k]? = some t)
    (d : Nat) (hph : t.phase = .pending d) (f : Tcp → Tcp)
    (hf : (f t).phase = .closed ∧ (f t).reader = .none ∧ (f t).pc = t.pc ∧ (f t).peer = t.peer) :
    Inv2 (setTcp s k f) := by
  have oldk := h2.tcp k t ht
  obtain ⟨f1, f2, f3⟩ := oldk.fresh d hph
  obtain ⟨tk, tkk⟩ := modify_lookup (l := s.tcps) f ht
  constructor
  · intro j tj htj
    simp only [setTcp] at htj
    by_cases hjk : j = k
    · subst hjk
      rw [tkk] at htj; cases htj
      constructor
      · intro dd hdd; rw [hf.1] at hdd; cases hdd
      · intro p0 hp0; rw [hf.2.2.1, f1] at hp0; cases hp0
      · rw [hf.2.1]; exact ⟨by simp⟩
      · intro p0 pc0 hp0; rw [hf.2.2.1, f1] at hp0; cases hp0
    · rw [tk j hjk] at htj
      have o := h2.tcp j tj htj
      exact ⟨o.fresh, o.ref, o.blk, o.order⟩
  · intro q qc hq
    simp only [setTcp] at hq
    have old := h2.pc q qc hq
    constructor
    · exact old.fifo
    · intro pkt hpkt
      obtain ⟨tj, htj, a1, a2⟩ := old.src pkt hpkt
      by_cases hne : pkt.conn = k
      · rw [hne, ht] at htj; cases htj
        rw [f1] at a1; cases a1
      · exact ⟨tj, by simp only [setTcp]; rw [tk _ hne]; exact htj, a1, a2⟩
    · exact old.prov

theorem appendTcp_inv2 (s : State) (h2 : Inv2 s) (t : Tcp) (hr : t.reader = .none) (hpc : t.pc = none)
    (hs : t.sent = []) (hin : t.inbox = []) : Inv2 { s with tcps := s.tcps ++ [t] } := by
  constructor
  · intro j tj htj
    simp only at htj
    rw [List.getElem?_append] at htj
    split at htj
    · have o := h2.tcp j tj htj
      exact ⟨o.fresh, o.ref, o.blk, o.order⟩
    · have : tj = t := by
        cases hjl : j - s.tcps.length with
        | zero => rw [hjl] at htj; simp at htj; exact htj.symm
        | succ n => rw [hjl] at htj; simp at htj
      subst this
      constructor
      · intro _ _; exact ⟨hpc, hs, hin⟩
      · intro p0 hp0; rw [hpc] at hp0; cases hp0
      · rw [hr]; exact ⟨by simp⟩
      · intro p0 pc0 hp0; rw [hpc] at hp0; cases hp0
  · intro q qc hq
    have old := h2.pc q qc hq
    constructor
    · exact old.fifo
    · intro pkt hpkt
      obtain ⟨tj, htj, a1, a2⟩ := old.src pkt hpkt
      exact ⟨tj, getElem?_append_old _ _ _ _ htj, a1, a2⟩
    · exact old.prov

theorem appendPc_inv2 (s : State) (h2 : Inv2 s) (npc : PConn)
    (h1 : npc.hist = []) (h3 : npc.readLog = []) (h4 : npc.recvQ = [])
    (h5 : npc.provisional = true → npc.claimed = false → npc.alive = some (npc.created + effTimeout s.cfg.t2)) :
    Inv2 { s with pcs := s.pcs ++ [npc] } := by
  have new : ∀ (q : Nat) (qc : PConn), (s.pcs ++ [npc])[q]? = some qc → s.pcs[q]? = some qc ∨ (s.pcs[q]? = none ∧ qc = npc) := by
    intro q qc h
    rw [List.getElem?_append] at h
    split at h
    · exact Or.inl h
    · rename_i hge
      refine Or.inr ⟨List.getElem?_eq_none_iff.2 (by omega), ?_⟩
      cases hjl : q - s.pcs.length with
      | zero => rw [hjl] at h; simp at h; exact h.symm
      | succ n => rw [hjl] at h; simp at h
  constructor
  · intro j tj htj
    have old := h2.tcp j tj htj
    constructor
    · exact old.fresh
    · intro p0 hp0
      obtain ⟨qc, hqc⟩ := old.ref p0 hp0
      exact ⟨qc, getElem?_append_old _ _ _ _ hqc⟩
    · exact old.blk
    · intro p0 pc0 hp0 hpc0
      obtain ⟨qc, hqc⟩ := old.ref p0 hp0
      rcases new p0 pc0 hpc0 with h | ⟨h, _⟩
      · exact old.order p0 pc0 hp0 h
      · rw [hqc] at h; cases h
  · intro q qc hq
    rcases new q qc hq with h | ⟨_, rfl⟩
    · have o := h2.pc q qc h
      exact ⟨o.fifo, o.src, o.prov⟩
    · constructor
      · rw [h1, h3, h4]; rfl
      · intro pkt hpkt; rw [h1] at hpkt; cases hpkt
      · intro c1 c2 _; exact h5 c1 c2

theorem tick_inv2 (s : State) (h2 : Inv2 s) (now' : Nat) :
    Inv2 { s with now := now', tcps := s.tcps.map (expireTcp now') } := by
  apply inv2_pointwise (Pointwise.tick s now') rfl
  · intro j t _
    unfold expireTcp
    split
    · split
      · exact ⟨rfl, rfl, rfl, Or.inr ⟨rfl, rfl⟩⟩
      · exact ⟨rfl, rfl, rfl, Or.inl ⟨rfl, rfl, rfl⟩⟩
    · exact ⟨rfl, rfl, rfl, Or.inl ⟨rfl, rfl, rfl⟩⟩
  · intro q pc hq
    exact pcSame h2 q pc pc hq rfl rfl rfl rfl rfl (fun x => x) (fun x => x) (fun _ _ => rfl)
  · exact h2

theorem push_inv2 (s : State) (h2 : Inv2 s) (k : Nat) (t : Tcp) (ht : s.tcps[k]? = some t)
    (f : Tcp → Tcp) (it : Item) (fr : List Frame)
    (hf : (f t).peer = t.peer ∧ (f t).pc = t.pc ∧ (f t).phase = t.phase ∧ (f t).reader = t.reader ∧
      (f t).inbox = t.inbox ++ [it] ∧ (f t).sent = t.sent ++ fr)
    (hfr : frameIds [it] = sentIds fr) (hnp : ∀ d, t.phase ≠ .pending d) : Inv2 (setTcp s k f) := by
  obtain ⟨a1, a2, a3, a4, a5, a6⟩ := hf
  obtain ⟨tk, tkk⟩ := modify_lookup (l := s.tcps) f ht
  constructor
  · intro j tj htj
    simp only [setTcp] at htj
    by_cases hjk : j = k
    · subst hjk
      rw [tkk] at htj; cases htj
      have old := h2.tcp j t ht
      constructor
      · intro d hd; rw [a3] at hd; exact absurd hd (hnp d)
      · intro p0 hp0; rw [a2] at hp0; exact old.ref p0 hp0
      · rw [a1, a4]; exact old.blk
      · intro p0 pc0 hp0 hpc0
        rw [a2] at hp0
        have o := old.order p0 pc0 hp0 hpc0
        rw [a3, a4, a5, a6, frameIds_append, sentIds_append, hfr]
        refine ⟨?_, List.IsPrefix.trans o.2 (List.prefix_append _ _)⟩
        intro q hq
        rw [← o.1 q hq]
        simp only [List.append_assoc]
    · rw [tk j hjk] at htj
      have o := h2.tcp j tj htj
      exact ⟨o.fresh, o.ref, o.blk, o.order⟩
  · intro q qc hq
    simp only [setTcp] at hq
    have old := h2.pc q qc hq
    constructor
    · exact old.fifo
    · intro pkt hpkt
      obtain ⟨tj, htj, e1, e2⟩ := old.src pkt hpkt
      by_cases hne : pkt.conn = k
      · rw [hne, ht] at htj; cases htj
        exact ⟨f t, by simp only [setTcp]; rw [hne]; exact tkk, by rw [a2]; exact e1, by rw [a1]; exact e2⟩
      · exact ⟨tj, by simp only [setTcp]; rw [tk _ hne]; exact htj, e1, e2⟩
    · exact old.prov

theorem ensurePc_inv2 (s : State) (key : Key) (h2 : Inv2 s) : Inv2 (ensurePc s key).1 := by
  unfold ensurePc
  split
  · exact h2
  · exact appendPc_inv2 s h2 _ rfl rfl rfl (fun _ _ => rfl)

theorem setPc_fifo_inv2 (s : State) (p : Nat) (f : PConn → PConn) (h2 : Inv2 s)
    (hf : ∀ pc, s.pcs[p]? = some pc → (f pc).hist = pc.hist ∧ (f pc).hist = (f pc).readLog ++ (f pc).recvQ ∧
      (f pc).provisional = pc.provisional ∧ (f pc).created = pc.created ∧ (f pc).claimed = pc.claimed ∧
      (f pc).closed = pc.closed ∧ (f pc).alive = pc.alive) : Inv2 (setPc s p f) := by
  apply inv2_pointwise (Pointwise.setPc s p f) rfl
  · intro j t _; exact ⟨rfl, rfl, rfl, Or.inl ⟨rfl, rfl, rfl⟩⟩
  · intro q pc hq
    by_cases e : p = q
    · subst e
      obtain ⟨a, b, c, d, e', f', g'⟩ := hf pc hq
      rw [if_pos rfl]
      exact ⟨a, b, c, d, fun x => by rw [← e']; exact x, fun x => by rw [← f']; exact x, fun _ _ => g'⟩
    · rw [if_neg e]
      exact pcSame h2 q pc pc hq rfl rfl rfl rfl rfl (fun x => x) (fun x => x) (fun _ _ => rfl)
  · exact h2

theorem inv2_flags (s : State) (h2 : Inv2 s) (a b : Bool) (c : Nat) :
    Inv2 { s with muxClosed := a, listenerOpen := b, closedAt := c } := by
  apply inv2_pointwise
    (Pointwise.same (s := s) (s' := { s with muxClosed := a, listenerOpen := b, closedAt := c }) rfl rfl) rfl
  · intro j t _; exact ⟨rfl, rfl, rfl, Or.inl ⟨rfl, rfl, rfl⟩⟩
  · intro q pc hq
    exact pcSame h2 q pc pc hq rfl rfl rfl rfl rfl (fun x => x) (fun x => x) (fun _ _ => rfl)
  · exact h2

theorem micro_inv2 {s s' : State} (m : Micro s s') (hi : Inv s) (h2 : Inv2 s) : Inv2 s' := by
  cases m with
  | accept peer lip hl => exact appendTcp_inv2 s h2 _ rfl rfl rfl rfl
  | refuse peer lip => exact appendTcp_inv2 s h2 _ rfl rfl rfl rfl
  | reject k t d f ht hph => exact closePending_inv2 s h2 k t ht d hph _ ⟨rfl, rfl, rfl, rfl⟩
  | hangup k t d ht hph => exact closePending_inv2 s h2 k t ht d hph _ ⟨rfl, rfl, rfl, rfl⟩
  | stall k => exact setTcp_irrel_inv2 s k _ (fun t => ⟨rfl, rfl, rfl, rfl, rfl, rfl⟩) h2
  | gone k => exact setTcp_irrel_inv2 s k _ (fun t => ⟨rfl, rfl, rfl, rfl, rfl, rfl⟩) h2
  | wrote k pid len => exact setTcp_irrel_inv2 s k _ (fun t => ⟨rfl, rfl, rfl, rfl, rfl, rfl⟩) h2
  | push k t q f ht hph =>
    refine runReader_inv2 _ k (setTcp_irrel_inv s k _ (fun t => ⟨rfl, rfl, rfl, rfl⟩) hi) ?_
    exact push_inv2 s h2 k t ht _ (.frame f) [f] ⟨rfl, rfl, rfl, rfl, rfl, rfl⟩ (by simp [frameIds, frameId, sentIds])
      (by intro d hd; rw [hph] at hd; cases hd)
  | pushEnd k t q reset ht hph =>
    refine runReader_inv2 _ k (setTcp_irrel_inv s k _ (fun t => ⟨rfl, rfl, rfl, rfl⟩) hi) ?_
    refine push_inv2 s h2 k t ht _ (if reset then .reset else .eof) [] ⟨rfl, rfl, rfl, rfl, rfl, by simp⟩ ?_
      (by intro d hd; rw [hph] at hd; cases hd)
    cases reset <;> simp [frameIds, frameId, sentIds]
  | provision key k t d ht hph hn => exact appendPc_inv2 s h2 _ rfl rfl rfl (fun _ _ => rfl)
  | register p k t d pc f ht hph hp ho hdup =>
    exact runReader_inv2 _ k (register_inv s hi k p t pc ht d hph hp ho hdup _ ⟨rfl, rfl, rfl, rfl⟩)
      (register_inv2 s h2 k p t pc f ht d hph hp)
  | close p => exact closePc1_inv2 s p hi h2
  | tick now' hle hsp => exact tick_inv2 s h2 now'
  | claim key p hm hp =>
    exact handles_irrel_inv2 _ _ (setPc_irrel_inv2 s _ _ (fun pc => ⟨rfl, rfl, rfl, rfl, rfl, fun x => by simp at x,
      fun x => x, fun x => by simp at x⟩) h2)
  | create key hm hn =>
    exact handles_irrel_inv2 { s with pcs := s.pcs ++ [_] } _ (appendPc_inv2 s h2 _ rfl rfl rfl (fun x => by simp at x))
  | closeH h => exact handles_irrel_inv2 s _ h2
  | decRef p =>
    exact setPc_irrel_inv2 s p _ (fun pc => ⟨rfl, rfl, rfl, rfl, rfl, fun x => x, fun x => x, fun _ _ => rfl⟩) h2
  | pop p pc pkt q hp hq =>
    apply setPc_fifo_inv2 s p _ h2
    intro pc' hp'
    rw [hp] at hp'; cases hp'
    refine ⟨rfl, ?_, rfl, rfl, rfl, rfl, rfl⟩
    simp only
    rw [(h2.pc p pc hp).fifo, hq]; simp
  | unblockQ p k pc bq t bp fin hp hbq ht hrd =>
    refine runReader_inv2 _ k (unblock_inv s hi k p t pc bq bp fin ht hrd hp hbq _ ⟨rfl, rfl, rfl, rfl, rfl⟩)
      (unblock_inv2 s hi h2 k p t pc bq bp fin ht hrd hp hbq _ ⟨rfl, ?_, rfl, rfl, rfl, rfl, rfl⟩)
    simp only
    rw [(h2.pc p pc hp).fifo]; simp
  | unblockE p k pc bq t bp fin hp hq hbq ht hrd =>
    refine runReader_inv2 _ k (unblock_inv s hi k p t pc bq bp fin ht hrd hp hbq _ ⟨rfl, rfl, rfl, rfl, rfl⟩)
      (unblock_inv2 s hi h2 k p t pc bq bp fin ht hrd hp hbq _ ⟨rfl, ?_, rfl, rfl, rfl, rfl, rfl⟩)
    simp only
    rw [(h2.pc p pc hp).fifo, hq]; simp
  | shut hm hall => exact inv2_flags s h2 true false _

theorem step_inv2 (s : State) (op : Op) (hi : Inv s) (h2 : Inv2 s) : Inv2 (step s op).1 :=
  ((step_chain s op).keeps (P := fun x => Inv x ∧ Inv2 x)
    (fun _ _ m h => ⟨micro_inv m h.1, micro_inv2 m h.1 h.2⟩) ⟨hi, h2⟩).2

theorem inv2_pendingFresh (s : State) (h2 : Inv2 s) : PendingFresh s :=
  fun k t d ht hph => ((h2.tcp k t ht).fresh d hph).1

theorem step_ext (s : State) (op : Op) (hi : Inv s) (h2 : Inv2 s) : Ext s (step s op).1 :=
  ((step_chain s op).keeps (P := fun x => (Inv x ∧ Inv2 x) ∧ Ext s x)
    (fun a _ m h => ⟨⟨micro_inv m h.1.1, micro_inv2 m h.1.1 h.1.2⟩,
      h.2.trans (micro_ext m (inv2_pendingFresh a h.1.2))⟩) ⟨⟨hi, h2⟩, Ext.refl s⟩).2

theorem run_ext (s : State) (ops : List Op) (hi : Inv s) (h2 : Inv2 s) : Ext s (run s ops) := by
  induction ops generalizing s with
  | nil => exact Ext.refl s
  | cons op ops ih =>
    exact (step_ext s op hi h2).trans (ih _ (step_inv s op hi) (step_inv2 s op hi h2))

end IceProofs.TcpMux

import IceProofs.Sys2C01View
import IceProofs.AgentMoves
/-!
# C01, layer 2 — every step of the agent preserves the per-agent invariant `AInv` (with the ghost log extended by the
Binding requests it emits) and emits only allowed outputs (`OutOK`)

`view` forgets what the invariant does not read, so most moves of `Agent.Move` leave the view alone.  The others change
it in one of the ways `Sys2C01View` has a lemma for; what they need to know of their arguments is in the guards of the
move, and what they need to know of the event is collected in `CtxOK`.  `post_move` is the case analysis, `step_post`
follows from `Agent.step_chain`.
-/
namespace IceProofs.C01
open IceModel.AgentCore IceProofs.Agent

section
variable (Good : Nat → Nat → Prop) (Sane SaneR : Nat → Prop) (tag : Nat) (lite : Bool) (R : Nat → Nat → Nat → Prop)

/-- what an agent may emit: Binding requests, error responses, success responses only as allowed by
`R from to tid`; `cbState connected` / `cbPair` of a full agent only when some `Good` address pair exists. -/
def OutOK : Out → Prop
  | .dgram f t m => m.cls = 0 ∨ m.cls = 3 ∨ (m.cls = 2 ∧ R f t m.tid)
  | .cbState s => s = .connected → lite = false → ∃ la ra, Good la ra
  | .cbPair _ _ => lite = false → ∃ la ra, Good la ra
  | _ => True

/-- the invariant holds of the agent reached, for the log `L` extended by the requests among the outputs, and the
outputs are allowed -/
def Post (L : Log) (r : Agent × List Out) : Prop :=
  AInv Good Sane SaneR tag lite (view r.1) (L ++ reqs r.2) ∧ ∀ o ∈ r.2, OutOK Good lite R o

variable {Good Sane SaneR tag lite R}

theorem Post.quiet {r : Agent × List Out} {L : Log} (h : AInv Good Sane SaneR tag lite (view r.1) L)
    (hr : ∀ o ∈ r.2, reqOf o = none) (ho : ∀ o ∈ r.2, OutOK Good lite R o) : Post Good Sane SaneR tag lite R L r := by
  refine ⟨?_, ho⟩
  rw [show reqs r.2 = [] from List.filterMap_eq_nil_iff.mpr hr, List.append_nil]
  exact h

theorem Post.ret {a : Agent} {L : Log} (h : AInv Good Sane SaneR tag lite (view a) L) : Post Good Sane SaneR tag lite R L (a, []) :=
  Post.quiet h (fun _ ho => by cases ho) (fun _ ho => by cases ho)

theorem Post.seq {L : Log} {r1 r2 : Agent × List Out} (h1 : Post Good Sane SaneR tag lite R L r1)
    (h2 : Post Good Sane SaneR tag lite R (L ++ reqs r1.2) r2) : Post Good Sane SaneR tag lite R L (r2.1, r1.2 ++ r2.2) := by
  refine ⟨?_, ?_⟩
  · have := h2.1
    simpa [List.append_assoc] using this
  · intro o ho
    rcases List.mem_append.mp ho with ho | ho
    · exact h1.2 o ho
    · exact h2.2 o ho

theorem Post.out {a : Agent} {L : Log} {o : Out} (h : AInv Good Sane SaneR tag lite (view a) L) (hr : reqOf o = none)
    (ho : OutOK Good lite R o) : Post Good Sane SaneR tag lite R L (a, [o]) :=
  Post.quiet h (fun x hx => by rw [List.mem_singleton.mp hx]; exact hr) (fun x hx => by rw [List.mem_singleton.mp hx]; exact ho)

theorem view_modPair (a : Agent) (id : Nat) (f : Pair → Pair) (hf : ∀ p, pv (f p) = pv p) :
    view (a.modPair id f) = view a := by
  simp only [view, Agent.modPair]
  rw [updPair_map pv _ _ _ hf]

theorem view_seenLocalSent (a : Agent) (u now : Nat) : view (a.seenLocalSent u now) = view a := by
  simp only [view, Agent.seenLocalSent]
  rw [updCand_map cv]
  intro c; rfl

theorem view_seenRemoteRecv (a : Agent) (u now : Nat) : view (a.seenRemoteRecv u now) = view a := by
  simp only [view, Agent.seenRemoteRecv]
  rw [updCand_map cv]
  intro c; rfl

theorem mem_checklist_pv {a : Agent} {p : Pair} (hp : p ∈ a.checklist) : pv p ∈ (view a).pairs :=
  List.mem_map.mpr ⟨p, hp, rfl⟩

theorem mem_locals_cv {a : Agent} {c : Cand} (hc : c ∈ a.locals) : cv c ∈ (view a).locs :=
  List.mem_map.mpr ⟨c, hc, rfl⟩

theorem mem_remotes_cv {a : Agent} {c : Cand} (hc : c ∈ a.remotes) : cv c ∈ (view a).rems :=
  List.mem_map.mpr ⟨c, hc, rfl⟩

theorem view_sendRequest (a : Agent) (now : Nat) (l r : Cand) (uc : Bool) (nom : Option Nat) :
    view (a.sendRequest now l r uc nom).1 =
      { view a with nextTid := a.nextTid + 1,
                    pend := (a.pending.filter fun p => now - p.ts < maxBindingRequestTimeout).map pdv ++ [(2 * a.nextTid + a.tag, l.addr, r.addr)] } := by
  unfold Agent.sendRequest
  simp only [view_seenLocalSent]
  split
  · rw [view_modPair]
    · simp [view, Agent.invalidatePending, pdv]
    · intro p; rfl
  · simp [view, Agent.invalidatePending, pdv]

theorem outs_sendRequest (a : Agent) (now : Nat) (l r : Cand) (uc : Bool) (nom : Option Nat) :
    ∃ m, (a.sendRequest now l r uc nom).2 = [.dgram l.addr r.addr m] ∧ m.cls = 0 ∧ m.tid = 2 * a.nextTid + a.tag := by
  unfold Agent.sendRequest
  simp [Agent.invalidatePending]

theorem sendRequest_post {a : Agent} {L : Log} (h : AInv Good Sane SaneR tag lite (view a) L) (now : Nat) (l r : Cand)
    (uc : Bool) (nom : Option Nat) (hl : Sane l.addr) (hr : SaneR r.addr) :
    Post Good Sane SaneR tag lite R L (a.sendRequest now l r uc nom) := by
  obtain ⟨m, ho, hc, ht⟩ := outs_sendRequest a now l r uc nom
  refine ⟨?_, ?_⟩
  · rw [view_sendRequest, ho]
    have : reqs [Out.dgram l.addr r.addr m] = [(2 * a.nextTid + a.tag, l.addr, r.addr)] := by
      simp [reqs, reqOf, hc, ht]
    rw [this]
    refine h.addReq _ ?_ l.addr r.addr hl hr
    intro x hx
    obtain ⟨p, hp, rfl⟩ := List.mem_map.mp hx
    exact List.mem_map.mpr ⟨p, (List.mem_filter.mp hp).1, rfl⟩
  · intro o hx
    rw [ho] at hx
    simp at hx
    subst hx
    exact Or.inl hc

theorem view_select (a : Agent) (id : Nat) : view (a.select id).1 = { view a with sel := some id, live := true } := by
  rw [Agent.select_update]
  show { view (a.modPair id fun p => { p with nominated := true }) with sel := some id, live := true } = _
  rw [view_modPair a id (fun p => { p with nominated := true }) fun _ => rfl]

theorem selected_pair {a : Agent} {p : Pair} (h : a.selected.bind a.pairById = some p) : a.selected = some p.id := by
  cases hs : a.selected with
  | none => simp [hs] at h
  | some id =>
    simp [hs, Agent.pairById] at h
    have := List.find?_some h
    simp at this
    rw [this]

theorem pairById_pv_mem {a : Agent} {id : Nat} {p : Pair} (h : a.pairById id = some p) :
    pv p ∈ (view a).pairs ∧ (pv p).id = id :=
  ⟨mem_checklist_pv (pairById_listed h).1, (pairById_listed h).2⟩

theorem nosucc_of_pairById {a : Agent} {L : Log} (h : AInv Good Sane SaneR tag lite (view a) L) {id : Nat} {p : Pair}
    (hp : a.pairById id = some p) (hns : p.state ≠ .succeeded) :
    ∀ q ∈ (view a).pairs, q.id = id → q.succ = false := by
  intro q hq hqid
  obtain ⟨hpm, hpid⟩ := pairById_listed hp
  have : q = pv p := pv_eq_of_id h.pairUniq hq (mem_checklist_pv hpm) (by rw [hqid]; exact hpid.symm)
  rw [this]
  simp [pv, hns]

theorem view_modPair_nosucc (a : Agent) (id : Nat) (f : Pair → Pair)
    (hns : ∀ q ∈ (view a).pairs, q.id = id → q.succ = false)
    (hf : ∀ q : Pair, q.state ≠ .succeeded → pv (f q) = pv q) : view (a.modPair id f) = view a := by
  simp only [view, Agent.modPair]
  congr 1
  unfold updPair
  rw [List.map_map]
  apply List.map_congr_left
  intro q hq
  simp only [Function.comp]
  split
  · rename_i hid
    have h1 := hns (pv q) (mem_checklist_pv hq) (by simpa [pv] using hid)
    apply hf
    intro hs
    simp [pv, hs] at h1
  · rfl

theorem pv_set_state (q : Pair) (s : PairState) (hs : s ≠ .succeeded) (hq : q.state ≠ .succeeded) :
    pv { q with state := s } = pv q := by
  have h1 : (s == PairState.succeeded) = false := by cases s <;> first | rfl | exact absurd rfl hs
  have h2 : (q.state == PairState.succeeded) = false := by
    cases h : q.state <;> first | rfl | exact absurd h hq
  simp [pv, h1, h2]

theorem view_setState {a : Agent} {L : Log} (h : AInv Good Sane SaneR tag lite (view a) L) {id : Nat} {p : Pair}
    (hp : a.pairById id = some p) (hns : p.state ≠ .succeeded) (s : PairState) (hs : s ≠ .succeeded) :
    view (a.modPair id fun q => { q with state := s }) = view a :=
  view_modPair_nosucc a id _ (nosucc_of_pairById h hp hns) fun q hq => pv_set_state q s hs hq

theorem view_addPair (a : Agent) (l r : Cand) :
    view (a.addPair l r).1 =
      { view a with nextPairID := a.nextPairID + 1, pairs := (view a).pairs ++ [⟨a.nextPairID + 1, l.uid, r.uid, false, false⟩] } := by
  simp [view, Agent.addPair, pv]

theorem addPair_inv {a : Agent} {L : Log} (h : AInv Good Sane SaneR tag lite (view a) L) (l r : Cand)
    (hl : l.uid < a.nextUid) (hr : r.uid < a.nextUid) : AInv Good Sane SaneR tag lite (view (a.addPair l r).1) L := by
  rw [view_addPair]
  exact h.addPair l.uid r.uid hl hr

theorem view_modPair_upd (a : Agent) (id : Nat) (f : Pair → Pair) (g : PV → PV) (hfg : ∀ p, pv (f p) = g (pv p)) :
    view (a.modPair id f) = { view a with pairs := updPV (view a).pairs id g } := by
  simp only [view, Agent.modPair]
  congr 1
  unfold updPair updPV
  rw [List.map_map, List.map_map]
  apply List.map_congr_left
  intro p _
  simp only [Function.comp]
  have e : (pv p).id = p.id := rfl
  rw [e]
  split <;> simp [hfg]

theorem addrOf_locs_of_localOf {a : Agent} {u : Nat} {c : Cand} (h : a.localOf u = some c) :
    addrOf (view a).locs u = some c.addr := by
  show addrOf (a.locals.map cv) u = _
  rw [addrOf_view]
  have : findCand a.locals u = some c := h
  rw [this]; rfl

theorem addrOf_rems_of_remoteOf {a : Agent} {u : Nat} {c : Cand} (h : a.remoteOf u = some c) :
    addrOf (view a).rems u = some c.addr := by
  show addrOf (a.remotes.map cv) u = _
  rw [addrOf_view]
  have : findCand a.remotes u = some c := h
  rw [this]; rfl

theorem addrOf_rems_of_mem {a : Agent} {L : Log} (h : AInv Good Sane SaneR tag lite (view a) L) {c : Cand} (hc : c ∈ a.remotes) :
    addrOf (view a).rems c.uid = some c.addr :=
  addrOf_of_mem_uniq (c := cv c) h.uniqR (mem_remotes_cv hc)

theorem retarget_inv {a : Agent} {L : Log} (h : AInv Good Sane SaneR tag lite (view a) L) {id : Nat} {p : Pair} {old c : Cand}
    (prio : Nat) (hp : a.pairById id = some p) (hpr : p.r = old.uid) (ho : old ∈ a.remotes) (hc : c ∈ a.remotes)
    (he : old.addr = c.addr) :
    AInv Good Sane SaneR tag lite (view (a.modPair id fun p => { p with r := c.uid, prioOverride := some prio })) L := by
  rw [view_modPair_upd a id _ (fun q => { q with r := c.uid }) fun _ => rfl]
  -- what the old remote uid resolved to is the address the new one resolves to
  have key : ∀ q ∈ (view a).pairs, q.id = id → ∀ ra, (∀ x, addrOf (view a).rems q.r = some x → x = ra) →
      ∀ x, addrOf (view a).rems c.uid = some x → x = ra := by
    intro q hq hqid ra hra x hx
    have hq' : q = pv p := pv_eq_of_id h.pairUniq hq (pairById_pv_mem hp).1 (by rw [hqid, (pairById_pv_mem hp).2])
    have h1 : old.addr = ra := hra _ (by rw [hq']; show addrOf _ p.r = _; rw [hpr]; exact addrOf_rems_of_mem h ho)
    rw [addrOf_rems_of_mem h hc] at hx
    rw [← h1, he]
    exact (Option.some.inj hx).symm
  refine h.updPair id _ (fun _ => rfl) (fun _ => rfl) (fun _ _ _ => h.uidR _ (mem_remotes_cv hc)) ?_ (fun _ _ _ hs => hs) ?_
  · intro hl q hq hqid hqs
    obtain ⟨la, ra, hg, hl1, hr1⟩ := h.succOK hl q hq hqs
    exact ⟨la, ra, hg, hl1, key q hq hqid ra hr1⟩
  · intro q hq hqid hqr
    obtain ⟨e, he', hl1, hr1⟩ := h.respOK q hq hqr
    exact ⟨e, he', hl1, key q hq hqid _ hr1⟩

theorem findPair_spec {a : Agent} {l r : Cand} {q : Pair} (h : a.findPair l r = some q) :
    q ∈ a.checklist ∧ ∃ pl pr, a.localOf q.l = some pl ∧ a.remoteOf q.r = some pr ∧ pl.addr = l.addr ∧ pr.addr = r.addr := by
  refine ⟨List.mem_of_find?_eq_some h, ?_⟩
  have h2 := List.find?_some h
  split at h2
  · rename_i pl pr hl hr
    simp [Cand.equal, Cand.taEqual] at h2
    exact ⟨pl, pr, hl, hr, h2.1.1.1.1.2, h2.2.1.1.1.2⟩
  · cases h2

theorem markSucceeded_inv {a : Agent} {L : Log} (h : AInv Good Sane SaneR tag lite (view a) L) {l r : Cand} {p : Pair}
    (hp : a.findPair l r = some p) (f : Pair → Pair) (hf : ∀ q, pv (f q) = { pv q with succ := true, resp := true })
    (hg : lite = false → Good l.addr r.addr) (hown : ∃ e ∈ L, e.2.1 = l.addr ∧ e.2.2 = r.addr) :
    AInv Good Sane SaneR tag lite (view (a.modPair p.id f)) L := by
  rw [view_modPair_upd a p.id f (fun q => { q with succ := true, resp := true }) hf]
  obtain ⟨hpm, pl, pr, hpl, hpr, hla, hra⟩ := findPair_spec hp
  -- the pair's candidates resolve to the addresses of `l` and `r`
  have key : ∀ q ∈ (view a).pairs, q.id = p.id →
      (∀ x, addrOf (view a).locs q.l = some x → x = l.addr) ∧ (∀ x, addrOf (view a).rems q.r = some x → x = r.addr) := by
    intro q hq hqid
    have hq' : q = pv p := pv_eq_of_id h.pairUniq hq (mem_checklist_pv hpm) hqid
    refine ⟨fun x hx => ?_, fun x hx => ?_⟩
    · rw [hq'] at hx
      rw [show (pv p).l = p.l from rfl, addrOf_locs_of_localOf hpl] at hx
      rw [← hla]; exact (Option.some.inj hx).symm
    · rw [hq'] at hx
      rw [show (pv p).r = p.r from rfl, addrOf_rems_of_remoteOf hpr] at hx
      rw [← hra]; exact (Option.some.inj hx).symm
  refine h.updPair p.id _ (fun _ => rfl) (fun _ => rfl) (fun q hq _ => (h.pairUid q hq).2) ?_ (fun _ _ _ _ => rfl) ?_
  · intro hl q hq hqid _
    exact ⟨l.addr, r.addr, hg hl, key q hq hqid⟩
  · intro q hq hqid _
    obtain ⟨e, he, he1, he2⟩ := hown
    exact ⟨e, he, he1 ▸ (key q hq hqid).1, he2 ▸ (key q hq hqid).2⟩

/-- a lite agent takes a pair for valid: the `Good` obligation of a valid pair binds full agents only -/
theorem liteValid_inv {a : Agent} {L : Log} (h : AInv Good Sane SaneR tag lite (view a) L) (hl : a.cfg.lite = true) (id : Nat) :
    AInv Good Sane SaneR tag lite (view (a.modPair id fun p => { p with state := .succeeded })) L := by
  have hl : lite = true := by rw [← h.lite_eq]; exact hl
  rw [view_modPair_upd a id _ (fun q => { q with succ := true }) (fun q => rfl)]
  refine h.updPair id _ (fun _ => rfl) (fun _ => rfl) (fun q hq _ => (h.pairUid q hq).2) ?_ (fun _ _ _ _ => rfl)
    (fun q hq _ hqr => h.respOK q hq hqr)
  intro hf; rw [hl] at hf; cases hf

theorem findRemote_spec {a : Agent} {net src : Nat} {r : Cand} (h : a.findRemote net src = some r) :
    r ∈ a.remotes ∧ r.addr = src :=
  ⟨(findRemote_listed h).1, (findRemote_listed h).2.2⟩

/-- the success responses an event may trigger: only an inbound Binding request, answered from the
receiving address to the seen source with the request's transaction id. -/
def Rof : Ev → Nat → Nat → Nat → Prop
  | .inbound _ la src m => fun f t tid => m.cls = 0 ∧ f = la ∧ t = src ∧ tid = m.tid
  | _ => fun _ _ _ => False

variable (Good Sane SaneR lite R) in
/-- What the context `cx` promises, for the log `L`: a response that validates the pair of (`l`, `r`) answers a logged
request from `l` to `r`, and (full agent) their addresses are a `Good` pair; a request that is answered arrived at a
sane local address from an admissible source, and `R` allows the answer; a candidate that comes with the event has a
sane (local) or admissible (remote) address. -/
structure CtxOK (cx : Agent.Ctx) (L : Log) : Prop where
  validates : ∀ {now l r src m pd p}, cx.validates now l r src m pd p →
    (lite = false → Good l.addr r.addr) ∧ ∃ e ∈ L, e.2.1 = l.addr ∧ e.2.2 = r.addr
  answers : ∀ {now l src m}, cx.answers now l src m → Sane l.addr ∧ SaneR src ∧ R l.addr src m.tid
  addsLocal : ∀ {c}, cx.addsLocal c → Sane c.addr
  addsRemote : ∀ {c}, cx.addsRemote c → SaneR c.addr
  /-- the moves know the arguments of their helpers -/
  strict : cx.strict

theorem CtxOK.mono {cx : Agent.Ctx} {L : Log} (h : CtxOK Good Sane SaneR lite R cx L) (L' : Log) :
    CtxOK Good Sane SaneR lite R cx (L ++ L') :=
  { h with validates := fun hv => ⟨(h.validates hv).1, (h.validates hv).2.elim fun e he => ⟨e, List.mem_append_left _ he.1, he.2⟩⟩ }

theorem CtxOK.step {a : Agent} {L : Log} (h : AInv Good Sane SaneR tag lite (view a) L) (e : Ev)
    (hadd : ∀ now c, e = .addLocal now c → Sane c.addr)
    (haddR : ∀ now c, e = .addRemote now c → SaneR c.addr)
    (hresp : ∀ now la src m, e = .inbound now la src m → m.cls = 2 → lite = false →
      (m.tid, la, src) ∈ L → Good la src)
    (hsrc : ∀ now la src m, e = .inbound now la src m → m.cls = 0 → SaneR src) :
    CtxOK Good Sane SaneR lite (Rof e) (.step e a) L := by
  refine ⟨fun {now l r src m pd p} hv => ?_, fun {now l src m} hm => ?_, fun ⟨now, he⟩ => hadd now _ he, fun hc => ?_, trivial⟩
  · obtain ⟨la, rfl, hl, _, _⟩ := hv.inbound
    obtain ⟨hpm, hpt, _⟩ := takePending_listed hv.pending
    have hp := hv.path
    simp only [Bool.and_eq_true, beq_iff_eq] at hp
    rw [(findRemote_listed hv.remote).2.2, (localByAddr_listed hl).2]
    -- K3: the consumed transaction is a logged request from THIS local address to the response's source
    have hlog : (m.tid, la, src) ∈ L := by
      have hf := h.pendOK (pdv pd) (List.mem_map.mpr ⟨pd, hpm, rfl⟩)
      rwa [show pdv pd = (m.tid, la, src) by simp [pdv, hpt, hp.1.2, hp.2, (localByAddr_listed hl).2]] at hf
    exact ⟨fun hlite => hresp now la src m rfl hv.cls hlite hlog, _, hlog, rfl, rfl⟩
  · obtain ⟨⟨la, rfl, hl, _, _⟩, ha⟩ := hm
    obtain ⟨hlm, hla⟩ := localByAddr_listed hl
    exact ⟨h.locSane _ (mem_locals_cv hlm), hsrc now la src m rfl ha.2.1, ha.2.1, hla, rfl, rfl⟩
  · rcases hc with ⟨now, he⟩ | ⟨now, l, src, m, ⟨la, he, _⟩, ha, _, rfl⟩
    · exact haddR now _ he
    · exact hsrc now la src m he ha.2.1

theorem listed_local {a : Agent} {L : Log} (h : AInv Good Sane SaneR tag lite (view a) L) {l : Cand}
    (hl : Agent.Listed a.locals l) : Sane l.addr ∧ l.uid < a.nextUid := by
  obtain ⟨d, hd, hb⟩ := hl
  exact congrArg Cand.addr hb ▸ congrArg Cand.uid hb ▸ ⟨h.locSane _ (mem_locals_cv hd), h.uidL _ (mem_locals_cv hd)⟩

theorem listed_remote {a : Agent} {L : Log} (h : AInv Good Sane SaneR tag lite (view a) L) {r : Cand}
    (hr : Agent.Listed a.remotes r) : SaneR r.addr ∧ r.uid < a.nextUid := by
  obtain ⟨d, hd, hb⟩ := hr
  exact congrArg Cand.addr hb ▸ congrArg Cand.uid hb ▸ ⟨h.remSane _ (mem_remotes_cv hd), h.uidR _ (mem_remotes_cv hd)⟩

theorem addPair_post {cx : Agent.Ctx} {a : Agent} {L : Log} (h : AInv Good Sane SaneR tag lite (view a) L) {l r : Cand}
    (hp : Agent.Pairs cx a l r) : Post Good Sane SaneR tag lite R L ((a.addPair l r).1, []) := by
  refine Post.ret (addPair_inv h l r (listed_local h hp.loc).2 ?_)
  rcases hp.rem with hr | ⟨_, hr⟩
  · exact (listed_remote h hr).2
  · omega

theorem failed_post {a : Agent} {L : Log} (h : AInv Good Sane SaneR tag lite (view a) L) :
    Post Good Sane SaneR tag lite R L ({ a.wipe with connState := .failed }, [.cbState .failed]) :=
  Post.out (a := { a.wipe with connState := .failed }) h.wipe rfl (fun hc => by cases hc)

/-- Connected or Disconnected is set by `validateSelected` only, which found the selected pair -/
theorem connState_post {cx : Agent.Ctx} {a : Agent} {L : Log} (h : AInv Good Sane SaneR tag lite (view a) L) (s : ConnState)
    (hw : Agent.StateWhy cx a s) : Post Good Sane SaneR tag lite R L ({ a with connState := s }, [.cbState s]) := by
  have hsel : isLive s = true → ∃ id, a.selected = some id := by
    intro hl
    cases hw with
    | validate now p _ hp _ => exact ⟨p.id, selected_pair hp⟩
    | deadline _ _ _ _ hs => subst hs; cases hl
    | checking _ hs => subst hs; cases hl
    | close _ _ hs => subst hs; cases hl
  refine Post.out (a := { a with connState := s }) (h.setLive (isLive s) fun hl => ?_) rfl fun hc hl => ?_
  · obtain ⟨id, hid⟩ := hsel hl
    exact Option.isSome_iff_exists.mpr ⟨id, hid⟩
  · obtain ⟨id, hid⟩ := hsel (by rw [hc]; rfl)
    exact h.anyGood hl hid

theorem setConnState_outs (a : Agent) (s : ConnState) : (a.setConnState s).2 = [] ∨ (a.setConnState s).2 = [.cbState s] := by
  unfold Agent.setConnState
  split
  · exact Or.inl rfl
  · exact Or.inr rfl

theorem select_outs (a : Agent) (id : Nat) : ∀ o ∈ (a.select id).2, o = .cbState .connected ∨ ∃ x y, o = .cbPair x y := by
  intro o ho
  unfold Agent.select at ho
  rcases List.mem_append.mp ho with ho | ho
  · rcases setConnState_outs _ .connected with h | h <;> rw [h] at ho
    · cases ho
    · exact Or.inl (List.mem_singleton.mp ho)
  · exact Or.inr ⟨_, _, List.mem_singleton.mp ho⟩

theorem select_post {a : Agent} {L : Log} (h : AInv Good Sane SaneR tag lite (view a) L) (id : Nat)
    (hw : a.selected = some id ∨ Agent.Lists a id (·.state = .succeeded)) :
    Post Good Sane SaneR tag lite R L (a.select id) := by
  have hi : AInv Good Sane SaneR tag lite (view (a.select id).1) L := by
    rw [view_select]
    refine h.select id true ?_
    rcases hw with hs | ⟨p, hp, hs⟩
    · exact h.selOK id hs
    · exact ⟨pv p, (pairById_pv_mem hp).1, (pairById_pv_mem hp).2, by simp [pv, hs]⟩
  have hg : lite = false → ∃ la ra, Good la ra := fun hl => hi.anyGood hl (by rw [view_select])
  refine Post.quiet hi (fun o ho => ?_) fun o ho => ?_
  · rcases select_outs a id o ho with rfl | ⟨x, y, rfl⟩ <;> rfl
  · rcases select_outs a id o ho with rfl | ⟨x, y, rfl⟩
    · exact fun _ => hg
    · exact hg

/-- Restart wipes what Failed wipes (`b`: the agent wiped, with fresh credentials); the state it leaves is New or
Checking -/
theorem doRestart_post {a : Agent} {L : Log} (h : AInv Good Sane SaneR tag lite (view a) L) (b : Agent)
    (hv : ∀ s, view { b with connState := s } =
      { view a with pend := [], locs := [], rems := [], pairs := [], sel := none, live := isLive s }) :
    Post Good Sane SaneR tag lite R L (if b.connState != .new then b.setConnState .checking else (b, [])) := by
  have hw : ∀ s, isLive s = false → AInv Good Sane SaneR tag lite (view { b with connState := s }) L := fun s hs => by
    rw [hv, hs]
    exact h.wipe
  split
  · -- not New: Checking, reported unless it was Checking already
    have hout : ∀ o ∈ (b.setConnState .checking).2, o = .cbState .checking := fun o ho => by
      rcases setConnState_outs b .checking with h2 | h2 <;> rw [h2] at ho
      · cases ho
      · exact List.mem_singleton.mp ho
    refine Post.quiet ?_ (fun o ho => by rw [hout o ho]; rfl) fun o ho => by rw [hout o ho]; exact fun hc => by cases hc
    rw [Agent.setConnState_fst b .checking (by decide)]
    exact hw _ rfl
  · rename_i hnew
    have hnew : b.connState = .new := by simpa using hnew
    exact Post.ret (hw b.connState (by rw [hnew]; rfl))

theorem newLocal_post {a : Agent} {L : Log} (h : AInv Good Sane SaneR tag lite (view a) L) (c : Cand) (hc : Sane c.addr) :
    Post Good Sane SaneR tag lite R L
      ({ a with nextUid := a.nextUid + 1, locals := a.locals ++ [{ c with uid := a.nextUid }] }, []) := by
  refine Post.ret ?_
  have := h.addLocal c.addr hc
  simpa [view, cv] using this

theorem newRemote_post {a : Agent} {L : Log} (h : AInv Good Sane SaneR tag lite (view a) L) (c : Cand) (hc : SaneR c.addr) :
    Post Good Sane SaneR tag lite R L ({ a with nextUid := a.nextUid + 1, remotes := a.remotes ++ [Agent.adopted a c] }, []) := by
  refine Post.ret ?_
  have hcv : cv (Agent.adopted a c) = ⟨a.nextUid, c.addr⟩ :=
    congrArg cv (Agent.adopted_bare a c)
  have := h.addRemote c.addr hc
  simpa [view, hcv] using this

theorem post_move {cx : Agent.Ctx} {a : Agent} {r : Agent × List Out} {L : Log} (hcx : CtxOK Good Sane SaneR lite R cx L)
    (h : AInv Good Sane SaneR tag lite (view a) L) (mv : Agent.Move cx a r) : Post Good Sane SaneR tag lite R L r := by
  -- a change the view does not see
  have same : ∀ {b : Agent}, view b = view a → Post Good Sane SaneR tag lite R L (b, []) := fun hv => Post.ret (hv ▸ h)
  -- transactions are only ever dropped here
  have drop : ∀ q : Pending → Bool, Post Good Sane SaneR tag lite R L ({ a with pending := a.pending.filter q }, []) :=
    fun q => Post.ret (h.pendSub _ fun x hx => by
      obtain ⟨p, hp, rfl⟩ := List.mem_map.mp hx
      exact List.mem_map.mpr ⟨p, (List.mem_filter.mp hp).1, rfl⟩)
  cases mv with
  | pair id f hf =>
    cases hf with
    | inProgress hw =>
      obtain ⟨p, hp, hs⟩ := hw
      exact same (view_setState h hp (by rw [hs]; decide) _ (by decide))
    | failed hw =>
      obtain ⟨p, hp, hs, _⟩ := hw
      exact same (view_setState h hp (by rw [hs]; decide) _ (by decide))
    | succeeded now l r src m pd p hv hid hp =>
      subst hid
      exact Post.ret (markSucceeded_inv h hp _ (fun _ => rfl) (hcx.validates hv).1 (hcx.validates hv).2)
    | liteValid _ _ _ _ hl => exact Post.ret (liteValid_inv h hl id)
    | retarget old c p _ hp hpr hs =>
      exact Post.ret (retarget_inv h _ hp hpr (hs hcx.strict).1 (hs hcx.strict).2.1 (hs hcx.strict).2.2)
    | _ => exact same (view_modPair _ _ _ fun _ => rfl)
  | addPair l r hp => exact addPair_post h (hp hcx.strict)
  | connState s _ _ hw => exact connState_post h s hw
  | failed => exact failed_post h
  | select id hw => exact select_post h id hw.valid
  | request now l r uc hs =>
    exact sendRequest_post h now l r uc none (listed_local h (hs hcx.strict).loc).1 (listed_remote h (hs hcx.strict).rem).1
  | issue now l r v =>
    have hp := sendRequest_post (R := R) h now l r true (if v > 0 then some v else none)
      (listed_local h ‹Agent.Listed a.locals l›).1 (listed_remote h ‹Agent.Listed a.remotes r›).1
    -- the ghost log of nominations is not part of the view (the request is made a variable to keep the check cheap)
    generalize a.sendRequest now l r true (if v > 0 then some v else none) = x at hp ⊢
    exact hp
  | expire now => exact drop _
  | take tid => exact drop _
  | seenLocalSent uid now => exact same (view_seenLocalSent a uid now)
  | seenRemoteRecv uid now => exact same (view_seenRemoteRecv a uid now)
  | newLocal c hc => exact newLocal_post h c (hcx.addsLocal hc)
  | newRemote c hc => exact newRemote_post h c (hcx.addsRemote hc)
  | dropRemotes old => exact Post.ret (h.dropRemotes (List.filter_sublist.map cv))
  | restart now x p =>
    exact doRestart_post h { (({ a with localUfrag := x, localPwd := p, remoteUfrag := "", remotePwd := "" } : Agent).wipe.resetSelector
      now) with generation := a.generation + 1 } fun _ => rfl
  | close => exact Post.ret h.close
  | res s => exact Post.out h rfl trivial
  | cbCand x => exact Post.out h rfl trivial
  | data f t len => exact Post.out h rfl trivial
  | answer f t now l src m hm hf ht =>
    exact Post.out h rfl (Or.inr (Or.inr ⟨rfl, hf ▸ ht hcx.strict ▸ (hcx.answers hm).2.2⟩))
  | refuse => exact Post.out h rfl (Or.inr (Or.inl rfl))
  | _ => exact same rfl

theorem post_chain {cx : Agent.Ctx} {a : Agent} {r : Agent × List Out} (c : Agent.Chain cx a r) :
    ∀ L, CtxOK Good Sane SaneR lite R cx L → AInv Good Sane SaneR tag lite (view a) L → Post Good Sane SaneR tag lite R L r :=
  Agent.Chain.ind (R := fun a r => ∀ L, CtxOK Good Sane SaneR lite R cx L → AInv Good Sane SaneR tag lite (view a) L →
      Post Good Sane SaneR tag lite R L r)
    (fun _ _ _ h => Post.ret h) (fun _ _ mv _ hcx h => post_move hcx h mv)
    (fun h1 h2 L hcx h => Post.seq (h1 L hcx h) (h2 _ (hcx.mono _) (h1 L hcx h).1)) c

/-- Every step keeps the invariant, logs the requests it emits and emits only what is allowed, provided the candidates
the event adds have sane (local) / admissible (remote) addresses, an unknown source of a request is admissible, and a
response to a logged request of a full agent comes over a `Good` address pair. -/
theorem step_post {a : Agent} {L : Log} (h : AInv Good Sane SaneR tag lite (view a) L) (e : Ev)
    (hadd : ∀ now c, e = .addLocal now c → Sane c.addr)
    (haddR : ∀ now c, e = .addRemote now c → SaneR c.addr)
    (hresp : ∀ now la src m, e = .inbound now la src m → m.cls = 2 → lite = false →
      (m.tid, la, src) ∈ L → Good la src)
    (hsrc : ∀ now la src m, e = .inbound now la src m → m.cls = 0 → SaneR src) :
    Post Good Sane SaneR tag lite (Rof e) L (step a e) :=
  post_chain (Agent.step_chain a e) L (CtxOK.step h e hadd haddR hresp hsrc) h

end
end IceProofs.C01

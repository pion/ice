import IceProofs.Sys2C01LiveRetx
import IceProofs.Sys2C01LiveDiscRoutes
import IceProofs.AgentC07Ctl
/-!
# C01 liveness — the controlled agent's tick on a network that is quiet FOR THE CONTROLLING AGENT'S ROUTES

`QuietR`: nothing in flight is deliverable and every (local address, known remote address) route of the controlling agent
`c` is undeliverable; then the ticks of `c` before the controlled agent's tick change nothing that matters (`routes_lasts`:
their checks are undeliverable), so `nextTick d ≤ nextTick c` (`TickReqD`) is not needed.
-/
namespace IceProofs.C01Live
open IceModel.AgentCore IceModel.Sys2 IceProofs.Sys2Run IceProofs.C01 IceProofs.Agent IceProofs.C03

/-- every route of `c` is undeliverable -/
def RoutesUndeliv (c : Bool) (s : Sys) : Prop :=
  ∀ l ∈ (s.agent c).locals, ∀ r ∈ (s.agent c).remotes, (l.addr, r.addr) ∈ s.blocked ∨ s.owner (s.unmapped r.addr) = none

instance (c : Bool) (s : Sys) : Decidable (RoutesUndeliv c s) := by unfold RoutesUndeliv; infer_instance

/-- the quiet start, routes version -/
structure QuietR (c : Bool) (td x : Nat) (s : Sys) : Prop where
  und : ∀ dg ∈ s.inflight, Undeliv s dg
  tick : (s.agent (!c)).nextTick = some td
  now : s.now ≤ td
  routes : RoutesUndeliv c s
  unk : (s.agent c).findRemote 0 x = none

section
variable {nat blocked : List (Nat × Nat)} {SLA SLB SR : Nat → Prop} {liteA liteB : Bool} {T0 H J L : Nat} {c : Bool}

theorem routes_net {s1 s2 : Sys} (hn : SameNet s1 s2)
    (hl : ∀ l ∈ (s2.agent c).locals, ∃ l0 ∈ (s1.agent c).locals, l0.addr = l.addr)
    (hr : ∀ r ∈ (s2.agent c).remotes, ∃ r0 ∈ (s1.agent c).remotes, r0.addr = r.addr) (g : RoutesUndeliv c s1) :
    RoutesUndeliv c s2 := by
  intro l hl' r hr'
  obtain ⟨l0, hl0, el⟩ := hl l hl'
  obtain ⟨r0, hr0, er⟩ := hr r hr'
  have hu : s2.unmapped r.addr = s1.unmapped r.addr := by simp [Sys.unmapped, hn.1]
  rw [hn.2.1, hn.2.2, hu, ← el, ← er]
  exact g l0 hl0 r0 hr0

theorem routes_lasts {td x : Nat} : Lasts nat blocked SLA SLB SR liteA liteB T0 H J c td
    (fun s1 => RoutesUndeliv c s1 ∧ (s1.agent c).findRemote 0 x = none) where
  drop := fun s1 s2 hn e g =>
    ⟨routes_net hn (fun l hl => ⟨l, by rw [← e]; exact hl, rfl⟩) (fun r hr => ⟨r, by rw [← e]; exact hr, rfl⟩) g.1,
      by rw [e]; exact g.2⟩
  adv := by
    intro s1 T h1 h1' eff hH _ _ g
    refine ⟨fun dg hdg => ?_, ?_, by rw [eff.agent c]; exact runTimers_unknown _ _ _ g.2⟩
    · have hin : dg ∈ (s1.advance T).1.inflight := by
        rw [eff.flight]
        cases c
        · exact List.mem_append_left _ (List.mem_append_right _ hdg)
        · exact List.mem_append_right _ hdg
      obtain ⟨m, hm⟩ := (h1'.ok.flight dg hin).1
      obtain ⟨⟨l, hl, el⟩, r, hr, er⟩ := advance_routes (mem_dgramsOf_stun hdg hm)
      have := g.1 l hl r hr
      unfold Undeliv
      rw [← el, ← er]
      exact this
    · have hfr := (IceProofs.AgentC07.Fr_runTimers (s1.agent c) T 100000).cands
      refine routes_net eff.net (fun l hl => ?_) (fun r hr => ?_) g.1
      · rw [eff.agent c] at hl
        rcases hfr with hk | hw
        · exact addr_of_key hk.1 hl
        · have : l ∈ ([] : List Cand) := by rw [← hw.1]; exact hl
          cases this
      · rw [eff.agent c] at hr
        rcases hfr with hk | hw
        · exact addr_of_key hk.2.1 hr
        · have : r ∈ ([] : List Cand) := by rw [← hw.2.1]; exact hr
          cases this

theorem tick_valid2 {E : Nat} {s : Sys} {es : List SysEv} {la ra td : Nat}
    (h : Suf nat blocked SLA SLB SR liteA liteB T0 H J c L E s es) (hL : J + 2 * L < maxBindingRequestTimeout)
    (w : QuietR c td (s.mapped la) s) (hlink : Link s (!c) la ra) (hsel : (s.agent (!c)).selected = none)
    (hpair : BudgetAt s (!c) la ra) (hend : td + 2000000000 + J + 3 * L < E) :
    By (fun s => HasSucc s c ∨ Sel s c) (td + 2000000000 + J + 3 * L) s es :=
  By.bind h (quiet_sends routes_lasts (fun _ g => g.2) (B := td + 2000000000 + J) (fun _ _ _ _ _ _ => by omega)
      h.inv h.ok ⟨w.und, w.tick, w.now⟩ ⟨w.routes, w.unk⟩ hlink hsel hpair (by rw [h.fin]; omega))
    fun s' es' h' _ ⟨⟨i, dg, tid, hi, hreq⟩, hlink, hunk⟩ hn =>
      (disc_valid h' hL hi hreq hlink hunk (by omega)).mono (fun _ g => g) (by omega)

/-- **the quiet start condition, routes version** (decidable): as `TickReqD`, but instead of "the controlled agent's
timer is due not later than the controlling agent's": every (local address, known remote address) route of the
controlling agent is undeliverable -/
def TickReq2D (c : Bool) (s : Sys) : Prop :=
  (∀ dg ∈ s.inflight, Undeliv s dg) ∧ RoutesUndeliv c s ∧ (s.agent (!c)).selected = none ∧
  (match (s.agent (!c)).nextTick with
    | some td => s.now ≤ td
    | none => False) ∧
  ∃ p ∈ (s.agent (!c)).checklist, (p.state = .waiting ∨ p.state = .inProgress) ∧
    p.reqCount ≤ (s.agent (!c)).cfg.maxBindingRequests ∧
    match (s.agent (!c)).localOf p.l, (s.agent (!c)).remoteOf p.r with
    | some l, some r => Link s (!c) l.addr r.addr ∧ (s.agent c).findRemote 0 (s.mapped l.addr) = none
    | _, _ => False

instance (c : Bool) (s : Sys) : Decidable (TickReq2D c s) := by
  unfold TickReq2D
  refine @instDecidableAnd _ _ _ (@instDecidableAnd _ _ _ (@instDecidableAnd _ _ _ (@instDecidableAnd _ _ ?_ ?_)))
  · split <;> infer_instance
  · refine @List.decidableBEx _ _ (fun p => ?_) _
    refine @instDecidableAnd _ _ _ (@instDecidableAnd _ _ _ ?_)
    split <;> infer_instance

/-- the time of the controlled agent's next tick (0 if none) -/
def cldTick (c : Bool) (s : Sys) : Nat := ((s.agent (!c)).nextTick).getD 0

theorem tick_valid2_D {s : Sys} {es : List SysEv} (h : FInv nat blocked SLA SLB SR liteA liteB T0 H J c s)
    (hs : SufOK c H J s es) (hf : FairL L s es) (hL : J + 2 * L < maxBindingRequestTimeout) (hd : TickReq2D c s)
    (hend : cldTick c s + 2000000000 + J + 3 * L < (Sys.runs s es).now) :
    ValidBy c (cldTick c s + 2000000000 + J + 3 * L) s es := by
  obtain ⟨h1, hro, h2, h3, p, hp, hst, hb, h4⟩ := hd
  cases htd : (s.agent (!c)).nextTick with
  | none => rw [htd] at h3; exact h3.elim
  | some td =>
    rw [htd] at h3
    have e : cldTick c s = td := by unfold cldTick; rw [htd]; rfl
    rw [e] at hend ⊢
    obtain ⟨l, r, hl, hr, h4⟩ := ends_some h4
    exact validBy_iff.2 (tick_valid2 ⟨h, hs, hf, rfl⟩ hL ⟨h1, htd, h3, hro, h4.2⟩ h4.1 h2
      ⟨p, hp, hst, hb, l, r, hl, hr, rfl, rfl⟩ hend)

end

end IceProofs.C01Live

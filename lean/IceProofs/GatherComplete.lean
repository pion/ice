import IceModel.Gather
import IceProofs.GatherAgent
/-!
Dynamic half of completeness: inside an accepted `GatherCandidates`, a UDP host unit whose listen
succeeds (no port range configured: the port is ephemeral) adds its candidate, and nothing that runs
afterwards in the same operation removes it (`GatherClosed.Keeps`: the candidate list only grows).
-/
namespace IceProofs.GatherComplete
open IceModel.Gather IceProofs.GatherAgent IceProofs.GatherClosed

theorem foldl_establish {α : Type} (f : MState → α → MState) (hf : ∀ s a, Keeps s (f s a)) (P : MCand → Prop) (u : α)
    {s : MState} (hu : ∀ s', Keeps s s' → ∃ c ∈ (f s' u).cands, P c) :
    ∀ (l : List α) (s' : MState), Keeps s s' → u ∈ l → ∃ c ∈ (l.foldl f s').cands, P c := by
  intro l
  induction l with
  | nil => intro s' _ h; simp at h
  | cons a l ih =>
    intro s' hk hmem
    rcases List.mem_cons.1 hmem with rfl | hmem
    · obtain ⟨c, hc, hp⟩ := hu s' hk
      exact ⟨c, (foldl_keeps f hf l _).mono c hc, hp⟩
    · exact ih _ (hk.trans (hf s' a)) hmem

/-- the cycle `c` owns the agent -/
def LiveCyc (s : MState) (c : Nat) : Prop :=
  s.cyc.closed = false ∧ ((s.cyc.cycles[c]?).map (fun y => !y.cancelled)).getD false = true

theorem startUnit_hostUdp (s : MState) (c gen : Nat) (u : GUnit) (hk : u.kind = .hostUdp)
    (hpr : portRange s.cfg = none) (hl : LiveCyc s c) :
    ∃ mc ∈ (startUnit s c gen u).cands, mc.d = unitCand s.cfg u 0 0 := by
  obtain ⟨kind, net, bind, url, n, mapped, ifc⟩ := u
  simp only at hk
  subst hk
  have hfree : freePorts s bind = 1 := by simp [freePorts, hpr]
  have hpf : ownPortFlag s.cfg = PFlag.e := by simp [ownPortFlag, hpr]
  have hp0 : s.cfg.portMin = 0 := by
    unfold portRange at hpr
    split at hpr
    · rename_i h; simp only [Bool.and_eq_true, beq_iff_eq] at h; exact h.1
    · simp at hpr
  refine ⟨{ d := unitCand s.cfg ⟨.hostUdp, net, bind, url, n, mapped, ifc⟩ 0 0, gen := s.cyc.gen,
            res := [{ kind := .sock, tag := s.cyc.gen, addr := bind, inRange := (portRange s.cfg).isSome }] }, ?_, rfl⟩
  simp [startUnit, progOf, hostUdpProg, exec, acquireAns, stepAns, hfree, settle, jobLive, hl.1, hl.2,
    publishable, unitCand, candEqual, candEqualIn, zoned, hp0, hpf, Job.takeAll, Job.take]

theorem runCycleUnits_hostUdp (s : MState) (c gen : Nat) (hh : s.cfg.candTypes.contains .host = true)
    (hmux : s.cfg.udpMux = none) (hpr : portRange s.cfg = none) (hl : LiveCyc s c)
    (u : GUnit) (hu : u ∈ hostIfaceUnits s.cfg s.ifs) (hk : u.kind = .hostUdp) :
    ∃ mc ∈ (runCycleUnits s c gen).cands, mc.d = unitCand s.cfg u 0 0 := by
  rw [runCycleUnits_eq]
  refine foldl_establish (doStep c gen) (doStep_keeps c gen) _ (.start u) (fun x hx => ?_) _ s (Keeps.refl s)
    (start_mem_passSteps hh (by simp [hmux]) hu)
  have := startUnit_hostUdp x c gen u hk (by rw [hx.cfg]; exact hpr) (by unfold LiveCyc; rw [hx.cyc]; exact hl)
  rwa [hx.cfg] at this

theorem step_gather_new (s : MState) (hnc : s.cyc.closed = false) (hnew : s.cyc.gs = Cycle.GS.new) :
    ∃ s1 : MState, s1.cfg = s.cfg ∧ s1.ifs = s.ifs ∧ LiveCyc s1 s.cyc.cycles.length ∧
      step s .gather = (finishCycle (runCycleUnits s1 s.cyc.cycles.length s.cyc.gen), Rtok.ok) := by
  have h1 : Cycle.step false s.cyc .gather
      = ({ s.cyc with cycles := Cycle.cancelAll s.cyc.cycles ++ [{ gen := s.cyc.gen }] },
         [Cycle.Out.accepted s.cyc.cycles.length s.cyc.gen]) := by
    simp [Cycle.step, hnc, hnew]
  have hget : (Cycle.cancelAll s.cyc.cycles ++ [({ gen := s.cyc.gen } : Cycle.Cyc)])[s.cyc.cycles.length]?
      = some { gen := s.cyc.gen } := by
    simp [Cycle.cancelAll]
  have hrk : ∀ x : MState, (recordKnown x).cfg = x.cfg ∧ (recordKnown x).ifs = x.ifs ∧ (recordKnown x).cyc = x.cyc := by
    intro x; unfold recordKnown; split <;> exact ⟨rfl, rfl, rfl⟩
  refine ⟨recordKnown { s with cyc := (Cycle.step false (Cycle.step false s.cyc .gather).1 (.start s.cyc.cycles.length)).1 },
    (hrk _).1, (hrk _).2.1, ?_, ?_⟩
  · unfold LiveCyc
    rw [(hrk _).2.2]
    simp only
    rw [h1]
    have hstart : (Cycle.step false
        ({ s.cyc with cycles := Cycle.cancelAll s.cyc.cycles ++ [{ gen := s.cyc.gen }] } : Cycle.State)
        (.start s.cyc.cycles.length)).1
        = { Cycle.modify ({ s.cyc with cycles := Cycle.cancelAll s.cyc.cycles ++ [{ gen := s.cyc.gen }] } : Cycle.State)
              s.cyc.cycles.length (fun y => { y with applied := true }) with gs := .gathering } := by
      simp [Cycle.step, hget, hnc]
    rw [hstart]
    simp [Cycle.modify, hget, hnc]
  · simp only [step, h1]

end IceProofs.GatherComplete

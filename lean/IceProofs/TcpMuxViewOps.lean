import IceProofs.TcpMuxViewModel
/-!
# C15: the two readers of the operation tokens agree; canonical operation tokens are read back
-/
namespace IceProofs.TcpMuxView
open IceSpec.LineProto IceProofs.LineProto IceSpec.C15 IceSpec.C15.View IceModel.TcpMux

theorem kindUser_of_parseKind (kind : String) (k : FKind) (h : parseKind kind = some k) : kindUser kind = userOf k := by
  unfold parseKind at h
  unfold kindUser
  split at h <;> simp_all <;> (subst h; rfl)

theorem canonNat_eq (t : String) (n : Nat) (h : canonNat t = some n) : toString n = t := by
  unfold canonNat at h
  split at h
  · split at h
    · rename_i h2; cases h; simpa using h2
    · cases h
  · cases h

/-! what the monitor's reader makes of each shape of token list that the driver's reader accepts (`unfold` first:
the bare `rfl` is checked twice as dear) -/

theorem parseToks_accept (k ip port lip : String) : parseToks ["accept", k, ip, port, lip] =
    match ip.toNat?, port.toNat?, lip.toNat? with
    | some ip, some port, some lip => .accept ip port lip
    | _, _, _ => .other := by unfold parseToks; rfl

theorem parseToks_frame (k fid kind len : String) : parseToks ["frame", k, fid, kind, len] =
    match k.toNat?, fid.toNat?, len.toNat? with
    | some k, some fid, some len => .frame k fid (kindUser kind) len
    | _, _, _ => .other := by unfold parseToks; rfl

theorem parseToks_partial (k a b c d : String) : parseToks ["partial", k, a, b, c, d] =
    match k.toNat? with
    | some k => .partialFrame k
    | none => .other := by unfold parseToks; rfl

theorem parseToks_cclose (k : String) : parseToks ["cclose", k] =
    match k.toNat? with
    | some k => .cclose k
    | none => .other := by unfold parseToks; rfl

theorem parseToks_creset (k : String) : parseToks ["creset", k] =
    match k.toNat? with
    | some k => .cclose k
    | none => .other := by unfold parseToks; rfl

theorem parseToks_advance (dt : String) : parseToks ["advance", dt] =
    match dt.toNat? with
    | some dt => .advance dt
    | none => .other := by unfold parseToks; rfl

theorem parseToks_getconn (u v6 lip : String) : parseToks ["getconn", u, v6, lip] =
    match parseU u, lip.toNat? with
    | some u, some lip => .getconn u (v6 == "1") lip
    | _, _ => .other := by unfold parseToks; rfl

theorem parseToks_remove (u : String) : parseToks ["remove", u] =
    match parseU u with
    | some u => .remove u
    | none => .other := by unfold parseToks; rfl

theorem parseToks_closeh (h : String) : parseToks ["closeh", h] =
    match parseH h with
    | some h => .closeh h
    | none => .other := by unfold parseToks; rfl

theorem parseToks_closepc (h : String) : parseToks ["closepc", h] =
    match parseH h with
    | some h => .closepc h
    | none => .other := by unfold parseToks; rfl

theorem parseToks_write (h ip port pid len : String) : parseToks ["write", h, ip, port, pid, len] =
    match parseH h, ip.toNat?, port.toNat?, len.toNat? with
    | some h, some ip, some port, some len => .write h ip port pid len
    | _, _, _, _ => .other := by unfold parseToks; rfl

theorem parseToks_read (h : String) : parseToks ["read", h] =
    match parseH h with
    | some h => .read h
    | none => .other := by unfold parseToks; rfl

theorem map_some {α β : Type} {o : Option α} {f : α → β} {b : β} (h : o.map f = some b) :
    ∃ a, o = some a ∧ f a = b := by
  cases o with
  | none => cases h
  | some a => exact ⟨a, rfl, by simpa using h⟩

theorem parseToks_of_parseOp (s : State) (toks : List String) (op : Op) (h : parseOp s toks = some op) :
    parseToks toks = mopOf op := by
  unfold parseOp at h
  split at h
  · rw [parseToks_accept]
    split at h
    · rename_i h1 h2 h3 h4
      split at h
      · cases h; simp only [h2, h3, h4, mopOf]
      · cases h
    · cases h
  · rw [parseToks_frame]
    split at h
    · rename_i h1 h2 h3 h4
      cases h
      simp only [h1, h2, h4, mopOf, kindUser_of_parseKind _ _ h3]
    · cases h
  · rw [parseToks_partial]
    obtain ⟨n, hn, rfl⟩ := map_some h
    simp only [hn, mopOf]
  · rw [parseToks_cclose]
    obtain ⟨n, hn, rfl⟩ := map_some h
    simp only [hn, mopOf]
  · rw [parseToks_creset]
    obtain ⟨n, hn, rfl⟩ := map_some h
    simp only [hn, mopOf]
  · rw [parseToks_advance]
    obtain ⟨n, hn, rfl⟩ := map_some h
    simp only [hn, mopOf]
  · rw [parseToks_getconn]
    split at h
    · rename_i h1 h2
      split at h
      · cases h; simp only [h1, h2, mopOf]
      · cases h
    · cases h
  · rw [parseToks_remove]
    obtain ⟨n, hn, rfl⟩ := map_some h
    simp only [hn, mopOf]
  · rw [parseToks_closeh]
    obtain ⟨n, hn, rfl⟩ := map_some h
    simp only [hn, mopOf]
  · rw [parseToks_closepc]
    obtain ⟨n, hn, rfl⟩ := map_some h
    simp only [hn, mopOf]
  · rw [parseToks_write]
    split at h
    · rename_i h1 h2 h3 h4 h5
      split at h
      · cases h; simp only [h1, h2, h3, h5, mopOf, canonNat_eq _ _ h4]
      · cases h
    · cases h
  · rw [parseToks_read]
    obtain ⟨n, hn, rfl⟩ := map_some h
    simp only [hn, mopOf]
  · cases h; rfl
  · cases h
/-- stated for `n.repr`, the form `simp` gives `toString n` -/
theorem parseH_h (n : Nat) : parseH ("h" ++ n.repr) = some n := by
  simp [parseH, toNat?_digits]

theorem parseU_U (u : String) : IceSpec.C15.parseU ("U" ++ u) = some u := by
  simp [IceSpec.C15.parseU]

theorem parseKind_kindTok (k : FKind) : parseKind (kindTok k) = some k := by
  cases k <;> simp [parseKind, kindTok]

theorem canonNat_repr (n : Nat) : canonNat n.repr = some n := by
  simp [canonNat]

theorem flagTok_eq (b : Bool) : (flagTok b == "1") = b := by cases b <;> decide

theorem parseOp_opToks (s : State) (op : Op) (h : opWF op = true) : parseOp s (opToks s op) = some op := by
  cases op with
  | clientClose k reset => cases reset <;> simp [opToks, parseOp]
  | _ => simp_all [opWF, opToks, parseOp, parseH_h, parseU_U, parseKind_kindTok, canonNat_repr, flagTok_eq]

theorem parseToks_opToks (s : State) (op : Op) (h : opWF op = true) : parseToks (opToks s op) = mopOf op :=
  parseToks_of_parseOp s _ op (parseOp_opToks s op h)

theorem parseToks_startToks (cfg : Config) : parseToks (startToks cfg) = .start cfg.t1 cfg.t2 := by
  simp [startToks, parseToks]

theorem verdictsS_tokensFrom (m : Mon) (s : State) (ops : List Op) (hw : ∀ op ∈ ops, opWF op = true)
    (tail : List (List String × String)) (tail' : List (MOp × String))
    (ht : ∀ m', verdictsS m' tail = verdictsL m' tail') :
    verdictsS m (tokensFrom s ops ++ tail) = verdictsL m (printedFrom s ops ++ tail') := by
  induction ops generalizing m s with
  | nil => exact ht m
  | cons op ops ih =>
    have e : ∀ l, observe m (opToks s op) l = observeL m (mopOf op) l := by
      intro l; unfold observe observeL; rw [parseToks_opToks s op (hw op (by simp))]
    simp only [tokensFrom, printedFrom, List.cons_append, verdictsS, verdictsL, e]
    rw [ih _ _ (fun o ho => hw o (List.mem_cons_of_mem _ ho))]

theorem verdictsS_tokenTrace (cfg : Config) (ops : List Op) (withEnd : Bool) (hw : ∀ op ∈ ops, opWF op = true) :
    verdictsS {} (tokenTrace cfg ops withEnd) = verdictsL {} (printedTrace cfg ops withEnd) := by
  unfold tokenTrace printedTrace
  have e : ∀ (m : Mon) l, observe m (startToks cfg) l = observeL m (.start cfg.t1 cfg.t2) l := by
    intro m l; unfold observe observeL; rw [parseToks_startToks]
  show (observe {} _ _).2 :: verdictsS (observe {} _ _).1 _ = (observeL {} _ _).2 :: verdictsL (observeL {} _ _).1 _
  rw [e]
  congr 1
  apply verdictsS_tokensFrom _ _ _ hw
  intro m'
  cases withEnd
  · rfl
  · rfl

theorem parseToks_new (cap wbuf t1 t2 : String) (a b : Nat) (h1 : t1.toNat? = some a) (h2 : t2.toNat? = some b) :
    parseToks ["new", cap, wbuf, t1, t2] = .start a b := by
  simp [parseToks, h1, h2]

end IceProofs.TcpMuxView

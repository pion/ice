import IceProofs.AgentC04Basic
import IceProofs.AgentMoves
/-!
# C04 — the invariant `Good`, `setConnState`, and what happens outside the tick and the session calls

Outside the connectivity-check tick, the session calls and the listing of a local candidate every move of the agent is
quiet or is `select` (`quiet_move`).  Hence the data-plane events and `RenominateCandidate` are quiet (`step_quiet`), and
the only effect of a remote candidate (`addRemoteCandidate`) or a STUN message (`handleInbound`) on the connection state is
through `select` (→ Connected): `SelEff`.
-/
namespace IceProofs.AgentC04
open IceModel.AgentCore IceProofs.Agent

/-- invariant of every reachable agent that is not closed -/
structure Good (a : Agent) : Prop where
  notClosed : a.closed = false
  live : a.connState ≠ .closed ∧ a.connState ≠ .unknown ∧ a.connState ≠ .completed
  newIff : a.connState = .new ↔ a.started = false
  sel : a.selected.isSome = true ↔ (a.connState = .connected ∨ a.connState = .disconnected)

theorem Good.of_same {a a' : Agent} (g : Good a) (q : Same a a') : Good a' := by
  obtain ⟨_, hc, hs, _, hcs, hsel, _, _⟩ := q
  refine ⟨hc ▸ g.notClosed, hcs ▸ g.live, ?_, ?_⟩
  · rw [hcs, hs]; exact g.newIff
  · rw [hcs, hsel]; exact g.sel

theorem Good.of_quiet {a a' : Agent} (g : Good a) (q : Quiet a a') : Good a' := g.of_same q.same

theorem Good.started_of_sel {a : Agent} (g : Good a) (h : a.selected.isSome = true) : a.started = true := by
  have hc := g.sel.mp h
  have : a.connState ≠ .new := by rcases hc with hc | hc <;> rw [hc] <;> decide
  cases hs : a.started
  · exact absurd (g.newIff.mpr hs) this
  · rfl

theorem Good.not_failed_of_sel {a : Agent} (g : Good a) (h : a.selected.isSome = true) : a.connState ≠ .failed := by
  rcases g.sel.mp h with hc | hc <;> rw [hc] <;> decide

theorem setConnState_ne (a : Agent) (s : ConnState) (h : a.connState ≠ s) (hf : s ≠ .failed) :
    a.setConnState s = ({ a with connState := s }, [.cbState s]) := by
  unfold Agent.setConnState
  simp [h, hf]

theorem Good.okInb {a : Agent} (g : Good a) (hs : a.started = true) (hn : a.connState ≠ .connected) :
    (a.connState == .checking || a.connState == .disconnected || a.connState == .failed) = true := by
  have h1 := g.live
  have h2 : a.connState ≠ .new := fun h => by have := g.newIff.mp h; simp [hs] at this
  cases hc : a.connState <;> simp_all

/-- source states from which re-selecting the selected pair can notify: only Disconnected -/
def okResel : ConnState → Bool := fun s => s == .disconnected

/-- source states from which an inbound STUN message can lead to Connected -/
def okInb : ConnState → Bool := fun s => s == .checking || s == .disconnected || s == .failed

/-- at most one notification, and it is `connected`, from a source state allowed by `ok` -/
structure SelEff (ok : ConnState → Bool) (a : Agent) (r : Agent × List Out) : Prop where
  frame : Frame a r.1
  cstart : r.1.checkingStart = a.checkingStart
  lastSeen : r.1.lastSeen = a.lastSeen
  good : Good r.1
  out : (states r.2 = [] ∧ r.1.connState = a.connState) ∨
        (states r.2 = [.connected] ∧ a.connState ≠ .connected ∧ ok a.connState = true ∧
          r.1.connState = .connected)

theorem SelEff.of_quiet {ok : ConnState → Bool} {a : Agent} {r : Agent × List Out} (g : Good a) (q : QuietO a r) : SelEff ok a r :=
  ⟨q.1.frame, q.1.cstart, q.1.lastSeen, g.of_quiet q.1, Or.inl ⟨q.2, q.1.connState⟩⟩

theorem SelEff.refl {ok : ConnState → Bool} {a : Agent} (g : Good a) : SelEff ok a (a, []) := SelEff.of_quiet g (QuietO.refl a)

theorem SelEff.comp {ok : ConnState → Bool} {a : Agent} {r r' : Agent × List Out} (h1 : SelEff ok a r) (h2 : SelEff ok r.1 r') :
    SelEff ok a (r'.1, r.2 ++ r'.2) := by
  refine ⟨h1.frame.trans h2.frame, h2.cstart.trans h1.cstart, h2.lastSeen.trans h1.lastSeen, h2.good, ?_⟩
  rcases h1.out with ⟨e1, c1⟩ | ⟨e1, n1, k1, c1⟩ <;> rcases h2.out with ⟨e2, c2⟩ | ⟨e2, n2, k2, c2⟩
  · exact Or.inl ⟨by simp [e1, e2], c2.trans c1⟩
  · exact Or.inr ⟨by simp [e1, e2], c1 ▸ n2, c1 ▸ k2, c2⟩
  · exact Or.inr ⟨by simp [e1, e2], n1, k1, c2.trans c1⟩
  · exact absurd c1 n2

theorem select_eff {ok : ConnState → Bool} (a : Agent) (id : Nat) (g : Good a) (hs : a.started = true)
    (hok : a.connState ≠ .connected → ok a.connState = true) : SelEff ok a (a.select id) := by
  have e2 : states (a.select id).2 = if a.connState = .connected then [] else [.connected] := by
    obtain ⟨x, y, e⟩ := select_snd_eq a id
    rw [e, states_append, states_cbPair, List.append_nil]
    split <;> rfl
  refine ⟨?_, ?_, ?_, ?_, ?_⟩
  · rw [select_update]; exact ⟨rfl, rfl, rfl, rfl, fun h => h⟩
  · rw [select_update]; rfl
  · rw [select_update]; rfl
  · rw [select_update]
    exact ⟨g.notClosed,
      show ConnState.connected ≠ .closed ∧ ConnState.connected ≠ .unknown ∧ ConnState.connected ≠ .completed by decide,
      ⟨fun h => (by cases h), fun h => (by rw [show a.started = false from h] at hs; cases hs)⟩,
      ⟨fun _ => Or.inl rfl, fun _ => rfl⟩⟩
  · rw [e2, select_update]
    by_cases h : a.connState = .connected
    · exact Or.inl ⟨if_pos h, h.symm⟩
    · exact Or.inr ⟨if_neg h, h, hok h, rfl⟩

variable {cx : Ctx}

/-- contexts without the tick, the session calls and the listing of a local candidate -/
structure Calm (cx : Ctx) : Prop where
  tick : ¬cx.may .tick
  session : ¬cx.may .session
  locals : ¬cx.may .locals

theorem quiet_move {a : Agent} {r : Agent × List Out} (C : Calm cx) (h : Move cx a r) :
    QuietO a r ∨ ∃ id, cx.may .select ∧ SelectWhy cx a id ∧ r = a.select id := by
  have why : ∀ s, ¬StateWhy cx a s := fun _ h => h.kind.elim C.tick C.session
  cases h with
  | select id hw h => exact Or.inr ⟨id, h, hw, rfl⟩
  | connState s _ _ hw => exact absurd hw (why s)
  | failed _ hw => exact absurd hw (why _)
  | pair id f => exact Or.inl ⟨modPair_quiet a id f, rfl⟩
  | request now l r uc => exact Or.inl (sendRequest_quiet a now l r uc none)
  | issue now l r v => exact Or.inl ((sendRequest_quiet a now l r true _).then_quiet (.of_fields rfl))
  | seenLocalSent uid now => exact Or.inl ⟨seenLocalSent_quiet a uid now, rfl⟩
  | newLocal _ _ _ h => exact absurd h C.locals
  | sawState h => exact absurd h C.tick
  | checkingStart _ h => exact absurd h C.tick
  | armChecks h => exact absurd h C.session
  | start _ _ _ _ h => exact absurd h C.session
  | restart _ _ _ h => exact absurd h C.session
  | close h => exact absurd h C.session
  | _ => exact Or.inl ⟨.of_fields rfl, rfl⟩

theorem quiet_chain {a : Agent} {r : Agent × List Out} (C : Calm cx) (hsel : ¬cx.may .select) (h : Chain cx a r) :
    QuietO a r :=
  Chain.ind (R := QuietO) QuietO.refl (fun _ _ m => (quiet_move C m).resolve_right fun ⟨_, h, _⟩ => hsel h)
    QuietO.trans h

theorem quiet_none {a : Agent} {r : Agent × List Out} (h : Chain (.only fun _ => False) a r) : QuietO a r :=
  quiet_chain (cx := .only fun _ => False) ⟨id, id, id⟩ id h

theorem nominate_quiet (a : Agent) (now : Nat) (p : Pair) : QuietO a (a.nominate now p) :=
  quiet_none (Chain.nominate a now p nofun)

theorem keepalive_quiet (a : Agent) (now : Nat) : QuietO a (a.keepalive now) := quiet_none (Chain.keepalive a now)

/-- the events of the data plane and `RenominateCandidate` -/
def quietEv : Ev → Bool
  | .inboundData .. | .write .. | .writeToPair .. | .read .. | .renominate .. => true
  | _ => false

theorem step_quiet (a : Agent) (e : Ev) (he : quietEv e = true) : QuietO a (step a e) := by
  have h : ∀ k, k = .tick ∨ k = .session ∨ k = .locals ∨ k = .select → ¬mayOf e k := by
    cases e with
    | inboundData | write | writeToPair | read | renominate => rintro k (rfl | rfl | rfl | rfl) <;> simp [mayOf]
    | _ => cases he
  exact quiet_chain ⟨h _ (.inl rfl), h _ (.inr (.inl rfl)), h _ (.inr (.inr (.inl rfl)))⟩ (h _ (.inr (.inr (.inr rfl))))
    (step_chain a e)

theorem sel_move {ok : ConnState → Bool} {a : Agent} {r : Agent × List Out} (C : Calm cx) (g : Good a)
    (hsel : ∀ id, SelectWhy cx a id → a.started = true ∧ (a.connState ≠ .connected → ok a.connState = true))
    (h : Move cx a r) : SelEff ok a r := by
  rcases quiet_move C h with q | ⟨id, _, hw, rfl⟩
  · exact SelEff.of_quiet g q
  · exact select_eff a id g (hsel id hw).1 (hsel id hw).2

theorem sel_chain {a : Agent} {r : Agent × List Out} (C : Calm cx) (h : Chain cx a r) (g : Good a)
    (hst : a.started = true) : SelEff okInb a r := by
  refine Chain.ind (R := fun a r => Good a → a.started = true → SelEff okInb a r) (fun _ g _ => SelEff.refl g)
    (fun _ _ m g hst => sel_move C g (fun _ _ => ⟨hst, Good.okInb g hst⟩) m) (fun h1 h2 g hst => ?_) h g hst
  have e1 := h1 g hst
  exact e1.comp (h2 e1.good (e1.frame.started.trans hst))

theorem resel_chain {a : Agent} {r : Agent × List Out} (C : Calm cx) (hs : cx.Silent) (h : Chain cx a r) (g : Good a) :
    SelEff okResel a r := by
  refine Chain.ind (R := fun a r => Good a → SelEff okResel a r) (fun _ g => SelEff.refl g)
    (fun a _ m g => sel_move C g (fun id hw => ?_) m) (fun h1 h2 g => (h1 g).comp (h2 (h1 g).good)) h g
  have hsel : a.selected.isSome = true := by rw [hw.again_of_silent hs]; rfl
  refine ⟨g.started_of_sel hsel, fun hn => ?_⟩
  rcases g.sel.mp hsel with h | h
  · exact absurd h hn
  · rw [h]; rfl

/-- all kinds of moves but those a calm context excludes -/
abbrev calm (k : Kind) : Prop := k ≠ .tick ∧ k ≠ .session ∧ k ≠ .locals

theorem Calm.of_calm {cx : Ctx} (h : ∀ k, cx.may k → calm k) : Calm cx :=
  ⟨fun hk => (h _ hk).1 rfl, fun hk => (h _ hk).2.1 rfl, fun hk => (h _ hk).2.2 rfl⟩

/-- a remote candidate arrives, no message is being handled -/
@[reducible] def remCx : Ctx := { Ctx.idle with may := calm, addsRemote := fun _ => True }

/-- a STUN message is being handled -/
@[reducible] def inbCx : Ctx := Ctx.only calm

theorem addRemoteCandidate_eff (a : Agent) (c : Cand) (g : Good a) :
    SelEff okResel a ((a.addRemoteCandidate c).1, (a.addRemoteCandidate c).2.1) :=
  resel_chain (cx := remCx) (.of_calm fun _ h => h) ⟨fun _ _ _ _ _ _ _ h => h, fun _ _ _ _ h => h, fun _ _ _ _ h => h⟩
    (Chain.addRemoteCandidate a c trivial) g

theorem handleInbound_eff (a : Agent) (now : Nat) (l : Cand) (src : Nat) (m : Msg) (g : Good a) (hs : a.started = true) :
    SelEff okInb a (a.handleInbound now l src m) :=
  sel_chain (cx := inbCx) (.of_calm fun _ h => h)
    (Chain.handleInbound a now l src m (fun _ _ _ _ => trivial) (fun _ => trivial) (fun _ _ _ _ _ _ _ _ _ _ => trivial)
      (fun _ _ => trivial) nofun) g hs

end IceProofs.AgentC04

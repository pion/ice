import IceProofs.TcpMuxSimStep
/-!
# The monitor's bookkeeping for the single operations follows the model (`BookOK`)

Four of the seven fields of `BookOK` hold for every operation (`book_keeps`, `prov_of_u`, `does_calm`); what an
operation has to show is its `Core` (`bookOK_of_core`), outcome by outcome of `Does` (`book_cases`).
-/
namespace IceProofs.TcpMux
open IceModel.TcpMux IceSpec.C15 IceSpec.C15.View

/-- the bookkeeping `b` of the monitor (state `m`) for a step `s → s'` of the model is correct -/
structure BookOK (s s' : State) (m : Mon) (b : Mon × Option String × Bool) : Prop where
  verdict : b.2.1 = none
  u : SimU s' (expire b.1)
  n : NRead s' (expire b.1)
  prov : ∀ (k : Nat) (c : MClient) (p : Nat) (pc : MPc) (d : Nat), b.1.clients[k]? = some c → c.target = some p →
    b.1.pcs[p]? = some pc → pc.expires = some d → d ≤ b.1.now → ∃ t', s'.tcps[k]? = some t' ∧ t'.isClosed = true
  old : ∀ (k : Nat) (c : MClient), b.1.clients[k]? = some c → c.closed = true →
    ∃ t', s'.tcps[k]? = some t' ∧ t'.isClosed = true
  ret : b.1.returned = m.returned
  outs : b.2.2 = false → newReplies s.tcps s'.tcps = []

theorem ext_closed_mono {s s' : State} (e : Ext s s') :
    ∀ (k : Nat) (t : Tcp), s.tcps[k]? = some t → t.isClosed = true → ∃ t', s'.tcps[k]? = some t' ∧ t'.isClosed = true := by
  intro k t ht hc
  obtain ⟨t', ht', te⟩ := e.tcps k t ht
  refine ⟨t', ht', ?_⟩
  have := te.phase
  rw [isClosed_iff.1 hc] at this
  simp only [PhaseStep] at this
  exact isClosed_iff.2 this

/-- the `closed` flags set in `l'` were set in `l` -/
def ClosedFrom (l l' : List MClient) : Prop :=
  ∀ (j : Nat) (c : MClient), l'[j]? = some c → c.closed = true → ∃ c0, l[j]? = some c0 ∧ c0.closed = true

theorem ClosedFrom.refl (l : List MClient) : ClosedFrom l l := fun _ c hc hcc => ⟨c, hc, hcc⟩

theorem ClosedFrom.setAt (l : List MClient) (k : Nat) {h : MClient → MClient} (hh : ∀ c, (h c).closed = c.closed) :
    ClosedFrom l (setAt l k h) := by
  intro j c hc hcc
  unfold IceSpec.C15.setAt at hc
  rw [getElem?_modify_map] at hc
  cases h0 : l[j]? with
  | none => rw [h0] at hc; cases hc
  | some c0 =>
    rw [h0] at hc
    simp only [Option.map_some, Option.some.injEq] at hc
    refine ⟨c0, rfl, ?_⟩
    rw [← hc] at hcc
    split at hcc
    · rw [hh] at hcc; exact hcc
    · exact hcc

theorem old_of_flags {s s' : State} {m : Mon} {cl' : List MClient} (hf : Flags s.tcps m)
    (hlen : m.clients.length = s.tcps.length) (e : Ext s s') (hcl : ClosedFrom m.clients cl') :
    ∀ (k : Nat) (c : MClient), cl'[k]? = some c → c.closed = true → ∃ t', s'.tcps[k]? = some t' ∧ t'.isClosed = true := by
  intro k c hc hcc
  obtain ⟨c0, hc0, h0⟩ := hcl k c hc hcc
  have hlt : k < s.tcps.length := by rw [← hlen]; exact getElem?_lt hc0
  obtain ⟨t, ht⟩ := getElem?_of_lt hlt
  exact ext_closed_mono e k t ht (by rw [← hf k t c0 ht hc0]; exact h0)

/-- what `book` leaves alone: `returned`, and the `closed` flags (`absorb` takes them over from the observation); and
whether it lets the operation write to clients (`w`) -/
def Keeps (w : Bool) (m : Mon) (b : Mon × Option String × Bool) : Prop :=
  b.1.returned = m.returned ∧ ClosedFrom m.clients b.1.clients ∧ b.2.2 = w

theorem Keeps.same {w : Bool} {m : Mon} {b : Mon × Option String × Bool} (hr : b.1.returned = m.returned)
    (hc : b.1.clients = m.clients) (hw : b.2.2 = w) : Keeps w m b :=
  ⟨hr, hc ▸ ClosedFrom.refl _, hw⟩

theorem Keeps.setAt {w : Bool} {m : Mon} {b : Mon × Option String × Bool} {k : Nat} {h : MClient → MClient}
    (hr : b.1.returned = m.returned) (hc : b.1.clients = setAt m.clients k h) (hh : ∀ c, (h c).closed = c.closed)
    (hw : b.2.2 = w) : Keeps w m b :=
  ⟨hr, hc ▸ ClosedFrom.setAt _ k hh, hw⟩

/-- the monitor lets an operation write to clients: a `write` through a handle it knows -/
def allows (m : Mon) : MOp → Bool
  | .write h .. => (m.handles[h]?).isSome
  | _ => false

theorem Keeps.ite {w : Bool} {m : Mon} {c : Prop} [Decidable c] {a b : Mon × Option String × Bool} (ha : Keeps w m a)
    (hb : Keeps w m b) : Keeps w m (if c then a else b) := by
  split <;> assumption

/-- Every branch of `book` (the record `accept` appends apart) returns `m` with some fields replaced, the client list
being `m.clients` or `setAt m.clients k h` with `h` keeping `closed`; the third component is `allows m op`.  The walk follows the `if`s with `Keeps.ite`, so
that no step sees the whole function. -/
theorem book_keeps (m : Mon) (op : MOp) (o : Obs) (hna : ∀ ip port lip, op ≠ .accept ip port lip) :
    Keeps (allows m op) m (book m op o) := by
  have same : ∀ {w : Bool} {b : Mon × Option String × Bool}, b.1.returned = m.returned → b.1.clients = m.clients → b.2.2 = w →
      Keeps w m b := .same
  cases op with
  | accept ip port lip => exact absurd rfl (hna ip port lip)
  | frame k fid user len =>
    show Keeps _ m (bookFrame m o k fid user len)
    unfold bookFrame
    cases m.clients[k]? with
    | none => exact same rfl rfl rfl
    | some c =>
      refine .ite (same rfl rfl rfl) (.ite (.ite (same rfl rfl rfl) (.setAt rfl rfl (fun _ => rfl) rfl))
        (.ite (.setAt rfl rfl (fun _ => rfl) rfl) ?_))
      unfold bookFirst
      cases (if m.now < c.deadline then routeUfrag user len else none) with
      | none =>
        exact .ite (.setAt rfl rfl (fun _ => rfl) rfl) (.ite (.setAt rfl rfl (fun _ => rfl) rfl) (.setAt rfl rfl (fun _ => rfl) rfl))
      | some u =>
        exact .ite (.ite (.setAt rfl rfl (fun _ => rfl) rfl) (.setAt rfl rfl (fun _ => rfl) rfl))
          (.ite (.setAt rfl rfl (fun _ => rfl) rfl) (.ite (.setAt rfl rfl (fun _ => rfl) rfl) (.setAt rfl rfl (fun _ => rfl) rfl)))
  | read h =>
    show Keeps _ m (bookRead m o h)
    unfold bookRead
    cases m.handles[h]? with
    | none => exact same rfl rfl rfl
    | some hd =>
      cases o.res with
      | pkt ip port id len =>
        refine .ite (same rfl rfl rfl) ?_
        dsimp only
        split
        · exact .setAt rfl rfl (fun _ => rfl) rfl
        · exact .ite (same rfl rfl rfl) (same rfl rfl rfl)
      | empty => exact .ite (same rfl rfl rfl) (.ite (same rfl rfl rfl) (same rfl rfl rfl))
      | _ => exact same rfl rfl rfl
  | partialFrame k => exact .setAt rfl rfl (fun _ => rfl) rfl
  | cclose k => exact .setAt rfl rfl (fun _ => rfl) rfl
  | getconn u v6 lip =>
    show Keeps _ m (bookGetconn m o u v6 lip)
    unfold bookGetconn
    cases o.res with
    | handle h =>
      refine .ite (same rfl rfl rfl) (.ite (same rfl rfl rfl) ?_)
      split <;> exact same rfl rfl rfl
    | _ => exact same rfl rfl rfl
  | closeh h =>
    show Keeps _ m (bookCloseh m h)
    unfold bookCloseh
    cases m.handles[h]? with
    | none => exact same rfl rfl rfl
    | some hd =>
      refine .ite (same rfl rfl rfl) ?_
      dsimp only
      split
      · exact .ite (same rfl rfl rfl) (same rfl rfl rfl)
      · exact same rfl rfl rfl
  | closepc h =>
    show Keeps _ m (match m.handles[h]? with
      | some hd => ({ m with pcs := closeRec m.pcs hd.pc }, none, false)
      | none => (m, none, false))
    cases m.handles[h]? <;> exact same rfl rfl rfl
  | write h ip port pid len =>
    show Keeps (m.handles[h]?).isSome m (bookWrite m o h ip port pid len)
    unfold bookWrite
    cases m.handles[h]? with
    | none => exact same rfl rfl rfl
    | some hd =>
      cases o.res with
      | wrote n =>
        simp only
        split
        · exact .ite (same rfl rfl rfl) (.ite (same rfl rfl rfl) (.ite (same rfl rfl rfl) (same rfl rfl rfl)))
        · exact same rfl rfl rfl
        · exact same rfl rfl rfl
      | _ => exact .ite (same rfl rfl rfl) (.ite (same rfl rfl rfl) (same rfl rfl rfl))
  | closemux =>
    show Keeps _ m (bookClosemux m o)
    unfold bookClosemux
    exact .ite (same rfl rfl rfl) (.ite (same rfl rfl rfl) (same rfl rfl rfl))
  | _ => exact same rfl rfl rfl

/-- **provisional expires**, once for all operations: a connection routed to a record whose alive deadline has
passed is closed in any state whose records are the expired ones — the packet connection is closed there, and a
connection that points to a closed packet connection is closed (`routed_closed`). -/
theorem prov_of_u {s' : State} {b : Mon} (hi' : Inv s') (h2' : Inv2 s') (hu : SimU s' (expire b)) :
    ∀ (k : Nat) (c : MClient) (p : Nat) (pc : MPc) (d : Nat), b.clients[k]? = some c → c.target = some p →
      b.pcs[p]? = some pc → pc.expires = some d → d ≤ b.now → ∃ t', s'.tcps[k]? = some t' ∧ t'.isClosed = true := by
  intro k c p pc d hc htg hp he hd
  obtain ⟨t', ht', r⟩ := tcp_of hu hc
  refine ⟨t', ht', ?_⟩
  have htpc : t'.pc = some p := by rw [← r.target]; exact htg
  have hpc' : (expire b).pcs[p]? = some (closeOne pc) := by
    show (closeWhere b.pcs (expired b.now))[p]? = _
    unfold closeWhere
    rw [List.getElem?_map, hp]
    simp [expired, he, hd]
  rw [hu.pcs, List.getElem?_map] at hpc'
  obtain ⟨pc0, hp0, e0⟩ := map_eq_some hpc'
  have hcl0 : pc0.closed = true := by
    have : (closeOne pc).isOpen = false := by unfold closeOne; split <;> simp_all
    rw [e0] at this
    simpa [absPc] using this
  exact isClosed_iff.2 (routed_closed hi' h2' ht' htpc hp0 hcl0)

/-- what an operation has to show: the other four fields of `BookOK` do not depend on it -/
structure Core (s' : State) (b : Mon × Option String × Bool) : Prop where
  verdict : b.2.1 = none
  u : SimU s' (expire b.1)
  n : NRead s' (expire b.1)

theorem Core.of_inv {s' : State} {b : Mon × Option String × Bool} (hv : b.2.1 = none) (hu : SimU s' b.1) (hn : NRead s' b.1)
    (hi' : Inv s') : Core s' b := by
  have he : expire b.1 = b.1 := expire_id b.1 s' hu.pcs hu.now hi'
  exact ⟨hv, by rw [he]; exact hu, by rw [he]; exact hn⟩

theorem Core.same {s : State} {m : Mon} (hs : Sim s m) (hi : Inv s) : Core s (m, none, false) :=
  Core.of_inv rfl hs.u hs.nread hi

theorem BookOK.of_core {s s' : State} {m : Mon} {b : Mon × Option String × Bool} (hi' : Inv s') (h2' : Inv2 s')
    (core : Core s' b)
    (hold : ∀ (k : Nat) (c : MClient), b.1.clients[k]? = some c → c.closed = true →
      ∃ t', s'.tcps[k]? = some t' ∧ t'.isClosed = true)
    (hret : b.1.returned = m.returned) (houts : b.2.2 = false → newReplies s.tcps s'.tcps = []) : BookOK s s' m b :=
  ⟨core.verdict, core.u, core.n, prov_of_u hi' h2' core.u, hold, hret, houts⟩

theorem bookOK_of_core {s : State} {m : Mon} (hs : Sim s m) (hi : Inv s) (h2 : Inv2 s) (op : Op)
    (hna : ∀ peer lip, op ≠ .accept peer lip) {s' : State} {r : Res} (hst : step s op = (s', r))
    (core : Inv s' → Core s' (book m (mopOf op) (obsOf s.tcps s' (oresOf op r)))) :
    BookOK s s' m (book m (mopOf op) (obsOf s.tcps s' (oresOf op r))) := by
  have hi' := step_inv s op hi
  have h2' := step_inv2 s op hi h2
  have hext := step_ext s op hi h2
  have hd := step_does s op
  rw [hst] at hi' h2' hext hd
  have keeps := book_keeps m (mopOf op) (obsOf s.tcps s' (oresOf op r)) (by
    intro ip port lip h
    cases op with
    | accept peer lip' => exact hna peer lip' rfl
    | _ => simp [mopOf] at h)
  refine .of_core hi' h2' (core hi') (old_of_flags hs.flags hs.u.len hext keeps.2.1) keeps.1 (fun hf => ?_)
  -- the monitor forbids writing to clients: the operation is not a `write` through a handle, and nothing was written
  have c := does_calm hd hna (fun h d p l e => by
    subst e
    rw [keeps.2.2] at hf
    have : (m.handles[h]?).isSome = false := hf
    rw [hs.u.handles, List.getElem?_map] at this
    cases hh : s.handles[h]? with
    | none => rfl
    | some x => rw [hh] at this; cases this)
  exact newReplies_nil c.2 c.1

theorem bookOK_quiet {s : State} {m : Mon} (hs : Sim s m) (hi : Inv s) (h2 : Inv2 s) (op : Op)
    (hna : ∀ peer lip, op ≠ .accept peer lip) {s' : State} {r : Res} (hst : step s op = (s', r))
    (q : Quiet s s' ∧ RLSame s s')
    (hb : book m (mopOf op) (obsOf s.tcps s' (oresOf op r)) = (reread m s', none, false)) :
    BookOK s s' m (book m (mopOf op) (obsOf s.tcps s' (oresOf op r))) := by
  obtain ⟨hu, hn⟩ := quiet_step q.1 q.2 hi h2 hs.u hs.nread
  exact bookOK_of_core hs hi h2 op hna hst (fun hi' => hb ▸ Core.of_inv rfl hu hn hi')

/-- `bookOK_quiet` when the monitor's state is `reread m s'` only after `expire` (E): the case of `advance` -/
theorem bookOK_quietE {s : State} {m : Mon} (hs : Sim s m) (hi : Inv s) (h2 : Inv2 s) (op : Op)
    (hna : ∀ peer lip, op ≠ .accept peer lip) {s' : State} {r : Res} (hst : step s op = (s', r))
    (q : Quiet s s' ∧ RLSame s s') (hv : (book m (mopOf op) (obsOf s.tcps s' (oresOf op r))).2 = (none, false))
    (hb : expire (book m (mopOf op) (obsOf s.tcps s' (oresOf op r))).1 = reread m s') :
    BookOK s s' m (book m (mopOf op) (obsOf s.tcps s' (oresOf op r))) := by
  obtain ⟨hu, hn⟩ := quiet_step q.1 q.2 hi h2 hs.u hs.nread
  exact bookOK_of_core hs hi h2 op hna hst (fun _ => ⟨by rw [hv], hb ▸ hu, hb ▸ hn⟩)

theorem book_cases {s : State} {m : Mon} (op : Op)
    (h : ∀ s' r, step s op = (s', r) → Does s op s' r →
      BookOK s s' m (book m (mopOf op) (obsOf s.tcps s' (oresOf op r)))) :
    BookOK s (step s op).1 m (book m (mopOf op) (obsOf s.tcps (step s op).1 (oresOf op (step s op).2))) :=
  h _ _ rfl (step_does s op)

/-- the record the monitor creates for a newly accepted (`acc`) or refused connection -/
def newClient (m : Mon) (peer : Addr) (lip : Nat) (acc : Bool) : MClient :=
  { ip := peer.ip, port := peer.port, lip := lip, accepted := acc, deadline := m.now + m.t1, closed := !acc }

theorem bookAccept_eq (m : Mon) (o : Obs) (peer : Addr) (lip : Nat) :
    bookAccept m o peer.ip peer.port lip =
      ({ m with clients := m.clients ++ [newClient m peer lip (o.res == .ok)] },
       if (m.closeCalled && (o.res == .ok)) = true then some "close: a connection was accepted after Close" else none, false) := rfl

theorem old_append {s s' : State} {m : Mon} {cn : MClient} {tn : Tcp} (hf : Flags s.tcps m)
    (hlen : m.clients.length = s.tcps.length) (e : Ext s s') (hs' : s'.tcps = s.tcps ++ [tn])
    (hcn : cn.closed = true → tn.isClosed = true) :
    ∀ (k : Nat) (c : MClient), (m.clients ++ [cn])[k]? = some c → c.closed = true →
      ∃ t', s'.tcps[k]? = some t' ∧ t'.isClosed = true := by
  intro k c hc hcl
  by_cases hlt : k < s.tcps.length
  · rw [List.getElem?_append_left (by rw [hlen]; exact hlt)] at hc
    obtain ⟨t, ht⟩ := getElem?_of_lt hlt
    exact ext_closed_mono e k t ht (by rw [← hf k t c ht hc]; exact hcl)
  · have hl2 : k < (m.clients ++ [cn]).length := getElem?_lt hc
    simp [hlen] at hl2
    have : k = m.clients.length := by rw [hlen]; omega
    subst this
    rw [List.getElem?_concat_length] at hc
    cases hc
    rw [hs', hlen]
    exact ⟨tn, List.getElem?_concat_length, hcn hcl⟩

theorem op_accept {s : State} {m : Mon} (hs : Sim s m) (hi : Inv s) (h2 : Inv2 s) (peer : Addr) (lip : Nat) :
    BookOK s (step s (.accept peer lip)).1 m
      (book m (.accept peer.ip peer.port lip)
        (obsOf s.tcps (step s (.accept peer lip)).1 (oresOf (.accept peer lip) (step s (.accept peer lip)).2))) := by
  refine book_cases (.accept peer lip) (fun s' r hx h => ?_)
  have hi' := step_inv s (.accept peer lip) hi
  have h2' := step_inv2 s (.accept peer lip) hi h2
  have hext := step_ext s (.accept peer lip) hi h2
  rw [hx] at hi' h2' hext
  -- the new connection `tn` and its record `newClient m peer lip acc` are related, whichever way the listener decided
  have fin : ∀ (tn : Tcp) (acc : Bool), s' = { s with tcps := s.tcps ++ [tn] } →
      (oresOf (.accept peer lip) r == ORes.ok) = acc → (m.closeCalled && acc) = false →
      tn.pc = none → (∀ p, tn.phase ≠ .attached p) → tn.reader = .none → tn.inbox = [] → tn.out = [] →
      CRel tn (newClient m peer lip acc) → (acc = false → tn.isClosed = true) →
      BookOK s s' m (bookAccept m (obsOf s.tcps s' (oresOf (.accept peer lip) r)) peer.ip peer.port lip) := by
    intro tn acc hs' hres hcc hpc hph hrd hin hout hrel hcl
    subst hs'
    rw [bookAccept_eq]
    have hres' : ((obsOf s.tcps { s with tcps := s.tcps ++ [tn] } (oresOf (.accept peer lip) r)).res == ORes.ok) = acc := hres
    rw [hres', hcc]
    obtain ⟨hu, hn⟩ := appendTcp_simU hs.u hs.nread hi h2 tn (newClient m peer lip acc) hpc hph hrd hin hrel rfl
    exact .of_core hi' h2' (Core.of_inv rfl hu hn hi')
      (old_append hs.flags hs.u.len hext rfl (by intro h; exact hcl (by simpa [newClient] using h))) rfl
      (fun _ => newReplies_append_nil _ _ hout)
  cases h with
  | accept _ _ hl =>
    have hmc : s.muxClosed = false := by
      cases hm : s.muxClosed with
      | false => rfl
      | true => have := hi.lis hm; rw [hl] at this; cases this
    refine fin _ true rfl rfl (by rw [hs.u.called, hmc]; rfl) rfl nofun rfl rfl rfl ?_ nofun
    refine ⟨rfl, rfl, rfl, ?_, nofun, rfl, rfl, rfl, nofun, nofun⟩
    intro d hd
    simp only [Phase.pending.injEq] at hd
    exact ⟨rfl, rfl, by show m.now + m.t1 = d; rw [hs.u.now, hs.u.t1]; exact hd⟩
  | refuse _ _ hl =>
    refine fin _ false rfl rfl (by simp) rfl nofun rfl rfl rfl ?_ (fun _ => rfl)
    exact ⟨rfl, rfl, rfl, nofun, nofun, rfl, rfl, rfl, nofun, fun _ => rfl⟩

theorem setTcp_id (s : State) (k : Nat) : setTcp s k (fun t => t) = s := by
  unfold setTcp; rw [modify_same_at _ (fun _ _ => rfl)]

theorem mon_reread {s' : State} {m : Mon} (hp : m.pcs = s'.pcs.map absPc) (hh : m.handles = s'.handles.map absH)
    (hn : m.now = s'.now) : reread m s' = m := by
  unfold reread; rw [← hp, ← hh, ← hn]

theorem reader_chain {s : State} {m : Mon} (k : Nat) (hi : Inv s) (h2 : Inv2 s) (hu : SimU s m) (hn : NRead s m) :
    SimU (runReader s k) m ∧ NRead (runReader s k) m := by
  obtain ⟨q, rl, habs⟩ := runReader_quiet s k hi h2 hu.endLast
  have e := runReader_flags s k
  have := quiet_step q rl hi h2 hu hn
  rw [mon_reread (by rw [habs]; exact hu.pcs) (by rw [e.handles]; exact hu.handles) (by rw [e.now]; exact hu.now)] at this
  exact this

theorem client_simU {s : State} {m : Mon} (hu : SimU s m) (hn : NRead s m) (hi : Inv s) (h2 : Inv2 s) (k : Nat) (t : Tcp)
    (c : MClient) (h : MClient → MClient) (ht : s.tcps[k]? = some t) (hc : m.clients[k]? = some c)
    (hrel : CRel t (h c)) (hseq : (h c).seq = c.seq) (hnr : (h c).nread = c.nread) :
    SimU s { m with clients := setAt m.clients k h } ∧ NRead s { m with clients := setAt m.clients k h } := by
  have := modify_simU hu hn hi h2 k t c (fun t => t) h ht hc rfl rfl (Or.inl rfl) (fun _ => rfl) rfl
    (fun a b it hin he => hu.endLast k t a b it ht hin he) hrel hseq hnr
  rwa [setTcp_id] at this

theorem newReplies_same (s : State) : newReplies s.tcps s.tcps = [] := newReplies_nil rfl (OutQ.refl s)

theorem setAt_same {α : Type} (l : List α) (k : Nat) (h : α → α) (a : α) (ha : l[k]? = some a) (he : h a = a) :
    setAt l k h = l :=
  modify_same_at h (fun b hb => by rw [ha] at hb; cases hb; exact he)

theorem mon_clients_same (m : Mon) : ({ m with clients := m.clients } : Mon) = m := rfl

theorem op_partial {s : State} {m : Mon} (hs : Sim s m) (hi : Inv s) (h2 : Inv2 s) (k : Nat)
    (hnb : (step s (.partialFrame k)).2 ≠ .bad) :
    BookOK s (step s (.partialFrame k)).1 m
      (book m (.partialFrame k) (obsOf s.tcps (step s (.partialFrame k)).1 (oresOf (.partialFrame k) (step s (.partialFrame k)).2))) := by
  refine book_cases (.partialFrame k) (fun s' r hx h => ?_)
  cases h with
  | partialBad _ ht => rw [hx] at hnb; exact absurd rfl hnb
  | partialNoop _ t ht hd =>
    obtain ⟨c, hc, r⟩ := client_of hs.u ht
    refine bookOK_of_core hs hi h2 (.partialFrame k) nofun hx (fun _ => ?_)
    show Core s ({ m with clients := setAt m.clients k (fun c => { c with done := true }) }, none, false)
    rw [setAt_same m.clients k _ c hc (by have := r.done; rw [hd] at this; cases c; simp_all)]
    exact Core.same hs hi
  | stall _ t ht hd =>
    obtain ⟨c, hc, r⟩ := client_of hs.u ht
    refine bookOK_of_core hs hi h2 (.partialFrame k) nofun hx (fun hi' => ?_)
    obtain ⟨hu, hn⟩ := modify_simU hs.u hs.nread hi h2 k t c (fun t => { t with stuck := true }) (fun c => { c with done := true })
      ht hc rfl rfl (Or.inl rfl) (fun _ => rfl) rfl (fun a b it hin he => hs.u.endLast k t a b it ht hin he)
      ⟨r.ip, r.port, r.lip, r.pend, r.first, r.target, by simp, r.gone, r.sent, r.acc⟩ rfl rfl
    exact Core.of_inv rfl hu hn hi'

theorem no_end_of_open {s : State} (h3 : Inv3 s) {k : Nat} {t : Tcp} (ht : s.tcps[k]? = some t) (hce : t.cEnd = false) :
    ∀ it, it ∈ t.inbox → isEnd it = false := by
  intro it hit
  cases he : isEnd it with
  | false => rfl
  | true =>
    have := (h3.tcp k t ht).ends it hit he
    rw [hce] at this; cases this

theorem endLast_push {inbox : List Item} {x : Item} (hno : ∀ it, it ∈ inbox → isEnd it = false) :
    ∀ (a b : List Item) (it : Item), inbox ++ [x] = a ++ it :: b → isEnd it = true → b = [] := by
  intro a b it h he
  rcases List.append_eq_append_iff.1 h with ⟨a', ha1, ha2⟩ | ⟨c', hc1, hc2⟩
  · -- a = inbox ++ a', [x] = a' ++ it :: b
    cases a' with
    | nil => simp only [List.nil_append, List.cons.injEq] at ha2; exact ha2.2.symm
    | cons y ys =>
      simp only [List.cons_append, List.cons.injEq] at ha2
      have := ha2.2
      cases ys <;> simp at this
  · -- inbox = a ++ c', it :: b = c' ++ [x]
    cases c' with
    | nil => simp only [List.nil_append, List.cons.injEq] at hc2; exact hc2.2
    | cons y ys =>
      simp only [List.cons_append, List.cons.injEq] at hc2
      have : it ∈ inbox := by rw [hc1, hc2.1]; simp
      rw [hno it this] at he; cases he

theorem op_cclose {s : State} {m : Mon} (hs : Sim s m) (hi : Inv s) (h2 : Inv2 s) (h3 : Inv3 s) (k : Nat) (reset : Bool)
    (hnb : (step s (.clientClose k reset)).2 ≠ .bad) :
    BookOK s (step s (.clientClose k reset)).1 m
      (book m (.cclose k) (obsOf s.tcps (step s (.clientClose k reset)).1
        (oresOf (.clientClose k reset) (step s (.clientClose k reset)).2))) := by
  refine book_cases (.clientClose k reset) (fun s' r hx h => ?_)
  -- connection `k` changes by `g` (its reader not yet running) and its record is marked done and gone
  have upd : ∀ (t : Tcp) (c : MClient) (g : Tcp → Tcp), s.tcps[k]? = some t → m.clients[k]? = some c →
      (g t).peer = t.peer → (g t).pc = t.pc →
      ((g t).phase = t.phase ∨ ((∃ d, t.phase = .pending d) ∧ (g t).phase = .closed)) → (t.phase = .closed → (g t).sent = t.sent) →
      (g t).reader = t.reader → (∀ (a b : List Item) (it : Item), (g t).inbox = a ++ it :: b → isEnd it = true → b = []) →
      CRel (g t) { c with done := true, gone := true } →
      SimU (setTcp s k g) { m with clients := setAt m.clients k (fun c => { c with done := true, gone := true }) } ∧
      NRead (setTcp s k g) { m with clients := setAt m.clients k (fun c => { c with done := true, gone := true }) } :=
    fun t c g ht hc a1 a2 a3 a4 a5 a6 a7 => modify_simU hs.u hs.nread hi h2 k t c g _ ht hc a1 a2 a3 a4 a5 a6 a7 rfl rfl
  cases h with
  | ccloseBad _ _ ht => rw [hx] at hnb; exact absurd rfl hnb
  | ccloseNoop _ _ t ht hd =>
    obtain ⟨c, hc, r⟩ := client_of hs.u ht
    refine bookOK_of_core hs hi h2 (.clientClose k reset) nofun hx (fun _ => ?_)
    show Core s ({ m with clients := setAt m.clients k (fun c => { c with done := true, gone := true }) }, none, false)
    have hdone : c.done = true := by rw [r.done, hd]; rfl
    have hgone : c.gone = true := by rw [r.gone, hd]; rfl
    rw [setAt_same m.clients k _ c hc (by cases c; simp at hdone hgone ⊢; exact ⟨hdone, hgone⟩)]
    exact Core.same hs hi
  | gone _ _ t ht hd hph =>
    obtain ⟨c, hc, r⟩ := client_of hs.u ht
    refine bookOK_of_core hs hi h2 (.clientClose k reset) nofun hx (fun hi' => ?_)
    obtain ⟨hu, hn⟩ := upd t c (fun t => { t with cEnd := true }) ht hc rfl rfl (Or.inl rfl) (fun _ => rfl) rfl
      (fun a b it hin he => hs.u.endLast k t a b it ht hin he)
      ⟨r.ip, r.port, r.lip, r.pend, r.first, r.target, by simp, by simp, r.sent, r.acc⟩
    exact Core.of_inv rfl hu hn hi'
  | hangup _ _ t d ht hd hph =>
    obtain ⟨c, hc, r⟩ := client_of hs.u ht
    refine bookOK_of_core hs hi h2 (.clientClose k reset) nofun hx (fun hi' => ?_)
    have hrdn := (pending_unref s hi k t ht d hph).2.2
    obtain ⟨hu, hn⟩ := upd t c (fun t => { closeTcp t with cEnd := true }) ht hc rfl rfl (Or.inr ⟨⟨d, hph⟩, rfl⟩) (fun _ => rfl)
      hrdn.symm (by intro a b it hin; simp [closeTcp] at hin)
      ⟨r.ip, r.port, r.lip, by intro d' hd'; simp [closeTcp] at hd', by intro _ p hp; simp [closeTcp] at hp, r.target,
        by simp [closeTcp], by simp [closeTcp], r.sent, fun _ => rfl⟩
    exact Core.of_inv rfl hu hn hi'
  | pushEnd _ _ t p ht hd hph =>
    obtain ⟨c, hc, r⟩ := client_of hs.u ht
    obtain ⟨hu1, hn1⟩ := upd t c (fun t => { t with cEnd := true, inbox := t.inbox ++ [if reset then .reset else .eof] })
      ht hc rfl rfl (Or.inl rfl) (fun _ => rfl) rfl (endLast_push (no_end_of_open h3 ht hd))
      ⟨r.ip, r.port, r.lip, r.pend, r.first, r.target, by simp, by simp, r.sent, r.acc⟩
    have hi1 : Inv (setTcp s k (fun t => { t with cEnd := true, inbox := t.inbox ++ [if reset then .reset else .eof] })) :=
      setTcp_irrel_inv s k _ (fun t => ⟨rfl, rfl, rfl, rfl⟩) hi
    have h21 : Inv2 (setTcp s k (fun t => { t with cEnd := true, inbox := t.inbox ++ [if reset then .reset else .eof] })) := by
      apply push_inv2 s h2 k t ht _ (if reset then .reset else .eof) [] ⟨rfl, rfl, rfl, rfl, rfl, by simp⟩
      · cases reset <;> rfl
      · intro d hd'; rw [hph] at hd'; cases hd'
    obtain ⟨hu, hn⟩ := reader_chain k hi1 h21 hu1 hn1
    exact bookOK_of_core hs hi h2 (.clientClose k reset) nofun hx (fun hi' => Core.of_inv rfl hu hn hi')

end IceProofs.TcpMux

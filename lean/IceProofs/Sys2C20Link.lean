import IceProofs.Sys2C20Run
import IceProofs.Sys2C20Resp
import IceProofs.Sys2C20Vocab
/-!
# C20 on `Sys2` — what A has answered, B has processed

Transaction ids (`TInv`, along ALL schedules): A hands out even ids below `2 * nextTid`, B odd ids; a response carries
the id of the request it answers.  In an exchange (`LInv`): a request in flight with the id of an outstanding valued
transaction of A IS that nomination; a success response in flight with that id was sent by B after it had handed the
nomination to its selector, so B's highest accepted value is at least the value; hence the same for every nomination
whose response A has processed.
-/
namespace IceProofs.C20S
open IceModel.AgentCore IceModel.Sys2 IceProofs.Sys2Run IceProofs.Agent IceProofs.Sys2C05

/-- the id of a request or success response in flight is an id A has handed out, or an odd id (B's) -/
def TidOK (n : Nat) (d : Dgram) : Prop :=
  ∀ m, d.p = .stun m → m.cls = 0 ∨ m.cls = 2 → (∃ k, m.tid = 2 * k ∧ k < n) ∨ ∃ k, m.tid = 2 * k + 1

theorem TidOK.mono {n n' : Nat} {d : Dgram} (h : TidOK n d) (hn : n ≤ n') : TidOK n' d := by
  intro m hm hc
  rcases h m hm hc with ⟨k, h1, h2⟩ | h2
  · exact Or.inl ⟨k, h1, by omega⟩
  · exact Or.inr h2

structure TInv (s : Sys) : Prop where
  tagA : s.a.tag = 0
  tagB : s.b.tag = 1
  pendTid : ∀ pd ∈ s.a.pending, ∃ k, pd.tid = 2 * k ∧ k < s.a.nextTid
  flTid : ∀ d ∈ s.inflight, TidOK s.a.nextTid d

theorem resp_of_request {s : Sys} {a : Agent} {ev : Ev} {D : Dgram → Prop}
    (hadm : (∀ now la src m, ev ≠ .inbound now la src m) ∨ ∃ d, D d ∧ ev = evOf s d)
    {f t : Nat} {m : Msg} (hm : Out.dgram f t m ∈ (step a ev).2) (hc : m.cls = 2) :
    ∃ d m' now la src, D d ∧ d.p = .stun m' ∧ ev = .inbound now la src m' ∧ m'.cls = 0 ∧ m'.tid = m.tid ∧
      roleConflict a m' = none ∧ (a.controlling = false → cldDeliversEv a ev = some m') := by
  obtain ⟨now, la, src, m', he, h1, h2, h3, h4⟩ := step_out_resp a ev f t m hm hc
  rcases hadm with hni | ⟨d, hd, hev⟩
  · exact absurd he (hni now la src m')
  · exact ⟨d, m', now, la, src, hd, evOf_inbound (hev.symm.trans he), he, h1, h2, h3, h4⟩

theorem tinv_agentEv {s : Sys} (t : TInv s) (X : Bool) (ev : Ev)
    (hadm : (∀ now la src m, ev ≠ .inbound now la src m) ∨ ∃ d, TidOK s.a.nextTid d ∧ ev = evOf s d) :
    TInv (s.agentEv X ev).1 := by
  cases X with
  | false =>
    obtain ⟨hn, hreq, hpend⟩ := step_tids s.a ev
    rw [t.tagA] at hreq hpend
    refine ⟨?_, t.tagB, ?_, ?_⟩
    · rw [agentEv_a_false]; exact (step_constants s.a ev).2.2.trans t.tagA
    · intro pd hpd
      rw [agentEv_a_false] at hpd ⊢
      rcases hpend pd hpd with h | ⟨k, h1, _, h3⟩
      · obtain ⟨k, h1, h2⟩ := t.pendTid pd h
        exact ⟨k, h1, by omega⟩
      · exact ⟨k, by omega, h3⟩
    · intro d hd m hm hc
      rw [agentEv_a_false]
      rcases agentEv_stun hd hm with hd | hmem
      · exact (t.flTid d hd).mono hn m hm hc
      · rcases hc with hc | hc
        · obtain ⟨k, h1, _, h3⟩ := hreq _ _ m hmem hc
          exact Or.inl ⟨k, by omega, h3⟩
        · obtain ⟨d', m', _, _, _, hd', hp', _, hc', ht', _, _⟩ := resp_of_request hadm hmem hc
          rw [← ht']
          exact (hd'.mono hn) m' hp' (Or.inl hc')
  | true =>
    obtain ⟨_, hreq, _⟩ := step_tids s.b ev
    rw [t.tagB] at hreq
    refine ⟨t.tagA, ?_, t.pendTid, ?_⟩
    · rw [agentEv_b_true]; exact (step_constants s.b ev).2.2.trans t.tagB
    · intro d hd m hm hc
      rw [agentEv_a_true]
      rcases agentEv_stun hd hm with hd | hmem
      · exact t.flTid d hd m hm hc
      · rcases hc with hc | hc
        · obtain ⟨k, h1, _, _⟩ := hreq _ _ m hmem hc
          exact Or.inr ⟨k, h1⟩
        · obtain ⟨d', m', _, _, _, hd', hp', _, hc', ht', _, _⟩ := resp_of_request hadm hmem hc
          rw [← ht']
          exact hd' m' hp' (Or.inl hc')

theorem tinv_frame {s s' : Sys} (hub : Hub s s') (t : TInv s) : TInv s' :=
  ⟨hub.a ▸ t.tagA, hub.b ▸ t.tagB, by rw [hub.a]; exact t.pendTid, fun d hd => by rw [hub.a]; exact t.flTid d (hub.fl d hd)⟩

theorem init_tinv {s0 : Sys} (hi : Sys.Init s0) (es : List SysEv) : TInv (Sys.runs s0 es) :=
  Sys.runs_closure (K := fun _ _ => True) (D := fun s d => TidOK s.a.nextTid d) (fun _ _ _ => trivial)
    (fun _ t => t.flTid) (fun _ _ _ hub hd => by rw [hub.a]; exact hd) (fun _ _ => tinv_frame)
    (fun _ X ev t _ hadm => tinv_agentEv t X ev hadm)
    ⟨hi.a_tag, hi.b_tag, fun pd hpd => (by rw [hi.a_pending] at hpd; cases hpd),
     fun d hd => (by rw [hi.inflight] at hd; cases hd)⟩ es fun _ _ _ _ _ => trivial

/-- what is known of a datagram in flight relative to A's outstanding valued transactions -/
def LinkOK (s : Sys) (d : Dgram) : Prop :=
  ∀ pd ∈ s.a.pending, ∀ v, pd.nom = some v → ∀ m, d.p = .stun m → m.tid = pd.tid →
    (m.cls = 0 → m.nom = some v ∧ ∃ tb, m.role = some (true, tb)) ∧
    (m.cls = 2 → ∃ last, s.b.lastNomination = some last ∧ v ≤ last)

structure LInv (h : Hist) (s : Sys) : Prop where
  tids : TInv s
  link : ∀ d ∈ s.inflight, LinkOK s d
  /-- B has processed every nomination whose response A has processed -/
  ansB : ∀ x ∈ h.answered, ∃ last, s.b.lastNomination = some last ∧ x.1 ≤ last

theorem answerOf_tid {a : Agent} {ev : Ev} {pd : Pending} {id : Nat} (h : answerOf a ev = some (pd, id)) :
    ∃ now la src m, ev = .inbound now la src m ∧ m.cls = 2 ∧ m.tid = pd.tid ∧ pd ∈ a.pending := by
  obtain ⟨now, la, src, m, l, r, p, he, _, _, _, _, hc, _, _, htp, _⟩ := (answerOf_iff a ev pd id).1 h
  have := IceProofs.C03.takePending_mem a now m.tid pd htp
  exact ⟨now, la, src, m, he, hc, this.2.symm, this.1⟩

theorem last_mono {b : Agent} {ev : Ev} (hr : resetsSelector b ev = false) (l : Nat)
    (hl : b.lastNomination = some l) : ∃ l', (step b ev).1.lastNomination = some l' ∧ l ≤ l' := by
  cases hat : acceptAt b ev with
  | none => exact ⟨l, (last_of_no_accept hr hat).trans hl, Nat.le_refl _⟩
  | some x =>
    obtain ⟨v, la, src⟩ := x
    obtain ⟨h1, h2, _⟩ := last_of_accept hr hat
    exact ⟨v, h1, Nat.le_of_lt (h2 l hl)⟩

theorem last_of_delivery {b : Agent} {ev : Ev} (hr : resetsSelector b ev = false) {m' : Msg} {v : Nat}
    (hd : cldDeliversEv b ev = some m') (hv : m'.nom = some v) :
    ∃ l', (step b ev).1.lastNomination = some l' ∧ v ≤ l' := by
  have h := step_lastNomination b ev
  rw [hr, hd] at h
  simp only [Bool.false_eq_true, if_false, hv] at h
  rw [accept_some_fst] at h
  cases hacc : (shouldAcceptNomination (some v) b.lastNomination).2 with
  | true =>
    rw [hacc] at h
    exact ⟨v, h, Nat.le_refl _⟩
  | false =>
    rw [hacc] at h
    simp only [Bool.false_eq_true, if_false] at h
    have hn : ¬ ∀ l, b.lastNomination = some l → l < v := by
      intro hall
      have := (accept_some_iff v b.lastNomination).2 hall
      rw [hacc] at this; cases this
    cases hl : b.lastNomination with
    | none => exact absurd (fun l hl' => by rw [hl] at hl'; cases hl') hn
    | some l =>
      refine ⟨l, h.trans hl, ?_⟩
      apply Classical.byContradiction
      intro hlt
      exact hn (fun l' hl' => by rw [hl] at hl'; cases hl'; omega)

def QL (nat : List (Nat × Nat)) (h : Hist) (s : Sys) : Prop := QInv nat h s ∧ LInv h s

theorem linv_frame {h : Hist} {s s' : Sys} (hub : Hub s s') (l : LInv h s) : LInv h s' := by
  refine ⟨tinv_frame hub l.tids, ?_, ?_⟩
  · intro d hd
    have := l.link d (hub.fl d hd)
    unfold LinkOK at this ⊢
    rw [hub.a, hub.b]; exact this
  · rw [hub.b]; exact l.ansB

theorem ql_agentEv {nat : List (Nat × Nat)} {h : Hist} {s : Sys} (ql : QL nat h s) (X : Bool) (ev : Ev)
    (hk : keeps ev = true)
    (hadm : (∀ now la src m, ev ≠ .inbound now la src m) ∨
      ∃ d, (DgramOK h d ∧ TidOK s.a.nextTid d ∧ LinkOK s d) ∧ ev = evOf s d)
    (hsess : Session (s.agentEv X ev).1) (hz : ∀ x ∈ (hstep h X (s.agent X) ev).issued, 0 < x.1) :
    QL nat (hstep h X (s.agent X) ev) (s.agentEv X ev).1 := by
  obtain ⟨q, l⟩ := ql
  have hadmQ := hadm.imp_right fun ⟨d, hd, he⟩ => (⟨d, hd.1, he⟩ : ∃ d, DgramOK h d ∧ ev = evOf s d)
  have hadmT := hadm.imp_right fun ⟨d, hd, he⟩ => (⟨d, hd.2.1, he⟩ : ∃ d, TidOK s.a.nextTid d ∧ ev = evOf s d)
  have hadmL := hadm.imp_right fun ⟨d, hd, he⟩ => (⟨d, hd.2.2, he⟩ : ∃ d, LinkOK s d ∧ ev = evOf s d)
  have q' := qinv_agentEv q X ev hk hadmQ hsess hz
  have t' := tinv_agentEv l.tids X ev hadmT
  refine ⟨q', t', ?_, ?_⟩
  · -- the link for the datagrams in flight afterwards
    cases X with
    | false =>
      have eA : s.agent false = s.a := rfl
      rw [eA] at hz
      have hs5 := (session_postA q.sess).controlling
      have hpA := session_postA hsess
      rw [agentEv_a_false] at hpA
      have hp3 := hpA.controlling
      obtain ⟨hn, hreq, hpendT⟩ := step_tids s.a ev
      rw [l.tids.tagA] at hreq hpendT
      have hseq := sq_step s.a ev
      have hvl := step_valued_link s.a ev
      have hadmTL := hadm.imp_right fun ⟨d, hd, he⟩ =>
        (⟨d, hd.2, he⟩ : ∃ d, (TidOK s.a.nextTid d ∧ LinkOK s d) ∧ ev = evOf s d)
      -- a valued transaction outstanding afterwards was outstanding before, or is new: then its id is fresh, and the
      -- request this step emits with that id carries its value (whoever issued it: `RenominateCandidate` or the
      -- automatic check)
      have hpd : ∀ pd ∈ (step s.a ev).1.pending, ∀ v, pd.nom = some v →
          pd ∈ s.a.pending ∨ ((∃ k, pd.tid = 2 * k ∧ s.a.nextTid ≤ k) ∧
            ∀ f t m, Out.dgram f t m ∈ (step s.a ev).2 → m.cls = 0 → m.tid = pd.tid → m.nom = some v) := by
        intro pd hpd v hv
        rcases hvl pd hpd with h1 | h1 | ⟨m0, hm0, hc0, ht0, hn0⟩
        · exact Or.inl h1
        · rw [h1] at hv; cases hv
        · rcases hpendT pd hpd with h3 | ⟨k, h3, h4, _⟩
          · exact Or.inl h3
          · refine Or.inr ⟨⟨k, by omega, h4⟩, fun f t m hm hc ht => ?_⟩
            have := hseq.tid_inj hm hm0 hc hc0 (ht.trans ht0.symm)
            rw [this, hn0]; exact hv
      intro d hd pd hpdm v hv m hm ht
      rw [agentEv_a_false] at hpdm
      rw [agentEv_b_false]
      rcases agentEv_stun hd hm with hd | hmem
      · -- the datagram was in flight before
        rcases hpd pd hpdm v hv with hold | ⟨⟨k0, hk0, hk1⟩, _⟩
        · exact l.link d hd pd hold v hv m hm ht
        · -- a new transaction has an id no datagram in flight carries
          refine ⟨fun hc => ?_, fun hc => ?_⟩
          · rcases l.tids.flTid d hd m hm (Or.inl hc) with ⟨k, h1, h2⟩ | ⟨k, h1⟩ <;> omega
          · rcases l.tids.flTid d hd m hm (Or.inr hc) with ⟨k, h1, h2⟩ | ⟨k, h1⟩ <;> omega
      · -- the datagram is emitted by this step
        have hmem : Out.dgram d.src d.dst m ∈ (step s.a ev).2 := hmem
        refine ⟨fun hc => ?_, fun hc => ?_⟩
        · rcases hpd pd hpdm v hv with hold | ⟨_, hlink⟩
          · obtain ⟨k, h1, h2, _⟩ := hreq _ _ m hmem hc
            obtain ⟨k', h3, h4⟩ := l.tids.pendTid pd hold
            omega
          · have h3 := hlink _ _ m hmem hc ht
            obtain ⟨⟨tb, hrole⟩, _⟩ := (IceProofs.C03.step_hsel s.a ev).out d.src d.dst m hmem hc
            rw [hp3] at hrole
            exact ⟨h3, tb, hrole⟩
        · -- A answers no request that carries its own role
          obtain ⟨d', m', now, la, src, hd', hp', he, hc', ht', hrc, _⟩ := resp_of_request hadmTL hmem hc
          have hold : pd ∈ s.a.pending := by
            rcases hpd pd hpdm v hv with hold | ⟨⟨k0, hk0, hk1⟩, _⟩
            · exact hold
            · -- the answered request was in flight before: its id is not a fresh one
              rcases hd'.1 m' hp' (Or.inl hc') with ⟨k, h1, h2⟩ | ⟨k, h1⟩ <;> omega
          obtain ⟨tb, hrole⟩ := ((hd'.2 pd hold v hv m' hp' (ht'.trans ht)).1 hc').2
          unfold roleConflict at hrc
          rw [hrole, hs5] at hrc
          simp at hrc
    | true =>
      have hs6 := (session_postB q.sess).controlled
      have hpB := session_postB hsess
      rw [agentEv_b_true] at hpB
      have hnr := (session_postB q.sess).no_reset hk hpB
      obtain ⟨_, hreq, _⟩ := step_tids s.b ev
      rw [l.tids.tagB] at hreq
      intro d hd pd hpdm v hv m hm ht
      rw [agentEv_a_true] at hpdm
      rw [agentEv_b_true]
      rcases agentEv_stun hd hm with hd | hmem
      · obtain ⟨h1, h2⟩ := l.link d hd pd hpdm v hv m hm ht
        refine ⟨h1, fun hc => ?_⟩
        obtain ⟨last, hl1, hl2⟩ := h2 hc
        obtain ⟨l', hl1', hl2'⟩ := last_mono hnr last hl1
        exact ⟨l', hl1', by omega⟩
      · have hmem : Out.dgram d.src d.dst m ∈ (step s.b ev).2 := hmem
        refine ⟨fun hc => ?_, fun hc => ?_⟩
        · obtain ⟨k, h1, _, _⟩ := hreq _ _ m hmem hc
          obtain ⟨k', h3, _⟩ := l.tids.pendTid pd hpdm
          omega
        · obtain ⟨d', m', now, la, src, hd', hp', he, hc', ht', _, hcld⟩ := resp_of_request hadmL hmem hc
          have hnom := ((hd' pd hpdm v hv m' hp' (ht'.trans ht)).1 hc').1
          exact last_of_delivery hnr (hcld hs6) hnom
  · -- the nominations answered
    intro x hx
    cases X with
    | false =>
      have eA : s.agent false = s.a := rfl
      rw [eA] at hx
      rw [hstepA_answered] at hx
      rw [agentEv_b_false]
      rcases List.mem_append.mp hx with hx | hx
      · exact l.ansB x hx
      · cases hao : answeredNom s.a ev with
        | none => rw [hao] at hx; cases hx
        | some y =>
        rw [hao] at hx
        simp only [Option.toList_some, List.mem_singleton] at hx
        subst hx
        unfold answeredNom at hao
        cases ha : answerOf s.a ev with
        | none => rw [ha] at hao; cases hao
        | some z =>
          obtain ⟨pd, id⟩ := z
          rw [ha] at hao
          simp only [] at hao
          split at hao
          · simp only [Option.map_eq_some_iff] at hao
            obtain ⟨v, hv, heq⟩ := hao
            obtain ⟨now, la, src, m, he, hc, ht, hpdm⟩ := answerOf_tid ha
            rcases hadmL with hni | ⟨d, hd, hev⟩
            · exact absurd he (hni now la src m)
            · have hp := evOf_inbound (hev.symm.trans he)
              have := (hd pd hpdm v hv m hp ht).2 hc
              rw [← heq]
              exact this
          · cases hao
    | true =>
      have eB : s.agent true = s.b := rfl
      rw [eB] at hx
      rw [hstepB_answered] at hx
      rw [agentEv_b_true]
      obtain ⟨last, hl1, hl2⟩ := l.ansB x hx
      have hpB := session_postB hsess
      rw [agentEv_b_true] at hpB
      have hnr := (session_postB q.sess).no_reset hk hpB
      obtain ⟨l', hl1', hl2'⟩ := last_mono hnr last hl1
      exact ⟨l', hl1', by omega⟩

theorem ql_sched (nat : List (Nat × Nat)) :
    SchedOK keeps (QL nat) (fun h s d => DgramOK h d ∧ TidOK s.a.nextTid d ∧ LinkOK s d) where
  hub := fun _ h => keeps_of_not_api h
  sess := fun _ _ q => q.1.sess
  dgram := fun _ _ q d hd => ⟨q.1.fl d hd, q.2.tids.flTid d hd, q.2.link d hd⟩
  dframe := fun _ _ _ _ hub hd => ⟨hd.1, by rw [hub.a]; exact hd.2.1, by unfold LinkOK; rw [hub.a, hub.b]; exact hd.2.2⟩
  frame := fun _ _ _ hub q => ⟨q.1.hub hub, linv_frame hub q.2⟩
  agent := fun _ _ X ev q hk hadm hs hz => ql_agentEv q X ev hk hadm hs hz

end IceProofs.C20S

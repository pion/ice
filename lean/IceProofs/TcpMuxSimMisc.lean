import IceProofs.TcpMuxSimClose
/-!
# `Close` of the mux, the clock, `GetConnByUfrag`, `WriteTo`
-/
namespace IceProofs.TcpMux
open IceModel.TcpMux IceSpec.C15 IceSpec.C15.View

/-- the monitor after `Close` was called -/
def calledMon (m1 : Mon) : Mon := { m1 with closeCalled := true, closeTime := m1.now }

theorem simU_close {s1 : State} {m1 : Mon} (hu : SimU s1 m1) (hn : NRead s1 m1) :
    SimU (closedMux s1) (calledMon m1) ∧ NRead (closedMux s1) (calledMon m1) :=
  ⟨⟨hu.active, hu.t1, hu.t2, hu.now, rfl, fun _ => hu.now, hu.pcs, hu.handles, hu.len, hu.cl, hu.stamp, hu.last, hu.ho, hu.cc,
    hu.pl, hu.plb, hu.endLast, hu.uniq⟩, hn⟩

theorem op_closemux {s : State} {m : Mon} (hs : Sim s m) (hi : Inv s) (h2 : Inv2 s) :
    BookOK s (step s .closeMux).1 m
      (book m .closemux (obsOf s.tcps (step s .closeMux).1 (oresOf .closeMux (step s .closeMux).2))) := by
  refine book_cases .closeMux (fun s' r hx h => ?_)
  cases h with
  | closeAgain hm =>
    refine bookOK_of_core hs hi h2 .closeMux nofun hx (fun _ => ?_)
    have hcc : m.closeCalled = true := by rw [hs.u.called]; exact hm
    show Core s (bookClosemux m _)
    unfold bookClosemux
    simp only [hcc, if_true]
    exact Core.same hs hi
  | shut hm =>
    have hnow := (closePcsWhere_flags (fun _ => true) s).now
    have h2' : Inv2 (closedMux (closePcsWhere (fun _ => true) s)) := by
      have := step_inv2 s .closeMux hi h2; rwa [hx] at this
    have hcc : m.closeCalled = false := by rw [hs.u.called]; exact hm
    obtain ⟨q1, rl1⟩ := closePcsWhere_quiet (fun _ => true) s hi
    obtain ⟨hu1, hn1⟩ := quiet_step q1 rl1 hi h2 hs.u hs.nread
    obtain ⟨hu, hn⟩ := simU_close hu1 hn1
    have hpcs : closeWhere m.pcs (fun _ => true) = (closePcsWhere (fun _ => true) s).pcs.map absPc := by
      rw [hs.u.pcs, closePcsWhere_pcs]
      exact closeWhere_abs _ _ _ (fun _ _ _ => rfl)
    refine bookOK_of_core hs hi h2 .closeMux nofun hx (fun hi' => ?_)
    show Core _ (bookClosemux m _)
    unfold bookClosemux
    simp only [hcc, Bool.false_eq_true, if_false]
    rw [hpcs]
    have hall : (List.range m.clients.length).any (clRoutedOpen
        { m with closeCalled := true, closeTime := m.now, pcs := (closePcsWhere (fun _ => true) s).pcs.map absPc }
        (obsOf s.tcps (closedMux (closePcsWhere (fun _ => true) s)) (oresOf .closeMux .ok)).closed) = false := by
      refine any_clients_false (l := m.clients) (fun k c hc => ?_)
      unfold clRoutedOpen
      show (match m.clients[k]? with | some c => _ | none => false) = false
      simp only [hc]
      cases htg : c.target with
      | none => rfl
      | some p =>
        obtain ⟨t', ht', r⟩ := tcp_of hu1 (show (reread m (closePcsWhere (fun _ => true) s)).clients[k]? = some c from hc)
        have hpc : t'.pc = some p := by rw [← r.target]; exact htg
        obtain ⟨pc', hp'⟩ := (h2'.tcp k t' ht').ref p hpc
        rw [closedNow_true (s' := closedMux (closePcsWhere (fun _ => true) s)) ht'
          (routed_closed hi' h2' (k := k) (p := p) ht' hpc hp' (closeAll_closed (s := s) hp'))]
        rfl
    rw [hall]
    simp only [Bool.false_eq_true, if_false]
    have hmeq : ({ m with closeCalled := true, closeTime := m.now, pcs := (closePcsWhere (fun _ => true) s).pcs.map absPc } : Mon) =
        calledMon (reread m (closePcsWhere (fun _ => true) s)) := by
      rw [← reread_of (m := m) (H := m.handles) rfl (by rw [hs.u.handles, (closePcsWhere_flags _ s).handles]) (hnow ▸ hs.u.now)]; rfl
    rw [hmeq]
    exact Core.of_inv rfl hu hn hi'

theorem expired_abs (now' : Nat) (pc : PConn) : expired now' (absPc pc) = aliveExpired now' pc := by
  unfold expired aliveExpired
  show (match pc.alive with | some d => decide (d ≤ now') | none => false) = _
  cases pc.alive <;> rfl

theorem op_advance {s : State} {m : Mon} (hs : Sim s m) (hi : Inv s) (h2 : Inv2 s) (dt : Nat) :
    BookOK s (step s (.advance dt)).1 m
      (book m (.advance dt) (obsOf s.tcps (step s (.advance dt)).1 (oresOf (.advance dt) (step s (.advance dt)).2))) := by
  refine book_cases (.advance dt) (fun s' r hx h => ?_)
  cases h
  have q1 := closePcsWhere_quiet (fun pc => aliveExpired (s.now + dt) pc) s hi
  have q2 := tick_quiet (closePcsWhere (fun pc => aliveExpired (s.now + dt) pc) s) (s.now + dt)
  have hpcs := closePcsWhere_pcs (fun pc => aliveExpired (s.now + dt) pc) s
  refine bookOK_quietE hs hi h2 (.advance dt) nofun hx
    ⟨q1.1.trans' q2.1 (by rw [hpcs, List.length_map]) hi, q1.2.trans q2.2⟩ rfl ?_
  show ({ m with now := m.now + dt, pcs := closeWhere m.pcs (expired (m.now + dt)) } : Mon) =
    { m with pcs := (closePcsWhere _ s).pcs.map absPc, handles := (closePcsWhere _ s).handles.map absH, now := s.now + dt }
  have h1 : closeWhere m.pcs (expired (m.now + dt)) = (closePcsWhere (fun pc => aliveExpired (s.now + dt) pc) s).pcs.map absPc := by
    rw [hs.u.pcs, hpcs, hs.u.now]
    exact closeWhere_abs _ _ _ (fun pc _ _ => expired_abs _ pc)
  rw [h1, (closePcsWhere_flags _ s).handles, ← hs.u.handles, hs.u.now]

theorem op_getconn {s : State} {m : Mon} (hs : Sim s m) (hi : Inv s) (h2 : Inv2 s) (key : Key) :
    BookOK s (step s (.getConn key)).1 m
      (book m (.getconn key.ufrag key.v6 key.lip) (obsOf s.tcps (step s (.getConn key)).1
        (oresOf (.getConn key) (step s (.getConn key)).2))) := by
  refine book_cases (.getConn key) (fun s' r hx h => ?_)
  -- `Close` was not called: the handle number is the expected one and the monitor looks the record up
  have hbg : s.muxClosed = false →
      ∀ s', book m (mopOf (.getConn key)) (obsOf s.tcps s' (oresOf (.getConn key) (.handle s.handles.length))) =
      (match findPc s.pcs key with
        | some p => ({ m with pcs := setAt m.pcs p (fun pc => { pc with expires := none, refs := pc.refs + 1 }),
                              handles := m.handles ++ [{ pc := p }] }, none, false)
        | none => ({ m with pcs := m.pcs ++ [{ ufrag := key.ufrag, v6 := key.v6, lip := key.lip, provisional := false,
                                               expires := none, refs := 1 }],
                            handles := m.handles ++ [{ pc := m.pcs.length }] }, none, false)) := by
    intro hm s'
    have hcc : m.closeCalled = false := by rw [hs.u.called]; exact hm
    have hhl : m.handles.length = s.handles.length := by rw [hs.u.handles]; simp
    have hfo : findOpen m.pcs key.ufrag key.v6 key.lip = findPc s.pcs key := by rw [hs.u.pcs]; exact findOpen_abs s.pcs key
    show bookGetconn m (obsOf s.tcps s' (oresOf (.getConn key) (.handle s.handles.length))) key.ufrag key.v6 key.lip = _
    unfold bookGetconn
    show (if s.handles.length ≠ m.handles.length then _ else _) = _
    rw [if_neg (by rw [hhl]; exact fun h => h rfl), if_neg (by rw [hcc]; exact Bool.false_ne_true), hfo]
    rfl
  cases h with
  | getClosed _ hm => exact bookOK_of_core hs hi h2 (.getConn key) nofun hx (fun _ => Core.same hs hi)
  | claim _ p hm hf =>
    refine bookOK_quiet hs hi h2 (.getConn key) nofun hx
      (pcs_pointwise_quiet s (claimed s p) p claimPc rfl rfl rfl rfl rfl (fun _ => ⟨rfl, rfl, rfl⟩)) ?_
    rw [hbg hm, hf]
    refine congrArg (·, none, false) (reread_of ?_ ?_ hs.u.now)
    · rw [hs.u.pcs]; exact (map_modify_comm s.pcs p claimPc _ absPc (fun _ => rfl)).symm
    · rw [hs.u.handles]; simp [claimed, absH]
  | create _ hm hf =>
    have q1 := quiet_handles s (s.handles ++ [{ pc := s.pcs.length }])
    have q2 := appendPc_quiet { s with handles := s.handles ++ [{ pc := s.pcs.length }] }
      { key := key, provisional := false, alive := none, refs := 1, created := s.now, claimed := true } rfl
    refine bookOK_quiet hs hi h2 (.getConn key) nofun hx
      ⟨q1.1.trans' q2.1 rfl hi, q1.2.trans q2.2⟩ ?_
    rw [hbg hm, hf]
    refine congrArg (·, none, false) (reread_of ?_ ?_ hs.u.now)
    · rw [hs.u.pcs]; simp [created, absPc]
    · rw [hs.u.handles, hs.u.pcs]; simp [created, absH]

theorem flatMap_range_single {β : Type} (g : Nat → List β) (n k : Nat) (l : List β) (hk : k < n) (hg : g k = l)
    (hne : ∀ j, j ≠ k → g j = []) : (List.range n).flatMap g = l := by
  induction n with
  | zero => omega
  | succ n ih =>
    rw [List.range_succ, List.flatMap_append]
    by_cases hkn : k = n
    · subst hkn
      have : (List.range k).flatMap g = [] := by
        rw [List.flatMap_eq_nil_iff]
        intro a ha
        rw [List.mem_range] at ha
        exact hne a (by omega)
      rw [this]
      simp [hg]
    · rw [ih (by omega)]
      simp [hne n (fun e => hkn e.symm)]

theorem newReplies_single (s : State) (k pid len : Nat) (t : Tcp) (ht : s.tcps[k]? = some t) :
    newReplies s.tcps (setTcp s k (addOut pid len)).tcps = [(k, showId pid len)] := by
  unfold newReplies
  apply flatMap_range_single _ _ k _ (by simp [setTcp]; exact getElem?_lt ht)
  · rw [getElem?_setTcp_eq s k _ t ht, ht]
    simp [addOut]
  · intro j hj
    rw [getElem?_setTcp_ne s k j _ hj]
    cases s.tcps[j]? with
    | none => rfl
    | some tj => simp

theorem op_write {s : State} {m : Mon} (hs : Sim s m) (hi : Inv s) (h2 : Inv2 s) (h : Nat) (dst : Addr) (pid len : Nat)
    (hnb : (step s (.write h dst pid len)).2 ≠ .bad) :
    BookOK s (step s (.write h dst pid len)).1 m
      (book m (.write h dst.ip dst.port (toString pid) len) (obsOf s.tcps (step s (.write h dst pid len)).1
        (oresOf (.write h dst pid len) (step s (.write h dst pid len)).2))) := by
  refine book_cases (.write h dst pid len) (fun s' r hx hdo => ?_)
  -- the failing write: nothing changes, nothing arrives, and the monitor expects no target
  have fail : ∀ hd : Handle, s.handles[h]? = some hd → step s (.write h dst pid len) = (s, .errClosed) →
      (if (absH hd).closed = true then [] else (liveOn m (absH hd).pc).filter (fun x => x.2.ip == dst.ip && x.2.port == dst.port)) = [] →
      BookOK s s m (book m (mopOf (.write h dst pid len)) (obsOf s.tcps s (oresOf (.write h dst pid len) .errClosed))) := by
    intro hd hh hst htgt
    have hb : book m (mopOf (.write h dst pid len)) (obsOf s.tcps s (oresOf (.write h dst pid len) .errClosed)) =
        (m, none, true) := by
      show bookWrite m (obsOf s.tcps s (oresOf (.write h dst pid len) .errClosed)) h dst.ip dst.port (toString pid) len = _
      unfold bookWrite
      rw [show m.handles[h]? = some (absH hd) by rw [handle_abs hs.u, hh]; rfl]
      simp only
      rw [htgt]
      have hres : (obsOf s.tcps s (oresOf (.write h dst pid len) .errClosed)).res = .other := rfl
      have houts : (obsOf s.tcps s (oresOf (.write h dst pid len) .errClosed)).outs = [] := newReplies_same s
      rw [hres, houts]
      simp only [List.isEmpty_nil, Bool.not_true, Bool.false_eq_true, if_false]
    exact bookOK_of_core hs hi h2 (.write h dst pid len) nofun hst
      (fun _ => hb ▸ Core.of_inv rfl hs.u hs.nread hi)
  cases hdo with
  | writeBad _ _ _ _ hh => rw [hx] at hnb; exact absurd rfl hnb
  | writeNoPc _ _ _ _ hd hh hc hp => rw [hx] at hnb; exact absurd rfl hnb
  | writeClosed _ _ _ _ hd hh hc => exact fail hd hh hx (by rw [if_pos (show (absH hd).closed = true from hc)])
  | writeNoConn _ _ _ _ hd pc hh hc hp hl =>
    refine fail hd hh hx ?_
    have hdup := dup_iff hs.u hs.flags hi h2 hd.pc pc hp dst
    rw [if_neg (by rw [show (absH hd).closed = false from hc]; exact Bool.false_ne_true)]
    rw [hl] at hdup
    rw [List.filter_eq_nil_iff]
    intro x hx
    exact List.any_eq_false.1 hdup x hx
  | wrote _ _ _ _ hd pc k hh hc hp hl =>
    have hmh : m.handles[h]? = some (absH hd) := by rw [handle_abs hs.u, hh]; rfl
    have hcm : (absH hd).closed = false := hc
    obtain ⟨t, ht, _, _⟩ := (hi.lookup_iff hp dst k).1 hl
    obtain ⟨c, hc', _⟩ := client_of hs.u ht
    have htgt : (if (absH hd).closed = true then [] else
        (liveOn m (absH hd).pc).filter (fun x => x.2.ip == dst.ip && x.2.port == dst.port)) = [(k, c)] := by
      have live := live_iff hs.u hs.flags hi h2 hd.pc pc hp dst
      rw [if_neg (by rw [hcm]; exact Bool.false_ne_true)]
      unfold liveOn
      rw [List.filter_filter]
      apply indexed_filter_single m.clients _ k c hc'
      · have := (live k c).2 ⟨hc', hl⟩
        unfold liveOn at this
        rw [List.mem_filter] at this
        simp only [Bool.and_eq_true, beq_iff_eq]
        exact ⟨this.2, by simpa [absH] using this.1.2⟩
      · intro j b hb hpb
        simp only [Bool.and_eq_true, beq_iff_eq] at hpb
        have := ((live j b).1 ⟨by unfold liveOn; rw [List.mem_filter, mem_indexed]; exact ⟨hb, by simpa [absH] using hpb.2⟩, hpb.1⟩).2
        rw [hl] at this; cases this; rfl
    have hb : book m (mopOf (.write h dst pid len))
        (obsOf s.tcps (setTcp s k (addOut pid len)) (oresOf (.write h dst pid len) (.wrote len))) = (m, none, true) := by
      show bookWrite m (obsOf s.tcps (setTcp s k (addOut pid len)) (oresOf (.write h dst pid len) (.wrote len)))
        h dst.ip dst.port (toString pid) len = _
      unfold bookWrite
      rw [hmh]
      simp only
      rw [htgt]
      have hres : (obsOf s.tcps (setTcp s k (addOut pid len)) (oresOf (.write h dst pid len) (.wrote len))).res =
          .wrote (some len) := rfl
      have houts : (obsOf s.tcps (setTcp s k (addOut pid len)) (oresOf (.write h dst pid len) (.wrote len))).outs =
          [(k, showId pid len)] := newReplies_single s k pid len t ht
      rw [hres, houts]
      simp only [ne_eq, not_true_eq_false, if_false]
      have hwant : showId pid len = (if len < 4 then "-" else toString pid) := rfl
      rw [hwant]
      simp only [not_true_eq_false, if_false]
    -- the relation is untouched: only `out` changed
    have q : Quiet s (setTcp s k (addOut pid len)) := by
      apply quiet_of_pointwise (Pointwise.setTcp s k (addOut pid len)) rfl rfl rfl
      · intro j tj _
        split
        · exact ⟨⟨rfl, rfl, rfl, rfl, rfl, rfl, Or.inl rfl, ⟨[], rfl⟩, fun _ hb => Or.inl hb⟩,
            fun hcl p hp' => by rw [show (addOut pid len tj).phase = tj.phase from rfl] at hcl; rw [hcl] at hp'; cases hp'⟩
        · exact ⟨TcpQ.refl tj, fun hcl p hp' => by rw [hcl] at hp'; cases hp'⟩
      · intro q pc _; exact ⟨fun h => h, [], by simp, by simp⟩
    obtain ⟨hu, hn⟩ := quiet_step q (RLSame.refl s) hi h2 hs.u hs.nread
    rw [mon_reread (s' := setTcp s k (addOut pid len)) hs.u.pcs hs.u.handles hs.u.now] at hu hn
    exact bookOK_of_core hs hi h2 (.write h dst pid len) nofun hx
      (fun hi' => hb ▸ Core.of_inv rfl hu hn hi')

end IceProofs.TcpMux

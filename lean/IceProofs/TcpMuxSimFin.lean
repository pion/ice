import IceProofs.TcpMuxSimBasic
/-!
# The clauses the monitor checks after every operation hold of the model (`always_ok`), and the
observed closures turn the relation up to flags (`SimU`, `NRead`) into the full relation (`fin_ok`).
-/
namespace IceProofs.TcpMux
open IceModel.TcpMux IceSpec.C15 IceSpec.C15.View

theorem mem_idxWhere {α : Type} {l : List α} {f : α → Bool} {k : Nat} :
    k ∈ idxWhere l f ↔ ∃ a, l[k]? = some a ∧ f a = true := by
  unfold idxWhere
  rw [List.mem_filter, List.mem_range]
  constructor
  · rintro ⟨hlt, h⟩
    obtain ⟨a, ha⟩ := getElem?_of_lt hlt
    rw [ha] at h
    exact ⟨a, ha, h⟩
  · rintro ⟨a, ha, hf⟩
    exact ⟨getElem?_lt ha, by rw [ha]; exact hf⟩

/-- the closed set printed for state `s'` -/
def closedSet (s' : State) : List Nat := idxWhere s'.tcps (·.isClosed)

theorem contains_closedSet {s' : State} {k : Nat} :
    (closedSet s').contains k = true ↔ ∃ t, s'.tcps[k]? = some t ∧ t.isClosed = true := by
  rw [List.contains_iff_mem]; exact mem_idxWhere

theorem isClosed_iff {t : Tcp} : t.isClosed = true ↔ t.phase = .closed := by
  unfold Tcp.isClosed; cases t.phase <;> simp

/-- what the clauses need to know about the state after the step -/
structure Facts (s' : State) : Prop where
  inv : Inv s'
  inv2 : Inv2 s'
  inv3 : Inv3 s'
  total : closeReturned s' = true →
    (∀ (k : Nat) (t : Tcp), s'.tcps[k]? = some t → t.phase = .closed) ∧ ledger s' = ⟨0, 0, 0, 0, 0⟩
  returns : s'.muxClosed = true → s'.closedAt + effTimeout s'.cfg.t1 + effTimeout s'.cfg.t2 ≤ s'.now →
    closeReturned s' = true

theorem always_none {m me : Mon} {o : Obs} {allowOut : Bool}
    (c1 : (o.closed.any fun k => decide (k ≥ m.clients.length)) = false)
    (c2 : (List.range m.clients.length).any (clReopened m o.closed) = false)
    (c3 : (List.range m.clients.length).any (clLate m o.closed) = false)
    (c4 : (List.range m.clients.length).any (clProvisional m o.closed) = false)
    (c5 : (List.range m.clients.length).any (clDelivery m me o.closed) = false)
    (c6 : (!allowOut && !o.outs.isEmpty) = false)
    (c7 : (m.closeCalled && !o.listenerClosed) = false)
    (c8 : (o.ret && !m.closeCalled) = false)
    (c9 : (m.returned && !o.ret) = false)
    (c10 : (o.ret && (List.range m.clients.length).any (clStillOpen m o.closed)) = false)
    (c11 : (o.ret && o.g.any (· ≠ 0)) = false)
    (c12 : (m.closeCalled && !o.ret && decide (m.closeTime + m.t1 + m.t2 ≤ m.now)) = false) :
    always m me o allowOut = none := by
  unfold always
  simp only [c1, c2, c3, c4, c5, c6, c7, c8, c9, c10, c11, c12, Bool.false_eq_true, if_false]

theorem always_ok (s' : State) (m1 : Mon) (P : List MPc) (old : List Tcp) (res : ORes) (allow : Bool)
    (F : Facts s') (hu : SimU s' { m1 with pcs := P })
    (hprov : ∀ (k : Nat) (c : MClient) (p : Nat) (pc : MPc) (d : Nat), m1.clients[k]? = some c → c.target = some p →
      m1.pcs[p]? = some pc → pc.expires = some d → d ≤ m1.now → ∃ t', s'.tcps[k]? = some t' ∧ t'.isClosed = true)
    (hold : ∀ (k : Nat) (c : MClient), m1.clients[k]? = some c → c.closed = true →
      ∃ t', s'.tcps[k]? = some t' ∧ t'.isClosed = true)
    (hret : m1.returned = true → closeReturned s' = true)
    (houts : allow = false → newReplies old s'.tcps = []) :
    always m1 { m1 with pcs := P } (obsOf old s' res) allow = none := by
  have hlen : m1.clients.length = s'.tcps.length := hu.len
  have hnow : m1.now = s'.now := hu.now
  have hcalled : m1.closeCalled = s'.muxClosed := hu.called
  have tOf : ∀ (k : Nat) (c : MClient), m1.clients[k]? = some c → ∃ t, s'.tcps[k]? = some t ∧ CRel t c :=
    fun k c hc => tcp_of hu hc
  have notIn : ∀ (k : Nat) (t : Tcp), s'.tcps[k]? = some t → (closedSet s').contains k = false → t.phase ≠ .closed := by
    intro k t ht hc hph
    have : (closedSet s').contains k = true := contains_closedSet.2 ⟨t, ht, isClosed_iff.2 hph⟩
    rw [hc] at this; cases this
  have c1 : ((closedSet s').any fun k => decide (k ≥ m1.clients.length)) = false := by
    rw [List.any_eq_false]
    intro k hk
    obtain ⟨t, ht, _⟩ := mem_idxWhere.1 hk
    have := getElem?_lt ht
    simp only [decide_eq_true_eq]; omega
  have c2 : (List.range m1.clients.length).any (clReopened m1 (closedSet s')) = false := by
    refine any_clients_false (fun k c hc => ?_)
    unfold clReopened
    simp only [hc]
    cases hcc : c.closed with
    | false => rfl
    | true =>
      obtain ⟨t', ht', hcl⟩ := hold k c hc hcc
      rw [contains_closedSet.2 ⟨t', ht', hcl⟩]; rfl
  have c3 : (List.range m1.clients.length).any (clLate m1 (closedSet s')) = false := by
    refine any_clients_false (fun k c hc => ?_)
    unfold clLate
    simp only [hc]
    apply Bool.eq_false_iff.2
    intro h
    simp only [Bool.and_eq_true, Bool.not_eq_true', decide_eq_true_eq] at h
    obtain ⟨⟨⟨_, hf⟩, hd⟩, hnc⟩ := h
    obtain ⟨t, ht, r⟩ := tOf k c hc
    have hncl := notIn k t ht hnc
    cases hph : t.phase with
    | closed => exact hncl hph
    | attached p => exact r.first hf p hph
    | pending d =>
      have := F.inv.pend ht hph
      have e := (r.pend d hph).2.2
      omega
  have c4 : (List.range m1.clients.length).any (clProvisional m1 (closedSet s')) = false := by
    refine any_clients_false (fun k c hc => ?_)
    unfold clProvisional
    simp only [hc]
    cases htg : c.target with
    | none => rfl
    | some p =>
      simp only
      cases hp : m1.pcs[p]? with
      | none => rfl
      | some pc =>
        simp only
        cases he : pc.expires with
        | none => rfl
        | some d =>
          simp only
          by_cases hd : d ≤ m1.now
          · obtain ⟨t', ht', hcl⟩ := hprov k c p pc d hc htg hp he hd
            rw [contains_closedSet.2 ⟨t', ht', hcl⟩]; simp
          · simp [hd]
  have c5 : (List.range m1.clients.length).any (clDelivery m1 { m1 with pcs := P } (closedSet s')) = false := by
    refine any_clients_false (fun k c hc => ?_)
    unfold clDelivery
    simp only [hc]
    apply Bool.eq_false_iff.2
    intro h
    simp only [Bool.and_eq_true, Bool.not_eq_true'] at h
    obtain ⟨⟨⟨_, hg⟩, hin⟩, hop⟩ := h
    obtain ⟨t, ht, r⟩ := tOf k c hc
    obtain ⟨t2, ht2, hcl2⟩ := contains_closedSet.1 hin
    rw [ht] at ht2; cases ht2
    have hph : t.phase = .closed := isClosed_iff.1 hcl2
    cases htg : c.target with
    | none => rw [htg] at hop; cases hop
    | some p =>
      rw [htg] at hop
      simp only at hop
      have hpcs : P = s'.pcs.map absPc := hu.pcs
      rw [hpcs, List.getElem?_map] at hop
      cases hp : s'.pcs[p]? with
      | none => rw [hp] at hop; cases hop
      | some pc =>
        rw [hp] at hop
        simp only [Option.map_some, absPc, Bool.not_eq_true'] at hop
        have htpc : t.pc = some p := by rw [← r.target]; exact htg
        have hcause := (F.inv3.tcp k t ht).cause p pc htpc hph hp hop
        rw [r.gone, htpc] at hg
        rcases hcause with h | ⟨f, hf, hl⟩
        · rw [h] at hg; cases hg
        · have : big t = true := by
            unfold big
            rw [List.any_eq_true]
            exact ⟨f, hf, by unfold receiveMTU at hl; simpa using hl⟩
          rw [this] at hg; simp at hg
  have c6 : (!allow && !(newReplies old s'.tcps).isEmpty) = false := by
    cases allow with
    | true => rfl
    | false => rw [houts rfl]; rfl
  have c7 : (m1.closeCalled && !(!s'.listenerOpen)) = false := by
    rw [hcalled]
    cases hm : s'.muxClosed with
    | false => rfl
    | true => rw [F.inv.lis hm]; rfl
  have c8 : (closeReturned s' && !m1.closeCalled) = false := by
    rw [hcalled]
    unfold closeReturned
    cases s'.muxClosed <;> simp
  have c9 : (m1.returned && !closeReturned s') = false := by
    cases hr : m1.returned with
    | false => rfl
    | true => rw [hret hr]; rfl
  have c10 : (closeReturned s' && (List.range m1.clients.length).any (clStillOpen m1 (closedSet s'))) = false := by
    cases hr : closeReturned s' with
    | false => rfl
    | true =>
      simp only [Bool.true_and]
      refine any_clients_false (fun k c hc => ?_)
      unfold clStillOpen
      simp only [hc]
      obtain ⟨t, ht, _⟩ := tOf k c hc
      rw [contains_closedSet.2 ⟨t, ht, isClosed_iff.2 ((F.total hr).1 k t ht)⟩]; simp
  have c11 : (closeReturned s' && (ledgerList s').any (· ≠ 0)) = false := by
    cases hr : closeReturned s' with
    | false => rfl
    | true =>
      unfold ledgerList
      rw [(F.total hr).2]; rfl
  have c12 : (m1.closeCalled && !closeReturned s' && decide (m1.closeTime + m1.t1 + m1.t2 ≤ m1.now)) = false := by
    rw [hcalled]
    cases hm : s'.muxClosed with
    | false => rfl
    | true =>
      cases hr : closeReturned s' with
      | true => rfl
      | false =>
        simp only [Bool.true_and, Bool.not_false, decide_eq_false_iff_not]
        intro hle
        have e1 : m1.closeTime = s'.closedAt := hu.ctime hm
        have e2 : m1.t1 = effTimeout s'.cfg.t1 := hu.t1
        have e3 : m1.t2 = effTimeout s'.cfg.t2 := hu.t2
        have := F.returns hm (by omega)
        rw [hr] at this; cases this
  exact always_none c1 c2 c3 c4 c5 c6 c7 c8 c9 c10 c11 c12

theorem expire_id (m : Mon) (s' : State) (hpcs : m.pcs = s'.pcs.map absPc) (hnow : m.now = s'.now) (hi : Inv s') :
    expire m = m := by
  have : closeWhere m.pcs (expired m.now) = m.pcs := by
    unfold closeWhere
    conv => rhs; rw [← List.map_id m.pcs]
    apply List.map_congr_left
    intro q hq
    rw [hpcs, List.mem_map] at hq
    obtain ⟨pc, hpc, rfl⟩ := hq
    obtain ⟨p, hp⟩ := List.mem_iff_getElem?.1 hpc
    have hsel : expired m.now (absPc pc) = false := by
      unfold expired
      show (match pc.alive with | some d => decide (d ≤ m.now) | none => false) = false
      cases ha : pc.alive with
      | none => rfl
      | some d =>
        have := (hi.pc p pc hp).2.2.2.2.2 d ha
        simp only [decide_eq_false_iff_not]; omega
    rw [hsel]; rfl
  unfold expire
  rw [this]

theorem fin_ok (s' : State) (m1 : Mon) (old : List Tcp) (res : ORes) (allow : Bool)
    (F : Facts s') (hu : SimU s' (expire m1)) (hn : NRead s' (expire m1))
    (hprov : ∀ (k : Nat) (c : MClient) (p : Nat) (pc : MPc) (d : Nat), m1.clients[k]? = some c → c.target = some p →
      m1.pcs[p]? = some pc → pc.expires = some d → d ≤ m1.now → ∃ t', s'.tcps[k]? = some t' ∧ t'.isClosed = true)
    (hold : ∀ (k : Nat) (c : MClient), m1.clients[k]? = some c → c.closed = true →
      ∃ t', s'.tcps[k]? = some t' ∧ t'.isClosed = true)
    (hret : m1.returned = true → closeReturned s' = true)
    (houts : allow = false → newReplies old s'.tcps = []) :
    (fin (obsOf old s' res) m1 none allow).2 = none ∧ Sim s' (fin (obsOf old s' res) m1 none allow).1 := by
  constructor
  · exact always_ok s' m1 _ old res allow F hu hprov hold hret houts
  · show Sim s' (absorb (expire m1) (obsOf old s' res))
    have hcl : (expire m1).clients = m1.clients := rfl
    have getc : ∀ (k : Nat) (c' : MClient), (absorb (expire m1) (obsOf old s' res)).clients[k]? = some c' →
        ∃ c, m1.clients[k]? = some c ∧ c' = if (closedSet s').contains k then { c with closed := true } else c := by
      intro k c' hc'
      unfold absorb at hc'
      simp only [List.getElem?_mapIdx] at hc'
      rw [hcl] at hc'
      cases hc : m1.clients[k]? with
      | none => rw [hc] at hc'; cases hc'
      | some c =>
        rw [hc] at hc'
        simp only [Option.map_some, Option.some.injEq] at hc'
        exact ⟨c, rfl, hc'.symm⟩
    constructor
    · apply simU_congr hu
      apply clientsEqv_mapIdx
      intro k c; split <;> rfl
    · intro k t c' ht hc'
      obtain ⟨c, hc, e⟩ := getc k c' hc'
      have := hn k t c ht (by rw [hcl]; exact hc)
      rw [e]; split <;> exact this
    · intro k t c' ht hc'
      obtain ⟨c, hc, e⟩ := getc k c' hc'
      rw [e]
      cases hcc : (closedSet s').contains k with
      | true =>
        obtain ⟨t2, ht2, h⟩ := contains_closedSet.1 hcc
        rw [ht] at ht2; cases ht2
        simp [h]
      | false =>
        simp only [Bool.false_eq_true, if_false]
        cases hc0 : c.closed with
        | false =>
          cases hcl' : t.isClosed with
          | false => rfl
          | true =>
            have := contains_closedSet.2 ⟨t, ht, hcl'⟩
            rw [hcc] at this; cases this
        | true =>
          obtain ⟨t2, ht2, h⟩ := hold k c hc hc0
          rw [ht] at ht2; cases ht2
          exact h.symm
    · rfl

end IceProofs.TcpMux

import IceProofs.AgentC06Lib
import IceProofs.AgentRulesCand
/-!
# The supersession of peer-reflexive candidates, exactly

`replaceRemoteInPairs old c` and the loop of `addRemoteCandidate` over the superseded candidates are characterised by what
they leave behind, with no reference to an invariant but that no pair id is listed twice (`replaceRemoteInPairs` looks up
the FIRST pair of an id, `modPair` rewrites ALL of them): the checklist is the old one mapped through `retarget`, the
cache the old one mapped through `recache`, the rest is as it was (`rrip_spec`, `sup_fold`, `supersede_exact`).  What an
invariant needs of the loop — that no pair and no cache entry names a dropped candidate — is then a case split on one
element.
-/
namespace IceProofs.AgentC06
open IceModel.AgentCore IceProofs.Agent

def recache (S : List Nat) (cu : Nat) (x : Nat × Nat × Nat) : Nat × Nat × Nat :=
  if S.contains x.2.2 then (x.1, x.2.1, cu) else x

/-- what supersession does to one pair: if its remote is one of the superseded candidates `S`, point it at `cu`,
freeze the priority, and (as `setSelectedPair` does) mark it nominated when it is the selected pair -/
def retarget (sel : Option Nat) (prio : Pair → Nat) (S : List Nat) (cu : Nat) (p : Pair) : Pair :=
  if S.contains p.r then
    { p with r := cu, prioOverride := some (prio p), nominated := p.nominated || (sel == some p.id) }
  else p

theorem connected_trans {a b c : Agent} (h1 : b.connState = a.connState ∨ (b.connState = .connected ∧ b.selected.isSome))
    (h2 : c.connState = b.connState ∨ (c.connState = .connected ∧ c.selected.isSome)) (hs : c.selected = b.selected) :
    c.connState = a.connState ∨ (c.connState = .connected ∧ c.selected.isSome) := by
  rcases h2 with h | h
  · rcases h1 with h' | ⟨h', hs'⟩
    · exact Or.inl (h.trans h')
    · exact Or.inr ⟨h.trans h', hs ▸ hs'⟩
  · exact Or.inr h

/-- everything but the checklist is untouched (the connection state may become Connected by re-selection) -/
structure RestSame (a b : Agent) : Prop where
  locals : b.locals = a.locals
  remotes : b.remotes = a.remotes
  caches : b.caches = a.caches
  nextUid : b.nextUid = a.nextUid
  nextPairID : b.nextPairID = a.nextPairID
  cfg : b.cfg = a.cfg
  closed : b.closed = a.closed
  selected : b.selected = a.selected
  nominatedPair : b.nominatedPair = a.nominatedPair
  pending : b.pending = a.pending
  connState : b.connState = a.connState ∨ (b.connState = .connected ∧ b.selected.isSome)

theorem RestSame.refl (a : Agent) : RestSame a a := ⟨rfl, rfl, rfl, rfl, rfl, rfl, rfl, rfl, rfl, rfl, Or.inl rfl⟩

theorem RestSame.trans {a b c : Agent} (h1 : RestSame a b) (h2 : RestSame b c) : RestSame a c :=
  ⟨h2.locals.trans h1.locals, h2.remotes.trans h1.remotes, h2.caches.trans h1.caches,
   h2.nextUid.trans h1.nextUid, h2.nextPairID.trans h1.nextPairID, h2.cfg.trans h1.cfg,
   h2.closed.trans h1.closed, h2.selected.trans h1.selected, h2.nominatedPair.trans h1.nominatedPair,
   h2.pending.trans h1.pending, connected_trans h1.connState h2.connState h2.selected⟩

theorem pairPrio_of_cands {a b : Agent} (hl : b.locals = a.locals) (hr : b.remotes = a.remotes) (p : Pair) :
    b.pairPrio p = a.pairPrio p :=
  pairPrio_of_prios p (by unfold Agent.localOf; rw [hl]) (by unfold Agent.remoteOf; rw [hr])

/-- the loop body of `replaceRemoteInPairs` -/
def rripBody (old c : Cand) (acc : Agent × List Out) (id : Nat) : Agent × List Out :=
  let (a, o) := acc
  match a.pairById id with
  | some p =>
    if p.r == old.uid then
      let oldPrio := a.pairPrio p
      let a := a.modPair id fun p => { p with r := c.uid, prioOverride := some oldPrio }
      if a.selected == some id then
        let (a, o') := a.select id
        (a, o ++ o')
      else (a, o)
    else (a, o)
  | none => (a, o)

theorem rrip_eq (a : Agent) (old c : Cand) :
    a.replaceRemoteInPairs old c = (a.checklist.map (·.id)).foldl (rripBody old c) (a, []) := rfl

theorem rripBody_spec (old c : Cand) (a : Agent) (o : List Out) (id : Nat) (hn : (idsOf a).Nodup) :
    (rripBody old c (a, o) id).1.checklist =
        a.checklist.map (fun q => if q.id = id then retarget a.selected a.pairPrio [old.uid] c.uid q else q) ∧
      RestSame a (rripBody old c (a, o) id).1 := by
  unfold rripBody
  simp only []
  split
  · rename_i p hp
    have huniq : ∀ q ∈ a.checklist, q.id = id → q = p := fun q hq hid => find?_key_unique (k := Pair.id) hn hp hq hid
    split
    · rename_i hr
      have hr' : p.r = old.uid := by simpa using hr
      split
      · rename_i hsel
        have hsel' : a.selected = some id := by simpa [Agent.modPair] using hsel
        have hs := select_update (a.modPair id fun q => { q with r := c.uid, prioOverride := some (a.pairPrio p) }) id
        generalize Agent.select _ id = sel at hs ⊢
        obtain ⟨b, o'⟩ := sel
        dsimp only at hs ⊢
        subst hs
        refine ⟨?_, ⟨rfl, rfl, rfl, rfl, rfl, rfl, rfl, hsel'.symm, rfl, rfl, Or.inr ⟨rfl, rfl⟩⟩⟩
        simp only [Agent.modPair, updPair, List.map_map]
        apply List.map_congr_left
        intro q hq
        simp only [Function.comp]
        by_cases hid : q.id = id
        · have := huniq q hq hid
          subst this
          simp [hid, retarget, hr', hsel']
        · simp [hid]
      · rename_i hsel
        have hsel' : a.selected ≠ some id := by simpa [Agent.modPair] using hsel
        refine ⟨?_, ⟨rfl, rfl, rfl, rfl, rfl, rfl, rfl, rfl, rfl, rfl, Or.inl rfl⟩⟩
        simp only [Agent.modPair, updPair]
        apply List.map_congr_left
        intro q hq
        by_cases hid : q.id = id
        · have := huniq q hq hid
          subst this
          simp [hid, retarget, hr']
          intro h; exact absurd h hsel'
        · simp [hid]
    · rename_i hr
      have hr' : p.r ≠ old.uid := by simpa using hr
      refine ⟨?_, RestSame.refl a⟩
      symm
      rw [List.map_congr_left (g := fun q => q), List.map_id']
      intro q hq
      by_cases hid : q.id = id
      · have := huniq q hq hid
        subst this
        simp [hid, retarget, hr']
      · simp [hid]
  · rename_i hp
    refine ⟨?_, RestSame.refl a⟩
    symm
    rw [List.map_congr_left (g := fun q => q), List.map_id']
    intro q hq
    have : q.id ≠ id := by
      unfold Agent.pairById at hp
      have := List.find?_eq_none.1 hp q hq
      simpa using this
    simp [this]

@[simp] theorem retarget_id (sel prio S cu) (p : Pair) : (retarget sel prio S cu p).id = p.id := by
  unfold retarget; split <;> rfl

@[simp] theorem retarget_l (sel prio S cu) (p : Pair) : (retarget sel prio S cu p).l = p.l := by
  unfold retarget; split <;> rfl

theorem idsOf_of_map {a b : Agent} {g : Pair → Pair} (h : b.checklist = a.checklist.map g)
    (hg : ∀ p, (g p).id = p.id) : idsOf b = idsOf a := by
  simp [idsOf, h, List.map_map, Function.comp_def, hg]

theorem rrip_fold (old c : Cand) :
    ∀ (is : List Nat) (a : Agent) (o : List Out), is.Nodup → (idsOf a).Nodup →
      (is.foldl (rripBody old c) (a, o)).1.checklist =
          a.checklist.map (fun p => if is.contains p.id then
            retarget a.selected a.pairPrio [old.uid] c.uid p else p) ∧
        RestSame a (is.foldl (rripBody old c) (a, o)).1 := by
  intro is
  induction is with
  | nil => intro a o _ _; simp [RestSame.refl]
  | cons i is ih =>
    intro a o his hn
    rw [List.foldl_cons]
    obtain ⟨h1, h2⟩ := rripBody_spec old c a o i hn
    generalize rripBody old c (a, o) i = b at h1 h2
    obtain ⟨b, o'⟩ := b
    simp only [] at h1 h2
    have hidb : idsOf b = idsOf a := idsOf_of_map h1 (by intro p; split <;> simp)
    rw [List.nodup_cons] at his
    obtain ⟨h3, h4⟩ := ih b o' his.2 (hidb ▸ hn)
    refine ⟨?_, h2.trans h4⟩
    rw [h3, h1, List.map_map]
    have hpp : b.pairPrio = a.pairPrio := funext (pairPrio_of_cands h2.locals h2.remotes)
    rw [hpp, h2.selected]
    apply List.map_congr_left
    intro p _
    simp only [Function.comp]
    by_cases hid : p.id = i
    · have : is.contains p.id = false := by
        rw [hid]; simpa using his.1
      simp [hid]
      intro hc; rw [← hid] at hc
      have : is.contains p.id = true := by simpa using hc
      simp_all
    · have : ((i :: is).contains p.id) = is.contains p.id := by
        simp [hid]
      simp [hid]

theorem retarget_of_mem (sel prio S cu) (p : Pair) (h : List.contains S p.r = true) :
    retarget sel prio S cu p =
      { p with r := cu, prioOverride := some (prio p), nominated := p.nominated || (sel == some p.id) } := by
  unfold retarget; rw [if_pos h]

theorem retarget_of_not_mem (sel prio S cu) (p : Pair) (h : List.contains S p.r = false) :
    retarget sel prio S cu p = p := by
  unfold retarget; rw [if_neg (by rw [h]; simp)]

theorem rrip_spec (a : Agent) (old c : Cand) (hn : (idsOf a).Nodup) :
    (a.replaceRemoteInPairs old c).1.checklist =
        a.checklist.map (retarget a.selected a.pairPrio [old.uid] c.uid) ∧
      RestSame a (a.replaceRemoteInPairs old c).1 := by
  rw [rrip_eq]
  have hn' : (a.checklist.map (·.id)).Nodup := hn
  obtain ⟨h1, h2⟩ := rrip_fold old c (a.checklist.map (·.id)) a [] hn' hn
  refine ⟨?_, h2⟩
  rw [h1]
  apply List.map_congr_left
  intro p hp
  have : (a.checklist.map (·.id)).contains p.id = true := by
    simp only [List.contains_iff_mem]
    exact List.mem_map_of_mem hp
  simp only [this, if_true]

/-- the supersession loop body of `addRemoteCandidate` -/
def supBody (c : Cand) (acc : Agent × List Out) (old : Cand) : Agent × List Out :=
  let r := acc.1.replaceRemoteInPairs old c
  let a : Agent := r.1
  let a : Agent := { a with caches := a.caches.map fun (x : Nat × Nat × Nat) =>
    if x.2.2 == old.uid then (x.1, x.2.1, c.uid) else x }
  (a, acc.2 ++ r.2)

/-- like `RestSame`, caches aside -/
structure RestSameC (a b : Agent) : Prop where
  locals : b.locals = a.locals
  remotes : b.remotes = a.remotes
  nextUid : b.nextUid = a.nextUid
  nextPairID : b.nextPairID = a.nextPairID
  cfg : b.cfg = a.cfg
  closed : b.closed = a.closed
  selected : b.selected = a.selected
  nominatedPair : b.nominatedPair = a.nominatedPair
  pending : b.pending = a.pending
  connState : b.connState = a.connState ∨ (b.connState = .connected ∧ b.selected.isSome)

theorem RestSame.c {a b : Agent} (h : RestSame a b) : RestSameC a b :=
  ⟨h.locals, h.remotes, h.nextUid, h.nextPairID, h.cfg, h.closed, h.selected, h.nominatedPair, h.pending,
   h.connState⟩

theorem RestSameC.refl (a : Agent) : RestSameC a a := (RestSame.refl a).c

theorem RestSameC.trans {a b c : Agent} (h1 : RestSameC a b) (h2 : RestSameC b c) : RestSameC a c :=
  ⟨h2.locals.trans h1.locals, h2.remotes.trans h1.remotes,
   h2.nextUid.trans h1.nextUid, h2.nextPairID.trans h1.nextPairID, h2.cfg.trans h1.cfg,
   h2.closed.trans h1.closed, h2.selected.trans h1.selected, h2.nominatedPair.trans h1.nominatedPair,
   h2.pending.trans h1.pending, connected_trans h1.connState h2.connState h2.selected⟩

theorem sup_fold (c : Cand) :
    ∀ (olds : List Cand) (a : Agent) (o : List Out), (idsOf a).Nodup → c.uid ∉ olds.map (·.uid) →
      (olds.foldl (supBody c) (a, o)).1.checklist =
          a.checklist.map (retarget a.selected a.pairPrio (olds.map (·.uid)) c.uid) ∧
        (olds.foldl (supBody c) (a, o)).1.caches = a.caches.map (recache (olds.map (·.uid)) c.uid) ∧
        RestSameC a (olds.foldl (supBody c) (a, o)).1 := by
  intro olds
  induction olds with
  | nil =>
    intro a o _ _
    have h1 : retarget a.selected a.pairPrio [] c.uid = fun p => p := by funext p; simp [retarget]
    have h2 : recache [] c.uid = fun x => x := by funext x; simp [recache]
    simp [h1, h2, RestSameC.refl]
  | cons old olds ih =>
    intro a o hn hc
    rw [List.foldl_cons]
    obtain ⟨h1, h2⟩ := rrip_spec a old c hn
    simp only [List.map_cons, List.mem_cons, not_or] at hc
    have hb : ∃ b o', supBody c (a, o) old = (b, o') ∧
        b.checklist = a.checklist.map (retarget a.selected a.pairPrio [old.uid] c.uid) ∧
        b.caches = a.caches.map (recache [old.uid] c.uid) ∧ RestSameC a b := by
      refine ⟨_, _, rfl, h1, ?_, ?_⟩
      · simp only [h2.caches]
        apply List.map_congr_left
        intro x _
        simp [recache]
      · exact ⟨h2.locals, h2.remotes, h2.nextUid, h2.nextPairID, h2.cfg, h2.closed, h2.selected,
          h2.nominatedPair, h2.pending, h2.connState⟩
    obtain ⟨b, o', hbe, hb1, hb2, hb3⟩ := hb
    rw [hbe]
    have hidb : idsOf b = idsOf a := idsOf_of_map hb1 (by simp)
    obtain ⟨h3, h4, h5⟩ := ih b o' (hidb ▸ hn) hc.2
    have hcu : (olds.map (·.uid)).contains c.uid = false :=
      Bool.eq_false_iff.2 fun h => hc.2 (List.contains_iff_mem.1 h)
    refine ⟨?_, ?_, hb3.trans h5⟩
    · rw [h3, hb1, List.map_map]
      have hpp : b.pairPrio = a.pairPrio := funext (pairPrio_of_cands hb3.locals hb3.remotes)
      rw [hpp, hb3.selected]
      apply List.map_congr_left
      intro p _
      simp only [Function.comp, List.map_cons]
      by_cases hr : p.r = old.uid
      · have h1 : [old.uid].contains p.r = true := by simp [hr]
        have h2 : (old.uid :: olds.map (·.uid)).contains p.r = true := by simp [hr]
        rw [retarget_of_mem _ _ _ _ _ h1, retarget_of_mem _ _ _ _ _ h2, retarget_of_not_mem _ _ _ _ _ hcu]
      · have h1 : [old.uid].contains p.r = false := by simpa using hr
        rw [retarget_of_not_mem _ _ _ _ _ h1]
        have h2 : (old.uid :: olds.map (·.uid)).contains p.r = (olds.map (·.uid)).contains p.r := by
          rw [List.contains_cons]; simp [hr]
        unfold retarget
        rw [h2]
    · rw [h4, hb2, List.map_map]
      apply List.map_congr_left
      intro x _
      simp only [Function.comp, List.map_cons]
      by_cases hr : x.2.2 = old.uid
      · have h1 : [old.uid].contains x.2.2 = true := by simp [hr]
        have h2 : (old.uid :: olds.map (·.uid)).contains x.2.2 = true := by simp [hr]
        simp only [recache, h1, h2, if_true, hcu]
        simp
      · have h1 : [old.uid].contains x.2.2 = false := by simpa using hr
        have h2 : (old.uid :: olds.map (·.uid)).contains x.2.2 = (olds.map (·.uid)).contains x.2.2 := by
          rw [List.contains_cons]; simp [hr]
        simp only [recache, h1, h2]
        simp

theorem supersede_exact (a : Agent) (olds : List Cand) (c : Cand) (hn : (idsOf a).Nodup) (hc : c.uid ∉ olds.map (·.uid)) :
    (supersede a olds c).1.checklist = a.checklist.map (retarget a.selected a.pairPrio (olds.map (·.uid)) c.uid) ∧
      (supersede a olds c).1.caches = a.caches.map (recache (olds.map (·.uid)) c.uid) ∧
      RestSameC a (supersede a olds c).1 :=
  sup_fold c olds a [] hn hc

end IceProofs.AgentC06

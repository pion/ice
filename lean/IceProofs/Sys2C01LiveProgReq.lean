import IceProofs.Sys2C01LiveProgSend
/-!
# C01 liveness — the request branch of `handleInbound`: normal forms and what the selector's request
handlers do to the selection, the pairs' ends and the outputs
-/

namespace IceProofs.C01Live.Prog
open IceModel.AgentCore IceProofs.C03 IceProofs.Agent

/-- `b` has the remote candidates of `a`, its candidates up to timestamps, and its pairs with their ends -/
structure Ends (a b : Agent) : Prop where
  remotes : b.remotes = a.remotes
  cands : CandSame a b
  pairs : ∃ g : Pair → Pair, b.checklist = a.checklist.map g ∧ ∀ p, (g p).id = p.id ∧ (g p).l = p.l ∧ (g p).r = p.r

theorem Ends.refl (a : Agent) : Ends a a := ⟨rfl, CandSame.refl a, ⟨fun p => p, by simp, fun _ => ⟨rfl, rfl, rfl⟩⟩⟩

theorem Ends.trans {a b c : Agent} (h1 : Ends a b) (h2 : Ends b c) : Ends a c := by
  obtain ⟨g1, e1, k1⟩ := h1.pairs
  obtain ⟨g2, e2, k2⟩ := h2.pairs
  refine ⟨h2.remotes.trans h1.remotes, h1.cands.trans h2.cands, ⟨g2 ∘ g1, by rw [e2, e1, List.map_map], ?_⟩⟩
  intro p
  exact ⟨(k2 (g1 p)).1.trans (k1 p).1, (k2 (g1 p)).2.1.trans (k1 p).2.1, (k2 (g1 p)).2.2.trans (k1 p).2.2⟩

theorem Soft.ends {now : Nat} {ex : Option Nat} {a b : Agent} (h : Soft now ex a b) : Ends a b := by
  obtain ⟨g, e, k⟩ := h.pairs
  exact ⟨h.remotes, h.cands, ⟨g, e, fun p => ⟨(k p).1, (k p).2.1, (k p).2.2.1⟩⟩⟩

theorem Ends.of_eq {a b : Agent} (hl : b.locals = a.locals) (hr : b.remotes = a.remotes) (hk : b.checklist = a.checklist) :
    Ends a b := ⟨hr, CandSame.of_eq hl hr, ⟨fun p => p, by simp [hk], fun _ => ⟨rfl, rfl, rfl⟩⟩⟩

theorem modPair_ends (a : Agent) (id : Nat) (f : Pair → Pair) (hid : ∀ p, (f p).id = p.id)
    (hl : ∀ p, (f p).l = p.l) (hr : ∀ p, (f p).r = p.r) : Ends a (a.modPair id f) :=
  (modPair_soft_ex (now := 0) a id f hid hl hr).ends

theorem select_ends (a : Agent) (id : Nat) : Ends a (a.select id).1 := by
  rw [select_fst]
  exact (modPair_ends a id (fun p => { p with nominated := true }) (fun _ => rfl) (fun _ => rfl) (fun _ => rfl)).trans
    (Ends.of_eq rfl rfl rfl)

theorem Ends.pairById {a b : Agent} (h : Ends a b) {j : Nat} {q : Pair} (hq : a.pairById j = some q) :
    ∃ q', b.pairById j = some q' ∧ q'.id = q.id ∧ q'.l = q.l ∧ q'.r = q.r := by
  obtain ⟨g, e, k⟩ := h.pairs
  refine ⟨g q, ?_, (k q).1, (k q).2.1, (k q).2.2⟩
  unfold Agent.pairById at hq ⊢
  rw [e, List.find?_map]
  have : ((fun x : Pair => x.id == j) ∘ g) = fun x => x.id == j := by
    funext p; simp only [Function.comp, (k p).1]
  rw [this, hq]; rfl

theorem Ends.mem {a b : Agent} (h : Ends a b) {p : Pair} (hp : p ∈ a.checklist) :
    ∃ p' ∈ b.checklist, p'.id = p.id := by
  obtain ⟨g, e, k⟩ := h.pairs
  exact ⟨g p, by rw [e]; exact List.mem_map_of_mem hp, (k p).1⟩

theorem takePending_snd (a : Agent) (now tid : Nat) (pd : Pending) (h : a.pending.find? (·.tid == tid) = some pd)
    (hy : now - pd.ts < maxBindingRequestTimeout) : (a.takePending now tid).2 = some pd := by
  rw [takePending_eq_find]
  exact find?_filter_of_some h (by simpa using hy)

theorem takePending_soft (a : Agent) (now tid : Nat) :
    (a.takePending now tid).1.core = a.core ∧ Ends a (a.takePending now tid).1 ∧
    (a.takePending now tid).1.selected = a.selected := by
  unfold Agent.takePending
  simp only []
  split <;> exact ⟨rfl, Ends.of_eq rfl rfl rfl, rfl⟩

theorem handleSuccess_match (a : Agent) (now : Nat) (m : Msg) (l r : Cand) (src : Nat) (pd : Pending) (p : Pair)
    (hpd : (a.takePending now m.tid).2 = some pd) (hnet : pd.net = l.net) (hdest : pd.dest = src)
    (hsrc : pd.src = l.addr) (hp : a.findPair l r = some p) :
    a.handleSuccess now m l r src =
      ((hsFin ((a.takePending now m.tid).1.modPair p.id (hsMark pd)) p pd
          (hsSel ((a.takePending now m.tid).1.modPair p.id (hsMark pd)) p pd).1).modPair p.id
          (Pair.gotResponse now pd.ts),
       (hsSel ((a.takePending now m.tid).1.modPair p.id (hsMark pd)) p pd).2) := by
  rw [handleSuccess_eq, hpd]
  have hp' : (a.takePending now m.tid).1.findPair l r = some p := by rw [takePending_findPair]; exact hp
  simp only [hnet, hdest, hsrc, beq_self_eq_true, Bool.and_self, Bool.not_true, Bool.false_eq_true, if_false, hp']

theorem hsSel_ctl_uc (b : Agent) (p : Pair) (pd : Pending) (hc : b.controlling = true) (hu : pd.useCand = true)
    (hn : pd.nom = none) : (hsSel b p pd).1.selected.isSome = true := by
  unfold hsSel
  simp only [hc, hu, hn, if_true]
  split
  · rw [select_selected]; rfl
  · rename_i h
    cases hs : b.selected with
    | none => rw [hs] at h; simp at h
    | some x => rfl

theorem succ_modPair {a : Agent} {id : Nat} (j : Nat) (f : Pair → Pair) (hid : ∀ p, (f p).id = p.id)
    (hst : ∀ p, (f p).state = p.state) (h : ∃ q ∈ a.checklist, q.id = id ∧ q.state = .succeeded) :
    ∃ q ∈ (a.modPair j f).checklist, q.id = id ∧ q.state = .succeeded := by
  obtain ⟨q, hq, e, hs⟩ := h
  refine ⟨_, updPair_mem (id := j) (f := f) hq, ?_, ?_⟩
  · split
    · rw [hid]; exact e
    · exact e
  · split
    · rw [hst]; exact hs
    · exact hs

theorem succ_select {a : Agent} {id : Nat} (j : Nat) (h : ∃ q ∈ a.checklist, q.id = id ∧ q.state = .succeeded) :
    ∃ q ∈ (a.select j).1.checklist, q.id = id ∧ q.state = .succeeded := by
  rw [select_fst]
  exact succ_modPair j (fun p => { p with nominated := true }) (fun _ => rfl) (fun _ => rfl) h

theorem hsFin_ends (a : Agent) (p : Pair) (pd : Pending) (x : Agent) : Ends x (hsFin a p pd x) := by
  unfold hsFin
  split
  · split
    · exact Ends.of_eq rfl rfl rfl
    · exact Ends.refl _
  · split
    · exact modPair_ends x p.id hsClear (fun _ => rfl) (fun _ => rfl) (fun _ => rfl)
    · exact Ends.refl _

theorem succ_hsFin {x : Agent} {id : Nat} (a : Agent) (p : Pair) (pd : Pending)
    (h : ∃ q ∈ x.checklist, q.id = id ∧ q.state = .succeeded) :
    ∃ q ∈ (hsFin a p pd x).checklist, q.id = id ∧ q.state = .succeeded := by
  unfold hsFin
  split
  · split
    · exact h
    · exact h
  · split
    · exact succ_modPair p.id hsClear (fun _ => rfl) (fun _ => rfl) h
    · exact h

theorem succ_hsSel {b : Agent} {id : Nat} (p : Pair) (pd : Pending)
    (h : ∃ q ∈ b.checklist, q.id = id ∧ q.state = .succeeded) :
    ∃ q ∈ (hsSel b p pd).1.checklist, q.id = id ∧ q.state = .succeeded := by
  rcases hsSel_cases b p pd with e | ⟨e, _⟩
  · rw [e]; exact h
  · rw [e]; exact succ_select _ h

theorem handleSuccess_sel (a : Agent) (now : Nat) (m : Msg) (l r : Cand) (src : Nat) :
    Ends a (a.handleSuccess now m l r src).1 ∧
    ((a.handleSuccess now m l r src).1.selected = a.selected ∨
     ∃ pd p, (a.takePending now m.tid).2 = some pd ∧ a.findPair l r = some p ∧
       (a.handleSuccess now m l r src).1.selected = some p.id ∧
       ((a.controlling = true ∧ pd.useCand = true) ∨ (a.controlling = false ∧ p.nomOnSuccess = true))) := by
  rw [handleSuccess_eq]
  obtain ⟨hcore, hends, hsel⟩ := takePending_soft a now m.tid
  have hfp := takePending_findPair a now m.tid l r
  generalize a.takePending now m.tid = tp at hcore hends hsel hfp ⊢
  obtain ⟨A, pend⟩ := tp
  dsimp only at hcore hends hsel hfp ⊢
  have hctl : A.controlling = a.controlling := congrArg Core.controlling hcore
  cases pend with
  | none => exact ⟨hends, Or.inl hsel⟩
  | some pd =>
    dsimp only
    split
    · exact ⟨hends, Or.inl hsel⟩
    · split
      · exact ⟨hends, Or.inl hsel⟩
      · rename_i p hfind
        have hB : Ends A (A.modPair p.id (hsMark pd)) :=
          modPair_ends A p.id (hsMark pd) (fun _ => rfl) (fun _ => rfl) (fun _ => rfl)
        rcases hsSel_cases (A.modPair p.id (hsMark pd)) p pd with e | ⟨e, hr⟩
        · rw [e]
          exact ⟨hends.trans (hB.trans ((hsFin_ends _ p pd _).trans
            (modPair_ends _ p.id _ (fun _ => rfl) (fun _ => rfl) (fun _ => rfl)))),
            Or.inl ((hsFin_selected _ p pd _).trans hsel)⟩
        · rw [e]
          refine ⟨hends.trans (hB.trans ((select_ends _ p.id).trans ((hsFin_ends _ p pd _).trans
            (modPair_ends _ p.id _ (fun _ => rfl) (fun _ => rfl) (fun _ => rfl))))),
            Or.inr ⟨pd, p, rfl, hfp ▸ hfind, (hsFin_selected _ p pd _).trans (select_selected _ p.id), ?_⟩⟩
          rcases hr with ⟨h1, h2⟩ | ⟨h1, h2⟩
          · exact Or.inl ⟨hctl ▸ h1, h2⟩
          · exact Or.inr ⟨hctl ▸ h1, h2⟩

/-- the state in which the pairs of a newly discovered peer-reflexive candidate `c'` are formed -/
def prflxBase (a : Agent) (c' : Cand) : Agent := { a with nextUid := a.nextUid + 1, remotes := a.remotes ++ [c'] }

theorem addRemoteCandidate_prflx_eq (a : Agent) (c : Cand) (hty : c.ty = 3) (htt : c.tt = 0)
    (hb : a.cfg.blockedIPs.contains (ipOf c.addr) = false)
    (hn : (a.remotes.filter (·.net == c.net)).find? (·.equal c) = none) :
    a.addRemoteCandidate c =
      (((a.locals.filter (·.net == c.net)).foldl (pairStep { c with uid := a.nextUid })
          (prflxBase a { c with uid := a.nextUid })).requestCheck, [], some { c with uid := a.nextUid }) := by
  obtain ⟨uid, ty, net, addr, prio, comp, rel, lr, ls, form, tt⟩ := c
  simp only at hty htt
  subst hty
  subst htt
  unfold Agent.addRemoteCandidate
  split
  · rename_i h; rw [hb] at h; cases h
  split
  · rename_i e h; rw [hn] at h; cases h
  simp only [beq_self_eq_true, if_true, List.foldl_nil, List.any_nil, Bool.not_false]
  have hft : ∀ l : List Cand, l.filter (fun _ => true) = l := by intro l; simp
  rw [hft]
  simp only [show ((0 : Nat) != 2) = true from rfl, Bool.and_true]
  rfl

theorem pairStep_idsOK (c : Cand) (b : Agent) (l : Cand) (h : IdsOK b) : IdsOK (pairStep c b l) := by
  unfold pairStep
  split
  · exact h
  · exact addPair_idsOK b l c h

theorem pairStep_remotes (c : Cand) (b : Agent) (l : Cand) : (pairStep c b l).remotes = b.remotes := by
  unfold pairStep
  split <;> rfl

/-- what source resolution yields: the state `a1` and the candidate `r` the request is handled for -/
structure Disc (a : Agent) (l : Cand) (src : Nat) (a1 : Agent) (r : Cand) : Prop where
  disc : Discovered a a1
  find : a1.findRemote l.net src = some r
  remotes : (a1 = a ∧ a.findRemote l.net src = some r) ∨
    (a.findRemote l.net src = none ∧ r.uid = a.nextUid ∧ a1.remotes = a.remotes ++ [r])
  ids : IdsOK a → IdsOK a1

/-- the peer-reflexive candidate as it is listed -/
def prflxNew (a : Agent) (l : Cand) (src : Nat) (m : Msg) : Cand := { prflxCand l src m with uid := a.nextUid }

theorem resolveSource_found (a : Agent) (l : Cand) (src : Nat) (m : Msg) {r : Cand} (hf : a.findRemote l.net src = some r) :
    resolveSource a l src m = (a, [], some r) := by
  unfold resolveSource; rw [hf]

theorem resolveSource_blocked (a : Agent) (l : Cand) (src : Nat) (m : Msg) (hf : a.findRemote l.net src = none)
    (hb : a.cfg.blockedIPs.contains (ipOf src) = true) : resolveSource a l src m = (a, [], none) := by
  unfold resolveSource; rw [hf]
  show a.addRemoteCandidate (prflxCand l src m) = _
  unfold Agent.addRemoteCandidate
  have hb' : a.cfg.blockedIPs.contains (ipOf (prflxCand l src m).addr) = true := hb
  rw [if_pos hb']

theorem resolveSource_new (a : Agent) (l : Cand) (src : Nat) (m : Msg) (hf : a.findRemote l.net src = none)
    (hb : a.cfg.blockedIPs.contains (ipOf src) = false) :
    resolveSource a l src m =
      (((a.locals.filter (·.net == l.net)).foldl (pairStep (prflxNew a l src m))
          (prflxBase a (prflxNew a l src m))).requestCheck, [],
        some (prflxNew a l src m)) := by
  have hn : (a.remotes.filter (·.net == (prflxCand l src m).net)).find? (·.equal (prflxCand l src m)) = none := by
    rw [List.find?_eq_none]
    intro x hx hxe
    have hxr : x ∈ a.remotes := (List.mem_filter.mp hx).1
    unfold Agent.findRemote at hf
    rw [List.find?_eq_none] at hf
    apply hf x hxr
    simp only [Cand.equal, Cand.taEqual, Bool.and_eq_true] at hxe
    have h1 := hxe.1.1.1
    simp only [Bool.and_eq_true]
    exact h1
  have heq := addRemoteCandidate_prflx_eq a (prflxCand l src m) rfl rfl hb hn
  unfold resolveSource; rw [hf]
  exact heq

theorem resolveSource_spec (a : Agent) (l : Cand) (src : Nat) (m : Msg) :
    (resolveSource a l src m = (a, [], none) ∧ a.findRemote l.net src = none ∧ a.cfg.blockedIPs.contains (ipOf src) = true) ∨
    ∃ a1 r, resolveSource a l src m = (a1, [], some r) ∧ Disc a l src a1 r := by
  cases hf : a.findRemote l.net src with
  | some r => exact Or.inr ⟨a, r, resolveSource_found a l src m hf, ⟨Discovered.refl a, hf, Or.inl ⟨rfl, hf⟩, fun h => h⟩⟩
  | none =>
    cases hb : a.cfg.blockedIPs.contains (ipOf src) with
    | true => exact Or.inl ⟨resolveSource_blocked a l src m hf hb, rfl, rfl⟩
    | false =>
      right
      have heq := resolveSource_new a l src m hf hb
      have hd : Discovered a (resolveSource a l src m).1 := by
        have := (addRemoteCandidate_prflx a (prflxCand l src m) rfl).1
        unfold resolveSource; rw [hf]; exact this
      refine ⟨_, _, heq, ?_⟩
      rw [heq] at hd
      have hrem : (Agent.requestCheck ((a.locals.filter (·.net == l.net)).foldl (pairStep (prflxNew a l src m))
          (prflxBase a (prflxNew a l src m)))).remotes
          = a.remotes ++ [(prflxNew a l src m)] := by
        show Agent.remotes (List.foldl _ _ _) = _
        apply IceProofs.List.foldl_inv (fun b : Agent => b.remotes = a.remotes ++ [(prflxNew a l src m)])
        · rfl
        · intro b x hbx; rw [pairStep_remotes]; exact hbx
      refine ⟨hd, ?_, Or.inr ⟨hf, rfl, hrem⟩, ?_⟩
      · unfold Agent.findRemote at hf ⊢
        rw [hrem, List.find?_append, hf]
        simp [prflxNew, prflxCand]
      · intro hi
        show IdsOK (Agent.requestCheck _)
        have : IdsOK ((a.locals.filter (·.net == l.net)).foldl (pairStep (prflxNew a l src m))
            (prflxBase a (prflxNew a l src m))) := by
          apply IceProofs.List.foldl_inv (fun b : Agent => IdsOK b)
          · exact ⟨hi.le, hi.uniq⟩
          · intro b x hbx; exact pairStep_idsOK _ b x hbx
        exact ⟨this.le, this.uniq⟩

theorem handleInbound_cases (a : Agent) (now : Nat) (l : Cand) (src : Nat) (m : Msg) :
    a.handleInbound now l src m = (a, []) ∨
    (∃ r, m.cls = 2 ∧ m.key = some a.remotePwd ∧ a.findRemote l.net src = some r ∧
      a.handleInbound now l src m =
        ((a.handleSuccess now m l r src).1.seenRemoteRecv r.uid now, (a.handleSuccess now m l r src).2)) ∨
    (AuthRequest a m ∧ a.handleInbound now l src m =
      match resolveSource a l src m with
      | (a1, o0, none) => (a1, o0)
      | (a1, o0, some r) => afterResolve a1 now l m o0 r) ∨
    (∃ r, a.findRemote l.net src = some r ∧ a.handleInbound now l src m = (a.seenRemoteRecv r.uid now, [])) := by
  by_cases ha : AuthRequest a m
  · exact Or.inr (Or.inr (Or.inl ⟨ha, handleInbound_request a now l src m ha⟩))
  · exact handleInbound_rule (Q := fun x => x = (a, []) ∨
        (∃ r, m.cls = 2 ∧ m.key = some a.remotePwd ∧ a.findRemote l.net src = some r ∧
          x = ((a.handleSuccess now m l r src).1.seenRemoteRecv r.uid now, (a.handleSuccess now m l r src).2)) ∨
        (AuthRequest a m ∧ x =
          match resolveSource a l src m with
          | (a1, o0, none) => (a1, o0)
          | (a1, o0, some r) => afterResolve a1 now l m o0 r) ∨
        (∃ r, a.findRemote l.net src = some r ∧ x = (a.seenRemoteRecv r.uid now, []))) a now l src m
      (Or.inl rfl) (fun r hc hk hr => Or.inr (Or.inl ⟨r, hc, hk, hr, rfl⟩))
      (fun r hr => Or.inr (Or.inr (Or.inr ⟨r, hr, rfl⟩))) (fun h _ => absurd h ha) (fun h _ _ => absurd h ha)

theorem handleInbound_req_resolved (a : Agent) (now : Nat) (l : Cand) (src : Nat) (m : Msg) (ha : AuthRequest a m)
    (hnc : NoConflict a m) {a1 : Agent} {r : Cand} (hd : resolveSource a l src m = (a1, [], some r))
    (hcc : a1.controlling = a.controlling) :
    a.handleInbound now l src m = toSelector a1 now l r m [] := by
  rw [handleInbound_request a now l src m ha, hd]
  exact afterResolve_noConflict a1 now l m [] r (hnc.of_ctl hcc)

theorem handleInbound_auth (a : Agent) (now : Nat) (l : Cand) (src : Nat) (m : Msg) (ha : AuthRequest a m)
    (hnc : NoConflict a m) :
    (a.handleInbound now l src m = (a, []) ∧ a.findRemote l.net src = none ∧
      a.cfg.blockedIPs.contains (ipOf src) = true) ∨
    ∃ a1 r, resolveSource a l src m = (a1, [], some r) ∧ Disc a l src a1 r ∧
      a.handleInbound now l src m = toSelector a1 now l r m [] := by
  rcases resolveSource_spec a l src m with ⟨hd, hf, hb⟩ | ⟨a1, r, hd, D⟩
  · exact Or.inl ⟨by rw [handleInbound_request a now l src m ha, hd], hf, hb⟩
  · exact Or.inr ⟨a1, r, hd, D, handleInbound_req_resolved a now l src m ha hnc hd (congrArg Core.controlling D.disc.core)⟩

theorem nominate_soft {ex : Option Nat} (a : Agent) (now : Nat) (p : Pair) : Soft now ex a (a.nominate now p).1 := by
  unfold Agent.nominate
  split
  · exact sendRequest_soft a now _ _ true none
  · exact Soft.refl _ _ _

theorem ctlTail_selected (a : Agent) (now : Nat) (l r : Cand) (p : Pair) (o : List Out) :
    (ctlTail a now l r p o).1.selected = a.selected ∧ (ctlTail a now l r p o).1.remotes = a.remotes ∧
    ∃ o', (ctlTail a now l r p o).2 = o ++ o' :=
  ctlTail_rule (Q := fun x => x.1.selected = a.selected ∧ x.1.remotes = a.remotes ∧ ∃ o', x.2 = o ++ o') a now l r p o
    ⟨rfl, rfl, [], by simp⟩ fun _ _ _ =>
      ⟨(nominate_soft (ex := none) ({ a with nominatedPair := some p.id } : Agent) now p).selected,
       (nominate_soft (ex := none) ({ a with nominatedPair := some p.id } : Agent) now p).remotes, _, rfl⟩

theorem ctlHandleRequest_selected (a : Agent) (now : Nat) (m : Msg) (l r : Cand) :
    (a.ctlHandleRequest now m l r).1.selected = a.selected ∧ (a.ctlHandleRequest now m l r).1.remotes = a.remotes ∧
    ∃ o', (a.ctlHandleRequest now m l r).2 = (a.sendSuccess now m l r).2 ++ o' := by
  have h1 := sendSuccess_soft (now' := now) (ex := none) a now m l r
  refine ctlHandleRequest_rule (Q := fun x => x.1.selected = a.selected ∧ x.1.remotes = a.remotes ∧
    ∃ o', x.2 = (a.sendSuccess now m l r).2 ++ o') a now m l r (fun _ => ⟨h1.selected, h1.remotes, [], by simp⟩) fun p _ => ?_
  obtain ⟨h2, h3, h4⟩ := ctlTail_selected ((a.sendSuccess now m l r).1.modPair p.id (countReq m)) now l r p
    (a.sendSuccess now m l r).2
  exact ⟨h2.trans h1.selected, h3.trans h1.remotes, h4⟩

theorem cldPre_frame (a : Agent) (m : Msg) (l r : Cand) :
    (cldPre a m l r).1.core = a.core ∧ (cldPre a m l r).1.locals = a.locals ∧ (cldPre a m l r).1.remotes = a.remotes ∧
    (cldPre a m l r).1.selected = a.selected ∧ (cldPre a m l r).1.pending = a.pending ∧
    (cldPre a m l r).1.nextTid = a.nextTid := by
  unfold cldPre
  split <;> exact ⟨rfl, rfl, rfl, rfl, rfl, rfl⟩

theorem cldPre_pairById (a : Agent) (m : Msg) (l r : Cand) (hi : IdsOK a)
    (hpw : a.remotes.Pairwise (fun x y => x.addr ≠ y.addr)) (hr : r ∈ a.remotes) :
    ∃ q c, (cldPre a m l r).1.pairById (cldPre a m l r).2 = some q ∧ a.remoteOf q.r = some c ∧ c.uid = r.uid := by
  unfold cldPre
  cases hf : a.findPair l r with
  | some p =>
    simp only []
    refine ⟨reqMark m p, r, ?_, (findPair_remote hpw hr hf : a.remoteOf p.r = some r), rfl⟩
    rw [modPair_pairById a p.id p.id (reqMark m) (fun _ => rfl), pairById_of_mem hi ((findPair_listed hf).1)]
    simp
  | none =>
    simp only []
    have hnew : (a.addPair l r).1.pairById (a.nextPairID + 1) = some (a.addPair l r).2 := by
      unfold Agent.pairById Agent.addPair
      simp only []
      rw [List.find?_append, find?_eq_none_of]
      · simp
      · intro x hx
        have := hi.le x hx
        have hne : x.id ≠ a.nextPairID + 1 := by omega
        simpa using hne
    obtain ⟨c, hc, hcu⟩ := findCand_of_mem hr
    refine ⟨reqMark m (a.addPair l r).2, c, ?_, hc, hcu⟩
    rw [modPair_pairById _ _ _ (reqMark m) (fun _ => rfl), addPair_snd_id, hnew]
    simp [addPair_snd_id]

theorem cldAccept_frame (a : Agent) (m : Msg) :
    (cldAccept a m).1.localPwd = a.localPwd ∧ (cldAccept a m).1.cfg = a.cfg ∧ Ends a (cldAccept a m).1 ∧
    (cldAccept a m).1.selected = a.selected := by
  rcases cldAccept_cases a m with e | ⟨v, e⟩ <;> rw [e] <;> exact ⟨rfl, rfl, Ends.of_eq rfl rfl rfl, rfl⟩

theorem cldAccept_none (a : Agent) (m : Msg) (hn : m.nom = none) : cldAccept a m = (a, true) := by
  unfold cldAccept
  simp only [hn]
  split <;> rfl

theorem cldLite_ends (a : Agent) (id : Nat) : Ends a (cldLite a id) ∧ (cldLite a id).localPwd = a.localPwd := by
  unfold cldLite
  split
  · exact ⟨modPair_ends a id _ (fun _ => rfl) (fun _ => rfl) (fun _ => rfl), rfl⟩
  · exact ⟨Ends.refl a, rfl⟩

theorem cldNom_frame (a : Agent) (id : Nat) (m : Msg) :
    Ends a (cldNom a id m).1 ∧ (cldNom a id m).1.localPwd = a.localPwd ∧
    ((cldNom a id m).1.selected = a.selected ∨ (cldNom a id m).1.selected = some id) := by
  have hL := cldLite_ends a id
  have hs := (cldLite_frame a id).2.2
  rcases cldNom_cases a id m with ⟨h, _⟩ | ⟨_, h | ⟨p, _, _, _, h⟩ | ⟨p, _, _, h⟩⟩
  · rw [h]; exact ⟨Ends.refl a, rfl, Or.inl rfl⟩
  · rw [h]; exact ⟨hL.1, hL.2, Or.inl hs⟩
  · rw [h]
    refine ⟨hL.1.trans (select_ends _ id), ?_, Or.inr (select_selected _ id)⟩
    have : ((cldLite a id).select id).1.localPwd = (cldLite a id).localPwd := congrArg Core.localPwd (core_select _ id)
    exact this.trans hL.2
  · rw [h]
    exact ⟨hL.1.trans (modPair_ends _ id _ (fun _ => rfl) (fun _ => rfl) (fun _ => rfl)), hL.2, Or.inl hs⟩

theorem cldPing_soft {ex : Option Nat} (a : Agent) (now : Nat) (l r : Cand) (id : Nat) :
    Soft now ex a (cldPing a now l r id).1 := by
  unfold cldPing
  split
  · split
    · exact sendRequest_soft a now l r false none
    · exact Soft.refl _ _ _
  · exact Soft.refl _ _ _

theorem cldTail_soft {ex : Option Nat} (a : Agent) (now : Nat) (m : Msg) (l r : Cand) (id : Nat) (o : List Out) :
    Soft now ex a (cldTail a now m l r id o).1 := by
  unfold cldTail
  exact (sendSuccess_soft a now m l r).trans (cldPing_soft _ now l r id)

theorem cldHandleRequest_frame (a : Agent) (now : Nat) (m : Msg) (l r : Cand) :
    Ends (cldPre a m l r).1 (a.cldHandleRequest now m l r).1 ∧
    ((a.cldHandleRequest now m l r).1.selected = a.selected ∨
      (a.cldHandleRequest now m l r).1.selected = some (cldPre a m l r).2) ∧
    Out.dgram l.addr r.addr { cls := 2, tid := m.tid, key := some a.localPwd } ∈ (a.cldHandleRequest now m l r).2 := by
  rw [cldHandleRequest_eq]
  have hp := cldPre_frame a m l r
  have hpw0 : (cldPre a m l r).1.localPwd = a.localPwd := congrArg Core.localPwd hp.1
  obtain ⟨hpw1, _, he1, hs1⟩ := cldAccept_frame (cldPre a m l r).1 m
  generalize (cldPre a m l r).2 = id
  generalize (cldAccept (cldPre a m l r).1 m).1 = a1 at hpw1 he1 hs1 ⊢
  split
  · refine ⟨he1.trans (sendSuccess_soft (now' := now) (ex := none) a1 now m l r).ends,
      Or.inl (((sendSuccess_soft (now' := now) (ex := none) a1 now m l r).selected.trans hs1).trans hp.2.2.2.1), ?_⟩
    rw [sendSuccess_snd, hpw1, hpw0]
    simp
  · obtain ⟨he2, hpw2, hs2⟩ := cldNom_frame a1 id m
    have hT := cldTail_soft (ex := none) (cldNom a1 id m).1 now m l r id (cldNom a1 id m).2
    refine ⟨(he1.trans he2).trans hT.ends, ?_, ?_⟩
    · rcases hs2 with e | e
      · exact Or.inl (((hT.selected.trans e).trans hs1).trans hp.2.2.2.1)
      · exact Or.inr (hT.selected.trans e)
    · unfold cldTail
      rw [sendSuccess_snd, hpw2, hpw1, hpw0]
      simp

theorem PendOK.of_eq {a b : Agent} (hp : b.pending = a.pending) (hn : b.nextTid = a.nextTid) (ht : b.tag = a.tag)
    (h : PendOK a) : PendOK b := by
  unfold PendOK at h ⊢
  rw [hp, hn, ht]; exact h

theorem cldPre_findPair (a : Agent) (m : Msg) (l r : Cand)
    (hl : ∃ l', a.localOf l.uid = some l' ∧ l'.equal l = true)
    (hr : ∃ r', a.remoteOf r.uid = some r' ∧ r'.equal r = true) :
    ∃ q, (cldPre a m l r).1.findPair l r = some q ∧ q.id = (cldPre a m l r).2 := by
  unfold cldPre
  cases hf : a.findPair l r with
  | some p =>
    simp only []
    rw [modPair_findPair a p.id (reqMark m) (fun _ => rfl) (fun _ => rfl), hf]
    exact ⟨_, rfl, by simp [reqMark]⟩
  | none =>
    simp only []
    have hnew : (a.addPair l r).1.findPair l r = some (a.addPair l r).2 := by
      obtain ⟨l', hl1, hl2⟩ := hl
      obtain ⟨r', hr1, hr2⟩ := hr
      rw [findPair_eq] at hf ⊢
      show (a.checklist ++ [(a.addPair l r).2]).find? (fpPred a l r) = _
      rw [List.find?_append, hf]
      have : fpPred a l r (a.addPair l r).2 = true := by
        unfold fpPred
        show (match a.localOf l.uid, a.remoteOf r.uid with
          | some pl, some pr => pl.equal l && pr.equal r
          | _, _ => false) = true
        rw [hl1, hr1]
        simp [hl2, hr2]
      simp [this]
    rw [modPair_findPair _ _ (reqMark m) (fun _ => rfl) (fun _ => rfl), hnew]
    exact ⟨_, rfl, by simp [reqMark]⟩

theorem cldPre_noDefer (a : Agent) (m : Msg) (l r : Cand) (hnd : NoDefer a) :
    ∀ p ∈ (cldPre a m l r).1.checklist, p.deferredNom = none := by
  unfold cldPre
  split
  · intro p hp
    obtain ⟨q, hq, h | h⟩ := mem_modPair hp
    · rw [h.2]; exact hnd q hq
    · rw [h.2]; exact hnd q hq
  · intro p hp
    obtain ⟨q, hq, h | h⟩ := mem_modPair hp
    all_goals
      rw [h.2]
      simp only [Agent.addPair, List.mem_append, List.mem_singleton] at hq
      rcases hq with hq | hq
      · first | exact hnd q hq | (show (reqMark m q).deferredNom = none; exact hnd q hq)
      · first | (rw [hq]; rfl) | rw [hq]

theorem cldNom_full (a : Agent) (id : Nat) (m : Msg) (hfull : a.cfg.lite = false)
    (hn : (m.useCand || m.nom.isSome) = true) (hnd : ∀ p, a.pairById id = some p → p.deferredNom = none) :
    (a.pairById id = none ∧ cldNom a id m = (a, [])) ∨
    (∃ p, a.pairById id = some p ∧ p.state = .succeeded ∧ cldSw a id m p = true ∧ cldNom a id m = a.select id) ∨
    (∃ p, a.pairById id = some p ∧ p.state = .succeeded ∧ cldSw a id m p = false ∧ cldNom a id m = (a, [])) ∨
    (∃ p, a.pairById id = some p ∧ p.state ≠ .succeeded ∧
      cldNom a id m = (a.modPair id fun p => { p with nomOnSuccess := true, deferredNom := m.nom }, [])) := by
  have hL : cldLite a id = a := by unfold cldLite; simp [hfull]
  unfold cldNom
  rw [hL]
  simp only [hn, if_true]
  cases hp : a.pairById id with
  | none => exact Or.inl ⟨rfl, rfl⟩
  | some p =>
    simp only []
    by_cases hs : p.state = .succeeded
    · have e : (p.state == PairState.succeeded) = true := by simp [hs]
      simp only [e, if_true]
      cases hsw : cldSw a id m p with
      | false => exact Or.inr (Or.inr (Or.inl ⟨p, rfl, hs, by first | exact hsw | rfl, by simp⟩))
      | true => exact Or.inr (Or.inl ⟨p, rfl, hs, by first | exact hsw | rfl, by simp⟩)
    · have e : (p.state == PairState.succeeded) = false := by simp [hs]
      simp only [e, Bool.false_eq_true, if_false]
      have hd : (m.nom.isSome || p.deferredNom.isNone) = true := by rw [hnd p hp]; simp
      rw [if_pos hd]
      exact Or.inr (Or.inr (Or.inr ⟨p, rfl, hs, by first | rfl | trivial⟩))

theorem cldSw_false_selected (a : Agent) (id : Nat) (m : Msg) (p : Pair) (h : cldSw a id m p = false) :
    a.selected.isSome = true := by
  unfold cldSw at h
  split at h
  · cases h
  · rename_i sp hsp
    cases hs : a.selected with
    | none => rw [hs] at hsp; cases hsp
    | some x => rfl

theorem cldPing_fire (a : Agent) (now : Nat) (l r : Cand) (id : Nat) (p : Pair) (hq : a.pairById id = some p)
    (hs : p.state ≠ .succeeded) (hfull : a.cfg.lite = false) :
    cldPing a now l r id = a.sendRequest now l r false none := by
  unfold cldPing Agent.ping
  rw [hq]
  have e : (p.state != PairState.succeeded) = true := by simpa using hs
  simp [hfull, e]

theorem cldHandleRequest_nominates (a : Agent) (now : Nat) (m : Msg) (l r : Cand) (hfull : a.cfg.lite = false)
    (huc : m.useCand = true) (hnom : m.nom = none) (hp : PendOK a) (hnd : NoDefer a)
    (hl : ∃ l', a.localOf l.uid = some l' ∧ l'.equal l = true)
    (hr : ∃ r', a.remoteOf r.uid = some r' ∧ r'.equal r = true) :
    (a.cldHandleRequest now m l r).1.selected.isSome = true ∨
    ∃ q b, (a.cldHandleRequest now m l r).1.findPair l r = some q ∧ q.nomOnSuccess = true ∧ q.deferredNom = none ∧
      b.core = a.core ∧ Out.dgram l.addr r.addr (srMsg b l false none) ∈ (a.cldHandleRequest now m l r).2 ∧
      (a.cldHandleRequest now m l r).1.pending.find? (·.tid == 2 * b.nextTid + b.tag) = some (requestPending b now l r false none) ∧
      (a.cldHandleRequest now m l r).1.remotes = a.remotes := by
  rw [cldHandleRequest_eq, cldAccept_none _ m hnom]
  have hcond : ((m.useCand || m.nom.isSome) && !(((cldPre a m l r).1, true) : Agent × Bool).2) = false := by simp
  simp only [hcond, Bool.false_eq_true, if_false]
  obtain ⟨q0, hq0, hq0id⟩ := cldPre_findPair a m l r hl hr
  obtain ⟨hc0, _, hrem0, _, hpend0, hnt0⟩ := cldPre_frame a m l r
  have hnd0 : ∀ p ∈ (cldPre a m l r).1.checklist, p.deferredNom = none := cldPre_noDefer a m l r hnd
  generalize (cldPre a m l r).2 = id at hq0id ⊢
  generalize (cldPre a m l r).1 = A0 at hq0 hc0 hrem0 hpend0 hnt0 hnd0 ⊢
  have hfull0 : A0.cfg.lite = false := by
    have : A0.cfg = a.cfg := congrArg Core.cfg hc0
    rw [this]; exact hfull
  have hP0 : PendOK A0 := PendOK.of_eq hpend0 hnt0 (congrArg Core.tag hc0) hp
  have hmem0 : q0 ∈ A0.checklist := (findPair_listed hq0).1
  rcases cldNom_full A0 id m hfull0 (by simp [huc]) (fun p hp => hnd0 p (pairById_listed hp).1) with ⟨hnone, _⟩ | ⟨p, _, _, _, e⟩ | ⟨p, _, _, hsw, e⟩ | ⟨p, hpp, hs, e⟩
  · exfalso
    unfold Agent.pairById at hnone
    rw [List.find?_eq_none] at hnone
    exact hnone q0 hmem0 (by simp [hq0id])
  · left
    rw [e, (cldTail_soft (ex := none) _ now m l r id _).selected, select_selected]
    rfl
  · left
    rw [e, (cldTail_soft (ex := none) _ now m l r id _).selected]
    exact cldSw_false_selected A0 id m p hsw
  · right
    rw [e]
    -- the marked state, the state after the response, the state after the check
    have hA2 : ∃ A2, A2 = A0.modPair id (fun p => { p with nomOnSuccess := true, deferredNom := m.nom }) := ⟨_, rfl⟩
    obtain ⟨A2, hA2⟩ := hA2
    rw [← hA2]
    have hc2 : A2.core = A0.core := by rw [hA2]; rfl
    have hfp2 : A2.findPair l r = some { q0 with nomOnSuccess := true, deferredNom := m.nom } := by
      rw [hA2, modPair_findPair A0 id (fun p => { p with nomOnSuccess := true, deferredNom := m.nom })
        (fun _ => rfl) (fun _ => rfl), hq0]
      simp [hq0id]
    have hpb2 : A2.pairById id = some { p with nomOnSuccess := true, deferredNom := m.nom } := by
      rw [hA2, modPair_pairById A0 id id (fun p => { p with nomOnSuccess := true, deferredNom := m.nom })
        (fun _ => rfl), hpp]
      simp [(pairById_listed hpp).2]
    have hS : Soft now none A2 (A2.sendSuccess now m l r).1 := sendSuccess_soft A2 now m l r
    obtain ⟨q', hq', _, _, _, hps⟩ := hS.pairById hpb2
    have hps' := hps (by simp)
    have hcfg2 : A2.cfg = A0.cfg := congrArg Core.cfg hc2
    have hfire := cldPing_fire (A2.sendSuccess now m l r).1 now l r id q' hq'
      (by rw [hps'.state]; exact hs) (by rw [hS.cfg, hcfg2]; exact hfull0)
    unfold cldTail
    rw [hfire]
    have hR : Soft now none A2 ((A2.sendSuccess now m l r).1.sendRequest now l r false none).1 :=
      hS.trans (sendRequest_soft _ now l r false none)
    obtain ⟨q'', hq'', _, _, _, hps2⟩ := hR.findPair rfl rfl hfp2
    have hps2' := hps2 (by simp)
    have hPS : PendOK (A2.sendSuccess now m l r).1 :=
      hS.pendOK (PendOK.of_eq (by rw [hA2]; rfl) (by rw [hA2]; rfl) (by rw [hA2]; rfl) hP0)
    refine ⟨q'', (A2.sendSuccess now m l r).1, hq'', ?_, ?_, (hS.core.trans hc2).trans hc0, ?_,
      sendRequest_find_new _ now l r false none hPS, ?_⟩
    · rw [hps2'.nomOnSuccess]
    · rw [hps2'.deferredNom]; exact hnom
    · rw [sendRequest_snd]; simp
    · rw [hR.remotes, hA2]; exact hrem0

end IceProofs.C01Live.Prog

import IceProofs.TcpMuxGhost
/-!
# At quiescence an idle reader has read everything its client pushed
-/
namespace IceProofs.TcpMux
open IceModel.TcpMux

def DrainedL (l : List Tcp) : Prop := ∀ (k : Nat) (t : Tcp), l[k]? = some t → t.reader = .idle → t.inbox = []
def DrainedExceptL (l : List Tcp) (k : Nat) : Prop :=
  ∀ (j : Nat) (t : Tcp), j ≠ k → l[j]? = some t → t.reader = .idle → t.inbox = []
def Drained (s : State) : Prop := DrainedL s.tcps

theorem drained_pointwise (l l' : List Tcp) (g : Nat → Tcp → Tcp)
    (h : ∀ j, l'[j]? = (l[j]?).map (g j))
    (hg : ∀ (j : Nat) (t : Tcp), l[j]? = some t → (g j t).reader = .none ∨ ((g j t).reader = t.reader ∧ (g j t).inbox = t.inbox))
    (hd : DrainedL l) : DrainedL l' := by
  intro k t' ht' hr
  rw [h k] at ht'
  cases ht : l[k]? with
  | none => simp [ht] at ht'
  | some t =>
    simp only [ht, Option.map_some, Option.some.injEq] at ht'
    subst ht'
    rcases hg k t ht with e | ⟨e1, e2⟩
    · rw [e] at hr; cases hr
    · rw [e2]; rw [e1] at hr; exact hd k t ht hr

theorem drainedExcept_modify (l : List Tcp) (k : Nat) (f : Tcp → Tcp) (hd : DrainedL l) :
    DrainedExceptL (l.modify k f) k := by
  intro j t hj ht hr
  rw [getElem?_modify_ne _ _ _ _ hj] at ht
  exact hd j t ht hr

theorem closePc1_drained (s : State) (p : Nat) (hd : Drained s) : Drained (closePc1 s p) := by
  refine closePc1_rule s p hd ?_
  intro pc _ _
  apply drained_pointwise s.tcps _ (closeEffect pc) (fun j => List.getElem?_mapIdx) _ hd
  intro j t _
  unfold closeEffect
  split
  · exact Or.inl rfl
  · split
    · exact Or.inl rfl
    · exact Or.inr ⟨rfl, rfl⟩

theorem runReader_drained (s : State) (k : Nat) (hi : Inv s) (hd : DrainedExceptL s.tcps k) :
    Drained (runReader s k) := by
  have noop : (∀ t, s.tcps[k]? = some t → t.reader ≠ .idle) → Drained s := by
    intro h j t ht hr
    by_cases hjk : j = k
    · subst hjk; exact absurd hr (h t ht)
    · exact hd j t hjk ht hr
  unfold runReader
  cases ht : s.tcps[k]? with
  | none => exact noop (by simp [ht])
  | some t =>
    simp only
    cases hrd : t.reader with
    | none =>
      split
      · rename_i h1 h2; cases h2
      · exact noop (by intro t' h'; rw [ht] at h'; cases h'; simp [hrd])
    | blocked a b =>
      split
      · rename_i h1 h2; cases h2
      · exact noop (by intro t' h'; rw [ht] at h'; cases h'; simp [hrd])
    | idle =>
      obtain ⟨p, hph⟩ := hi.idle ht hrd
      obtain ⟨_, pc, hp, _, _⟩ := hi.att ht hph
      simp only [hph, hp]
      generalize hdr : drain s.cfg.cap k p t.peer t.inbox pc = d
      have dsp : DrainSpec k p t.peer t.inbox pc d := hdr ▸ drain_spec ..
      intro j tj htj hr
      simp only at htj
      by_cases hjk : j = k
      · subst hjk
        rw [getElem?_modify_eq, ht] at htj
        simp only [Option.map_some, Option.some.injEq] at htj
        subst htj
        exact dsp.idle hr
      · rw [getElem?_modify_ne _ _ _ _ hjk] at htj
        exact hd j tj hjk htj hr

theorem micro_drained {s s' : State} (m : Micro s s') (hi : Inv s) (hd : Drained s) : Drained s' := by
  have same : ∀ (k : Nat) (f : Tcp → Tcp), (∀ t, (f t).reader = .none ∨ ((f t).reader = t.reader ∧ (f t).inbox = t.inbox)) →
      Drained (setTcp s k f) := by
    intro k f hf
    apply drained_pointwise s.tcps _ (fun j t => if k = j then f t else t) (fun j => getElem?_modify_map ..) _ hd
    intro j tj _
    by_cases e : k = j
    · rw [if_pos e]; exact hf tj
    · rw [if_neg e]; exact Or.inr ⟨rfl, rfl⟩
  have newTcp : ∀ t : Tcp, t.reader = .none → Drained { s with tcps := s.tcps ++ [t] } := by
    intro t hr j tj htj hrj
    rcases getElem?_snoc htj with h | ⟨_, rfl⟩
    · exact hd j tj h hrj
    · rw [hr] at hrj; cases hrj
  cases m with
  | accept peer lip hl => exact newTcp _ rfl
  | refuse peer lip => exact newTcp _ rfl
  | reject k t d f ht hph => exact same k _ (fun t => Or.inl rfl)
  | hangup k t d ht hph => exact same k _ (fun t => Or.inl rfl)
  | stall k => exact same k _ (fun t => Or.inr ⟨rfl, rfl⟩)
  | gone k => exact same k _ (fun t => Or.inr ⟨rfl, rfl⟩)
  | wrote k pid len => exact same k _ (fun t => Or.inr ⟨rfl, rfl⟩)
  | push k t q f ht hph =>
    exact runReader_drained _ k (setTcp_irrel_inv s k _ (fun t => ⟨rfl, rfl, rfl, rfl⟩) hi) (drainedExcept_modify _ _ _ hd)
  | pushEnd k t q reset ht hph =>
    exact runReader_drained _ k (setTcp_irrel_inv s k _ (fun t => ⟨rfl, rfl, rfl, rfl⟩) hi) (drainedExcept_modify _ _ _ hd)
  | provision key k t d ht hph hn => exact hd
  | register p k t d pc f ht hph hp ho hdup =>
    exact runReader_drained _ k (register_inv s hi k p t pc ht d hph hp ho hdup _ ⟨rfl, rfl, rfl, rfl⟩)
      (drainedExcept_modify _ _ _ hd)
  | close p => exact closePc1_drained s p hd
  | tick now' hle hsp =>
    apply drained_pointwise _ _ (fun _ t => expireTcp now' t) (fun j => List.getElem?_map) _ hd
    intro j t _
    unfold expireTcp
    split
    · split
      · exact Or.inl rfl
      · exact Or.inr ⟨rfl, rfl⟩
    · exact Or.inr ⟨rfl, rfl⟩
  | claim key p hm hp => exact hd
  | create key hm hn => exact hd
  | closeH h => exact hd
  | decRef p => exact hd
  | pop p pc pkt q hp hq => exact hd
  | unblockQ p k pc bq t bp fin hp hbq ht hrd =>
    exact runReader_drained _ k (unblock_inv s hi k p t pc bq bp fin ht hrd hp hbq _ ⟨rfl, rfl, rfl, rfl, rfl⟩)
      (drainedExcept_modify _ _ _ hd)
  | unblockE p k pc bq t bp fin hp hq hbq ht hrd =>
    exact runReader_drained _ k (unblock_inv s hi k p t pc bq bp fin ht hrd hp hbq _ ⟨rfl, rfl, rfl, rfl, rfl⟩)
      (drainedExcept_modify _ _ _ hd)
  | shut hm hall => exact hd

theorem step_drained (s : State) (op : Op) (hi : Inv s) (hd : Drained s) : Drained (step s op).1 :=
  ((step_chain s op).keeps (P := fun x => Inv x ∧ Drained x)
    (fun _ _ m h => ⟨micro_inv m h.1, micro_drained m h.1 h.2⟩) ⟨hi, hd⟩).2

end IceProofs.TcpMux

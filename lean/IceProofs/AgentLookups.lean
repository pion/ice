import IceModel.AgentCore
import IceProofs.AgentBestBy
/-!
# The lookups of the agent and its leaf updates

A lookup is `List.find?` by a key (uid, pair id, address) and an update is `List.map` of a function that keeps the key, so
the facts are proved once with the key a variable (`find?_key_…`, `map_upd`, `mem_upd`) and then instantiated.
`Agent.localOf`/`remoteOf` unfold to `findCand`: the `findCand_…` lemmas apply to them as they stand.
Each leaf helper (`setConnState`, `select`, `sendRequest`, `sendSuccess`, `doRestart`) has one characterising equation.
-/
namespace IceProofs.Agent
open IceModel.AgentCore

section Lists
variable {α β : Type}

theorem foldl_inv_on (P : β → Prop) (f : β → α → β) (l : List α) (b : β)
    (h0 : P b) (hs : ∀ b a, a ∈ l → P b → P (f b a)) : P (l.foldl f b) := by
  induction l generalizing b with
  | nil => simpa
  | cons a l ih =>
    exact ih _ (hs _ _ (List.mem_cons_self) h0) (fun b x hx hb => hs b x (List.mem_cons_of_mem _ hx) hb)

theorem find?_listed {p : α → Bool} {l : List α} {x : α} (h : l.find? p = some x) : x ∈ l ∧ p x = true :=
  ⟨List.mem_of_find?_eq_some h, List.find?_some h⟩

theorem find?_congr_on {p q : α → Bool} {l : List α} (h : ∀ x ∈ l, p x = q x) : l.find? p = l.find? q := by
  induction l with
  | nil => rfl
  | cons x l ih =>
    rw [List.find?_cons, List.find?_cons, h x List.mem_cons_self, ih fun y hy => h y (List.mem_cons_of_mem _ hy)]

/-- "The keys are issued — at most `n` — and pairwise distinct" (the pair ids of the checklist against `nextPairID`, under
whatever name an invariant has it) speaks of the list of keys only: it goes over to any list with the same keys — an
update that keeps them, a view of the elements — and a later counter. -/
theorem issued_of_keys {k : α → Nat} {k' : β → Nat} {l : List α} {l' : List β} {n n' : Nat} (hm : l'.map k' = l.map k)
    (hn : n ≤ n') (h : (∀ x ∈ l, k x ≤ n) ∧ l.Pairwise fun x y => k x ≠ k y) :
    (∀ x ∈ l', k' x ≤ n') ∧ l'.Pairwise fun x y => k' x ≠ k' y := by
  refine ⟨fun x hx => ?_, List.pairwise_map.1 (hm ▸ List.pairwise_map.2 h.2)⟩
  obtain ⟨y, hy, e⟩ := List.mem_map.1 (hm ▸ List.mem_map_of_mem (f := k') hx)
  exact e ▸ Nat.le_trans (h.1 y hy) hn

theorem issued_snoc {k : α → Nat} {l : List α} {n : Nat} (q : α) (hq : k q = n + 1)
    (h : (∀ x ∈ l, k x ≤ n) ∧ l.Pairwise fun x y => k x ≠ k y) :
    (∀ x ∈ l ++ [q], k x ≤ n + 1) ∧ (l ++ [q]).Pairwise fun x y => k x ≠ k y := by
  refine ⟨fun x hx => ?_, List.pairwise_append.2 ⟨h.2, List.pairwise_singleton _ _, fun x hx y hy => ?_⟩⟩
  · rcases List.mem_append.1 hx with hx | hx
    · exact Nat.le_succ_of_le (h.1 x hx)
    · rw [List.mem_singleton.1 hx, hq]
      exact Nat.le_refl _
  · rw [List.mem_singleton.1 hy, hq]
    exact Nat.ne_of_lt (Nat.lt_succ_of_le (h.1 x hx))

theorem eq_of_key_nodup {κ : Type} {k : α → κ} {l : List α} (hn : (l.map k).Nodup) {x y : α} (hx : x ∈ l) (hy : y ∈ l)
    (e : k x = k y) : x = y := by
  induction l with
  | nil => cases hx
  | cons a l ih =>
    rw [List.map_cons, List.nodup_cons] at hn
    rcases List.mem_cons.1 hx with hx | hx <;> rcases List.mem_cons.1 hy with hy | hy
    · rw [hx, hy]
    · exact absurd (hx ▸ e ▸ List.mem_map_of_mem hy) hn.1
    · exact absurd (hy ▸ e.symm ▸ List.mem_map_of_mem hx) hn.1
    · exact ih hn.2 hx hy

theorem find?_key_listed {k : α → Nat} {l : List α} {v : Nat} {x : α} (h : l.find? (k · == v) = some x) :
    x ∈ l ∧ k x = v :=
  ⟨(find?_listed h).1, by simpa using (find?_listed h).2⟩

theorem find?_key_isSome {k : α → Nat} {l : List α} {v : Nat} :
    (l.find? (k · == v)).isSome = true ↔ ∃ x ∈ l, k x = v := by
  simp

theorem find?_key_eq_none {k : α → Nat} {l : List α} {v : Nat} : l.find? (k · == v) = none ↔ ∀ x ∈ l, k x ≠ v := by
  simp

theorem find?_key_isSome_congr {k : α → Nat} {l l' : List α} (h : l'.map k = l.map k) (v : Nat) :
    (l'.find? (k · == v)).isSome = (l.find? (k · == v)).isSome := by
  have hm : ∀ {m : List α}, (m.find? (k · == v)).isSome = true ↔ v ∈ m.map k := by
    intro m
    rw [find?_key_isSome, List.mem_map]
  rw [Bool.eq_iff_iff, hm, hm, h]

theorem find?_key_of_mem {k : α → Nat} {l : List α} (hn : (l.map k).Nodup) {x : α} (hx : x ∈ l) :
    l.find? (k · == k x) = some x := by
  cases h : l.find? (k · == k x) with
  | none => exact absurd rfl (find?_key_eq_none.1 h x hx)
  | some y => rw [eq_of_key_nodup hn (find?_key_listed h).1 hx (find?_key_listed h).2]

theorem find?_key_unique {k : α → Nat} {l : List α} (hn : (l.map k).Nodup) {v : Nat} {x y : α}
    (h : l.find? (k · == v) = some x) (hy : y ∈ l) (e : k y = v) : y = x :=
  eq_of_key_nodup hn hy (find?_key_listed h).1 (e.trans (find?_key_listed h).2.symm)

theorem find?_key_upd (k : α → Nat) (l : List α) (i v : Nat) (f : α → α) (hf : ∀ x, k (f x) = k x) :
    (l.map fun x => if k x == i then f x else x).find? (k · == v) =
      (l.find? (k · == v)).map fun x => if k x == i then f x else x := by
  rw [List.find?_map]
  congr 2
  funext x
  dsimp only [Function.comp]
  split
  · rw [hf]
  · rfl

theorem find?_append_of_some {p : α → Bool} {l : List α} {x : α} (h : l.find? p = some x) (l' : List α) :
    (l ++ l').find? p = some x := by
  rw [List.find?_append, h]
  rfl

theorem find?_key_filter {k : α → Nat} {l : List α} {v : Nat} (q : α → Bool) (h : ∀ x ∈ l, k x = v → q x = true) :
    (l.filter q).find? (k · == v) = l.find? (k · == v) := by
  rw [List.find?_filter]
  refine find?_congr_on fun x hx => ?_
  cases hk : k x == v with
  | false => simp
  | true => simp [h x hx (by simpa using hk)]

theorem find?_filter_of_some {p q : α → Bool} {l : List α} {x : α} (h : l.find? p = some x) (hq : q x = true) :
    (l.filter q).find? p = some x := by
  induction l with
  | nil => cases h
  | cons y l ih =>
    rw [List.find?_cons] at h
    split at h
    · rename_i hp
      cases h
      rw [List.filter_cons_of_pos hq, List.find?_cons, hp]
    · rename_i hp
      by_cases hy : q y = true
      · rw [List.filter_cons_of_pos hy, List.find?_cons, hp]
        exact ih h
      · rw [List.filter_cons_of_neg hy]
        exact ih h

theorem filter_key_ne_of_find?_none {k : α → Nat} {l : List α} {v : Nat} (h : l.find? (k · == v) = none) :
    l.filter (k · != v) = l :=
  List.filter_eq_self.2 fun x hx => by simpa using find?_key_eq_none.1 h x hx

theorem map_upd (g : α → β) (c : α → Bool) (f : α → α) (l : List α) (h : ∀ x, g (f x) = g x) :
    (l.map fun x => if c x then f x else x).map g = l.map g := by
  rw [List.map_map]
  refine List.map_congr_left fun x _ => ?_
  dsimp only [Function.comp]
  split
  · exact h x
  · rfl

theorem mem_upd {c : α → Bool} {f : α → α} {l : List α} {y : α} :
    y ∈ (l.map fun x => if c x then f x else x) ↔ ∃ x ∈ l, (c x = true ∧ y = f x) ∨ (c x = false ∧ y = x) := by
  rw [List.mem_map]
  constructor
  · rintro ⟨x, hx, rfl⟩
    refine ⟨x, hx, ?_⟩
    cases hc : c x with
    | true => exact Or.inl ⟨rfl, by rw [if_pos rfl]⟩
    | false => exact Or.inr ⟨rfl, by rw [if_neg (by simp)]⟩
  · rintro ⟨x, hx, ⟨hc, e⟩ | ⟨hc, e⟩⟩
    · exact ⟨x, hx, by rw [hc, if_pos rfl, e]⟩
    · exact ⟨x, hx, by rw [hc, if_neg (by simp), e]⟩

end Lists

theorem equal_self (c : Cand) : c.equal c = true := by
  simp [Cand.equal, Cand.taEqual]

theorem equal_addr {x y : Cand} (h : x.equal y = true) : x.net = y.net ∧ x.addr = y.addr := by
  simp only [Cand.equal, Cand.taEqual, Bool.and_eq_true, beq_iff_eq] at h
  exact h.1.1.1

theorem equal_comm (x y : Cand) : x.equal y = y.equal x := by
  have key : ∀ x y : Cand, x.equal y = true → y.equal x = true := by
    intro x y
    simp only [Cand.equal, Cand.taEqual, Bool.and_eq_true, beq_iff_eq, Bool.or_eq_true, Bool.not_eq_true']
    rintro ⟨⟨⟨⟨h1, h2⟩, h5, h6⟩, h3⟩, h4⟩
    refine ⟨⟨⟨⟨h1.symm, h2.symm⟩, h5.symm, ?_⟩, h3.symm⟩, h4.symm⟩
    rcases h6 with h6 | h6
    · exact Or.inl (h1 ▸ h6)
    · exact Or.inr h6.symm
  rw [Bool.eq_iff_iff]
  exact ⟨key x y, key y x⟩

/-- the test both `addCandidate`s make before they list `c`: no listed candidate of its network type is `Equal` to it,
and so none at all -/
theorem not_equal_of_unknown {cs : List Cand} {c : Cand} (h : (cs.filter (·.net == c.net)).find? (·.equal c) = none)
    {y : Cand} (hy : y ∈ cs) : y.equal c = false := by
  by_cases hn : y.net = c.net
  · simpa using List.find?_eq_none.1 h y (List.mem_filter.2 ⟨hy, by simpa using hn⟩)
  · simp [Cand.equal, Cand.taEqual, hn]

theorem findCand_listed {cs : List Cand} {uid : Nat} {c : Cand} (h : findCand cs uid = some c) : c ∈ cs ∧ c.uid = uid :=
  find?_key_listed (k := Cand.uid) h

theorem findCand_isSome {cs : List Cand} {uid : Nat} : (findCand cs uid).isSome = true ↔ ∃ c ∈ cs, c.uid = uid :=
  find?_key_isSome (k := Cand.uid)

theorem findCand_eq_none {cs : List Cand} {uid : Nat} : findCand cs uid = none ↔ ∀ c ∈ cs, c.uid ≠ uid :=
  find?_key_eq_none (k := Cand.uid)

theorem findCand_isSome_of_uids {cs cs' : List Cand} (h : cs'.map (·.uid) = cs.map (·.uid)) (uid : Nat) :
    (findCand cs' uid).isSome = (findCand cs uid).isSome :=
  find?_key_isSome_congr (k := Cand.uid) h uid

theorem findCand_of_nodup {cs : List Cand} (hn : (cs.map (·.uid)).Nodup) {c : Cand} (hc : c ∈ cs) :
    findCand cs c.uid = some c :=
  find?_key_of_mem (k := Cand.uid) hn hc

theorem findCand_append {cs : List Cand} {uid : Nat} {c : Cand} (h : findCand cs uid = some c) (cs' : List Cand) :
    findCand (cs ++ cs') uid = some c :=
  find?_append_of_some h cs'

theorem findCand_filter {cs : List Cand} {uid : Nat} (q : Cand → Bool) (h : ∀ c ∈ cs, c.uid = uid → q c = true) :
    findCand (cs.filter q) uid = findCand cs uid :=
  find?_key_filter (k := Cand.uid) q h

theorem updCand_findCand (cs : List Cand) (uid : Nat) (f : Cand → Cand) (u : Nat) (hf : ∀ c, (f c).uid = c.uid) :
    findCand (updCand cs uid f) u = (findCand cs u).map fun c => if c.uid == uid then f c else c :=
  find?_key_upd Cand.uid cs uid u f hf

theorem updCand_map {β : Type} (g : Cand → β) (cs : List Cand) (uid : Nat) (f : Cand → Cand) (h : ∀ c, g (f c) = g c) :
    (updCand cs uid f).map g = cs.map g :=
  map_upd g _ f cs h

theorem updCand_findCand_map {β : Type} (g : Cand → β) (cs : List Cand) (uid : Nat) (f : Cand → Cand) (u : Nat)
    (hf : ∀ c, (f c).uid = c.uid) (h : ∀ c, g (f c) = g c) :
    (findCand (updCand cs uid f) u).map g = (findCand cs u).map g := by
  rw [updCand_findCand cs uid f u hf, Option.map_map]
  congr 1
  funext c
  dsimp only [Function.comp]
  split
  · exact h c
  · rfl

theorem findRemote_listed {a : Agent} {net addr : Nat} {r : Cand} (h : a.findRemote net addr = some r) :
    r ∈ a.remotes ∧ r.net = net ∧ r.addr = addr :=
  ⟨(find?_listed h).1, by simpa using (find?_listed h).2⟩

theorem findRemote_isSome {a : Agent} {net addr : Nat} :
    (a.findRemote net addr).isSome = true ↔ ∃ r ∈ a.remotes, r.net = net ∧ r.addr = addr := by
  simp [Agent.findRemote]

theorem localByAddr_listed {a : Agent} {addr : Nat} {l : Cand} (h : a.localByAddr addr = some l) :
    l ∈ a.locals ∧ l.addr = addr :=
  find?_key_listed (k := Cand.addr) h

theorem localByAddr_isSome {a : Agent} {addr : Nat} : (a.localByAddr addr).isSome = true ↔ ∃ l ∈ a.locals, l.addr = addr :=
  find?_key_isSome (k := Cand.addr)

theorem localByAddr_eq_none {a : Agent} {addr : Nat} : a.localByAddr addr = none ↔ ∀ l ∈ a.locals, l.addr ≠ addr :=
  find?_key_eq_none (k := Cand.addr)

theorem pairById_listed {a : Agent} {id : Nat} {p : Pair} (h : a.pairById id = some p) : p ∈ a.checklist ∧ p.id = id :=
  find?_key_listed (k := Pair.id) h

theorem pairById_isSome {a : Agent} {id : Nat} : (a.pairById id).isSome = true ↔ ∃ p ∈ a.checklist, p.id = id :=
  find?_key_isSome (k := Pair.id)

theorem pairById_eq_none {a : Agent} {id : Nat} : a.pairById id = none ↔ ∀ p ∈ a.checklist, p.id ≠ id :=
  find?_key_eq_none (k := Pair.id)

theorem pairById_of_nodup {a : Agent} (hn : (a.checklist.map (·.id)).Nodup) {p : Pair} (hp : p ∈ a.checklist) :
    a.pairById p.id = some p :=
  find?_key_of_mem (k := Pair.id) hn hp

theorem pairById_eq_of_mem {a : Agent} (hn : (a.checklist.map (·.id)).Nodup) {id : Nat} {p q : Pair}
    (h : a.pairById id = some p) (hq : q ∈ a.checklist) (e : q.id = id) : q = p :=
  find?_key_unique (k := Pair.id) hn h hq e

theorem pairById_append {a b : Agent} {id : Nat} {p : Pair} (h : a.pairById id = some p) {extra : List Pair}
    (hb : b.checklist = a.checklist ++ extra) : b.pairById id = some p := by
  unfold Agent.pairById
  rw [hb]
  exact find?_append_of_some h extra

theorem mem_updPair_iff {l : List Pair} {id : Nat} {f : Pair → Pair} {q : Pair} :
    q ∈ updPair l id f ↔ ∃ p ∈ l, (p.id = id ∧ q = f p) ∨ (p.id ≠ id ∧ q = p) := by
  unfold updPair
  rw [mem_upd]
  simp only [beq_iff_eq, beq_eq_false_iff_ne]

theorem updPair_mem {l : List Pair} {id : Nat} {f : Pair → Pair} {p : Pair} (h : p ∈ l) :
    (if p.id == id then f p else p) ∈ updPair l id f :=
  List.mem_map_of_mem h

theorem updPair_map {β : Type} (g : Pair → β) (l : List Pair) (id : Nat) (f : Pair → Pair) (h : ∀ p, g (f p) = g p) :
    (updPair l id f).map g = l.map g :=
  map_upd g _ f l h

theorem modPair_pairById (a : Agent) (i id : Nat) (f : Pair → Pair) (hf : ∀ p, (f p).id = p.id) :
    (a.modPair i f).pairById id = (a.pairById id).map fun p => if p.id == i then f p else p :=
  find?_key_upd Pair.id a.checklist i id f hf

theorem modPair_pairById_self {a : Agent} {id : Nat} {p : Pair} (f : Pair → Pair) (hf : ∀ p, (f p).id = p.id)
    (h : a.pairById id = some p) : (a.modPair id f).pairById id = some (f p) := by
  rw [modPair_pairById a id id f hf, h, Option.map_some, (pairById_listed h).2, beq_self_eq_true, if_pos rfl]

theorem addPair_eq (a : Agent) (l r : Cand) :
    a.addPair l r =
      ({ a with nextPairID := a.nextPairID + 1
                checklist := a.checklist ++ [{ id := a.nextPairID + 1, l := l.uid, r := r.uid, controlling := a.controlling }] },
        { id := a.nextPairID + 1, l := l.uid, r := r.uid, controlling := a.controlling }) := rfl

theorem findPair_listed {a : Agent} {l r : Cand} {p : Pair} (h : a.findPair l r = some p) :
    p ∈ a.checklist ∧ ∃ pl pr, a.localOf p.l = some pl ∧ a.remoteOf p.r = some pr ∧
      pl.equal l = true ∧ pr.equal r = true := by
  obtain ⟨hm, hp⟩ := find?_listed h
  refine ⟨hm, ?_⟩
  split at hp
  · rename_i pl pr hl hr
    rw [Bool.and_eq_true] at hp
    exact ⟨pl, pr, hl, hr, hp⟩
  · cases hp

theorem findPair_eq_none {a : Agent} {l r : Cand} :
    a.findPair l r = none ↔ ∀ p ∈ a.checklist, ∀ pl pr, a.localOf p.l = some pl → a.remoteOf p.r = some pr →
      ¬ (pl.equal l = true ∧ pr.equal r = true) := by
  unfold Agent.findPair
  rw [List.find?_eq_none]
  refine forall_congr' fun p => forall_congr' fun _ => ⟨fun h pl pr hl hr he => ?_, fun h => ?_⟩
  · simp only [hl, hr, Bool.and_eq_true] at h
    exact h he
  · split
    · rename_i pl pr hl hr
      rw [Bool.and_eq_true]
      exact h pl pr hl hr
    · exact Bool.false_ne_true

theorem findPair_of_lists {a b : Agent} (hc : b.checklist = a.checklist) (hl : b.locals = a.locals) (hr : b.remotes = a.remotes)
    (l r : Cand) : b.findPair l r = a.findPair l r := by
  unfold Agent.findPair Agent.localOf Agent.remoteOf
  rw [hc, hl, hr]

theorem modPair_findPair (a : Agent) (id : Nat) (f : Pair → Pair) (hl : ∀ p, (f p).l = p.l) (hr : ∀ p, (f p).r = p.r)
    (l r : Cand) : (a.modPair id f).findPair l r = (a.findPair l r).map fun p => if p.id == id then f p else p := by
  unfold Agent.findPair Agent.modPair updPair
  rw [List.find?_map]
  congr 2
  funext p
  have e : (if p.id == id then f p else p).l = p.l ∧ (if p.id == id then f p else p).r = p.r := by
    split
    · exact ⟨hl p, hr p⟩
    · exact ⟨rfl, rfl⟩
  dsimp only [Function.comp, Agent.localOf, Agent.remoteOf]
  rw [e.1, e.2]

theorem pairPrio_of_prios {a b : Agent} (p : Pair) (hl : (b.localOf p.l).map (·.prio) = (a.localOf p.l).map (·.prio))
    (hr : (b.remoteOf p.r).map (·.prio) = (a.remoteOf p.r).map (·.prio)) : b.pairPrio p = a.pairPrio p := by
  unfold Agent.pairPrio
  rw [hl, hr]

theorem seenLocalSent_localOf (a : Agent) (uid now u : Nat) :
    (a.seenLocalSent uid now).localOf u =
      (a.localOf u).map fun c => if c.uid == uid then { c with lastSent := some now } else c :=
  updCand_findCand a.locals uid _ u fun _ => rfl

theorem seenRemoteRecv_remoteOf (a : Agent) (uid now u : Nat) :
    (a.seenRemoteRecv uid now).remoteOf u =
      (a.remoteOf u).map fun c => if c.uid == uid then { c with lastRecv := some now } else c :=
  updCand_findCand a.remotes uid _ u fun _ => rfl

theorem seenLocalSent_pairPrio (a : Agent) (uid now : Nat) (p : Pair) : (a.seenLocalSent uid now).pairPrio p = a.pairPrio p :=
  pairPrio_of_prios p (updCand_findCand_map (·.prio) a.locals uid _ p.l (fun _ => rfl) fun _ => rfl) rfl

theorem seenRemoteRecv_pairPrio (a : Agent) (uid now : Nat) (p : Pair) : (a.seenRemoteRecv uid now).pairPrio p = a.pairPrio p :=
  pairPrio_of_prios p rfl (updCand_findCand_map (·.prio) a.remotes uid _ p.r (fun _ => rfl) fun _ => rfl)

theorem bestBy_listed {a : Agent} {ok : Pair → Bool} {p : Pair} (h : a.bestBy ok = some p) :
    p ∈ a.checklist ∧ ok p = true :=
  let ⟨_, _, e, hok, _⟩ := (AgentC07.bestBy_eq_some_iff a ok p).1 h
  ⟨e ▸ List.mem_append_right _ List.mem_cons_self, hok⟩

theorem mem_invalidatePending_iff {a : Agent} {now : Nat} {pd : Pending} :
    pd ∈ (a.invalidatePending now).pending ↔ pd ∈ a.pending ∧ now - pd.ts < maxBindingRequestTimeout := by
  simp [Agent.invalidatePending]

theorem takePending_eq_find (a : Agent) (now tid : Nat) :
    a.takePending now tid =
      ({ a with pending := (a.invalidatePending now).pending.filter (·.tid != tid) },
        (a.invalidatePending now).pending.find? (·.tid == tid)) := by
  unfold Agent.takePending
  dsimp only
  split
  · rename_i p hp
    rw [hp]
    rfl
  · rename_i hp
    rw [hp, filter_key_ne_of_find?_none (k := Pending.tid) hp]
    rfl

theorem takePending_listed {a : Agent} {now tid : Nat} {pd : Pending} (h : (a.takePending now tid).2 = some pd) :
    pd ∈ a.pending ∧ pd.tid = tid ∧ now - pd.ts < maxBindingRequestTimeout := by
  rw [takePending_eq_find] at h
  obtain ⟨hm, ht⟩ := find?_key_listed (k := Pending.tid) h
  exact ⟨(mem_invalidatePending_iff.1 hm).1, ht, (mem_invalidatePending_iff.1 hm).2⟩

theorem setConnState_same_eq (a : Agent) (s : ConnState) (h : a.connState = s) : a.setConnState s = (a, []) := by
  unfold Agent.setConnState
  rw [if_pos (by rw [h]; exact beq_self_eq_true s)]

theorem setConnState_fst (a : Agent) (s : ConnState) (hs : s ≠ .failed) : (a.setConnState s).1 = { a with connState := s } := by
  unfold Agent.setConnState
  split
  · rename_i h
    have : a.connState = s := by simpa using h
    subst this
    rfl
  · rw [if_neg (by simpa using hs)]

theorem setConnState_failed_eq (a : Agent) (h : a.connState ≠ .failed) :
    a.setConnState .failed = ({ a.wipe with connState := .failed }, [.cbState .failed]) := by
  unfold Agent.setConnState
  rw [if_neg (by simpa using h)]
  rfl

theorem setConnState_fst_connState (a : Agent) (s : ConnState) : (a.setConnState s).1.connState = s := by
  unfold Agent.setConnState
  split
  · rename_i h
    simpa using h
  · rfl

theorem setConnState_snd_eq (a : Agent) (s : ConnState) :
    (a.setConnState s).2 = if a.connState = s then [] else [.cbState s] := by
  unfold Agent.setConnState
  by_cases h : a.connState = s <;> simp [h]

theorem select_update (a : Agent) (id : Nat) : (a.select id).1 =
    { a.modPair id (fun p => { p with nominated := true }) with
      selected := some id, onConnectedFired := true, connState := .connected } := by
  unfold Agent.select
  exact setConnState_fst _ _ (by decide)

theorem select_selected (a : Agent) (id : Nat) : (a.select id).1.selected = some id := by rw [select_update]

theorem select_snd_eq (a : Agent) (id : Nat) : ∃ x y, (a.select id).2 =
    (if a.connState = .connected then [] else [.cbState .connected]) ++ [.cbPair x y] :=
  ⟨_, _, congrArg (· ++ _) (setConnState_snd_eq _ .connected)⟩

/-- the transaction a request records -/
def requestPending (a : Agent) (now : Nat) (l r : Cand) (uc : Bool) (nom : Option Nat) : Pending :=
  { tid := 2 * a.nextTid + a.tag, src := l.addr, dest := r.addr, net := r.net, useCand := uc, nom := nom, ts := now }

theorem sendRequest_fst_eq (a : Agent) (now : Nat) (l r : Cand) (uc : Bool) (nom : Option Nat) :
    (a.sendRequest now l r uc nom).1 =
      { a with nextTid := a.nextTid + 1
               pending := (a.invalidatePending now).pending ++ [requestPending a now l r uc nom]
               checklist := match a.findPair l r with
                 | some p => updPair a.checklist p.id fun p => { p with reqSent := p.reqSent + 1 }
                 | none => a.checklist
               locals := updCand a.locals l.uid fun c => { c with lastSent := some now } } := by
  unfold Agent.sendRequest
  dsimp only
  split
  · rename_i p hp
    rw [show a.findPair l r = some p from hp]
    rfl
  · rename_i hp
    rw [show a.findPair l r = none from hp]
    rfl

theorem sendRequest_snd_eq (a : Agent) (now : Nat) (l r : Cand) (uc : Bool) (nom : Option Nat) :
    (a.sendRequest now l r uc nom).2 =
      [.dgram l.addr r.addr
        { cls := 0, tid := 2 * a.nextTid + a.tag, user := some (a.remoteUfrag ++ ":" ++ a.localUfrag),
          key := some a.remotePwd, prio := some l.prio, useCand := uc, role := some (a.controlling, a.tieBreaker),
          nom := nom }] := by
  unfold Agent.sendRequest
  dsimp only
  split <;> rfl

theorem sendSuccess_eq (a : Agent) (now : Nat) (m : Msg) (l r : Cand) :
    a.sendSuccess now m l r =
      ({ a with checklist := match a.findPair l r with
                  | some p => updPair a.checklist p.id fun p => { p with respSent := p.respSent + 1 }
                  | none => a.checklist
                locals := updCand a.locals l.uid fun c => { c with lastSent := some now } },
        [.dgram l.addr r.addr { cls := 2, tid := m.tid, key := some a.localPwd }]) := by
  unfold Agent.sendSuccess
  dsimp only
  cases a.findPair l r <;> rfl

theorem sendSuccess_out (a : Agent) (now : Nat) (m : Msg) (l r : Cand) :
    (a.sendSuccess now m l r).2 = [.dgram l.addr r.addr { cls := 2, tid := m.tid, key := some a.localPwd }] := by
  rw [sendSuccess_eq]

theorem sendRequest_pairById (a : Agent) (now : Nat) (l r : Cand) (uc : Bool) (nom : Option Nat) :
    ∃ g : Pair → Pair, (∀ p, g p = p ∨ g p = { p with reqSent := p.reqSent + 1 }) ∧
      ∀ id, (a.sendRequest now l r uc nom).1.pairById id = (a.pairById id).map g := by
  rw [sendRequest_fst_eq]
  cases a.findPair l r with
  | none => exact ⟨id, fun _ => Or.inl rfl, fun id => Option.map_id'.symm⟩
  | some q =>
    refine ⟨fun p => if p.id == q.id then { p with reqSent := p.reqSent + 1 } else p, fun p => ?_, fun id => ?_⟩
    · dsimp only
      split
      · exact Or.inr rfl
      · exact Or.inl rfl
    · exact modPair_pairById a q.id id _ fun _ => rfl

theorem sendRequest_cfg (a : Agent) (now : Nat) (l r : Cand) (uc : Bool) (nom : Option Nat) :
    (a.sendRequest now l r uc nom).1.cfg = a.cfg := by
  rw [sendRequest_fst_eq]

theorem pairById_of_mem {a : Agent} {p : Pair} (h : p ∈ a.checklist) : ∃ q, a.pairById p.id = some q :=
  Option.isSome_iff_exists.mp (pairById_isSome.2 ⟨p, h, rfl⟩)

theorem doRestart_update (a : Agent) (now : Nat) (x p : String) : (a.doRestart now x p).1 =
    { ({ a with localUfrag := x, localPwd := p, remoteUfrag := "", remotePwd := "" } : Agent).wipe.resetSelector now with
      generation := a.generation + 1, connState := if a.connState = .new then a.connState else .checking } := by
  unfold Agent.doRestart
  dsimp only
  split
  · rename_i h
    have h : (a.connState != .new) = true := h
    rw [setConnState_fst _ _ (by decide), if_neg (by simpa using h)]
    rfl
  · rename_i h
    have h : ¬(a.connState != .new) = true := h
    rw [if_pos (by simpa using h)]
    rfl

theorem doRestart_snd_eq (a : Agent) (now : Nat) (x p : String) :
    (a.doRestart now x p).2 = if a.connState = .new ∨ a.connState = .checking then [] else [.cbState .checking] := by
  unfold Agent.doRestart
  dsimp only
  split
  · rename_i h
    have h : (a.connState != .new) = true := h
    rw [setConnState_snd_eq]
    show (if a.connState = .checking then _ else _) = _
    simp [show a.connState ≠ .new by simpa using h]
  · rename_i h
    have h : ¬(a.connState != .new) = true := h
    simp [show a.connState = .new by simpa using h]

theorem mem_modPair {a : Agent} {id : Nat} {f : Pair → Pair} {q : Pair} (h : q ∈ (a.modPair id f).checklist) :
    ∃ p ∈ a.checklist, p.id = id ∧ q = f p ∨ p.id ≠ id ∧ q = p :=
  mem_updPair_iff.1 h

theorem mem_modPair_of_mem {a : Agent} {p : Pair} (h : p ∈ a.checklist) (f : Pair → Pair) :
    f p ∈ (a.modPair p.id f).checklist :=
  mem_updPair_iff.2 ⟨p, h, Or.inl ⟨rfl, rfl⟩⟩

end IceProofs.Agent

/-- a candidate without its activity timestamps -/
def IceModel.AgentCore.Cand.bare (c : IceModel.AgentCore.Cand) : IceModel.AgentCore.Cand :=
  { c with lastRecv := none, lastSent := none }

namespace IceProofs.Agent
open IceModel.AgentCore

/-- `c` is one of the candidates `cs`, up to the activity timestamps (a candidate held by a handler goes stale in
them when `seenLocalSent` / `seenRemoteRecv` update the list) -/
def Listed (cs : List Cand) (c : Cand) : Prop := ∃ d ∈ cs, d.bare = c.bare

theorem Listed.of_mem {cs : List Cand} {c : Cand} (h : c ∈ cs) : Listed cs c := ⟨c, h, rfl⟩

theorem Listed.of_map {cs cs' : List Cand} {c : Cand} (h : Listed cs c) (he : cs'.map Cand.bare = cs.map Cand.bare) :
    Listed cs' c := by
  obtain ⟨d, hd, hb⟩ := h
  have : d.bare ∈ cs'.map Cand.bare := he ▸ List.mem_map_of_mem hd
  obtain ⟨d', hd', hb'⟩ := List.mem_map.mp this
  exact ⟨d', hd', hb'.trans hb⟩

theorem updCand_bare (cs : List Cand) (uid : Nat) (f : Cand → Cand) (hf : ∀ c, (f c).bare = c.bare) :
    (updCand cs uid f).map Cand.bare = cs.map Cand.bare :=
  updCand_map Cand.bare cs uid f hf

theorem copyActivity_bare (dst src : Cand) : (copyActivity dst src).bare = dst.bare := by
  unfold copyActivity
  split <;> dsimp only <;> split <;> rfl

theorem foldl_copyActivity_bare (cs : List Cand) (c : Cand) : (cs.foldl copyActivity c).bare = c.bare := by
  induction cs generalizing c with
  | nil => rfl
  | cons x xs ih => exact (ih _).trans (copyActivity_bare c x)

end IceProofs.Agent

import IceProofs.Sys2C20Resp
import IceProofs.Sys2C05
/-!
# C20 on `Sys2` — the vocabulary of the history, unfolded

`issueOf` = a `RenominateCandidate` that answers `ok`; `answerOf` = an authenticated success response that completes an
outstanding, unexpired, symmetric transaction on a listed pair.
-/
namespace IceProofs.C20S
open IceModel.AgentCore IceProofs.Agent

theorem issueOf_iff (a : Agent) (e : Ev) (v la ra : Nat) :
    issueOf a e = some (v, la, ra) ↔
      ∃ now ri l r, e = .renominate now la ri v ∧ a.controlling = true ∧ a.cfg.enableRenomination = true ∧
        a.localByAddr la = some l ∧ a.remotes[ri]? = some r ∧ (a.findPair l r).isSome = true ∧ ra = r.addr := by
  constructor
  · exact issueOf_inv
  · rintro ⟨now, ri, l, r, rfl, hc, hen, hl, hr, hp, rfl⟩
    simp [issueOf, hc, hen, hl, hr, hp]

theorem answerOf_iff (a : Agent) (e : Ev) (pd : Pending) (id : Nat) :
    answerOf a e = some (pd, id) ↔
      ∃ now la src m l r p, e = .inbound now la src m ∧ a.closed = false ∧ a.started = true ∧
        a.localByAddr la = some l ∧ m.method = 1 ∧ m.cls = 2 ∧ m.key = some a.remotePwd ∧
        a.findRemote l.net src = some r ∧ (a.takePending now m.tid).2 = some pd ∧
        pd.net = l.net ∧ pd.dest = src ∧ pd.src = l.addr ∧ a.findPair l r = some p ∧ p.id = id := by
  unfold answerOf
  constructor
  · intro h
    cases hin : inboundOn a e with
    | none => rw [hin] at h; cases h
    | some x =>
      obtain ⟨now, l, src, m⟩ := x
      obtain ⟨la, rfl, hc, hs, hl⟩ := (inboundOn_iff a e now l src m).1 hin
      rw [hin] at h
      simp only [] at h
      split at h
      · rename_i hcond
        simp only [Bool.and_eq_true, beq_iff_eq] at hcond
        cases hr : a.findRemote l.net src with
        | none => rw [hr] at h; cases h
        | some r =>
          rw [hr] at h
          simp only [] at h
          cases htp : (a.takePending now m.tid).2 with
          | none => rw [htp] at h; cases h
          | some pd' =>
            rw [htp] at h
            simp only [] at h
            split at h
            · rename_i hsym
              simp only [Bool.and_eq_true, beq_iff_eq] at hsym
              simp only [Option.map_eq_some_iff] at h
              obtain ⟨p, hp, heq⟩ := h
              simp only [Prod.mk.injEq] at heq
              obtain ⟨rfl, rfl⟩ := heq
              exact ⟨now, la, src, m, l, r, p, rfl, hc, hs, hl, hcond.1.1, hcond.1.2, hcond.2, hr, htp,
                hsym.1.1, hsym.1.2, hsym.2, hp, rfl⟩
            · cases h
      · cases h
  · rintro ⟨now, la, src, m, l, r, p, rfl, hc, hs, hl, hm, hcl, hk, hr, htp, h1, h2, h3, hp, rfl⟩
    have hin := (inboundOn_iff a (.inbound now la src m) now l src m).2 ⟨la, rfl, hc, hs, hl⟩
    rw [hin]
    simp [hm, hcl, hk, hr, htp, h1, h2, h3, hp]

theorem issueOf_iff_ok (a : Agent) (now la ri v : Nat) :
    (issueOf a (.renominate now la ri v)).isSome = true ↔ Out.res "ok" ∈ (step a (.renominate now la ri v)).2 := by
  constructor
  · intro h
    obtain ⟨x, hx⟩ := Option.isSome_iff_exists.mp h
    obtain ⟨v', la', ra⟩ := x
    obtain ⟨now', ri', l, r, heq, hc, hen, hl, hr, hp, _⟩ := issueOf_inv hx
    simp only [Ev.renominate.injEq] at heq
    obtain ⟨rfl, rfl, rfl, rfl⟩ := heq
    rw [step_renominate_ok a now la ri v l r hc hen hl hr hp]
    simp
  · intro h
    simp only [step] at h
    simp only [issueOf]
    split at h
    · simp at h
    · rename_i hc
      split at h
      · simp at h
      · rename_i hen
        have hc' : a.controlling = true := by simpa using hc
        have hen' : a.cfg.enableRenomination = true := by simpa using hen
        cases hl : a.localByAddr la with
        | none => rw [hl] at h; simp at h
        | some l =>
          cases hr : a.remotes[ri]? with
          | none => rw [hl, hr] at h; simp at h
          | some r =>
            rw [hl, hr] at h
            simp only [] at h
            cases hp : a.findPair l r with
            | none => rw [hp] at h; simp at h
            | some p => simp [hc', hen', hp]
end IceProofs.C20S

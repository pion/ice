import IceProofs.AgentC03Basic
import IceProofs.AgentMoves
/-!
# C03 — "no pair is newly validated" frame (`NoNew`) of every move, hence of every step

`gResp := true` / `state := .succeeded` (full agent) is written in exactly one place of the model:
`Agent.handleSuccess`, on the pair found by `findPair l r`, after the consumed pending entry passed the
symmetry test `pd.net == l.net && pd.dest == src && pd.src == l.addr`.  This file proves that as a relation
between pre- and post-state of EVERY step (all events, timers and forced ticks included).
-/
namespace IceProofs.C03
open IceModel.AgentCore IceProofs.Agent

/-- `a'` validates no pair that `a` had not validated already — except possibly the pair with id `ex`:
every pair of `a'` with `gResp` (on a full agent: in state Succeeded) has an ancestor of the same id in
`a` that already had it.  (New pairs start with `gResp = false`, state Waiting.) -/
structure NoNew (ex : Option Nat) (a a' : Agent) : Prop where
  cfg : a'.cfg = a.cfg
  resp : ∀ p' ∈ a'.checklist, some p'.id ≠ ex → p'.gResp = true →
    ∃ p ∈ a.checklist, p.id = p'.id ∧ p.gResp = true
  succ : a.cfg.lite = false → ∀ p' ∈ a'.checklist, some p'.id ≠ ex → p'.state = .succeeded →
    ∃ p ∈ a.checklist, p.id = p'.id ∧ p.state = .succeeded

theorem NoNew.refl (ex : Option Nat) (a : Agent) : NoNew ex a a :=
  ⟨rfl, fun p' hp' _ hg => ⟨p', hp', rfl, hg⟩, fun _ p' hp' _ hs => ⟨p', hp', rfl, hs⟩⟩

theorem NoNew.of_eq {ex : Option Nat} {a a' : Agent} (hc : a'.cfg = a.cfg) (hl : a'.checklist = a.checklist) :
    NoNew ex a a' :=
  ⟨hc, fun p' hp' _ hg => ⟨p', hl ▸ hp', rfl, hg⟩, fun _ p' hp' _ hs => ⟨p', hl ▸ hp', rfl, hs⟩⟩

theorem NoNew.of_nil {ex : Option Nat} {a a' : Agent} (hc : a'.cfg = a.cfg) (hl : a'.checklist = []) :
    NoNew ex a a' :=
  ⟨hc, fun p' hp' => (by rw [hl] at hp'; cases hp'), fun _ p' hp' => (by rw [hl] at hp'; cases hp')⟩

theorem NoNew.trans {ex : Option Nat} {a b c : Agent} (h1 : NoNew ex a b) (h2 : NoNew ex b c) : NoNew ex a c := by
  refine ⟨h2.cfg.trans h1.cfg, ?_, ?_⟩
  · intro p'' hp'' hne hg
    obtain ⟨p', hp', hid', hg'⟩ := h2.resp p'' hp'' hne hg
    obtain ⟨p, hp, hid, hg0⟩ := h1.resp p' hp' (by rw [hid']; exact hne) hg'
    exact ⟨p, hp, hid.trans hid', hg0⟩
  · intro hl p'' hp'' hne hs
    obtain ⟨p', hp', hid', hs'⟩ := h2.succ (by rw [h1.cfg]; exact hl) p'' hp'' hne hs
    obtain ⟨p, hp, hid, hs0⟩ := h1.succ hl p' hp' (by rw [hid']; exact hne) hs'
    exact ⟨p, hp, hid.trans hid', hs0⟩

theorem NoNew.weaken {ex : Option Nat} {a a' : Agent} (h : NoNew none a a') : NoNew ex a a' :=
  ⟨h.cfg, fun p' hp' _ hg => h.resp p' hp' (fun e => by cases e) hg,
   fun hl p' hp' _ hs => h.succ hl p' hp' (fun e => by cases e) hs⟩

theorem NoNew.trans_left {ex : Option Nat} {a b c : Agent} (h1 : NoNew ex a b) (h2 : NoNew none b c) :
    NoNew ex a c := h1.trans h2.weaken

theorem NoNew.trans_right {ex : Option Nat} {a b c : Agent} (h1 : NoNew none a b) (h2 : NoNew ex b c) :
    NoNew ex a c := h1.weaken.trans h2

theorem NoNew.modPair {ex : Option Nat} (a : Agent) (id : Nat) (f : Pair → Pair)
    (hid : ∀ p, (f p).id = p.id)
    (hg : some id ≠ ex → ∀ p ∈ a.checklist, p.id = id → (f p).gResp = true → p.gResp = true)
    (hs : some id ≠ ex → a.cfg.lite = false → ∀ p ∈ a.checklist, p.id = id →
      (f p).state = .succeeded → p.state = .succeeded) :
    NoNew ex a (a.modPair id f) := by
  refine ⟨rfl, ?_, ?_⟩
  · intro q hq hne hgq
    obtain ⟨p, hp, h | h⟩ := mem_modPair hq
    · obtain ⟨e, rfl⟩ := h
      rw [hid, e] at hne
      exact ⟨p, hp, (hid p).symm, hg hne p hp e hgq⟩
    · obtain ⟨_, rfl⟩ := h
      exact ⟨q, hp, rfl, hgq⟩
  · intro hl q hq hne hsq
    obtain ⟨p, hp, h | h⟩ := mem_modPair hq
    · obtain ⟨e, rfl⟩ := h
      rw [hid, e] at hne
      exact ⟨p, hp, (hid p).symm, hs hne hl p hp e hsq⟩
    · obtain ⟨_, rfl⟩ := h
      exact ⟨q, hp, rfl, hsq⟩

theorem NoNew.modPair_keep {ex : Option Nat} (a : Agent) (id : Nat) (f : Pair → Pair)
    (hid : ∀ p, (f p).id = p.id) (hg : ∀ p, (f p).gResp = p.gResp)
    (hs : ∀ p, (f p).state = .succeeded → p.state = .succeeded) :
    NoNew ex a (a.modPair id f) :=
  NoNew.modPair a id f hid (fun _ p _ _ h => by rw [hg] at h; exact h) (fun _ _ p _ _ h => hs p h)

theorem NoNew.modPair_ex (a : Agent) (id : Nat) (f : Pair → Pair) (hid : ∀ p, (f p).id = p.id) :
    NoNew (some id) a (a.modPair id f) :=
  NoNew.modPair a id f hid (fun h => absurd rfl h) (fun h => absurd rfl h)

theorem NoNew.modPair_lite {ex : Option Nat} (a : Agent) (id : Nat) (f : Pair → Pair) (hl : a.cfg.lite = true)
    (hid : ∀ p, (f p).id = p.id) (hg : ∀ p, (f p).gResp = p.gResp) :
    NoNew ex a (a.modPair id f) :=
  NoNew.modPair a id f hid (fun _ p _ _ h => by rw [hg] at h; exact h)
    (fun _ h => by rw [hl] at h; cases h)

theorem addPair_nn {ex : Option Nat} (a : Agent) (l r : Cand) : NoNew ex a (a.addPair l r).1 := by
  have hnew : ∀ q ∈ (a.addPair l r).1.checklist, q ∈ a.checklist ∨
      q = { id := a.nextPairID + 1, l := l.uid, r := r.uid, controlling := a.controlling } := by
    intro q hq
    simp only [Agent.addPair, List.mem_append, List.mem_singleton] at hq
    exact hq
  refine ⟨rfl, ?_, ?_⟩
  · intro q hq _ hg
    rcases hnew q hq with h | rfl
    · exact ⟨q, h, rfl, hg⟩
    · cases hg
  · intro _ q hq _ hs
    rcases hnew q hq with h | rfl
    · exact ⟨q, h, rfl, hs⟩
    · cases hs

theorem seenLocalSent_nn {ex : Option Nat} (a : Agent) (uid now : Nat) : NoNew ex a (a.seenLocalSent uid now) :=
  NoNew.of_eq rfl rfl

theorem sendRequest_nn {ex : Option Nat} (a : Agent) (now : Nat) (l r : Cand) (uc : Bool) (nom : Option Nat) :
    NoNew ex a (a.sendRequest now l r uc nom).1 := by
  unfold Agent.sendRequest
  simp only []
  split
  · refine NoNew.trans ?_ (seenLocalSent_nn _ _ _)
    refine NoNew.trans ?_ (NoNew.modPair_keep _ _ _ (fun _ => rfl) (fun _ => rfl) (fun _ h => h))
    exact NoNew.of_eq rfl rfl
  · refine NoNew.trans ?_ (seenLocalSent_nn _ _ _)
    exact NoNew.of_eq rfl rfl

/-- `ex` is no pair, or the pair that the message being handled validates -/
def Own (cx : Agent.Ctx) (ex : Option Nat) : Prop :=
  ex = none ∨ ∃ now l r src m pd p, cx.validates now l r src m pd p ∧ ex = some p.id

theorem Own.unique {e : Ev} {a0 : Agent} {x y : Nat} (hx : Own (.step e a0) (some x)) (hy : Own (.step e a0) (some y)) :
    x = y := by
  obtain ⟨now, l, r, src, m, pd, p, h, hxp⟩ := hx.resolve_left (by simp)
  obtain ⟨now', l', r', src', m', pd', p', h', hyp⟩ := hy.resolve_left (by simp)
  obtain ⟨la, he, hl, _⟩ := h.inbound
  obtain ⟨la', he', hl', _⟩ := h'.inbound
  cases he.symm.trans he'
  cases hl.symm.trans hl'
  cases h.remote.symm.trans h'.remote
  cases h.pair.symm.trans h'.pair
  exact Option.some.inj (hxp.trans hyp.symm)

theorem nn_move {cx : Agent.Ctx} {a : Agent} {r : Agent × List Out} (h : Agent.Move cx a r) :
    ∃ ex, Own cx ex ∧ NoNew ex a r.1 := by
  have keep : ∀ id (f : Pair → Pair), (∀ p, (f p).id = p.id) → (∀ p, (f p).gResp = p.gResp) →
      (∀ p, (f p).state = .succeeded → p.state = .succeeded) → ∃ ex, Own cx ex ∧ NoNew ex a (a.modPair id f) :=
    fun id f h1 h2 h3 => ⟨none, Or.inl rfl, NoNew.modPair_keep a id f h1 h2 h3⟩
  cases h with
  | pair id f hf =>
    cases hf with
    | succeeded now l r src m pd p hv hid =>
      exact ⟨some id, Or.inr ⟨now, l, r, src, m, pd, p, hv, hid ▸ rfl⟩, NoNew.modPair_ex a id _ fun _ => rfl⟩
    | liteValid _ _ _ _ hl => exact ⟨none, Or.inl rfl, NoNew.modPair_lite a id _ hl (fun _ => rfl) (fun _ => rfl)⟩
    | inProgress _ => exact keep _ _ (fun _ => rfl) (fun _ => rfl) (fun _ h => by cases h)
    | failed _ => exact keep _ _ (fun _ => rfl) (fun _ => rfl) (fun _ h => by cases h)
    | _ => exact keep _ _ (fun _ => rfl) (fun _ => rfl) (fun _ h => h)
  | addPair l r => exact ⟨none, Or.inl rfl, addPair_nn a l r⟩
  | failed => exact ⟨none, Or.inl rfl, NoNew.of_nil rfl rfl⟩
  | select id =>
    refine ⟨none, Or.inl rfl, ?_⟩
    rw [Agent.select_update]
    exact (NoNew.modPair_keep a id (fun p => { p with nominated := true }) (fun _ => rfl) (fun _ => rfl) (fun _ h => h)).trans
      (NoNew.of_eq rfl rfl)
  | restart now x p => exact ⟨none, Or.inl rfl, by rw [Agent.doRestart_update]; exact NoNew.of_nil rfl rfl⟩
  | request now l r uc => exact ⟨none, Or.inl rfl, sendRequest_nn a now l r uc none⟩
  | issue now l r v => exact ⟨none, Or.inl rfl, (sendRequest_nn a now l r true _).trans (NoNew.of_eq rfl rfl)⟩
  | _ => exact ⟨none, Or.inl rfl, NoNew.of_eq rfl rfl⟩

/-- Ownership of validation: a step of the agent validates no pair (no new `gResp`; on a full agent no new
Succeeded pair) — unless the event is an inbound Binding success response authenticated with the remote
password, received on a known local candidate `l` from a known remote candidate `r`, whose transaction id
was pending (`pd`) for exactly this 3-tuple; then the one pair validated is `findPair l r`. -/
theorem step_own (a : Agent) (e : Ev) :
    NoNew none a (step a e).1 ∨
    ∃ now la src m l r pd p, e = .inbound now la src m ∧ m.method = 1 ∧ m.cls = 2 ∧ m.key = some a.remotePwd ∧
      a.started = true ∧ a.closed = false ∧ a.localByAddr la = some l ∧ a.findRemote l.net src = some r ∧
      (a.takePending now m.tid).2 = some pd ∧ pd.net = l.net ∧ pd.dest = src ∧ pd.src = l.addr ∧
      a.findPair l r = some p ∧ NoNew (some p.id) a (step a e).1 := by
  have h : ∃ ex, Own (.step e a) ex ∧ NoNew ex a (step a e).1 := by
    refine Agent.Chain.ind (R := fun b r => ∃ ex, Own (.step e a) ex ∧ NoNew ex b r.1)
      (fun b => ⟨none, Or.inl rfl, NoNew.refl _ b⟩) (fun _ _ => nn_move) ?_ (Agent.step_chain a e)
    rintro b r1 r2 ⟨x, hx, h1⟩ ⟨y, hy, h2⟩
    cases x with
    | none => exact ⟨y, hy, h1.trans_right h2⟩
    | some x =>
      cases y with
      | none => exact ⟨some x, hx, h1.trans_left h2⟩
      | some y => exact ⟨some x, hx, h1.trans (Own.unique hy hx ▸ h2)⟩
  obtain ⟨ex, hex | ⟨now, l, r, src, m, pd, p, hv, rfl⟩, h⟩ := h
  · exact Or.inl (hex ▸ h)
  · obtain ⟨la, he, hl, hs, hc⟩ := hv.inbound
    have hp := hv.path
    simp only [Bool.and_eq_true, beq_iff_eq] at hp
    exact Or.inr ⟨now, la, src, m, l, r, pd, p, he, hv.method, hv.cls, hv.key, hs, hc, hl, hv.remote, hv.pending, hp.1.1, hp.1.2,
      hp.2, hv.pair, h⟩

end IceProofs.C03

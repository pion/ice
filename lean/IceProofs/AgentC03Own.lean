import IceProofs.AgentC03LiteNom
import IceProofs.AgentC03OwnFrame
import IceProofs.Sys2C01Agent
/-!
# C03 — "a check of its own" (F17)

A pending transaction records the address of the local candidate its request left from
(`Pending.src`) and `handleSuccess` accepts a response only on a local candidate with that address.  Two
consequences are proved here, for lite and full agents alike:

* **invariant** (`own_run`, `gResp_logged`): along EVERY history from a fresh agent, every listed pair with
  `gResp` (a transaction-matched success response arrived on it) had a Binding request of this agent emitted
  from ITS local candidate's address to ITS remote candidate's address.  The "log" is not a ghost field: it is
  the list of Binding-request datagrams in the outputs of the steps of the history (`requestLog`).
  The proof instantiates the per-agent invariant `AInv` of the C01 development (`Sys2C01Agent.lean`, which this file imports) —
  clause K3 (every pending transaction is a logged request from `pd.src` to `pd.dest`) and clause K5 (`respOK`)
  — with trivial reachability/sanity predicates, so that every hypothesis of `IceProofs.C01.step_post` is void.
* **step** (second half of this file, on top of `AgentC03OwnFrame.lean`): the only step that validates a pair
  is the arrival of an authenticated success response whose consumed pending entry was sent from the pair's
  local address to the pair's remote address.
-/
namespace IceProofs.C03
open IceModel.AgentCore
open IceProofs.C01 (Log reqs reqOf AInv view pv)

/-- the Binding requests `(tid, from, to)` emitted along a history, in order -/
def requestLog (a : Agent) : List Ev → Log
  | [] => []
  | e :: es => reqs (step a e).2 ++ requestLog (step a e).1 es

theorem mem_requestLog {a : Agent} {evs : List Ev} {x : Nat × Nat × Nat} (h : x ∈ requestLog a evs) :
    ∃ k, k < evs.length ∧ ∃ e m, evs[k]? = some e ∧
      Out.dgram x.2.1 x.2.2 m ∈ (step (run a (evs.take k)) e).2 ∧ m.cls = 0 ∧ m.tid = x.1 := by
  induction evs generalizing a with
  | nil => cases h
  | cons e es ih =>
    simp only [requestLog, List.mem_append] at h
    rcases h with h | h
    · refine ⟨0, by simp, e, ?_⟩
      simp only [reqs, List.mem_filterMap] at h
      obtain ⟨o, ho, hx⟩ := h
      cases o with
      | dgram f t m =>
        simp only [reqOf] at hx
        split at hx
        · rename_i hc
          simp only [Option.some.injEq] at hx
          subst hx
          exact ⟨m, rfl, by simpa [run] using ho, hc, rfl⟩
        · cases hx
      | _ => simp [reqOf] at hx
    · obtain ⟨k, hk, e', m, he', hm⟩ := ih h
      refine ⟨k + 1, by simp; omega, e', m, by simpa using he', ?_⟩
      simpa [run] using hm

/-- the trivial instance of the C01 per-agent invariant: no reachability or NAT-sanity predicate, only the
book-keeping clauses K1 (log entries carry this agent's transaction ids), K3 (pending ⊆ log, with source and
destination) and K5 (`gResp` ⇒ a logged request on the pair's own addresses) remain -/
def OwnInv (tag : Nat) (lite : Bool) (a : Agent) (L : Log) : Prop :=
  AInv (fun _ _ => True) (fun _ => True) (fun _ => True) tag lite (view a) L

/-- a fresh agent: nothing listed, nothing selected (`IsInit`), no transaction in flight, not connected -/
def Fresh (a : Agent) : Prop :=
  IsInit a ∧ a.pending = [] ∧ IceProofs.C01.isLive a.connState = false

theorem ownInv_init {a : Agent} (h : Fresh a) : OwnInv a.tag a.cfg.lite a [] := by
  obtain ⟨⟨h1, h2, h3, h4⟩, h5, h6⟩ := h
  unfold OwnInv
  refine { tag_eq := rfl, lite_eq := rfl, logOK := by simp, logFun := by simp, logSane := by simp,
           logSaneR := by simp, pendOK := ?_, locSane := ?_, remSane := ?_, uidL := ?_, uidR := ?_, uniqR := ?_,
           pairId := ?_, pairUniq := ?_, pairUid := ?_, succOK := ?_, respOK := ?_, selOK := ?_, connOK := ?_ } <;>
    simp [view, h1, h2, h3, h4, h5, h6]

theorem ownInv_step {tag : Nat} {lite : Bool} {a : Agent} {L : Log} (h : OwnInv tag lite a L) (e : Ev) :
    OwnInv tag lite (step a e).1 (L ++ reqs (step a e).2) :=
  (IceProofs.C01.step_post h e (fun _ _ _ => trivial) (fun _ _ _ => trivial)
    (fun _ _ _ _ _ _ _ _ => trivial) (fun _ _ _ _ _ _ => trivial)).1

theorem ownInv_run {tag : Nat} {lite : Bool} {a : Agent} {L : Log} (h : OwnInv tag lite a L) (evs : List Ev) :
    OwnInv tag lite (run a evs) (L ++ requestLog a evs) := by
  induction evs generalizing a L with
  | nil => simpa [run, requestLog] using h
  | cons e es ih =>
    have := ih (ownInv_step h e)
    simpa [run, requestLog, List.append_assoc] using this

theorem own_run {a0 : Agent} (h0 : Fresh a0) (evs : List Ev) :
    OwnInv a0.tag a0.cfg.lite (run a0 evs) (requestLog a0 evs) := by
  simpa using ownInv_run (ownInv_init h0) evs

theorem OwnInv.gResp_logged {tag : Nat} {lite : Bool} {a : Agent} {L : Log} (h : OwnInv tag lite a L)
    {p : Pair} (hp : p ∈ a.checklist) (hg : p.gResp = true) {l r : Cand}
    (hl : a.localOf p.l = some l) (hr : a.remoteOf p.r = some r) :
    ∃ tid, (tid, l.addr, r.addr) ∈ L := by
  obtain ⟨e, he, h1, h2⟩ := h.respOK (pv p) (IceProofs.C01.mem_checklist_pv hp) hg
  have e1 := h1 l.addr (IceProofs.C01.addrOf_locs_of_localOf hl)
  have e2 := h2 r.addr (IceProofs.C01.addrOf_rems_of_remoteOf hr)
  refine ⟨e.1, ?_⟩
  rw [e1, e2]
  exact he

theorem OwnInv.pending_logged {tag : Nat} {lite : Bool} {a : Agent} {L : Log} (h : OwnInv tag lite a L)
    {pd : Pending} (hpd : pd ∈ a.pending) : (pd.tid, pd.src, pd.dest) ∈ L :=
  h.pendOK (IceProofs.C01.pdv pd) (List.mem_map.mpr ⟨pd, hpd, rfl⟩)

theorem NoNew.not_new {ex : Option Nat} {a a' : Agent} (h : NoNew ex a a') {p' : Pair} (hp' : p' ∈ a'.checklist)
    (hne : some p'.id ≠ ex)
    (hnew : (p'.gResp = true ∧ ∀ p ∈ a.checklist, p.id = p'.id → p.gResp = false) ∨
            (a.cfg.lite = false ∧ p'.state = .succeeded ∧ ∀ p ∈ a.checklist, p.id = p'.id → p.state ≠ .succeeded)) :
    False := by
  rcases hnew with ⟨hg, hall⟩ | ⟨hl, hs, hall⟩
  · obtain ⟨p, hp, hid, hpg⟩ := h.resp p' hp' hne hg
    rw [hall p hp hid] at hpg
    cases hpg
  · obtain ⟨p, hp, hid, hps⟩ := h.succ hl p' hp' hne hs
    exact hall p hp hid hps

/-- Any state, any event: a pair that the step newly validates (`gResp` set, or — full agent — state
Succeeded, where no pair of that id had it before) is the pair `(l, r)` of an authenticated success response
arriving on local candidate `l` from the address of remote candidate `r`, whose consumed pending entry `pd` was
sent over `l`'s network type, to `r`'s address, from `l`'s address — the addresses of the pair's own ends. -/
theorem step_validates_own (a : Agent) (e : Ev) (p' : Pair) (hp' : p' ∈ (step a e).1.checklist)
    (hnew : (p'.gResp = true ∧ ∀ p ∈ a.checklist, p.id = p'.id → p.gResp = false) ∨
            (a.cfg.lite = false ∧ p'.state = .succeeded ∧ ∀ p ∈ a.checklist, p.id = p'.id → p.state ≠ .succeeded)) :
    ∃ now la src m l r pd p pl pr,
      e = .inbound now la src m ∧ m.method = 1 ∧ m.cls = 2 ∧ m.key = some a.remotePwd ∧
      a.localByAddr la = some l ∧ a.findRemote l.net src = some r ∧
      (a.takePending now m.tid).2 = some pd ∧ pd ∈ a.pending ∧ pd.tid = m.tid ∧
      pd.net = l.net ∧ pd.dest = src ∧ pd.src = l.addr ∧
      a.findPair l r = some p ∧ p.id = p'.id ∧ p ∈ a.checklist ∧
      a.localOf p.l = some pl ∧ a.remoteOf p.r = some pr ∧ pl.addr = pd.src ∧ pr.addr = pd.dest := by
  rcases step_own a e with h | ⟨now, la, src, m, l, r, pd, p, he, hm, hc, hk, _, _, hl, hr, htp, hnet, hdest, hsrc, hfp, h⟩
  · exact (h.not_new hp' (fun x => by cases x) hnew).elim
  · have hid : p.id = p'.id := by
      apply Classical.byContradiction
      intro hne
      exact h.not_new hp' (fun x => hne (Option.some.inj x).symm) hnew
    obtain ⟨hpm, pl, pr, hpl, hpr, hla, hra⟩ := IceProofs.C01.findPair_spec hfp
    obtain ⟨hpdm, hpdt⟩ := takePending_mem a now m.tid pd htp
    have hrs : r.addr = src := (IceProofs.C01.findRemote_spec hr).2
    exact ⟨now, la, src, m, l, r, pd, p, pl, pr, he, hm, hc, hk, hl, hr, htp, hpdm, hpdt, hnet, hdest, hsrc, hfp, hid, hpm,
      hpl, hpr, hla.trans hsrc.symm, hra.trans (hrs.trans hdest.symm)⟩

end IceProofs.C03

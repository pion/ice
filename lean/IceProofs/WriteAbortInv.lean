import IceModel.WriteAbort
import IceProofs.CountP
/-!
# Inductive invariant of the write-abort protocol (DESIGN.md Appendix D.1, I1–I5 and auxiliaries)

Proved for every state reachable when `SetWriteDeadline(time.Now())` does not fail (`ReachableNF`):
any number of writer and aborter threads, all interleavings of the atomic steps.

The invariant speaks of the state only through the four registers and seven thread counts.  `step_spec`
says which thread an enabled action moves, from where to where, and what it does to the registers;
`inv_wr_get` / `inv_wr_set`, `inv_ab_get` / `inv_ab_set` turn the move of one thread into `±1` on the counts; what is left of each
transition is a fact about eleven numbers (`invN_…`).
-/
namespace IceProofs.WriteAbort
open IceModel.WriteAbort IceProofs.CountP

theorem step_spec {s s' : State} {a : Action} (h : step s a = some s') :
    match a with
    | .spawnW => s' = { s with wr := s.wr ++ [.w0] }
    | .spawnA => s' = { s with ab := s.ab ++ [.a0] }
    | .startCtxErr i => s.wr[i]? = some .w0 ∧ s' = { s with wr := s.wr.set i .done }
    | .start i => s.wr[i]? = some .w0 ∧
        (s.bbit = true ∧ s' = s ∨ s.bbit = false ∧ s' = { s with cnt := s.cnt + 1, wr := s.wr.set i .w1 })
    | .writeRet i r => s.wr[i]? = some .w1 ∧ ¬ (r = .timeout ∧ s.rpast = false) ∧
        s' = { s with wr := s.wr.set i .w2 }
    | .finish i => s.wr[i]? = some .w2 ∧
        (s.cnt = 0 ∧ s' = { s with wr := s.wr.set i .done }
         ∨ (s.bbit = true ∧ s.cnt = 1) ∧ s' = { s with cnt := 0, wr := s.wr.set i (.w3 s.epoch) }
         ∨ s.cnt ≠ 0 ∧ ¬ (s.bbit = true ∧ s.cnt = 1) ∧ s' = { s with cnt := s.cnt - 1, wr := s.wr.set i .done })
    | .clearLoad i => ∃ ep, s.wr[i]? = some (.w3 ep) ∧
        (s.bbit = false ∧ s' = { s with wr := s.wr.set i .done }
         ∨ s.bbit = true ∧ s.dbit = false ∧ s' = s
         ∨ s.bbit = true ∧ s.dbit = true ∧ s' = { s with wr := s.wr.set i (.w3c ep) })
    | .clearSet i => ∃ ep, s.wr[i]? = some (.w3c ep) ∧ s' = { s with rpast := false, wr := s.wr.set i (.w4 ep) }
    | .clearStore i => ∃ ep, s.wr[i]? = some (.w4 ep) ∧
        s' = { s with cnt := 0, dbit := false, bbit := false, wr := s.wr.set i .done }
    | .abortCas j => s.ab[j]? = some .a0 ∧
        ((s.bbit = true ∨ s.cnt = 0) ∧ s' = { s with ab := s.ab.set j (.done false) }
         ∨ s.bbit = false ∧ s.cnt ≠ 0 ∧ s' = { s with bbit := true, epoch := s.epoch + 1, ab := s.ab.set j .a1 })
    | .abortSet j ok => s.ab[j]? = some .a1 ∧
        (ok = true ∧ s' = { s with rpast := true, ab := s.ab.set j .a2 }
         ∨ ok = false ∧ s' = { s with ab := s.ab.set j .a3 })
    | .abortArm j => s.ab[j]? = some .a2 ∧
        ((s.bbit = false ∨ s.dbit = true) ∧ s' = { s with ab := s.ab.set j (.done false) }
         ∨ s.bbit = true ∧ s.dbit = false ∧ s' = { s with dbit := true, ab := s.ab.set j (.done false) })
    | .abortClear j => s.ab[j]? = some .a3 ∧
        s' = { s with bbit := false, dbit := false, ab := s.ab.set j (.done true) } := by
  cases a <;> dsimp only [step] at h ⊢
  case spawnW => exact (Option.some.inj h).symm
  case spawnA => exact (Option.some.inj h).symm
  case startCtxErr i =>
    split at h
    · exact ⟨‹_›, (Option.some.inj h).symm⟩
    · cases h
  case start i =>
    split at h
    · refine ⟨‹_›, ?_⟩
      split at h <;> cases h
      · exact Or.inl ⟨‹_›, rfl⟩
      · exact Or.inr ⟨eq_false_of_ne_true ‹_›, rfl⟩
    · cases h
  case writeRet i r =>
    split at h
    · split at h
      · cases h
      · exact ⟨‹_›, ‹_›, (Option.some.inj h).symm⟩
    · cases h
  case finish i =>
    split at h
    · refine ⟨‹_›, ?_⟩
      split at h
      · cases h; exact Or.inl ⟨‹_›, rfl⟩
      · split at h <;> cases h
        · exact Or.inr (Or.inl ⟨‹_›, rfl⟩)
        · exact Or.inr (Or.inr ⟨‹_›, ‹_›, rfl⟩)
    · cases h
  case clearLoad i =>
    split at h
    · refine ⟨_, ‹_›, ?_⟩
      split at h
      · cases h; exact Or.inl ⟨‹_›, rfl⟩
      · have hb : s.bbit = true := Bool.of_not_eq_false ‹_›
        split at h <;> cases h
        · exact Or.inr (Or.inl ⟨hb, ‹_›, rfl⟩)
        · exact Or.inr (Or.inr ⟨hb, Bool.of_not_eq_false ‹_›, rfl⟩)
    · cases h
  case clearSet i =>
    split at h
    · exact ⟨_, ‹_›, (Option.some.inj h).symm⟩
    · cases h
  case clearStore i =>
    split at h
    · exact ⟨_, ‹_›, (Option.some.inj h).symm⟩
    · cases h
  case abortCas j =>
    split at h
    · refine ⟨‹_›, ?_⟩
      split at h <;> cases h
      · exact Or.inl ⟨‹_›, rfl⟩
      · exact Or.inr ⟨eq_false_of_ne_true (not_or.mp ‹_›).1, (not_or.mp ‹_›).2, rfl⟩
    · cases h
  case abortSet j ok =>
    split at h
    · refine ⟨‹_›, ?_⟩
      split at h <;> cases h
      · exact Or.inl ⟨‹_›, rfl⟩
      · exact Or.inr ⟨eq_false_of_ne_true ‹_›, rfl⟩
    · cases h
  case abortArm j =>
    split at h
    · refine ⟨‹_›, ?_⟩
      split at h <;> cases h
      · exact Or.inl ⟨‹_›, rfl⟩
      · exact Or.inr ⟨Bool.of_not_eq_false (not_or.mp ‹_›).1, eq_false_of_ne_true (not_or.mp ‹_›).2, rfl⟩
    · cases h
  case abortClear j =>
    split at h
    · exact ⟨‹_›, (Option.some.inj h).symm⟩
    · cases h

theorem wr_counts_le (l : List WLoc) :
    l.countP WLoc.committed ≤ l.countP WLoc.clearing ∧ l.countP WLoc.isW4 ≤ l.countP WLoc.committed :=
  ⟨List.countP_mono_left (by intro a _; cases a <;> simp [WLoc.committed, WLoc.clearing]),
   List.countP_mono_left (by intro a _; cases a <;> simp [WLoc.committed, WLoc.isW4])⟩

theorem ab_counts_le (l : List ALoc) : l.countP ALoc.isA2 ≤ l.countP ALoc.active :=
  List.countP_mono_left (by intro a _; cases a <;> simp [ALoc.active, ALoc.isA2])

theorem committed_le_clearing (s : State) : s.nCommitted ≤ s.nClearing := (wr_counts_le s.wr).1

theorem w4_le_committed (s : State) : s.nW4 ≤ s.nCommitted := (wr_counts_le s.wr).2

theorem a2_le_active (s : State) : s.nA2 ≤ s.nActive := ab_counts_le s.ab

theorem a3_le_active (s : State) : s.nA3 ≤ s.nActive :=
  List.countP_mono_left (by intro a _; cases a <;> simp [ALoc.active, ALoc.isA3])

/-- The invariant as arithmetic over the 0/1 values of the three flag bits and the thread counts
(`omega`-friendly form), clause by clause:
I1 `cnt = nFlight`; I2 (`b ∧ ¬d → nActive = 1`, `d → nActive = 0`, `¬b → nActive = 0`, no aborter in
the failure branch); I3 (`nClearing ≤ 1`, and then `cnt = 0 ∧ b`); I4 (`nCommitted > 0 → d`);
I5 (`r → b`); `d → b`; I6 (`b → cnt > 0 ∨ nClearing > 0`); I7 (`d ∧ nW4 = 0 → r`, `nA2 > 0 → r`);
I8 (`nW4 > 0 → ¬r`). -/
def InvN (cnt d b r nFlight nClearing nCommitted nW4 nActive nA2 nA3 : Nat) : Prop :=
  cnt = nFlight ∧ (b = 1 → d = 0 → nActive = 1) ∧ (d = 1 → nActive = 0) ∧ (b = 0 → nActive = 0) ∧ nA3 = 0
  ∧ nClearing ≤ 1 ∧ (0 < nClearing → cnt = 0 ∧ b = 1) ∧ (0 < nCommitted → d = 1) ∧ (r = 1 → b = 1)
  ∧ (d = 1 → b = 1) ∧ (b = 1 → 0 < cnt ∨ 0 < nClearing) ∧ (d = 1 → nW4 = 0 → r = 1) ∧ (0 < nA2 → r = 1)
  ∧ (0 < nW4 → r = 0)

/-- The inductive invariant of the non-failing system. -/
def Inv (s : State) : Prop :=
  InvN s.cnt s.dbit.toNat s.bbit.toNat s.rpast.toNat s.nFlight s.nClearing s.nCommitted s.nW4
    s.nActive s.nA2 s.nA3

theorem inv_init : Inv State.init := by
  simp [Inv, InvN, State.init, State.nFlight, State.nActive, State.nA3, State.nClearing,
    State.nCommitted, State.nW4, State.nA2]

/-- I5: the socket's deadline is armed only while the word is blocked. -/
theorem Inv.rpast_of_unblocked {s : State} (hi : Inv s) (hb : s.bbit = false) : s.rpast = false := by
  cases hr : s.rpast with
  | false => rfl
  | true =>
    have := hi.2.2.2.2.2.2.2.2.1
    rw [hr, hb] at this
    exact absurd (this rfl) (by decide)

/-- A blocked word that no aborter is working on and whose clearing has not reached `Store(0)` is armed, the socket's
deadline is in the past, and some writer is still to come through `finishWrite` or the clearing (I2, I7, I6). -/
theorem Inv.armed_of_blocked_idle {s : State} (hi : Inv s) (hb : s.bbit = true) (ha : s.nActive = 0) (hw : s.nW4 = 0) :
    s.dbit = true ∧ s.rpast = true ∧ (0 < s.nFlight ∨ 0 < s.nClearing) := by
  obtain ⟨h1, h2, -, -, -, -, -, -, -, -, h11, h12, -, -⟩ := hi
  rw [hb] at h2 h11
  have hd : s.dbit = true := by
    cases hd : s.dbit with
    | true => rfl
    | false => rw [hd, ha] at h2; exact absurd (h2 rfl rfl) (by decide)
  have hr : s.rpast = true := by
    cases hr : s.rpast with
    | true => rfl
    | false => rw [hd, hr, hw] at h12; exact absurd (h12 rfl rfl) (by decide)
  exact ⟨hd, hr, h1 ▸ h11 rfl⟩

theorem inv_wr_get {s : State} {i : Nat} {old : WLoc} (hw : s.wr[i]? = some old) (hi : Inv s) :
    InvN s.cnt s.dbit.toNat s.bbit.toNat s.rpast.toNat
      ((s.wr.eraseIdx i).countP WLoc.inFlight + old.inFlight.toNat)
      ((s.wr.eraseIdx i).countP WLoc.clearing + old.clearing.toNat)
      ((s.wr.eraseIdx i).countP WLoc.committed + old.committed.toNat)
      ((s.wr.eraseIdx i).countP WLoc.isW4 + old.isW4.toNat) s.nActive s.nA2 s.nA3 := by
  unfold Inv State.nFlight State.nClearing State.nCommitted State.nW4 at hi
  rwa [countP_eq_eraseIdx _ hw, countP_eq_eraseIdx _ hw, countP_eq_eraseIdx _ hw, countP_eq_eraseIdx _ hw] at hi

theorem inv_wr_set {s t : State} {i : Nat} {old : WLoc} (hw : s.wr[i]? = some old) {w : WLoc}
    (hwr : t.wr = s.wr.set i w) (hab : t.ab = s.ab)
    (h : InvN t.cnt t.dbit.toNat t.bbit.toNat t.rpast.toNat
      ((s.wr.eraseIdx i).countP WLoc.inFlight + w.inFlight.toNat)
      ((s.wr.eraseIdx i).countP WLoc.clearing + w.clearing.toNat)
      ((s.wr.eraseIdx i).countP WLoc.committed + w.committed.toNat)
      ((s.wr.eraseIdx i).countP WLoc.isW4 + w.isW4.toNat) s.nActive s.nA2 s.nA3) : Inv t := by
  unfold Inv State.nFlight State.nClearing State.nCommitted State.nW4 State.nActive State.nA2 State.nA3
  rwa [hwr, hab, countP_set_eraseIdx _ w hw, countP_set_eraseIdx _ w hw, countP_set_eraseIdx _ w hw,
    countP_set_eraseIdx _ w hw]

theorem inv_ab_get {s : State} {j : Nat} {old : ALoc} (hj : s.ab[j]? = some old) (hi : Inv s) :
    InvN s.cnt s.dbit.toNat s.bbit.toNat s.rpast.toNat s.nFlight s.nClearing s.nCommitted s.nW4
      ((s.ab.eraseIdx j).countP ALoc.active + old.active.toNat)
      ((s.ab.eraseIdx j).countP ALoc.isA2 + old.isA2.toNat)
      ((s.ab.eraseIdx j).countP ALoc.isA3 + old.isA3.toNat) := by
  unfold Inv State.nActive State.nA2 State.nA3 at hi
  rwa [countP_eq_eraseIdx _ hj, countP_eq_eraseIdx _ hj, countP_eq_eraseIdx _ hj] at hi

theorem inv_ab_set {s t : State} {j : Nat} {old : ALoc} (hj : s.ab[j]? = some old) {a : ALoc}
    (hab : t.ab = s.ab.set j a) (hwr : t.wr = s.wr)
    (h : InvN t.cnt t.dbit.toNat t.bbit.toNat t.rpast.toNat s.nFlight s.nClearing s.nCommitted s.nW4
      ((s.ab.eraseIdx j).countP ALoc.active + a.active.toNat)
      ((s.ab.eraseIdx j).countP ALoc.isA2 + a.isA2.toNat)
      ((s.ab.eraseIdx j).countP ALoc.isA3 + a.isA3.toNat)) : Inv t := by
  unfold Inv State.nFlight State.nClearing State.nCommitted State.nW4 State.nActive State.nA2 State.nA3
  rwa [hwr, hab, countP_set_eraseIdx _ a hj, countP_set_eraseIdx _ a hj, countP_set_eraseIdx _ a hj]

/-! ### The transitions on the registers and counts

One fact per branch of `step` that changes a register or a count; `F Cl Co W` count the writers other than the
acting one, `A A2 A3` the aborters other than the acting one. -/
section Arith

/-- with the flag bits concrete: unfold `InvN`, drop the clauses the bits decide, close with `omega` -/
macro "wa_omega" : tactic => `(tactic| (
  simp only [InvN, Bool.toNat_false, Bool.toNat_true, true_implies, implies_true, and_true, true_and] at * <;> omega))

variable {c : Nat} {d b r : Bool} {F Cl Co W A A2 A3 : Nat}

/-- An unblocked word is not armed, and neither is the socket (`d → b`, I5). -/
theorem invN_bits_of_unblocked (hi : InvN c d.toNat b.toNat r.toNat F Cl Co W A A2 A3) (hb : b = false) :
    d = false ∧ r = false := by
  subst hb
  constructor
  · cases d with
    | false => rfl
    | true => exact absurd (hi.2.2.2.2.2.2.2.2.2.1 rfl) (by decide)
  · cases r with
    | false => rfl
    | true => exact absurd (hi.2.2.2.2.2.2.2.2.1 rfl) (by decide)

/-- `start`, not blocked: W0 → W1, count + 1. -/
theorem invN_start (hi : InvN c d.toNat b.toNat r.toNat F Cl Co W A A2 A3) (hb : b = false) :
    InvN (c + 1) d.toNat b.toNat r.toNat (F + 1) Cl Co W A A2 A3 := by
  obtain ⟨rfl, rfl⟩ := invN_bits_of_unblocked hi hb
  subst hb; wa_omega

/-- `finish`: W2 → done on count 0 (which I1 excludes), W2 → W3 for the last writer of a blocked word, W2 → done
with count − 1 otherwise. -/
theorem invN_finish_zero (hi : InvN c d.toNat b.toNat r.toNat (F + 1) Cl Co W A A2 A3) (hc : c = 0) :
    InvN c d.toNat b.toNat r.toNat F Cl Co W A A2 A3 := by
  exact absurd (hi.1.symm.trans hc) (Nat.succ_ne_zero F)

theorem invN_finish_last (hi : InvN c d.toNat b.toNat r.toNat (F + 1) Cl Co W A A2 A3) (hb : b = true) (hc : c = 1) :
    InvN 0 d.toNat b.toNat r.toNat F (Cl + 1) Co W A A2 A3 := by
  subst hb hc
  obtain ⟨h1, h2, h3, h4, h5, h6, h7, h8, h9, h10, h11, h12, h13, h14⟩ := hi
  -- nobody was clearing, as the count was not 0 (I3)
  have hcl : Cl = 0 := Nat.eq_zero_of_not_pos fun h => absurd (h7 h).1 (by decide)
  subst hcl
  exact ⟨Nat.succ.inj h1, h2, h3, h4, h5, Nat.le_refl 1, fun _ => ⟨rfl, rfl⟩, h8, h9, h10,
    fun _ => Or.inr Nat.one_pos, h12, h13, h14⟩

/-- Only I1, I3 and I6 mention the count or the writers in flight; no writer is clearing (I3, as the count is not 0). -/
theorem invN_finish_dec (hi : InvN c d.toNat b.toNat r.toNat (F + 1) Cl Co W A A2 A3) (hc : c ≠ 0)
    (hl : ¬ (b = true ∧ c = 1)) : InvN (c - 1) d.toNat b.toNat r.toNat F Cl Co W A A2 A3 := by
  obtain ⟨h1, h2, h3, h4, h5, h6, h7, h8, h9, h10, h11, h12, h13, h14⟩ := hi
  refine ⟨by rw [h1]; rfl, h2, h3, h4, h5, h6, fun h => absurd (h7 h).1 hc, h8, h9, h10, fun hb => ?_, h12, h13, h14⟩
  have hc1 : c ≠ 1 := fun e => hl ⟨Bool.toNat_eq_one.mp hb, e⟩
  exact (h11 hb).imp (fun _ => by omega) id

/-- `clearLoad`: W3 → done when not blocked (which I3 excludes), W3 → W3c when blocked and armed. -/
theorem invN_clearLoad_free (hi : InvN c d.toNat b.toNat r.toNat F (Cl + 1) Co W A A2 A3) (hb : b = false) :
    InvN c d.toNat b.toNat r.toNat F Cl Co W A A2 A3 := by
  subst hb; have := hi.2.2.2.2.2.2.1; simp only [Bool.toNat_false] at this; omega

theorem invN_clearLoad_commit (hi : InvN c d.toNat b.toNat r.toNat F (Cl + 1) Co W A A2 A3) (hb : b = true)
    (hd : d = true) : InvN c d.toNat b.toNat r.toNat F (Cl + 1) (Co + 1) W A A2 A3 := by
  subst hb hd; cases r <;> wa_omega

/-- A committed writer: the word is armed (I4) and blocked. -/
theorem invN_bits_of_committed (hi : InvN c d.toNat b.toNat r.toNat F Cl (Co + 1) W A A2 A3) : d = true ∧ b = true := by
  have hd := hi.2.2.2.2.2.2.2.1 (Nat.succ_pos Co)
  have hb := hi.2.2.2.2.2.2.2.2.2.1 hd
  exact ⟨Bool.toNat_eq_one.mp hd, Bool.toNat_eq_one.mp hb⟩

/-- `clearSet`: W3c → W4, the socket's deadline := zero.  A committed writer means no aborter is active (I4, I2). -/
theorem invN_clearSet (hi : InvN c d.toNat b.toNat r.toNat F (Cl + 1) (Co + 1) W A A2 A3) (h1 : A2 ≤ A) :
    InvN c d.toNat b.toNat false.toNat F (Cl + 1) (Co + 1) (W + 1) A A2 A3 := by
  obtain ⟨rfl, rfl⟩ := invN_bits_of_committed hi
  cases r <;> wa_omega

/-- `clearStore`: W4 → done, word := 0.  The clearing writer was the only one (I3), so nobody else is committed. -/
theorem invN_clearStore (hi : InvN c d.toNat b.toNat r.toNat F (Cl + 1) (Co + 1) (W + 1) A A2 A3)
    (h1 : Co ≤ Cl) (h2 : W ≤ Co) : InvN 0 false.toNat false.toNat r.toNat F Cl Co W A A2 A3 := by
  obtain ⟨rfl, rfl⟩ := invN_bits_of_committed hi
  cases r <;> wa_omega

/-- `abortCas`, not blocked and count > 0: A0 → A1, blocked := 1. -/
theorem invN_abortCas (hi : InvN c d.toNat b.toNat r.toNat F Cl Co W A A2 A3) (hb : b = false) (hc : c ≠ 0) :
    InvN c d.toNat true.toNat r.toNat F Cl Co W (A + 1) A2 A3 := by
  obtain ⟨rfl, rfl⟩ := invN_bits_of_unblocked hi hb
  subst hb; wa_omega

/-- `abortSet`, no failure: A1 → A2, the socket's deadline := past.  An active aborter means the deadline bit is clear
(I2), so no writer is committed (I4). -/
theorem invN_abortSet (hi : InvN c d.toNat b.toNat r.toNat F Cl Co W (A + 1) A2 A3) (h1 : W ≤ Co) :
    InvN c d.toNat b.toNat true.toNat F Cl Co W (A + 1) (A2 + 1) A3 := by
  cases b <;> cases d <;> cases r <;> wa_omega

/-- `abortArm`: A2 → done; the active aborter finds the word blocked and not armed (I2) and sets the deadline bit. -/
theorem invN_abortArm_skip (hi : InvN c d.toNat b.toNat r.toNat F Cl Co W (A + 1) (A2 + 1) A3)
    (h : b = false ∨ d = true) : InvN c d.toNat b.toNat r.toNat F Cl Co W A A2 A3 := by
  rcases h with rfl | rfl
  · have := hi.2.2.2.1 rfl; omega
  · have := hi.2.2.1 rfl; omega

theorem invN_abortArm (hi : InvN c d.toNat b.toNat r.toNat F Cl Co W (A + 1) (A2 + 1) A3)
    (hb : b = true) (hd : d = false) (h1 : A2 ≤ A) : InvN c true.toNat b.toNat r.toNat F Cl Co W A A2 A3 := by
  subst hb hd; cases r <;> wa_omega

end Arith

theorem inv_step {s s' : State} {a : Action} (hi : Inv s) (hnf : a.nonFailing = true)
    (h : step s a = some s') : Inv s' := by
  cases a with
  | spawnW =>
    cases step_spec h
    simpa only [Inv, State.nFlight, State.nClearing, State.nCommitted, State.nW4, State.nActive, State.nA2, State.nA3,
      List.countP_append, List.countP_singleton, WLoc.inFlight, WLoc.clearing, WLoc.committed, WLoc.isW4, Bool.false_eq_true, if_false,
      Nat.add_zero] using hi
  | spawnA =>
    cases step_spec h
    simpa only [Inv, State.nFlight, State.nClearing, State.nCommitted, State.nW4, State.nActive, State.nA2, State.nA3,
      List.countP_append, List.countP_singleton, ALoc.active,
      ALoc.isA2, ALoc.isA3, Bool.false_eq_true, if_false, Nat.add_zero] using hi
  | startCtxErr i =>
    obtain ⟨hw, rfl⟩ := step_spec h
    exact inv_wr_set hw rfl rfl (inv_wr_get hw hi)
  | start i =>
    obtain ⟨hw, ⟨_, rfl⟩ | ⟨hb, rfl⟩⟩ := step_spec h
    · exact hi
    · exact inv_wr_set hw rfl rfl (invN_start (inv_wr_get hw hi) hb)
  | writeRet i r =>
    obtain ⟨hw, _, rfl⟩ := step_spec h
    exact inv_wr_set hw rfl rfl (inv_wr_get hw hi)
  | finish i =>
    obtain ⟨hw, ⟨hc, rfl⟩ | ⟨⟨hb, hc⟩, rfl⟩ | ⟨hc, hl, rfl⟩⟩ := step_spec h
    · exact inv_wr_set hw rfl rfl (invN_finish_zero (inv_wr_get hw hi) hc)
    · exact inv_wr_set hw rfl rfl (invN_finish_last (inv_wr_get hw hi) hb hc)
    · exact inv_wr_set hw rfl rfl (invN_finish_dec (inv_wr_get hw hi) hc hl)
  | clearLoad i =>
    obtain ⟨ep, hw, ⟨hb, rfl⟩ | ⟨_, _, rfl⟩ | ⟨hb, hd, rfl⟩⟩ := step_spec h
    · exact inv_wr_set hw rfl rfl (invN_clearLoad_free (inv_wr_get hw hi) hb)
    · exact hi
    · exact inv_wr_set hw rfl rfl (invN_clearLoad_commit (inv_wr_get hw hi) hb hd)
  | clearSet i =>
    obtain ⟨ep, hw, rfl⟩ := step_spec h
    exact inv_wr_set hw rfl rfl (invN_clearSet (inv_wr_get hw hi) (ab_counts_le _))
  | clearStore i =>
    obtain ⟨ep, hw, rfl⟩ := step_spec h
    exact inv_wr_set hw rfl rfl (invN_clearStore (inv_wr_get hw hi) (wr_counts_le _).1 (wr_counts_le _).2)
  | abortCas j =>
    obtain ⟨hj, ⟨_, rfl⟩ | ⟨hb, hc, rfl⟩⟩ := step_spec h
    · exact inv_ab_set hj rfl rfl (inv_ab_get hj hi)
    · exact inv_ab_set hj rfl rfl (invN_abortCas (inv_ab_get hj hi) hb hc)
  | abortSet j ok =>
    obtain ⟨hj, ⟨_, rfl⟩ | ⟨rfl, _⟩⟩ := step_spec h
    · exact inv_ab_set hj rfl rfl (invN_abortSet (inv_ab_get hj hi) (wr_counts_le _).2)
    · cases hnf
  | abortArm j =>
    obtain ⟨hj, ⟨hc, rfl⟩ | ⟨hb, hd, rfl⟩⟩ := step_spec h
    · exact inv_ab_set hj rfl rfl (invN_abortArm_skip (inv_ab_get hj hi) hc)
    · exact inv_ab_set hj rfl rfl (invN_abortArm (inv_ab_get hj hi) hb hd (ab_counts_le _))
  | abortClear j =>
    obtain ⟨hj, rfl⟩ := step_spec h
    have := (inv_ab_get hj hi).2.2.2.2.1
    exact absurd this (Nat.succ_ne_zero _)

theorem inv_of_reachableNF {s : State} (h : ReachableNF s) : Inv s := by
  induction h with
  | init => exact inv_init
  | step a _ hnf hs ih => exact inv_step ih hnf hs

end IceProofs.WriteAbort

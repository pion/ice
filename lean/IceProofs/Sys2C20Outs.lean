import IceProofs.Sys2C20Defs
import IceProofs.Sys2C20OutsQ
/-!
# C20 on `Sys2` — which steps emit nominations

The walk through the helpers of `step` is in `Sys2C20OutsQ` (`step_outs_all`: a nomination value is emitted only
with a nomination the step logs — `RenominateCandidate` that is not refused, the automatic check;
`step_outs_sel`: an agent with a selected pair emits no USE-CANDIDATE request except such a logged nomination).
-/
namespace IceProofs.C20S
open IceModel.AgentCore IceProofs.Agent

/-- A STUN message that carries a nomination value is a nomination this very step ISSUES — `RenominateCandidate` that is
not refused, or the automatic check of a controlling agent inside a tick (`issuesOf`, the entries the step appends to the
ghost log): it is a Binding request with USE-CANDIDATE, sent from the local address to the remote address of that
nomination, and the value is positive.  Any state, any event. -/
theorem step_out_nom (a : Agent) (e : Ev) (f t : Nat) (m : Msg) (v : Nat)
    (hm : Out.dgram f t m ∈ (step a e).2) (hn : m.nom = some v) :
    m.cls = 0 ∧ m.useCand = true ∧ 0 < v ∧ (v, f, t) ∈ issuesOf a e := by
  rcases (step_outs_all a e).2.mem hm with h | ⟨h0, h1, v', h2, h3⟩
  · rw [h.1] at hn
    cases hn
  · rw [hn] at h3
    by_cases hv : v' > 0
    · rw [if_pos hv] at h3
      cases h3
      exact ⟨h0, h1, hv, h2⟩
    · rw [if_neg hv] at h3
      cases h3

/-- An agent that has a selected pair emits no ordinary nomination (USE-CANDIDATE request without value), except as a
nomination it issues with value 0: `RenominateCandidate` with value 0, or the automatic check when the counter of its
value generator wraps around to 0. -/
theorem step_out_plainUC_sel (a : Agent) (e : Ev) (hsel : a.selected.isSome = true) (f t : Nat) (m : Msg)
    (hm : Out.dgram f t m ∈ (step a e).2) (hc : m.cls = 0) (hu : m.useCand = true) (hn : m.nom = none) :
    (0, f, t) ∈ issuesOf a e := by
  rcases (step_outs_sel a e hsel).2.mem hm with h | ⟨_, _, v', h2, h3⟩
  · exact absurd (h.2 hc hu) (by simp)
  · rw [hn] at h3
    by_cases hv : v' > 0
    · rw [if_pos hv] at h3; cases h3
    · have : v' = 0 := by omega
      subst this
      exact h2

theorem step_out_plainUC (a : Agent) (e : Ev) (hst : a.started = true) (hk : keeps e = true)
    (hsel : a.selected.isSome = true) (f t : Nat) (m : Msg)
    (hm : Out.dgram f t m ∈ (step a e).2) (hc : m.cls = 0) (hu : m.useCand = true) (hn : m.nom = none) :
    (0, f, t) ∈ issuesOf a e :=
  step_out_plainUC_sel a e hsel f t m hm hc hu hn

end IceProofs.C20S

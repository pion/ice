import IceProofs.AgentC06Remote
/-!
# C06 — authenticated requests as `Hand` steps; the remaining building blocks of `step`
-/
namespace IceProofs.AgentC06
open IceModel.AgentCore IceProofs.Agent

theorem Hand.afterResolve (a : Agent) (hi : Inv a) (now : Nat) (l : Cand) (m : Msg) (o0 : List Out) (r : Cand)
    (hl : core l ∈ lcsOf a) (hr : core r ∈ rcsOf a) (hn : l.net = r.net) :
    Hand a (afterResolve a now l m o0 r).1 :=
  afterResolve_rule (Q := fun x => Hand a x.1) a now l m o0 r
    (fun _ _ _ => (Same.seenLocalSent a _ _).evo.hand)
    (fun _ _ _ => Evo.hand (Evo.clearNominatedPair a _ rfl rfl rfl rfl rfl rfl rfl rfl rfl rfl rfl))
    fun _ => toSelector_rule (Q := fun x => Hand a x.1) a now l r m o0
      (fun _ => (Hand.ctlHandleRequest a hi now m l r hl hr hn).r_evo (Same.seenRemoteRecv _ _ _).evo)
      (fun _ => (Hand.cldHandleRequest a hi now m l r hl hr hn).r_evo (Same.seenRemoteRecv _ _ _).evo)

theorem resolveSource_spec {a : Agent} (hi : Inv a) (hc : a.closed = false) (l : Cand) (src : Nat) (m : Msg) :
    Inv (resolveSource a l src m).1 ∧ lcsOf (resolveSource a l src m).1 = lcsOf a ∧
      (resolveSource a l src m).1.closed = false ∧
      ∀ r, (resolveSource a l src m).2.2 = some r → core r ∈ rcsOf (resolveSource a l src m).1 ∧ l.net = r.net := by
  rcases resolveSource_cases a l src m with ⟨r, hr, he⟩ | ⟨_, he⟩ <;> rw [he]
  · obtain ⟨h1, h2, _⟩ := findRemote_listed hr
    exact ⟨hi, rfl, hc, fun r' hr' => by cases hr'; exact ⟨mem_rcsOf h1, h2.symm⟩⟩
  · obtain ⟨h1, h2, h3⟩ := hi.addRemoteCandidate (prflxCand l src m) hc
    exact ⟨h1, h2, (arc_frame hi _ hc).closed.trans hc, fun r hr => ⟨(h3 r hr).1, (h3 r hr).2.1.symm⟩⟩

theorem Inv.connState {a : Agent} (h : Inv a) (s : ConnState)
    (hn : a.nominatedPair = none ∨ a.closed = true ∨ a.selected.isSome) : Inv { a with connState := s } := by
  refine ⟨h.s, h.c.sel, h.c.selNom, h.c.nomLe, fun id hid => ?_⟩
  rcases hn with hn | hn | hn
  · have hid' : a.nominatedPair = some id := hid
    rw [hn] at hid'; exact absurd hid' (by simp)
  · exact Or.inr (Or.inr (Or.inr hn))
  · exact Or.inr (Or.inr (Or.inl hn))

theorem Inv.addCache {a : Agent} (h : Inv a) (x : Nat × Nat × Nat) (hl : ∃ l ∈ lcsOf a, l.uid = x.1)
    (hr : ∃ r ∈ rcsOf a, r.uid = x.2.2) (hc : a.closed = false) :
    Inv { a with caches := a.caches ++ [x] } := by
  refine ⟨?_, h.c.sel, h.c.selNom, h.c.nomLe, h.c.nom⟩
  have hs := h.s
  unfold InvS at hs ⊢
  refine { hs with closedEmpty := ?_, cachesOk := ?_ }
  · intro hcl; rw [hc] at hcl; cases hcl
  · intro y hy
    rcases List.mem_append.1 hy with hy | hy
    · exact hs.cachesOk y hy
    · simp at hy; subst hy; exact ⟨hl, hr⟩

theorem Evo.enqueue (b : Agent) (len : Nat) : Evo b (b.enqueue len) := by
  have h2 : Evo b { b with rx := b.rx ++ [len] } := Same.evo rfl
  unfold Agent.enqueue
  dsimp only
  split
  · split
    · exact h2.r_modPair _ _
    · exact h2
  · exact h2

theorem Inv.doRestart {a : Agent} (h : Inv a) (now : Nat) (u p : String) : Inv (a.doRestart now u p).1 := by
  unfold Agent.doRestart
  simp only []
  have h1 : Inv { ((({ a with localUfrag := u, localPwd := p, remoteUfrag := "", remotePwd := "" } : Agent).wipe).resetSelector now) with
      generation := a.generation + 1 } :=
    h.wiped rfl rfl rfl rfl rfl rfl rfl rfl rfl (Or.inl rfl)
  split
  · rw [setConnState_fst _ _ (by simp)]
    exact h1.connState _ (Or.inl rfl)
  · exact h1

theorem Inv.close {a : Agent} (h : Inv a) :
    Inv ({ a with locals := [], remotes := [], caches := [], closed := true } : Agent) := by
  refine ⟨?_, h.c.sel, h.c.selNom, h.c.nomLe, fun _ _ => Or.inr (Or.inr (Or.inr rfl))⟩
  have hs := h.s
  unfold InvS at hs ⊢
  exact { idsNodup := hs.idsNodup, idsLe := hs.idsLe, uidsNodup := by simp [lcsOf, rcsOf],
          uidsLt := by simp [lcsOf, rcsOf], ends := by simp, closedEmpty := by simp [lcsOf, rcsOf],
          remNE := by simp [rcsOf], locNE := by simp [lcsOf], notBlocked := by simp [rcsOf],
          cachesOk := by simp }

end IceProofs.AgentC06

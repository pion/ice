import IceModel.Gather
import IceProofs.GatherAgent
import IceProofs.GatherPark
/-!
Provenance invariant of the composed model: in every reachable state, every started candidate and every
candidate callback is `unitCand` of a gather unit of `allUnits` that passed the `publishable` guard — for the
agent's configuration and for an interface table the fake Net HAS HAD (`T :: H`: the current table `T`, the
earlier ones `H`); a HOST candidate delivered to `OnCandidate` since the last observation is a unit of the
CURRENT table (host units never wait, so they publish under the table they were computed from); every parked
unit is a non-host unit of a table the Net has had.
-/
namespace IceProofs.GatherProv
open IceModel.Gather IceProofs.GatherAgent IceProofs.GatherPark

def FromUnit (cfg : Config) (ifs : List Iface) (d : CandD) : Prop :=
  ∃ u ∈ allUnits cfg ifs, ∃ ci m, d = unitCand cfg u ci m ∧ publishable cfg d = true

def hostKind (k : UKind) : Bool := k == .hostUdp || k == .hostTcp || k == .hostMux

structure Prov (cfg : Config) (T : List Iface) (H : List (List Iface)) (s : MState) : Prop where
  cfgEq : s.cfg = cfg
  ifsEq : s.ifs = T
  histEq : s.ifsHist = H
  cands : ∀ c ∈ s.cands, ∃ T' ∈ T :: H, FromUnit cfg T' c.d
  evs : ∀ e ∈ s.evs, (∃ T' ∈ T :: H, FromUnit cfg T' e.1) ∧ (e.1.ty = .host → FromUnit cfg T e.1) ∧ e.1.hidden = false
  jobs : ∀ j ∈ s.jobs, hostKind j.unit.kind = false ∧ ∃ T' ∈ T :: H, j.unit ∈ allUnits cfg T'
  held : s.heldCycles ≠ [] → cfg.candTypes.contains .host = true

theorem unitCand_ty_host {cfg : Config} {u : GUnit} {ci m : Nat} (h : (unitCand cfg u ci m).ty = .host) :
    hostKind u.kind = true := by
  obtain ⟨kind, net, bind, url, n, mapped, ifc⟩ := u
  cases kind <;> simp_all [unitCand, hostKind]

theorem hostKind_cases {k : UKind} (h : hostKind k = true) : k = .hostUdp ∨ k = .hostTcp ∨ k = .hostMux := by
  cases k <;> simp_all [hostKind]

theorem exec_prov (cfg : Config) (T : List Iface) (H : List (List Iface)) (T' : List Iface) (hT' : T' ∈ T :: H)
    (p : Prog) (s : MState) (j : Job)
    (h : Prov cfg T H s) (hu : j.unit ∈ allUnits cfg T') (hk : hostKind j.unit.kind = true → T' = T) :
    Prov cfg T H (exec s j p).1 := by
  refine (GatherClosed.exec_ind (fun s' j' => Prov cfg T H s' ∧ j'.unit = j.unit) (fun _ h => h) (fun h => h)
    (fun _ _ h => ⟨⟨h.1.cfgEq, h.1.ifsEq, h.1.histEq, h.1.cands, h.1.evs, h.1.jobs, h.1.held⟩, h.2⟩)
    (fun {_ j'} i h => ⟨⟨h.1.cfgEq, h.1.ifsEq, h.1.histEq, h.1.cands, h.1.evs, h.1.jobs, h.1.held⟩,
      (take_same j' i _).1.trans h.2⟩)
    (fun {_ j'} is h => ⟨⟨h.1.cfgEq, h.1.ifsEq, h.1.histEq, h.1.cands, h.1.evs, h.1.jobs, h.1.held⟩,
      (takeAll_same j' is _).1.trans h.2⟩)
    ?_ p s j ⟨h, rfl⟩).1
  -- a candidate is started: it is `unitCand` of the unit, and it passed the guard
  intro s' j' ci is h _ hpub
  obtain ⟨h, hj⟩ := h
  rw [hj] at hpub ⊢
  have hfrom : FromUnit cfg T' (unitCand s'.cfg j.unit ci j'.m) := by
    rw [h.cfgEq] at hpub ⊢
    exact ⟨j.unit, hu, ci, j'.m, rfl, hpub⟩
  have hfromT : (unitCand s'.cfg j.unit ci j'.m).ty = .host → FromUnit cfg T (unitCand s'.cfg j.unit ci j'.m) := by
    intro hty
    rw [← hk (unitCand_ty_host hty)]; exact hfrom
  refine ⟨⟨h.cfgEq, h.ifsEq, h.histEq, ?_, ?_, h.jobs, h.held⟩, (takeAll_same j' is _).1.trans hj⟩
  · intro c hc
    simp only [List.mem_append, List.mem_singleton] at hc
    rcases hc with hc | hc
    · exact h.cands c hc
    · subst hc; exact ⟨T', hT', hfrom⟩
  · intro e he
    split at he
    · exact h.evs e he
    · rename_i hhid
      simp only [List.mem_append, List.mem_singleton] at he
      rcases he with he | he
      · exact h.evs e he
      · subst he; exact ⟨⟨T', hT', hfrom⟩, hfromT, by simpa using hhid⟩

theorem settle_prov {cfg : Config} {T : List Iface} {H : List (List Iface)} {s : MState} {j : Job} (h : Prov cfg T H s)
    (T' : List Iface) (hT' : T' ∈ T :: H) (hu : j.unit ∈ allUnits cfg T')
    (hpark : j.prog ≠ .ret → hostKind j.unit.kind = false) : Prov cfg T H (settle (s, j)) := by
  unfold settle
  split
  · exact h
  · rename_i hne
    exact ⟨h.cfgEq, h.ifsEq, h.histEq, h.cands, h.evs, fun x hx => (List.mem_append.1 hx).elim (h.jobs x)
      (fun hx => by rw [List.mem_singleton.1 hx]; exact ⟨hpark hne, T', hT', hu⟩), h.held⟩

theorem startUnit_prov {cfg : Config} {T : List Iface} {H : List (List Iface)} {s : MState} (h : Prov cfg T H s)
    (c gen : Nat) (u : GUnit) (hu : u ∈ allUnits cfg T) : Prov cfg T H (startUnit s c gen u) := by
  unfold startUnit
  have := exec_prov cfg T H T (by simp) (progOf u) s
    { cyc := c, gen := gen, unit := u, prog := progOf u,
      deadline := s.now + (if u.kind == .relay then turnTimeoutMs else stunTimeoutMs) } h hu (fun _ => rfl)
  refine settle_prov this T (by simp) (by rw [(exec_same _ _ _).1]; exact hu) ?_
  intro hne
  rw [(exec_same _ _ _).1]
  simp only
  cases hk : hostKind u.kind with
  | false => rfl
  | true =>
    exfalso
    apply hne
    exact exec_parkFree (progOf u) _ _ (host_parkFree u (hostKind_cases hk))

theorem host_units_mem {cfg : Config} {ifs : List Iface} (hh : cfg.candTypes.contains .host = true) {u : GUnit}
    (hu : u ∈ hostMuxUnits cfg ∨ u ∈ hostIfaceUnits cfg ifs) : u ∈ allUnits cfg ifs :=
  GatherUnits.mem_allUnits.2 (.inl ⟨hh, hu⟩)

theorem runCycleUnits_prov {cfg : Config} {T : List Iface} {H : List (List Iface)} {s : MState} (h : Prov cfg T H s)
    (c gen : Nat) : Prov cfg T H (runCycleUnits s c gen) :=
  GatherClosed.runCycleUnits_ind c gen
    (fun _ _ h' u hu => startUnit_prov h' c gen u (by rw [← h.cfgEq, ← h.ifsEq]; exact hu))
    (fun _ _ h' hh => ⟨h'.cfgEq, h'.ifsEq, h'.histEq, h'.cands, h'.evs, h'.jobs, fun _ => h.cfgEq ▸ hh⟩) h

theorem prov_of_same {cfg : Config} {T : List Iface} {H : List (List Iface)} {s s' : MState} (h : Prov cfg T H s)
    (h1 : s'.cfg = s.cfg) (h2 : s'.ifs = s.ifs) (h7 : s'.ifsHist = s.ifsHist) (h3 : s'.cands = s.cands)
    (h4 : s'.evs = s.evs) (h5 : s'.jobs = s.jobs) (h6 : s'.heldCycles = s.heldCycles) : Prov cfg T H s' :=
  ⟨h1.trans h.cfgEq, h2.trans h.ifsEq, h7.trans h.histEq, by rw [h3]; exact h.cands, by rw [h4]; exact h.evs,
   by rw [h5]; exact h.jobs, by rw [h6]; exact h.held⟩

theorem resume_prov {cfg : Config} {T : List Iface} {H : List (List Iface)} {s : MState} (h : Prov cfg T H s)
    (pick : Job → Option (Ans × Nat)) : Prov cfg T H (resume s pick) :=
  GatherClosed.resume_ind (I := fun _ s' => Prov cfg T H s') s pick
    ⟨h.cfgEq, h.ifsEq, h.histEq, h.cands, h.evs, fun j hj => h.jobs j (List.mem_filter.1 hj).1, h.held⟩
    (fun j _ s' a m hj _ h' => by
      obtain ⟨hnk, T', hT', hu⟩ := h.jobs j hj
      exact settle_prov (exec_prov cfg T H T' hT' j.prog s' { j with answer := some a, m := m } h' hu
          (fun hk => by rw [hnk] at hk; cases hk))
        T' hT' (by rw [(exec_same _ _ _).1]; exact hu) (fun _ => by rw [(exec_same _ _ _).1]; exact hnk))

theorem dropCands_prov {cfg : Config} {T : List Iface} {H : List (List Iface)} {s : MState} (h : Prov cfg T H s) :
    Prov cfg T H (dropCands s) :=
  ⟨h.cfgEq, h.ifsEq, h.histEq, by intro c hc; simp [dropCands] at hc, h.evs, h.jobs, h.held⟩

theorem prov_closed (cfg : Config) (T : List Iface) (H : List (List Iface)) : GatherClosed.Closed (Prov cfg T H) where
  units := runCycleUnits_prov
  gate {s} h := by
    have h0 : Prov cfg T H { s with gateClosed := false, heldCycles := [] } :=
      ⟨h.cfgEq, h.ifsEq, h.histEq, h.cands, h.evs, h.jobs, fun hne => absurd rfl hne⟩
    by_cases hh : s.heldCycles = []
    · rw [hh]; exact h0
    · -- a cycle is held at the gate only by a host gatherer
      refine List.foldl_inv (Prov cfg T H) _ _ _ h0 (fun s' c hs' =>
        GatherClosed.runHost_ind c _ (fun x _ hx u hu => startUnit_prov hx c _ u ?_) hs')
      rw [hs'.cfgEq, hs'.ifsEq] at hu
      exact host_units_mem (h.held hh) hu
  resume := resume_prov
  drop := dropCands_prov
  upd h hb _ := prov_of_same h hb.cfg hb.ifs hb.ifsHist hb.cands hb.evs hb.jobs hb.heldCycles
  clock h _ := prov_of_same h rfl rfl rfl rfl rfl rfl rfl

/-- the invariant for the state's own current table and history -/
def ProvS (cfg : Config) (s : MState) : Prop := Prov cfg s.ifs s.ifsHist s

theorem provS_of {cfg : Config} {T : List Iface} {H : List (List Iface)} {s : MState} (h : Prov cfg T H s) : ProvS cfg s := by
  unfold ProvS; rw [h.ifsEq, h.histEq]; exact h

theorem ifaces_prov {cfg : Config} {s : MState} (h : ProvS cfg s) (t : List Iface) :
    ProvS cfg { s with ifs := t, ifsHist := s.ifs :: s.ifsHist, evs := [], nilOp := 0 } := by
  unfold ProvS at h ⊢
  refine ⟨h.cfgEq, rfl, rfl, ?_, by intro e he; simp at he, ?_, h.held⟩
  · intro c hc
    obtain ⟨T', hT', hf⟩ := h.cands c hc
    exact ⟨T', List.mem_cons_of_mem _ hT', hf⟩
  · intro j hj
    obtain ⟨hk, T', hT', hu⟩ := h.jobs j hj
    exact ⟨hk, T', List.mem_cons_of_mem _ hT', hu⟩

theorem step_prov_keep {cfg : Config} {s : MState} (h : ProvS cfg s) (op : Op) (hop : ∀ t, op ≠ .ifaces t) :
    Prov cfg s.ifs s.ifsHist (step s op).1 :=
  (prov_closed cfg s.ifs s.ifsHist).of_step h op hop

theorem step_prov {cfg : Config} {s : MState} (h : ProvS cfg s) (op : Op) : ProvS cfg (step s op).1 := by
  by_cases hop : ∃ t, op = .ifaces t
  · obtain ⟨t, rfl⟩ := hop
    exact ifaces_prov h t
  · exact provS_of (step_prov_keep h op (fun t ht => hop ⟨t, ht⟩))

theorem step_tabs {cfg : Config} {s : MState} (h : ProvS cfg s) (op : Op) :
    (step s op).1.ifs :: (step s op).1.ifsHist
      = (match op with | .ifaces t => [t] | _ => []) ++ (s.ifs :: s.ifsHist) := by
  by_cases hop : ∃ t, op = .ifaces t
  · obtain ⟨t, rfl⟩ := hop
    rfl
  · have hk := step_prov_keep h op (fun t ht => hop ⟨t, ht⟩)
    rw [hk.ifsEq, hk.histEq]
    cases op <;> first | rfl | exact absurd ⟨_, rfl⟩ hop

theorem prov_init (cfg : Config) (ifs : List Iface) (s : MState) (h : newAgent cfg ifs = .ok s) : ProvS cfg s := by
  rw [newAgent_ok h]
  exact ⟨rfl, rfl, rfl, by intro c hc; simp at hc, by intro e he; simp at he, by intro j hj; simp at hj,
    by intro hne; simp at hne⟩

theorem flush_prov {cfg : Config} {s : MState} (h : ProvS cfg s) : ProvS cfg s.flush :=
  ⟨h.cfgEq, rfl, rfl, h.cands, by intro e he; simp [MState.flush] at he, h.jobs, h.held⟩

theorem runOps_prov {cfg : Config} : ∀ (ops : List Op) {s : MState}, ProvS cfg s → ProvS cfg (runOps s ops) := by
  intro ops
  induction ops with
  | nil => intro s h; exact h
  | cons op ops ih => intro s h; exact ih (flush_prov (step_prov h op))

def opTables : List Op → List (List Iface)
  | [] => []
  | .ifaces t :: ops => t :: opTables ops
  | _ :: ops => opTables ops

theorem opTables_cons (op : Op) (ops : List Op) :
    opTables (op :: ops) = (match op with | .ifaces t => [t] | _ => []) ++ opTables ops := by
  cases op <;> rfl

theorem runOps_tabs {cfg : Config} : ∀ (ops : List Op) {s : MState}, ProvS cfg s →
    ∀ T ∈ (runOps s ops).ifs :: (runOps s ops).ifsHist, T ∈ s.ifs :: s.ifsHist ∨ T ∈ opTables ops := by
  intro ops
  induction ops with
  | nil => intro s _ T hT; exact Or.inl hT
  | cons op ops ih =>
    intro s h T hT
    rw [opTables_cons]
    rcases ih (flush_prov (step_prov h op)) T hT with hT' | hT'
    · have hT'' : T ∈ (step s op).1.ifs :: (step s op).1.ifsHist := hT'
      rw [step_tabs h op] at hT''
      rcases List.mem_append.1 hT'' with h1 | h1
      · exact Or.inr (List.mem_append_left _ h1)
      · exact Or.inl h1
    · exact Or.inr (List.mem_append_right _ hT')

end IceProofs.GatherProv

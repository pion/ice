import IceProofs.TaskLoopSteps
import IceSpec.C10
/-!
# The event trace of every execution of the task-loop model passes the C10 monitor

The ghost fields of the model state are what an observer has seen, so the monitor state after an execution is a
function `absM` of the model state (`Rel s m ↔ m = absM s`).  Under the invariant an internal transition leaves
`absM` alone (`sim_silent`) and an observable one is a step of the monitor from `absM s` to `absM s'` (`sim_obs`).
-/
namespace IceProofs.TaskLoop
open IceModel.TaskLoop IceSpec.C10

/-- The task the loop thread is executing right now. -/
def execOf : LoopPc → Option Nat
  | .running i => some i
  | .nested i _ => some i
  | _ => none

@[simp] theorem execOf_resume (lp : LoopPc) (k : Nat) : execOf (resume lp k) = execOf lp := by
  rcases resume_cases lp k with h | ⟨i, h1, h2⟩
  · rw [h]
  · rw [h2, h1]; simp [execOf]

def SubRel (m : M) (i : Nat) (u : Sub) : Prop :=
  m.submitted i = decide (u.pc ≠ .idle) ∧ m.cancelled i = u.ctxDone ∧ m.starts i = u.started ∧
  m.ends i = u.finished ∧ m.ret i = u.returned

def CloserRel (m : M) (j : Nat) (c : Closer) : Prop :=
  m.closeCalled j = decide (c.pc ≠ .idle) ∧ m.closeRet j = decide (c.pc = .returned)

structure Rel (s : State) (m : M) : Prop where
  subs : ∀ i, SubRel m i (s.subs i)
  closers : ∀ j, CloserRel m j (s.closers j)
  running : m.running = execOf s.loop
  anyCloseCalled : m.anyCloseCalled = s.anyCloseCalled
  anyCloseRet : m.anyCloseRet = s.closeReturned
  onclose : m.onclose = s.oncloseRuns
  oncloseEnd : m.oncloseEnd = s.oncloseEnds
  prestop : m.prestop = s.prestopRuns

/-- What the monitor has seen, read off the ghost fields.  `Rel` says the same field by field (`rel_absM`,
`Rel.eq_absM`); every lemma below is about `absM`. -/
def absM (s : State) : M where
  submitted i := decide ((s.subs i).pc ≠ .idle)
  cancelled i := (s.subs i).ctxDone
  starts i := (s.subs i).started
  ends i := (s.subs i).finished
  ret i := (s.subs i).returned
  running := execOf s.loop
  closeCalled j := decide ((s.closers j).pc ≠ .idle)
  closeRet j := decide ((s.closers j).pc = .returned)
  anyCloseCalled := s.anyCloseCalled
  anyCloseRet := s.closeReturned
  onclose := s.oncloseRuns
  oncloseEnd := s.oncloseEnds
  prestop := s.prestopRuns

theorem rel_absM (s : State) : Rel s (absM s) :=
  ⟨fun _ => ⟨rfl, rfl, rfl, rfl, rfl⟩, fun _ => ⟨rfl, rfl⟩, rfl, rfl, rfl, rfl, rfl, rfl⟩

theorem Rel.eq_absM {s : State} {m : M} (r : Rel s m) : m = absM s := by
  obtain ⟨h1, h2, h3, h4, h5, h6, h7, h8⟩ := r
  cases m
  simp only [absM, M.mk.injEq]
  refine ⟨funext fun i => (h1 i).1, funext fun i => (h1 i).2.1, funext fun i => (h1 i).2.2.1,
    funext fun i => (h1 i).2.2.2.1, funext fun i => (h1 i).2.2.2.2, h3, funext fun j => (h2 j).1,
    funext fun j => (h2 j).2, h4, h5, h6, h7, h8⟩

theorem absM_sub (s : State) (i : Nat) (u : Sub) (lp : LoopPc) :
    absM { s with subs := upd s.subs i u, loop := lp } =
      { absM s with submitted := setAt (absM s).submitted i (decide (u.pc ≠ .idle)),
                    cancelled := setAt (absM s).cancelled i u.ctxDone,
                    starts := setAt (absM s).starts i u.started, ends := setAt (absM s).ends i u.finished,
                    ret := setAt (absM s).ret i u.returned, running := execOf lp } := by
  simp only [absM, M.mk.injEq, and_true]
  refine ⟨?_, ?_, ?_, ?_, ?_⟩ <;> funext x <;> by_cases hx : x = i <;> simp [setAt, upd, hx]

theorem setAt_self {α : Type} {f : Nat → α} {i : Nat} {v : α} (h : f i = v) : setAt f i v = f := by
  funext x; by_cases hx : x = i <;> simp [setAt, hx, h]

/-- `absM` after a transition of closer `j`: whatever it writes to the fields the monitor does not see. -/
theorem absM_closer (s : State) (j : Nat) (c : Closer) (dn tl er : Bool) (on : Once) (acc ret : Bool) (oc oe ps : Nat) :
    absM { loop := s.loop, done := dn, tld := tl, err := er, once := on, subs := s.subs, closers := upd s.closers j c,
           anyCloseCalled := acc, closeReturned := ret, oncloseRuns := oc, oncloseEnds := oe, prestopRuns := ps } =
      { absM s with closeCalled := setAt (absM s).closeCalled j (decide (c.pc ≠ .idle)),
                    closeRet := setAt (absM s).closeRet j (decide (c.pc = .returned)),
                    anyCloseCalled := acc, anyCloseRet := ret, onclose := oc, oncloseEnd := oe, prestop := ps } := by
  simp only [absM, M.mk.injEq, true_and, and_true]
  refine ⟨?_, ?_⟩ <;> funext x <;> by_cases hx : x = j <;> simp [setAt, upd, hx]

theorem sub_not_offered_facts {v : View} {u : Sub} (h : SubOK v u)
    (hpc : u.pc = .check ∨ u.pc = .select ∨ u.pc = .idle) :
    u.started = 0 ∧ u.finished = 0 ∧ u.returned = none ∧ u.taken = 0 := by
  sub_cases u v

theorem sub_woken_facts {v : View} {u : Sub} (h : SubOK v u) (hpc : u.pc = .handedOff) (hpd : u.privDone = true) :
    u.started = 1 ∧ u.finished = 1 ∧ u.returned = none := by
  sub_cases u v

theorem sub_got_facts {u : Sub} (h : SubOK .got u) :
    u.pc = .handedOff ∧ u.started = 0 ∧ u.finished = 0 ∧ u.returned = none := by
  sub_cases1 u

theorem sub_running_facts {u : Sub} (h : SubOK .running u) :
    u.pc = .handedOff ∧ u.started = 1 ∧ u.finished = 0 ∧ u.returned = none := by
  sub_cases1 u

theorem done_anyCloseCalled {s : State} (h : Inv s) (hd : s.done = true) : s.anyCloseCalled = true := by
  obtain ⟨_, _, _, _, g4, g5, _, _⟩ := h.glob
  apply g5
  intro ho; rw [ho] at g4; simp [hd] at g4

theorem working_facts {s : State} (h : Inv s) (hl : left s.loop = false) :
    s.closeReturned = false ∧ s.oncloseRuns = 0 := by
  obtain ⟨_, g2, g3, _, _, _, g6, _⟩ := h.glob
  have hne : s.loop ≠ .exited := by intro e; rw [e] at hl; simp [left] at hl
  have ho : onclosed s.loop = false := by
    cases hlp : s.loop <;> simp_all [left, onclosed]
  constructor
  · cases hc : s.closeReturned
    · rfl
    · have := (g6 hc).1; exact absurd (g2.mp this) hne
  · simpa [ho] using g3

theorem sim_silent {s s' : State} {a : Action} (hl : label a = none) (hs : step s a = some s') :
    absM s' = absM s := by
  cases a <;> cases hl <;> simp only [step] at hs <;> split at hs <;> cases hs <;> rename_i hg
  case errCheckPass i => rw [absM_sub s i _ s.loop]; simp [absM, setAt_self, hg.1]
  case handoff i => rw [absM_sub]; simp [absM, setAt_self, execOf, hg.1, hg.2]
  case closePriv i => rw [absM_sub]; simp [absM, setAt_self, execOf, hg.1]
  case loopDone => simp [absM, execOf, hg.1]
  case closeTLD => simp [absM, execOf, hg.1]
  case onceWin j => simp only [setCloserPc]; rw [absM_closer]; simp [absM, setAt_self, hg.1]
  case onceSkip j => simp only [setCloserPc]; rw [absM_closer]; simp [absM, setAt_self, hg.1]
  case storeErr j => simp only [setCloserPc]; rw [absM_closer]; simp [absM, setAt_self, hg]
  case closeDoneCh j => simp only [setCloserPc]; rw [absM_closer]; simp [absM, setAt_self, hg.1]
  case preStopNil j => simp only [setCloserPc]; rw [absM_closer]; simp [absM, setAt_self, hg.1]
  case onceExit j => simp only [setCloserPc]; rw [absM_closer]; simp [absM, setAt_self, hg]

theorem sim_ret {s : State} (h : Inv s) (i : Nat) (res : RunRes)
    (hpc : (s.subs i).pc ≠ .idle) (hret : (s.subs i).returned = none)
    (hnil : res = .nil → (s.subs i).started = 1 ∧ (s.subs i).finished = 1)
    (herr : res ≠ .nil → (s.subs i).started = 0)
    (hctx : res = .ctx → (s.subs i).ctxDone = true)
    (hclosed : res = .closed → s.done = true) :
    mstep (absM s) (.runReturn i res) = .ok (absM (retSub s i res)) := by
  have e1 : (absM s).submitted i = true := by simp [absM, hpc]
  have e2 : (absM s).ret i = none := hret
  rw [mstep, if_neg (by simp [e1]), if_neg (by simp [e2]),
    if_neg (by intro ⟨a, b⟩; exact b (hnil a)), if_neg (by intro ⟨a, b⟩; exact b (herr a)),
    if_neg (by intro ⟨a, b⟩; rw [show (absM s).cancelled i = _ from hctx a] at b; cases b),
    if_neg (by intro ⟨a, b⟩; rw [show (absM s).anyCloseCalled = _ from done_anyCloseCalled h (hclosed a)] at b; cases b),
    retSub, absM_sub]
  simp [absM, setAt_self, hpc]

theorem sim_obs {s s' : State} {a : Action} {e : Ev} (h : Inv s) (hl : label a = some e)
    (hs : step s a = some s') : mstep (absM s) e = .ok (absM s') := by
  cases a <;> cases hl <;> simp only [step] at hs
  case cancel i => cases hs; rw [mstep, absM_sub s i _ s.loop]; simp [absM, setAt_self]
  all_goals split at hs <;> cases hs <;> rename_i hg
  case call i =>
    rw [mstep, if_neg (by simp [absM, hg]), absM_sub s i _ s.loop]; simp [absM, setAt_self]
  case callNested i k =>
    rw [mstep, if_neg (by simp [absM, hg.2]), absM_sub]; simp [absM, setAt_self, execOf, hg.1]
  case closeCall j pre =>
    rw [mstep, if_neg (by simp [absM, hg])]
    rw [absM_closer]; simp [absM, setAt_self, hg]
  case errCheckFail i =>
    have f := sub_not_offered_facts (h.subs i) (Or.inl hg.1)
    exact sim_ret h i .closed (by simp [hg.1]) f.2.2.1 (by simp) (fun _ => f.1) (by simp) (fun _ => hg.2)
  case selCtx i =>
    have f := sub_not_offered_facts (h.subs i) (Or.inr (Or.inl hg.1))
    exact sim_ret h i .ctx (by simp [hg.1]) f.2.2.1 (by simp) (fun _ => f.1) (fun _ => hg.2) (by simp)
  case selDone i =>
    have f := sub_not_offered_facts (h.subs i) (Or.inr (Or.inl hg.1))
    exact sim_ret h i .closed (by simp [hg.1]) f.2.2.1 (by simp) (fun _ => f.1) (by simp) (fun _ => hg.2)
  case wake i =>
    have f := sub_woken_facts (h.subs i) hg.1 hg.2
    exact sim_ret h i .nil (by simp [hg.1]) f.2.2 (fun _ => ⟨f.1, f.2.1⟩) (by simp) (by simp) (by simp)
  case start i =>
    have hi := h.subs i
    rw [hg] at hi; simp only [view, if_true] at hi
    have f := sub_got_facts hi
    have w := working_facts h (by rw [hg]; rfl)
    rw [mstep, if_neg (by simp [absM, f.1]), if_neg (by simp [absM, hg, execOf]), if_neg (by simp [absM, f.2.1]),
      if_neg (by simp [absM, f.2.2.2]), if_neg (by simp [absM, w.1]), if_neg (by simp [absM, w.2]), absM_sub]
    simp [absM, setAt_self, execOf]
  case finish i =>
    rw [mstep, if_neg (by simp [absM, hg, execOf]), absM_sub]; simp [absM, setAt_self, execOf]
  case onClose =>
    obtain ⟨g1, _, g3, _, _, _, _, _⟩ := h.glob
    rw [hg] at g1 g3
    rw [mstep, if_neg (by simp [absM, g3, onclosed]), if_neg (by simp [absM, hg, execOf]),
      if_neg (by simp [absM, done_anyCloseCalled h (g1 rfl)])]
    simp [absM, execOf, hg]
  case onCloseEnd =>
    obtain ⟨_, _, g3, g3e, _, _, _, _⟩ := h.glob
    rw [hg] at g3 g3e
    rw [mstep, if_neg (by simp [absM, g3, onclosed]), if_neg (by simp [absM, g3e, oncloseEnded])]
    simp [absM, execOf, hg]
  case preStopRun j =>
    have hc := h.closers j
    simp only [CloserOK, hg.1] at hc
    obtain ⟨_, _, _, _, _, g5, g6, _⟩ := h.glob
    have hcr : s.closeReturned = false := by
      cases hx : s.closeReturned
      · rfl
      · have := (g6 hx).2; rw [hc.1] at this; cases this
    rw [mstep, if_neg (by simp [absM, hc.2.2]), if_neg (by simp [absM, g5 (by rw [hc.1]; simp)]),
      if_neg (by simp [absM, hcr])]
    simp only [setCloserPc]; rw [absM_closer]
    simp [absM, setAt_self, hg.1]
  case waitTLD j =>
    obtain ⟨_, g2, g3, g3e, _, _, _, _⟩ := h.glob
    have hex := g2.mp hg.2
    rw [hex] at g3 g3e
    rw [mstep, if_neg (by simp [absM, hg.1]), if_neg (by simp [absM, hg.1]), if_neg (by simp [absM, g3, onclosed]),
      if_neg (by simp [absM, g3e, oncloseEnded]), if_neg (by simp [absM, hex, execOf])]
    simp only [setCloserPc]; rw [absM_closer]
    simp [absM, setAt_self, hg.1]

theorem sim_run {s s' : State} (h : Inv s) (as : List Action) (hs : run s as = some s') :
    mrun (absM s) (trace as) = .ok (absM s') := by
  have hx := isRun.exec hs; clear hs
  induction hx with
  | nil => rfl
  | @cons _ _ _ a _ h1 _ ih =>
    simp only [trace, List.filterMap_cons] at ih ⊢
    cases hl : label a with
    | none => simp only; rw [← sim_silent hl h1]; exact ih (inv_step h a h1)
    | some e => simp only [mrun, sim_obs h hl h1]; exact ih (inv_step h a h1)

theorem executing_loop {s : State} (h : Reachable s) {i : Nat} (he : executing s i) :
    view s.loop i = .running := by
  have hi := (inv_reachable h).subs i
  unfold executing at he
  revert hi he
  generalize s.subs i = u
  generalize view s.loop i = v
  intro hi he
  sub_cases u v

theorem view_running {lp : LoopPc} {i : Nat} (h : view lp i = .running) : execOf lp = some i := by
  cases lp <;> simp [view] at h <;> simp [execOf, h]
  all_goals (split at h <;> simp_all)

theorem closeReturned_mono {s s' : State} (a : Action) (hs : step s a = some s')
    (hc : s.closeReturned = true) : s'.closeReturned = true := by
  cases a with
  | cancel i => cases hs; exact hc
  | waitTLD j => dsimp only [step] at hs; split at hs <;> cases hs; rfl
  | _ => dsimp only [step] at hs; split at hs <;> cases hs; exact hc

end IceProofs.TaskLoop

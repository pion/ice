import IceProofs.AgentC04Step
/-!
# C04 — histories: `run`, `trace`, labelled traces, the edge relations and the path theorems
-/
namespace IceProofs.AgentC04
open IceModel.AgentCore

/-- an agent as `NewAgent` returns it -/
structure Initial (a : Agent) : Prop where
  connState : a.connState = .new
  started : a.started = false
  closed : a.closed = false
  selected : a.selected = none
  checklist : a.checklist = []
  locals : a.locals = []
  remotes : a.remotes = []

def run (a : Agent) : List Ev → Agent
  | [] => a
  | e :: r => run (step a e).1 r

/-- the connection-state notifications of a history, in order -/
def trace (a : Agent) : List Ev → List ConnState
  | [] => []
  | e :: r => match step a e with
    | (a', o) => states o ++ trace a' r

/-- … each with the agent before the step and the event of the step that produced it -/
def ltrace (a : Agent) : List Ev → List (Agent × Ev × ConnState)
  | [] => []
  | e :: r => match step a e with
    | (a', o) => (states o).map (fun s => (a, e, s)) ++ ltrace a' r

theorem trace_cons (a : Agent) (e : Ev) (r : List Ev) : trace a (e :: r) = states (step a e).2 ++ trace (step a e).1 r := rfl
theorem ltrace_cons (a : Agent) (e : Ev) (r : List Ev) :
    ltrace a (e :: r) = (states (step a e).2).map (fun s => (a, e, s)) ++ ltrace (step a e).1 r := rfl

theorem trace_eq_ltrace (a : Agent) (evs : List Ev) : trace a evs = (ltrace a evs).map (·.2.2) := by
  induction evs generalizing a with
  | nil => rfl
  | cons e r ih => rw [trace_cons, ltrace_cons, ih]; simp [Function.comp_def]

/-- a labelled list is a path of a relation that may depend on the producing step -/
def lpath (R : Agent → Ev → ConnState → ConnState → Bool) : ConnState → List (Agent × Ev × ConnState) → Bool
  | _, [] => true
  | s, (a, e, t) :: r => R a e s t && lpath R t r

theorem lpath_map (R : Agent → Ev → ConnState → ConnState → Bool) (a : Agent) (e : Ev) (s : ConnState)
    (l : List ConnState) (rest : List (Agent × Ev × ConnState)) :
    lpath R s (l.map (fun t => (a, e, t)) ++ rest) = (pathFrom (R a e) s l && lpath R (endState s l) rest) := by
  induction l generalizing s with
  | nil => simp
  | cons t r ih => simp [lpath, pathFrom, endState, ih, Bool.and_assoc]

theorem lpath_congr {R R' : Agent → Ev → ConnState → ConnState → Bool} (s : ConnState)
    (l : List (Agent × Ev × ConnState))
    (h : ∀ x ∈ l, ∀ p n, R x.1 x.2.1 p n = true → R' x.1 x.2.1 p n = true) (hp : lpath R s l = true) :
    lpath R' s l = true := by
  induction l generalizing s with
  | nil => rfl
  | cons x r ih =>
    obtain ⟨a, e, t⟩ := x
    simp only [lpath, Bool.and_eq_true] at hp ⊢
    exact ⟨h (a, e, t) (List.mem_cons_self) _ _ hp.1, ih _ (fun y hy => h y (List.mem_cons_of_mem _ hy)) hp.2⟩

theorem lpath_mono {R R' : Agent → Ev → ConnState → ConnState → Bool}
    (h : ∀ a e p n, R a e p n = true → R' a e p n = true) (s : ConnState) (l : List (Agent × Ev × ConnState))
    (hp : lpath R s l = true) : lpath R' s l = true :=
  lpath_congr s l (fun x _ => h x.1 x.2.1) hp

/-- the graph of the property text -/
def docEdge (cfg : Config) (e : Ev) : ConnState → ConnState → Bool
  | .new, .checking => true
  | .checking, .connected => true
  | .checking, .failed => true
  | .connected, .disconnected => true
  | .disconnected, .connected => true
  | .disconnected, .failed => true
  | .connected, .failed => cfg.disconnectedTimeout == 0
  | .connected, .checking => isRestart e
  | .disconnected, .checking => isRestart e
  | .failed, .checking => isRestart e
  | .closed, .closed => false
  | _, .closed => isClose e
  | _, _ => false

/-- the one edge of the model (and of the code) outside the documented graph: Failed → Connected, by an inbound
STUN message, which needs a local candidate added after the agent failed -/
def lateEdge (a : Agent) (e : Ev) (p n : ConnState) : Bool :=
  p == .failed && n == .connected && isInbound e && !a.locals.isEmpty

/-- what the model does: the documented graph plus `lateEdge` -/
def edgeAt (a : Agent) (e : Ev) (p n : ConnState) : Bool := docEdge a.cfg e p n || lateEdge a e p n

/-- the exact causes: non-timer edges (`headEdge`) and timer edges (`tickEdge`) -/
def tightEdge (a : Agent) (e : Ev) (p n : ConnState) : Bool := headEdge a e p n || tickEdge a.cfg p n

theorem tickEdge_doc (cfg : Config) (e : Ev) (p n : ConnState) (h : tickEdge cfg p n = true) : docEdge cfg e p n = true := by
  cases p <;> cases n <;> simp_all [tickEdge, docEdge]

theorem headEdge_cases (a : Agent) (e : Ev) (p n : ConnState) (h : headEdge a e p n = true) :
    docEdge a.cfg e p n = true ∨ lateEdge a e p n = true := by
  cases p <;> cases n <;> simp_all [headEdge, docEdge, lateEdge]

theorem tightEdge_edgeAt (a : Agent) (e : Ev) (p n : ConnState) (h : tightEdge a e p n = true) : edgeAt a e p n = true := by
  unfold edgeAt
  rcases Bool.or_eq_true _ _ |>.mp h with h | h
  · exact (Bool.or_eq_true _ _).mpr (headEdge_cases a e p n h)
  · rw [tickEdge_doc a.cfg e p n h]; rfl

theorem docEdge_irrefl (cfg : Config) (e : Ev) (p : ConnState) : docEdge cfg e p p = false := by cases p <;> rfl

theorem lateEdge_irrefl (a : Agent) (e : Ev) (p : ConnState) : lateEdge a e p p = false := by cases p <;> rfl

theorem edgeAt_irrefl (a : Agent) (e : Ev) (p n : ConnState) (h : edgeAt a e p n = true) : p ≠ n := by
  rintro rfl
  rw [edgeAt, docEdge_irrefl, lateEdge_irrefl] at h
  cases h

theorem shape_path {a : Agent} {e : Ev} {l : List ConnState} {R : ConnState → ConnState → Bool} (h : Shape a e l)
    (hh : ∀ x, headEdge a e a.connState x = true → R a.connState x = true)
    (ht : ∀ p n, tickEdge a.cfg p n = true → R p n = true) : pathFrom R a.connState l = true := by
  obtain ⟨hd, tl, rfl, hhd, htl⟩ := h
  rw [pathFrom_append, pathFrom_mono ht _ _ htl, Bool.and_true]
  rcases hhd with rfl | ⟨x, rfl, hx⟩
  · rfl
  · rw [pathFrom, hh x hx]; rfl

theorem Initial.inv {a : Agent} (h : Initial a) : Inv a :=
  ⟨fun _ => ⟨h.closed, by rw [h.connState]; simp, by rw [h.connState, h.started]; simp,
      by rw [h.connState, h.selected]; simp⟩,
   fun hc => (by rw [h.closed] at hc; cases hc),
   fun hs => (by rw [h.started] at hs; cases hs)⟩

theorem run_inv (a : Agent) (evs : List Ev) (hi : Inv a) : Inv (run a evs) := by
  induction evs generalizing a with
  | nil => exact hi
  | cons e r ih => exact ih _ (step_ok a e hi).inv

theorem run_cfg (a : Agent) (evs : List Ev) (hi : Inv a) : (run a evs).cfg = a.cfg := by
  induction evs generalizing a with
  | nil => rfl
  | cons e r ih => exact (ih _ (step_ok a e hi).inv).trans (step_ok a e hi).cfg

theorem run_append (a : Agent) (l l' : List Ev) : run a (l ++ l') = run (run a l) l' := by
  induction l generalizing a with
  | nil => rfl
  | cons e r ih => exact ih _

theorem run_path_tight (a : Agent) (evs : List Ev) (hi : Inv a) :
    lpath tightEdge a.connState (ltrace a evs) = true ∧ endState a.connState (trace a evs) = (run a evs).connState := by
  induction evs generalizing a with
  | nil => exact ⟨rfl, rfl⟩
  | cons e r ih =>
    have hs := step_ok a e hi
    obtain ⟨ih1, ih2⟩ := ih _ hs.inv
    rw [ltrace_cons, trace_cons, lpath_map, endState_append, hs.last]
    have hp : pathFrom (tightEdge a e) a.connState (states (step a e).2) = true :=
      shape_path hs.shape (fun x hx => by unfold tightEdge; rw [hx]; rfl) (fun p n h => by unfold tightEdge; rw [h, Bool.or_true])
    exact ⟨by rw [hp, ih1]; rfl, ih2⟩

/-- no addLocal while the agent is Failed, along the whole history -/
def noLateLocal (a : Agent) : List Ev → Bool
  | [] => true
  | e :: r => match step a e with
    | (a', _) => !(isAddLocal e && a.connState == .failed) && noLateLocal a' r

theorem noLateLocal_cons (a : Agent) (e : Ev) (r : List Ev) :
    noLateLocal a (e :: r) = (!(isAddLocal e && a.connState == .failed) && noLateLocal (step a e).1 r) := rfl

theorem run_path_doc (a : Agent) (evs : List Ev) (hi : Inv a) (hl : a.connState = .failed → a.locals = [])
    (hn : noLateLocal a evs = true) :
    lpath (fun a e => docEdge a.cfg e) a.connState (ltrace a evs) = true := by
  induction evs generalizing a with
  | nil => rfl
  | cons e r ih =>
    have hs := step_ok a e hi
    rw [noLateLocal_cons, Bool.and_eq_true] at hn
    obtain ⟨hn1, hn2⟩ := hn
    have hl' : (step a e).1.connState = .failed → (step a e).1.locals = [] := by
      intro hf
      rcases endState_mem_or a.connState (states (step a e).2) with ⟨h1, h2⟩ | hm
      · rw [hs.last] at h2
        have hfa : a.connState = .failed := h2 ▸ hf
        have hnl : isAddLocal e = false := by
          cases h : isAddLocal e with
          | false => rfl
          | true => simp [h, hfa] at hn1
        exact hs.locals_nil hnl (hl hfa)
      · rw [hs.last, hf] at hm
        exact (hs.released hm).1.2.1
    rw [ltrace_cons, lpath_map, hs.last]
    have hp : pathFrom (docEdge a.cfg e) a.connState (states (step a e).2) = true := by
      refine shape_path hs.shape (fun x hx => ?_) (fun p n h => tickEdge_doc _ e p n h)
      rcases headEdge_cases a e _ x hx with h | h
      · exact h
      · -- the late edge needs a local candidate on a Failed agent
        unfold lateEdge at h
        simp only [Bool.and_eq_true, beq_iff_eq, Bool.not_eq_true'] at h
        rw [hl h.1.1.1] at h
        cases h.2
    rw [hp, ih _ hs.inv hl' hn2]; rfl

theorem run_closed (a : Agent) (evs : List Ev) (hi : Inv a) (hc : a.closed = true) :
    trace a evs = [] ∧ (run a evs).connState = .closed ∧ (run a evs).closed = true := by
  induction evs generalizing a with
  | nil => exact ⟨rfl, hi.closed hc, hc⟩
  | cons e r ih =>
    have q := step_closed a e hc
    have hs := step_ok a e hi
    obtain ⟨i1, i2, i3⟩ := ih _ hs.inv (q.1.frame.closed.trans hc)
    exact ⟨by rw [trace_cons, q.2, i1]; rfl, i2, i3⟩

theorem run_nofail (a : Agent) (evs : List Ev) (hi : Inv a) (hf : a.cfg.failedTimeout = 0) :
    ConnState.failed ∉ trace a evs := by
  induction evs generalizing a with
  | nil => simp [trace]
  | cons e r ih =>
    have hs := step_ok a e hi
    rw [trace_cons, List.mem_append]
    rintro (hm | hm)
    · exact hs.nofail hf hm
    · exact ih _ hs.inv (hs.cfg ▸ hf) hm

theorem ltrace_cfg (a : Agent) (evs : List Ev) (hi : Inv a) : ∀ x ∈ ltrace a evs, x.1.cfg = a.cfg := by
  induction evs generalizing a with
  | nil => intro x hx; cases hx
  | cons e r ih =>
    intro x hx
    rw [ltrace_cons, List.mem_append] at hx
    rcases hx with hx | hx
    · rw [List.mem_map] at hx
      obtain ⟨s, _, rfl⟩ := hx
      rfl
    · exact (ih _ (step_ok a e hi).inv x hx).trans (step_ok a e hi).cfg

/-- no element equals the one before it (the first is compared with `s`) -/
def noRepeat : ConnState → List ConnState → Bool
  | _, [] => true
  | s, t :: r => s != t && noRepeat t r

theorem noRepeat_of_lpath {R : Agent → Ev → ConnState → ConnState → Bool} (hR : ∀ a e p n, R a e p n = true → p ≠ n)
    (s : ConnState) (l : List (Agent × Ev × ConnState)) (hp : lpath R s l = true) :
    noRepeat s (l.map (·.2.2)) = true := by
  induction l generalizing s with
  | nil => rfl
  | cons x r ih =>
    obtain ⟨a, e, t⟩ := x
    simp only [lpath, Bool.and_eq_true] at hp
    simp only [List.map_cons, noRepeat, Bool.and_eq_true, bne_iff_ne]
    exact ⟨hR _ _ _ _ hp.1, ih _ hp.2⟩

end IceProofs.AgentC04

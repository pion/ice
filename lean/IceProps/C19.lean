import IceProofs.Rewrite
import IceProofs.RewriteValid
import IceTie.Rewrite
import IceTie.Rewrite2
/-!
# C19 — address rewrite rules map addresses as documented

Property theorems only.  `documented` (IceSpec/C19.lean) is the precedence of the option's doc
comment written over the rules as the user gave them; `newMapper` / `findExternalIPs` / `applyRes`
(IceModel/Rewrite.lean) model `newAddressRewriteMapper` / `findExternalIPs` / the four appliers of
gather.go and are tied to the code by differential correspondence (component `rewrite`) and, for
`catchAllSpecificity` & co., by translation (`IceTie/Rewrite.lean`).

All theorems quantify over ALL rule lists (any length) and ALL keys.

FULL STATEMENT (false, see `C19_lookup_is_documented_witness`):

  theorem C19_lookup_is_documented (rules : List Rule) (m : Mapper) (k : Key)
      (h : newMapper rules = .ok (some m)) :
      findExternalIPs m k.ct (.ok k.ip) k.iface = .ok (documented rules k)

It fails in exactly one way, carved out by an explicit decidable guard:
  * F3  `f3Region rules k`  — the key carries an interface name, no explicit Local match, the best
        documented rank among the matching catch-alls is CIDR-only, and the first matching catch-all
        is a global one (then the code answers with that global rule: `C19_lookup_f3_region_exact`).
-/
namespace IceProps.C19
open IceModel.Rewrite IceSpec.C19 IceProofs.Rewrite

theorem compileAll_of_newMapper (rules : List Rule) (m : Mapper) (h : newMapper rules = .ok (some m)) :
    compileAll rules = .ok m :=
  ((newMapper_some_iff rules m).mp h).1

/-- F3 witness of DESIGN §7: [global → 198.51.100.1, CIDR 10.0.0.0/24 → 203.0.113.1]. -/
def f3Rules : List Rule := [
  { ctype := 1, mode := 0, iface := "", cidr := .none, loc := .none, nets := [], ext := [.ok ⟨true, 3325256705⟩] },
  { ctype := 1, mode := 0, iface := "", cidr := .ok ⟨true, 167772160, 24⟩, loc := .none, nets := [],
    ext := [.ok ⟨true, 3405803777⟩] }]

/-- key (host, 10.0.0.5, "eth0") -/
def f3Key : Key := { ct := 1, ip := ⟨true, 167772165⟩, iface := "eth0" }

def f3Mapper : Mapper := [
  (1, { iface := "", cidr := none, mode := 1, m4 := { valid := true, catchAll := true, sole := [⟨true, 3325256705⟩] }, m6 := {} }),
  (1, { iface := "", cidr := some ⟨true, 167772160, 24⟩, mode := 1,
        m4 := { valid := true, catchAll := true, sole := [⟨true, 3405803777⟩] }, m6 := {} })]

/-- a starved rule (finding F15): one host rule, replace mode, external 2001:db8:ffff::1 only, Networks = [udp4]. -/
def starvedRules : List Rule := [
  { ctype := 1, mode := 1, iface := "", cidr := .none, loc := .none, nets := [1],
    ext := [.ok ⟨false, 42540766490509546445348707916023070721⟩] }]

/-- the starved rule followed by a global IPv4 rule (append) -/
def starvedThenGlobal : List Rule := starvedRules ++ [
  { ctype := 1, mode := 2, iface := "", cidr := .none, loc := .none, nets := [], ext := [.ok ⟨true, 3325256705⟩] }]

/-- key (host, 10.0.0.5, no interface name) -/
def plainKey : Key := { ct := 1, ip := ⟨true, 167772165⟩, iface := "" }

/-- For EVERY rule list that `newAddressRewriteMapper` accepts and EVERY key, the lookup equals the
documented precedence read with the one as-coded clause (F3 rank) — no guard. -/
theorem C19_lookup_as_coded (rules : List Rule) (m : Mapper) (k : Key)
    (h : newMapper rules = .ok (some m)) :
    findExternalIPs m k.ct (.ok k.ip) k.iface = .ok (lookupWith asCodedClauses rules k) := by
  show Except.ok (evaluate (rulesFor m k.ct) k.ip k.iface) = _
  rw [evaluate_eq_asCoded rules m (compileAll_of_newMapper rules m h) k]

example : newMapper f3Rules = .ok (some f3Mapper) := by rfl

/-- The documented precedence holds for every rule list and key outside the carved-out defect F3 (the second
guard, `noStarved`, was dropped with the fix of F15). -/
theorem C19_lookup_is_documented_partial (rules : List Rule) (m : Mapper) (k : Key)
    (h : newMapper rules = .ok (some m)) (hf : f3Region rules k = false) :
    findExternalIPs m k.ct (.ok k.ip) k.iface = .ok (documented rules k) := by
  rw [C19_lookup_as_coded rules m k h, asCoded_eq_documented rules k hf]

-- non-vacuity: the guards hold on the F3 rule list itself for the key without interface name,
-- where the CIDR rule wins as documented
example : f3Region f3Rules plainKey = false
    ∧ documented f3Rules plainKey = { ips := [⟨true, 3405803777⟩], matched := true, mode := 1 } := by decide +kernel

/-- A rule list compiling to the `nil` mapper has no rule in scope of any key (as coded). -/
theorem C19_nil_mapper (rules : List Rule) (k : Key) (h : newMapper rules = .ok none) :
    lookupWith asCodedClauses rules k = Res.noMatch := by
  have := compileAll_hits rules [] ((newMapper_none_iff rules).mp h) k
  rw [lookupWith_eq_decl, ← this]
  rfl

example : newMapper [] = .ok none := by rfl

/-- F3: the full statement is FALSE — witness [global, CIDR-only], key (host, 10.0.0.5, "eth0"):
the code returns 198.51.100.1, the documentation demands 203.0.113.1. -/
theorem C19_lookup_is_documented_witness :
    ¬ (∀ (rules : List Rule) (m : Mapper) (k : Key), newMapper rules = .ok (some m) →
        findExternalIPs m k.ct (.ok k.ip) k.iface = .ok (documented rules k)) := by
  intro hall
  have h := hall f3Rules f3Mapper f3Key (by rfl)
  have h1 : findExternalIPs f3Mapper f3Key.ct (.ok f3Key.ip) f3Key.iface
      = .ok { ips := [⟨true, 3325256705⟩], matched := true, mode := 1 } := by rfl
  have h2 : documented f3Rules f3Key = { ips := [⟨true, 3405803777⟩], matched := true, mode := 1 } := by decide +kernel
  rw [h1, h2] at h
  injection h with h
  exact absurd h (by decide)

example : f3Region f3Rules f3Key = true := by decide +kernel

/-- Inside the F3 region the code answers with the FIRST matching catch-all, a global rule `g`,
whereas the documentation demands the first matching CIDR-only rule `c` (for all rule lists/keys). -/
theorem C19_lookup_f3_region_exact (rules : List Rule) (m : Mapper) (k : Key)
    (h : newMapper rules = .ok (some m)) (hf : f3Region rules k = true) :
    ∃ g c, g ∈ rules ∧ c ∈ rules ∧ isCatchAll g k = true ∧ isCatchAll c k = true ∧ rank g = 0 ∧ rank c = 1 ∧
      findExternalIPs m k.ct (.ok k.ip) k.iface
        = .ok { ips := (catchAllIPs g k).getD [], matched := true, mode := docMode g } ∧
      documented rules k = { ips := (catchAllIPs c k).getD [], matched := true, mode := docMode c } := by
  obtain ⟨g, c, h1, h2, h3, h4, h5, h6, h7, h8⟩ := f3_region_exact rules k hf
  refine ⟨g, c, h1, h2, h3, h4, h5, h6, ?_, h8⟩
  rw [C19_lookup_as_coded rules m k h, asCoded_eq_f3 rules k, h7]

example : f3Region f3Rules f3Key = true := by decide +kernel

/-- (replaces the F15 witness, /repo d6a4f83) A starved rule — a catch-all without CIDR that names externals, all of
a family its `Networks` exclude — is never registered by `newAddressRewriteMapper`: it matches nothing, as documented,
instead of dropping the candidates of the allowed families. For EVERY such rule that compiles. -/
theorem C19_starved_not_registered (r : Rule) (hs : starved r = true) (o : Option (Nat × CRule))
    (h : compileRule r = .ok o) : o = none :=
  compileRule_starved r hs o h

example : starved starvedRules.head! = true := by decide +kernel
-- regression for the former F15 witness: the rule alone gives the nil mapper (no lookup can match), and the
-- documentation has no rule in scope of the IPv4 key; followed by a global rule, that rule answers
example : newMapper starvedRules = .ok none := by rfl
example : documented starvedRules plainKey = Res.noMatch := by decide +kernel
example : compileRule starvedRules.head! = .ok none := by rfl
example : ∃ m, newMapper starvedThenGlobal = .ok (some m) ∧ f3Region starvedThenGlobal plainKey = false ∧
    findExternalIPs m plainKey.ct (.ok plainKey.ip) plainKey.iface
      = .ok { ips := [⟨true, 3325256705⟩], matched := true, mode := 2 } ∧
    documented starvedThenGlobal plainKey = { ips := [⟨true, 3325256705⟩], matched := true, mode := 2 } :=
  ⟨_, rfl, by decide, rfl, by decide⟩
-- the documented empty rule (External = []) with the same Networks still IS an empty catch-all for IPv4 only
example : (compileRule { ctype := 1, mode := 1, iface := "", cidr := .none, loc := .none, nets := [1], ext := [] })
    = .ok (some (1, { iface := "", cidr := none, mode := 1, m4 := { valid := true, catchAll := true }, m6 := {} })) := by rfl

/-- "explicit Local matches win immediately" holds in the code for EVERY rule list and key: if some
rule in scope is pinned to the key's address, the first such rule's externals and mode are returned. -/
theorem C19_local_first (rules : List Rule) (m : Mapper) (k : Key) (r : Rule)
    (h : newMapper rules = .ok (some m)) (hr : rules.find? (fun r => isExplicit r k) = some r) :
    findExternalIPs m k.ct (.ok k.ip) k.iface = .ok { ips := externals r, matched := true, mode := docMode r } := by
  rw [C19_lookup_as_coded rules m k h, lookupWith_explicit _ hr]

/-- a host rule pinned to 10.0.0.5 on eth0, append mode -/
def pinRule : Rule :=
  { ctype := 1, mode := 2, iface := "eth0", cidr := .none, loc := .ok ⟨true, 167772165⟩, nets := [], ext := [.ok ⟨false, 5⟩] }

-- non-vacuity: a Local pin declared AFTER two catch-alls still wins
example : (f3Rules ++ [pinRule]).find? (fun r => isExplicit r f3Key) = some pinRule := by decide +kernel

/-- The rank the code computes, REGENERATED from external_ip_mapper.go, is the F3 clause for all
rules and keys; it is the documented rank unless the rule has no interface and the key has one. -/
theorem C19_rank_code (r : Rule) (k : Key) :
    (IceGen.catchAllSpecificity r.iface (hasCIDR r) k.iface).toInt = (rankF3 r k : Int)
    ∧ (¬(r.iface = "" ∧ k.iface ≠ "") → rankF3 r k = rank r) := by
  constructor
  · rw [IceTie.Rewrite.catchAllSpecificity_toInt, hasCIDR_eq, spec_eq_rankF3]
  · intro hn
    rw [rankF3_eq]
    simp [hn]

-- non-vacuity: both cases occur (CIDR-only rule: documented rank 1; coded rank 1 without, 0 with an interface key)
example : rank (f3Rules.getD 1 default) = 1 ∧ rankF3 (f3Rules.getD 1 default) plainKey = 1
    ∧ rankF3 (f3Rules.getD 1 default) f3Key = 0 := by decide +kernel

/-- F3 in the regenerated Go function itself: with an interface name in the lookup, a CIDR-only rule
gets the rank of a global rule. -/
theorem C19_rank_code_witness :
    ¬ (∀ (ruleIface : String) (hasCIDR : Bool) (iface : String),
        (IceGen.catchAllSpecificity ruleIface hasCIDR iface).toInt
          = (rank { ctype := 1, mode := 0, iface := ruleIface, cidr := if hasCIDR then .ok ⟨true, 0, 0⟩ else .none,
                    loc := .none, nets := [], ext := [] } : Int)) := by
  intro h
  have := h "" true "eth0"
  rw [IceTie.Rewrite.catchAllSpecificity_toInt] at this
  revert this
  decide

/-- gather.go applies a lookup result as documented: replace substitutes (an empty list drops the
candidate), append adds (an empty list changes nothing); for srflx the appended addresses alone are
emitted (the STUN-derived candidate is the original). All kinds, all results. -/
theorem C19_modes (kind : Kind) (orig : IP) (res : Res) :
    canonApply (applyRes kind orig (.ok res)) = canonApply (docApply kind orig res) :=
  applyRes_eq_doc kind orig res

/-- … spelled out. -/
theorem C19_modes_clauses (kind : Kind) (orig : IP) (ips : List IP) (x : IP) (mode : Nat) :
    -- replace substitutes the local address
    canonApply (applyRes kind orig (.ok ⟨x :: ips, true, 1⟩)) = (x :: ips, true)
    -- replace with an empty list drops the candidate
    ∧ canonApply (applyRes kind orig (.ok ⟨[], true, 1⟩)) = ([], false)
    -- append with an empty list changes nothing
    ∧ (mode ≠ 1 → canonApply (applyRes kind orig (.ok ⟨[], true, mode⟩)) = ([orig], true))
    -- append adds to it
    ∧ (mode ≠ 1 → kind ≠ .srflx → canonApply (applyRes kind orig (.ok ⟨x :: ips, true, mode⟩)) = (orig :: x :: ips, true))
    -- no matching rule changes nothing
    ∧ canonApply (applyRes kind orig (.ok ⟨ips, false, mode⟩)) = ([orig], true) := by
  refine ⟨?_, ?_, ?_, ?_, ?_⟩
  · rw [C19_modes]; simp [docApply, canonApply]
  · rw [C19_modes]; simp [docApply, canonApply]
  · intro hm; rw [C19_modes]; simp [docApply, canonApply, hm]
  · intro hm hk; rw [C19_modes]; simp [docApply, canonApply, hm, hk]
  · rw [C19_modes]; simp [docApply, canonApply]

example : applyRes .host ⟨true, 1⟩ (.ok ⟨[⟨true, 2⟩], true, 2⟩) = ([⟨true, 1⟩, ⟨true, 2⟩], true) := by decide +kernel
example : applyRes .srflx ⟨true, 1⟩ (.ok ⟨[⟨true, 2⟩], true, 2⟩) = ([⟨true, 2⟩], true) := by decide +kernel

/-- IPv4 and IPv6 never cross: an address of the other family than the key's is returned only from
a rule pinned to the key's address by `Local`, or scoped by a CIDR that contains the key's address
(interpretation note of DESIGN §5). Every accepted rule list, every key. -/
theorem C19_families (rules : List Rule) (m : Mapper) (k : Key) (res : Res) (x : IP)
    (h : newMapper rules = .ok (some m))
    (hres : findExternalIPs m k.ct (.ok k.ip) k.iface = .ok res) (hx : x ∈ res.ips) (hfam : x.v4 ≠ k.ip.v4) :
    ∃ r ∈ rules, IPTok.ok x ∈ r.ext ∧ (r.loc = .ok k.ip ∨ ∃ c, r.cidr = .ok c ∧ c.contains k.ip = true) := by
  rw [C19_lookup_as_coded rules m k h] at hres
  injection hres with hres
  subst hres
  exact asCoded_cross_family rules k x hx hfam

-- non-vacuity: a Local pin does cross families (TestAddressRewriteModeHostReplaceAndAppend)
example :
    (newMapper [{ ctype := 1, mode := 1, iface := "", cidr := .none, loc := .ok ⟨false, 7⟩, nets := [], ext := [.ok ⟨true, 9⟩] }]).toOption.bind
      (fun m => m.bind (fun m => (findExternalIPs m 1 (.ok ⟨false, 7⟩) "").toOption))
      = some { ips := [⟨true, 9⟩], matched := true, mode := 1 } := by rfl

/-- `IPNet.Contains` is the address range of the prefix. -/
theorem C19_cidr_range (c : CIDR) (ip : IP) :
    c.contains ip = true ↔
      c.v4 = ip.v4 ∧ c.base / 2 ^ (c.width - c.bits) * 2 ^ (c.width - c.bits) ≤ ip.val
        ∧ ip.val < c.base / 2 ^ (c.width - c.bits) * 2 ^ (c.width - c.bits) + 2 ^ (c.width - c.bits) :=
  contains_iff_range c ip

example : (CIDR.contains ⟨true, 167772160, 24⟩ ⟨true, 167772165⟩ = true) ∧ (CIDR.contains ⟨true, 167772160, 24⟩ ⟨true, 167772421⟩ = false) := by
  decide +kernel

/-- No external string is whitespace-only (`ParseIP("")`; the documentation is silent on those). -/
def noBlank (rules : List Rule) : Bool := rules.all (fun r => !r.ext.contains .blank)

/-- Invalid rule sets are rejected at construction, and only those: `newAddressRewriteMapper` fails
iff some rule is of an unsupported type (prflx) or — unless limited to no network at all, observation
O1 — has a bad external IP, bad Local, bad CIDR or a Local outside its CIDR. The error is the
unsupported-type error only if a prflx rule is present. -/
theorem C19_validation (rules : List Rule) (hb : noBlank rules = true) :
    ((∃ e, newMapper rules = .error e) ↔ docRejects rules = true)
    ∧ (newMapper rules = .error .unsupported → ∃ r ∈ rules, unsupportedRule r = true) := by
  have hb' : ∀ r ∈ rules, r.ext.contains .blank = false := by
    intro r hr
    have := List.all_eq_true.mp hb r hr
    simpa using this
  constructor
  · rw [← compileAll_error_iff rules hb']
    constructor
    · rintro ⟨e, he⟩; exact ⟨e, (newMapper_error_iff rules e).mp he⟩
    · rintro ⟨e, he⟩; exact ⟨e, (newMapper_error_iff rules e).mpr he⟩
  · intro h
    exact compileAll_unsupported rules ((newMapper_error_iff rules _).mp h)

example : noBlank f3Rules = true ∧ docRejects f3Rules = false := by decide +kernel
-- Local outside CIDR; bad external; prflx
example : docRejects [{ ctype := 1, mode := 0, iface := "", cidr := .ok ⟨true, 167772160, 24⟩, loc := .ok ⟨true, 167772421⟩, nets := [], ext := [] }] = true := by decide +kernel
example : docRejects [{ ctype := 1, mode := 0, iface := "", cidr := .none, loc := .none, nets := [], ext := [.bad] }] = true := by decide +kernel
example : docRejects [{ ctype := 3, mode := 0, iface := "", cidr := .none, loc := .none, nets := [], ext := [] }] = true := by decide +kernel

/-- Legacy `NAT1To1IPs`: `validateLegacyNAT1To1IPs` accepts iff every entry is `ext`, `ext/local` or
empty, and no two entries without local part are of the same family (duplicate catch-alls). -/
theorem C19_validation_legacy (es : List Entry) :
    validateLegacy es = .ok () ↔ legacyRejects es = false :=
  validateLegacy_iff es

example : legacyRejects [[.ip ⟨true, 1⟩], [.ip ⟨true, 2⟩]] = true ∧ legacyRejects [[.ip ⟨true, 1⟩], [.ip ⟨false, 2⟩]] = false := by
  decide +kernel

/-- The sanitizer of the public option `WithAddressRewriteRules` (`sanitizeAddressRewriteRule`) accepts
EXACTLY the documented rules: no unparsable external string, an External list that is EMPTY (the
documented deny / no-op rule: replace drops the matched candidate, append keeps it) or names at least one
address, a Local that parses (or is absent), mode 0/1/2. What it hands on is the same rule with the
addresses of the External list (blank entries dropped) and the mode default filled in; an empty External
list stays empty. (Was `C19_validation_option_partial` + `_witness` before /repo 446b13f: finding F16.) -/
theorem C19_validation_option (r : Rule) :
    ((∃ r', sanitizeRule r = .ok r') ↔
      (r.ext.contains .bad = false ∧ (r.ext = [] ∨ ∃ ip, IPTok.ok ip ∈ r.ext) ∧ r.loc ≠ .bad ∧ r.mode ≤ 2))
    ∧ (∀ r', sanitizeRule r = .ok r' →
        (∀ t, t ∈ r'.ext ↔ t ∈ r.ext ∧ ∃ ip, t = .ok ip) ∧ (r.ext = [] → r'.ext = [])
        ∧ r'.mode = (if r.mode = 0 then defaultMode r.ctype else r.mode)
        ∧ r'.ctype = r.ctype ∧ r'.iface = r.iface ∧ r'.cidr = r.cidr ∧ r'.loc = r.loc ∧ r'.nets = r.nets) :=
  sanitizeRule_spec r

example : ∃ r', sanitizeRule (f3Rules.head!) = .ok r' := ⟨_, rfl⟩
-- the documented "drop" rule (empty External, replace) and the no-op rule (empty External, append, catch-all with
-- CIDR / Iface / Networks) pass unchanged; a list of blank entries only, an unparsable entry, a bad Local are rejected
example : sanitizeRule { ctype := 1, mode := 1, iface := "", cidr := .none, loc := .ok ⟨true, 167772165⟩, nets := [], ext := [] }
    = .ok { ctype := 1, mode := 1, iface := "", cidr := .none, loc := .ok ⟨true, 167772165⟩, nets := [], ext := [] } := by rfl
example : sanitizeRule { ctype := 2, mode := 0, iface := "eth0", cidr := .ok ⟨true, 167772160, 24⟩, loc := .none, nets := [1], ext := [] }
    = .ok { ctype := 2, mode := 2, iface := "eth0", cidr := .ok ⟨true, 167772160, 24⟩, loc := .none, nets := [1], ext := [] } := by rfl
example : sanitizeRule { ctype := 1, mode := 1, iface := "", cidr := .none, loc := .none, nets := [], ext := [.blank, .blank] } = .error .invalid := by rfl
example : sanitizeRule { ctype := 1, mode := 1, iface := "", cidr := .none, loc := .none, nets := [], ext := [.blank, .ok ⟨true, 1⟩, .blank, .ok ⟨true, 1⟩] }
    = .ok { ctype := 1, mode := 1, iface := "", cidr := .none, loc := .none, nets := [], ext := [.ok ⟨true, 1⟩] } := by rfl
example : sanitizeRule { ctype := 1, mode := 1, iface := "", cidr := .none, loc := .none, nets := [], ext := [.ok ⟨true, 1⟩, .bad] } = .error .invalid := by rfl

/-- "A rule set the documentation calls valid is accepted" holds for the public option (the statement whose
negation was `C19_validation_option_witness` while F16 was open): whatever `docRejects` does not reject
(inside the input domain) passes the sanitizer — in particular every rule with an empty External list. -/
theorem C19_validation_option_accepts_documented (rules : List Rule)
    (hd : docRejects rules = false) (ho : outsideDomain rules = false) :
    ∃ clean, sanitizeAll rules = .ok clean := by
  have hb : ∀ r ∈ rules, r.ext.contains .blank = false ∧ r.mode ≤ 2 ∧ (inert r && illFormed r) = false := by
    simpa [outsideDomain, and_assoc] using ho
  cases hs : sanitizeAll rules with
  | ok clean => exact ⟨clean, rfl⟩
  | error e =>
    -- without blank entries the rules are inside the option's domain and none is a list of blank entries only
    have hdom : outsideDomainOn .option rules = false := by
      simp only [outsideDomainOn, List.any_eq_false]
      intro r hr; have := hb r hr; simp_all
    have := (sanitizeAll_spec rules hdom).1 e hs
    simp [optionRejects, hd] at this
    obtain ⟨r, hr, h⟩ := this
    have := (hb r hr).1
    unfold allBlank at h
    cases he : r.ext with
    | nil => simp [he] at h
    | cons t ts => cases t <;> simp_all

/-- regression for the former F16 witness: the documented "drop this host address" rule is configurable
through the option and compiles to the same mapper as on the in-package path -/
example : sanitizeAll [{ ctype := 1, mode := 1, iface := "", cidr := .none, loc := .ok ⟨true, 167772165⟩, nets := [], ext := [] }]
    = .ok [{ ctype := 1, mode := 1, iface := "", cidr := .none, loc := .ok ⟨true, 167772165⟩, nets := [], ext := [] }] := by rfl
example : docRejects [{ ctype := 1, mode := 1, iface := "", cidr := .none, loc := .ok ⟨true, 167772165⟩, nets := [], ext := [] }] = false
    ∧ outsideDomain [{ ctype := 1, mode := 1, iface := "", cidr := .none, loc := .ok ⟨true, 167772165⟩, nets := [], ext := [] }] = false := by decide +kernel

example : (newMapper [{ ctype := 1, mode := 1, iface := "", cidr := .none, loc := .ok ⟨true, 167772165⟩, nets := [], ext := [] }]).toOption.isSome = true := by
  rfl

/-- The whole public path (`WithAddressRewriteRules`, then `newAddressRewriteMapper` as `NewAgent` calls it) rejects
EXACTLY what the documentation calls invalid plus the rules whose External list holds blank entries only
(`optionRejects`); every other rule set of the domain — the empty-External rules included — is accepted. This is the
validation monitor of the option path (`newViolation .option`) stated about the model. -/
theorem C19_validation_option_path (rules : List Rule) (ho : outsideDomainOn .option rules = false) :
    (∃ e, optionPath rules = .error e) ↔ optionRejects rules = true := by
  obtain ⟨s1, s2⟩ := sanitizeAll_spec rules ho
  unfold optionPath
  cases h : sanitizeAll rules with
  | error e => exact ⟨fun _ => s1 e h, fun _ => ⟨e, rfl⟩⟩
  | ok clean =>
    obtain ⟨hnb, hab, hdr⟩ := s2 clean h
    simp only [optionRejects, hab, Bool.or_false]
    rw [← hdr]
    exact (C19_validation clean hnb).1

example : outsideDomainOn .option [{ ctype := 1, mode := 1, iface := "", cidr := .none, loc := .none, nets := [], ext := [] }] = false
    ∧ optionRejects [{ ctype := 1, mode := 1, iface := "", cidr := .none, loc := .none, nets := [], ext := [] }] = false := by decide +kernel
example : outsideDomainOn .option [{ ctype := 1, mode := 1, iface := "", cidr := .none, loc := .none, nets := [], ext := [.blank, .blank] }] = false
    ∧ optionRejects [{ ctype := 1, mode := 1, iface := "", cidr := .none, loc := .none, nets := [], ext := [.blank, .blank] }] = true := by decide +kernel
example : newViolation .option [{ ctype := 1, mode := 1, iface := "", cidr := .none, loc := .none, nets := [], ext := [] }] (some .invalid)
    = some "valid rule set rejected at construction" := by decide +kernel
example : newViolation .option [{ ctype := 1, mode := 1, iface := "", cidr := .none, loc := .none, nets := [], ext := [.blank] }] none
    = some "invalid rule set accepted at construction" := by decide +kernel

/-! ## more of external_ip_mapper.go REGENERATED and proved equal to the model (`IceTie/Rewrite2.lean`, `IceTie/Rewrite.lean`) -/

/-- `ruleMappingForLookup` ∘ `mappingForFamily`: a rule takes part in a lookup iff the model's `ruleMappingForLookup` returns a
mapping — interface scope, CIDR, validity of the mapping of the local address's family — and that mapping is the one returned -/
theorem C19_code_lookup_gate (r : CRule) (ip : IP) (iface : String) :
    IceGen.ruleMappingForLookup r.iface iface r.cidr.isSome (IceTie.Rewrite2.cidrContains r.cidr ip)
        (if IceGen.ruleMapping_mappingForFamily ip.v4 then r.m4 else r.m6).valid
      = ((ruleMappingForLookup r ip iface).isSome, (ruleMappingForLookup r ip iface).isSome) ∧
    (∀ fm, ruleMappingForLookup r ip iface = some fm →
      fm = if IceGen.ruleMapping_mappingForFamily ip.v4 then r.m4 else r.m6) :=
  IceTie.Rewrite2.ruleMappingForLookup_tie r ip iface

/-- `shouldReplace` and `hasCandidateType` (the loops over the rules stored for a candidate type), the latter composed with the
regenerated `hasMappings`, are the model's, for every mapper and candidate type -/
theorem C19_code_replace_and_has (m : Mapper) (ct : Nat) (h : ∀ r ∈ rulesFor m ct, r.mode < 2 ^ 63) :
    IceGen.mapper_shouldReplace ((rulesFor m ct).map (fun r => Int64.ofNat r.mode)) = shouldReplace m ct ∧
    IceGen.mapper_hasCandidateType ((rulesFor m ct).map (fun r => IceGen.ruleMapping_hasMappings r.m4.valid r.m6.valid))
      = hasCandidateType m ct :=
  ⟨IceTie.Rewrite2.shouldReplace_tie m ct h, IceTie.Rewrite2.hasCandidateType_tie m ct⟩

/-- one iteration of the loop of `addExternalMappings`: the family an external address is filed under is `Local`'s, else the
CIDR's, else its own (`targetFam` for a rule without `Local`), and it is filed in the catch-all list of family `fam` iff
`soleFor`'s predicate holds (target = `fam` and `fam` allowed by the rule's networks) -/
theorem C19_code_external_family (a4 a6 : Bool) (cidr : Option CIDR) (e : IP) (fam : Bool) :
    IceTie.Rewrite2.target false false cidr.isSome ((cidr.map (·.v4)).getD false) e.v4 = targetFam cidr e ∧
    ((IceGen.addExternalMappings_iter false false e.v4 false false cidr.isSome ((cidr.map (·.v4)).getD false) a4 a6).1.contains
        (IceModel.Eff.call "addImplicitMapping" [IceModel.Val.b fam, IceModel.Val.b false])
      = ((targetFam cidr e == fam) && isFamilyAllowed a4 a6 fam)) ∧
    (∀ hasSlash parseErr isExt hasLocal localV4 hasCIDR cidrV4,
      IceGen.addExternalMappings_iter hasSlash parseErr isExt hasLocal localV4 hasCIDR cidrV4 a4 a6
        = if hasSlash then ([IceTie.Rewrite2.eFor], (false, "ErrInvalidNAT1To1IPMapping"))
          else if parseErr then ([IceTie.Rewrite2.eFor], (false, "err"))
          else if isFamilyAllowed a4 a6 (IceTie.Rewrite2.target hasLocal localV4 hasCIDR cidrV4 isExt) then
            ([IceTie.Rewrite2.eFor, IceModel.Eff.call "addImplicitMapping"
                [IceModel.Val.b (IceTie.Rewrite2.target hasLocal localV4 hasCIDR cidrV4 isExt), IceModel.Val.b hasLocal],
              IceTie.Rewrite2.eEnd], (true, "nil"))
          else ([IceTie.Rewrite2.eFor, IceTie.Rewrite2.eEnd], (false, "nil"))) :=
  ⟨(IceTie.Rewrite2.addExternalMappings_iter_model a4 a6 cidr e fam).1,
   (IceTie.Rewrite2.addExternalMappings_iter_model a4 a6 cidr e fam).2,
   fun hs pe ie hl lv hc cv => IceTie.Rewrite2.addExternalMappings_iter_tie hs pe ie hl lv hc cv a4 a6⟩

/-- `maybeMarkEmptyMapping`: a rule without `Local` and with an EMPTY External list (the only case in which it is called since
/repo d6a4f83) ends with the model's `catchAllMap` (every allowed family a valid, empty catch-all); a rule that names externals
of which none was added keeps the untouched mappings, which is the model's `catchAllMap` too; a rule pinned by `Local` gets its
empty entry iff `pinMap` is valid -/
theorem C19_code_empty_mapping (a4 a6 : Bool) (cidr : Option CIDR) (exts : List IP) (l : IP) :
    IceTie.Rewrite2.applyMark (IceGen.maybeMarkEmptyMapping false false false a4 a6) ({}, {})
      = (catchAllMap a4 a6 cidr [] true, catchAllMap a4 a6 cidr [] false) ∧
    (exts ≠ [] → (soleFor a4 a6 cidr exts true).isEmpty = true → (soleFor a4 a6 cidr exts false).isEmpty = true →
      (({}, {}) : FamMap × FamMap) = (catchAllMap a4 a6 cidr exts true, catchAllMap a4 a6 cidr exts false)) ∧
    ((IceGen.maybeMarkEmptyMapping false true l.v4 a4 a6 ≠ []) ↔ (pinMap a4 a6 l [] l.v4).valid = true) ∧
    (∀ hasLocal localV4, IceGen.maybeMarkEmptyMapping true hasLocal localV4 a4 a6 = []) :=
  ⟨IceTie.Rewrite2.maybeMarkEmptyMapping_model a4 a6 cidr, IceTie.Rewrite2.unmarked_model a4 a6 cidr exts,
   IceTie.Rewrite2.maybeMarkEmptyMapping_pin a4 a6 l,
   fun hl lv => by rw [IceTie.Rewrite2.maybeMarkEmptyMapping_tie]; rfl⟩

/-- the small pieces translated earlier, as obligations of this check: mode defaulting, family permission, the network-type
predicates (for every `NetworkType` code, negative ones included) -/
theorem C19_code_defaults :
    (∀ ct : UInt8, IceGen.defaultAddressRewriteMode ct = Int64.ofNat (defaultMode ct.toNat)) ∧
    (∀ a4 a6 isV4, IceGen.ruleMapping_isFamilyAllowed a4 a6 isV4 = isFamilyAllowed a4 a6 isV4) ∧
    (∀ n, n < 2 ^ 63 → IceGen.networkType_IsIPv4 (Int64.ofNat n) = netIsV4 n ∧ IceGen.networkType_IsIPv6 (Int64.ofNat n) = netIsV6 n) ∧
    (∀ t : Int64, t.toInt < 0 → IceGen.networkType_IsIPv4 t = false ∧ IceGen.networkType_IsIPv6 t = false) :=
  ⟨IceTie.Rewrite.defaultMode_tie, IceTie.Rewrite.isFamilyAllowed_tie,
   fun n h => ⟨IceTie.Rewrite.netIsV4_tie n h, IceTie.Rewrite.netIsV6_tie n h⟩, IceTie.Rewrite.netIs_neg⟩

/-- non-vacuity -/
example : IceGen.ruleMappingForLookup "eth0" "eth1" false false true = (false, false) ∧
    IceGen.ruleMappingForLookup "" "eth1" true false true = (false, false) ∧
    IceGen.ruleMappingForLookup "eth1" "eth1" true true true = (true, true) ∧
    IceGen.mapper_shouldReplace [2, 1] = true ∧ IceGen.mapper_shouldReplace [2, 2] = false ∧
    IceGen.mapper_hasCandidateType [false, false] = false := by decide +kernel
example : (soleFor true true none [] true).isEmpty = true ∧ (catchAllMap true false none [] true).valid = true ∧
    (catchAllMap true false none [] false).valid = false := by decide +kernel
example : (IceGen.addExternalMappings_iter false false false false false true true true false).1
      = [IceModel.Eff.call "for:externals" [], IceModel.Eff.call "addImplicitMapping" [IceModel.Val.b true, IceModel.Val.b false],
         IceModel.Eff.call "end:externals" []] ∧
    (IceGen.addExternalMappings_iter false false false false false false false true false).1
      = [IceModel.Eff.call "for:externals" [], IceModel.Eff.call "end:externals" []] := by decide +kernel

end IceProps.C19

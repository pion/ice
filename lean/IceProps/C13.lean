import IceProofs.SharedConn
import IceProofs.SharedMonitor
import IceProofs.WriteAbort
import IceSpec.C13
import IceTie.WriteAbort
/-!
# C13 — users of a shared mux cannot disturb each other

Property theorems only.  Part 1: reference-counted handles (`IceModel.SharedConn`, model of
`shared_packet_conn.go`) — any number of handles, any operation sequence.  Part 2: the write-abort
protocol (`IceModel.WriteAbort`, model of the `writeState` CAS protocol of `udp_mux.go`) — any number
of writer and aborter threads, all interleavings of the atomic steps, all environment choices.

Part 2 holds on the unchanged tree only when `SetWriteDeadline(time.Now())` does not fail
(`ReachableNF`): finding F11.  The full statements are kept in comments, the provable parts are named
`…_partial`, and the negations of the full statements are proved on the F11 schedule
(`IceModel.WriteAbort.f11Schedule`, replayed on the real mux by the harness).
-/
namespace IceProps.C13
open IceSpec.C13

section Shared
open IceModel.SharedConn IceProofs.SharedConn

/-- Refcount: in every reachable state (any number of handles, any order of operations, repeated
closes of one handle included) the shared counter is the number of open handles; the underlying
connection has been closed at most once, and exactly once iff at least one handle was handed out and
all of them are closed; and a `Close` call closes the underlying connection precisely when its
handle is open and is the last open one. -/
theorem C13_refcount {s : State} (hr : Reachable s) :
    s.refs = (nOpen s.handles : Int)
    ∧ s.uCloses ≤ 1
    ∧ (s.uCloses = 1 ↔ (0 < s.handles.length ∧ nOpen s.handles = 0))
    ∧ ∀ h, (step s (.close h)).1.uCloses
        = s.uCloses + (if (∃ hd, s.handles[h]? = some hd ∧ hd.closed = false) ∧ nOpen s.handles = 1 then 1 else 0) := by
  have hi := sinv_of_reachable hr
  refine ⟨hi.refs, ?_, ?_, fun h => close_effect hr h⟩
  · rw [hi.closes]; split <;> omega
  · rw [hi.closes]; split <;> simp_all

-- non-vacuity: two handles, closed in either order and twice, reach `uCloses = 1`
example : Reachable (runOps State.init [.open, .open, .close 1, .close 1, .close 0]) ∧
    (runOps State.init [.open, .open, .close 1, .close 1, .close 0]).uCloses = 1 ∧
    (runOps State.init [.open, .open, .close 1, .close 1]).uCloses = 0 := by
  refine ⟨?_, by decide +kernel, by decide +kernel⟩
  exact Reachable.step _ (Reachable.step _ (Reachable.step _ (Reachable.step _ (Reachable.step _ (Reachable.init false 0)
    (by decide +kernel)) (by decide +kernel)) (by decide +kernel)) (by decide +kernel)) (by decide +kernel)

/-- The hypothesis of `Reachable` (no handle is requested for a connection that is already closed)
is needed: at the excluded point the real `sharedPacketConn` closes the underlying connection a
second time (`refs` goes 0 → 1 → 0). The muxes never do this: they create a new connection. -/
theorem C13_refcount_resurrect_witness :
    (runOps State.init [.open, .close 0, .open, .close 1]).uCloses = 2 := by decide +kernel

/-- A repeated `Close` of one handle changes nothing and returns nil. -/
theorem C13_close_idempotent (s : State) (h : Nat) (hd : Handle) (hg : s.handles[h]? = some hd)
    (hc : hd.closed = true) : step s (.close h) = (s, Out.closed s.uCloses 0) := by
  simp [step, hg, hc]

example : ∃ (s : State) (h : Nat) (hd : Handle), s.handles[h]? = some hd ∧ hd.closed = true :=
  ⟨runOps State.init [.open, .close 0], 0, _, rfl, rfl⟩

/-- Sibling independence: closing handle `h` (a) makes every later read/write/deadline call on `h`
fail and leaves no read of `h` parked (they all returned), and (b) makes NO I/O operation on any other handle `g`
fail — in every reachable state (either kind of underlying connection, whatever deadlines are set), for every such
operation: reads, writes, `SetReadDeadline`, `SetWriteDeadline`, `SetDeadline` (`Op.isIOOn`): the result is the same
as without the close, or (fix F33: a wrapper that armed the shared write deadline clears it when it goes) a write
that timed out under that deadline succeeds now (`SameOrCleared`); and it IS the same whenever no write deadline was
armed on any connection of the ufrag (`State.reg`).  Any number of TCP connections per ufrag, whichever of them
refuse `SetWriteDeadline`. -/
theorem C13_sibling_independent {s : State} (hr : Reachable s) {h : Nat} (hlt : h < s.handles.length) :
    (∀ op, Op.isIOOn h op = true → (step (step s (.close h)).1 op).2 = Out.errClosed)
    ∧ (∃ hd, (step s (.close h)).1.handles[h]? = some hd ∧ hd.closed = true ∧ hd.pending = 0)
    ∧ (∀ g op, g ≠ h → Op.isIOOn g op = true →
        SameOrCleared (step s op).2 (step (step s (.close h)).1 op).2
        ∧ ((∀ c, s.reg c = false) → (step (step s (.close h)).1 op).2 = (step s op).2)) := by
  refine ⟨fun op hop => (own_io_fails hr hlt hop).1, (own_io_fails hr hlt (op := .write h) (by simp [Op.isIOOn])).2,
    fun g op hne hop => sibling_independent hr hne hop⟩

-- non-vacuity: with a parked read on each of two handles, closing one releases exactly its own read
-- and the sibling still writes and reads
example :
    let s := runOps State.init [.open, .open, .read 0, .read 1]
    (step s (.close 0)).2 = Out.closed 0 1
    ∧ (step (step s (.close 0)).1 (.write 1)).2 = Out.ok
    ∧ (step (step s (.close 0)).1 (.read 0)).2 = Out.errClosed
    ∧ (step (step s (.close 0)).1 .feed).2 = Out.fed (some 1) := by decide +kernel

/-- The `abortIO` sequence on handle `h` (`SetDeadline(now)`, `abortWrite`, `Close` — what a candidate does with
its handle), in every reachable state and for EITHER kind of underlying connection (`udpMuxedConn` ignoring,
`tcpPacketConn` honouring a forwarded write deadline): (a) every later I/O call on `h` fails closed and no read of
`h` stays parked; (b) NO I/O operation on any other handle `g` fails because of it: the result is the same as without
the abort, or a write that had timed out succeeds now; the same whenever no write deadline was armed before.
(Full statement since fix F33; before it held only for the ignoring kind.) -/
theorem C13_abort_sibling_independent {s : State} (hr : Reachable s) {h : Nat} (hlt : h < s.handles.length) :
    (∀ op, Op.isIOOn h op = true → (step (step s (.abort h)).1 op).2 = Out.errClosed)
    ∧ (∃ hd, (step s (.abort h)).1.handles[h]? = some hd ∧ hd.closed = true ∧ hd.pending = 0)
    ∧ (∀ g op, g ≠ h → Op.isIOOn g op = true →
        SameOrCleared (step s op).2 (step (step s (.abort h)).1 op).2
        ∧ ((∀ c, s.reg c = false) → (step (step s (.abort h)).1 op).2 = (step s op).2)) := by
  refine ⟨fun op hop => (abort_own_io_fails hr hlt hop).1,
    (abort_own_io_fails hr hlt (op := .write h) (by simp [Op.isIOOn])).2,
    fun g op hne hop => abort_sibling_independent hr hne hop⟩

-- regression example (the witness of finding F33 on the honouring kind, now the other way round): two handles,
-- `abortIO` on handle 0 — the sibling's write still succeeds, so does a handle requested afterwards, and the
-- register is not left armed; `SameOrCleared` is not vacuous: a deadline armed by handle 0 itself is cleared by its close
example :
    let s := runOps (State.initK true) [.open, .open]
    Reachable s ∧ (step s (.write 1)).2 = Out.ok
    ∧ (step (step s (.abort 0)).1 (.write 1)).2 = Out.ok
    ∧ (runOps s [.abort 0, .write 1, .read 1, .open]).wdlPast = false
    ∧ (step (runOps s [.abort 0, .open]) (.write 2)).2 = Out.ok
    ∧ (step (runOps s [.setwd 0 true]) (.write 1)).2 = Out.errTimeout
    ∧ (step (runOps s [.setwd 0 true, .close 0]) (.write 1)).2 = Out.ok := by
  refine ⟨Reachable.step _ (Reachable.step _ (Reachable.init true 0) (by decide +kernel)) (by decide +kernel), ?_, ?_, ?_, ?_, ?_, ?_⟩ <;> decide +kernel

/-- The write-deadline register of the underlying connection is armed only while an OPEN handle holds the deadline
(its `writeDeadlineArmed` is set), or after the last handle has gone: a deadline does not outlive the handle that
armed it — every reachable state, any number of handles, any operation order, either kind. -/
theorem C13_deadline_not_outlive {s : State} (hr : Reachable s) (hw : s.wdlPast = true) :
    s.fwd = true ∧ ((0 < s.handles.length ∧ nOpen s.handles = 0) ∨ 0 < nHeld s.handles) := by
  have hi := winv_of_reachable hr
  refine ⟨?_, hi.held hw⟩
  cases hf : s.fwd with
  | true => rfl
  | false => have := hi.nofwd hf; rw [hw] at this; cases this

example : ∃ s, Reachable s ∧ s.wdlPast = true ∧ nHeld s.handles = 1 :=
  ⟨runOps (State.initK true) [.open, .open, .setwd 1 true],
   Reachable.step _ (Reachable.step _ (Reachable.step _ (Reachable.init true 0) (by decide +kernel)) (by decide +kernel)) (by decide +kernel),
   by decide +kernel, by decide +kernel⟩

/-- Every behaviour of the handle model passes the spec monitor that the driver runs on the
implementation's outputs: for any legal operation sequence (any length, any number of handles, either kind of
underlying connection, all operations incl. the three deadline setters and `abortIO`) the
observations produced by the model are accepted clause by clause by `sharedViolation` (underlying
closed exactly at the last distinct close, repeated closes inert, own I/O fails after close / abort and its
parked reads are released, sibling I/O never fails as closed, a read times out only under the handle's own read
deadline, a write only under a write deadline that an OPEN handle holds — on every connection of the ufrag that has
never refused a deadline call, with `k` scripted TCP connections any of which may start / stop refusing
`SetWriteDeadline` at any time; results of deadline setters, `abortIO` and `Close` may be the refusing connection's
error only while one refuses).  Full statement again since fix F33. -/
theorem C13_shared_monitor (fwd : Bool) (k : Nat) (ops : List Op) (hl : legalRun (State.initK fwd k) ops = true) :
    sharedHistViolation (SMon.initK k) (traceOf (State.initK fwd k) ops) = none :=
  absM_initK fwd k ▸ monitor_run ops (Reachable.init fwd k) hl

-- regression example: the trace that was rejected before the fix
example :
    legalRun (State.initK true) [.open, .open, .write 1, .abort 0, .write 1] = true
    ∧ sharedHistViolation {} (traceOf (State.initK true) [.open, .open, .write 1, .abort 0, .write 1]) = none := by
  constructor <;> decide +kernel

-- non-vacuity: a legal run with observations of every kind; and the monitor does reject a wrong trace
example : legalRun State.init [.open, .open, .read 0, .feed, .read 1, .close 1, .write 0, .close 0, .close 0] = true
    ∧ (traceOf State.init [.open, .open, .read 0, .feed, .read 1, .close 1, .write 0, .close 0, .close 0]).length = 9 := by
  decide +kernel
-- … also with the new operations, on both kinds
example : legalRun (State.initK false) [.open, .open, .setwd 0 true, .write 1, .abort 0, .write 1, .setd 1 true, .read 1, .abort 1] = true
    ∧ legalRun (State.initK true) [.open, .open, .setwd 0 true, .write 1, .setd 1 false, .setrd 0 true, .read 0, .write 1, .abort 0, .write 1] = true := by
  decide +kernel
-- the monitor does reject a deadline that outlived its handle
example : (sharedHistViolation {} [.opened 0, .opened 1, .aborted 0 .ok 0 0, .io 1 .write 0 .errTimeout]).isSome = true
    ∧ sharedHistViolation {} [.opened 0, .opened 1, .dl 0 false true true .ok, .io 1 .write 0 .errTimeout] = none := by decide +kernel
-- several connections, one refusing `SetWriteDeadline` while handle 0 arms and goes (seeded mutant
-- `C13-tcp-setwd-first-error-return`): in the model every healthy connection is clear afterwards, only the refusing one
-- may keep a deadline; the monitor accepts the model's trace, and rejects a timeout on a healthy connection
example :
    let ops : List Op := [.open, .open, .setd 0 true, .refuse 7 true, .close 0, .write 1 0, .write 1 3, .write 1 6, .write 1 7]
    legalRun (State.initK true 8) ops = true
    ∧ (List.range 7).all (fun c => (runOps (State.initK true 8) (ops.take 5)).reg c == false) = true
    ∧ (runOps (State.initK true 8) (ops.take 5)).reg 7 = true
    ∧ (step (runOps (State.initK true 8) (ops.take 4)) (.close 0)).2 = Out.closedErr 0 0
    ∧ sharedHistViolation (SMon.initK 8) (traceOf (State.initK true 8) ops) = none := by decide +kernel
example : (sharedHistViolation (SMon.initK 8) [.opened 0, .opened 1, .dl 0 true true true .ok, .fault 7 true, .closedErr 0 0 0,
    .io 1 .write 3 .errTimeout]).isSome = true := by decide +kernel
example : sharedHistViolation {} [.opened 0, .opened 1, .closed 0 1 0]
    = some "underlying connection closed while sibling handles are open" := by decide +kernel

end Shared

section WriteAbort
open IceModel.WriteAbort IceProofs.WriteAbort

/-
Full statement (does NOT hold on the unchanged tree, see `C13_count_inv_witness`):
  theorem C13_count_inv {s} (hr : Reachable s) : s.cnt = s.nFlight
-/
/-- Count invariant, for executions in which `SetWriteDeadline(now)` does not fail: the count field of
`writeState` equals the number of writers between their increment (`startWriteContext`) and their
decrement (`finishWrite`) — any number of threads, all interleavings. -/
theorem C13_count_inv_partial {s : State} (hr : ReachableNF s) : s.cnt = s.nFlight := by
  have hi := inv_of_reachableNF hr
  simp only [IceProofs.WriteAbort.Inv, InvN] at hi
  exact hi.1

/-- With a failed arming the count is lost: after the first 28 steps of the F11 schedule writer Z is
inside the socket write while the count field is 0. -/
theorem C13_count_inv_witness : ¬ (∀ s, Reachable s → s.cnt = s.nFlight) := by
  intro h
  have hs : run State.init (f11Schedule.take 28) = some
      { cnt := 0, dbit := false, bbit := false, rpast := true, epoch := 3,
        wr := [.done, .done, .w1], ab := [.done true, .done false, .done false] } := by decide +kernel
  have := h _ (reachable_of_run Reachable.init hs)
  revert this
  decide +kernel

-- non-vacuity of the hypothesis: a non-failing execution with two writers counted
example : ∃ s, ReachableNF s ∧ s.cnt = 2 :=
  ⟨_, reachableNF_of_run (l := [.spawnW, .spawnW, .start 0, .start 1]) ReachableNF.init (by decide +kernel) rfl, rfl⟩

-- a socket write that FAILS (an error that is not the deadline's; either write path) is an ordinary `ReachableNF`
-- step and still goes through `finishWrite`: afterwards nothing is counted, and the abort of another user is idle
-- (the pattern of seeded mutant `C13-addrport-write-skips-finish`, which the harness runs on the real mux)
example : ∃ s, ReachableNF s ∧ s.allDone = true ∧ s.word = 0 ∧ s.rpast = false :=
  ⟨_, reachableNF_of_run (l := [.spawnW, .start 0, .writeRet 0 .err, .finish 0, .spawnA, .abortCas 0])
    ReachableNF.init (by decide +kernel) rfl, by decide +kernel, by decide +kernel, by decide +kernel⟩

/-
Full statement (does NOT hold on the unchanged tree, see `C13_deadline_cleared_witness`):
  theorem C13_deadline_cleared {s} (hr : Reachable s) (hq : s.quiescent = true) :
      s.word = 0 ∧ s.rpast = false ∧ quiescentViolation { word := s.word, armed := s.rpast } = none
      ∧ ∃ s', probe s = some (WRes.ok, s')
-/
/-- Deadline cleared, for executions in which `SetWriteDeadline(now)` does not fail: in every
reachable state in which no writer is in flight (counted or inside `clearWriteDeadlineAfterAbort`) and
no abort is between its CAS and its last step, `writeState` is 0 (count, blocked and deadline bits),
the last value written to the socket's write-deadline register is zero, the spec monitor accepts the
observation, and a write issued then succeeds and leaves the same situation behind. -/
theorem C13_deadline_cleared_partial {s : State} (hr : ReachableNF s) (hq : s.quiescent = true) :
    s.word = 0 ∧ s.rpast = false
    ∧ quiescentViolation { word := s.word, armed := s.rpast } = none
    ∧ ∃ s', probe s = some (WRes.ok, s') ∧ s'.word = 0 ∧ s'.rpast = false ∧ s'.quiescent = true := by
  have hi := inv_of_reachableNF hr
  obtain ⟨h1, h2, h3, h4⟩ := quiescent_clear hi hq
  have hw : s.word = 0 := (word_zero_iff s).mpr ⟨h1, h2, h3⟩
  obtain ⟨s', hp, p1, p2, p3, p4, p5, p6⟩ := probe_ok hi hq
  refine ⟨hw, h4, by simp [quiescentViolation, hw, h4], s', hp, (word_zero_iff s').mpr ⟨p1, p2, p3⟩, p4, ?_⟩
  simp only [State.quiescent, State.nFlight, State.nClearing, State.nActive, p5, p6, List.countP_append,
    List.countP_singleton] at hq ⊢
  simpa [WLoc.inFlight, WLoc.clearing] using hq

/-- Finding F11 on the model: the schedule `f11Schedule` is executable step by step, every thread
has returned, `writeState` is 0 — and the socket's write deadline is still armed; the monitor rejects
the observation and a probe write times out. -/
theorem C13_deadline_cleared_witness :
    ∃ s, run State.init f11Schedule = some s ∧ s.allDone = true ∧ s.quiescent = true ∧ s.word = 0
      ∧ s.rpast = true
      ∧ quiescentViolation { word := s.word, armed := s.rpast, failedArm := true }
          = some "write deadline left armed at quiescence after failed SetWriteDeadline(now)"
      ∧ (probe s).map (·.1) = some WRes.timeout :=
  ⟨{ cnt := 0, dbit := false, bbit := false, rpast := true, epoch := 3,
     wr := [.done, .done, .done], ab := [.done true, .done false, .done false] },
   by decide +kernel, by decide +kernel, by decide +kernel, by decide +kernel, by decide +kernel, by decide +kernel, by decide +kernel⟩

/-- … hence the full statement is false for the model of the unchanged code. -/
theorem C13_deadline_cleared_full_witness :
    ¬ (∀ s, Reachable s → s.quiescent = true → s.word = 0 ∧ s.rpast = false) := by
  intro h
  obtain ⟨s, hrun, _, hq, _, hr, _⟩ := C13_deadline_cleared_witness
  have := (h s (reachable_of_run Reachable.init hrun) hq).2
  rw [hr] at this
  exact Bool.noConfusion this

-- non-vacuity: a complete abort cycle without failure ends quiescent, with the deadline cleared
example : ∃ s, ReachableNF s ∧ s.quiescent = true ∧ s.allDone = true ∧ s.epoch = 1 :=
  ⟨_, reachableNF_of_run (l := [.spawnW, .start 0, .spawnA, .abortCas 0, .abortSet 0 true, .abortArm 0,
      .writeRet 0 .timeout, .finish 0, .clearLoad 0, .clearSet 0, .clearStore 0])
      ReachableNF.init (by decide +kernel) rfl, by decide +kernel, by decide +kernel, by decide +kernel⟩

/-
Full statement (does NOT hold on the unchanged tree, see `C13_waiter_epoch_witness`):
  theorem C13_waiter_epoch {s} (hr : Reachable s) : ∀ w ∈ s.wr, WLoc.staleAt s.epoch w = false
-/
/-- Without a failed arming no writer waiting in `clearWriteDeadlineAfterAbort` outlives the epoch in
which it decremented (the clause "of the current epoch" of invariant I3), and at most one writer is
there at all. -/
theorem C13_waiter_epoch_partial {s : State} (hr : ReachableNF s) :
    (∀ w ∈ s.wr, WLoc.staleAt s.epoch w = false) ∧ s.nClearing ≤ 1 := by
  refine ⟨noStale_of_reachableNF hr, ?_⟩
  have hi := inv_of_reachableNF hr
  simp only [IceProofs.WriteAbort.Inv, InvN] at hi
  exact hi.2.2.2.2.2.1

/-- The mechanism of F11: after 16 steps of the schedule (failed arming in epoch 1, abort 2 has begun
epoch 2) writer X still waits on behalf of epoch 1, together with epoch 2's own last writer. -/
theorem C13_waiter_epoch_witness :
    ∃ s, run State.init (f11Schedule.take 16) = some s ∧ s.epoch = 2 ∧ s.wr = [.w3 1, .w3 2] ∧ s.nClearing = 2 :=
  ⟨{ cnt := 0, dbit := true, bbit := true, rpast := true, epoch := 2, wr := [.w3 1, .w3 2],
     ab := [.done true, .done false] }, by decide +kernel, rfl, rfl, by decide +kernel⟩

/-- The failure branch in isolation, from ANY state (reachable or not) in which aborter `j` is about
to call `SetWriteDeadline(now)`: if the call fails, the socket's deadline register, the count and
all writers are untouched, both flag bits are cleared, the aborter returns the error — and a writer
spinning in `startWriteContext` then enters. -/
theorem C13_setdeadline_error {s : State} {j : Nat} (hj : s.ab[j]? = some ALoc.a1) :
    ∃ s1 s2, step s (.abortSet j false) = some s1 ∧ step s1 (.abortClear j) = some s2
      ∧ s1.rpast = s.rpast ∧ s1.cnt = s.cnt ∧ s1.bbit = s.bbit ∧ s1.dbit = s.dbit ∧ s1.wr = s.wr
      ∧ s2.bbit = false ∧ s2.dbit = false ∧ s2.rpast = s.rpast ∧ s2.cnt = s.cnt ∧ s2.wr = s.wr
      ∧ s2.ab[j]? = some (ALoc.done true)
      ∧ ∀ i, s.wr[i]? = some WLoc.w0 → ∃ s3, step s2 (.start i) = some s3 ∧ s3.wr[i]? = some WLoc.w1 := by
  obtain ⟨s1, s2, h1, h2, a1, a2, a3, a4, a5, b1, b2, b3, b4, b5, b6⟩ := setdeadline_error hj
  refine ⟨s1, s2, h1, h2, a1, a2, a3, a4, a5, b1, b2, b3, b4, b5, b6, ?_⟩
  intro i hi
  obtain ⟨s3, h3, h4, _⟩ := writer_enters_when_unblocked (s := s2) b1 (by rw [b5]; exact hi)
  exact ⟨s3, h3, h4⟩

example : ∃ (s : State) (j : Nat), Reachable s ∧ s.ab[j]? = some ALoc.a1 :=
  ⟨_, 0, reachable_of_run (l := [.spawnW, .start 0, .spawnA, .abortCas 0]) Reachable.init rfl, rfl⟩

/-- No stuck state (progress, I6), for executions in which `SetWriteDeadline(now)` does not fail: in
every reachable state in which some thread has not returned, EITHER a step of the program itself (or a
write forced to return by an expired deadline) is enabled and changes the state — so not every enabled
transition is a spin/yield — OR the blocked bit is clear, the socket deadline is zero and every live
thread is a writer inside the socket write, which returns as soon as the socket lets it. New calls,
context cancellation and the socket's good will are NOT counted as progress in the first case. -/
theorem C13_no_stuck {s : State} (hr : ReachableNF s) (hlive : s.live = true) :
    (∃ a s', a.forced = true ∧ step s a = some s' ∧ s' ≠ s)
    ∨ (s.bbit = false ∧ s.rpast = false ∧ (∀ a ∈ s.ab, a.isDone = true)
        ∧ (∀ w ∈ s.wr, w = WLoc.w1 ∨ w = WLoc.done)
        ∧ ∃ i s', s.wr[i]? = some WLoc.w1 ∧ step s (.writeRet i .ok) = some s' ∧ s' ≠ s) := by
  rcases progress (inv_of_reachableNF hr) with hp | ⟨hb, hrz, hab, hw⟩
  · exact Or.inl hp
  · right
    refine ⟨hb, hrz, hab, hw, ?_⟩
    -- some thread is live, all aborters are done, so a writer is in W1
    have hex : ∃ w ∈ s.wr, w = WLoc.w1 := by
      apply Classical.byContradiction
      intro hcon
      have hall : s.wr.all WLoc.isDone = true := by
        rw [List.all_eq_true]
        intro w hwm
        rcases hw w hwm with h | h
        · exact absurd ⟨w, hwm, h⟩ hcon
        · subst h; rfl
      have hall2 : s.ab.all ALoc.isDone = true := by
        rw [List.all_eq_true]; exact hab
      simp [State.live, State.allDone, hall, hall2] at hlive
    obtain ⟨w, hwm, hw1⟩ := hex
    subst hw1
    obtain ⟨i, hi⟩ := List.mem_iff_getElem?.mp hwm
    obtain ⟨s', h1, h2⟩ := socketBlocked_can_complete hi
    exact ⟨i, s', hi, h1, h2⟩

-- non-vacuity: a reachable state with blocked set, deadline bit not yet set, the last writer waiting
-- (spinning) in clearWriteDeadlineAfterAbort — the aborter is the one who can move
example : ∃ s, ReachableNF s ∧ s.live = true ∧ s.bbit = true ∧ s.dbit = false
    ∧ step s (.clearLoad 0) = some s :=
  ⟨_, reachableNF_of_run (l := [.spawnW, .start 0, .spawnA, .abortCas 0, .writeRet 0 .ok, .finish 0])
      ReachableNF.init (by decide +kernel) rfl, by decide +kernel, rfl, rfl, by decide +kernel⟩

end WriteAbort
/-! ## Part 3 — tie to the code (T): the six load / test / CAS loops of `udp_mux.go` are REGENERATED on every run (one
iteration each, `IceGen.T_WriteAbort`) and perform exactly the transitions of `IceModel.WriteAbort.step` -/
section CodeTie
open IceModel IceModel.WriteAbort IceTie.WriteAbort

/-- the bit tests and updates of the code on the 64-bit word are the model's on (`cnt`, `dbit`, `bbit`), for every count
below 2^62 and both bits: blocked test, deadline test, count field, setting either bit, clearing both, count ± 1 -/
theorem C13_code_state_word (c : Nat) (d b : Bool) (h : c + 1 < 2 ^ 62) :
    ((enc c d b &&& 9223372036854775808) != 0) = b ∧
    ((enc c d b &&& 4611686018427387904) != 0) = d ∧
    enc c d b &&& 4611686018427387903 = UInt64.ofNat c ∧
    enc c d b ||| 9223372036854775808 = enc c d true ∧
    enc c d b ||| 4611686018427387904 = enc c true b ∧
    enc c d b &&& (~~~(13835058055282163712 : UInt64)) = enc c false false ∧
    enc c d b + 1 = enc (c + 1) d b ∧
    enc (c + 1) d b - 1 = enc c d b :=
  ⟨blocked_test c d b (by omega), deadline_test c d b (by omega), count_field c d b (by omega),
   set_blocked c d b (by omega), set_deadline c d b (by omega), clear_bits c d b (by omega), inc_word c d b h,
   dec_word c d b h⟩

/-- ONE iteration of each loop, for every word and BOTH outcomes of its CAS: the test it takes, the value it CASes in,
what it calls and what it returns (`none` = it goes round again: a failed CAS or a yield) -/
theorem C13_code_iterations (c : Nat) (d b casOk x : Bool) (h : c + 1 < 2 ^ 62) :
    IceGen.udpMux_startWriteContext_iter true (enc c d b) casOk = ([], some "ctxErr") ∧
    IceGen.udpMux_startWriteContext_iter false (enc c d b) casOk
      = (if b then ([eYield], none)
         else ([eCas (word c d b) (word (c + 1) d b)], if casOk then some "nil" else none)) ∧
    IceGen.udpMux_finishWrite_iter (enc c d b) casOk
      = (if c = 0 then ([], some "writeErr")
         else if b ∧ c = 1 then
           ([eCas (word c d b) (word (c - 1) d b)], if casOk then some "clearWriteDeadlineAfterAbort(writeErr)" else none)
         else ([eCas (word c d b) (word (c - 1) d b)], if casOk then some "writeErr" else none)) ∧
    IceGen.udpMux_abortWrite_iter (enc c d b) casOk x
      = (if b ∨ c = 0 then ([], some "nil")
         else if !casOk then ([eCas (word c d b) (word c d true)], none)
         else if x then
           ([eCas (word c d b) (word c d true), Eff.call "setWriteDeadlineNow" [], Eff.call "clearWriteAbortState" []], some "err")
         else
           ([eCas (word c d b) (word c d true), Eff.call "setWriteDeadlineNow" [], Eff.call "setWriteDeadlineArmed" []], some "nil")) ∧
    IceGen.udpMux_setWriteDeadlineArmed_iter (enc c d b) casOk
      = (if b = false ∨ d then ([], some ())
         else ([eCas (word c d b) (word c true b)], if casOk then some () else none)) ∧
    IceGen.udpMux_clearWriteDeadlineAfterAbort_iter (enc c d b) x
      = (if b = false then ([], some "writeErr")
         else if d = false then ([eYield], none)
         else ([Eff.call "setWriteDeadlineZero" [], Eff.call "store" [Val.n (word 0 false false)]],
               some (if x then "clearErr" else "writeErr"))) ∧
    IceGen.udpMux_clearWriteAbortState_iter (enc c d b) casOk
      = (if d = false ∧ b = false then ([], some ())
         else ([eCas (word c d b) (word c false false)], if casOk then some () else none)) :=
  ⟨(startWriteContext_tie c d b casOk h).1, (startWriteContext_tie c d b casOk h).2, finishWrite_tie c d b casOk (by omega),
   abortWrite_tie c d b casOk x (by omega), setWriteDeadlineArmed_tie c d b casOk (by omega),
   clearWriteDeadlineAfterAbort_tie c d b x (by omega), clearWriteAbortState_tie c d b casOk (by omega)⟩

/-- the iteration whose CAS succeeds IS the model's transition — writers: from every state with a thread at W0 / W2 / W3
the regenerated iteration on the state's word takes the model's branch, and the value it CASes (stores) is the word of the
model's successor state -/
theorem C13_code_writer_steps (s : State) (i : Nat) (h : s.cnt + 1 < 2 ^ 62) :
    (s.wr[i]? = some .w0 → ∃ s', step s (.start i) = some s' ∧
      IceGen.udpMux_startWriteContext_iter false (encOf s) true
        = if s.bbit then ([eYield], none) else ([eCas (wordOf s) (wordOf s')], some "nil")) ∧
    (s.wr[i]? = some .w2 → ∃ s', step s (.finish i) = some s' ∧
      IceGen.udpMux_finishWrite_iter (encOf s) true
        = if s.cnt = 0 then ([], some "writeErr")
          else ([eCas (wordOf s) (wordOf s')],
                some (if s.bbit ∧ s.cnt = 1 then "clearWriteDeadlineAfterAbort(writeErr)" else "writeErr"))) ∧
    (∀ ep writeOk, s.wr[i]? = some (.w3 ep) → ∃ s', step s (.clearLoad i) = some s' ∧
      IceGen.udpMux_clearWriteDeadlineAfterAbort_iter (encOf s) writeOk
        = (if s.bbit = false then ([], some "writeErr")
          else if s.dbit = false then ([eYield], none)
          else ([Eff.call "setWriteDeadlineZero" [],
                 Eff.call "store" [Val.n (wordOf { s with cnt := 0, dbit := false, bbit := false })]],
                some (if writeOk then "clearErr" else "writeErr"))) ∧
      (s.bbit = true → s.dbit = false → s' = s)) :=
  ⟨fun hw => start_refines s i hw h, fun hw => finish_refines s i hw (by omega),
   fun ep writeOk hw => clear_refines s i ep writeOk hw (by omega)⟩

/-- … aborters: A0 (`abortWrite`), A2 (`setWriteDeadlineArmed`), A3 (`clearWriteAbortState`) -/
theorem C13_code_aborter_steps (s : State) (j : Nat) (h : s.cnt < 2 ^ 62) :
    (∀ setFails, s.ab[j]? = some .a0 → ∃ s', step s (.abortCas j) = some s' ∧
      IceGen.udpMux_abortWrite_iter (encOf s) true setFails
        = if s.bbit ∨ s.cnt = 0 then ([], some "nil")
          else ([eCas (wordOf s) (wordOf s'), Eff.call "setWriteDeadlineNow" [],
                 Eff.call (if setFails then "clearWriteAbortState" else "setWriteDeadlineArmed") []],
                some (if setFails then "err" else "nil"))) ∧
    (s.ab[j]? = some .a2 → ∃ s', step s (.abortArm j) = some s' ∧
      IceGen.udpMux_setWriteDeadlineArmed_iter (encOf s) true
        = if s.bbit = false ∨ s.dbit then ([], some ()) else ([eCas (wordOf s) (wordOf s')], some ())) ∧
    (s.ab[j]? = some .a3 → ∃ s', step s (.abortClear j) = some s' ∧
      IceGen.udpMux_clearWriteAbortState_iter (encOf s) true
        = if s.dbit = false ∧ s.bbit = false then ([], some ()) else ([eCas (wordOf s) (wordOf s')], some ())) :=
  ⟨fun sf hw => abortCas_refines s j sf hw h, fun hw => abortArm_refines s j hw h, fun hw => abortClear_refines s j hw h⟩

/-- non-vacuity: two writers in flight, the abort CAS sets bit 63; the last writer of a blocked word goes on to clear; the
constants are the model's -/
example : IceGen.udpMux_abortWrite_iter 2 true false
      = ([Eff.call "cas" [Val.n 2, Val.n 9223372036854775810], Eff.call "setWriteDeadlineNow" [],
          Eff.call "setWriteDeadlineArmed" []], some "nil") ∧
    IceGen.udpMux_finishWrite_iter 9223372036854775809 true
      = ([Eff.call "cas" [Val.n 9223372036854775809, Val.n 9223372036854775808]], some "clearWriteDeadlineAfterAbort(writeErr)") ∧
    IceGen.udpMux_startWriteContext_iter false 9223372036854775809 true = ([Eff.call "gosched" []], none) ∧
    IceGen.udpMux_startWriteContext_iter false 1 false = ([Eff.call "cas" [Val.n 1, Val.n 2]], none) ∧
    IceGen.udpMux_clearWriteAbortState_iter 13835058055282163713 true
      = ([Eff.call "cas" [Val.n 13835058055282163713, Val.n 1]], some ()) := by decide +kernel
example : word 0 false true = 2 ^ blockedBitPos ∧ word 0 true false = 2 ^ deadlineBitPos ∧
    word countMask false false = countMask := by decide +kernel
example : ∃ s, (run State.init [.spawnW, .start 0, .spawnA]) = some s ∧ s.ab[0]? = some ALoc.a0 ∧ s.cnt < 2 ^ 62 :=
  ⟨_, rfl, by decide +kernel, by decide +kernel⟩

end CodeTie
end IceProps.C13

import IceTie.MuxTcp
import IceProofs.TcpMuxCause
import IceProofs.TcpMuxSimEnd
import IceSpec.C15
import IceSpec.C15View
import IceProofs.TcpMuxDriver
/-!
# C15 — TCP mux routes connections by ufrag and cleans up after itself

Property theorems only.  All statements are about the executable model `IceModel.TcpMux`
(`step` = one public call or client event, run to quiescence) and quantify over ALL configurations
and ALL operation sequences (`run (init cfg) ops`); the model is tied to `tcp_mux.go` /
`tcp_packet_conn.go` by the correspondence component `tcpmux` (notes/C15.md).
-/
namespace IceProps.C15
open IceModel.TcpMux IceProofs.TcpMux

/-! ## Concrete sessions used by the non-vacuity examples -/

def exCfg : Config := ⟨4, false, 30, 50⟩
def exKeyA : Key := ⟨"a", false, 0⟩
def exUser (fid : Nat) (u : String) (len : Nat := 32) : Frame := ⟨fid, .user u, len⟩
/-- a handle for ufrag "a", one accepted client from 0:1000 on local IP 0 -/
def exOps1 : List Op := [.getConn exKeyA, .accept ⟨0, 1000⟩ 0]

/-- what "the TCP connection is closed and nothing else changes" means: only connection `k` is touched
(closed; the ghost log `sent` records the frame) -/
def rejected (s : State) (k : Nat) (f : Frame) : State :=
  setTcp s k (fun t => { closeTcp t with sent := t.sent ++ [f] })

/-- the provisional packet connection `handleConn` creates for an unknown ufrag -/
def provisionalPc (s : State) (key : Key) : PConn :=
  { key := key, provisional := true, alive := some (s.now + effTimeout s.cfg.t2), refs := 0, created := s.now }

/-- TCP connection `k` (whose state before was `t`) has been attached to packet connection `p` (whose
state before was `pc`) with first frame `f`: it is registered under its peer address, its first frame
is the newest entry of the receive queue — or, if the queue is full, is held by its reader, which is
first in line for that packet connection — and no other connection or packet connection changed. -/
structure AttachedTo (s s' : State) (k : Nat) (t : Tcp) (f : Frame) (p : Nat) (pc : PConn) : Prop where
  ex : ∃ t' pc', s'.tcps[k]? = some t' ∧ s'.pcs[p]? = some pc' ∧
    t'.phase = .attached p ∧ t'.pc = some p ∧ t'.peer = t.peer ∧
    pc'.key = pc.key ∧ pc'.closed = false ∧ pc'.conns = pc.conns ++ [(t.peer, k)] ∧
    ((pc.recvQ.length < s.cfg.cap ∧ t'.reader = .idle ∧ pc'.hist = pc.hist ++ [pktOf t.peer k f] ∧
        pc'.recvQ = pc.recvQ ++ [pktOf t.peer k f]) ∨
     (¬ pc.recvQ.length < s.cfg.cap ∧ t'.reader = .blocked (pktOf t.peer k f) false ∧
        pc'.blockedQ = pc.blockedQ ++ [k] ∧ pc'.recvQ = pc.recvQ ∧ pc'.hist = pc.hist))
  others : ∀ j, j ≠ k → s'.tcps[j]? = s.tcps[j]?
  otherPcs : ∀ q, q ≠ p → q < s.pcs.length → s'.pcs[q]? = s.pcs[q]?

/-- **First frame.** Let `k` be a connection whose handler is still waiting for the first frame
(`pending d`) and whose client has neither closed nor stopped mid-frame, and let the complete frame
`f` arrive. Then
* (in time) the first-bind deadline `d` has not passed;
* if `f` is larger than 512 bytes, does not decode as STUN, is not a Binding, or has no USERNAME
  (`classify f = none`), the connection is closed and nothing else changes;
* otherwise, with `u` the USERNAME text before the first `:`, the target is the open packet connection
  under (u, family of the peer, local IP of the connection):
  - if there is one and it has no connection from this remote address, `k` is attached to it;
  - if there is one and it already has a connection from this remote address, `k` is closed and nothing
    else changes;
  - if there is none, a provisional packet connection (alive timer armed for now + alive duration, no
    handles) is created at the next index and `k` is attached to it. -/
theorem C15_first_frame (cfg : Config) (ops : List Op) (k : Nat) (t : Tcp) (d : Nat) (f : Frame) :
    let s := run (init cfg) ops
    s.tcps[k]? = some t → t.phase = .pending d → t.cEnd = false → t.stuck = false →
    let s' := (step s (.frame k f)).1
    s.now < d ∧
    (classify f = none → s' = rejected s k f) ∧
    (∀ u, classify f = some u →
      match findPc s.pcs ⟨u, t.peer.v6, t.lip⟩ with
      | some p => ∃ pc, s.pcs[p]? = some pc ∧ pc.closed = false ∧ pc.key = ⟨u, t.peer.v6, t.lip⟩ ∧
          ((lookupConn pc.conns t.peer).isSome = true → s' = rejected s k f) ∧
          (lookupConn pc.conns t.peer = none → AttachedTo s s' k t f p pc)
      | none =>
          s'.pcs.length = s.pcs.length + 1 ∧
          AttachedTo s s' k t f s.pcs.length (provisionalPc s ⟨u, t.peer.v6, t.lip⟩)) := by
  intro s ht hph hce hst s'
  have hnow : s.now < d := by
    exact (reachable_inv cfg ops).pend ht hph
  -- a registered connection whose first frame fits the read buffer
  have att : ∀ (x : State) (p : Nat) (pc : PConn) (u : String), classify f = some u → x.tcps = s.tcps → x.cfg = s.cfg →
      x.pcs[p]? = some pc → pc.closed = false → (∀ q, q ≠ p → q < s.pcs.length → x.pcs[q]? = s.pcs[q]?) →
      AttachedTo s (runReader (registered x p k t.peer f) k) k t f p pc := by
    intro x p pc u hu hx hcfg hp ho hq
    obtain ⟨t', pc', a1, a2, a3, a4, a5, _, a7, a8, a9, a10, a11, a12⟩ := registered_attached x p k t f pc (hx ▸ ht) hp ho
      (by have := ((classify_iff f u).1 hu).1; unfold receiveMTU; omega)
    rw [hcfg] at a10
    exact ⟨⟨t', pc', a1, a2, a3, a4, a5, a7, a8, a9, a10⟩, fun j hj => by rw [a11 j hj, hx],
      fun q hq1 hq2 => by rw [a12 q hq1]; exact hq q hq1 hq2⟩
  have h : FirstFrame s k t f s' := step_firstFrame f ht hph hce hst
  clear_value s'
  cases h with
  | bad hc => exact ⟨hnow, fun _ => rfl, fun u hu => by rw [hc] at hu; cases hu⟩
  | dup u p pc hc hf hp ho hk hd =>
    refine ⟨hnow, fun _ => rfl, fun u' hu' => ?_⟩
    rw [hc] at hu'; cases hu'
    rw [hf]
    exact ⟨pc, hp, ho, hk, fun _ => rfl, fun hn => by rw [hn] at hd; cases hd⟩
  | join u p pc hc hf hp ho hk hnd =>
    refine ⟨hnow, (fun hn => by rw [hc] at hn; cases hn), fun u' hu' => ?_⟩
    rw [hc] at hu'; cases hu'
    rw [hf]
    exact ⟨pc, hp, ho, hk, (fun hd => by rw [hnd] at hd; cases hd), fun _ => att s p pc u hc rfl rfl hp ho (fun _ _ _ => rfl)⟩
  | fresh u hc hf =>
    refine ⟨hnow, (fun hn => by rw [hc] at hn; cases hn), fun u' hu' => ?_⟩
    rw [hc] at hu'; cases hu'
    rw [hf]
    refine ⟨?_, att _ s.pcs.length _ u hc rfl rfl List.getElem?_concat_length rfl
      (fun q _ hq => List.getElem?_append_left hq)⟩
    obtain ⟨_, pc', _, a2, _, _, _, _, _, _, _, _, _, a12⟩ := registered_attached
      { s with pcs := s.pcs ++ [provisionalPc s ⟨u, t.peer.v6, t.lip⟩] } s.pcs.length k t f _ ht
      List.getElem?_concat_length rfl (by have := ((classify_iff f u).1 hc).1; unfold receiveMTU; omega)
    -- the length of `pcs` is not changed by the reader
    have h1 := a12 (s.pcs.length + 1) (by omega)
    rw [show (s.pcs ++ [provisionalPc s ⟨u, t.peer.v6, t.lip⟩])[s.pcs.length + 1]? = none by simp,
      List.getElem?_eq_none_iff] at h1
    exact Nat.le_antisymm h1 (IceProofs.getElem?_lt a2)

-- non-vacuity: the hypotheses hold in a reachable state, and each branch of the conclusion is taken
example : ((run (init exCfg) exOps1).tcps[0]?).map (fun t => (t.phase, t.cEnd, t.stuck)) = some (.pending 30, false, false) := by decide +kernel
-- known ufrag: attached to the existing packet connection 0, first frame queued
example : let s' := run (init exCfg) (exOps1 ++ [.frame 0 (exUser 1 "a")])
    (s'.tcps[0]?).map (·.phase) = some (.attached 0) ∧ (s'.pcs[0]?).map (·.recvQ.length) = some 1 := by decide +kernel
-- unknown ufrag: a provisional packet connection is created at the next index
example : let s' := run (init exCfg) (exOps1 ++ [.frame 0 (exUser 1 "b")])
    (s'.tcps[0]?).map (·.phase) = some (.attached 1) ∧
    (s'.pcs[1]?).map (fun pc => (pc.provisional, pc.alive, pc.refs)) = some (true, some 50, 0) := by decide +kernel
-- oversized (516 > 512), no USERNAME, other method, not STUN: closed
example : ((run (init exCfg) (exOps1 ++ [.frame 0 (exUser 1 "a" 516)])).tcps[0]?).map (·.phase) = some .closed := by decide +kernel
example : ((run (init exCfg) (exOps1 ++ [.frame 0 ⟨1, .noUser, 20⟩])).tcps[0]?).map (·.phase) = some .closed := by decide +kernel
-- exactly 512 bytes is accepted
example : ((run (init exCfg) (exOps1 ++ [.frame 0 (exUser 1 "a" 512)])).tcps[0]?).map (·.phase) = some (.attached 0) := by decide +kernel
-- a second connection from the same remote address is refused
example : ((run (init exCfg) (exOps1 ++ [.frame 0 (exUser 1 "a"), .accept ⟨0, 1000⟩ 0, .frame 1 (exUser 2 "a")])).tcps[1]?).map (·.phase)
    = some .closed := by decide +kernel
-- full receive channel (capacity 0): the reader holds the first frame
example : ((run (init ⟨0, false, 30, 50⟩) (exOps1 ++ [.frame 0 (exUser 1 "a")])).tcps[0]?).map (·.reader)
    = some (.blocked (pktOf ⟨0, 1000⟩ 0 (exUser 1 "a")) false) := by decide +kernel

/-- … consequently: the connection ends up attached iff the frame fits 512 bytes, is a STUN Binding
with USERNAME, and the target packet connection does not already have a connection from the same
remote address. -/
theorem C15_first_frame_iff (cfg : Config) (ops : List Op) (k : Nat) (t : Tcp) (d : Nat) (f : Frame) :
    let s := run (init cfg) ops
    s.tcps[k]? = some t → t.phase = .pending d → t.cEnd = false → t.stuck = false →
    ((∃ t' p, (step s (.frame k f)).1.tcps[k]? = some t' ∧ t'.phase = .attached p) ↔
      ∃ u, f.len ≤ 512 ∧ f.kind = .user u ∧
        ∀ p pc, findPc s.pcs ⟨u, t.peer.v6, t.lip⟩ = some p → s.pcs[p]? = some pc → lookupConn pc.conns t.peer = none) := by
  exact fun ht hph hce hst => first_frame_attached_iff f ht hph hce hst

/-- **Late.** The handler's deadline is accept time + first-bind timeout (a zero timeout means 30 s);
it never changes (`C15_history_monotone`); a pending connection whose deadline is reached by an
`advance` is closed by it; and a closed connection ignores whatever its client sends afterwards. -/
theorem C15_first_frame_late (cfg : Config) (ops : List Op) (k : Nat) (t : Tcp) (d dt : Nat) (f : Frame) :
    let s := run (init cfg) ops
    (s.listenerOpen = true → ∀ peer lip,
      (step s (.accept peer lip)).1.tcps[s.tcps.length]? =
        some { peer := peer, lip := lip, phase := .pending (s.now + effTimeout cfg.t1) }) ∧
    (s.tcps[k]? = some t → t.phase = .pending d → d ≤ s.now + dt →
      ∃ t', (step s (.advance dt)).1.tcps[k]? = some t' ∧ t'.phase = .closed) ∧
    (s.tcps[k]? = some t → t.phase = .closed → (step s (.frame k f)).1 = s) := by
  intro s
  refine ⟨?_, ?_, ?_⟩
  · intro hl peer lip
    have hcfg : s.cfg = cfg := reachable_cfg cfg ops
    simp only [step, hl, if_true]
    rw [List.getElem?_concat_length, hcfg]
  · intro ht hph hle
    obtain ⟨t1, ht1, q⟩ := (closePcsWhere_quiet (fun pc => aliveExpired (s.now + dt) pc) s (reachable_inv cfg ops)).1.tcps k t ht
    refine ⟨expireTcp (s.now + dt) t1, by simp only [step]; rw [List.getElem?_map, ht1]; rfl, ?_⟩
    unfold expireTcp
    rcases q.phase with e | e
    · rw [e, hph]; simp only; rw [if_pos hle]; rfl
    · rw [e]; exact e
  · intro ht hph
    simp only [step, ht, hph]
    split <;> rfl

-- non-vacuity: one ms before the deadline the connection is still pending; at the deadline it is closed
example : ((run (init exCfg) (exOps1 ++ [.advance 29])).tcps[0]?).map (·.phase) = some (.pending 30) := by decide +kernel
example : ((run (init exCfg) (exOps1 ++ [.advance 30])).tcps[0]?).map (·.phase) = some .closed := by decide +kernel

/-- **Close is total.** In every reachable state in which `Close` has been called and its wait group
has drained (`Close` has returned): the listener is closed, every TCP connection ever accepted is
closed, and nobody is alive — no accept loop, handler, watcher, reader or buffered writer. -/
theorem C15_close_total (cfg : Config) (ops : List Op) :
    let s := run (init cfg) ops
    closeReturned s = true →
      s.listenerOpen = false ∧
      (∀ (k : Nat) (t : Tcp), s.tcps[k]? = some t → t.phase = .closed) ∧
      ledger s = ⟨0, 0, 0, 0, 0⟩ := by
  intro s hret
  obtain ⟨d, hled⟩ := down_of_closeReturned (reachable_inv cfg ops) hret
  exact ⟨d.lis, d.tcps, hled⟩

-- non-vacuity: Close has returned in a session with an attached and a rejected client …
example : let s := run (init exCfg) (exOps1 ++ [.frame 0 (exUser 1 "a"), .accept ⟨1, 1001⟩ 0, .frame 1 ⟨2, .notStun, 9⟩, .closeMux])
    closeReturned s = true ∧ s.tcps.length = 2 := by decide +kernel
-- … and has NOT returned while a silent client holds a handler: it returns when the first-bind timeout fires
example : closeReturned (run (init exCfg) (exOps1 ++ [.closeMux])) = false := by decide +kernel
example : closeReturned (run (init exCfg) (exOps1 ++ [.closeMux, .advance 30])) = true := by decide +kernel
-- a first frame during that wait creates a provisional connection; Close then returns when it expires
example : closeReturned (run (init exCfg) (exOps1 ++ [.closeMux, .frame 0 (exUser 1 "a"), .advance 49])) = false := by decide +kernel
example : closeReturned (run (init exCfg) (exOps1 ++ [.closeMux, .frame 0 (exUser 1 "a"), .advance 50])) = true := by decide +kernel

/-- `Close` stops the listener at once, and it can only have returned after it was called. -/
theorem C15_close_stops_listener (cfg : Config) (ops : List Op) :
    let s := run (init cfg) ops
    (s.muxClosed = true → s.listenerOpen = false) ∧ (closeReturned s = true → s.muxClosed = true) := by
  intro s
  exact ⟨(reachable_inv cfg ops).lis, fun h => ((closeReturned_iff s).1 h).1⟩

/-- **Close returns.** Once first-bind timeout + alive duration have elapsed since `Close` was called,
its wait group is empty, whatever the clients did in between: handlers end at their deadline, and the
only packet connections that can appear after `Close` are provisional ones created by a first frame
that arrived during the wait, which nobody can claim and which expire. -/
theorem C15_close_returns (cfg : Config) (ops : List Op) :
    let s := run (init cfg) ops
    s.muxClosed = true → s.closedAt + effTimeout cfg.t1 + effTimeout cfg.t2 ≤ s.now → closeReturned s = true := by
  intro s hm hlate
  have hcfg : s.cfg = cfg := reachable_cfg cfg ops
  exact close_returns (reachable_inv cfg ops) (reachable_inv3 cfg ops) hm (by rw [hcfg]; exact hlate)

-- non-vacuity: Close called at 0 with a silent client and a client that sends its first frame at 29
example : let s := run (init exCfg) (exOps1 ++ [.accept ⟨1, 1001⟩ 0, .closeMux, .advance 29, .frame 1 (exUser 1 "a"), .advance 51])
    s.muxClosed = true ∧ s.closedAt + effTimeout exCfg.t1 + effTimeout exCfg.t2 ≤ s.now ∧ closeReturned s = true := by decide +kernel
-- … and one ms earlier it has not returned: the provisional connection created at 29 expires at 79
example : closeReturned (run (init exCfg) (exOps1 ++ [.accept ⟨1, 1001⟩ 0, .closeMux, .advance 29, .frame 1 (exUser 1 "a"), .advance 49]))
    = false := by decide +kernel

/-- **Provisional connections expire.** A packet connection created for an unknown ufrag that nobody
has obtained through `GetConnByUfrag` has, while it is open, its alive timer armed for creation time +
alive duration, which lies in the future; hence once that time has been reached it is closed, and so is
every TCP connection that was routed to it. -/
theorem C15_provisional_expires (cfg : Config) (ops : List Op) (p : Nat) (pc : PConn) :
    let s := run (init cfg) ops
    s.pcs[p]? = some pc → pc.provisional = true → pc.claimed = false →
      (pc.closed = false →
        pc.alive = some (pc.created + effTimeout cfg.t2) ∧ s.now < pc.created + effTimeout cfg.t2) ∧
      (pc.created + effTimeout cfg.t2 ≤ s.now →
        pc.closed = true ∧ ∀ (k : Nat) (t : Tcp), s.tcps[k]? = some t → t.pc = some p → t.phase = .closed) := by
  intro s hp hprov hcl
  have hi : Inv s := reachable_inv cfg ops
  have h2 : Inv2 s := reachable_inv2 cfg ops
  have hcfg : s.cfg = cfg := reachable_cfg cfg ops
  have a : pc.closed = false →
      pc.alive = some (pc.created + effTimeout cfg.t2) ∧ s.now < pc.created + effTimeout cfg.t2 := by
    intro hopen
    have := (h2.pc p pc hp).prov hprov hcl hopen
    rw [hcfg] at this
    exact ⟨this, (hi.pc p pc hp).2.2.2.2.2 _ this⟩
  refine ⟨a, ?_⟩
  intro hlate
  have hclosed : pc.closed = true := by
    cases hc : pc.closed with
    | true => rfl
    | false => have := (a hc).2; omega
  refine ⟨hclosed, ?_⟩
  exact fun k t ht htpc => routed_closed hi h2 ht htpc hp hclosed

-- non-vacuity: an unclaimed provisional connection with a client, one ms before and at its deadline
example : let s := run (init exCfg) [.accept ⟨0, 1000⟩ 0, .frame 0 (exUser 1 "b"), .advance 49]
    (s.pcs[0]?).map (fun pc => (pc.provisional, pc.claimed, pc.closed)) = some (true, false, false) ∧
    (s.tcps[0]?).map (·.phase) = some (.attached 0) := by decide +kernel
example : let s := run (init exCfg) [.accept ⟨0, 1000⟩ 0, .frame 0 (exUser 1 "b"), .advance 50]
    (s.pcs[0]?).map (fun pc => (pc.provisional, pc.claimed, pc.closed)) = some (true, false, true) ∧
    (s.tcps[0]?).map (·.phase) = some .closed := by decide +kernel
-- claimed in time (GetConnByUfrag at 49): it does not expire
example : let s := run (init exCfg) [.accept ⟨0, 1000⟩ 0, .frame 0 (exUser 1 "b"), .advance 49, .getConn ⟨"b", false, 0⟩, .advance 1000]
    (s.pcs[0]?).map (fun pc => (pc.claimed, pc.closed)) = some (true, false) := by decide +kernel

/-- **Order and source.** For every packet connection `p` of every reachable state:
1. FIFO — what `ReadFrom` has returned so far, followed by what is queued, is exactly the sequence in
   which packets entered the receive channel;
2. source — every such packet carries the peer address of the TCP connection it came from, and that
   connection was routed to `p` (and to no other);
3. order — for every TCP connection `k` routed to `p`, the data packets that came from `k` are, in
   order, a prefix of the frames its client sent, beginning with the first frame (no loss in the middle,
   no duplication, no reordering, nothing invented);
4. completeness — while `k` is attached and its reader is waiting for input, that prefix is everything:
   every frame sent has been read or is waiting in the queue. -/
theorem C15_order_and_source (cfg : Config) (ops : List Op) (p : Nat) (pc : PConn) :
    let s := run (init cfg) ops
    s.pcs[p]? = some pc →
      pc.hist = pc.readLog ++ pc.recvQ ∧
      (∀ pkt, pkt ∈ pc.hist → ∃ t, s.tcps[pkt.conn]? = some t ∧ t.pc = some p ∧ pkt.src = t.peer) ∧
      (∀ (k : Nat) (t : Tcp), s.tcps[k]? = some t → t.pc = some p →
        dataIds (fromConn k pc.hist) <+: sentIds t.sent ∧ dataIds (fromConn k pc.readLog) <+: sentIds t.sent) ∧
      (∀ (k : Nat) (t : Tcp), s.tcps[k]? = some t → t.phase = .attached p → t.reader = .idle →
        dataIds (fromConn k pc.hist) = sentIds t.sent) := by
  intro s hp
  have hi : Inv s := reachable_inv cfg ops
  have h2 : Inv2 s := reachable_inv2 cfg ops
  have hd : Drained s := reachable_drained cfg ops
  have pg := h2.pc p pc hp
  refine ⟨pg.fifo, pg.src, ?_, ?_⟩
  · intro k t ht htpc
    have o := ((h2.tcp k t ht).order p pc htpc hp).2
    refine ⟨o, List.IsPrefix.trans ?_ o⟩
    rw [pg.fifo, fromConn_append, dataIds_append]
    exact List.prefix_append _ _
  · intro k t ht hph hidle
    have o := ((h2.tcp k t ht).order p pc (hi.att ht hph).1 hp).1 p hph
    rw [hidle, hd k t ht hidle] at o
    simpa [blkIds, frameIds] using o

-- non-vacuity: two frames from one client, one of them already read
example : let s := run (init exCfg) (exOps1 ++ [.frame 0 (exUser 1 "a"), .frame 0 ⟨2, .notStun, 10⟩, .read 0])
    (s.pcs[0]?).map (fun pc => (dataIds (fromConn 0 pc.hist), dataIds pc.readLog, dataIds pc.recvQ)) =
      some ([(1, 32), (2, 10)], [(1, 32)], [(2, 10)]) ∧
    (s.tcps[0]?).map (fun t => (sentIds t.sent, t.reader)) = some ([(1, 32), (2, 10)], .idle) := by decide +kernel
-- two clients of one packet connection on an unbuffered channel: each one's frames stay in order
example : let s := run (init ⟨0, false, 30, 50⟩) (exOps1 ++ [.frame 0 (exUser 1 "a"), .frame 0 ⟨2, .notStun, 10⟩,
      .accept ⟨1, 1000⟩ 0, .frame 1 (exUser 3 "a"), .read 0, .read 0, .read 0])
    (s.pcs[0]?).map (fun pc => dataIds pc.readLog) = some [(1, 32), (3, 32), (2, 10)] := by decide +kernel

/-- Once attached, a connection stays with its packet connection, keeps its peer address, and its
logs only grow: later states extend earlier ones (`Ext`). This is what makes the statements above,
which speak about one state, statements about whole executions. -/
theorem C15_history_monotone (cfg : Config) (ops more : List Op) :
    Ext (run (init cfg) ops) (run (run (init cfg) ops) more) :=
  run_ext _ more (reachable_inv cfg ops) (reachable_inv2 cfg ops)

/-- **Closed only for cause.** A TCP connection that was routed to packet connection `p` and has been
closed although `p` is still open was closed because its client closed or reset it, or sent a frame
larger than the 8192-byte read buffer — never because of what other clients or other ufrags did.
(With `Inv`: while a connection is attached its packet connection is open; when a packet connection
closes, every connection attached to it is closed.) -/
theorem C15_closed_only_for_cause (cfg : Config) (ops : List Op) (k p : Nat) (t : Tcp) (pc : PConn) :
    let s := run (init cfg) ops
    s.tcps[k]? = some t → t.pc = some p → t.phase = .closed → s.pcs[p]? = some pc → pc.closed = false →
      t.cEnd = true ∨ ∃ f, f ∈ t.sent ∧ receiveMTU < f.len := by
  intro s ht hpc hph hp hopen
  exact ((reachable_inv3 cfg ops).tcp k t ht).cause p pc hpc hph hp hopen

-- non-vacuity: client 0 closes, client 1 sends 8193 bytes; both are dropped while the packet connection stays open
example : let s := run (init exCfg) (exOps1 ++ [.frame 0 (exUser 1 "a"), .accept ⟨1, 1001⟩ 0, .frame 1 (exUser 2 "a"),
      .clientClose 0 false, .frame 1 ⟨3, .notStun, 8193⟩])
    (s.tcps[0]?).map (fun t => (t.phase, t.pc, t.cEnd)) = some (.closed, some 0, true) ∧
    (s.tcps[1]?).map (fun t => (t.phase, t.pc, t.cEnd)) = some (.closed, some 0, false) ∧
    (s.pcs[0]?).map (·.closed) = some false := by decide +kernel

/-- **Reply path.** A write through an open handle to address `dst`:
* if a TCP connection whose peer is `dst` is attached to the handle's packet connection, the write
  succeeds and the payload is appended to the output of exactly that connection — no other connection
  is touched;
* if there is none, nothing is written anywhere and the state is unchanged. -/
theorem C15_reply_path (cfg : Config) (ops : List Op) (h : Nat) (hd : Handle) (dst : Addr) (pid len : Nat) :
    let s := run (init cfg) ops
    s.handles[h]? = some hd → hd.closed = false →
      (∀ (k : Nat) (t : Tcp), s.tcps[k]? = some t → t.phase = .attached hd.pc → t.peer = dst →
        (step s (.write h dst pid len)).2 = .wrote len ∧
        (step s (.write h dst pid len)).1 = setTcp s k (fun t => { t with out := t.out ++ [(pid, len)] })) ∧
      ((∀ (k : Nat) (t : Tcp), s.tcps[k]? = some t → t.phase = .attached hd.pc → t.peer ≠ dst) →
        (step s (.write h dst pid len)).1 = s ∧ (step s (.write h dst pid len)).2 ≠ .wrote len) := by
  intro s hh hopen
  have hi : Inv s := reachable_inv cfg ops
  constructor
  · intro k t ht hph hpeer
    obtain ⟨_, pc, hp, _, _⟩ := hi.att ht hph
    have hl := (hi.lookup_iff hp dst k).2 ⟨t, ht, hph, hpeer⟩
    simp [step, hh, hopen, hp, hl]
  · intro hnone
    simp only [step, hh, hopen]
    cases hp : s.pcs[hd.pc]? with
    | none => simp
    | some pc =>
      simp only
      cases hl : lookupConn pc.conns dst with
      | none => simp
      | some k =>
        exfalso
        obtain ⟨t, ht, hph, hpe⟩ := (hi.lookup_iff hp dst k).1 hl
        exact hnone k t ht hph hpe

-- non-vacuity: the reply reaches client 0 and only client 0; a write to an unknown address reaches nobody
example : let s := run (init exCfg) (exOps1 ++ [.frame 0 (exUser 1 "a"), .accept ⟨1, 1001⟩ 0, .frame 1 (exUser 2 "a"),
      .write 0 ⟨0, 1000⟩ 7 5])
    (s.tcps[0]?).map (·.out) = some [(7, 5)] ∧ (s.tcps[1]?).map (·.out) = some [] := by decide +kernel
example : (step (run (init exCfg) (exOps1 ++ [.frame 0 (exUser 1 "a")])) (.write 0 ⟨0, 1001⟩ 7 5)).2 = .errClosed := by decide +kernel

/-- … and "that address" is the source address of what was received: a reply to the source address of
any packet received on `p` goes out on the TCP connection the packet came from, as long as that
connection is still attached. -/
theorem C15_reply_to_source (cfg : Config) (ops : List Op) (h : Nat) (hd : Handle) (pc : PConn) (pkt : Pkt)
    (pid len : Nat) :
    let s := run (init cfg) ops
    s.handles[h]? = some hd → hd.closed = false → s.pcs[hd.pc]? = some pc → pkt ∈ pc.hist →
    (∃ t, s.tcps[pkt.conn]? = some t ∧ t.phase = .attached hd.pc) →
      (step s (.write h pkt.src pid len)).2 = .wrote len ∧
      (step s (.write h pkt.src pid len)).1 = setTcp s pkt.conn (fun t => { t with out := t.out ++ [(pid, len)] }) := by
  intro s hh hopen hp hmem hatt
  obtain ⟨t, ht, hph⟩ := hatt
  obtain ⟨t', ht', _, hsrc⟩ := ((reachable_inv2 cfg ops).pc _ pc hp).src pkt hmem
  rw [ht] at ht'; cases ht'
  exact (C15_reply_path cfg ops h hd pkt.src pid len hh hopen).1 pkt.conn t ht hph hsrc.symm

/-- **First frame, closed iff.** For a connection still waiting for its first frame (client neither
closed nor stopped mid-frame): the complete frame `f` gets it CLOSED if and only if `f` is larger than
512 bytes, or is not a STUN Binding with USERNAME, or the packet connection it routes to — the open one
under (ufrag before `:`, family of the peer, local IP) — already has a connection from the same remote
address. (In every other case it is attached, `C15_first_frame_iff`; an unknown ufrag is not a reason to
close: a provisional packet connection is created.) -/
theorem C15_first_frame_closed_iff (cfg : Config) (ops : List Op) (k : Nat) (t : Tcp) (d : Nat) (f : Frame) :
    let s := run (init cfg) ops
    s.tcps[k]? = some t → t.phase = .pending d → t.cEnd = false → t.stuck = false →
    ((∃ t', (step s (.frame k f)).1.tcps[k]? = some t' ∧ t'.phase = .closed) ↔
      (512 < f.len ∨ (∀ u, f.kind ≠ .user u) ∨
        ∃ u p pc, f.kind = .user u ∧ findPc s.pcs ⟨u, t.peer.v6, t.lip⟩ = some p ∧ s.pcs[p]? = some pc ∧
          (lookupConn pc.conns t.peer).isSome = true)) := by
  exact fun ht hph hce hst => first_frame_closed_iff f ht hph hce hst

-- non-vacuity: each of the three reasons closes the connection; a valid first frame for an unknown ufrag does not
example : ((run (init exCfg) (exOps1 ++ [.frame 0 (exUser 1 "a" 513)])).tcps[0]?).map (·.phase) = some .closed := by decide +kernel
example : ((run (init exCfg) (exOps1 ++ [.frame 0 ⟨1, .otherMethod, 20⟩])).tcps[0]?).map (·.phase) = some .closed := by decide +kernel
example : ((run (init exCfg) (exOps1 ++ [.frame 0 (exUser 1 "a"), .accept ⟨0, 1000⟩ 0, .frame 1 (exUser 2 "a")])).tcps[1]?).map (·.phase)
    = some .closed := by decide +kernel
example : ((run (init exCfg) (exOps1 ++ [.frame 0 (exUser 1 "zz")])).tcps[0]?).map (·.phase) = some (.attached 1) := by decide +kernel

/-- **Close closes every TCP connection.** For every history (whatever the clients, `GetConnByUfrag`,
`RemoveConnByUfrag`, reads and writes did before and do after the call):
* right after `Close` is called, no TCP connection is attached any more — each one is closed, or is still
  waiting for its first frame (its handler ends at the first-bind deadline or with that frame);
* once first-bind timeout + alive duration have elapsed since the call, EVERY TCP connection ever accepted
  is closed, the listener is closed, and no goroutine of the mux is left. -/
theorem C15_close_closes_all (cfg : Config) (ops : List Op) :
    let s := run (init cfg) ops
    (∀ (k : Nat) (t : Tcp), (step s .closeMux).1.tcps[k]? = some t → s.muxClosed = false →
      t.phase = .closed ∨ ∃ d, t.phase = .pending d) ∧
    (s.muxClosed = true → s.closedAt + effTimeout cfg.t1 + effTimeout cfg.t2 ≤ s.now →
      s.listenerOpen = false ∧ (∀ (k : Nat) (t : Tcp), s.tcps[k]? = some t → t.phase = .closed) ∧
      ledger s = ⟨0, 0, 0, 0, 0⟩) := by
  intro s
  constructor
  · intro k t ht hm
    have hi' : Inv (step s .closeMux).1 := step_inv s .closeMux (reachable_inv cfg ops)
    cases hph : t.phase with
    | closed => exact Or.inl rfl
    | pending d => exact Or.inr ⟨d, rfl⟩
    | attached p =>
      exfalso
      obtain ⟨_, pc, hp, hopen, _⟩ := hi'.att ht hph
      have hp2 : (closePcsWhere (fun _ => true) s).pcs[p]? = some pc := by
        simp only [step, hm, Bool.false_eq_true, if_false] at hp
        exact hp
      rw [closeAll_closed hp2] at hopen; cases hopen
  · intro hm hlate
    exact C15_close_total cfg ops (C15_close_returns cfg ops hm hlate)

-- non-vacuity: an attached, a silent and a provisional-to-be client when Close is called at time 0
example : let s := run (init exCfg) (exOps1 ++ [.frame 0 (exUser 1 "a"), .accept ⟨1, 1001⟩ 0, .closeMux])
    (s.tcps.map (·.phase)) = [.closed, .pending 30] := by decide +kernel
example : let s := run (init exCfg) (exOps1 ++ [.frame 0 (exUser 1 "a"), .accept ⟨1, 1001⟩ 0, .closeMux,
      .advance 29, .frame 1 (exUser 2 "q"), .advance 51])
    s.muxClosed = true ∧ s.closedAt + effTimeout exCfg.t1 + effTimeout exCfg.t2 ≤ s.now ∧
    (s.tcps.map (·.phase)) = [.closed, .closed] := by decide +kernel

open IceSpec.C15 IceSpec.C15.View in
/-- **Every run of the model passes the spec monitor of C15.** For every configuration and every
sequence of operations from the initial state — any length, any interleaving of client events with
`GetConnByUfrag` / `RemoveConnByUfrag` / `Close` / reads / writes, any timer values — the observable
trace of the model (`traceOf`: the `new` line, one typed output line per operation, and optionally the
`end` line of the harness's teardown) raises NO clause of the monitor `IceSpec.C15.observeT`: first
frame, late, order and source, reply path, provisional expires, delivery, close.

The proof is a simulation: `IceProofs.TcpMux.Sim` relates the model state to the monitor state
(`C15_monitor_tracks_model`), every operation re-establishes it (`step_sim`).  The monitor that judges the
implementation is `observe = observeT ∘ (parseToks, parseLine)`; the printing of the model's typed line
and its re-reading by these parsers are proved below (`C15_view_roundtrip*`, `C15_view_ops*`,
`C15_model_passes_string_monitor*`, `C15_driver_model_accepted`). -/
theorem C15_model_passes_monitor (cfg : Config) (ops : List Op) (withEnd : Bool) :
    firstViolation (traceOf cfg ops withEnd) = none := by
  unfold firstViolation
  rw [List.findSome?_eq_none_iff]
  intro v hv
  exact IceProofs.TcpMux.trace_ok cfg ops withEnd v hv

open IceSpec.C15 IceSpec.C15.View in
/-- the same, line by line -/
theorem C15_model_passes_monitor_lines (cfg : Config) (ops : List Op) (withEnd : Bool) :
    ∀ v, v ∈ verdicts {} (traceOf cfg ops withEnd) → v = none :=
  IceProofs.TcpMux.trace_ok cfg ops withEnd

open IceSpec.C15 IceSpec.LineProto in
/-- **View round trip.** The monitor's line parser reads back EVERY well-formed observation printed by
`printObs` (the printer the driver uses), whatever result tokens `rt` (free of spaces) it is printed with:
the observation comes back with the result the parser reads from `rt`.  `Obs.wf` (decidable): non-empty
census, payload ids free of ` `, `,`, `:`. -/
theorem C15_view_roundtrip (rt : List String) (o : Obs) (h : o.wf = true) (hrt : ∀ t ∈ rt, free ' ' t = true) :
    parseLine (printObs rt o) = .obs { o with res := parseRes rt } :=
  IceProofs.TcpMuxView.parseLine_printObs rt o h (fun t ht => (IceProofs.LineProto.free_iff ' ' t).mp (hrt t ht))

open IceSpec.C15 in
-- non-vacuity: a well-formed observation with a reply, and one that is not (empty census)
example : (Obs.mk .ok [0, 2] [(1, "7")] [1, 0] false true).wf = true := by decide +kernel
open IceSpec.C15 in
example : (Obs.mk .ok [] [] [] false true).wf = false := by decide +kernel

open IceSpec.C15 IceSpec.C15.View in
/-- every observation of the model is well-formed, and every line the model prints (`new`, every
operation, `end`) is read back by the monitor's parser as exactly the typed line of the view -/
theorem C15_view_roundtrip_model (s : State) (op : Op) :
    (∀ old r, (obsOf old s r).wf = true) ∧ parseLine (printedLine s op) = lineOf s op ∧
    parseLine (printedStart s.cfg) = .obs (obsOf [] (init s.cfg) .ok) ∧ parseLine (printedEnd s) = endLine s :=
  ⟨fun old r => IceProofs.TcpMuxView.obsOf_wf old s r, IceProofs.TcpMuxView.parseLine_printedLine s op,
   IceProofs.TcpMuxView.parseLine_printedStart s.cfg, IceProofs.TcpMuxView.parseLine_printedEnd s⟩

open IceSpec.C15 IceSpec.C15.View in
/-- **Every run of the model, printed by the driver's printer, is accepted by the STRING monitor**: the
monitor the driver applies to the implementation's output lines (`observe m toks impl = observeL m
(parseToks toks) impl`, `observeL m op impl = observeT m op (parseLine impl)`) returns no violation on
any printed line of any session. -/
theorem C15_model_passes_string_monitor (cfg : Config) (ops : List Op) (withEnd : Bool) :
    ∀ v, v ∈ verdictsL {} (printedTrace cfg ops withEnd) → v = none := by
  rw [IceProofs.TcpMuxView.verdictsL_printedTrace]
  exact IceProofs.TcpMux.trace_ok cfg ops withEnd

open IceSpec.C15 in
/-- `observe` is `observeL` after reading the operation tokens -/
theorem C15_observe_eq (m : Mon) (toks : List String) (impl : String) :
    observe m toks impl = View.observeL m (parseToks toks) impl := rfl

open IceSpec.C15 IceSpec.C15.View in
/-- **Operation side of the view.** The monitor's reader of the operation tokens (`parseToks`) and the
reader the driver uses to run the model (`parseOp`) agree on EVERY token list the driver accepts — no
hypothesis: `parseOp` refuses a `write` whose payload id is not a canonical decimal (`007`; the driver
answers `bad-op`), all other numbers are read by both with `String.toNat?`; and the `new` line is read as
the configured timeouts. -/
theorem C15_view_ops (s : State) (toks : List String) (op : Op) (h : parseOp s toks = some op) :
    parseToks toks = mopOf op :=
  IceProofs.TcpMuxView.parseToks_of_parseOp s toks op h

open IceSpec.C15 IceSpec.C15.View in
theorem C15_view_ops_new (cap wbuf t1 t2 : String) (a b : Nat) (h1 : t1.toNat? = some a) (h2 : t2.toNat? = some b) :
    parseToks ["new", cap, wbuf, t1, t2] = .start a b :=
  IceProofs.TcpMuxView.parseToks_new cap wbuf t1 t2 a b h1 h2

open IceSpec.C15 IceSpec.C15.View in
/-- every operation the line protocol can carry (`opWF`: fake addresses 0…3) has canonical tokens
`opToks` that the driver reads back as that operation and the monitor as its typed view -/
theorem C15_view_ops_canonical (s : State) (op : Op) (h : opWF op = true) :
    parseOp s (opToks s op) = some op ∧ parseToks (opToks s op) = mopOf op :=
  ⟨IceProofs.TcpMuxView.parseOp_opToks s op h, IceProofs.TcpMuxView.parseToks_opToks s op h⟩

open IceSpec.C15 IceSpec.C15.View in
/-- a `write` line is accepted only with a canonical payload id: the text is the printed number -/
theorem C15_view_ops_pid_canonical (s : State) (h ip port pid len : String) (op : Op)
    (hp : parseOp s ["write", h, ip, port, pid, len] = some op) :
    ∃ h' dst p l, op = .write h' dst p l ∧ toString p = pid := by
  simp only [parseOp] at hp
  split at hp
  · split at hp
    · injection hp with hp
      exact ⟨_, _, _, _, hp.symm, IceProofs.TcpMuxView.canonNat_eq _ _ ‹_›⟩
    · cases hp
  · cases hp

open IceSpec.C15 IceSpec.C15.View in
-- non-vacuity: canonical lines are accepted (the hypotheses of the theorems above are satisfiable), `opWF` says no
example : parseOp (init ⟨0, false, 0, 0⟩) (opToks (init ⟨0, false, 0, 0⟩) (.accept ⟨1, 1000⟩ 2)) = some (.accept ⟨1, 1000⟩ 2) :=
  (C15_view_ops_canonical _ _ (by decide)).1
open IceSpec.C15 IceSpec.C15.View in
example : parseOp (init ⟨0, false, 0, 0⟩) (opToks (init ⟨0, false, 0, 0⟩) (.write 0 ⟨0, 1000⟩ 7 5)) = some (.write 0 ⟨0, 1000⟩ 7 5) :=
  (C15_view_ops_canonical _ _ (by decide)).1
open IceSpec.C15 IceSpec.C15.View in
example : opToks (init ⟨0, false, 0, 0⟩) (.write 0 ⟨0, 1000⟩ 7 5) = ["write", "h0", "0", "1000", "7", "5"] := by decide +kernel
open IceSpec.C15 IceSpec.C15.View in
example : opWF (.accept ⟨4, 1⟩ 0) = false ∧ opWF (.read 3) = true := by decide +kernel

open IceSpec.C15 IceSpec.C15.View in
/-- **Text on both sides.** Every session of the model, written as the canonical operation tokens and the
printed output lines, is accepted by the string monitor `observe` exactly as the driver runs it on the
implementation (operation tokens + output line). -/
theorem C15_model_passes_string_monitor_tokens (cfg : Config) (ops : List Op) (withEnd : Bool)
    (hw : ∀ op ∈ ops, opWF op = true) :
    ∀ v, v ∈ verdictsS {} (tokenTrace cfg ops withEnd) → v = none := by
  rw [IceProofs.TcpMuxView.verdictsS_tokenTrace cfg ops withEnd hw]
  exact C15_model_passes_string_monitor cfg ops withEnd

open IceSpec.C15 IceSpec.C15.View in
/-- **The driver's model side is accepted on EVERY input.** For any sequence of input lines whatsoever
(well-formed or not: repeated `new`, `multi`, operations without a session, malformed tokens, operations
after `end`), the string monitor `observe`, fed with the operation tokens and the output line that the
model side of the driver (`modelStep`) prints, never reports a violation.  `Driver.TcpMux.step` is
`modelStep` + `observe`, so its `MODEL-REJECTED-BY-MONITOR` marker is unreachable; no hypothesis. -/
theorem C15_driver_model_accepted (input : List (List String)) :
    ∀ v ∈ driverRun none {} input, v = none :=
  IceProofs.TcpMuxView.driverRun_ok none {} rfl input

open IceSpec.C15 IceSpec.C15.View in
-- non-vacuity: one verdict per input line
example : (driverRun none {} [["new", "0", "0", "30", "50"], ["accept", "0", "0", "1000", "0"], ["bogus"], ["end"]]).length = 4 := rfl

/-- a session with a known and an unknown ufrag, a later frame, reads, a reply, a slow-loris client and an expiry -/
def exSession : List Op :=
  [.getConn exKeyA, .accept ⟨0, 1000⟩ 0, .frame 0 (exUser 1 "a"), .frame 0 ⟨2, .notStun, 10⟩, .read 0, .write 0 ⟨0, 1000⟩ 7 5,
   .accept ⟨2, 1001⟩ 1, .frame 1 (exUser 3 "b"), .accept ⟨1, 1002⟩ 0, .partialFrame 2, .advance 30, .read 0, .read 0, .advance 50]

/-- two connections from one address, one after the other, sending the SAME payload (frame id 1): the
second frame read belongs to the first connection -/
def exSamePayload : List Op :=
  [.getConn exKeyA, .accept ⟨0, 1000⟩ 0, .frame 0 (exUser 1 "a"), .frame 0 ⟨2, .notStun, 10⟩, .clientClose 0 false,
   .accept ⟨0, 1000⟩ 0, .frame 1 (exUser 1 "a"), .read 0, .read 0, .read 0, .read 0]

open IceSpec.C15 IceSpec.C15.View in
-- non-vacuity: the traces are not empty, the monitor really runs over them (one verdict per line) …
example : (verdicts {} (traceOf exCfg exSession true)).length = 16 := by decide +kernel
open IceSpec.C15 IceSpec.C15.View in
example : firstViolation (traceOf exCfg exSession true) = none := by decide +kernel
open IceSpec.C15 IceSpec.C15.View in
example : firstViolation (traceOf exCfg exSamePayload true) = none := by decide +kernel

open IceSpec.C15 IceSpec.C15.View in
-- non-vacuity of the string-level theorems: the printed trace has one text line per typed line, the
-- string monitor produces one verdict per line, and a printed line is the protocol text
example : (printedTrace exCfg exSession true).length = 16 := by decide +kernel
open IceSpec.C15 IceSpec.C15.View in
example : (verdictsL {} (printedTrace exCfg exSession true)).length = 16 := by
  rw [IceProofs.TcpMuxView.verdictsL_printedTrace]; decide
open IceSpec.C15 IceSpec.C15.View in
example : printedStart exCfg = "ok ; c= ; o= ; g=1/0/0/0/0/0 ; L=0 ; ret=0" := by decide +kernel
open IceSpec.C15 IceSpec.C15.View in
example : (exSession.all opWF) = true ∧ (tokenTrace exCfg exSession true).length = 16 := by decide +kernel

open IceSpec.C15 IceSpec.C15.View in
/-- the lines of `exSamePayload` with the first two reads swapped -/
def exSwapped : List (MOp × Line) :=
  let tr := traceOf exCfg exSamePayload false
  tr.take 8 ++ (tr.drop 9).take 1 ++ (tr.drop 8).take 1 ++ tr.drop 10

open IceSpec.C15 IceSpec.C15.View in
-- … and the monitor is able to say no: the same lines with two reads swapped violate "order and source",
example : (firstViolation exSwapped).isSome = true := by decide +kernel

open IceSpec.C15 IceSpec.C15.View in
/-- an oversized first frame after which the connection is reported open -/
def exKeptOpen : List (MOp × Line) :=
  [(.start 30 50, .obs ⟨.ok, [], [], [1, 0, 0, 0, 0, 0], false, false⟩),
   (.accept 0 1000 0, .obs ⟨.ok, [], [], [1, 1, 0, 0, 0, 0], false, false⟩),
   (.frame 0 1 (some "a") 516, .obs ⟨.other, [], [], [1, 1, 0, 0, 0, 0], false, false⟩)]

open IceSpec.C15 IceSpec.C15.View in
-- an oversized first frame that leaves the connection open violates "first frame"
example : (firstViolation exKeptOpen).isSome = true := by decide +kernel

open IceSpec.C15 IceSpec.C15.View in
/-- **The monitor tracks the model.** After every session the state of the monitor is the abstraction of
the state of the model (`IceProofs.TcpMux.Sim`): its packet-connection records and handles are the model's
(keys, alive deadlines, reference counts, open/closed), and per TCP connection its record has the model's
address, routing target, frames sent, number of frames read and "closed" flag. -/
theorem C15_monitor_tracks_model (cfg : Config) (ops : List Op) :
    IceProofs.TcpMux.Sim (run (init cfg) ops)
      (IceProofs.TcpMux.monAfter {} ((.start cfg.t1 cfg.t2, .obs (obsOf [] (init cfg) .ok)) :: linesFrom (init cfg) ops)) :=
  IceProofs.TcpMux.trace_sim cfg ops

open IceSpec.C15 IceSpec.C15.View in
-- non-vacuity: in `exSession` the monitor has counted the two frames of client 0 as read and knows client 2 is closed
example : let m := IceProofs.TcpMux.monAfter {} (traceOf exCfg exSession false)
    (m.clients.map (fun c => (c.target, c.nread, c.closed))) = [(some 0, 2, false), (some 1, 0, true), (none, 0, true)] ∧
    (m.pcs.map (·.isOpen)) = [true, false] := by decide +kernel

/-! ## Tie to the code (T, round 3): the first-frame decision `TCPMuxDefault.handleConn` (tcp_mux.go), REGENERATED on every run
(`IceGen.T_Mux`, effect mode) -/

open IceTie.MuxTcp in
/-- a new connection is attached (`AddConn` with its first frame, after the unlock) iff the first frame was read, decodes, is a
Binding message with a USERNAME, the remote host parses, the local address is TCP and the packet conn for (ufrag before the first
':', family, local IP) exists or could be created; in every other case the connection is closed exactly once and not attached.
The model's `classify` accepts exactly the `user` frames that fit the first-frame buffer -/
theorem C15_code_handleConn :
    (∀ hasTimeout armErr readErr shortBuf disarmErr decodeErr mNil method noUsername hostErr localIsTCP known createErr,
      IceGen.tcpMux_handleConn hasTimeout armErr readErr shortBuf disarmErr decodeErr mNil method noUsername hostErr localIsTCP known createErr
        = if readErr then [tcpClose]
          else c "msg := copy of the first frame" ::
            (if decodeErr || mNil || method != 1 || noUsername then [tcpClose]
             else if hostErr then [c "ufrag := USERNAME up to the first ':'", tcpClose]
             else if !localIsTCP then [c "ufrag := USERNAME up to the first ':'", c "isIPv6 := remote host is not IPv4", tcpClose]
             else tcpRoute known ++ (if !known && createErr then [tcpClose] else [tcpAdd]))) ∧
    (∀ hasTimeout armErr readErr shortBuf disarmErr decodeErr mNil method noUsername hostErr localIsTCP known createErr,
      ((IceGen.tcpMux_handleConn hasTimeout armErr readErr shortBuf disarmErr decodeErr mNil method noUsername hostErr localIsTCP known createErr).count tcpAdd
        = if tcpAccepted readErr decodeErr mNil method noUsername hostErr localIsTCP known createErr then 1 else 0) ∧
      ((IceGen.tcpMux_handleConn hasTimeout armErr readErr shortBuf disarmErr decodeErr mNil method noUsername hostErr localIsTCP known createErr).count tcpClose
        = if tcpAccepted readErr decodeErr mNil method noUsername hostErr localIsTCP known createErr then 0 else 1)) ∧
    (∀ (f : Frame) (u : String), classify f = some u ↔ f.len ≤ firstFrameMax ∧ f.kind = .user u) :=
  ⟨handleConn_tie, handleConn_attach_iff, IceTie.MuxTcp.classify_iff⟩

/-- non-vacuity: an accepted first frame for an unknown ufrag creates the packet conn and attaches; a non-Binding method closes -/
example : IceGen.tcpMux_handleConn true false false false false false false 1 false false true false false
      = IceTie.MuxTcp.c "msg := copy of the first frame" :: IceTie.MuxTcp.tcpRoute false ++ [IceTie.MuxTcp.tcpAdd] ∧
    IceGen.tcpMux_handleConn true false false false false false false 3 false false true true false
      = [IceTie.MuxTcp.c "msg := copy of the first frame", IceTie.MuxTcp.tcpClose] := by decide +kernel

end IceProps.C15

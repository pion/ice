import IceTie.Options
import IceTie.AgentNomination
import IceTie.AgentSuccess
import IceTie.AgentSelector
import IceProofs.AgentC20Trace
import IceProofs.Sys2C20Rest
import IceProofs.Sys2C20Vocab
import IceProofs.Sys2C20Auto
/-!
# C20 — renomination: the latest nomination wins

`C20_accept_code` and the `C20_code_*` theorems are stated about the definitions REGENERATED from selection.go, agent.go
and agent_options.go on every run; the behaviour theorems are about the executable model `IceModel.AgentCore` (tied to
the code by the differential correspondence of component `agent`, whose corpus `corpus/C20/agent.ops` holds the
scenarios of F8 and F28–F31).  The model follows the code with the fixes of F8 (a deferred nomination remembers its
value) and F28–F31 (the controlling selector ignores a response whose value does not exceed the highest answered value;
a value-less nomination does not move the controlled selection once a value has been accepted, nor overwrite a deferred
value; a deferred mark is cleared once acted upon).
Two agents (`IceModel.Sys2`, section `TwoAgents`): ALL schedules of an exchange; the one hypothesis beyond scope
conditions is "the exchange of the highest nomination completed" (a lost nomination is not retransmitted:
`C20_quiescent_agreement_needs_completed_witness`, replayed on the real agents; see notes/C20sys.md).
Automatic renomination (`WithAutomaticRenomination`, section `Automatic`): the controlling selector's own nominations are
part of the log `issued` the two-agent theorems speak about (`C20_issues_vocabulary`).
Not here: the 24-bit codec of the nomination attribute (`C16_attr_roundtrip_nomination`, `C16_attr_nomination_truncates`).
-/
namespace IceProps.C20
open IceModel IceModel.AgentCore IceProofs.Agent IceTie.AgentNomination

/-- For ALL arguments the regenerated `controlledSelector.shouldAcceptNomination` (result and the effect on
`s.lastNomination`) and `shouldSwitchSelectedPair` equal the model functions, and the model's
`cldHandleRequest` is "find-or-add the pair, count the request, `shouldAcceptNomination`, then either only a
success response (rejected) or `cldProceed`" with exactly these functions inline. -/
theorem C20_accept_code (hasValue : Bool) (value : UInt32) (hasLast : Bool) (last : UInt32)
    (hasSelected samePair hasLast' needsPrio : Bool) (selectedPrio pairPrio : UInt64) :
    (let g := IceGen.controlledSelector_shouldAcceptNomination hasValue value hasLast last
     (applyEffs g.1 (optOf hasLast last), g.2) = shouldAcceptNomination (optOf hasValue value) (optOf hasLast last))
    ∧ IceGen.controlledSelector_shouldSwitchSelectedPair hasSelected samePair hasValue hasLast' needsPrio selectedPrio pairPrio
        = shouldSwitch hasSelected samePair hasValue hasLast' needsPrio selectedPrio.toNat pairPrio.toNat :=
  ⟨shouldAcceptNomination_gen_eq_model hasValue value hasLast last,
   shouldSwitchSelectedPair_gen_eq_model hasSelected samePair hasValue hasLast' needsPrio selectedPrio pairPrio⟩

/-- the model's handler written with the stand-alone functions (no hypothesis, every state) -/
theorem C20_accept_inline (a : Agent) (now : Nat) (m : Msg) (l r : Cand) :
    a.cldHandleRequest now m l r =
      let ap := ensurePair a l r
      let a1 := ap.1.modPair ap.2.id (countReq m)
      let acc := shouldAcceptNomination m.nom a1.lastNomination
      if (m.useCand || m.nom.isSome) && !acc.2 then a1.sendSuccess now m l r
      else cldProceed { a1 with lastNomination := acc.1 } now m l r ap.2.id :=
  cldHandleRequest_nf a now m l r

/-- the filter itself: no value → accept, nothing recorded; a value → accept iff nothing accepted yet or
strictly greater than the highest accepted value, which it then replaces -/
theorem C20_accept_rule (v : Nat) (last : Option Nat) :
    shouldAcceptNomination none last = (last, true) ∧
    ((shouldAcceptNomination (some v) last).2 = true ↔ ∀ l, last = some l → l < v) ∧
    (shouldAcceptNomination (some v) last).1 = (if (shouldAcceptNomination (some v) last).2 then some v else last) :=
  ⟨accept_none last, accept_some_iff v last, accept_some_fst v last⟩

example : shouldAcceptNomination (some 5) none = (some 5, true) ∧ shouldAcceptNomination (some 5) (some 5) = (some 5, false)
    ∧ shouldAcceptNomination (some 6) (some 5) = (some 6, true) ∧ shouldAcceptNomination (some 4) (some 5) = (some 5, false)
    ∧ shouldAcceptNomination none (some 5) = (some 5, true) := by decide +kernel
example : IceGen.controlledSelector_shouldAcceptNomination true 6 true 5 = ([Eff.set "s.lastNomination" (Val.n 6)], true)
    ∧ IceGen.controlledSelector_shouldAcceptNomination true 5 true 5 = ([], false)
    ∧ IceGen.controlledSelector_shouldAcceptNomination true 0 false 0 = ([Eff.set "s.lastNomination" (Val.n 0)], true)
    ∧ IceGen.controlledSelector_shouldAcceptNomination true 4294967295 true 4294967294
        = ([Eff.set "s.lastNomination" (Val.n 4294967295)], true) := by decide +kernel

/-- `offer a ev = some v` unfolded: the event is an inbound authenticated Binding request carrying nomination
value `v`, on an existing local candidate of a started, open, CONTROLLED agent, from a source that resolves,
and not a role conflict — i.e. exactly the requests that reach `controlledSelector.HandleBindingRequest`. -/
theorem C20_offer_iff (a : Agent) (ev : Ev) (v : Nat) :
    offer a ev = some v ↔
      ∃ now la src m l, ev = .inbound now la src m ∧ a.closed = false ∧ a.started = true ∧
        a.localByAddr la = some l ∧ AuthRequest a m ∧ (resolveSource a l src m).2.2.isSome = true ∧
        a.controlling = false ∧ (∀ tb, m.role ≠ some (a.controlling, tb)) ∧ m.nom = some v := by
  unfold offer cldDeliversEv
  constructor
  · intro h
    cases hin : inboundOn a ev with
    | none => rw [hin] at h; cases h
    | some x =>
      obtain ⟨now, l, src, m⟩ := x
      obtain ⟨la, rfl, hc, hs, hl⟩ := (inboundOn_iff a ev now l src m).1 hin
      rw [hin] at h
      simp only [] at h
      by_cases hd : cldDelivers a l src m = true
      · obtain ⟨ha, hr, hct, hrole⟩ := (cldDelivers_iff a l src m).1 hd
        rw [if_pos hd] at h
        exact ⟨now, la, src, m, l, rfl, hc, hs, hl, ha, hr, hct, hrole, h⟩
      · rw [if_neg hd] at h; cases h
  · rintro ⟨now, la, src, m, l, rfl, hc, hs, hl, ha, hr, hct, hrole, hn⟩
    rw [(inboundOn_iff a _ now l src m).2 ⟨la, rfl, hc, hs, hl⟩]
    simp only []
    rw [if_pos ((cldDelivers_iff a l src m).2 ⟨ha, hr, hct, hrole⟩)]
    exact hn

/-- the selector-resetting events unfolded: an effective `.start`, an effective `.restart`, a lost role conflict
(`IceProps.C05.C05_conflictSwitchEv_iff`) — and each of them does clear `lastNomination` -/
theorem C20_reset_clears (a : Agent) (ev : Ev) (h : resetsSelector a ev = true) :
    (step a ev).1.lastNomination = none := by
  rw [step_lastNomination, h]; rfl

/-- One step without reset, any event: `lastNomination` is untouched unless the event offers a value `v` to the
controlled selector; then the value is accepted iff it is greater than `lastNomination` (or nothing was accepted
yet), and `lastNomination` becomes `v` exactly in that case.  "Accepted" is also visible in the state:
`lastNomination` changed. -/
theorem C20_accept_step (a : Agent) (ev : Ev) (hr : resetsSelector a ev = false) :
    (offer a ev = none → (step a ev).1.lastNomination = a.lastNomination) ∧
    (∀ v, offer a ev = some v →
      (accepted a ev = some v ↔ ∀ last, a.lastNomination = some last → last < v) ∧
      (accepted a ev = some v → (step a ev).1.lastNomination = some v) ∧
      (accepted a ev = none → (step a ev).1.lastNomination = a.lastNomination) ∧
      (accepted a ev = some v ↔ (step a ev).1.lastNomination ≠ a.lastNomination)) := by
  have hstep := step_lastNomination_offer a ev hr
  refine ⟨fun ho => by rw [hstep, ho], ?_⟩
  intro v ho
  rw [ho] at hstep
  simp only at hstep
  have hiff := accept_some_iff v a.lastNomination
  have hfst := accept_some_fst v a.lastNomination
  have hdef : accepted a ev = if (shouldAcceptNomination (some v) a.lastNomination).2 then some v else none := by
    unfold accepted; rw [ho]
  cases hacc : (shouldAcceptNomination (some v) a.lastNomination).2 with
  | true =>
    rw [hacc] at hfst hiff hdef
    have ha : accepted a ev = some v := hdef
    have hnew : (step a ev).1.lastNomination = some v := by rw [hstep, hfst]; rfl
    have hgt := hiff.1 rfl
    rw [ha, hnew]
    refine ⟨⟨fun _ => hgt, fun _ => rfl⟩, fun _ => rfl, ?_, ⟨fun _ heq => ?_, fun _ => rfl⟩⟩
    · intro h; cases h
    · have := hgt v heq.symm
      omega
  | false =>
    rw [hacc] at hfst hiff hdef
    have ha : accepted a ev = none := hdef
    have hnew : (step a ev).1.lastNomination = a.lastNomination := by rw [hstep, hfst]; rfl
    rw [ha, hnew]
    refine ⟨⟨?_, fun h => ?_⟩, ?_, fun _ => rfl, ⟨?_, fun h => absurd rfl h⟩⟩
    · intro h; cases h
    · have := hiff.2 h
      cases this
    · intro h; cases h
    · intro h; cases h

/-- ALONG ANY EVENT SEQUENCE (all event kinds, any interleaving, any initial state `a0`) in which the selector
is not re-installed (`stable`: no effective start / restart / lost role conflict — these clear
`lastNomination`, `C20_reset_clears`): a valued nomination offered after `pre` is accepted iff its value is
greater than EVERY value accepted during `pre` (and than what `a0` had accepted before); `lastNomination` is the
maximum of the accepted values and never decreases. -/
theorem C20_accept_only_greater (a0 : Agent) (pre : List Ev) (ev : Ev) (v : Nat)
    (hst : stable a0 pre = true) (hoff : offer (run a0 pre) ev = some v) :
    (accepted (run a0 pre) ev = some v ↔
      (∀ w ∈ acceptedLog a0 pre, w < v) ∧ (∀ l0, a0.lastNomination = some l0 → l0 < v)) ∧
    (run a0 pre).lastNomination = optMax a0.lastNomination (acceptedLog a0 pre) ∧
    optLe a0.lastNomination (run a0 pre).lastNomination :=
  ⟨accepted_iff_greater a0 pre ev v hst hoff, run_lastNomination a0 pre hst, run_lastNomination_mono a0 pre hst⟩

/-- the same without mentioning a next event: for every stable run `lastNomination` = max of the log, bounds every
logged value, is attained, and is monotone along every prefix -/
theorem C20_lastNomination_max (a0 : Agent) (evs : List Ev) (hst : stable a0 evs = true) :
    (run a0 evs).lastNomination = optMax a0.lastNomination (acceptedLog a0 evs) ∧
    (∀ w ∈ acceptedLog a0 evs, optLe (some w) (run a0 evs).lastNomination) ∧
    (∀ x, (run a0 evs).lastNomination = some x → a0.lastNomination = some x ∨ x ∈ acceptedLog a0 evs) ∧
    optLe a0.lastNomination (run a0 evs).lastNomination := by
  have h := run_lastNomination a0 evs hst
  obtain ⟨h1, h2⟩ := optMax_spec a0.lastNomination (acceptedLog a0 evs)
  rw [← h] at h1 h2
  exact ⟨h, h1, h2, run_lastNomination_mono a0 evs hst⟩

/-- the Binding success response to request `m`, keyed with `pwd` -/
def successResponse (m : Msg) (pwd : String) : Msg := { cls := 2, tid := m.tid, key := some pwd }

/-- IMMEDIATE PATH.  For every state of a controlled agent and every authenticated, non-conflicting request from a
source that resolves, carrying nomination value `v` greater than every value accepted so far: if the pair of
(local, remote) — found, or freshly added — is valid (`Succeeded`), or the agent is lite (which then marks it valid),
it IS the selected pair afterwards and `lastNomination = some v`.  No hypothesis on what is currently selected
nor on any priority.  (`q` is the pair the id resolves to; in every state with unique pair ids it is the pair
`ensurePair` returned.) -/
theorem C20_switch_when_valid (a : Agent) (now : Nat) (l : Cand) (src : Nat) (m : Msg) (v : Nat)
    (hauth : AuthRequest a m) (hctl : a.controlling = false) (hnc : ∀ tb, m.role ≠ some (a.controlling, tb))
    (hnom : m.nom = some v) (hgt : ∀ last, a.lastNomination = some last → last < v)
    {a1 : Agent} {o0 : List Out} {r : Cand} (hres : resolveSource a l src m = (a1, o0, some r))
    {q : Pair} (hq : (ensurePair a1 l r).1.pairById (ensurePair a1 l r).2.id = some q)
    (hvalid : q.state = .succeeded ∨ a.cfg.lite = true) :
    (a.handleInbound now l src m).1.selected = some (ensurePair a1 l r).2.id ∧
    (a.handleInbound now l src m).1.lastNomination = some v := by
  have hcr := core_resolveSource a l src m
  rw [hres] at hcr
  simp only at hcr
  have hln : a1.lastNomination = a.lastNomination := congrArg IceProofs.Agent.Core.lastNomination hcr
  have hcfg : a1.cfg = a.cfg := congrArg IceProofs.Agent.Core.cfg hcr
  rw [handleInbound_cld a now l src m hauth hctl ((roleConflict_eq_none a m).2 hnc) hres]
  rw [cld_accepted a1 now m l r v hnom (by rw [hln]; exact hgt)]
  dsimp only
  constructor
  · have h1 : ((cldProceed { counted a1 m l r with lastNomination := some v } now m l r
        (ensurePair a1 l r).2.id).1.seenRemoteRecv r.uid now).selected
        = (cldNominate { counted a1 m l r with lastNomination := some v } m (ensurePair a1 l r).2.id).1.selected :=
      congrArg Prod.fst (cldProceed_nomView _ now m l r _)
    rw [h1]
    apply cldNominate_immediate _ m _ v (countReq m q) hnom
    · exact counted_pairById a1 m l r q hq
    · rcases hvalid with h | h
      · left; exact h
      · right
        show (counted a1 m l r).cfg.lite = true
        have : (counted a1 m l r).cfg = a1.cfg :=
          congrArg IceProofs.Agent.Core.cfg (by unfold counted; simp : (counted a1 m l r).core = a1.core)
        rw [this, hcfg]; exact h
  · have : ((cldProceed { counted a1 m l r with lastNomination := some v } now m l r
        (ensurePair a1 l r).2.id).1.seenRemoteRecv r.uid now).core
        = ({ counted a1 m l r with lastNomination := some v } : Agent).core := by simp
    exact lastNomination_of_core this

/-- the pair a request is handled on always resolves by id (so `hq` below is never vacuous) -/
theorem C20_target_exists (a1 : Agent) (l r : Cand) :
    ∃ q, (ensurePair a1 l r).1.pairById (ensurePair a1 l r).2.id = some q :=
  ensurePair_pairById a1 l r

/-- DEFERRED PATH, arrival.  Same request on a full (non-lite) agent when the pair is NOT yet valid: the selection
does not move, the value is recorded (`lastNomination = some v`), and the pair is marked
`nomOnSuccess = true`, `deferredNom = some v` (state unchanged). -/
theorem C20_switch_when_valid_deferred (a : Agent) (now : Nat) (l : Cand) (src : Nat) (m : Msg) (v : Nat)
    (hauth : AuthRequest a m) (hctl : a.controlling = false) (hnc : ∀ tb, m.role ≠ some (a.controlling, tb))
    (hnom : m.nom = some v) (hgt : ∀ last, a.lastNomination = some last → last < v)
    {a1 : Agent} {o0 : List Out} {r : Cand} (hres : resolveSource a l src m = (a1, o0, some r))
    {q : Pair} (hq : (ensurePair a1 l r).1.pairById (ensurePair a1 l r).2.id = some q)
    (hstate : q.state ≠ .succeeded) (hfull : a.cfg.lite = false) :
    (a.handleInbound now l src m).1.selected = a.selected ∧
    (a.handleInbound now l src m).1.lastNomination = some v ∧
    ∃ q', (a.handleInbound now l src m).1.pairById (ensurePair a1 l r).2.id = some q' ∧
      q'.nomOnSuccess = true ∧ q'.deferredNom = some v ∧ q'.state = q.state := by
  have hd := (resolveSource_discovered a l src m).1
  have hcr := core_resolveSource a l src m
  rw [hres] at hcr hd
  simp only at hcr hd
  have hln : a1.lastNomination = a.lastNomination := congrArg IceProofs.Agent.Core.lastNomination hcr
  have hcfg : a1.cfg = a.cfg := congrArg IceProofs.Agent.Core.cfg hcr
  rw [handleInbound_cld a now l src m hauth hctl ((roleConflict_eq_none a m).2 hnc) hres]
  rw [cld_accepted a1 now m l r v hnom (by rw [hln]; exact hgt)]
  dsimp only
  have hlite : ({ counted a1 m l r with lastNomination := some v } : Agent).cfg.lite = false := by
    show (counted a1 m l r).cfg.lite = false
    have : (counted a1 m l r).cfg = a1.cfg :=
      congrArg IceProofs.Agent.Core.cfg (by unfold counted; simp : (counted a1 m l r).core = a1.core)
    rw [this, hcfg]; exact hfull
  have hpb : ({ counted a1 m l r with lastNomination := some v } : Agent).pairById (ensurePair a1 l r).2.id
      = some (countReq m q) := counted_pairById a1 m l r q hq
  have hnomi := cldNominate_deferred _ m _ v (countReq m q) hnom hpb hstate hlite
  have hview : nomView ((cldProceed { counted a1 m l r with lastNomination := some v } now m l r
        (ensurePair a1 l r).2.id).1.seenRemoteRecv r.uid now)
      = nomView (({ counted a1 m l r with lastNomination := some v } : Agent).modPair (ensurePair a1 l r).2.id
          fun p => { p with nomOnSuccess := true, deferredNom := some v }) := by
    rw [nomView_seenRemoteRecv, cldProceed_nomView, hnomi]
  refine ⟨?_, ?_, ?_⟩
  · have := congrArg Prod.fst hview
    simp only [nomView] at this
    rw [this]
    show (counted a1 m l r).selected = a.selected
    rw [(counted_spec a1 m l r).1, hd.selected]
  · have : ((cldProceed { counted a1 m l r with lastNomination := some v } now m l r
        (ensurePair a1 l r).2.id).1.seenRemoteRecv r.uid now).core
        = ({ counted a1 m l r with lastNomination := some v } : Agent).core := by simp
    exact lastNomination_of_core this
  · have h1 := pairById_nv_congr hview (ensurePair a1 l r).2.id
    have h2 := modPair_pairById_self (a := ({ counted a1 m l r with lastNomination := some v } : Agent))
      (fun p => { p with nomOnSuccess := true, deferredNom := some v }) (fun _ => rfl) hpb
    rw [h2] at h1
    obtain ⟨q', hq', hnv⟩ := map_nv_eq_some h1
    refine ⟨q', hq', ?_, ?_, ?_⟩
    · exact congrArg (fun x => x.2.2.2.1) hnv
    · exact congrArg (fun x => x.2.2.2.2) hnv
    · exact congrArg (fun x => x.2.1) hnv

/-- DEFERRED PATH, completion.  When the pair's own check later succeeds — an authenticated success response from
the pair's remote whose transaction is pending, unexpired and symmetric (`hnet`, `hdest`, `hsrc`: the request went
over this network type, to the response's source, FROM the local address the response arrived on) — on a pair carrying a deferred valued
nomination `v`: the pair becomes THE selected pair iff no greater value has been accepted since
(`lastNomination = some last` with `last ≤ v`, i.e. still `some v` by `C20_lastNomination_max`); otherwise (a
greater value accepted meanwhile, or the selector re-installed) the selection does not move.  Priorities and the
currently selected pair play no part. -/
theorem C20_switch_when_valid_completes (a : Agent) (now : Nat) (l : Cand) (src : Nat) (m : Msg) (r : Cand)
    (hm : m.method = 1) (hc : m.cls = 2) (hk : m.key = some a.remotePwd) (hr : a.findRemote l.net src = some r)
    (hctl : a.controlling = false) {a' : Agent} {pd : Pending} {p : Pair} {v : Nat}
    (htp : a.takePending now m.tid = (a', some pd)) (hnet : pd.net = l.net) (hdest : pd.dest = src)
    (hsrc : pd.src = l.addr)
    (hfp : a.findPair l r = some p) (hnos : p.nomOnSuccess = true) (hdn : p.deferredNom = some v) :
    (a.handleInbound now l src m).1.selected =
      match a.lastNomination with
      | some last => if v < last then a.selected else some p.id
      | none => a.selected := by
  rw [handleInbound_success a now l src m r hm hc hk hr]
  exact handleSuccess_deferred a now m l r src hctl htp hnet hdest hsrc hfp hnos hdn

/-- NOW.  For every state of a controlled agent: an authenticated, non-conflicting request from a source that
resolves whose nomination value is `≤ lastNomination` is answered with one success response and otherwise only
counted: the resulting state is exactly "pair found-or-added, request counted, response counted, liveness
refreshed".  In particular the selection, `lastNomination`, and every pair's state / nominated /
nomOnSuccess / deferredNom are unchanged (the checklist grows at most by fresh pairs: peer-reflexive discovery
and the pair of an unseen (local, remote) combination). -/
theorem C20_smaller_never_changes (a : Agent) (now : Nat) (l : Cand) (src : Nat) (m : Msg) (v last : Nat)
    (hauth : AuthRequest a m) (hctl : a.controlling = false) (hnc : ∀ tb, m.role ≠ some (a.controlling, tb))
    (hnom : m.nom = some v) (hlast : a.lastNomination = some last) (hle : v ≤ last)
    {a1 : Agent} {o0 : List Out} {r : Cand} (hres : resolveSource a l src m = (a1, o0, some r)) :
    a.handleInbound now l src m
      = (((counted a1 m l r).sendSuccess now m l r).1.seenRemoteRecv r.uid now,
         [Out.dgram l.addr r.addr (successResponse m a.localPwd)]) ∧
    (a.handleInbound now l src m).1.selected = a.selected ∧
    (a.handleInbound now l src m).1.lastNomination = a.lastNomination ∧
    ∃ extra : List Pair,
      (a.handleInbound now l src m).1.checklist.map nv = a.checklist.map nv ++ extra.map nv ∧
      ∀ p ∈ extra, FreshPair p := by
  have hd := (resolveSource_discovered a l src m).1
  have hcr := core_resolveSource a l src m
  rw [hres] at hcr hd
  simp only at hcr hd
  have hln : a1.lastNomination = a.lastNomination := congrArg IceProofs.Agent.Core.lastNomination hcr
  have hpw : a1.localPwd = a.localPwd := congrArg IceProofs.Agent.Core.localPwd hcr
  have heq : a.handleInbound now l src m
      = (((counted a1 m l r).sendSuccess now m l r).1.seenRemoteRecv r.uid now,
         [Out.dgram l.addr r.addr (successResponse m a.localPwd)]) := by
    rw [handleInbound_cld a now l src m hauth hctl ((roleConflict_eq_none a m).2 hnc) hres]
    rw [cld_rejected a1 now m l r v last hnom (by rw [hln]; exact hlast) hle, sendSuccess_out]
    have : (counted a1 m l r).localPwd = a.localPwd :=
      (congrArg IceProofs.Agent.Core.localPwd (by unfold counted; simp : (counted a1 m l r).core = a1.core)).trans hpw
    rw [this]; rfl
  have hview : nomView (a.handleInbound now l src m).1 = nomView (counted a1 m l r) := by
    rw [heq]; simp
  obtain ⟨hsel, extra1, hx1, hf1⟩ := counted_spec a1 m l r
  obtain ⟨extra0, hx0, hf0⟩ := hd.pairs
  refine ⟨heq, ?_, ?_, extra0 ++ extra1, ?_, ?_⟩
  · have := congrArg Prod.fst hview
    simp only [nomView] at this
    rw [this, hsel, hd.selected]
  · rw [heq]
    have : (((counted a1 m l r).sendSuccess now m l r).1.seenRemoteRecv r.uid now).core = a1.core := by
      unfold counted; simp
    exact (congrArg IceProofs.Agent.Core.lastNomination this).trans hln
  · have := congrArg Prod.snd hview
    simp only [nomView] at this
    rw [this, hx1, hx0]
    simp [List.map_append, List.append_assoc]
  · intro p hp
    simp only [List.mem_append] at hp
    rcases hp with hp | hp
    · exact hf0 p hp
    · exact hf1 p hp

/-- LATER.  A deferred nomination whose value is smaller than the current `lastNomination` never changes the
selection when its pair validates (nor does one that outlived its selector, `lastNomination = none`). -/
theorem C20_smaller_never_changes_deferred (a : Agent) (now : Nat) (l : Cand) (src : Nat) (m : Msg) (r : Cand)
    (hm : m.method = 1) (hc : m.cls = 2) (hk : m.key = some a.remotePwd) (hr : a.findRemote l.net src = some r)
    (hctl : a.controlling = false) {a' : Agent} {pd : Pending} {p : Pair} {v : Nat}
    (htp : a.takePending now m.tid = (a', some pd)) (hnet : pd.net = l.net) (hdest : pd.dest = src)
    (hsrc : pd.src = l.addr)
    (hfp : a.findPair l r = some p) (hnos : p.nomOnSuccess = true) (hdn : p.deferredNom = some v)
    (hsmaller : ∀ last, a.lastNomination = some last → v < last) :
    (a.handleInbound now l src m).1.selected = a.selected := by
  rw [C20_switch_when_valid_completes a now l src m r hm hc hk hr hctl htp hnet hdest hsrc hfp hnos hdn]
  cases hl : a.lastNomination with
  | none => rfl
  | some last => simp [hsmaller last hl]

/-- `RenominateCandidate` (`.renominate`) in every state: unless the agent is controlling AND renomination is
enabled AND the pair exists, the state is unchanged and the only output is the error; when it sends, it sends
exactly one Binding request on that pair carrying USE-CANDIDATE, ICE-CONTROLLING with the agent's tie-breaker,
and the nomination value iff it is positive. -/
theorem C20_only_controlling_enabled (a : Agent) (now la ri value : Nat) :
    (a.controlling = false → step a (.renominate now la ri value) = (a, [.res "err:notcontrolling"])) ∧
    (a.controlling = true → a.cfg.enableRenomination = false →
      step a (.renominate now la ri value) = (a, [.res "err:notenabled"])) ∧
    (a.controlling = true → a.cfg.enableRenomination = true →
      (∀ l r, a.localByAddr la = some l → a.remotes[ri]? = some r → a.findPair l r = none) →
      step a (.renominate now la ri value) = (a, [.res "err:notfound"])) ∧
    (∀ l r p, a.controlling = true → a.cfg.enableRenomination = true →
      a.localByAddr la = some l → a.remotes[ri]? = some r → a.findPair l r = some p →
      ∃ msg, (step a (.renominate now la ri value)).2 = [.dgram l.addr r.addr msg, .res "ok"] ∧
        msg.cls = 0 ∧ msg.method = 1 ∧ msg.useCand = true ∧ msg.role = some (true, a.tieBreaker) ∧
        msg.nom = (if value > 0 then some value else none) ∧
        msg.key = some a.remotePwd ∧ msg.user = some (a.remoteUfrag ++ ":" ++ a.localUfrag)) := by
  refine ⟨?_, ?_, ?_, ?_⟩
  · intro h; simp [step, h]
  · intro h1 h2; simp [step, h1, h2]
  · intro h1 h2 h3
    simp only [step, h1, h2, Bool.not_true, Bool.false_eq_true, if_false]
    cases hl : a.localByAddr la with
    | none => rfl
    | some l =>
      cases hr : a.remotes[ri]? with
      | none => rfl
      | some r => simp [h3 l r hl hr]
  · intro l r p h1 h2 hl hr hp
    have hstep : (step a (.renominate now la ri value)).2
        = (a.sendRequest now l r true (if value > 0 then some value else none)).2 ++ [.res "ok"] := by
      simp only [step, h1, h2, Bool.not_true, Bool.false_eq_true, if_false, hl, hr, hp]
    rw [hstep, IceProofs.Agent.sendRequest_snd_eq]
    exact ⟨_, rfl, rfl, rfl, rfl, by rw [h1], rfl, rfl, rfl⟩

def exLocal : Cand := { uid := 0, ty := 1, net := 0, addr := 16, prio := 2130706431 }
def exHi : Cand := { uid := 0, ty := 1, net := 0, addr := 176, prio := 2130706431 }
def exLo : Cand := { uid := 0, ty := 1, net := 0, addr := 192, prio := 100 }
/-- a started controlled full agent with one local candidate and two remotes: pair 1 (high priority, to 176) and
pair 2 (low priority, to 192); its first tick sent checks with transaction ids 2 and 4 -/
def exAgent : Agent :=
  run { localUfrag := "uA", localPwd := "pA", tieBreaker := 3 }
    [.addLocal 0 exLocal, .addRemote 0 exHi, .addRemote 0 exLo, .start 0 false "uB" "pB"]
/-- authenticated request from the controlling peer with USE-CANDIDATE and nomination value `v` -/
def nomReq (tid v : Nat) : Msg :=
  { cls := 0, tid := tid, user := some "uA:uB", key := some "pA", prio := some 100, useCand := true,
    role := some (true, 9), nom := some v }
/-- authenticated success response to the agent's transaction `tid` -/
def okResp (tid : Nat) : Msg := { cls := 2, tid := tid, key := some "pB" }
def exL : Cand := (exAgent.localByAddr 16).getD default

/-- F8 (a): nomination 1 on the valid high-priority pair, nomination 2 on the not-yet-valid low-priority pair, that
pair validates, then a stale nomination 1 arrives again -/
def scenA : List Ev :=
  [.inbound 1 16 176 (okResp 2), .inbound 2 16 176 (nomReq 101 1), .inbound 3 16 192 (nomReq 102 2),
   .inbound 4 16 192 (okResp 4), .inbound 5 16 176 (nomReq 103 1)]
/-- F8 (b): deferred nomination 5 on pair 2, accepted nomination 7 on pair 1, then pair 2 validates -/
def scenB : List Ev :=
  [.inbound 1 16 192 (nomReq 101 5), .inbound 2 16 176 (okResp 2), .inbound 3 16 176 (nomReq 102 7),
   .inbound 4 16 192 (okResp 4)]

-- (a): immediate switch to pair 1; value 2 deferred on pair 2; on validation pair 2 (LOWER priority) is selected;
-- the stale value 1 changes nothing
example : (run exAgent (scenA.take 2)).selected = some 1 ∧ (run exAgent (scenA.take 3)).selected = some 1
    ∧ (run exAgent (scenA.take 4)).selected = some 2 ∧ (run exAgent scenA).selected = some 2
    ∧ (run exAgent scenA).lastNomination = some 2 := by decide +kernel
example : ((run exAgent (scenA.take 3)).pairById 2).map nv = some (2, PairState.inProgress, false, true, some 2) := by
  decide +kernel
example : (run exAgent (scenA.take 4)).checklist.map nv = (run exAgent scenA).checklist.map nv := by decide +kernel
example : (run exAgent scenA).pairPrio (((run exAgent scenA).pairById 2).getD default)
    < (run exAgent scenA).pairPrio (((run exAgent scenA).pairById 1).getD default) := by decide +kernel
-- (b): the deferred value 5 is superseded by 7: when pair 2 validates the selection stays on pair 1
example : (run exAgent (scenB.take 3)).selected = some 1 ∧ (run exAgent scenB).selected = some 1
    ∧ (run exAgent scenB).lastNomination = some 7 := by decide +kernel
-- … and the mark is cleared once the pair's success response has been acted upon
example : ((run exAgent scenB).pairById 2).map nv = some (2, PairState.succeeded, false, false, none) := by decide +kernel

-- `C20_accept_only_greater` / `C20_lastNomination_max`: the runs are stable, offers and logs are as expected
example : stable exAgent scenA = true ∧ acceptedLog exAgent scenA = [1, 2]
    ∧ offer (run exAgent (scenA.take 4)) (.inbound 5 16 176 (nomReq 103 1)) = some 1
    ∧ accepted (run exAgent (scenA.take 4)) (.inbound 5 16 176 (nomReq 103 1)) = none
    ∧ offer (run exAgent (scenA.take 2)) (.inbound 3 16 192 (nomReq 102 2)) = some 2
    ∧ accepted (run exAgent (scenA.take 2)) (.inbound 3 16 192 (nomReq 102 2)) = some 2 := by decide +kernel
example : stable exAgent scenB = true ∧ acceptedLog exAgent scenB = [5, 7]
    ∧ optMax none [5, 7] = some 7 ∧ optLe (some 5) (some 7) := by decide +kernel
-- equal values are rejected, arrival order does not matter (7 then 5: 5 rejected)
example : acceptedLog exAgent [.inbound 1 16 176 (nomReq 101 7), .inbound 2 16 192 (nomReq 102 5),
    .inbound 3 16 192 (nomReq 103 7), .inbound 4 16 192 (nomReq 104 8)] = [7, 8] := by decide +kernel
-- a reset (lost role conflict: controlled, own 3 ≥ theirs 2) makes the run unstable and clears `lastNomination`
example : stable exAgent [.inbound 1 16 176 (nomReq 101 7),
      .inbound 2 16 176 { nomReq 102 1 with role := some (false, 2) }] = false
    ∧ (run exAgent [.inbound 1 16 176 (nomReq 101 7),
      .inbound 2 16 176 { nomReq 102 1 with role := some (false, 2) }]).lastNomination = none := by decide +kernel

/-- decidable rendering of the hypotheses shared by `C20_switch_when_valid`, `C20_switch_when_valid_deferred`,
`C20_smaller_never_changes` (for the examples only): authenticated, controlled, no conflict, source resolves -/
def reqHyps (a : Agent) (l : Cand) (src : Nat) (m : Msg) : Bool :=
  decide (AuthRequest a m) && !a.controlling && (roleConflict a m).isNone && (resolveSource a l src m).2.2.isSome
/-- state of the pair the request is handled on -/
def targetState (a : Agent) (l : Cand) (src : Nat) (m : Msg) : Option PairState :=
  match resolveSource a l src m with
  | (a1, _, some r) => ((ensurePair a1 l r).1.pairById (ensurePair a1 l r).2.id).map (·.state)
  | _ => none

-- hypotheses of `C20_switch_when_valid` (valid target, greater value) hold before step 2 of (a) …
example : reqHyps (run exAgent (scenA.take 1)) exL 176 (nomReq 101 1) = true
    ∧ targetState (run exAgent (scenA.take 1)) exL 176 (nomReq 101 1) = some .succeeded
    ∧ (run exAgent (scenA.take 1)).lastNomination = none := by decide +kernel
-- … those of `C20_switch_when_valid_deferred` (target not valid, full agent, 2 > 1) before step 3 …
example : reqHyps (run exAgent (scenA.take 2)) exL 192 (nomReq 102 2) = true
    ∧ targetState (run exAgent (scenA.take 2)) exL 192 (nomReq 102 2) = some .inProgress
    ∧ (run exAgent (scenA.take 2)).cfg.lite = false ∧ (run exAgent (scenA.take 2)).lastNomination = some 1 := by decide +kernel
-- … those of `C20_smaller_never_changes` (1 ≤ 2) before step 5, also from an unknown source (prflx discovery)
example : reqHyps (run exAgent (scenA.take 4)) exL 176 (nomReq 103 1) = true
    ∧ reqHyps (run exAgent (scenA.take 4)) exL 208 (nomReq 103 2) = true
    ∧ (run exAgent (scenA.take 4)).lastNomination = some 2 := by decide +kernel
example :
    let r := (run exAgent (scenA.take 4)).handleInbound 5 exL 208 (nomReq 103 2)
    r.1.selected = some 2 ∧ r.1.checklist.length = 3 ∧ r.1.lastNomination = some 2 := by decide +kernel

/-- decidable rendering of the hypotheses of `C20_switch_when_valid_completes` (examples only) -/
def completesHyps (a : Agent) (now : Nat) (l : Cand) (src : Nat) (m : Msg) : Option (Nat × Option Nat) :=
  match a.findRemote l.net src, (a.takePending now m.tid).2 with
  | some r, some pd =>
    if m.method == 1 && m.cls == 2 && m.key == some a.remotePwd && !a.controlling && pd.net == l.net && pd.dest == src && pd.src == l.addr then
      (a.findPair l r).bind fun p => if p.nomOnSuccess then some (p.id, p.deferredNom) else none
    else none
  | _, _ => none
-- (a) step 4: deferred 2 on pair 2 with lastNomination = 2 → selected; (b) step 4: deferred 5 with lastNomination = 7 → not
example : completesHyps (run exAgent (scenA.take 3)) 4 exL 192 (okResp 4) = some (2, some 2)
    ∧ completesHyps (run exAgent (scenB.take 3)) 4 exL 192 (okResp 4) = some (2, some 5) := by decide +kernel

/-- a controlling agent with renomination enabled, pair 1 valid -/
def exCtl : Agent :=
  run { localUfrag := "uA", localPwd := "pA", tieBreaker := 3, cfg := { enableRenomination := true } }
    [.addLocal 0 exLocal, .addRemote 0 exHi, .start 0 true "uB" "pB"]
def dgramsOf (o : List Out) : List (Nat × Nat × Msg) := o.filterMap fun | .dgram f t m => some (f, t, m) | _ => none
-- sends exactly one request with USE-CANDIDATE, ICE-CONTROLLING and the value; value 0 → no value attribute
example : (dgramsOf (step exCtl (.renominate 1 16 0 5)).2).map (fun x => (x.1, x.2.1, x.2.2.useCand, x.2.2.nom))
    = [(16, 176, true, some 5)]
    ∧ (dgramsOf (step exCtl (.renominate 1 16 0 5)).2).map (fun x => x.2.2.role) = [some (true, 3)]
    ∧ (dgramsOf (step exCtl (.renominate 1 16 0 0)).2).map (fun x => x.2.2.nom) = [none] := by decide +kernel
-- refused: controlled agent; feature disabled; unknown pair
example : dgramsOf (step exAgent (.renominate 1 16 0 5)).2 = []
    ∧ dgramsOf (step { exCtl with cfg := {} } (.renominate 1 16 0 5)).2 = []
    ∧ dgramsOf (step exCtl (.renominate 1 16 3 5)).2 = [] ∧ dgramsOf (step exCtl (.renominate 1 17 0 5)).2 = [] := by
  decide +kernel

/-! ## Two agents: the exchange on `Sys2` (sentence 2 of the property)

System: `IceModel.Sys2` (two `AgentCore` agents A = `false`, B = `true`, a hub that holds every datagram until the
schedule delivers, duplicates or drops it, a NAT map, one-way blocks) as the transition system
`IceProofs.Sys2Run` (`SysEv`: API call of either agent, `deliver k`, `dup k`, `drop k`, `advance now`).

Vocabulary (`IceProofs.C20S`; every item is a decidable, executable definition):
* `Fresh s0` — two freshly created agents (no candidates, pairs, selection, transactions, caches), nothing in flight;
  configuration, credentials, tie-breakers, topology arbitrary.
* `Established s1` — the session is up and renomination has not begun: `Session s1` (both started and open, A
  controlling, B controlled and a full agent, nobody Failed); no nomination VALUE in flight; A has no valued transaction
  outstanding and has processed no response to one; B has accepted no value; no pair of B carries a deferred value.
  Ordinary nominations (USE-CANDIDATE without value) may be in flight, outstanding or deferred, and neither agent need
  have selected a pair yet.
* `Exchange s1 ex` — the course of the exchange: no Restart, no Close, and every state along `ex` is a `Session`
  (so: no role conflict lost, nobody enters Failed).  Everything else is allowed: any API call (signalling of further
  candidates, data, ticks …), any delivery order, duplication, loss.
* `hist s1 ex : Hist` — the monotone history of the exchange, accumulated over the agent events the schedule makes the
  agents execute (`microEvs`), each judged in the state the agent executes it in:
  `issued` = the log of nominations A issued (`issueOf`: `RenominateCandidate` answered `ok`; entry = value, local
  address, remote address); `answered` = the log of nominations whose success response A processed (`answerOf`: an
  authenticated response that matches an outstanding, unexpired, symmetric transaction of a listed pair);
  `accepted` = the value B accepted last (`accepted` of the single-agent theorems) with the local address the request
  arrived on and its source address.
* `Quiesced s` — "the exchange has quiesced": (1) no STUN message carrying a nomination value is in flight, (2) A has
  no valued nomination transaction outstanding, (3) the highest value B has accepted is not still waiting, as a
  deferred nomination, for the validation of its pair.
  Conjunct by conjunct against the text: (1) a request still in flight can be accepted and move B, its response can
  move A; (2) an outstanding transaction means a response may still come (or came and is among (1)); without (1)+(2)
  the selections can still change, with them no event other than a NEW `RenominateCandidate` moves an existing
  selection (`C20_quiesced_rests`); (3) a deferred nomination with B's highest value waiting for its pair's check is a
  nomination B has accepted but not yet acted upon — B's selection still lags behind its own `lastNomination`
  (deferred nominations with smaller values, and deferred ordinary nominations, may wait for ever: they no longer
  move the selection).  Only (3) is used by the proof of the agreement theorem (the premise `hA` below already pins
  the traffic that matters); (1) and (2) make the state final; satisfiable: see the examples.
* `mirror nat la ra = (unmapped ra, mapped la)` — the mirror image modulo NAT of A's address pair `(la, ra)`, as in
  `C01_mirror_partial`: B's local address is the real address behind `ra`, B's remote address is `la` seen through the
  NAT.  `selAddrs x` = (local address, remote address) of the selected pair of agent `x`.
-/
section TwoAgents
open IceModel.Sys2 (Sys Dgram)
open IceProofs.Sys2Run IceProofs.C20S

/-- **C20_history_vocabulary** — the three kinds of step the history records, unfolded (any state, any event):
* `issueOf a e = some (v, la, ra)` iff `e` is `RenominateCandidate la ri v` on a controlling agent with the feature
  enabled, `la` is the address of a local candidate, `ra` the address of remote candidate number `ri`, and their pair
  exists — which is exactly when `step` answers `ok` (otherwise it answers an error and sends nothing,
  `C20_only_controlling_enabled`);
* `answerOf a e = some (pd, id)` iff `e` delivers, to an open started agent on an existing local candidate, a Binding
  success response with MESSAGE-INTEGRITY under the remote password from a known source, `pd` is the outstanding,
  unexpired transaction with its id (`takePending`), the response is symmetric to it (`responseSymmetric`: network
  type, destination, source) and `id` is the pair of the two candidates;
* `acceptAt a e = some (v, la, src)` iff `e = .inbound _ la src _` and `accepted a e = some v` (`C20_offer_iff`,
  `C20_accept_step`: the controlled selector is handed the value and `shouldAcceptNomination` accepts it). -/
theorem C20_history_vocabulary (a : Agent) (e : Ev) :
    (∀ v la ra, issueOf a e = some (v, la, ra) ↔
      ∃ now ri l r, e = .renominate now la ri v ∧ a.controlling = true ∧ a.cfg.enableRenomination = true ∧
        a.localByAddr la = some l ∧ a.remotes[ri]? = some r ∧ (a.findPair l r).isSome = true ∧ ra = r.addr) ∧
    (∀ now la ri v, (issueOf a (.renominate now la ri v)).isSome = true ↔
      Out.res "ok" ∈ (step a (.renominate now la ri v)).2) ∧
    (∀ pd id, answerOf a e = some (pd, id) ↔
      ∃ now la src m l r p, e = .inbound now la src m ∧ a.closed = false ∧ a.started = true ∧
        a.localByAddr la = some l ∧ m.method = 1 ∧ m.cls = 2 ∧ m.key = some a.remotePwd ∧
        a.findRemote l.net src = some r ∧ (a.takePending now m.tid).2 = some pd ∧
        pd.net = l.net ∧ pd.dest = src ∧ pd.src = l.addr ∧ a.findPair l r = some p ∧ p.id = id) ∧
    (∀ v la src, acceptAt a e = some (v, la, src) ↔ ∃ now m, e = .inbound now la src m ∧ accepted a e = some v) := by
  refine ⟨fun v la ra => issueOf_iff a e v la ra, fun now la ri v => issueOf_iff_ok a now la ri v,
    fun pd id => answerOf_iff a e pd id, fun v la src => ?_⟩
  cases e with
  | inbound now la' src' m =>
    simp only [acceptAt, Option.map_eq_some_iff, Prod.mk.injEq, Ev.inbound.injEq]
    constructor
    · rintro ⟨v', h1, rfl, rfl, rfl⟩
      exact ⟨now, m, ⟨rfl, rfl, rfl, rfl⟩, h1⟩
    · rintro ⟨now', m', ⟨_, rfl, rfl, _⟩, h1⟩
      exact ⟨v, h1, rfl, rfl, rfl⟩
  | _ =>
    constructor
    · intro h; cases h
    · rintro ⟨_, _, h, _⟩; cases h

/-- **C20_accepted_le_issued** — in every state of every exchange, the highest value B has accepted was issued by A
(`RenominateCandidate` answered `ok` with that value, or A's automatic check nominated with it: the log `issued`
accumulates `IceProofs.C20S.issuesOf`, see `C20_issues_vocabulary`).  No credential hypothesis: the system is closed, a
nomination value enters the wire only as a nomination the emitting agent issues in that very step
(`IceProofs.C20S.step_out_nom`, any state, any event). -/
theorem C20_accepted_le_issued (s0 : Sys) (pre ex : List SysEv) (s1 s : Sys) (hs1 : s1 = Sys.runs s0 pre)
    (hs : s = Sys.runs s1 ex) (hf : Fresh s0) (he : Established s1) (hex : Exchange s1 ex)
    (hz : PositiveValues (hist s1 ex).issued) (v : Nat) (hv : s.b.lastNomination = some v) :
    ∃ la ra, (v, la, ra) ∈ (hist s1 ex).issued := by
  subst hs1 hs
  exact accepted_le_issued hf pre ex he hex hz v hv

/-- **C20_controlled_selects_max_accepted** — in every state of every exchange: B's highest accepted value `v` was
issued by A on an address pair `(la, ra)`, B accepted it on the mirror image of that pair (modulo NAT), and that pair
is B's selected pair — or still carries `v` as a deferred nomination (`nomOnSuccess`, `deferredNom = some v`, not yet
valid).  So after every nomination-driven switch B's selection carries B's largest accepted value, whatever the arrival
order, duplication or loss of requests and responses, and whatever the priorities. -/
theorem C20_controlled_selects_max_accepted (s0 : Sys) (pre ex : List SysEv) (s1 s : Sys)
    (hs1 : s1 = Sys.runs s0 pre) (hs : s = Sys.runs s1 ex) (hf : Fresh s0) (he : Established s1)
    (hex : Exchange s1 ex) (hz : PositiveValues (hist s1 ex).issued) (v : Nat)
    (hv : s.b.lastNomination = some v) :
    ∃ la ra, (v, la, ra) ∈ (hist s1 ex).issued ∧
      (hist s1 ex).accepted = some (v, (mirror s0.nat la ra).1, (mirror s0.nat la ra).2) ∧
      (selAddrs s.b = some (mirror s0.nat la ra) ∨
       ∃ p ∈ s.b.checklist, pairAddrs s.b p.id = some (mirror s0.nat la ra) ∧
         p.nomOnSuccess = true ∧ p.deferredNom = some v ∧ p.state ≠ .succeeded) := by
  subst hs1 hs
  exact controlled_selects_max_accepted hf pre ex he hex hz v hv

/-- **C20_controlling_selects_max_answered** — in every state of every exchange, once A has processed the success
response to a nomination, A's selected pair is the pair of the answered nomination with the GREATEST value: responses
processed out of order, or to a nomination B rejected, do not move it (fix of F28). -/
theorem C20_controlling_selects_max_answered (s0 : Sys) (pre ex : List SysEv) (s1 s : Sys)
    (hs1 : s1 = Sys.runs s0 pre) (hs : s = Sys.runs s1 ex) (hf : Fresh s0) (he : Established s1)
    (hex : Exchange s1 ex) (hz : PositiveValues (hist s1 ex).issued) (x : Nomination)
    (hx : x ∈ (hist s1 ex).answered) :
    ∃ y ∈ (hist s1 ex).answered, y ∈ (hist s1 ex).issued ∧ (∀ z ∈ (hist s1 ex).answered, z.1 ≤ y.1) ∧
      selAddrs s.a = some (y.2.1, y.2.2) := by
  subst hs1 hs
  exact controlling_selects_max_answered hf pre ex he hex hz x hx

/-- **C20_answered_le_accepted** — in every state of every exchange: B has handed every nomination whose response A
has processed to its selector, so B's highest accepted value is at least that nomination's value.  (Transaction ids:
A hands out even ids below `2·nextTid`, B odd ids; a request in flight with the id of an outstanding valued transaction
of A is that nomination and carries ICE-CONTROLLING, so A itself never answers it; a success response with that id
was emitted by B's controlled selector after `shouldAcceptNomination`.) -/
theorem C20_answered_le_accepted (s0 : Sys) (pre ex : List SysEv) (s1 s : Sys)
    (hs1 : s1 = Sys.runs s0 pre) (hs : s = Sys.runs s1 ex) (hf : Fresh s0) (he : Established s1)
    (hex : Exchange s1 ex) (hz : PositiveValues (hist s1 ex).issued) (x : Nomination)
    (hx : x ∈ (hist s1 ex).answered) :
    ∃ last, s.b.lastNomination = some last ∧ x.1 ≤ last := by
  subst hs1 hs
  exact answered_le_accepted hf pre ex he hex hz x hx

/-- **C20_quiescent_agreement** — sentence 2 of the property, for ALL schedules `pre` (from two fresh agents to an
established session) and `ex` (the exchange: any API calls, any delivery order, duplication, loss): if the exchange has
quiesced, `x = (v, la, ra)` is the nomination with the highest value A issued and (`hA`) A has processed the success
response to `x`, THEN A's selected pair is `(la, ra)` and B's selected pair is its mirror image modulo NAT.  (That B
has accepted `v` follows: `C20_answered_le_accepted` and `C20_accepted_le_issued`.)

The hypotheses, and why each is there:
* `hA` — the exchange of the highest nomination COMPLETED (it was not lost).  This is the one behavioural hypothesis,
  and it is forced: a nomination is sent once and never retransmitted, so when its request or its response is dropped
  (or its transaction expires first) the state quiesces with A — and, if the request was lost, B too — still on the
  pair of an earlier nomination (`C20_quiescent_agreement_needs_completed_witness`; W4 in notes/C20sys.md, replayed
  on the real agents; not fixed in the code).  `hA` no longer says anything about ORDER: the response may have been
  processed before or after those of other nominations (fix of F28).
* `hmax` (`IsMax`) — `x` carries the highest value issued and is the only nomination with that value;
  `PositiveValues` — value 0 is sent without the attribute, i.e. as an ordinary nomination.
* `Established` / `Exchange` — scope: the values of this exchange are the first ones (no value in flight, answered or
  accepted before), and no Restart / Close / Failed / lost role conflict while the exchange runs (these re-install the
  selector or wipe the checklist; `C20_reset_clears`).  Ordinary nominations — in flight, outstanding, deferred — are
  allowed everywhere (fixes of F29, F30, F31: they no longer move B off the pair of an accepted value). -/
theorem C20_quiescent_agreement (s0 : Sys) (pre ex : List SysEv) (s1 s : Sys)
    (hs1 : s1 = Sys.runs s0 pre) (hs : s = Sys.runs s1 ex) (hf : Fresh s0) (he : Established s1)
    (hex : Exchange s1 ex) (hz : PositiveValues (hist s1 ex).issued) (x : Nomination)
    (hq : Quiesced s) (hmax : IsMax (hist s1 ex).issued x) (hA : x ∈ (hist s1 ex).answered) :
    selAddrs s.a = some (x.2.1, x.2.2) ∧ selAddrs s.b = some (mirror s0.nat x.2.1 x.2.2) := by
  subst hs1 hs
  exact quiescent_agreement hf pre ex he hex hz x hq hmax hA

/-- **C20_quiesced_rests** — `Quiesced` is final: from a quiesced state of an exchange, along EVERY continuation `ex2`
in which A issues no nomination again — it does not call `RenominateCandidate` (`ExchangeK rests`: no Restart / Close /
RenominateCandidate among the API events, every state a `Session`) and its automatic check does not fire (`hno`: the log
of issued nominations is the same at the end of `ex2`; with `WithAutomaticRenomination` off that is automatic) — any
deliveries, duplicates, drops, ticks, signalling, data — the state stays
quiesced; a pair A has selected stays selected (same id, same addresses); B's highest accepted value stays, and once B
has accepted a value a pair B has selected stays selected.  So with conjuncts (1) and (2) of `Quiesced` no datagram in
flight can still move an agreed selection.  (Where nothing is selected yet, or B has accepted no value, an ordinary
nomination may still select: that is the ordinary ICE nomination.) -/
theorem C20_quiesced_rests (s0 : Sys) (pre ex ex2 : List SysEv) (s1 s s2 : Sys) (hs1 : s1 = Sys.runs s0 pre)
    (hs : s = Sys.runs s1 ex) (hs2 : s2 = Sys.runs s ex2) (hf : Fresh s0) (he : Established s1)
    (hex : Exchange s1 ex) (hz : PositiveValues (hist s1 ex).issued) (hq : Quiesced s)
    (hex2 : ExchangeK rests s ex2) (hno : (histFrom (hist s1 ex) s ex2).issued = (hist s1 ex).issued) :
    Quiesced s2 ∧ (∀ id, s.a.selected = some id → s2.a.selected = some id) ∧
    (∀ x, selAddrs s.a = some x → selAddrs s2.a = some x) ∧
    s2.b.lastNomination = s.b.lastNomination ∧
    (s.b.lastNomination.isSome = true →
      (∀ id, s.b.selected = some id → s2.b.selected = some id) ∧
      (∀ x, selAddrs s.b = some x → selAddrs s2.b = some x)) := by
  subst hs1 hs hs2
  exact quiesced_rests hf pre ex ex2 he hex hz hq hex2 hno

end TwoAgents

namespace Sys2Example
open IceModel.Sys2 (Sys)
open IceProofs.Sys2Run
/-- A (tie-breaker 9, renomination enabled) with one host candidate at address 16; B (tie-breaker 5) with two host
candidates at 176 (high priority) and 192 (lower priority); no NAT -/
def s0 : Sys :=
  { a := { cfg := { enableRenomination := true }, tieBreaker := 9, localUfrag := "uA0", localPwd := "pA0" },
    b := { tag := 1, tieBreaker := 5, localUfrag := "uB0", localPwd := "pB0" }, hasB := true }
def hostA : Cand := { uid := 0, ty := 1, net := 0, addr := 16, prio := 2130706431 }
def hostB1 : Cand := { uid := 0, ty := 1, net := 0, addr := 176, prio := 2130706431 }
def hostB2 : Cand := { uid := 0, ty := 1, net := 0, addr := 192, prio := 2130706175 }
def dl (l : List Nat) : List SysEv := l.map .deliver
def drain (n : Nat) : List SysEv := List.replicate n (.deliver 0)
/-- candidates, signalling, A starts controlling, B controlled -/
def setup : List SysEv :=
  [.api false (.addLocal 0 hostA), .api true (.addLocal 0 hostB1), .api true (.addLocal 0 hostB2),
   .api false (.addRemote 0 hostB1), .api false (.addRemote 0 hostB2), .api true (.addRemote 0 hostA),
   .api false (.start 0 true "uB0" "pB0"), .api true (.start 0 false "uA0" "pA0")]
/-- … checks, the ordinary nomination of pair 16–176 and everything else delivered: both agents on 16–176 -/
def pre : List SysEv := setup ++ drain 12 ++ [.advance 200000000] ++ drain 12
/-- three renominations (1 on 16–192, 2 on 16–176, 3 on 16–192); B receives request 3 first (a duplicate), then 1,
then 3 again, then 2; A processes the responses of 1, 2, 3 in this order, the second response to 3 last -/
def exOk : List SysEv :=
  [.api false (.renominate 200000000 16 1 1), .api false (.renominate 200000000 16 0 2),
   .api false (.renominate 200000000 16 1 3), .dup 2] ++ dl [0, 1, 0, 1, 2, 0, 0]
/-- after `exOk`: two keepalive rounds with everything delivered, a duplicate and a drop -/
def exRest : List SysEv :=
  [.advance 2200000000] ++ drain 2 ++ [.dup 0] ++ drain 3 ++ [.advance 4400000000, .drop 0] ++ drain 4
/-- two renominations with increasing values (1 on 16–192, 2 on 16–176), requests delivered in order, the two
responses in reverse order -/
def exReordered : List SysEv :=
  [.api false (.renominate 200000000 16 1 1), .api false (.renominate 200000000 16 0 2)] ++ dl [0, 0, 1, 0]
/-- value 5 on 16–192 (completed), then value 3 on 16–176: B rejects it and answers with a success response -/
def exDecreasing : List SysEv :=
  [.api false (.renominate 200000000 16 1 5)] ++ dl [0, 0] ++ [.api false (.renominate 200000000 16 0 3)] ++ dl [0, 0]
/-- value 1 on 16–192 (completed), then value 2 on 16–176 whose request is dropped; 4.1 s later the transaction has
expired (two keepalive rounds delivered) -/
def exLost : List SysEv :=
  [.api false (.renominate 200000000 16 1 1)] ++ dl [0, 0] ++ [.api false (.renominate 200000000 16 0 2), .drop 0,
   .advance 4300000000] ++ drain 8
/-- as `pre`, but A's tick sends a second ordinary nomination of 16–176 and the first one is still in flight -/
def preStale : List SysEv := setup ++ drain 8 ++ [.advance 200000000] ++ dl [0, 1, 0, 3, 1, 1, 1, 1, 1, 1]
/-- one renomination (1 on 16–192), completed on both sides; then the stale ordinary nomination arrives -/
def exStale : List SysEv := [.api false (.renominate 200000000 16 1 1)] ++ dl [1, 1, 1, 1, 1, 1] ++ dl [0, 0, 0, 0, 0]
/-- A's ordinary nomination of 16–176 reaches B before B's own check of that pair has succeeded (deferred, mark set,
then completed); after 2 s B's keepalive on the pair is in flight -/
def preMarked : List SysEv :=
  setup ++ dl [0, 3] ++ [.advance 200000000] ++ dl [4, 1, 7] ++ drain 14 ++ [.advance 2200000000] ++ dl [1, 0, 1]
/-- one renomination (1 on 16–192), completed on both sides; then the keepalive is answered -/
def exMarked : List SysEv := [.api false (.renominate 2200000000 16 1 1)] ++ dl [1, 1] ++ dl [0, 0]
/-- A's checks have succeeded, B's check of 16–176 has not; A's tick sends the ordinary nomination of 16–176; nobody
has selected anything yet -/
def preEarly : List SysEv := setup ++ dl [0, 0, 2, 3, 1, 3] ++ [.advance 200000000]
/-- value 1 on 16–192 (completed), value 2 on 16–176: deferred at B (pair not yet valid) and answered; then the
ordinary nomination of 16–176 arrives at B (it must not overwrite the deferred value 2), then B's check of 16–176
succeeds; everything else delivered -/
def exEarly : List SysEv :=
  [.api false (.renominate 200000000 16 1 1)] ++ dl [5, 5] ++ [.api false (.renominate 200000000 16 0 2)] ++
    dl [5, 5, 3, 0, 6] ++ drain 8

/-- the same agents with A behind a NAT: A's address 16 is seen as 336 -/
def s0Nat : Sys := { s0 with nat := [(16, 336)] }
/-- A's server-reflexive candidate, as signalled to B -/
def srflxA : Cand := { uid := 0, ty := 2, net := 0, addr := 336, prio := 1694498815, rel := some 16 }
def setupNat : List SysEv :=
  [.api false (.addLocal 0 hostA), .api true (.addLocal 0 hostB1), .api true (.addLocal 0 hostB2),
   .api false (.addRemote 0 hostB1), .api false (.addRemote 0 hostB2), .api true (.addRemote 0 srflxA),
   .api false (.start 0 true "uB0" "pB0"), .api true (.start 0 false "uA0" "pA0")]
def preNat : List SysEv :=
  setupNat ++ drain 12 ++ [.advance 200000000] ++ drain 12 ++ [.advance 400000000] ++ drain 12 ++
    [.advance 600000000] ++ drain 12
def exNat : List SysEv :=
  [.api false (.renominate 600000000 16 1 1), .api false (.renominate 600000000 16 0 2),
   .api false (.renominate 600000000 16 1 3), .dup 2] ++ dl [0, 1, 0, 1, 2, 0, 0]
end Sys2Example

theorem C20_example_fresh : IceProofs.C20S.Fresh Sys2Example.s0 :=
  ⟨⟨rfl, rfl, rfl, rfl, rfl, rfl, rfl, rfl, rfl, rfl, rfl, rfl, rfl, rfl, rfl⟩,
   ⟨rfl, rfl, rfl, rfl, rfl, rfl⟩, ⟨rfl, rfl, rfl, rfl, rfl, rfl⟩⟩

section TwoAgentExamples
open IceModel.Sys2 (Sys Dgram)
open IceProofs.Sys2Run IceProofs.C20S Sys2Example

set_option maxRecDepth 100000 in
/-- **Non-vacuity.**  Every hypothesis of `C20_quiescent_agreement` holds on a run with three renominations whose
requests arrive out of order and duplicated: session established, exchange, positive values, quiesced,
`(3, 16, 192)` the highest nomination, answered, accepted by B — and indeed A ends on 16–192, B on 192–16. -/
example : Established (Sys.runs s0 pre) ∧ Exchange (Sys.runs s0 pre) exOk
    ∧ hist (Sys.runs s0 pre) exOk
        = { issued := [(1, 16, 192), (2, 16, 176), (3, 16, 192)],
            answered := [(1, 16, 192), (2, 16, 176), (3, 16, 192)], accepted := some (3, 192, 16) }
    ∧ PositiveValues (hist (Sys.runs s0 pre) exOk).issued ∧ IsMax (hist (Sys.runs s0 pre) exOk).issued (3, 16, 192)
    ∧ Quiesced (Sys.runs (Sys.runs s0 pre) exOk)
    ∧ (Sys.runs (Sys.runs s0 pre) exOk).b.lastNomination = some 3
    ∧ selAddrs (Sys.runs s0 pre).a = some (16, 176) ∧ selAddrs (Sys.runs s0 pre).b = some (176, 16)
    ∧ selAddrs (Sys.runs (Sys.runs s0 pre) exOk).a = some (16, 192)
    ∧ selAddrs (Sys.runs (Sys.runs s0 pre) exOk).b = some (192, 16) ∧ mirror s0.nat 16 192 = (192, 16) := by
  decide +kernel

set_option maxRecDepth 100000 in
/-- hypotheses of `C20_quiesced_rests` on the same run, continued by keepalive traffic (duplicated, dropped) -/
example : ExchangeK rests (Sys.runs (Sys.runs s0 pre) exOk) exRest
    ∧ Quiesced (Sys.runs (Sys.runs (Sys.runs s0 pre) exOk) exRest)
    ∧ selAddrs (Sys.runs (Sys.runs (Sys.runs s0 pre) exOk) exRest).a = some (16, 192)
    ∧ selAddrs (Sys.runs (Sys.runs (Sys.runs s0 pre) exOk) exRest).b = some (192, 16) := by
  decide +kernel

set_option maxRecDepth 100000 in
/-- … and modulo a NAT: A's address 16 is mapped to 336; B's pairs are 176–336 and 192–336; after the same three
renominations A is on 16–192 and B on its mirror image 192–336. -/
example : Established (Sys.runs s0Nat preNat) ∧ Exchange (Sys.runs s0Nat preNat) exNat
    ∧ hist (Sys.runs s0Nat preNat) exNat
        = { issued := [(1, 16, 192), (2, 16, 176), (3, 16, 192)],
            answered := [(1, 16, 192), (2, 16, 176), (3, 16, 192)], accepted := some (3, 192, 336) }
    ∧ Quiesced (Sys.runs (Sys.runs s0Nat preNat) exNat)
    ∧ selAddrs (Sys.runs s0Nat preNat).a = some (16, 176) ∧ selAddrs (Sys.runs s0Nat preNat).b = some (176, 336)
    ∧ selAddrs (Sys.runs (Sys.runs s0Nat preNat) exNat).a = some (16, 192)
    ∧ selAddrs (Sys.runs (Sys.runs s0Nat preNat) exNat).b = some (192, 336) ∧ mirror s0Nat.nat 16 192 = (192, 336) := by
  decide +kernel

set_option maxRecDepth 100000 in
/-- **`hA` is forced (loss — W4, not fixed in the code).**  Without the premise "A has processed the success response
to the highest nomination" the theorem is false: value 1 on 16–192 completes, the request of value 2 on 16–176 is
dropped, a nomination is never retransmitted, the transaction expires; the state is quiesced, all other hypotheses hold,
both agents stay on the pair of value 1 — nobody ever learns of value 2.  Replayed on the real agents. -/
theorem C20_quiescent_agreement_needs_completed_witness :
    ¬ (∀ (s0 : Sys) (pre ex : List SysEv) (s1 s : Sys), s1 = Sys.runs s0 pre → s = Sys.runs s1 ex → Fresh s0 →
        Established s1 → Exchange s1 ex → PositiveValues (hist s1 ex).issued → ∀ x : Nomination,
        Quiesced s → IsMax (hist s1 ex).issued x →
        selAddrs s.a = some (x.2.1, x.2.2) ∧ selAddrs s.b = some (mirror s0.nat x.2.1 x.2.2)) := by
  intro h
  -- the instance at the run of `exLost`, an implication between closed decidable facts: one evaluation of the run
  have := fun h1 h2 h3 => h s0 pre exLost _ _ rfl rfl C20_example_fresh h1 h2 h3 (2, 16, 176)
  revert this
  decide +kernel

set_option maxRecDepth 100000 in
/-- the run of the witness: what the history records, and where the agents are -/
example : Established (Sys.runs s0 pre) ∧ Exchange (Sys.runs s0 pre) exLost
    ∧ hist (Sys.runs s0 pre) exLost
        = { issued := [(1, 16, 192), (2, 16, 176)], answered := [(1, 16, 192)], accepted := some (1, 192, 16) }
    ∧ IsMax (hist (Sys.runs s0 pre) exLost).issued (2, 16, 176)
    ∧ Quiesced (Sys.runs (Sys.runs s0 pre) exLost)
    ∧ selAddrs (Sys.runs (Sys.runs s0 pre) exLost).a = some (16, 192)
    ∧ selAddrs (Sys.runs (Sys.runs s0 pre) exLost).b = some (192, 16) := by
  decide +kernel

/-! ### regressions for F28–F31

Each run satisfies every hypothesis of `C20_quiescent_agreement` and the selections are as the theorem says.  Without the
fixes each of them ends with the two agents on different pairs (in the model and on the real agents; the sessions are in
corpus/C20/agent.ops). -/

set_option maxRecDepth 100000 in
/-- F28 (responses out of order): values 1 and 2 issued in increasing order, requests delivered in order, A processes
the response to 2 BEFORE the response to 1 — and now stays on the pair of value 2. -/
example : Established (Sys.runs s0 pre) ∧ Exchange (Sys.runs s0 pre) exReordered
    ∧ hist (Sys.runs s0 pre) exReordered
        = { issued := [(1, 16, 192), (2, 16, 176)], answered := [(2, 16, 176), (1, 16, 192)], accepted := some (2, 176, 16) }
    ∧ PositiveValues (hist (Sys.runs s0 pre) exReordered).issued
    ∧ IsMax (hist (Sys.runs s0 pre) exReordered).issued (2, 16, 176)
    ∧ Quiesced (Sys.runs (Sys.runs s0 pre) exReordered)
    ∧ selAddrs (Sys.runs (Sys.runs s0 pre) exReordered).a = some (16, 176)
    ∧ selAddrs (Sys.runs (Sys.runs s0 pre) exReordered).b = some (mirror s0.nat 16 176) := by
  decide +kernel

set_option maxRecDepth 100000 in
/-- F28 (non-increasing values): 5 then 3 — B rejects 3 but answers it with a success response; A now ignores that
response and stays on the pair of value 5. -/
example : Established (Sys.runs s0 pre) ∧ Exchange (Sys.runs s0 pre) exDecreasing
    ∧ hist (Sys.runs s0 pre) exDecreasing
        = { issued := [(5, 16, 192), (3, 16, 176)], answered := [(5, 16, 192), (3, 16, 176)], accepted := some (5, 192, 16) }
    ∧ IsMax (hist (Sys.runs s0 pre) exDecreasing).issued (5, 16, 192)
    ∧ Quiesced (Sys.runs (Sys.runs s0 pre) exDecreasing)
    ∧ selAddrs (Sys.runs (Sys.runs s0 pre) exDecreasing).a = some (16, 192)
    ∧ selAddrs (Sys.runs (Sys.runs s0 pre) exDecreasing).b = some (mirror s0.nat 16 192) := by
  decide +kernel

set_option maxRecDepth 100000 in
/-- F29 (stale ordinary nomination): an ordinary nomination of the high-priority pair is still in flight when the
session is `Established` and arrives after the renomination to the lower-priority pair has completed — B now ignores
it (a value has been accepted). -/
example : Established (Sys.runs s0 preStale) ∧ Exchange (Sys.runs s0 preStale) exStale
    ∧ ((Sys.runs s0 preStale).inflight.any fun d =>
        match d.p with | .stun m => m.cls == 0 && m.useCand && m.nom.isNone | .data _ => false) = true
    ∧ hist (Sys.runs s0 preStale) exStale
        = { issued := [(1, 16, 192)], answered := [(1, 16, 192)], accepted := some (1, 192, 16) }
    ∧ IsMax (hist (Sys.runs s0 preStale) exStale).issued (1, 16, 192)
    ∧ Quiesced (Sys.runs (Sys.runs s0 preStale) exStale)
    ∧ selAddrs (Sys.runs (Sys.runs s0 preStale) exStale).a = some (16, 192)
    ∧ selAddrs (Sys.runs (Sys.runs s0 preStale) exStale).b = some (mirror s0.nat 16 192) := by
  decide +kernel

set_option maxRecDepth 100000 in
/-- F30 (deferred mark never cleared): B's selected pair was nominated through the deferred path; a keepalive of B on
that pair is outstanding when the renomination to the lower-priority pair completes; its success response no longer
re-runs the nomination (the mark was cleared when it was acted upon). -/
example : Established (Sys.runs s0 preMarked) ∧ Exchange (Sys.runs s0 preMarked) exMarked
    ∧ hist (Sys.runs s0 preMarked) exMarked
        = { issued := [(1, 16, 192)], answered := [(1, 16, 192)], accepted := some (1, 192, 16) }
    ∧ IsMax (hist (Sys.runs s0 preMarked) exMarked).issued (1, 16, 192)
    ∧ Quiesced (Sys.runs (Sys.runs s0 preMarked) exMarked)
    ∧ (∀ p ∈ (Sys.runs s0 preMarked).b.checklist, p.nomOnSuccess = false)
    ∧ selAddrs (Sys.runs (Sys.runs s0 preMarked) exMarked).a = some (16, 192)
    ∧ selAddrs (Sys.runs (Sys.runs s0 preMarked) exMarked).b = some (mirror s0.nat 16 192) := by
  decide +kernel

set_option maxRecDepth 100000 in
/-- F31 (ordinary nomination overwrote a deferred value): the exchange starts before anything is selected, with A's
ordinary nomination of 16–176 in flight; value 2 on 16–176 is deferred at B (its check of the pair has not succeeded);
the ordinary nomination arrives and no longer replaces the deferred value; when the pair validates B selects it. -/
example : Established (Sys.runs s0 preEarly) ∧ Exchange (Sys.runs s0 preEarly) exEarly
    ∧ selAddrs (Sys.runs s0 preEarly).a = none ∧ selAddrs (Sys.runs s0 preEarly).b = none
    ∧ hist (Sys.runs s0 preEarly) exEarly
        = { issued := [(1, 16, 192), (2, 16, 176)], answered := [(1, 16, 192), (2, 16, 176)], accepted := some (2, 176, 16) }
    ∧ IsMax (hist (Sys.runs s0 preEarly) exEarly).issued (2, 16, 176)
    ∧ Quiesced (Sys.runs (Sys.runs s0 preEarly) exEarly)
    ∧ selAddrs (Sys.runs (Sys.runs s0 preEarly) exEarly).a = some (16, 176)
    ∧ selAddrs (Sys.runs (Sys.runs s0 preEarly) exEarly).b = some (mirror s0.nat 16 176) := by
  decide +kernel

end TwoAgentExamples

/-- For ALL arguments the regenerated `controllingSelector.HandleSuccessResponse` is: `handleInboundBindingSuccess`;
then — only with a known transaction, a symmetric response and an existing pair — `pair.state := Succeeded`, the
`answeredNomination` rule (`ctlSuccessDecision`: a response to a valued nomination is followed iff its value is greater
than every value already answered, and then recorded; a value-less nomination selects only when nothing is selected),
`UpdateRoundTripTime` — in this order, nothing else -/
theorem C20_code_controlling_success_response (found symmetric hasPair useCand hasSelected hasValue : Bool)
    (value : UInt32) (hasAnswered : Bool) (answered : UInt32) :
    IceGen.controllingSelector_HandleSuccessResponse found symmetric hasPair useCand hasSelected hasValue value
        hasAnswered answered
      = IceTie.AgentSuccess.eTake :: (if found && symmetric && hasPair then
          IceTie.AgentSuccess.eSucceeded ::
            (IceTie.AgentSuccess.ctlEffs
              (ctlSuccessDecision useCand (IceTie.AgentSuccess.optOf hasValue value)
                (IceTie.AgentSuccess.optOf hasAnswered answered) hasSelected) hasValue value
             ++ [IceTie.AgentSuccess.eRTT])
        else []) :=
  IceTie.AgentSuccess.ctlHandleSuccess_tie found symmetric hasPair useCand hasSelected hasValue value hasAnswered answered

/-- For ALL arguments the regenerated `controlledSelector.HandleSuccessResponse` is: `handleInboundBindingSuccess`; then
— same gate — `pair.state := Succeeded`; on a pair with a deferred nomination the switch `cldSuccessDecision` (a deferred
VALUE is ignored when a greater one has been accepted since, otherwise it wins whatever the priorities; a deferred
nomination without a value never moves the selection once a value has been accepted, otherwise the priority rule) and
the clearing of the deferred nomination; `UpdateRoundTripTime` -/
theorem C20_code_controlled_success_response (found symmetric hasPair nomOnSuccess hasSelected samePair hasValue : Bool)
    (value : UInt32) (hasLast : Bool) (last : UInt32) (needsPrio : Bool) (selectedPrio pairPrio : UInt64) :
    IceGen.controlledSelector_HandleSuccessResponse found symmetric hasPair nomOnSuccess hasSelected samePair hasValue
        value hasLast last needsPrio selectedPrio pairPrio
      = IceTie.AgentSuccess.eTake :: (if found && symmetric && hasPair then
          IceTie.AgentSuccess.eSucceeded :: ((if nomOnSuccess then
              (if cldSuccessDecision (IceTie.AgentSuccess.optOf hasValue value) (IceTie.AgentSuccess.optOf hasLast last)
                    hasSelected samePair needsPrio selectedPrio.toNat pairPrio.toNat
                then [IceTie.AgentSuccess.eSelect] else []) ++ IceTie.AgentSuccess.eClear
            else []) ++ [IceTie.AgentSuccess.eRTT])
        else []) :=
  IceTie.AgentSuccess.cldHandleSuccess_tie found symmetric hasPair nomOnSuccess hasSelected samePair hasValue value
    hasLast last needsPrio selectedPrio pairPrio

/-- the model's handler written with the same stand-alone decisions (no hypothesis, every state): take the transaction,
the symmetry test, find the pair, mark it Succeeded, `successDecide` (= `ctlSuccessDecision` / `cldSuccessDecision` on the
agent's fields), count the response -/
theorem C20_success_inline (a : Agent) (now : Nat) (m : Msg) (l r : Cand) (src : Nat) :
    a.handleSuccess now m l r src =
      match (a.takePending now m.tid).2 with
      | none => ((a.takePending now m.tid).1, [])
      | some pd =>
        if !(pd.net == l.net && pd.dest == src && pd.src == l.addr) then ((a.takePending now m.tid).1, [])
        else
          match (a.takePending now m.tid).1.findPair l r with
          | none => ((a.takePending now m.tid).1, [])
          | some p =>
            let d := successDecide ((a.takePending now m.tid).1.modPair p.id fun p =>
                { p with state := .succeeded, gResp := true, gRespUC := p.gRespUC || pd.useCand }) pd p
            (d.1.modPair p.id (Pair.gotResponse now pd.ts), d.2) :=
  handleSuccess_nf a now m l r src

/-- non-vacuity: a response to renomination 6 after 5 was answered is followed and recorded, to 5 after 6 ignored; a
deferred value 4 is dropped once 5 has been accepted, a deferred 5 wins against a higher-priority selection -/
example : IceGen.controllingSelector_HandleSuccessResponse true true true true true true 6 true 5
      = [Eff.call "takePending" [], Eff.set "pair.state" (Val.i 4), Eff.set "s.answeredNomination" (Val.n 6),
         Eff.call "setSelectedPair" [], Eff.call "updateRTT" []]
    ∧ IceGen.controllingSelector_HandleSuccessResponse true true true true true true 5 true 6
      = [Eff.call "takePending" [], Eff.set "pair.state" (Val.i 4), Eff.call "updateRTT" []]
    ∧ IceGen.controllingSelector_HandleSuccessResponse true false true true true true 6 true 5
      = [Eff.call "takePending" []] := by decide +kernel
example : IceGen.controlledSelector_HandleSuccessResponse true true true true true false true 4 true 5 true 9 1
      = [Eff.call "takePending" [], Eff.set "pair.state" (Val.i 4),
         Eff.set "pair.nominateOnBindingSuccess" (Val.b false), Eff.set "pair.deferredNominationValue" (Val.s "nil"),
         Eff.call "updateRTT" []]
    ∧ IceGen.controlledSelector_HandleSuccessResponse true true true true true false true 5 true 5 true 9 1
      = [Eff.call "takePending" [], Eff.set "pair.state" (Val.i 4), Eff.call "setSelectedPair" [],
         Eff.set "pair.nominateOnBindingSuccess" (Val.b false), Eff.set "pair.deferredNominationValue" (Val.s "nil"),
         Eff.call "updateRTT" []] := by decide +kernel
example : ctlSuccessDecision true (some 6) (some 5) true = (some 6, true) ∧ ctlSuccessDecision true (some 5) (some 5) true = (some 5, false)
    ∧ ctlSuccessDecision true none (some 5) false = (some 5, true) ∧ cldSuccessDecision (some 4) (some 5) true false true 9 1 = false
    ∧ cldSuccessDecision none (some 5) true false false 1 9 = false ∧ cldSuccessDecision none none true false true 1 9 = true := by decide +kernel

/-- `controlledSelector.HandleBindingRequest` (regenerated in effect mode), for ALL arguments: find or add the pair, count the
request; a nominated request goes through `shouldAcceptNomination` and a REJECTED one is only answered; otherwise a lite agent
marks the pair Succeeded; on a succeeded pair `shouldSwitchSelectedPair` decides; on any other pair the nomination is deferred —
unless it carries no value while a deferred value is waiting (fix dff2973); then the success response, a triggered check iff the
agent is full and the pair has not succeeded or nothing is selected, the application's handler.  The model's `cldNominate` /
`cldProceed` defer and ping by the same tests. -/
theorem C20_code_controlled_binding_request (hasPair useCand hasNomAttr nomParseErr accepted lite : Bool) (pairState : Int64)
    (switchOk hasDeferred hasSelected : Bool) :
    IceGen.controlledSelector_HandleBindingRequest hasPair useCand hasNomAttr nomParseErr accepted lite pairState switchOk
        hasDeferred hasSelected
      = ((if hasPair then [] else [IceTie.AgentSelector.c "addPair"]) ++ IceTie.AgentSelector.c "updateRequestReceived" ::
        (if IceTie.AgentSelector.nominated useCand hasNomAttr nomParseErr then
          IceTie.AgentSelector.c "shouldAcceptNomination" ::
          (if !accepted then [IceTie.AgentSelector.c "sendBindingSuccess"]
           else
             (if lite then [Eff.set "pair.state" (Val.i 4)] else []) ++
             (if lite || pairState == 4 then (if switchOk then [IceTie.AgentSelector.c "setSelectedPair"] else [])
              else if (hasNomAttr && !nomParseErr) || !hasDeferred then
                [Eff.set "pair.nominateOnBindingSuccess" (Val.b true),
                 Eff.set "pair.deferredNominationValue" (Val.s "nominationValue")]
              else []) ++
             IceTie.AgentSelector.c "sendBindingSuccess" ::
             ((if !lite && (pairState != 4 || !hasSelected) then [IceTie.AgentSelector.c "pingCandidate"] else [])
               ++ [IceTie.AgentSelector.c "customHandler"]))
         else
           IceTie.AgentSelector.c "sendBindingSuccess" ::
           ((if !lite && (pairState != 4 || !hasSelected) then [IceTie.AgentSelector.c "pingCandidate"] else [])
             ++ [IceTie.AgentSelector.c "customHandler"]))) ∧
    (∀ (a : Agent) (m : Msg) (id : Nat) (p : Pair), (m.useCand || m.nom.isSome) = true → a.cfg.lite = false →
      a.pairById id = some p → (p.state == PairState.succeeded) = false →
      cldNominate a m id =
        if m.nom.isSome || p.deferredNom.isNone then
          (a.modPair id fun p => { p with nomOnSuccess := true, deferredNom := m.nom }, [])
        else (a, [])) :=
  ⟨IceTie.AgentSelector.cldHandleBindingRequest_tie hasPair useCand hasNomAttr nomParseErr accepted lite pairState switchOk
     hasDeferred hasSelected,
   fun a m id p hn hl hp hs => IceTie.AgentSelector.cldNominate_not_succeeded a m id p hn hl hp hs⟩

/-- non-vacuity: a value-less nomination on a not-yet-valid pair that holds a deferred value changes nothing (fix dff2973); with a value
it replaces the deferred one; a rejected renomination is only answered -/
example : IceGen.controlledSelector_HandleBindingRequest true true false false true false 2 false true false
      = [Eff.call "updateRequestReceived" [], Eff.call "shouldAcceptNomination" [], Eff.call "sendBindingSuccess" [],
         Eff.call "pingCandidate" [], Eff.call "customHandler" []] ∧
    IceGen.controlledSelector_HandleBindingRequest true false true false true false 2 false true false
      = [Eff.call "updateRequestReceived" [], Eff.call "shouldAcceptNomination" [],
         Eff.set "pair.nominateOnBindingSuccess" (Val.b true), Eff.set "pair.deferredNominationValue" (Val.s "nominationValue"),
         Eff.call "sendBindingSuccess" [], Eff.call "pingCandidate" [], Eff.call "customHandler" []] ∧
    IceGen.controlledSelector_HandleBindingRequest true false true false false false 4 true false true
      = [Eff.call "updateRequestReceived" [], Eff.call "shouldAcceptNomination" [], Eff.call "sendBindingSuccess" []] := by decide +kernel

/-! ## Automatic renomination (`WithAutomaticRenomination`): the nominations the agent issues BY ITSELF

`controllingSelector.checkForAutomaticRenomination` (model: `Agent.autoCheck`, inside every tick while a pair is selected)
compares the selected pair with the best succeeded pair (`findBestCandidatePair`, `shouldRenominate`: relay → direct, a
round-trip time better by more than 10 ms, a quality score better by more than 15 % — the float64 arithmetic is
`IceModel.SoftFloat`) and nominates the better one with the next value of the generator given to `WithRenomination` (a
counter here).  The two-agent theorems above are stated over the log `hist.issued`, which accumulates
`IceProofs.C20S.issuesOf`: the entries a step appends to the ghost log `Agent.nomIssued` — by `RenominateCandidate` AND by
the automatic check.  So `C20_quiescent_agreement` covers exchanges whose nominations are issued automatically (example
below). -/
section Automatic
open IceProofs.C20S

/-- **C20_issues_vocabulary** — what the log of issued nominations records (any state, any event): the step appends
`issuesOf a e` to the ghost log; for `RenominateCandidate` that is exactly what `issueOf` describes (`C20_history_vocabulary`);
every datagram of the step that carries a nomination value is a USE-CANDIDATE request from the local to the remote address of
an entry of `issuesOf a e` with that (positive) value; and for every other event the entries are the automatic check's: their
values are consecutive draws from the counter of the value generator, which moves by their number. -/
theorem C20_issues_vocabulary (a : Agent) (e : Ev) :
    (step a e).1.nomIssued = a.nomIssued ++ issuesOf a e ∧
    (∀ now la ri v, issuesOf a (.renominate now la ri v) = (issueOf a (.renominate now la ri v)).toList) ∧
    (∀ f t m v, Out.dgram f t m ∈ (step a e).2 → m.nom = some v →
      m.cls = 0 ∧ m.useCand = true ∧ 0 < v ∧ (v, f, t) ∈ issuesOf a e) ∧
    ((∀ now la ri v, e ≠ .renominate now la ri v) →
      (issuesOf a e).map (·.1) = drawn a.nomCounter (issuesOf a e).length ∧
      (step a e).1.nomCounter = a.nomCounter + (issuesOf a e).length) ∧
    (∀ now la ri v, (step a (.renominate now la ri v)).1.nomCounter = a.nomCounter) :=
  ⟨step_log_eq a e, fun now la ri v => issuesOf_renominate a now la ri v,
   fun f t m v hm hn => step_out_nom a e f t m v hm hn,
   fun hne => ⟨(step_counter_log a e hne).vals, (step_counter_log a e hne).cnt⟩,
   fun now la ri v => step_renominate_counter a now la ri v⟩

/-- **C20_auto_only_controlling_enabled** — "only a controlling agent with the feature enabled can renominate", for the
nominations the agent issues by itself.
(1) The automatic check emits nothing, or exactly ONE datagram: a Binding request with USE-CANDIDATE and ICE-CONTROLLING
to the best succeeded pair, carrying the next value of the counter (the attribute is absent iff that value is 0) — and
then the agent is controlling, `WithRenomination` and `WithAutomaticRenomination` are both on, a pair `cur` is selected,
the interval has elapsed since the selector started and since the last automatic renomination, and
`shouldRenominate cur best` holds.
(2) Whatever the cause (`RenominateCandidate` or the automatic check, any state, any event): an agent that is in the
controlled role after the step, or was built without `WithRenomination`, has issued nothing in it, and no datagram it
emitted carries a nomination value. -/
theorem C20_auto_only_controlling_enabled (a : Agent) (now : Nat) :
    ((a.autoCheck now).2 = [] ∨
     ∃ cur best l r, a.controlling = true ∧ a.cfg.enableRenomination = true ∧ a.cfg.autoRenom = true ∧
      a.cfg.renomInterval ≤ now - a.selStart ∧ (∀ t, a.lastRenomTime = some t → a.cfg.renomInterval ≤ now - t) ∧
      a.selected.bind a.pairById = some cur ∧ a.findBest now = some best ∧ a.shouldRenominate now cur best = true ∧
      a.localOf best.l = some l ∧ a.remoteOf best.r = some r ∧ (a.findPair l r).isSome = true ∧
      (a.autoCheck now).2 =
        [.dgram l.addr r.addr { cls := 0, tid := 2 * a.nextTid + a.tag, user := some (a.remoteUfrag ++ ":" ++ a.localUfrag),
                                 key := some a.remotePwd, prio := some l.prio, useCand := true,
                                 role := some (true, a.tieBreaker),
                                 nom := if a.nextNomValue > 0 then some a.nextNomValue else none }]) ∧
    (∀ e, ((step a e).1.controlling = false ∨ a.cfg.enableRenomination = false) →
      issuesOf a e = [] ∧ ∀ f t m, Out.dgram f t m ∈ (step a e).2 → m.nom = none) := by
  refine ⟨autoCheck_out a now, fun e hq => ?_⟩
  have h0 : issuesOf a e = [] := by
    rcases hq with hc | he
    · exact issuesOf_controlled a e hc
    · exact issuesOf_disabled a e he
  refine ⟨h0, fun f t m hm => ?_⟩
  cases hn : m.nom with
  | none => rfl
  | some v =>
    have := (step_out_nom a e f t m v hm hn).2.2.2
    rw [h0] at this
    cases this

/-- **Tie T for the automatic path.**  `controllingSelector.checkForAutomaticRenomination` (selection.go) and
`Agent.shouldRenominate` (agent.go) are REGENERATED from the Go source on every run; for all arguments:
(1) the check's only effects are `lastRenominationTime = time.Now()` then `renominateCandidate(best.Local, best.Remote)`, iff
both options are on ∧ the interval passed since the selector started ∧ (never renominated automatically ∨ the interval passed
since) ∧ a pair is selected ∧ a best pair exists ∧ `shouldRenominate`;
(2) the model's `autoCheck` is built from the same tests in the same order;
(3) `shouldRenominate` is: not the same pair, candidate succeeded, and relay → host/host, or both round trips measured and
improved by MORE than 10 ms, or the score test (the float64 sub-expressions are parameters);
(4) the model's `shouldRenominate` is the same Boolean function of `IceModel.SoftFloat` values. -/
theorem C20_code_automatic_check :
    (∀ (autoRenom enableRenom : Bool) (sinceStart interval : Int64) (lastZero : Bool) (sinceLast : Int64)
       (hasCurrent hasBest should : Bool),
      IceGen.controllingSelector_checkForAutomaticRenomination autoRenom enableRenom sinceStart interval lastZero sinceLast
          hasCurrent hasBest should
        = if autoRenom && enableRenom && !decide (sinceStart < interval) && (lastZero || !decide (sinceLast < interval))
              && hasCurrent && hasBest && should
          then [Eff.set "s.agent.lastRenominationTime" (Val.s "now"), Eff.call "renominateCandidate(best)" []] else []) ∧
    (∀ (a : Agent) (now : Nat),
      a.autoCheck now =
        if a.cfg.autoRenom && a.cfg.enableRenomination && !decide (now - a.selStart < a.cfg.renomInterval) &&
            (match a.lastRenomTime with | none => true | some t => !decide (now - t < a.cfg.renomInterval)) then
          match a.selected.bind a.pairById with
          | none => (a, [])
          | some cur =>
            match a.findBest now with
            | none => (a, [])
            | some best =>
              if a.shouldRenominate now cur best then
                match a.localOf best.l, a.remoteOf best.r with
                | some l, some r => ({ a with lastRenomTime := some now }).autoIssue now l r
                | _, _ => ({ a with lastRenomTime := some now }, [])
              else (a, [])
        else (a, [])) ∧
    (∀ (curNil candNil samePair : Bool) (candState : Int64) (curLocalTy curRemoteTy candLocalTy candRemoteTy : UInt8)
       (curRTTPos candRTTPos : Bool) (curRTT candRTT : Int64) (scoreBetter : Bool),
      IceGen.Agent_shouldRenominate curNil candNil samePair candState curLocalTy curRemoteTy candLocalTy candRemoteTy
          curRTTPos candRTTPos curRTT candRTT scoreBetter
        = (!(curNil || candNil || samePair || candState != 4) &&
            (((curLocalTy == 4 || curRemoteTy == 4) && (candLocalTy == 1 && candRemoteTy == 1)) ||
             (curRTTPos && candRTTPos && decide (curRTT - candRTT > 10000000)) || scoreBetter))) ∧
    (∀ (a : Agent) (now : Nat) (cur cand : Pair),
      a.shouldRenominate now cur cand =
        (!(a.pairEqual cur cand || cand.state != .succeeded) &&
          (((a.localTy cur == 4 || a.remoteTy cur == 4) && (a.localTy cand == 1 && a.remoteTy cand == 1)) ||
           ((IceModel.SoftFloat.seconds cur.rtt).gt IceModel.SoftFloat.F.zero &&
              (IceModel.SoftFloat.seconds cand.rtt).gt IceModel.SoftFloat.F.zero &&
              decide (IceModel.SoftFloat.durationOfSeconds (IceModel.SoftFloat.seconds cur.rtt)
                - IceModel.SoftFloat.durationOfSeconds (IceModel.SoftFloat.seconds cand.rtt) > 10000000)) ||
           (a.quality now cand).gt ((a.quality now cur).mul IceModel.SoftFloat.c115)))) :=
  ⟨IceTie.AgentSelector.ctlAutoCheck_tie, IceTie.AgentSelector.autoCheck_decisions,
   IceTie.AgentSelector.shouldRenominate_tie, IceTie.AgentSelector.shouldRenominate_decisions⟩

/-- non-vacuity of the tie: the check fires exactly at the interval (300 ms since the start, never renominated), not one
nanosecond earlier, not within the interval after the last one, not with one option off; the round-trip rule needs MORE
than 10 ms -/
example :
    IceGen.controllingSelector_checkForAutomaticRenomination true true 300000000 300000000 true 0 true true true
      = [Eff.set "s.agent.lastRenominationTime" (Val.s "now"), Eff.call "renominateCandidate(best)" []] ∧
    IceGen.controllingSelector_checkForAutomaticRenomination true true 299999999 300000000 true 0 true true true = [] ∧
    IceGen.controllingSelector_checkForAutomaticRenomination true true 900000000 300000000 false 299999999 true true true = [] ∧
    IceGen.controllingSelector_checkForAutomaticRenomination true false 900000000 300000000 true 0 true true true = [] ∧
    IceGen.controllingSelector_checkForAutomaticRenomination false true 900000000 300000000 true 0 true true true = [] ∧
    IceGen.Agent_shouldRenominate false false false 4 1 1 1 1 true true 100000000 90000000 false = false ∧
    IceGen.Agent_shouldRenominate false false false 4 1 1 1 1 true true 100000001 90000000 false = true ∧
    IceGen.Agent_shouldRenominate false false false 4 4 1 1 1 false false 0 0 false = true ∧
    IceGen.Agent_shouldRenominate false false true 4 4 1 1 1 true true 100000001 90000000 true = false := by
  decide +kernel

/-- the values of the nominations the automatic check issues while `e` is executed (`RenominateCandidate`: none — its value is
the caller's) -/
def autoValues (a : Agent) : Ev → List Nat
  | .renominate _ _ _ _ => []
  | e => (issuesOf a e).map (·.1)

/-- … along a run, in order -/
def autoValuesRun (a : Agent) : List Ev → List Nat
  | [] => []
  | e :: es => autoValues a e ++ autoValuesRun (step a e).1 es

/-- **C20_auto_values_increase** — the values one agent issues by itself strictly increase, given the counter generator:
along EVERY run (any events — also Restart and role changes: the generator belongs to the agent, not to the selector),
from ANY state, the values of the automatic nominations are, in order, `nomCounter + 1, nomCounter + 2, …` (mod 2^32, the
generator is a `uint32` counter); so as long as the counter does not wrap around they are strictly increasing — in
particular within one generation.  (`RenominateCandidate` does not draw from the counter.) -/
theorem C20_auto_values_increase (a : Agent) (evs : List Ev) :
    autoValuesRun a evs = drawn a.nomCounter (autoValuesRun a evs).length ∧
    (List.foldl (fun x e => (step x e).1) a evs).nomCounter = a.nomCounter + (autoValuesRun a evs).length ∧
    (a.nomCounter + (autoValuesRun a evs).length < 4294967296 → (autoValuesRun a evs).Pairwise (· < ·)) := by
  have key : ∀ (evs : List Ev) (a : Agent), autoValuesRun a evs = drawn a.nomCounter (autoValuesRun a evs).length ∧
      (List.foldl (fun x e => (step x e).1) a evs).nomCounter = a.nomCounter + (autoValuesRun a evs).length := by
    intro evs
    induction evs with
    | nil => intro a; exact ⟨rfl, rfl⟩
    | cons e es ih =>
      intro a
      obtain ⟨ih1, ih2⟩ := ih (step a e).1
      have hstep : autoValues a e = drawn a.nomCounter (autoValues a e).length ∧
          (step a e).1.nomCounter = a.nomCounter + (autoValues a e).length := by
        by_cases hr : ∃ now la ri v, e = .renominate now la ri v
        · obtain ⟨now, la, ri, v, rfl⟩ := hr
          exact ⟨rfl, step_renominate_counter a now la ri v⟩
        · have hne : ∀ now la ri v, e ≠ .renominate now la ri v := fun now la ri v h => hr ⟨now, la, ri, v, h⟩
          have hcl := step_counter_log a e hne
          have hav : autoValues a e = (issuesOf a e).map (·.1) := by
            cases e <;> first | rfl | exact absurd rfl (hne _ _ _ _)
          rw [hav, List.length_map]
          exact ⟨hcl.vals, hcl.cnt⟩
      simp only [autoValuesRun, List.foldl_cons, List.length_append]
      refine ⟨?_, ?_⟩
      · rw [drawn_append, ← hstep.1]
        congr 1
        rw [ih1, hstep.2]
        simp [drawn_length]
      · rw [ih2, hstep.2]; omega
  refine ⟨(key evs a).1, (key evs a).2, fun h => ?_⟩
  rw [(key evs a).1]
  exact drawn_increasing _ _ h

namespace AutoExample
/-- a controlling agent with both options (interval 300 ms), one local candidate (16) and two remote ones (176: high
priority, 192: lower).  Its first checks (transaction ids 2 and 4) are answered after 100 ms (176) resp. 10 ms (192); at
200 ms it nominates the pair of the better priority (16–176, id 6), whose answer takes another 100 ms; the tick at 400 ms
sees the selected pair 16–176 with a round trip of 100 ms and the pair 16–192 with 10 ms -/
def a0 : Agent :=
  { cfg := { enableRenomination := true, autoRenom := true, renomInterval := 300000000 }, localUfrag := "uA",
    localPwd := "pA", tieBreaker := 3 }
def evs : List Ev :=
  [.addLocal 0 exLocal, .addRemote 0 exHi, .addRemote 0 { exLo with prio := 2130706175 }, .start 0 true "uB" "pB",
   .inbound 10000000 16 192 { cls := 2, tid := 4, key := some "pB" },
   .inbound 100000000 16 176 { cls := 2, tid := 2, key := some "pB" },
   .advance 200000000,
   .inbound 300000000 16 176 { cls := 2, tid := 6, key := some "pB" },
   .advance 400000000]
/-- the USE-CANDIDATE requests of an output list: source, destination, role attribute, nomination value -/
def useCands (os : List Out) : List (Nat × Nat × Option (Bool × Nat) × Option Nat) :=
  os.filterMap fun
    | .dgram f t m => if m.useCand && m.cls == 0 then some (f, t, m.role, m.nom) else none
    | _ => none
/-- the same agent without `WithRenomination` -/
def a0Off : Agent := { a0 with cfg := { a0.cfg with enableRenomination := false } }
end AutoExample

set_option maxRecDepth 100000 in
/-- the tick at 400 ms issues ONE nomination by itself: value 1 (the first draw of the counter) on the pair 16–192 — because
its round trip is better by 90 ms (> 10 ms); the request carries USE-CANDIDATE, ICE-CONTROLLING and the value -/
example :
    (run AutoExample.a0 (AutoExample.evs.take 8)).selected = some 1 ∧
    ((run AutoExample.a0 (AutoExample.evs.take 8)).checklist.map fun p => (p.id, p.rtt, p.lastResp)) =
      [(1, 100000000, some 300000000), (2, 10000000, some 10000000)] ∧
    issuesOf (run AutoExample.a0 (AutoExample.evs.take 8)) (.advance 400000000) = [(1, 16, 192)] ∧
    autoValuesRun AutoExample.a0 AutoExample.evs = [1] ∧
    (run AutoExample.a0 AutoExample.evs).nomCounter = 1 ∧
    (run AutoExample.a0 AutoExample.evs).lastRenomTime = some 400000000 ∧
    AutoExample.useCands (step (run AutoExample.a0 (AutoExample.evs.take 8)) (.advance 400000000)).2 =
      [(16, 192, some (true, 3), some 1)] ∧
    -- without `WithRenomination` the same run issues nothing
    autoValuesRun AutoExample.a0Off AutoExample.evs = [] := by
  refine ⟨?_, ?_, ?_, ?_⟩ <;> decide +kernel

set_option maxRecDepth 100000 in
/-- the decision itself, around its thresholds (the float64 arithmetic of `shouldRenominate`, by the kernel): an improvement
of exactly 10 ms does not renominate, 11 ms does; beyond one second the round trip `Duration → seconds → Duration` loses a
nanosecond for 1049 ms but not for 1059 ms, so an improvement of "exactly 10 ms" there IS more than 10 ms (1011 and 1001 ms
both lose one: no) -/
example :
    let a := run AutoExample.a0 (AutoExample.evs.take 8)
    let cur (rtt : Nat) : Pair := { (a.checklist[0]!) with rtt := rtt }
    let cand (rtt : Nat) : Pair := { (a.checklist[1]!) with rtt := rtt }
    a.shouldRenominate 400000000 (cur 100000000) (cand 90000000) = false ∧
    a.shouldRenominate 400000000 (cur 100000000) (cand 89000000) = true ∧
    IceModel.SoftFloat.durationOfSeconds (IceModel.SoftFloat.seconds 1049000000) = 1048999999 ∧
    IceModel.SoftFloat.durationOfSeconds (IceModel.SoftFloat.seconds 1059000000) = 1059000000 ∧
    a.shouldRenominate 400000000 (cur 1059000000) (cand 1049000000) = true ∧
    a.shouldRenominate 400000000 (cur 1011000000) (cand 1001000000) = false := by
  decide +kernel

end Automatic

namespace Sys2Example
open IceModel.Sys2 (Sys)
open IceProofs.Sys2Run
/-- as `s0`, but A renominates by itself (interval 300 ms) -/
def s0Auto : Sys :=
  { s0 with a := { s0.a with cfg := { enableRenomination := true, autoRenom := true, renomInterval := 300000000 } } }
/-- checks: the answer of 16–192 takes 10 ms, the one of 16–176 takes 100 ms; at 200 ms A nominates 16–176 (better
priority), everything is delivered at once: both agents on 16–176, nothing in flight -/
def preAuto : List SysEv :=
  setup ++ dl [0, 0, 0, 0] ++ [.advance 10000000] ++ dl [2, 1, 1, 1, 1] ++ [.advance 100000000] ++ dl [0] ++ dl [0, 0] ++
    [.advance 200000000] ++ dl [0, 0]
/-- the tick at 400 ms: keepalive, checks of both pairs, and the automatic nomination of 16–192 with value 1; everything is
delivered -/
def exAuto : List SysEv := [.advance 400000000] ++ drain 10
end Sys2Example

theorem C20_example_fresh_auto : IceProofs.C20S.Fresh Sys2Example.s0Auto :=
  ⟨⟨rfl, rfl, rfl, rfl, rfl, rfl, rfl, rfl, rfl, rfl, rfl, rfl, rfl, rfl, rfl⟩,
   ⟨rfl, rfl, rfl, rfl, rfl, rfl⟩, ⟨rfl, rfl, rfl, rfl, rfl, rfl⟩⟩

section TwoAgentAutoExample
open IceModel.Sys2 (Sys Dgram)
open IceProofs.Sys2Run IceProofs.C20S Sys2Example

set_option maxRecDepth 100000 in
/-- **Non-vacuity of the agreement theorem for AUTOMATIC nominations.**  Nobody calls `RenominateCandidate`; A's tick
nominates 16–192 by itself with value 1.  Every hypothesis of `C20_quiescent_agreement` holds — the nomination is in the
log `issued`, it is the highest one, its exchange completed, the state is quiesced — and A ends on 16–192, B on 192–16. -/
example : Established (Sys.runs s0Auto preAuto) ∧ Exchange (Sys.runs s0Auto preAuto) exAuto
    ∧ hist (Sys.runs s0Auto preAuto) exAuto
        = { issued := [(1, 16, 192)], answered := [(1, 16, 192)], accepted := some (1, 192, 16) }
    ∧ PositiveValues (hist (Sys.runs s0Auto preAuto) exAuto).issued
    ∧ IsMax (hist (Sys.runs s0Auto preAuto) exAuto).issued (1, 16, 192)
    ∧ Quiesced (Sys.runs (Sys.runs s0Auto preAuto) exAuto)
    ∧ selAddrs (Sys.runs s0Auto preAuto).a = some (16, 176) ∧ selAddrs (Sys.runs s0Auto preAuto).b = some (176, 16)
    ∧ selAddrs (Sys.runs (Sys.runs s0Auto preAuto) exAuto).a = some (16, 192)
    ∧ selAddrs (Sys.runs (Sys.runs s0Auto preAuto) exAuto).b = some (192, 16) := by
  decide +kernel

/-- … and the theorem applied to it -/
example : selAddrs (Sys.runs (Sys.runs s0Auto preAuto) exAuto).a = some (16, 192) ∧
    selAddrs (Sys.runs (Sys.runs s0Auto preAuto) exAuto).b = some (mirror s0Auto.nat 16 192) := by
  -- the six closed hypotheses as one conjunction: the kernel evaluates the run once
  refine (fun w => C20_quiescent_agreement s0Auto preAuto exAuto _ _ rfl rfl C20_example_fresh_auto
    w.1 w.2.1 w.2.2.1 (1, 16, 192) w.2.2.2.1 w.2.2.2.2.1 w.2.2.2.2.2 : _ ∧ _ ∧ _ ∧ _ ∧ _ ∧ _ → _) ?_
  decide +kernel

end TwoAgentAutoExample

/-- `WithRenomination` refuses a nil generator and otherwise enables renomination; `WithAutomaticRenomination` switches the automatic
renomination on, writes the interval only when it is positive, and does NOT enable renomination (the model's `autoRenom` block needs
both switches); `WithNominationAttribute` refuses the reserved type 0 -/
theorem C20_code_renomination_options :
    (∀ constructed genNil, IceGen.opt_WithRenomination constructed genNil
      = IceTie.Options.guard constructed (if genNil then ([], "ErrInvalidNominationValueGenerator")
          else ([IceTie.Options.setB "a.enableRenomination" true, IceModel.Eff.set "a.nominationValueGenerator" (IceModel.Val.s "generator")], "nil"))) ∧
    (∀ constructed (interval : Int64), IceGen.opt_WithAutomaticRenomination constructed interval
      = IceTie.Options.guard constructed (IceTie.Options.setB "a.automaticRenomination" true ::
          (if interval > 0 then [IceTie.Options.setI "a.renominationInterval" interval] else []), "nil")) ∧
    (∀ constructed (attrType : UInt16), IceGen.opt_WithNominationAttribute constructed attrType
      = IceTie.Options.guard constructed (if attrType == 0 then ([], "ErrInvalidNominationAttribute")
          else ([IceTie.Options.setN "a.nominationAttribute" attrType], "nil"))) ∧
    (∀ (cfg : IceModel.AgentCore.Config) (interval : Int64),
      (IceTie.Options.applyEffs cfg (IceGen.opt_WithAutomaticRenomination false interval).1).enableRenomination = cfg.enableRenomination ∧
      (IceTie.Options.applyEffs cfg (IceGen.opt_WithAutomaticRenomination false interval).1).autoRenom = true) :=
  ⟨IceTie.Options.WithRenomination_tie, IceTie.Options.WithAutomaticRenomination_tie, IceTie.Options.WithNominationAttribute_tie, IceTie.Options.auto_does_not_enable⟩

example : IceGen.opt_WithRenomination false true = ([], "ErrInvalidNominationValueGenerator") ∧
    (IceTie.Options.applyEffs {} (IceGen.opt_WithAutomaticRenomination false 1000000000).1).renomInterval = 1000000000 ∧
    (IceTie.Options.applyEffs {} (IceGen.opt_WithAutomaticRenomination false 0).1).renomInterval = 3000000000 ∧
    IceGen.opt_WithNominationAttribute false 0 = ([], "ErrInvalidNominationAttribute") := by decide +kernel

end IceProps.C20

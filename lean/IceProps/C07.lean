import IceProofs.AgentC07Sys
import IceTie.Order
/-!
# C07 — application data travels only over validated pairs and only from known peers

All statements are about the executable model `IceModel.AgentCore.step` / `IceModel.Sys2`, tied to the Go code by the
differential correspondence of component `agent`.  Payloads are their length plus the `stunLike` flag (`stun.IsMessage`);
the model never touches contents, so "unmodified" holds by construction.  `inboundAccepted` (and its overflow twin
`inboundOverflow`: known source, payload does not fit) is the read filter written independently of `step`.  `.read cap` =
`Conn.Read` into a caller buffer of `cap` bytes (`packetio.Buffer.Read`: the head datagram is consumed whole, `min n cap`
bytes are returned, with `io.ErrShortBuffer` — answer `short:cap` — when `cap < n`).
-/
namespace IceProps.C07
open IceModel.AgentCore IceModel.Sys2 IceProofs.AgentC07

def L : Cand := { uid := 0, ty := 1, net := 0, addr := 16, prio := 100 }
def R : Cand := { uid := 0, ty := 1, net := 0, addr := 32, prio := 100 }
def a0 : Agent := {}
/-- gather, signal, start (controlling), first check answered: pair 1 is `succeeded`, nothing selected -/
def validated : List Ev := [.addLocal 0 L, .addRemote 0 R, .start 0 true "ru" "rp",
  .inbound 1 16 32 { cls := 2, tid := 2, key := some "rp" }]
/-- … then the nomination tick and its answer: pair 1 is selected -/
def selected : List Ev := validated ++ [.advance 200000000,
  .inbound 200000001 16 32 { cls := 2, tid := 4, key := some "rp" }]
/-- traffic while pair 1 stays selected: writes (one empty, one STUN-like), inbound from the known peer,
from an unknown source, a STUN-like one, `WriteToPair`, reads -/
def traffic : List Ev := [.write 5 100 false, .inboundData 6 16 32 50 false, .write 7 0 false,
  .writeToPair 8 1 7 false, .inboundData 9 16 48 60 false, .write 10 30 true, .inboundData 11 16 32 70 true,
  .inboundData 12 16 32 20 false, .read 8192]
/-- reads with caller buffers shorter than, equal to and longer than the queued datagram, and of size 0 -/
def shortReads : List Ev := [.inboundData 6 16 32 50 false, .inboundData 7 16 32 10 false,
  .inboundData 8 16 32 10 false, .inboundData 9 16 32 0 false, .read 49, .read 10, .read 0, .read 0, .read 5]

/-- `bestValid` is the first pair of highest `pairPrio` among the `succeeded` pairs of the checklist
(strictly better than every succeeded pair before it, at least as good as every one after it), and is
`none` exactly when no listed pair is `succeeded`. -/
theorem C07_bestValid (a : Agent) :
    (∀ b, a.bestValid = some b ↔ IsBest a.pairPrio (fun p => p.state == .succeeded) a.checklist b) ∧
    (a.bestValid = none ↔ ∀ p ∈ a.checklist, (p.state == .succeeded) = false) :=
  ⟨fun b => bestBy_eq_some_iff a _ b, bestBy_eq_none_iff a _⟩

example : ((run a0 validated).bestValid.map (·.id)) = some 1 := by decide +kernel

/-- `Conn.Write` in EVERY agent state: closed ⇒ `err:closed`; STUN-like ⇒ `err:stun`; both leave the state
unchanged and emit nothing.  Otherwise the pair is the selected pair when it is listed, else `bestValid`;
no such pair ⇒ `err:nopairs`, nothing emitted, state unchanged; a pair whose two candidates resolve ⇒
exactly one datagram, from the pair's local address to the pair's remote address with the same length,
the answer `ok:len`, and the state `wrote …` with `connBytesSent + len`; a pair with a dangling candidate
(unreachable, see `C07_write_outcome`) ⇒ `err:nopairs`, nothing emitted. -/
theorem C07_write_route (a : Agent) (now len : Nat) (stunLike : Bool) :
    (a.closed = true → step a (.write now len stunLike) = (a, [.res "err:closed"])) ∧
    (a.closed = false → stunLike = true → step a (.write now len stunLike) = (a, [.res "err:stun"])) ∧
    (a.closed = false → stunLike = false →
      (∀ id p, a.selected = some id → a.pairById id = some p → route a = some p) ∧
      (a.selected.bind a.pairById = none → route a = a.bestValid) ∧
      (route a = none → step a (.write now len stunLike) = (a, [.res "err:nopairs"])) ∧
      (∀ p, route a = some p →
        (∀ l rm, a.localOf p.l = some l → a.remoteOf p.r = some rm →
          (step a (.write now len stunLike)).2 = [.data l.addr rm.addr len, .res s!"ok:{len}"] ∧
          (step a (.write now len stunLike)).1 =
            { wrote a now p.id l.uid len with connBytesSent := a.connBytesSent + len }) ∧
        ((a.localOf p.l = none ∨ a.remoteOf p.r = none) →
          (step a (.write now len stunLike)).2 = [.res "err:nopairs"]))) := by
  refine ⟨fun h => write_closed a now len stunLike h, fun h hs => by subst hs; exact write_stun a now len h,
    fun h hs => ?_⟩
  subst hs
  refine ⟨fun id p => route_selected a id p, route_unselected a, write_noroute a now len h, fun p hr => ⟨?_, ?_⟩⟩
  · intro l rm hl hrm
    rw [write_routed a now len p h hr, writeVia_ok a now p len l rm hl hrm]
    refine ⟨rfl, ?_⟩
    unfold wrote
    split <;> rfl
  · intro hu
    rw [write_routed a now len p h hr, writeVia_err a now p len hu]

-- before selection the best validated pair carries the write …
example : dataOf (step (run a0 validated) (.write 2 100 false)).2 = [(16, 32, 100)] := by decide +kernel
-- … with no validated pair the write fails …
example : resOf (step (run a0 (validated.take 3)) (.write 2 100 false)).2 = ["err:nopairs"] := by decide +kernel
-- … after selection the selected pair carries it
example : (run a0 selected).selected = some 1 ∧
    dataOf (step (run a0 selected) (.write 5 100 false)).2 = [(16, 32, 100)] := by decide +kernel

/-- `Conn.WriteToPair` in every agent state: closed / STUN-like / unknown id / pair not `succeeded` ⇒ the
corresponding error, state unchanged, nothing emitted; otherwise exactly one datagram on that pair. -/
theorem C07_writeToPair_route (a : Agent) (now id len : Nat) (stunLike : Bool) :
    (a.closed = true → step a (.writeToPair now id len stunLike) = (a, [.res "err:closed"])) ∧
    (a.closed = false → stunLike = true → step a (.writeToPair now id len stunLike) = (a, [.res "err:stun"])) ∧
    (a.closed = false → stunLike = false →
      (a.pairById id = none → step a (.writeToPair now id len stunLike) = (a, [.res "err:notfound"])) ∧
      (∀ p, a.pairById id = some p →
        (p.state ≠ .succeeded → step a (.writeToPair now id len stunLike) = (a, [.res "err:notsucceeded"])) ∧
        (p.state = .succeeded →
          (∀ l rm, a.localOf p.l = some l → a.remoteOf p.r = some rm →
            step a (.writeToPair now id len stunLike) =
              (wrote a now p.id l.uid len, [.data l.addr rm.addr len, .res s!"ok:{len}"])) ∧
          ((a.localOf p.l = none ∨ a.remoteOf p.r = none) →
            step a (.writeToPair now id len stunLike) = (a, [.res "err:nopairs"]))))) := by
  refine ⟨fun h => writeToPair_closed a now id len stunLike h,
    fun h hs => by subst hs; exact writeToPair_stun a now id len h, fun h hs => ?_⟩
  subst hs
  refine ⟨writeToPair_notfound a now id len h, fun p hp =>
    ⟨writeToPair_notsucceeded a now id len p h hp, fun hs => ⟨?_, ?_⟩⟩⟩
  · intro l rm hl hrm
    rw [writeToPair_routed a now id len p h hp hs, writeVia_ok a now p len l rm hl hrm]
  · intro hu
    rw [writeToPair_routed a now id len p h hp hs, writeVia_err a now p len hu]

example : dataOf (step (run a0 validated) (.writeToPair 2 1 9 false)).2 = [(16, 32, 9)] ∧
    resOf (step (run a0 validated) (.writeToPair 2 5 9 false)).2 = ["err:notfound"] ∧
    resOf (step (run a0 (validated.take 3)) (.writeToPair 2 1 9 false)).2 = ["err:notsucceeded"] := by decide +kernel

/-- Along every history from an initial state both write operations have exactly two outcomes: refused
(state unchanged, one `err:…` answer, NO datagram, not answered `ok`), or accepted (exactly one datagram
`data l.addr rm.addr len` on a listed pair whose candidates are both current, answered `ok:len`).  A
STUN-like payload is always refused: one datagram per accepted write, never a STUN-like one. -/
theorem C07_write_outcome (init : Agent) (hist : List Ev) (hi : Initial init) (now len : Nat) (stunLike : Bool) :
    let a := run init hist
    (Refused a len (step a (.write now len stunLike)) ∨
      ∃ p l rm, stunLike = false ∧ route a = some p ∧ Sent a len p l rm (step a (.write now len stunLike)) ∧
        (step a (.write now len stunLike)).1 =
          { wrote a now p.id l.uid len with connBytesSent := a.connBytesSent + len }) ∧
    ∀ id, (Refused a len (step a (.writeToPair now id len stunLike)) ∨
      ∃ p l rm, stunLike = false ∧ a.pairById id = some p ∧ p.state = .succeeded ∧
        Sent a len p l rm (step a (.writeToPair now id len stunLike)) ∧
        (step a (.writeToPair now id len stunLike)).1 = wrote a now p.id l.uid len) := by
  intro a
  have h : Inv a := Inv_run init hist (Inv_init init hi)
  exact ⟨write_outcome a now len stunLike h, fun id => writeToPair_outcome a now id len stunLike h⟩

example : Initial a0 := by decide +kernel
example : dataOf (step (run a0 selected) (.write 10 30 true)).2 = [] := by decide +kernel

/-- Inbound payload in EVERY agent state: nothing is emitted; the payload is queued for the reader (`rx`
grows by exactly `[len]`) iff the independent filter `inboundAccepted` says `some len` — source known AND the
payload fits into the 1 MB receive buffer (`rxFits`: queued bytes + 2 per datagram + 2 + `len` ≤ 1 000 000).
A payload from a known source that does NOT fit (`inboundOverflow`) is dropped: the reader queue, both connection
counters, the whole checklist (hence every pair counter) and the selection are unchanged — only the source check has
acted (liveness timestamp of the remote candidate, cache entry).  Otherwise the whole state is unchanged.  In
particular a STUN-like payload never reaches `rx`. -/
theorem C07_read_filter (a : Agent) (now la src len : Nat) (stunLike : Bool) :
    (step a (.inboundData now la src len stunLike)).2 = [] ∧
    (inboundAccepted a (.inboundData now la src len stunLike) = some len ∨
      inboundAccepted a (.inboundData now la src len stunLike) = none) ∧
    (inboundAccepted a (.inboundData now la src len stunLike) = some len →
      (step a (.inboundData now la src len stunLike)).1.rx = a.rx ++ [len]) ∧
    (inboundAccepted a (.inboundData now la src len stunLike) = none →
      inboundOverflow a (.inboundData now la src len stunLike) = false →
      (step a (.inboundData now la src len stunLike)).1 = a) ∧
    (inboundOverflow a (.inboundData now la src len stunLike) = true →
      inboundAccepted a (.inboundData now la src len stunLike) = none ∧
      (step a (.inboundData now la src len stunLike)).1.rx = a.rx ∧
      (step a (.inboundData now la src len stunLike)).1.checklist = a.checklist ∧
      (step a (.inboundData now la src len stunLike)).1.selected = a.selected ∧
      (step a (.inboundData now la src len stunLike)).1.connBytesRecv = a.connBytesRecv ∧
      (step a (.inboundData now la src len stunLike)).1.connBytesSent = a.connBytesSent) ∧
    (stunLike = true → inboundAccepted a (.inboundData now la src len stunLike) = none) := by
  have live : ¬ (a.closed = true ∨ a.started = false ∨ stunLike = true ∨ a.localByAddr la = none) →
      a.closed = false ∧ a.started = true ∧ stunLike = false ∧ ∃ l, a.localByAddr la = some l := by
    intro hd
    refine ⟨?_, ?_, ?_, ?_⟩
    · cases h' : a.closed with
      | false => rfl
      | true => exact absurd (Or.inl h') hd
    · cases h' : a.started with
      | true => rfl
      | false => exact absurd (Or.inr (Or.inl h')) hd
    · cases h' : stunLike with
      | false => rfl
      | true => exact absurd (Or.inr (Or.inr (Or.inl h'))) hd
    · cases hl : a.localByAddr la with
      | none => exact absurd (Or.inr (Or.inr (Or.inr hl))) hd
      | some l => exact ⟨l, rfl⟩
  refine ⟨inboundData_outs a now la src len stunLike, ?_, ?_, ?_, ?_, ?_⟩
  · dsimp only [inboundAccepted]
    repeat' split
    all_goals simp
  · intro h
    have s := (StepSum_inboundData a now la src len stunLike).rx
    rw [s]; unfold rxAfter; rw [h]
  · intro h ho
    by_cases hd : a.closed = true ∨ a.started = false ∨ stunLike = true ∨ a.localByAddr la = none
    · rw [step_inboundData_drop a now la src len stunLike hd]
    · obtain ⟨hc, hs, hst, l, hl⟩ := live hd
      subst hst
      rw [inboundAccepted_live a now la src len l hc hs hl] at h
      have hacc : accepts a l src = false := by
        cases h' : accepts a l src with
        | false => rfl
        | true =>
          cases hf : rxFits a.rx len with
          | true => rw [h', hf] at h; cases h
          | false =>
            simp [inboundOverflow, hc, hs, hl, h', hf] at ho
      rw [step_inboundData a now la src len l hc hs hl, inboundData_reject a now l src len hacc]
  · intro ho
    by_cases hd : a.closed = true ∨ a.started = false ∨ stunLike = true ∨ a.localByAddr la = none
    · exfalso
      rcases hd with h | h | h | h <;> simp [inboundOverflow, h] at ho
    · obtain ⟨hc, hs, hst, l, hl⟩ := live hd
      subst hst
      have hacc : accepts a l src = true ∧ rxFits a.rx len = false := by
        simpa [inboundOverflow, hc, hs, hl] using ho
      have d := (inboundData_full a now l src len hacc.1 hacc.2).2
      rw [step_inboundData a now la src len l hc hs hl]
      refine ⟨?_, d.rx, d.checklist, d.sel, d.recv, d.sent⟩
      rw [inboundAccepted_live a now la src len l hc hs hl, hacc.1, hacc.2]; rfl
  · intro hs
    subst hs
    exact inboundAccepted_drop a now la src len true (Or.inr (Or.inr (Or.inl rfl)))

/-- a stalled reader: 123 payloads of 8190 bytes from the known peer while pair 1 is selected — 122 fit
(122 · 8192 = 999 424 bytes with the 2-byte headers), the 123rd would need 1 007 616 > 1 000 000 and is dropped -/
def floodEvs : List Ev := List.replicate 123 (.inboundData 6 16 32 8190 false)

-- overflow (non-vacuity of the drop clauses): the queue, the connection counter and the selected pair's counters stop
-- at the 122 accepted payloads; a payload that still fits (574 bytes fill the buffer exactly) is accepted after it
set_option maxRecDepth 20000 in
example :
    inboundOverflow (run a0 (selected ++ floodEvs.take 122)) (.inboundData 6 16 32 8190 false) = true ∧
    inboundAccepted (run a0 (selected ++ floodEvs.take 122)) (.inboundData 6 16 32 8190 false) = none ∧
    (run a0 (selected ++ floodEvs)).rx = List.replicate 122 8190 ∧
    ((run a0 (selected ++ floodEvs)).pairById 1).map ctr = some (0, 0, 122, 999180) ∧
    inboundAccepted (run a0 (selected ++ floodEvs)) (.inboundData 7 16 32 574 false) = some 574 ∧
    inboundOverflow (run a0 (selected ++ floodEvs)) (.inboundData 7 16 32 575 false) = true ∧
    (run a0 (selected ++ floodEvs ++ [.read 8192, .inboundData 8 16 32 8190 false])).rx.length = 122 := by decide +kernel

-- accepted from the known peer, discarded from an unknown source / when STUN-like / on another transport
example : (step (run a0 selected) (.inboundData 6 16 32 50 false)).1.rx = [50] ∧
    (step (run a0 selected) (.inboundData 6 16 48 50 false)).1.rx = [] ∧
    (step (run a0 selected) (.inboundData 6 16 32 50 true)).1.rx = [] := by decide +kernel
example : (step (run a0 (selected ++ [.addLocal 3 { L with net := 1, addr := 17 }]))
    (.inboundData 6 17 32 50 false)).1.rx = [] := by decide +kernel

/-- The cache invariant holds along every history: every cache entry `(l, s, r)` names a current local
candidate `l` and a CURRENT remote candidate `r` with `r.addr = s` and `r.net = l.net` (prflx supersession
re-points entries, Restart / Failed / Close clear them; uids are distinct). -/
theorem C07_cache_invariant (init : Agent) (hist : List Ev) (hi : Initial init) :
    ∀ e ∈ (run init hist).caches, ∃ l ∈ (run init hist).locals, l.uid = e.1 ∧
      ∃ r ∈ (run init hist).remotes, r.uid = e.2.2 ∧ r.addr = e.2.1 ∧ r.net = l.net :=
  ((InvC_iff _).mp (Inv_run init hist (Inv_init init hi)).1).2.2.2.2

example : (run a0 (selected ++ [.inboundData 6 16 32 50 false])).caches = [(1, 32, 2)] := by decide +kernel

/-- Hence, along every history, a non-STUN payload arriving on the local candidate `l` (listening at `la`)
of an open, started agent reaches the reader iff its source is the address of a known (current) remote
candidate on the same transport AND it fits into the receive buffer; from a known source it overflows
(`inboundOverflow`) iff it does not fit. -/
theorem C07_read_filter_known (init : Agent) (hist : List Ev) (hi : Initial init) (now la src len : Nat) (l : Cand) :
    let a := run init hist
    a.closed = false → a.started = true → a.localByAddr la = some l →
    (inboundAccepted a (.inboundData now la src len false) = some len ↔
      (∃ r ∈ a.remotes, r.net = l.net ∧ r.addr = src) ∧ rxFits a.rx len = true) ∧
    (inboundOverflow a (.inboundData now la src len false) = true ↔
      (∃ r ∈ a.remotes, r.net = l.net ∧ r.addr = src) ∧ rxFits a.rx len = false) := by
  intro a hc hs hl
  have h : Inv a := Inv_run init hist (Inv_init init hi)
  rw [inboundAccepted_live a now la src len l hc hs hl,
    ← accepts_iff_known a l src h (List.mem_of_find?_eq_some hl)]
  constructor
  · cases accepts a l src <;> cases rxFits a.rx len <;> simp
  · simp only [inboundOverflow, hc, hs, hl]
    cases accepts a l src <;> cases rxFits a.rx len <;> simp

/-- The reader never yields STUN traffic and is FIFO.  Along every history: (1) the reader queue after
any event is the old queue, minus its head if the event is a `Read` on an open agent (whatever the size of
the caller's buffer: a datagram is consumed whole), plus `[len]` if the event is an inbound payload accepted
by the filter — so the STUN path (`.inbound`, `handleInbound`) and every other event leave it alone and
STUN-like payloads never enter; (2) `Read` into a buffer of `cap` bytes, in EVERY agent state: `err:closed`
when closed, `empty` on an empty queue, both without any change of state; for the head `n`: `read:n` and
`connBytesRecv + n` when the buffer is large enough (`n ≤ cap`), `short:cap` (`io.ErrShortBuffer`) and
`connBytesRecv + cap` when it is shorter — the datagram is gone in both cases; (3) the datagrams handed to
`Read` so far, followed by what is still queued, are exactly the accepted lengths in arrival order. -/
theorem C07_reader (init : Agent) (hist : List Ev) (hi : Initial init) :
    (∀ pre e, pre ++ [e] <+: hist → (run init (pre ++ [e])).rx = rxAfter (run init pre) e) ∧
    (∀ (a : Agent) (cap : Nat), (a.closed = true → step a (.read cap) = (a, [.res "err:closed"])) ∧
      (a.closed = false → a.rx = [] → step a (.read cap) = (a, [.res "empty"])) ∧
      (∀ n rest, a.closed = false → a.rx = n :: rest → n ≤ cap →
        step a (.read cap) = ({ a with rx := rest, connBytesRecv := a.connBytesRecv + n }, [.res s!"read:{n}"])) ∧
      (∀ n rest, a.closed = false → a.rx = n :: rest → cap < n →
        step a (.read cap) = ({ a with rx := rest, connBytesRecv := a.connBytesRecv + cap }, [.res s!"short:{cap}"]))) ∧
    readLog init hist ++ (run init hist).rx = acceptLog init hist := by
  refine ⟨fun pre e _ => ?_, fun a cap => ⟨step_read_closed a cap, step_read_empty a cap, step_read_full a cap,
    step_read_short a cap⟩, ?_⟩
  · rw [run_append]
    exact (StepSum_step _ e (Inv_run init pre (Inv_init init hi))).rx
  · have := fifo_run init hist (Inv_init init hi)
    rw [hi.2.2.2.2.1] at this
    simpa using this

example : readLog a0 (selected ++ traffic) = [50] ∧ (run a0 (selected ++ traffic)).rx = [20] ∧
    acceptLog a0 (selected ++ traffic) = [50, 20] := by decide +kernel
-- short buffers: every Read consumes one whole datagram, in order, whatever it returns
example : readLog a0 (selected ++ shortReads) = [50, 10, 10, 0] ∧ (run a0 (selected ++ shortReads)).rx = [] ∧
    acceptLog a0 (selected ++ shortReads) = [50, 10, 10, 0] ∧
    (resOf (step (run a0 (selected ++ shortReads.take 4)) (.read 49)).2 = ["short:49"]) ∧
    (resOf (step (run a0 (selected ++ shortReads.take 5)) (.read 10)).2 = ["read:10"]) ∧
    (resOf (step (run a0 (selected ++ shortReads.take 6)) (.read 0)).2 = ["short:0"]) ∧
    (resOf (step (run a0 (selected ++ shortReads.take 7)) (.read 0)).2 = ["read:0"]) ∧
    (resOf (step (run a0 (selected ++ shortReads.take 8)) (.read 5)).2 = ["empty"]) := by decide +kernel
example : (step (run a0 (selected ++ traffic)) (.inbound 20 16 32 { cls := 0, tid := 9 })).1.rx = [20] := by decide +kernel

/-- One event, in any state reached from an initial state, changes what C07 counts by exactly:
`connBytesSent` += `len` iff it is a `Write` answered `ok:len`; `connBytesRecv` += the length handed out
iff it is a `Read`; the counters `(pktSent, bytesSent, pktRecv, bytesRecv)` of the pair listed under `id`
before and after += `pairDelta` (an accepted `Write` of `len > 0` routed on it / an accepted `WriteToPair`
of `len > 0` naming it: `(1, len, 0, 0)`; an accepted inbound payload of `len > 0` while it is selected:
`(0, 0, 1, len)`; everything else — checks, prflx supersession, renomination, timers — `(0,0,0,0)`). -/
theorem C07_counters_step (init : Agent) (hist : List Ev) (hi : Initial init) (e : Ev) :
    StepSum (run init hist) e (step (run init hist) e).1 :=
  StepSum_step _ e (Inv_run init hist (Inv_init init hi))

/-- Along every history from an initial state the connection counters equal the payload bytes accepted by
`Write` (answered `ok:len`) and the bytes returned by `Read` — `readTally` adds, for every `Read` on an open
agent, the head of the queue cut to the caller's buffer (`readBy`), which is the sum of the per-call byte
counts `retLog` (each the consumed datagram `n` cut to that call's `cap`: `min n cap`). -/
theorem C07_counters_conn (init : Agent) (hist : List Ev) (hi : Initial init) :
    (run init hist).connBytesSent = sentTally init hist ∧ (run init hist).connBytesRecv = readTally init hist ∧
    readTally init hist = (retLog init hist).sum := by
  have := conn_run init hist (Inv_init init hi)
  rw [hi.2.2.2.2.2.1, hi.2.2.2.2.2.2.1] at this
  exact ⟨by simpa using this.1, by simpa using this.2, readTally_eq_sum init hist⟩

example : sentTally a0 (selected ++ traffic) = 100 ∧ readTally a0 (selected ++ traffic) = 50 ∧
    (run a0 (selected ++ traffic)).connBytesSent = 100 ∧ (run a0 (selected ++ traffic)).connBytesRecv = 50 := by decide +kernel
-- short reads are counted with what they returned: 49 of 50, 10 of 10, 0 of 10, 0 of 0
example : retLog a0 (selected ++ shortReads) = [49, 10, 0, 0] ∧ readTally a0 (selected ++ shortReads) = 59 ∧
    (run a0 (selected ++ shortReads)).connBytesRecv = 59 := by decide +kernel

/-- Bytes counted = bytes returned, for EVERY caller buffer size and in EVERY agent state (no invariant
needed): one `Read` into a buffer of `cap` bytes moves `connBytesRecv` by exactly the byte count `k` that
the call reports — `read:k` (whole datagram) or `short:k` (`io.ErrShortBuffer`: `k = cap` bytes of a longer
datagram were returned) — and by `0` when it reports `empty` / `err:closed`; `k` never exceeds the buffer. -/
theorem C07_read_counts_returned (a : Agent) (cap : Nat) :
    ∃ k, (step a (.read cap)).1.connBytesRecv = a.connBytesRecv + k ∧ k = readBy a (.read cap) ∧ k ≤ cap ∧
      ((step a (.read cap)).2 = [.res s!"read:{k}"] ∨ (step a (.read cap)).2 = [.res s!"short:{k}"] ∨
       (k = 0 ∧ (step a (.read cap)).1 = a ∧
         ((step a (.read cap)).2 = [.res "empty"] ∨ (step a (.read cap)).2 = [.res "err:closed"]))) := by
  cases hc : a.closed with
  | true =>
    refine ⟨0, ?_, by simp [readBy, hc], Nat.zero_le _, Or.inr (Or.inr ⟨rfl, ?_, Or.inr ?_⟩)⟩ <;>
      (rw [step_read_closed a cap hc]) <;> try rfl
  | false =>
    cases hr : a.rx with
    | nil =>
      refine ⟨0, ?_, by simp [readBy, hc, hr], Nat.zero_le _, Or.inr (Or.inr ⟨rfl, ?_, Or.inl ?_⟩)⟩ <;>
        (rw [step_read_empty a cap hc hr]) <;> try rfl
    | cons n rest =>
      by_cases hn : n ≤ cap
      · refine ⟨n, ?_, by simp [readBy, hc, hr, Nat.min_eq_left hn], hn, Or.inl ?_⟩ <;>
          rw [step_read_full a cap n rest hc hr hn]
      · have hn' : cap < n := by omega
        refine ⟨cap, ?_, by simp [readBy, hc, hr, Nat.min_eq_right (Nat.le_of_lt hn')], Nat.le_refl _, Or.inr (Or.inl ?_)⟩ <;>
          rw [step_read_short a cap n rest hc hr hn']

example : (step (run a0 (selected ++ shortReads.take 4)) (.read 49)).1.connBytesRecv = 49 ∧
    resOf (step (run a0 (selected ++ shortReads.take 4)) (.read 49)).2 = ["short:49"] ∧
    (step (run a0 (selected ++ shortReads.take 4)) (.read 49)).1.rx = [10, 10, 0] := by decide +kernel

/-- Why the counter theorems start from an initial state: in an UNREACHABLE state whose routed pair names
candidates that do not exist (the Go code holds pointers, so this cannot arise there) the model's `Write`
answers `err:nopairs`, emits nothing, and still adds `len` to `connBytesSent`.  The invariant
(`Inv`, pairs resolvable while open) excludes exactly this. -/
theorem C07_counters_step_unreachable_witness :
    ¬ ∀ (a : Agent) (now len : Nat), (step a (.write now len false)).1.connBytesSent =
        a.connBytesSent + sentBy a (.write now len false) := by
  intro h
  have := h { checklist := [{ id := 1, l := 7, r := 8, state := .succeeded, controlling := true }] } 0 5
  revert this
  decide +kernel

/-- While one pair stays selected (and listed) — over any segment `seg` of a history, starting anywhere —
the increase of its `(pktSent, bytesSent, pktRecv, bytesRecv)` is exactly the number / bytes of accepted
`Write`s with `len > 0` (plus accepted `WriteToPair`s naming it) and the number / bytes of accepted inbound
payloads with `len > 0` in the segment (`selTally`). -/
theorem C07_counters_pair (init : Agent) (hist seg : List Ev) (hi : Initial init) (id : Nat) (p q : Pair)
    (hsel : selectedAll id (run init hist) seg = true)
    (hp : (run init hist).pairById id = some p) (hq : (run init (hist ++ seg)).pairById id = some q) :
    ctr q = add4 (ctr p) (selTally id (run init hist) seg) := by
  rw [run_append] at hq
  rw [← pairTally_selected id _ seg hsel]
  exact pair_run _ seg id p q (Inv_run init hist (Inv_init init hi)) (listedAll_of_selectedAll id _ seg hsel) hp hq

/-- The same for any listed pair, selected or not (`pairTally`: writes count on the pair they are routed
on, inbound payloads on the pair selected at that moment). -/
theorem C07_counters_pair_general (init : Agent) (hist seg : List Ev) (hi : Initial init) (id : Nat) (p q : Pair)
    (hl : listedAll id (run init hist) seg = true)
    (hp : (run init hist).pairById id = some p) (hq : (run init (hist ++ seg)).pairById id = some q) :
    ctr q = add4 (ctr p) (pairTally id (run init hist) seg) := by
  rw [run_append] at hq
  exact pair_run _ seg id p q (Inv_run init hist (Inv_init init hi)) hl hp hq

example : selectedAll 1 (run a0 selected) traffic = true ∧ selTally 1 (run a0 selected) traffic = (2, 107, 2, 70) ∧
    ((run a0 selected).pairById 1).map ctr = some (0, 0, 0, 0) ∧
    ((run a0 (selected ++ traffic)).pairById 1).map ctr = some (2, 107, 2, 70) := by decide +kernel

/-- counters (and the cache) survive prflx supersession: a peer-reflexive remote discovered from a check is
replaced by the signalled host candidate with the same address; pair 1 is re-pointed, keeps its counters
and stays selected; the cache entry is re-pointed too -/
def prflxSession : List Ev := [.addLocal 0 L, .start 0 false "ru" "rp",
  .inbound 1 16 32 { cls := 0, tid := 77, user := some ":ru", key := some "", useCand := true },
  .inbound 2 16 32 { cls := 2, tid := 2, key := some "rp" }, .write 5 100 false, .inboundData 6 16 32 50 false]

example :
    let a := run a0 prflxSession
    let b := (step a (.addRemote 7 R)).1
    a.remotes.map (fun c => (c.uid, c.ty)) = [(2, 3)] ∧ b.remotes.map (fun c => (c.uid, c.ty)) = [(3, 1)] ∧
    (a.pairById 1).map (fun p => (p.r, ctr p)) = some (2, 1, 100, 1, 50) ∧
    (b.pairById 1).map (fun p => (p.r, ctr p)) = some (3, 1, 100, 1, 50) ∧
    a.caches = [(1, 32, 2)] ∧ b.caches = [(1, 32, 3)] ∧ selectedAll 1 a [.addRemote 7 R] = true := by decide +kernel

/-- An accepted write puts exactly its one datagram in flight (a refused one nothing), in every reachable
system state. -/
theorem C07_write_in_flight (s : Sys) (hr : Reach s) (isB : Bool) (now len : Nat) (stunLike : Bool) :
    let x := s.agent isB
    ((s.agentEv isB (.write now len stunLike)).1.inflight = s.inflight ∧
        Refused x len (step x (.write now len stunLike))) ∨
    ∃ p l rm, Sent x len p l rm (step x (.write now len stunLike)) ∧ route x = some p ∧ stunLike = false ∧
      (s.agentEv isB (.write now len stunLike)).1.inflight =
        s.inflight ++ [{ src := l.addr, dst := rm.addr, p := .data len }] := by
  intro x
  have hx : Inv x := by cases isB <;> simp only [x, Sys.agent] <;> first | exact (Reach_inv s hr).1 | exact (Reach_inv s hr).2
  have g2 := IceProofs.Sys2Run.agentEv_inflight s isB (.write now len stunLike)
  rcases write_outcome x now len stunLike hx with hf | ⟨p, l, rm, hs, hroute, hsent, _⟩
  · left
    refine ⟨?_, hf⟩
    obtain ⟨e, he, _⟩ := hf
    rw [g2, show (step (s.agent isB) (.write now len stunLike)) = (x, [.res e]) from he, dgramsOf_res]
    simp
  · right
    refine ⟨p, l, rm, hsent, hroute, hs, ?_⟩
    rw [g2, show (step (s.agent isB) (.write now len stunLike)).2 = _ from hsent.2.2.2.2, dgramsOf_sent]

/-- Delivery, in every reachable system state.  `deliver k` (and `dup k`, which keeps the entry) of an
application datagram `⟨f, t, data n⟩`: the in-flight list loses exactly that entry (`dup`: nothing); a
blocked link or a destination nobody open listens on changes no agent; otherwise only the owner `y` of
the (un-NATed) destination moves, nothing new is emitted, and — with `l` its local candidate there — `y`'s
reader queue grows by exactly `[n]` iff `y` is started, knows a current remote candidate at the
NAT-mapped source on `l`'s transport and the payload fits into `y`'s receive buffer; from a known source a
payload that does not fit is dropped (queue, checklist — every pair counter — and connection counters unchanged);
from an unknown source, or when not started, `y` is unchanged.  So each `deliver`/`dup` hands the payload over at
most once, and `drop` never does. -/
theorem C07_delivered_once (s : Sys) (hr : Reach s) (k : Nat) (keep : Bool) (f t n : Nat)
    (hk : s.inflight[k]? = some { src := f, dst := t, p := .data n }) :
    (s.deliver k keep).1.inflight = (if keep then s.inflight else removeAt s.inflight k) ∧
    (match receiver s f t with
     | none => (s.deliver k keep).1.a = s.a ∧ (s.deliver k keep).1.b = s.b
     | some y =>
       (s.deliver k keep).1.agent (!y) = s.agent (!y) ∧
       ∀ l, (s.agent y).localByAddr (s.unmapped t) = some l →
         (((s.agent y).started = true ∧ ∃ r ∈ (s.agent y).remotes, r.net = l.net ∧ r.addr = s.mapped f) →
           (rxFits (s.agent y).rx n = true → ((s.deliver k keep).1.agent y).rx = (s.agent y).rx ++ [n]) ∧
           (rxFits (s.agent y).rx n = false →
             ((s.deliver k keep).1.agent y).rx = (s.agent y).rx ∧
             ((s.deliver k keep).1.agent y).checklist = (s.agent y).checklist ∧
             ((s.deliver k keep).1.agent y).connBytesRecv = (s.agent y).connBytesRecv)) ∧
         (¬((s.agent y).started = true ∧ ∃ r ∈ (s.agent y).remotes, r.net = l.net ∧ r.addr = s.mapped f) →
           (s.deliver k keep).1.agent y = s.agent y)) ∧
    (s.drop k).a = s.a ∧ (s.drop k).b = s.b ∧ (s.drop k).inflight = removeAt s.inflight k := by
  obtain ⟨d1, d2⟩ := deliver_data s k keep f t n hk
  refine ⟨d1, ?_, rfl, rfl, rfl⟩
  cases hrec : receiver s f t with
  | none => rw [hrec] at d2; exact d2
  | some y =>
    rw [hrec] at d2
    dsimp only at d2 ⊢
    refine ⟨d2.2, fun l hl => ?_⟩
    have hy : Inv (s.agent y) := by
      cases y <;> simp only [Sys.agent] <;> first | exact (Reach_inv s hr).1 | exact (Reach_inv s hr).2
    have hopen : (s.agent y).closed = false := by
      unfold receiver at hrec
      split at hrec
      · cases hrec
      · exact (IceProofs.Sys2Run.owner_some hrec).2
    have f5 := C07_read_filter (s.agent y) s.now (s.unmapped t) (s.mapped f) n false
    rw [d2.1]
    cases hst : (s.agent y).started with
    | false =>
      have hnone := inboundAccepted_drop (s.agent y) s.now (s.unmapped t) (s.mapped f) n false (Or.inr (Or.inl hst))
      have hno : inboundOverflow (s.agent y) (.inboundData s.now (s.unmapped t) (s.mapped f) n false) = false := by
        simp [inboundOverflow, hst]
      exact ⟨fun h => (by cases h.1), fun _ => f5.2.2.2.1 hnone hno⟩
    | true =>
      have hlive := inboundAccepted_live (s.agent y) s.now (s.unmapped t) (s.mapped f) n l hopen hst hl
      have hk' := accepts_iff_known (s.agent y) l (s.mapped f) hy (List.mem_of_find?_eq_some hl)
      refine ⟨fun h => ⟨fun hf => f5.2.2.1 ?_, fun hf => ?_⟩, fun h => ?_⟩
      · rw [hlive, hk'.mpr h.2, hf]; rfl
      · have ho : inboundOverflow (s.agent y) (.inboundData s.now (s.unmapped t) (s.mapped f) n false) = true := by
          simp [inboundOverflow, hopen, hst, hl, hk'.mpr h.2, hf]
        obtain ⟨_, o1, o2, _, o4, _⟩ := f5.2.2.2.2.1 ho
        exact ⟨o1, o2, o4⟩
      · have : accepts (s.agent y) l (s.mapped f) = false := by
          cases h' : accepts (s.agent y) l (s.mapped f) with
          | false => rfl
          | true => exact absurd ⟨rfl, hk'.mp h'⟩ h
        refine f5.2.2.2.1 ?_ ?_
        · rw [hlive, this]; rfl
        · simp [inboundOverflow, hopen, hst, hl, this]

/-! two agents: A (16) and B (32) know each other; A writes, the hub delivers, duplicates, drops -/
def sys1 : Sys := ({ hasB := true } : Sys).agentEv false (.addLocal 0 L) |>.1
def sys2 : Sys := sys1.agentEv false (.addRemote 0 R) |>.1
def sys3 : Sys := sys2.agentEv true (.addLocal 0 { L with addr := 32 }) |>.1
def sys4 : Sys := sys3.agentEv true (.addRemote 0 { R with addr := 16 }) |>.1
def sys5 : Sys := sys4.agentEv false (.start 0 true "b" "pb") |>.1
def sys6 : Sys := sys5.agentEv true (.start 0 false "a" "pa") |>.1
def sysAB : Sys := { sys6 with inflight := [] }

example : Reach sysAB :=
  have r0 : Reach ({ hasB := true } : Sys) := Reach.init _ (by decide) (by decide)
  have r1 : Reach sys1 := Reach.agentEv _ _ _ r0
  have r2 : Reach sys2 := Reach.agentEv _ _ _ r1
  have r3 : Reach sys3 := Reach.agentEv _ _ _ r2
  have r4 : Reach sys4 := Reach.agentEv _ _ _ r3
  have r5 : Reach sys5 := Reach.agentEv _ _ _ r4
  have r6 : Reach sys6 := Reach.agentEv _ _ _ r5
  Reach.env sys6 sysAB r6 (Or.inl rfl) (Or.inl rfl)
example : (sysAB.b.localByAddr 32).isSome ∧ sysAB.b.started = true ∧ receiver sysAB 16 32 = some true := by decide +kernel
-- delivered once per delivery: `dup` then `deliver` hand the payload over twice, `drop` never
example :
    let s := { sysAB with inflight := [{ src := 16, dst := 32, p := .data 40 }] }
    (s.deliver 0 true).1.b.rx = [40] ∧ ((s.deliver 0 true).1.deliver 0 false).1.b.rx = [40, 40] ∧
    ((s.deliver 0 true).1.deliver 0 false).1.inflight.length = 0 ∧ (s.drop 0).b.rx = [] := by decide +kernel
-- unknown source / blocked link: nothing reaches the reader
example :
    let s := { sysAB with inflight := [{ src := 48, dst := 32, p := .data 40 }] }
    (s.deliver 0 false).1.b.rx = [] := by decide +kernel
example :
    let s := { sysAB with inflight := [{ src := 16, dst := 32, p := .data 40 }], blocked := [(16, 32)] }
    (s.deliver 0 false).1.b.rx = [] := by decide +kernel
-- behind a NAT the mapped source must be the known one
example :
    let s := { sysAB with inflight := [{ src := 20, dst := 32, p := .data 40 }], nat := [(20, 16)] }
    (s.deliver 0 false).1.b.rx = [40] := by decide +kernel

/-- `candidateBase.handleInboundPacket` (candidate_base.go, regenerated in effect mode), all arguments: a STUN message goes to the
STUN handler and nothing else; a data packet probes the cache, on a miss asks the agent and is DROPPED when the source is no
remote candidate; otherwise it is queued and — only if the queueing succeeded, with the number of bytes queued, and only when a
pair is selected — credited to the selected pair AFTER it was queued; the model drops a packet from an unknown source the same way -/
theorem C07_code_handleInboundPacket (isSTUN cacheHit valid writeFails : Bool) (n : Int64) (hasSelected : Bool) :
    IceGen.candidateBase_handleInboundPacket isSTUN cacheHit valid writeFails n hasSelected
      = (if isSTUN then [IceTie.Order.c "handleInboundSTUNMessage"]
        else IceTie.Order.c "validateSTUNTrafficCache" ::
          (if cacheHit then [] else IceTie.Order.c "validateNonSTUNTraffic" ::
            (if valid then [IceTie.Order.c "addRemoteCandidateCache"] else []))
          ++ (if cacheHit || valid then
                IceTie.Order.c "buf.Write" :: (if !writeFails && decide (n > 0) && hasSelected
                  then [IceTie.Order.c1 "UpdatePacketReceived" (IceModel.Val.i n.toInt)] else [])
              else [])) ∧
    (∀ e ∈ IceGen.candidateBase_handleInboundPacket false cacheHit valid writeFails n hasSelected,
      e = IceTie.Order.c1 "UpdatePacketReceived" (IceModel.Val.i n.toInt) →
      writeFails = false ∧
      IceTie.Order.pos (IceGen.candidateBase_handleInboundPacket false cacheHit valid writeFails n hasSelected) (IceTie.Order.c "buf.Write")
        < IceTie.Order.pos (IceGen.candidateBase_handleInboundPacket false cacheHit valid writeFails n hasSelected) e) ∧
    (∀ (a : Agent) (now : Nat) (l : Cand) (src len : Nat),
      (a.caches.find? fun (lu, s, _) => lu == l.uid && s == src) = none → a.findRemote l.net src = none →
      a.inboundData now l src len = (a, [])) :=
  ⟨IceTie.Order.handleInboundPacket_tie isSTUN cacheHit valid writeFails n hasSelected,
   (IceTie.Order.handleInboundPacket_order cacheHit valid writeFails n hasSelected).2,
   IceTie.Order.inboundData_shape⟩

example : IceGen.candidateBase_handleInboundPacket false false false false 10 true
      = [IceModel.Eff.call "validateSTUNTrafficCache" [], IceModel.Eff.call "validateNonSTUNTraffic" []] ∧
    IceGen.candidateBase_handleInboundPacket false true false false 10 true
      = [IceModel.Eff.call "validateSTUNTrafficCache" [], IceModel.Eff.call "buf.Write" [],
         IceModel.Eff.call "UpdatePacketReceived" [IceModel.Val.i 10]] ∧
    IceGen.candidateBase_handleInboundPacket false true false true 10 true
      = [IceModel.Eff.call "validateSTUNTrafficCache" [], IceModel.Eff.call "buf.Write" []] := by decide +kernel

end IceProps.C07

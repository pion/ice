import IceTie.Lifecycle
import IceTie.Options
import IceTie.AgentDefaults
import IceTie.AgentTick
import IceProofs.AgentC04Run
import IceTie.AgentTiming
import IceTie.Order
/-!
# C04 — connection state follows the documented lifecycle and liveness timing

Model: `IceModel.AgentCore.step` (one agent, validated against the real agent under a virtual clock).  A *history* is an
arbitrary event list run from an `Initial` agent (state New, not started, not closed, nothing selected, no candidates;
arbitrary configuration incl. zero timeouts and lite).  `trace a0 evs` is the sequence of states handed to the
connection-state notifier (`Out.cbState`, the ENQUEUE order — delivery order is C11's); `ltrace` labels each notification
with the agent before the step and the event of the step that produced it.

FINDING (F13).  The documented graph does NOT hold for all histories: the agent goes Failed → Connected without Restart
when a local candidate is added while it is Failed (late gathering) and a nominating check arrives (`C04_path_partial`:
the exact graph of the model; `C04_path_witness`; `C04_path_no_late_candidates`).
-/
namespace IceProps.C04
open IceModel.AgentCore IceProofs.AgentC04

/-- the model's graph over the agent's configuration `cfg`: the documented graph (`docEdge`: New→Checking;
Checking→Connected|Failed; Connected⇄Disconnected; Disconnected→Failed; Connected→Failed iff
`cfg.disconnectedTimeout = 0`; Connected|Disconnected|Failed→Checking only by `.restart`; any→Closed only by
`.close`; nothing from Closed) plus `lateEdge`: Failed→Connected by an `.inbound` event of an agent that has a
local candidate. -/
def edge (cfg : Config) (a : Agent) (e : Ev) (p n : ConnState) : Bool := docEdge cfg e p n || lateEdge a e p n

theorem edge_irrefl (cfg : Config) (a : Agent) (e : Ev) (p n : ConnState) (h : edge cfg a e p n = true) : p ≠ n := by
  rintro rfl
  rw [edge, docEdge_irrefl, lateEdge_irrefl] at h
  cases h

/-- **C04_path (partial: see the finding).**  For every history: (1) every consecutive pair of notifications,
including (New, first), is an edge of `edge` — labelled with the event that caused it; (2) no notification
repeats its predecessor and the first is not New; (3) the last notification is the current state, i.e. the
notifications are exactly the changes of the state variable, in order.

FULL STATEMENT (false, see `C04_path_witness`):
`∀ a0 evs, Initial a0 → lpath (fun _ e => docEdge a0.cfg e) .new (ltrace a0 evs) = true`. -/
theorem C04_path_partial (a0 : Agent) (h0 : Initial a0) (evs : List Ev) :
    lpath (edge a0.cfg) .new (ltrace a0 evs) = true ∧
    noRepeat .new (trace a0 evs) = true ∧
    endState .new (trace a0 evs) = (run a0 evs).connState ∧
    trace a0 evs = (ltrace a0 evs).map (·.2.2) := by
  have hi := h0.inv
  obtain ⟨hp, hl⟩ := run_path_tight a0 evs hi
  rw [h0.connState] at hp hl
  have hp' : lpath (edge a0.cfg) .new (ltrace a0 evs) = true := by
    refine lpath_congr _ _ (fun x hx p n h => ?_) hp
    have := tightEdge_edgeAt x.1 x.2.1 p n h
    unfold edgeAt at this
    rw [ltrace_cfg a0 evs hi x hx] at this
    exact this
  refine ⟨hp', ?_, hl, trace_eq_ltrace a0 evs⟩
  rw [trace_eq_ltrace]
  exact noRepeat_of_lpath (edge_irrefl a0.cfg) _ _ hp'

/-- the exact causes of every notification: `headEdge` (New→Checking only by `.start`; →Connected only by
`.inbound`, or `.addRemote` re-selecting from Disconnected; →Checking by `.restart`; →Closed by `.close`) or a
timer edge `tickEdge` (Checking→Failed, Connected⇄Disconnected, Disconnected→Failed, Connected→Failed iff the
disconnected timeout is 0). -/
theorem C04_path_causes (a0 : Agent) (h0 : Initial a0) (evs : List Ev) :
    lpath tightEdge .new (ltrace a0 evs) = true := by
  have := (run_path_tight a0 evs h0.inv).1
  rwa [h0.connState] at this

def wCfg : Config :=
  { lite := true, failedTimeout := 1000000000, disconnectedTimeout := 1000000000, disconnectedExplicit := true,
    checkInterval := 0, keepaliveInterval := 0 }
def wA : Agent := { cfg := wCfg, localUfrag := "u", localPwd := "p" }
def wL : Cand := { uid := 0, ty := 1, net := 0, addr := 16, prio := 100 }
def wR : Cand := { uid := 0, ty := 1, net := 0, addr := 176, prio := 100 }
/-- an authenticated Binding request with USE-CANDIDATE from the remote candidate -/
def wNom : Msg := { cls := 0, tid := 7, user := some "u:v", key := some "p", useCand := true }
/-- start, fail on the checking deadline, THEN a local candidate, a remote candidate and a nominating check -/
def wLate : List Ev :=
  [.addLocal 0 wL, .addRemote 0 wR, .start 0 false "v" "q", .advance 3000000000,
   .addLocal 3000000000 wL, .addRemote 3000000000 wR, .inbound 3000000000 16 176 wNom]

theorem wA_initial : Initial wA := ⟨rfl, rfl, rfl, rfl, rfl, rfl, rfl⟩

/-- the notifications of the witness history -/
theorem C04_path_witness_trace : trace wA wLate = [.checking, .failed, .connected] := by decide +kernel

/-- **the documented graph fails**: an initial agent and a history whose notifications leave it. -/
theorem C04_path_witness :
    ¬ (∀ (a0 : Agent) (evs : List Ev), Initial a0 → lpath (fun _ e => docEdge a0.cfg e) .new (ltrace a0 evs) = true) := by
  intro h
  have h1 := h wA wLate wA_initial
  have h2 : lpath (fun _ e => docEdge wA.cfg e) .new (ltrace wA wLate) = false := by decide +kernel
  rw [h2] at h1
  cases h1

/-- **C04_path for histories without late local candidates.**  If no `.addLocal` happens while the agent is
Failed (`noLateLocal`), every notification follows the documented graph. -/
theorem C04_path_no_late_candidates (a0 : Agent) (h0 : Initial a0) (evs : List Ev) (hn : noLateLocal a0 evs = true) :
    lpath (fun _ e => docEdge a0.cfg e) .new (ltrace a0 evs) = true := by
  have hi := h0.inv
  have hp := run_path_doc a0 evs hi (fun _ => h0.locals) hn
  rw [h0.connState] at hp
  refine lpath_congr _ _ (fun x hx p n h => ?_) hp
  rw [← ltrace_cfg a0 evs hi x hx]
  exact h

set_option maxRecDepth 100000 in
example : noLateLocal wA (wLate.take 4) = true ∧ noLateLocal wA wLate = false := by decide +kernel

/-- **Connected/Disconnected only while a pair is selected** — in every reachable state (for a non-closed
agent the converse holds too: a selected pair exists only in Connected/Disconnected). -/
theorem C04_connected_needs_selection (a0 : Agent) (h0 : Initial a0) (evs : List Ev) :
    let a := run a0 evs
    ((a.connState = .connected ∨ a.connState = .disconnected) → a.selected.isSome = true) ∧
    (a.closed = false → a.selected.isSome = true → (a.connState = .connected ∨ a.connState = .disconnected)) := by
  have hi := run_inv a0 evs h0.inv
  refine ⟨fun h => ?_, fun hc hs => (hi.good hc).sel.mp hs⟩
  cases hc : (run a0 evs).closed with
  | false => exact (hi.good hc).sel.mpr h
  | true =>
    have := hi.closed hc
    rcases h with h | h <;> rw [this] at h <;> cases h

set_option maxRecDepth 100000 in
example : (run wA wLate).connState = .connected ∧ (run wA wLate).selected.isSome = true := by decide +kernel

/-- **Failed only after release**: whenever a step of a reachable agent notifies Failed, the state after the
step is Failed and the checklist, both candidate lists, the selection and the pending transactions are empty. -/
theorem C04_failed_after_release (a0 : Agent) (h0 : Initial a0) (evs : List Ev) (e : Ev)
    (hf : Out.cbState .failed ∈ (step (run a0 evs) e).2) :
    let a' := (step (run a0 evs) e).1
    a'.checklist = [] ∧ a'.locals = [] ∧ a'.remotes = [] ∧ a'.selected = none ∧ a'.pending = [] ∧
    a'.connState = .failed := by
  have hs := step_ok (run a0 evs) e (run_inv a0 evs h0.inv)
  obtain ⟨⟨w1, w2, w3, w4, w5⟩, hc⟩ := hs.released (mem_states.mpr hf)
  exact ⟨w1, w2, w3, w4, w5, hc⟩

set_option maxRecDepth 100000 in
example : Out.cbState .failed ∈ (step (run wA (wLate.take 3)) (.advance 3000000000)).2 :=
  mem_states.mp (by decide +kernel)

/-- the documented function of the silence `d` of the selected remote and the two timeouts (zero disables
either threshold; `cur` only matters for the forced Disconnected-before-Failed step) -/
def tickState (cfg : Config) (cur : ConnState) (d : Nat) : ConnState :=
  if cfg.failedTimeout ≠ 0 ∧ d > cfg.failedTimeout + cfg.disconnectedTimeout then
    (if (cfg.disconnectedTimeout ≠ 0 ∧ d > cfg.disconnectedTimeout) ∧ cur ≠ .disconnected ∧ cur ≠ .failed
      then .disconnected else .failed)
  else if cfg.disconnectedTimeout ≠ 0 ∧ d > cfg.disconnectedTimeout then .disconnected else .connected

theorem sfd_tickState (cfg : Config) (cur : ConnState) (d : Nat) :
    stateForDisconnection cfg cur (some d) (totalToFailure cfg) = tickState cfg cur d := by
  rw [sfd_some, totalToFailure_eq]
  unfold tickState
  by_cases hf : cfg.failedTimeout = 0
  · simp [hf]
  · simp [hf]

/-- **Tick rule.**  One timer tick (`contact now`) of a reachable, open agent with a selected pair whose remote
was last heard at `t`: the state after the tick is `tickState` of the silence `now − t`. -/
theorem C04_tick_rule (a0 : Agent) (h0 : Initial a0) (evs : List Ev) (now : Nat) (p : Pair) (r : Cand) (t : Nat) :
    let a := run a0 evs
    a.closed = false → a.selected.bind a.pairById = some p → a.remoteOf p.r = some r → r.lastRecv = some t →
    (a.contact now).1.connState = tickState a.cfg a.connState (now - t) := by
  intro a hc hp hr ht
  have hi := run_inv a0 evs h0.inv
  have hsel : a.selected.isSome = true := by
    cases hs : a.selected with
    | none => simp [hs] at hp
    | some _ => rfl
  rw [contact_tick_rule a now p hc ((hi.good hc).sel.mp hsel) hp, hr]
  simp only [Option.bind_some, silence, ht, Option.map_some]
  exact sfd_tickState _ _ _

/-- … and when the selected remote was never heard (Go: `time.Since(zero)` = 2^63−1 ns): as if silent for the
maximum duration, for all timeouts below it. -/
theorem C04_tick_rule_never_heard (a0 : Agent) (h0 : Initial a0) (evs : List Ev) (now : Nat) (p : Pair) (r : Cand) :
    let a := run a0 evs
    a.closed = false → a.selected.bind a.pairById = some p → a.remoteOf p.r = some r → r.lastRecv = none →
    a.cfg.disconnectedTimeout < 2 ^ 63 - 1 → totalToFailure a.cfg < 2 ^ 63 - 1 →
    (a.contact now).1.connState = tickState a.cfg a.connState (2 ^ 63 - 1) := by
  intro a hc hp hr ht b1 b2
  have hi := run_inv a0 evs h0.inv
  have hsel : a.selected.isSome = true := by
    cases hs : a.selected with
    | none => simp [hs] at hp
    | some _ => rfl
  rw [contact_tick_rule a now p hc ((hi.good hc).sel.mp hsel) hp, hr]
  simp only [Option.bind_some, silence, ht, Option.map_none]
  rw [IceTie.AgentTiming.silence_none_is_max _ _ _ b1 b2]
  exact sfd_tickState _ _ _

/-- Connected up to the disconnected timeout (and within the failure threshold) -/
theorem C04_tick_connected (cfg : Config) (cur : ConnState) (d : Nat)
    (h1 : cfg.disconnectedTimeout = 0 ∨ d ≤ cfg.disconnectedTimeout)
    (h2 : cfg.failedTimeout = 0 ∨ d ≤ cfg.failedTimeout + cfg.disconnectedTimeout) :
    tickState cfg cur d = .connected := by
  unfold tickState
  rw [if_neg (by omega), if_neg (by omega)]

/-- Disconnected beyond the disconnected timeout, up to disconnected + failed -/
theorem C04_tick_disconnected (cfg : Config) (cur : ConnState) (d : Nat)
    (h1 : cfg.disconnectedTimeout ≠ 0) (h1' : d > cfg.disconnectedTimeout)
    (h2 : cfg.failedTimeout = 0 ∨ d ≤ cfg.failedTimeout + cfg.disconnectedTimeout) :
    tickState cfg cur d = .disconnected := by
  unfold tickState
  rw [if_neg (by omega), if_pos ⟨h1, h1'⟩]

/-- Failed beyond disconnected + failed, once Disconnected was reported (or the disconnected timeout is disabled) -/
theorem C04_tick_failed (cfg : Config) (cur : ConnState) (d : Nat)
    (h2 : cfg.failedTimeout ≠ 0) (h2' : d > cfg.failedTimeout + cfg.disconnectedTimeout)
    (h1 : cfg.disconnectedTimeout = 0 ∨ cur = .disconnected ∨ cur = .failed) :
    tickState cfg cur d = .failed := by
  unfold tickState
  rw [if_pos ⟨h2, h2'⟩, if_neg]
  rintro ⟨⟨h, _⟩, h3, h4⟩
  rcases h1 with h1 | h1 | h1
  · exact h h1
  · exact h3 h1
  · exact h4 h1

/-- the forced Disconnected-before-Failed step: both thresholds exceeded while still Connected -/
theorem C04_tick_forced_disconnected (cfg : Config) (d : Nat)
    (h1 : cfg.disconnectedTimeout ≠ 0) (h2 : cfg.failedTimeout ≠ 0) (h2' : d > cfg.failedTimeout + cfg.disconnectedTimeout) :
    tickState cfg .connected d = .disconnected := by
  unfold tickState
  rw [if_pos ⟨h2, h2'⟩, if_pos ⟨⟨h1, by omega⟩, by decide, by decide⟩]

example : tickState wCfg .connected 1000000000 = .connected ∧ tickState wCfg .connected 1000000001 = .disconnected ∧
    tickState wCfg .connected 2000000001 = .disconnected ∧ tickState wCfg .disconnected 2000000001 = .failed ∧
    tickState { wCfg with disconnectedTimeout := 0 } .connected 1000000001 = .failed ∧
    tickState { wCfg with failedTimeout := 0 } .disconnected (2 ^ 63 - 1) = .disconnected := by decide +kernel

/-- **Checking deadline.**  One timer tick of a reachable, open agent in Checking (it has no selected pair —
`C04_connected_needs_selection`): with `start` = the time of the first tick seen in Checking, the agent stays
Checking unless `checkingTimeout ≠ 0 ∧ now − start > checkingTimeout`, in which case this tick notifies Failed;
`checkingTimeout` is `initialCheckingTimeout` of the configuration, fixed at start. -/
theorem C04_checking_deadline (a0 : Agent) (h0 : Initial a0) (evs : List Ev) (now : Nat) :
    let a := run a0 evs
    a.closed = false → a.connState = .checking →
    let start := if a.lastSeen = .checking then a.checkingStart else now
    let expired := a.checkingTimeout ≠ 0 ∧ now - start > a.checkingTimeout
    (a.contact now).1.connState = (if expired then .failed else .checking) ∧
    states (a.contact now).2 = (if expired then [.failed] else []) ∧
    (a.contact now).1.checkingStart = start ∧ (a.contact now).1.lastSeen = (a.contact now).1.connState ∧
    (a.contact now).1.checkingTimeout = a.checkingTimeout ∧
    a.checkingTimeout = a.initialCheckingTimeout := by
  intro a hc hk
  have hi := run_inv a0 evs h0.inv
  have g := hi.good hc
  have hsel : a.selected = none := by
    cases hs : a.selected with
    | none => rfl
    | some _ => have := g.sel.mp (by rw [hs]; rfl); rw [hk] at this; simp at this
  have hst : a.started = true := by
    cases hs : a.started
    · have := g.newIff.mpr hs; rw [hk] at this; cases this
    · rfl
  obtain ⟨c1, c2, c3, c4, c5⟩ := contact_checking a now hc hk hsel
  exact ⟨c1, c5, c2, c3, c4, hi.ctimeout hst⟩

/-- events that never run the timer -/
def noTimerEv : Ev → Bool
  | .setRemoteCreds _ _ | .inboundData _ _ _ _ _ | .write _ _ _ | .writeToPair _ _ _ _ | .read _ | .renominate _ _ _ _ => true
  | _ => false

/-- between ticks the deadline bookkeeping is stable: events that do not run the timer change neither the state
nor `checkingStart`, `lastSeen`, `checkingTimeout` (for ANY agent, reachable or not) and notify nothing. -/
theorem C04_timer_fields_stable (a : Agent) (e : Ev) (he : noTimerEv e = true) :
    (step a e).1.connState = a.connState ∧ (step a e).1.checkingStart = a.checkingStart ∧
    (step a e).1.lastSeen = a.lastSeen ∧ (step a e).1.checkingTimeout = a.checkingTimeout ∧ states (step a e).2 = [] := by
  have q : QuietO a (step a e) := by
    cases e with
    | setRemoteCreds ru rp => exact step_setRemoteCreds_quiet a ru rp
    | inboundData | write | writeToPair | read => exact step_quiet a _ rfl
    | renominate => exact step_quiet a _ rfl
    | _ => cases he
  exact ⟨q.1.connState, q.1.cstart, q.1.lastSeen, q.1.frame.ctimeout, q.2⟩

/-- the checking timeout of every started reachable agent is the configuration's `initialCheckingTimeout` -/
theorem C04_checking_timeout_fixed (a0 : Agent) (h0 : Initial a0) (evs : List Ev) :
    (run a0 evs).started = true →
    (run a0 evs).checkingTimeout = (run a0 evs).initialCheckingTimeout ∧ (run a0 evs).cfg = a0.cfg :=
  fun hs => ⟨(run_inv a0 evs h0.inv).ctimeout hs, run_cfg a0 evs h0.inv⟩

/-- with `failedTimeout = 0` a tick never fails an agent in Checking -/
theorem C04_checking_never_fails_without_failed_timeout (a0 : Agent) (h0 : Initial a0) (evs : List Ev) (now : Nat) :
    let a := run a0 evs
    a.closed = false → a.connState = .checking → a.cfg.failedTimeout = 0 →
    (a.contact now).1.connState = .checking ∧ states (a.contact now).2 = [] := by
  intro a hc hk hf
  obtain ⟨c1, c2, _, _, _, c6⟩ := C04_checking_deadline a0 h0 evs now hc hk
  have hf' : (run a0 evs).cfg.failedTimeout = 0 := hf
  have hz : (run a0 evs).checkingTimeout = 0 := by
    rw [c6]; unfold Agent.initialCheckingTimeout; simp [hf']
  rw [hz] at c1 c2
  rw [if_neg (fun h => h.1 rfl)] at c1 c2
  exact ⟨c1, c2⟩

/-- **zero disables failing**: with `failedTimeout = 0` no history ever notifies Failed (neither from Checking
nor from Disconnected) and the agent is never in state Failed. -/
theorem C04_never_failed_without_failed_timeout (a0 : Agent) (h0 : Initial a0) (evs : List Ev)
    (hf : a0.cfg.failedTimeout = 0) :
    ConnState.failed ∉ trace a0 evs ∧ (run a0 evs).connState ≠ .failed := by
  have hn := run_nofail a0 evs h0.inv hf
  refine ⟨hn, fun hc => ?_⟩
  have hl := (run_path_tight a0 evs h0.inv).2
  rw [h0.connState, hc] at hl
  rcases endState_mem_or .new (trace a0 evs) with ⟨_, h2⟩ | hm
  · rw [hl] at h2; cases h2
  · rw [hl] at hm; exact hn hm

set_option maxRecDepth 100000 in
/-- non-vacuity: the deadline is 2 s here; the tick at 2 s keeps Checking, the tick at 3 s fails -/
example : (run wA (wLate.take 3)).connState = .checking ∧ (run wA (wLate.take 3)).checkingTimeout = 2000000000 ∧
    (run wA (wLate.take 3 ++ [.advance 2000000000])).connState = .checking ∧
    (run wA (wLate.take 3 ++ [.advance 3000000000])).connState = .failed := by decide +kernel

/-- **After Close**: `.close` closes every agent; from then on no event notifies anything and the state
stays Closed. -/
theorem C04_after_closed (a0 : Agent) (h0 : Initial a0) (evs evs' : List Ev) :
    (run a0 (evs ++ [.close])).closed = true ∧
    trace (run a0 (evs ++ [.close])) evs' = [] ∧
    (run a0 (evs ++ [.close] ++ evs')).connState = .closed := by
  have hi := run_inv a0 (evs ++ [.close]) h0.inv
  have hcl : (run a0 (evs ++ [.close])).closed = true := by
    rw [run_append]
    show (step (run a0 evs) .close).1.closed = true
    cases hc : (run a0 evs).closed with
    | true => exact (step_closed _ _ hc).1.frame.closed.trans hc
    | false =>
      simp only [step]
      rw [if_neg (by simp [hc]), IceProofs.Agent.setConnState_fst _ _ (by decide)]
  obtain ⟨r1, r2, _⟩ := run_closed _ evs' hi hcl
  exact ⟨hcl, r1, by rw [run_append]; exact r2⟩

/-- … stated for any reachable closed agent and any single event -/
theorem C04_after_closed_step (a0 : Agent) (h0 : Initial a0) (evs : List Ev) (e : Ev) (s : ConnState) :
    (run a0 evs).closed = true →
    (run a0 evs).connState = .closed ∧ Out.cbState s ∉ (step (run a0 evs) e).2 ∧
    (step (run a0 evs) e).1.closed = true ∧ (step (run a0 evs) e).1.connState = .closed := by
  intro hc
  have hi := run_inv a0 evs h0.inv
  have q := step_closed _ e hc
  refine ⟨hi.closed hc, fun hm => ?_, q.1.frame.closed.trans hc, q.1.connState.trans (hi.closed hc)⟩
  have := mem_states.mpr hm
  rw [q.2] at this
  cases this

/-- New → Checking → Connected → Disconnected → Failed -/
def wLife : List Ev :=
  [.addLocal 0 wL, .addRemote 0 wR, .start 0 false "v" "q", .inbound 0 16 176 wNom, .advance 3000000000]
/-- Restart from Connected -/
def wRestart : List Ev :=
  [.addLocal 0 wL, .addRemote 0 wR, .start 0 false "v" "q", .inbound 0 16 176 wNom, .restart 5 "u2" "p2"]

set_option maxRecDepth 100000 in
example : trace wA wLife = [.checking, .connected, .disconnected, .failed] := by decide +kernel
set_option maxRecDepth 100000 in
example : trace wA wRestart = [.checking, .connected, .checking] := by decide +kernel
set_option maxRecDepth 100000 in
example : trace wA (wRestart ++ [.close, .advance 9000000000, .restart 6 "u3" "p3"]) = [.checking, .connected, .checking, .closed] := by decide +kernel
set_option maxRecDepth 100000 in
example : lpath (fun _ e => docEdge wA.cfg e) .new (ltrace wA wLife) = true ∧ noLateLocal wA wLife = true := by decide +kernel

set_option maxRecDepth 100000 in
/-- non-vacuity of `C04_never_failed_without_failed_timeout`: same history, `failedTimeout = 0`, 30 s of silence -/
example : trace { wA with cfg := { wCfg with failedTimeout := 0 } } (wLife ++ [.advance 30000000000])
    = [.checking, .connected, .disconnected] := by decide +kernel

open IceTie.AgentTiming in
/-- **The Go timing functions are the model's**, for ALL `Int64` durations in the non-negative range: the
definitions regenerated from agent.go equal `stateForDisconnection` (hence `tickState`) and
`initialCheckingTimeout`; "never heard" (`time.Since` of the zero time = the maximum duration) is the model's
`none`. -/
theorem C04_timing_code :
    (∀ (dt total disc cs : Int64) (cfg : Config), 0 ≤ dt.toInt → 0 ≤ total.toInt → 0 ≤ disc.toInt →
      cfg.disconnectedTimeout = dur disc →
      IceGen.agent_connectionStateForDisconnection dt total disc cs
        = csCode (stateForDisconnection cfg (csOf cs) (some (dur dt)) (dur total))) ∧
    (∀ (total disc cs : Int64) (cfg : Config), 0 ≤ total.toInt → 0 ≤ disc.toInt →
      total.toInt < 2 ^ 63 - 1 → disc.toInt < 2 ^ 63 - 1 → cfg.disconnectedTimeout = dur disc →
      IceGen.agent_connectionStateForDisconnection Int64.maxValue total disc cs
        = csCode (stateForDisconnection cfg (csOf cs) none (dur total))) ∧
    (∀ (failed disc : Int64) (lite explicit : Bool) (a : Agent), 0 ≤ failed.toInt → 0 ≤ disc.toInt →
      (if lite && !explicit then 5000000000 else disc.toInt) + failed.toInt < 2 ^ 63 →
      a.cfg.failedTimeout = dur failed → a.cfg.disconnectedTimeout = dur disc → a.cfg.lite = lite →
      a.cfg.disconnectedExplicit = explicit →
      (IceGen.agent_initialCheckingTimeout failed disc lite explicit).toInt = (a.initialCheckingTimeout : Int)) :=
  ⟨fun dt total disc cs cfg h1 h2 h3 hc => connectionStateForDisconnection_tie dt total disc cs h1 h2 h3 cfg hc,
   fun total disc cs cfg h2 h3 h2' h3' hc => connectionStateForDisconnection_tie_none total disc cs h2 h3 h2' h3' cfg hc,
   fun failed disc lite explicit a h1 h2 hov hf hd hl he =>
     initialCheckingTimeout_tie failed disc lite explicit h1 h2 hov a hf hd hl he⟩

/-- non-vacuity of the range hypotheses: the default configuration (5 s / 25 s) -/
example : IceGen.agent_connectionStateForDisconnection 31000000000 30000000000 5000000000 6 = 5 ∧
    IceGen.agent_connectionStateForDisconnection 31000000000 30000000000 5000000000 3 = 6 ∧
    IceGen.agent_initialCheckingTimeout 25000000000 5000000000 false false = 30000000000 := by decide +kernel

/-- `Agent.setSelectedPair`: the pair is marked nominated and STORED before the state is updated to Connected (Connected is
reported only while a selected pair exists), the pair notification follows the state notification, the state is updated once;
the model's `Agent.select` hands `setConnState .connected` a state that already has the selection -/
theorem C04_code_setSelectedPair :
    (∀ isNil, IceGen.agent_setSelectedPair isNil
      = if isNil then [IceTie.Order.c1 "selectedPair.Store" (IceModel.Val.s "nil")]
        else [IceModel.Eff.set "pair.nominated" (IceModel.Val.b true), IceTie.Order.c1 "selectedPair.Store" (IceModel.Val.s "pair"),
              IceTie.Order.c "onConnectedOnce.Do(close onConnected)", IceTie.Order.eConnected,
              IceTie.Order.c1 "selectedCandidatePairNotifier.Enqueue" (IceModel.Val.s "pair")]) ∧
    (IceTie.Order.pos (IceGen.agent_setSelectedPair false) (IceTie.Order.c1 "selectedPair.Store" (IceModel.Val.s "pair"))
        < IceTie.Order.pos (IceGen.agent_setSelectedPair false) IceTie.Order.eConnected ∧
     IceTie.Order.pos (IceGen.agent_setSelectedPair false) IceTie.Order.eConnected
        < IceTie.Order.pos (IceGen.agent_setSelectedPair false)
            (IceTie.Order.c1 "selectedCandidatePairNotifier.Enqueue" (IceModel.Val.s "pair")) ∧
     (IceGen.agent_setSelectedPair false).count IceTie.Order.eConnected = 1) ∧
    (∀ (a : Agent) (id : Nat), a.select id =
      let a1 : Agent := { (a.modPair id fun p => { p with nominated := true }) with selected := some id, onConnectedFired := true }
      let r := a1.setConnState .connected
      let ends : Nat × Nat := match r.1.pairById id with
        | some p => (((r.1.localOf p.l).map (·.addr)).getD 0, ((r.1.remoteOf p.r).map (·.addr)).getD 0)
        | none => (0, 0)
      (r.1, r.2 ++ [.cbPair ends.1 ends.2])) :=
  ⟨IceTie.Order.setSelectedPair_tie, IceTie.Order.setSelectedPair_order, IceTie.Order.select_order⟩

/-- `Agent.updateConnectionState`: nothing on an unchanged state; on Failed the release of the mux ufrag, checklist, pair index,
pending transactions, selection and candidates comes BEFORE the state is set and notified (Failed only after selection, pairs and
candidates were released); the model's `setConnState` wipes in the same step -/
theorem C04_code_updateConnectionState (cur newState : Int64) :
    IceGen.agent_updateConnectionState cur newState
      = (if cur == newState then []
         else (if newState == 5 then IceTie.Order.releaseEffs else [])
          ++ [IceModel.Eff.set "a.connectionState" (IceModel.Val.i newState.toInt),
              IceTie.Order.c1 "connectionStateNotifier.Enqueue" (IceModel.Val.i newState.toInt)]) ∧
    ((cur == 5) = false → ∀ e ∈ IceTie.Order.releaseEffs, IceTie.Order.pos (IceGen.agent_updateConnectionState cur 5) e
      < IceTie.Order.pos (IceGen.agent_updateConnectionState cur 5)
          (IceTie.Order.c1 "connectionStateNotifier.Enqueue" (IceModel.Val.i 5))) ∧
    (∀ (a : Agent) (s : ConnState), a.setConnState s = if a.connState == s then (a, [])
      else ({ (if s == .failed then a.wipe else a) with connState := s }, [.cbState s])) :=
  ⟨IceTie.Order.updateConnectionState_tie cur newState, IceTie.Order.updateConnectionState_failed_order cur,
   IceTie.Order.setConnState_order⟩

example : IceGen.agent_updateConnectionState 3 5
    = IceTie.Order.releaseEffs ++ [IceModel.Eff.set "a.connectionState" (IceModel.Val.i 5),
        IceModel.Eff.call "connectionStateNotifier.Enqueue" [IceModel.Val.i 5]] ∧
    IceGen.agent_updateConnectionState 3 3 = [] ∧ ((3 : Int64) == 5) = false := by decide +kernel

open IceTie.AgentTiming IceTie.AgentTick in
/-- `Agent.validateSelectedPair`: without a selected pair nothing happens (`false`); with one, exactly one
`updateConnectionState(connectionStateForDisconnection(silence, total))`, `total` = failedTimeout (+ disconnectedTimeout when
non-zero); for non-negative, non-overflowing durations that argument is the model's `stateForDisconnection` on `totalToFailure`,
which is what `Agent.validateSelected` hands to `setConnState` -/
theorem C04_code_validateSelectedPair :
    (∀ hasSelected silence failed disc cs, IceGen.agent_validateSelectedPair hasSelected silence failed disc cs
      = if hasSelected then
          ([c1 "updateConnectionState"
              (IceModel.Val.i (IceGen.agent_connectionStateForDisconnection silence (totalCode failed disc) disc cs).toInt)], true)
        else ([], false)) ∧
    (∀ (silence failed disc cs : Int64), 0 ≤ silence.toInt → 0 ≤ failed.toInt → 0 ≤ disc.toInt →
      failed.toInt + disc.toInt < 2 ^ 63 → ∀ cfg : Config, cfg.failedTimeout = dur failed → cfg.disconnectedTimeout = dur disc →
      IceGen.agent_validateSelectedPair true silence failed disc cs
        = ([c1 "updateConnectionState"
              (IceModel.Val.i (csCode (stateForDisconnection cfg (csOf cs) (some (dur silence)) (totalToFailure cfg))).toInt)], true)) ∧
    (∀ (a : Agent) (now : Nat), a.selected.bind a.pairById = none → a.validateSelected now = (a, [], false)) :=
  ⟨validateSelectedPair_tie, fun s f d cs h0 h1 h2 hov cfg hf hd => validateSelectedPair_model s f d cs h0 h1 h2 hov cfg hf hd,
   fun a now h => by rw [validateSelected_model, h]⟩

/-- non-vacuity: 6 s of silence with the default timeouts (5 s / 25 s) reports Disconnected (6); 31 s reports Failed (5) from
Disconnected -/
example : IceGen.agent_validateSelectedPair true 6000000000 25000000000 5000000000 3
      = ([IceTie.AgentTick.c1 "updateConnectionState" (IceModel.Val.i 6)], true) ∧
    IceGen.agent_validateSelectedPair true 31000000000 25000000000 5000000000 6
      = ([IceTie.AgentTick.c1 "updateConnectionState" (IceModel.Val.i 5)], true) ∧
    IceGen.agent_validateSelectedPair false 0 0 0 0 = ([], false) := by decide +kernel

open IceTie.AgentTick in
/-- `Agent.checkKeepalive`: one ping on the selected pair iff there is one and `keepaliveInterval ≠ 0`; the model's `keepalive`
does nothing under `keepaliveInterval = 0`.  `liteSelector.ContactCandidates`: over a controlled selector ONLY
`validateSelectedPair` — the model's lite controlled tick is `validateSelected` alone -/
theorem C04_code_keepalive_and_lite :
    (∀ hasSelected keepalive, IceGen.agent_checkKeepalive hasSelected keepalive
      = if hasSelected && keepalive != 0 then [c "PingCandidate(selected)"] else []) ∧
    (∀ (a : Agent) (now : Nat), a.cfg.keepaliveInterval = 0 → a.keepalive now = (a, [])) ∧
    (∀ isControlling isControlled, IceGen.liteSelector_ContactCandidates isControlling isControlled
      = if isControlling then [c "inner.ContactCandidates"] else if isControlled then [c "validateSelectedPair"] else []) ∧
    (∀ (a : Agent) (now : Nat), a.controlling = false → a.cfg.lite = true →
      a.contactCandidates now = ((a.validateSelected now).1, (a.validateSelected now).2.1)) :=
  ⟨checkKeepalive_tie, keepalive_off, liteContactCandidates_tie, contactCandidates_lite_controlled⟩

example : IceGen.agent_checkKeepalive true 2000000000 = [IceTie.AgentTick.c "PingCandidate(selected)"] ∧
    IceGen.agent_checkKeepalive true 0 = [] ∧
    IceGen.liteSelector_ContactCandidates false true = [IceTie.AgentTick.c "validateSelectedPair"] := by decide +kernel

open IceTie.AgentDefaults in
/-- agent_config.go `initWithDefaults`, timing fields: each is assigned once, the default (disconnected 5 s, failed 25 s,
keepalive 2 s, check interval 200 ms) when the option is nil; these are the field defaults of the model's `Config` -/
theorem C04_code_timing_defaults :
    (∀ n1 v1 n2 v2 n3 v3 n4 v4, IceGen.agentConfig_initWithDefaults_timing n1 v1 n2 v2 n3 v3 n4 v4
      = [setI "agent.disconnectedTimeout" n1 5000000000 v1, IceModel.Eff.set "agent.disconnectedTimeoutExplicit" (IceModel.Val.b (!n1)),
         setI "agent.failedTimeout" n2 25000000000 v2, setI "agent.keepaliveInterval" n3 2000000000 v3,
         setI "agent.checkInterval" n4 200000000 v4]) ∧
    (∀ v, IceGen.agentConfig_initWithDefaults_timing true v true v true v true v
      = [IceModel.Eff.set "agent.disconnectedTimeout" (IceModel.Val.i ({} : Config).disconnectedTimeout),
         IceModel.Eff.set "agent.disconnectedTimeoutExplicit" (IceModel.Val.b ({} : Config).disconnectedExplicit),
         IceModel.Eff.set "agent.failedTimeout" (IceModel.Val.i ({} : Config).failedTimeout),
         IceModel.Eff.set "agent.keepaliveInterval" (IceModel.Val.i ({} : Config).keepaliveInterval),
         IceModel.Eff.set "agent.checkInterval" (IceModel.Val.i ({} : Config).checkInterval)]) :=
  ⟨initWithDefaults_timing_tie, fun v => (defaults_model v 0).2⟩

example : IceGen.agentConfig_initWithDefaults_timing false 1000 true 0 true 0 true 0
    = [IceModel.Eff.set "agent.disconnectedTimeout" (IceModel.Val.i 1000), IceModel.Eff.set "agent.disconnectedTimeoutExplicit" (IceModel.Val.b true),
       IceModel.Eff.set "agent.failedTimeout" (IceModel.Val.i 25000000000), IceModel.Eff.set "agent.keepaliveInterval" (IceModel.Val.i 2000000000),
       IceModel.Eff.set "agent.checkInterval" (IceModel.Val.i 200000000)] := by decide +kernel

/-- `WithDisconnectedTimeout` / `WithFailedTimeout` / `WithKeepaliveInterval` / `WithCheckInterval`: refused on a constructed agent
(nothing written), otherwise exactly one field is written (`WithDisconnectedTimeout` also marks the timeout explicit — what the lite
default looks at); read through the field table `applyEff` they are the corresponding updates of the model's `Config` -/
theorem C04_code_timing_options :
    (∀ constructed t, IceGen.opt_WithDisconnectedTimeout constructed t
      = IceTie.Options.guard constructed ([IceTie.Options.setI "a.disconnectedTimeout" t, IceTie.Options.setB "a.disconnectedTimeoutExplicit" true], "nil")) ∧
    (∀ constructed t, IceGen.opt_WithFailedTimeout constructed t = IceTie.Options.guard constructed ([IceTie.Options.setI "a.failedTimeout" t], "nil")) ∧
    (∀ constructed t, IceGen.opt_WithKeepaliveInterval constructed t = IceTie.Options.guard constructed ([IceTie.Options.setI "a.keepaliveInterval" t], "nil")) ∧
    (∀ constructed t, IceGen.opt_WithCheckInterval constructed t = IceTie.Options.guard constructed ([IceTie.Options.setI "a.checkInterval" t], "nil")) ∧
    (∀ (cfg : IceModel.AgentCore.Config) (t : Int64),
      IceTie.Options.applyEffs cfg [IceTie.Options.setI "a.disconnectedTimeout" t, IceTie.Options.setB "a.disconnectedTimeoutExplicit" true]
        = { cfg with disconnectedTimeout := t.toInt.toNat, disconnectedExplicit := true } ∧
      IceTie.Options.applyEffs cfg [IceTie.Options.setI "a.failedTimeout" t] = { cfg with failedTimeout := t.toInt.toNat } ∧
      IceTie.Options.applyEffs cfg [IceTie.Options.setI "a.keepaliveInterval" t] = { cfg with keepaliveInterval := t.toInt.toNat } ∧
      IceTie.Options.applyEffs cfg [IceTie.Options.setI "a.checkInterval" t] = { cfg with checkInterval := t.toInt.toNat }) :=
  ⟨IceTie.Options.WithDisconnectedTimeout_tie, IceTie.Options.WithFailedTimeout_tie, IceTie.Options.WithKeepaliveInterval_tie, IceTie.Options.WithCheckInterval_tie, IceTie.Options.timing_cfg⟩

example : IceGen.opt_WithFailedTimeout true 5 = ([], "ErrAgentOptionNotUpdatable") ∧
    IceGen.opt_WithKeepaliveInterval false 0 = ([IceModel.Eff.set "a.keepaliveInterval" (IceModel.Val.i 0)], "nil") ∧
    (IceTie.Options.applyEffs {} (IceGen.opt_WithDisconnectedTimeout false 7000000000).1).disconnectedTimeout = 7000000000 ∧
    (IceTie.Options.applyEffs {} (IceGen.opt_WithDisconnectedTimeout false 7000000000).1).disconnectedExplicit = true := by decide +kernel

/-- `candidateBase.seen`: inbound traffic refreshes only the last-received time (whose age `validateSelectedPair` measures),
outbound only the last-sent time; the model's `seenRemoteRecv` / `seenLocalSent` write the same single field -/
theorem C04_code_seen :
    (∀ outbound, IceGen.candidateBase_seen outbound
      = if outbound then [IceTie.Lifecycle.c "setLastSent(now)"] else [IceTie.Lifecycle.c "setLastReceived(now)"]) ∧
    (∀ (a : Agent) (uid now : Nat),
      (a.seenLocalSent uid now).remotes = a.remotes ∧
      (a.seenLocalSent uid now).locals = updCand a.locals uid (fun c => { c with lastSent := some now }) ∧
      (a.seenRemoteRecv uid now).locals = a.locals ∧
      (a.seenRemoteRecv uid now).remotes = updCand a.remotes uid (fun c => { c with lastRecv := some now })) :=
  ⟨IceTie.Lifecycle.seen_tie, IceTie.Lifecycle.seen_model⟩

example : IceGen.candidateBase_seen false = [IceTie.Lifecycle.c "setLastReceived(now)"] := by decide +kernel

end IceProps.C04

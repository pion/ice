import IceTie.Options
import IceTie.AgentDefaults
import IceTie.AgentTick
import IceTie.AgentDispatch
import IceTie.AgentSwitch
import IceTie.AgentSuccess
import IceTie.AgentSelector
import IceProofs.AgentC03Own
import IceTie.Addr
/-!
# C03 — only validated and nominated pairs are ever selected

About the executable model `IceModel.AgentCore.step`, for EVERY state reachable from an initial agent (empty checklist /
candidate lists, nothing selected, arbitrary configuration) by an ARBITRARY event list: the peer is an arbitrary source
of messages (`Ev.inbound` with any `Msg` at any time), so early, repeated or conflicting USE-CANDIDATE, forged or
replayed responses and role conflicts are covered by the quantifier.  Ghost fields of a pair (never read by `step`):
`gReq` / `gNomReq` — an authenticated Binding request (… carrying USE-CANDIDATE or a nomination value) arrived on it;
`gResp` / `gRespUC` — an authenticated, transaction-matched success response (… to a request of ours that carried
USE-CANDIDATE) arrived on it.
-/
namespace IceProps.C03
open IceModel.AgentCore IceProofs.C03 IceTie.AgentSwitch

-- (glue) decidable equality of outputs, so that examples about emitted datagrams can be evaluated
deriving instance DecidableEq for Out

def lc : Cand := { uid := 0, ty := 1, net := 0, addr := 16, prio := 2130706431 }
def rc1 : Cand := { uid := 0, ty := 1, net := 0, addr := 32, prio := 2130706431 }
def rc2 : Cand := { uid := 0, ty := 1, net := 0, addr := 48, prio := 2130706175 }
def full0 : Agent := { localUfrag := "L", localPwd := "lp" }
def lite0 : Agent := { localUfrag := "L", localPwd := "lp", cfg := { lite := true } }
/-- authenticated request carrying USE-CANDIDATE (peer claims the controlling role) -/
def ucReq (tid : Nat) : Msg :=
  { cls := 0, tid := tid, user := some "L:R", key := some "lp", useCand := true, role := some (true, 5), prio := some 100 }
def okResp (tid : Nat) : Msg := { cls := 2, tid := tid, key := some "rp" }
/-- authenticated request whose role attribute conflicts with a controlled agent of tie-breaker 0 -/
def conflictReq : Msg :=
  { cls := 0, tid := 1001, user := some "L:R", key := some "lp", role := some (false, 0), prio := some 100 }

/-- controlling side: check, response, nomination (USE-CANDIDATE) at the 200 ms tick -/
def evsCtl : List Ev :=
  [.addLocal 0 lc, .addRemote 0 rc1, .start 0 true "R" "rp", .inbound 1 16 32 (okResp 2), .advance 300000000]
/-- controlled side: USE-CANDIDATE arrives before the pair is valid -/
def evsCld : List Ev := [.addLocal 0 lc, .addRemote 0 rc1, .start 0 false "R" "rp", .inbound 1 16 32 (ucReq 1001)]
/-- controlled, two pairs, the lower-priority pair 2 selected, the higher pair 1 valid -/
def evsDown : List Ev :=
  [.addLocal 0 lc, .addRemote 0 rc1, .addRemote 0 rc2, .start 0 false "R" "rp",
   .inbound 1 16 48 (ucReq 1001), .inbound 2 16 48 (okResp 4), .inbound 3 16 32 (okResp 2)]
/-- … the higher pair 1 nominated before it is valid -/
def evsDown2 : List Ev :=
  [.addLocal 0 lc, .addRemote 0 rc1, .addRemote 0 rc2, .start 0 false "R" "rp",
   .inbound 1 16 48 (ucReq 1001), .inbound 2 16 48 (okResp 4), .inbound 3 16 32 (ucReq 1002)]

-- the histories above start from initial agents, so their end states are `Reachable`
example : Reachable (run full0 evsCld) := ⟨full0, evsCld, ⟨rfl, rfl, rfl, rfl⟩, rfl⟩
example : Reachable (run lite0 (evsCld.take 3)) := ⟨lite0, evsCld.take 3, ⟨rfl, rfl, rfl, rfl⟩, rfl⟩

/-- `Inv3` holds in every reachable state … -/
theorem C03_invariant (a : Agent) (h : Reachable a) : Inv3 a := Inv3_reachable h

/-- … because it holds initially and EVERY step preserves it (from any state satisfying it). -/
theorem C03_invariant_step (a : Agent) (e : Ev) (h : Inv3 a) : Inv3 (step a e).1 := Inv3_step e h

/-- What `Inv3` says, spelled out. For every listed pair `p`: full agent — valid ⇒ an authenticated,
transaction-matched success response arrived on it (lite agent: … or it was validated by an authenticated
nomination); a deferred nomination mark ⇒ an authenticated nominating request arrived on it; a USE-CANDIDATE
response is a response. The selected pair is listed, valid, nominated, has its response (unless the agent is
lite) and a nomination proof. Pair ids are unique. -/
theorem C03_invariant_spec (a : Agent) (h : Inv3 a) :
    (∀ p ∈ a.checklist,
      (a.cfg.lite = false → p.state = .succeeded → p.gResp = true) ∧
      (p.state = .succeeded → p.gResp = true ∨ (a.cfg.lite = true ∧ p.gNomReq = true)) ∧
      (p.nomOnSuccess = true → p.gNomReq = true) ∧
      (p.gRespUC = true → p.gResp = true)) ∧
    (∀ id, a.selected = some id → ∃ sp, a.pairById id = some sp ∧ sp.state = .succeeded ∧ sp.nominated = true ∧
      (a.cfg.lite = true ∨ sp.gResp = true) ∧ (sp.gRespUC = true ∨ sp.gNomReq = true)) ∧
    (∀ p ∈ a.checklist, ∀ q ∈ a.checklist, p.id = q.id → p = q) := by
  refine ⟨?_, ?_, fun p hp q hq e => mem_unique h.ids hp hq e⟩
  · intro p hp
    have hk := h.pairs p hp
    refine ⟨fun hl hs => ?_, hk.valid, hk.deferred, hk.respUC⟩
    rcases hk.valid hs with h1 | ⟨h1, _⟩
    · exact h1
    · rw [hl] at h1; cases h1
  · intro id hs
    obtain ⟨sp, hsp, hid, hk⟩ := h.sel id hs
    refine ⟨sp, hid ▸ pairById_of_mem h.ids hsp, hk.succ, hk.nominated, ?_, hk.nom⟩
    rcases (h.pairs sp hsp).valid hk.succ with h1 | ⟨h1, _⟩
    · exact Or.inr h1
    · exact Or.inl h1

example : (run full0 evsCld).checklist ≠ [] ∧ (run full0 (evsCld ++ [.inbound 2 16 32 (okResp 4)])).selected = some 1 := by
  decide +kernel

/-- Ghost flags and validity are monotone: as long as a pair id stays listed they are never reset by any
step (also across prflx supersession, which keeps the id). -/
theorem C03_ghost_monotone (a : Agent) (h : Reachable a) (e : Ev) (p p' : Pair) (hp : p ∈ a.checklist)
    (hp' : p' ∈ (step a e).1.checklist) (hid : p'.id = p.id) :
    (p.gReq = true → p'.gReq = true) ∧ (p.gNomReq = true → p'.gNomReq = true) ∧
    (p.gResp = true → p'.gResp = true) ∧ (p.gRespUC = true → p'.gRespUC = true) ∧
    (p.state = .succeeded → p'.state = .succeeded) := by
  have hi := Inv3_reachable h
  have := ((step_hsel a e).rel hi).flag_transfer hi hp hp' hid
  exact ⟨this.gReq, this.gNomReq, this.gResp, this.gRespUC, this.succ⟩

example : ∃ p ∈ (run full0 evsCld).checklist, p.gNomReq = true := by decide +kernel

/-- **Only validated and nominated pairs become selected.** Full agent, any reachable state, any event:
if pair `id` BECOMES the selected pair in this step then (1) the role did not change in this step (so "the
role" below is the pre- and the post-state role), (2) in the post-state the pair is listed, valid, nominated
and has an authenticated transaction-matched success response of its own, and (3) controlling role: that
response answered a request of ours that carried USE-CANDIDATE; controlled role: an authenticated request
with USE-CANDIDATE (or a nomination value) was received on this very pair. -/
theorem C03_selected_valid_nominated (a : Agent) (h : Reachable a) (e : Ev) (id : Nat)
    (hfull : a.cfg.lite = false)
    (hsel : (step a e).1.selected = some id) (hnew : a.selected ≠ some id) :
    (step a e).1.controlling = a.controlling ∧
    ∃ p, (step a e).1.pairById id = some p ∧ p.state = .succeeded ∧ p.nominated = true ∧ p.gResp = true ∧
      (if (step a e).1.controlling then p.gRespUC = true else p.gNomReq = true) := by
  have hi := Inv3_reachable h
  have hS := step_hsel a e
  have hi' := hS.inv hi
  obtain ⟨hc, p1, hp1, hid1, hn1⟩ := hS.sel hi id hsel hnew
  obtain ⟨p, hp, hid, hk⟩ := hi'.sel id hsel
  have e1 : p1 = p := mem_unique hi'.ids hp1 hp (hid1.trans hid.symm)
  subst e1
  refine ⟨hc, p1, hid ▸ pairById_of_mem hi'.ids hp, hk.succ, hk.nominated, ?_, ?_⟩
  · rcases (hi'.pairs p1 hp).valid hk.succ with h1 | ⟨h1, _⟩
    · exact h1
    · rw [hS.cfg, hfull] at h1; cases h1
  · rw [hc]; exact hn1

/-- A role flip (role conflict, `start`) and a new selection never happen in the same step. -/
theorem C03_role_flip_keeps_selection (a : Agent) (h : Reachable a) (e : Ev)
    (hflip : (step a e).1.controlling ≠ a.controlling) (id : Nat) (hsel : (step a e).1.selected = some id) :
    a.selected = some id := by
  apply Classical.byContradiction
  intro hnew
  exact hflip ((step_hsel a e).sel (Inv3_reachable h) id hsel hnew).1

-- controlling side: the response to the USE-CANDIDATE check (tid 4) selects pair 1
example : (run full0 evsCtl).selected = none ∧ (run full0 evsCtl).controlling = true ∧
    (step (run full0 evsCtl) (.inbound 300000001 16 32 (okResp 4))).1.selected = some 1 := by decide +kernel
-- controlled side: the response to its own check (tid 2) selects the pair nominated earlier
example : (run full0 evsCld).selected = none ∧ (run full0 evsCld).controlling = false ∧
    (step (run full0 evsCld) (.inbound 2 16 32 (okResp 2))).1.selected = some 1 := by decide +kernel

/-- Every Binding request emitted in a step carries the role the agent has AFTER the step (a role flip
happens before anything is sent in that step), and a request with USE-CANDIDATE carries ICE-CONTROLLING:
it was built while controlling. Holds from ANY state. -/
theorem C03_controlled_never_sends_use_candidate (a : Agent) (e : Ev) (f t : Nat) (m : Msg)
    (hm : Out.dgram f t m ∈ (step a e).2) (hreq : m.cls = 0) :
    (∃ tb, m.role = some ((step a e).1.controlling, tb)) ∧
    (m.useCand = true → (step a e).1.controlling = true ∧ ∃ tb, m.role = some (true, tb)) := by
  obtain ⟨⟨tb, hr⟩, hu⟩ := (step_hsel a e).out f t m hm hreq
  exact ⟨⟨tb, hr⟩, fun h => ⟨hu h, tb, by rw [hr, hu h]⟩⟩

/-- `RenominateCandidate` on a controlled agent is refused: nothing is sent, nothing changes. -/
theorem C03_controlled_renominate_sends_nothing (a : Agent) (now la ri v : Nat) (hc : a.controlling = false) :
    step a (.renominate now la ri v) = (a, [.res "err:notcontrolling"]) := by
  simp [step, hc]

/-- the USE-CANDIDATE check the controlling agent of `evsCtl` sends at its 200 ms tick -/
def nominationCheck : Msg :=
  { cls := 0, tid := 4, user := some "R:L", key := some "rp", prio := some 2130706431, useCand := true, role := some (true, 0) }

example : Out.dgram 16 32 nominationCheck ∈ (step (run full0 (evsCtl.take 4)) (.advance 300000000)).2 := by
  decide +kernel

/-- **A plain USE-CANDIDATE never moves the selection downward.** Agent with the priority check (full, or
lite with `useCandCheckPriority`), reachable state, an inbound STUN message that moves the selection from
pair `pid` to a different pair `qid`, where the message is plain: a request without nomination value, or a
success response on a pair whose deferred nomination carried no value (and, for an agent that is
controlling, whose own request carried none — value-carrying nominations are renomination, C20). Then
`pairPrio pid ≤ pairPrio qid`, both evaluated in the POST-state (the pair `qid` may have been created in
this very step by a lite agent; both pairs are listed there: `qid` is selected, and the statement is about
every listed pair with these ids). -/
theorem C03_no_downward_switch (a : Agent) (h : Reachable a) (now la src : Nat) (m : Msg) (pid qid : Nat)
    (hneed : needsPrioCheck a.cfg = true)
    (hplainReq : m.cls = 0 → m.nom = none)
    (hplainResp : m.cls = 2 → (∀ q0 ∈ a.checklist, q0.id = qid → q0.deferredNom = none) ∧
      (∀ pd ∈ a.pending, pd.tid = m.tid → pd.nom = none))
    (hs : a.selected = some pid) (hs' : (step a (.inbound now la src m)).1.selected = some qid)
    (hne : pid ≠ qid) :
    ∀ p ∈ (step a (.inbound now la src m)).1.checklist, ∀ q ∈ (step a (.inbound now la src m)).1.checklist,
      p.id = pid → q.id = qid →
      (step a (.inbound now la src m)).1.pairPrio p ≤ (step a (.inbound now la src m)).1.pairPrio q :=
  (step_inbound_down a now la src m (Inv3_reachable h) hneed hplainReq hplainResp hs hs' hne).1.concl

/-- … strictly upward on the immediate path (the USE-CANDIDATE request itself moves the selection). -/
theorem C03_no_downward_switch_immediate (a : Agent) (h : Reachable a) (now la src : Nat) (m : Msg)
    (pid qid : Nat) (hneed : needsPrioCheck a.cfg = true) (hreq : m.cls = 0) (hplain : m.nom = none)
    (hs : a.selected = some pid) (hs' : (step a (.inbound now la src m)).1.selected = some qid)
    (hne : pid ≠ qid) :
    ∀ p ∈ (step a (.inbound now la src m)).1.checklist, ∀ q ∈ (step a (.inbound now la src m)).1.checklist,
      p.id = pid → q.id = qid →
      (step a (.inbound now la src m)).1.pairPrio p < (step a (.inbound now la src m)).1.pairPrio q :=
  ((step_inbound_down a now la src m (Inv3_reachable h) hneed (fun _ => hplain)
    (fun h2 => by rw [hreq] at h2; cases h2) hs hs' hne).2 hreq).concl

/-- A step that ends with a selected pair has dropped no pair (pairs only disappear by the wipes of
connection state Failed / Restart, which clear the selection): in particular when the selection moves from
`pid` to `qid` BOTH are listed in the post-state, so the comparisons above are never vacuous. -/
theorem C03_pairs_stay_listed (a : Agent) (h : Reachable a) (e : Ev) (hsel : (step a e).1.selected ≠ none) :
    (∀ p ∈ a.checklist, ∃ p' ∈ (step a e).1.checklist, p'.id = p.id) ∧
    (∀ pid, a.selected = some pid → ∃ p' ∈ (step a e).1.checklist, p'.id = pid) := by
  have hi := Inv3_reachable h
  have hf := (step_hsel a e).fwd hi hsel
  refine ⟨hf, fun pid hs => ?_⟩
  obtain ⟨p, hp, hid, _⟩ := hi.sel pid hs
  obtain ⟨p', hp', e'⟩ := hf p hp
  exact ⟨p', hp', e'.trans hid⟩

/-- The same comparison in the PRE-state, when it is well defined: both pairs exist before the step and the
message does not create a peer-reflexive candidate (it is a response, or a request from a known remote
address). Then the step leaves the priority of every pair unchanged (`pairPrio` is the same function of the
pair id before and after), so `pairPrio pid ≤ pairPrio qid` holds in the pre-state as well. -/
theorem C03_no_downward_switch_pre (a : Agent) (h : Reachable a) (now la src : Nat) (m : Msg) (pid qid : Nat)
    (hneed : needsPrioCheck a.cfg = true)
    (hplainReq : m.cls = 0 → m.nom = none)
    (hplainResp : m.cls = 2 → (∀ q0 ∈ a.checklist, q0.id = qid → q0.deferredNom = none) ∧
      (∀ pd ∈ a.pending, pd.tid = m.tid → pd.nom = none))
    (hknown : m.cls = 0 → ∀ l, a.localByAddr la = some l → ∃ r, a.findRemote l.net src = some r)
    (hs : a.selected = some pid) (hs' : (step a (.inbound now la src m)).1.selected = some qid)
    (hne : pid ≠ qid) :
    (∀ p ∈ a.checklist, ∀ p' ∈ (step a (.inbound now la src m)).1.checklist, p'.id = p.id →
      (step a (.inbound now la src m)).1.pairPrio p' = a.pairPrio p) ∧
    (∀ p ∈ a.checklist, ∀ q ∈ a.checklist, p.id = pid → q.id = qid → a.pairPrio p ≤ a.pairPrio q) ∧
    (m.cls = 0 → ∀ p ∈ a.checklist, ∀ q ∈ a.checklist, p.id = pid → q.id = qid → a.pairPrio p < a.pairPrio q) := by
  have hi := Inv3_reachable h
  have hr := step_inbound_rel_true a now la src m hknown hi
  have hsame : ∀ p ∈ a.checklist, ∀ p' ∈ (step a (.inbound now la src m)).1.checklist, p'.id = p.id →
      (step a (.inbound now la src m)).1.pairPrio p' = a.pairPrio p := by
    intro p hp p' hp' e
    obtain ⟨p0, hp0, e0, _, hpr⟩ := hr.old p' hp' (by rw [e]; exact hi.ids.le p hp)
    rw [hpr trivial, mem_unique hi.ids hp0 hp (e0.trans e)]
  have hf := (step_hsel a (.inbound now la src m)).fwd hi (by rw [hs']; exact fun h => by cases h)
  have hd := step_inbound_down a now la src m hi hneed hplainReq hplainResp hs hs' hne
  refine ⟨hsame, ?_, ?_⟩
  · intro p hp q hq e1 e2
    obtain ⟨p', hp', ep⟩ := hf p hp
    obtain ⟨q', hq', eq⟩ := hf q hq
    rw [← hsame p hp p' hp' ep, ← hsame q hq q' hq' eq]
    exact hd.1.concl p' hp' q' hq' (ep.trans e1) (eq.trans e2)
  · intro h0 p hp q hq e1 e2
    obtain ⟨p', hp', ep⟩ := hf p hp
    obtain ⟨q', hq', eq⟩ := hf q hq
    rw [← hsame p hp p' hp' ep, ← hsame q hq q' hq' eq]
    exact (hd.2 h0).concl p' hp' q' hq' (ep.trans e1) (eq.trans e2)

-- the hypothesis `hknown` of the pre-state version is satisfiable (the request of the next example comes from a known remote)
example : ((run full0 evsDown).localByAddr 16).all
    (fun l => ((run full0 evsDown).findRemote l.net 32).isSome) = true := by decide +kernel
-- immediate path: pair 2 selected, USE-CANDIDATE on the valid higher pair 1 moves the selection to it
example : (run full0 evsDown).selected = some 2 ∧ needsPrioCheck (run full0 evsDown).cfg = true ∧
    (step (run full0 evsDown) (.inbound 4 16 32 (ucReq 1002))).1.selected = some 1 := by decide +kernel
-- deferred path: the response validating the already nominated higher pair 1 moves the selection to it
example : (run full0 evsDown2).selected = some 2 ∧
    (∀ q0 ∈ (run full0 evsDown2).checklist, q0.id = 1 → q0.deferredNom = none) ∧
    (∀ pd ∈ (run full0 evsDown2).pending, pd.tid = 2 → pd.nom = none) ∧
    (step (run full0 evsDown2) (.inbound 4 16 32 (okResp 2))).1.selected = some 1 := by decide +kernel

/-- A lite agent that is in the controlled role after a step has emitted no Binding request in that step —
whatever the event (ticks, forced ticks, inbound requests/responses, API calls). Holds from ANY state. -/
theorem C03_lite_controlled_no_requests (a : Agent) (e : Ev) (hl : a.cfg.lite = true)
    (hc : (step a e).1.controlling = false) (f t : Nat) (m : Msg) (hm : Out.dgram f t m ∈ (step a e).2) :
    m.cls ≠ 0 := step_noReq a e hl hc f t m hm

/-- the ordinary check a lite agent sends right after a role conflict made it controlling -/
def liteFlipCheck : Msg :=
  { cls := 0, tid := 2, user := some "R:L", key := some "rp", prio := some 2130706431, role := some (true, 0) }

/-- The same with the PRE-state role would be false: a role conflict can turn a lite controlled agent into a
(lite) controlling one, whose forced tick in the same step sends an ordinary check (as a controlling agent —
`C03_controlled_never_sends_use_candidate` gives its role attribute). -/
theorem C03_lite_controlled_pre_role_witness :
    ¬ (∀ (a : Agent) (e : Ev), Reachable a → a.cfg.lite = true → a.controlling = false →
        ∀ f t m, Out.dgram f t m ∈ (step a e).2 → m.cls ≠ 0) := by
  intro hall
  have := hall (run lite0 [.addLocal 0 lc, .start 0 false "R" "rp"]) (.inbound 1 16 32 conflictReq)
    ⟨lite0, _, ⟨rfl, rfl, rfl, rfl⟩, rfl⟩ (by decide +kernel) (by decide +kernel) 16 32 liteFlipCheck (by decide +kernel)
  exact this rfl

/-- **A lite controlled agent selects on an authenticated nomination, without a check of its own.**
`Agent.handleInbound` is what `step` runs for an inbound STUN message (followed only by a pending forced
tick, which for a lite controlled agent is `validateSelectedPair`). For an authenticated Binding request
(USERNAME and MESSAGE-INTEGRITY verified) from a known remote `r` on local candidate `l`, without role
conflict, that carries USE-CANDIDATE or a nomination value accepted by `shouldAcceptNomination`: afterwards
the pair (l, r) — `reqPairId`, found or created — is valid (`state = succeeded`) although no check of the
agent's own was ever answered on it, its ghost log holds the nomination, the selection is this pair iff
`shouldSwitchSelectedPair` (`cldSw`, tied to the code by `C03_switch_rule_code`) holds in the decision
state, else unchanged; and no Binding request is emitted. -/
theorem C03_lite_controlled_selects_on_nomination (a : Agent) (h : Reachable a) (now : Nat) (l : Cand)
    (src : Nat) (m : Msg) (r : Cand)
    (hl : a.cfg.lite = true) (hc : a.controlling = false)
    (hmeth : m.method = 1) (hreq : m.cls = 0)
    (huser : m.user = some (a.localUfrag ++ ":" ++ a.remoteUfrag)) (hkey : m.key = some a.localPwd)
    (hr : a.findRemote l.net src = some r)
    (hrole : ∀ c tb, m.role = some (c, tb) → c ≠ a.controlling)
    (hn : (m.useCand || m.nom.isSome) = true) (hacc : acceptsNomination a m = true) :
    (∃ q ∈ (a.handleInbound now l src m).1.checklist, q.id = reqPairId a l r ∧ q.state = .succeeded ∧
        q.gNomReq = true) ∧
    (∃ p, (liteDecisionState a m l r).pairById (reqPairId a l r) = some p ∧
      (a.handleInbound now l src m).1.selected =
        if cldSw (liteDecisionState a m l r) (reqPairId a l r) m p then some (reqPairId a l r) else a.selected) ∧
    (∀ f t m', Out.dgram f t m' ∈ (a.handleInbound now l src m).2 → m'.cls ≠ 0) :=
  handleInbound_lite_nomination a now l src m r (Inv3_reachable h) hl hc hmeth hreq huser hkey hr hrole hn hacc

-- a lite controlled agent: the first authenticated USE-CANDIDATE selects the pair; no request is sent
example : (run lite0 (evsCld.take 3)).selected = none ∧ (run lite0 (evsCld.take 3)).cfg.lite = true ∧
    (run lite0 (evsCld.take 3)).controlling = false ∧
    (step (run lite0 (evsCld.take 3)) (.inbound 1 16 32 (ucReq 1001))).1.selected = some 1 ∧
    (∀ p ∈ (step (run lite0 (evsCld.take 3)) (.inbound 1 16 32 (ucReq 1001))).1.checklist, p.gResp = false) := by
  decide +kernel

/-! ## A check of its own (fix of F17)

A pending transaction records the address of the local candidate its request left from (`Pending.src`, Go:
`bindingRequest.source`) and a success response is accepted only on a local candidate with that address
(`responseSymmetric`, tie: `C02_symmetry_code`).  Hence a pair is validated only by the answer to a check sent on ITS
OWN addresses. -/

/-- local candidates 16 and 32, remote 176: the scenario of `corpus/C03/agent.ops` (F17) -/
def lcB : Cand := { uid := 0, ty := 1, net := 0, addr := 32, prio := 1694498815 }
def rcF : Cand := { uid := 0, ty := 1, net := 0, addr := 176, prio := 1862270975 }
/-- controlling agent; pair 2 (32>176) is validated (response to tid 4 on local 32) and nominated at the tick:
the USE-CANDIDATE check tid 6 leaves from 32 to 176 -/
def evsOwn : List Ev :=
  [.addLocal 0 lc, .addLocal 0 lcB, .addRemote 0 rcF, .start 0 true "R" "rp",
   .inbound 1 32 176 (okResp 4), .advance 300000000]

example : Fresh full0 := ⟨⟨rfl, rfl, rfl, rfl⟩, rfl, rfl⟩
example : (run full0 evsOwn).pending.map (fun pd => (pd.tid, pd.src, pd.dest, pd.useCand))
    = [(2, 16, 176, false), (6, 32, 176, true)] := by decide +kernel
example : requestLog full0 evsOwn = [(2, 16, 176), (4, 32, 176), (6, 32, 176)] := by decide +kernel

/-- **Every pending transaction is a request of the agent's own, sent from the recorded source to the recorded
destination** (K3).  Fresh agent (nothing listed, nothing pending), ANY history: for every pending entry `pd`
of the reached state some step of the history emitted a Binding request datagram with transaction id `pd.tid`
from address `pd.src` to address `pd.dest`. -/
theorem C03_pending_is_own_request (a0 : Agent) (evs : List Ev) (h0 : Fresh a0)
    (pd : Pending) (hpd : pd ∈ (run a0 evs).pending) :
    ∃ k, k < evs.length ∧ ∃ e m, evs[k]? = some e ∧
      Out.dgram pd.src pd.dest m ∈ (step (run a0 (evs.take k)) e).2 ∧ m.cls = 0 ∧ m.tid = pd.tid :=
  mem_requestLog ((own_run h0 evs).pending_logged hpd)

/-- **Every validated pair answered a check of its own — invariant form.**  Fresh agent (lite or full), ANY
history (the peer is an arbitrary source of messages, on any local candidate): every listed pair with `gResp`
(a transaction-matched authenticated success response arrived on it) had a Binding request of this agent
emitted, by some step of the history, from the address of ITS local candidate to the address of ITS remote
candidate.  (Both candidates exist for every listed pair of a non-closed agent: `C06_pair_ends_current`.)
Before the fix the witness below (`C03_foreign_response_ignored`) selected pair 1 without any request from 16
to 176 having been answered. -/
theorem C03_validated_by_own_check_inv (a0 : Agent) (evs : List Ev) (h0 : Fresh a0)
    (p : Pair) (hp : p ∈ (run a0 evs).checklist) (hg : p.gResp = true)
    (l r : Cand) (hl : (run a0 evs).localOf p.l = some l) (hr : (run a0 evs).remoteOf p.r = some r) :
    ∃ k, k < evs.length ∧ ∃ e m, evs[k]? = some e ∧
      Out.dgram l.addr r.addr m ∈ (step (run a0 (evs.take k)) e).2 ∧ m.cls = 0 := by
  obtain ⟨tid, ht⟩ := (own_run h0 evs).gResp_logged hp hg hl hr
  obtain ⟨k, hk, e, m, he, hm, hc, _⟩ := mem_requestLog ht
  exact ⟨k, hk, e, m, he, hm, hc⟩

/-- … so on a FULL agent every valid pair — in particular the selected pair — answered a check of its own:
it has `gResp` (`C03_invariant`) and a Binding request was sent from its local to its remote address. -/
theorem C03_selected_by_own_check (a0 : Agent) (evs : List Ev) (h0 : Fresh a0) (hfull : a0.cfg.lite = false) :
    (∀ p ∈ (run a0 evs).checklist, p.state = .succeeded → p.gResp = true) ∧
    (∀ id, (run a0 evs).selected = some id → ∃ sp, (run a0 evs).pairById id = some sp ∧ sp.gResp = true) ∧
    (∀ p ∈ (run a0 evs).checklist, p.state = .succeeded →
      ∀ l r, (run a0 evs).localOf p.l = some l → (run a0 evs).remoteOf p.r = some r →
      ∃ k, k < evs.length ∧ ∃ e m, evs[k]? = some e ∧
        Out.dgram l.addr r.addr m ∈ (step (run a0 (evs.take k)) e).2 ∧ m.cls = 0) := by
  have hi : Inv3 (run a0 evs) := Inv3_reachable ⟨a0, evs, h0.1, rfl⟩
  have hlite : (run a0 evs).cfg.lite = false := by
    have := (own_run h0 evs).lite_eq
    rw [hfull] at this
    exact this
  obtain ⟨hpairs, hsel, _⟩ := C03_invariant_spec _ hi
  refine ⟨fun p hp hs => (hpairs p hp).1 hlite hs, ?_, ?_⟩
  · intro id hs
    obtain ⟨sp, hsp, _, _, hg, _⟩ := hsel id hs
    refine ⟨sp, hsp, ?_⟩
    rcases hg with hg | hg
    · rw [hlite] at hg; cases hg
    · exact hg
  · intro p hp hs l r hl hr
    exact C03_validated_by_own_check_inv a0 evs h0 p hp ((hpairs p hp).1 hlite hs) l r hl hr

/-- **Every validated pair answered a check of its own — step form.**  ANY state `a` (no invariant needed), ANY
event `e`: if the step newly validates a listed pair `p'` — sets `gResp`, or, on a full agent, sets its state to
Succeeded, where no pair with that id had it before the step — then

* the event is the arrival of an authenticated (`m.key = remotePwd`) Binding success response `m` on the local
  candidate `l` (`localByAddr la`) from the address `src` of the known remote candidate `r`;
* its transaction was pending and unexpired, `pd` is the entry this step consumes (`takePending`), and `pd` passed
  the symmetry test: sent over `l`'s network type, TO the response's source, FROM the address of the local
  candidate the response arrived on (`pd.src = l.addr` — the conjunct added by the fix of F17);
* `p'` is the pair of `(l, r)`: the pre-state pair `p = findPair l r` has `p'`'s id, and its own local and
  remote candidates `pl`, `pr` have `pl.addr = pd.src` and `pr.addr = pd.dest`: the response answered a request
  that was sent from THAT pair's local address to THAT pair's remote address.

No other event, timer or forced tick validates a pair (`IceProofs.C03.step_own`, relation `NoNew`). -/
theorem C03_validated_by_own_check (a : Agent) (e : Ev) (p' : Pair) (hp' : p' ∈ (step a e).1.checklist)
    (hnew : (p'.gResp = true ∧ ∀ p ∈ a.checklist, p.id = p'.id → p.gResp = false) ∨
            (a.cfg.lite = false ∧ p'.state = .succeeded ∧ ∀ p ∈ a.checklist, p.id = p'.id → p.state ≠ .succeeded)) :
    ∃ now la src m l r pd p pl pr,
      e = .inbound now la src m ∧ m.method = 1 ∧ m.cls = 2 ∧ m.key = some a.remotePwd ∧
      a.localByAddr la = some l ∧ a.findRemote l.net src = some r ∧
      (a.takePending now m.tid).2 = some pd ∧ pd ∈ a.pending ∧ pd.tid = m.tid ∧
      pd.net = l.net ∧ pd.dest = src ∧ pd.src = l.addr ∧
      a.findPair l r = some p ∧ p.id = p'.id ∧ p ∈ a.checklist ∧
      a.localOf p.l = some pl ∧ a.remoteOf p.r = some pr ∧ pl.addr = pd.src ∧ pr.addr = pd.dest :=
  step_validates_own a e p' hp' hnew

-- non-vacuity: the step `.inbound 1 32 176 (okResp 4)` of `evsOwn` newly validates pair 2 (both forms of the
-- hypothesis), and the entry it consumes was sent from 32 to 176
example :
    let a := run full0 (evsOwn.take 4)
    ∃ p' ∈ (step a (.inbound 1 32 176 (okResp 4))).1.checklist, p'.id = 2 ∧
      (p'.gResp = true ∧ ∀ p ∈ a.checklist, p.id = p'.id → p.gResp = false) ∧
      (a.cfg.lite = false ∧ p'.state = .succeeded ∧ ∀ p ∈ a.checklist, p.id = p'.id → p.state ≠ .succeeded) ∧
      ((a.takePending 1 4).2.map fun pd => (pd.src, pd.dest)) = some (32, 176) := by decide +kernel

-- non-vacuity: pair 2 of `evsOwn` is valid, has its ends, and the request from 32 to 176 is the one of step 4
example : ∃ p ∈ (run full0 evsOwn).checklist, p.id = 2 ∧ p.gResp = true ∧ p.state = .succeeded ∧
    ((run full0 evsOwn).localOf p.l).map (·.addr) = some 32 ∧
    ((run full0 evsOwn).remoteOf p.r).map (·.addr) = some 176 := by decide +kernel

/-- **The F17 replay on the model** (`corpus/C03/agent.ops`): the response to the USE-CANDIDATE check tid 6, which
left from local address 32, arriving on local address 16 validates nothing and selects nothing (the
transaction is consumed); arriving on 32 it selects pair 2.  Before the fix the first case marked pair 1
(16>176) Succeeded and selected it. -/
theorem C03_foreign_response_ignored :
    (step (run full0 evsOwn) (.inbound 300000001 16 176 (okResp 6))).1.selected = none ∧
    (step (run full0 evsOwn) (.inbound 300000001 16 176 (okResp 6))).1.checklist = (run full0 evsOwn).checklist ∧
    (step (run full0 evsOwn) (.inbound 300000001 16 176 (okResp 6))).1.pending.map (·.tid) = [2] ∧
    (step (run full0 evsOwn) (.inbound 300000001 32 176 (okResp 6))).1.selected = some 2 := by decide +kernel

/-- The switch rule and its guards as they are in the CURRENT source (regenerated on every run): for all
arguments the generated `shouldSwitchSelectedPair` equals the rule `cldHandleRequest` applies inline, the
generated `needsToCheckPriorityOnNominated` equals `needsPrioCheck`, and the generated
`shouldAcceptNomination` decision equals `acceptsNomination`. -/
theorem C03_switch_rule_code :
    (∀ (hasSelected samePair hasValue hasLast needsPrio : Bool) (sp pp : UInt64),
      IceGen.controlledSelector_shouldSwitchSelectedPair hasSelected samePair hasValue hasLast needsPrio sp pp =
      shouldSwitch hasSelected samePair hasValue hasLast needsPrio sp.toNat pp.toNat) ∧
    (∀ (a : Agent) (id : Nat) (m : Msg) (p : Pair),
      cldSw a id m p =
      match a.selected.bind a.pairById with
      | none => shouldSwitch false false m.nom.isSome a.lastNomination.isSome (needsPrioCheck a.cfg) 0 (a.pairPrio p)
      | some sp => shouldSwitch true (sp.id == id) m.nom.isSome a.lastNomination.isSome (needsPrioCheck a.cfg)
          (a.pairPrio sp) (a.pairPrio p)) ∧
    (∀ cfg : Config, IceGen.agent_needsToCheckPriorityOnNominated cfg.lite cfg.useCandCheckPriority = needsPrioCheck cfg) ∧
    (∀ (a : Agent) (m : Msg) (v last : UInt32), (m.nom = none ∨ m.nom = some v.toNat) →
      (a.lastNomination = none ∨ a.lastNomination = some last.toNat) →
      (IceGen.controlledSelector_shouldAcceptNomination m.nom.isSome v a.lastNomination.isSome last).2 =
      acceptsNomination a m) :=
  ⟨shouldSwitch_gen_eq_model, cldSw_eq_shouldSwitch, needsPrio_gen_eq_model, shouldAccept_gen_eq_model⟩

example : IceGen.controlledSelector_shouldSwitchSelectedPair true false false false true 5 7 = true ∧
    IceGen.controlledSelector_shouldSwitchSelectedPair true false false false true 7 7 = false ∧
    -- once a nomination value has been accepted a value-less nomination no longer moves the selection (fix of F29)
    IceGen.controlledSelector_shouldSwitchSelectedPair true false false true true 5 7 = false := by decide +kernel

/-- `controllingSelector.isNominatable` (selection.go, regenerated on every run) is the model's `Agent.nominatable`: for
every candidate type code and all non-negative durations, the candidate is nominatable iff the selector has run for at
least the wait of its type (an unknown type never is) -/
theorem C03_code_isNominatable (a : Agent) (now : Nat) (c : Cand) (ty : UInt8) (elapsed hw sw pw rw : Int64)
    (h0 : 0 ≤ elapsed.toInt) (h1 : 0 ≤ hw.toInt) (h2 : 0 ≤ sw.toInt) (h3 : 0 ≤ pw.toInt) (h4 : 0 ≤ rw.toInt)
    (ht : ty.toNat = c.ty) (he : IceTie.AgentSuccess.dur elapsed = now - a.selStart)
    (e1 : IceTie.AgentSuccess.dur hw = a.cfg.hostWait) (e2 : IceTie.AgentSuccess.dur sw = a.cfg.srflxWait)
    (e3 : IceTie.AgentSuccess.dur pw = a.cfg.prflxWait) (e4 : IceTie.AgentSuccess.dur rw = a.cfg.relayWait) :
    IceGen.controllingSelector_isNominatable ty elapsed hw sw pw rw = a.nominatable now c :=
  IceTie.AgentSuccess.isNominatable_model a now c ty elapsed hw sw pw rw h0 h1 h2 h3 h4 ht he e1 e2 e3 e4

/-- non-vacuity: the default waits (host 0, srflx 500 ms, prflx 1 s, relay 2 s) at 600 ms -/
example : IceGen.controllingSelector_isNominatable 1 600000000 0 500000000 1000000000 2000000000 = true ∧
    IceGen.controllingSelector_isNominatable 2 600000000 0 500000000 1000000000 2000000000 = true ∧
    IceGen.controllingSelector_isNominatable 3 600000000 0 500000000 1000000000 2000000000 = false ∧
    IceGen.controllingSelector_isNominatable 4 600000000 0 500000000 1000000000 2000000000 = false ∧
    IceGen.controllingSelector_isNominatable 0 600000000 0 0 0 0 = false := by decide +kernel
example : (0 : Int64).toInt ≥ 0 ∧ IceTie.AgentSuccess.dur 500000000 = ({} : Config).srflxWait := by decide +kernel

/-- `ContactCandidates` of both selectors and `controllingSelector.HandleBindingRequest` (selection.go, regenerated in effect mode
on every run), for ALL arguments: what a tick does — validate + keepalive on a selected pair, re-nominate the nominated pair,
nominate the best valid pair only when BOTH its candidates are nominatable (marked and remembered first), else ping — and when an
inbound request makes the controlling agent nominate: only on a listed, succeeded pair, with nothing nominated and nothing
selected, that is the best available pair with nominatable candidates -/
theorem C03_code_tick_and_request
    (hasSelected selectedValid autoRenom enableRenom hasNominated hasBestValid localOk remoteOk hasPair hasBest bestIsPair : Bool)
    (pairState : Int64) :
    IceGen.controllingSelector_ContactCandidates hasSelected selectedValid autoRenom enableRenom hasNominated hasBestValid
        localOk remoteOk
      = (if hasSelected then
          IceTie.AgentSelector.c "validateSelectedPair" :: (if selectedValid then
            [IceTie.AgentSelector.c "checkKeepalive"]
              ++ (if autoRenom && enableRenom then [IceTie.AgentSelector.c "keepAliveCandidatesForRenomination"] else [])
              ++ [IceTie.AgentSelector.c "checkForAutomaticRenomination"] else [])
        else if hasNominated then [IceTie.AgentSelector.c "nominatePair"]
        else if hasBestValid && localOk && remoteOk then
          [IceModel.Eff.set "p.nominated" (IceModel.Val.b true), IceModel.Eff.set "s.nominatedPair" (IceModel.Val.s "bestValid"),
           IceTie.AgentSelector.c "nominatePair"]
        else [IceTie.AgentSelector.c "pingAllCandidates"]) ∧
    IceGen.controlledSelector_ContactCandidates hasSelected selectedValid
      = (if hasSelected then IceTie.AgentSelector.c "validateSelectedPair" ::
            (if selectedValid then [IceTie.AgentSelector.c "checkKeepalive"] else [])
         else [IceTie.AgentSelector.c "pingAllCandidates"]) ∧
    IceGen.controllingSelector_HandleBindingRequest hasPair pairState hasNominated hasSelected hasBest bestIsPair localOk remoteOk
      = IceTie.AgentSelector.c "sendBindingSuccess" ::
        (if !hasPair then [IceTie.AgentSelector.c "addPair", IceTie.AgentSelector.c "updateRequestReceived"]
         else IceTie.AgentSelector.c "updateRequestReceived" ::
           ((if pairState == 4 && !hasNominated && !hasSelected && hasBest && bestIsPair && localOk && remoteOk
             then [IceModel.Eff.set "s.nominatedPair" (IceModel.Val.s "pair"), IceTie.AgentSelector.c "nominatePair"] else [])
            ++ [IceTie.AgentSelector.c "customHandler"])) :=
  ⟨IceTie.AgentSelector.ctlContactCandidates_tie hasSelected selectedValid autoRenom enableRenom hasNominated hasBestValid localOk remoteOk,
   IceTie.AgentSelector.cldContactCandidates_tie hasSelected selectedValid,
   IceTie.AgentSelector.ctlHandleBindingRequest_tie hasPair pairState hasNominated hasSelected hasBest bestIsPair localOk remoteOk⟩

/-- … and the model's tick is the same decision tree (every state; definitional unfolding of `Agent.contactCandidates`) -/
theorem C03_model_tick (a : Agent) (now : Nat) :
    (a.controlling = true → a.contactCandidates now =
      if a.selected.isSome then
        (if (a.validateSelected now).2.2 then
          ((((a.validateSelected now).1.keepalive now).1.autoRenom now).1,
           (a.validateSelected now).2.1 ++ ((a.validateSelected now).1.keepalive now).2 ++
             (((a.validateSelected now).1.keepalive now).1.autoRenom now).2)
         else ((a.validateSelected now).1, (a.validateSelected now).2.1))
      else match a.nominatedPair.bind a.pairById with
        | some p => a.nominate now p
        | none =>
          match a.nominatedPair with
          | some _ => (a, [])
          | none =>
            match a.bestValid with
            | some p =>
              match a.localOf p.l, a.remoteOf p.r with
              | some l, some r =>
                if a.nominatable now l && a.nominatable now r then
                  ({ (a.modPair p.id fun p => { p with nominated := true }) with nominatedPair := some p.id }).nominate now p
                else a.pingAll now
              | _, _ => a.pingAll now
            | none => a.pingAll now) ∧
    (a.controlling = false → a.cfg.lite = false → a.contactCandidates now =
      if a.selected.isSome then
        (if (a.validateSelected now).2.2 then
          (((a.validateSelected now).1.keepalive now).1, (a.validateSelected now).2.1 ++ ((a.validateSelected now).1.keepalive now).2)
         else ((a.validateSelected now).1, (a.validateSelected now).2.1))
      else a.pingAll now) :=
  ⟨IceTie.AgentSelector.contactCandidates_controlling a now, IceTie.AgentSelector.contactCandidates_controlled a now⟩

example : IceGen.controllingSelector_ContactCandidates false false false false false true true false
      = [IceModel.Eff.call "pingAllCandidates" []] ∧
    IceGen.controllingSelector_ContactCandidates false false false false false true true true
      = [IceModel.Eff.set "p.nominated" (IceModel.Val.b true), IceModel.Eff.set "s.nominatedPair" (IceModel.Val.s "bestValid"),
         IceModel.Eff.call "nominatePair" []] ∧
    IceGen.controllingSelector_HandleBindingRequest true 4 false false true true true true
      = [IceModel.Eff.call "sendBindingSuccess" [], IceModel.Eff.call "updateRequestReceived" [],
         IceModel.Eff.set "s.nominatedPair" (IceModel.Val.s "pair"), IceModel.Eff.call "nominatePair" [],
         IceModel.Eff.call "customHandler" []] := by decide +kernel

/-- the source address a response is matched against (`netAddrToAddrPort`, `portFitsInUint16`; addr.go, regenerated): every port
0 … 65535 — 65535 included — of a UDP or TCP address is valid, so a check answered from port 65535 is not discarded as coming from
an invalid source -/
theorem C03_code_source_port (isUDPAddr isTCPAddr : Bool) (port : Int64) (parseFails : Bool)
    (hk : (isUDPAddr || isTCPAddr) = true) (h0 : 0 ≤ port.toInt) (h1 : port.toInt ≤ 65535) :
    IceGen.portFitsInUint16 port = true ∧
    IceGen.netAddrToAddrPort false isUDPAddr isTCPAddr false port parseFails = "a.AddrPort()" := by
  refine ⟨?_, IceTie.Addr.netAddrToAddrPort_valid isUDPAddr isTCPAddr port parseFails hk h0 h1⟩
  rw [IceTie.Addr.portFitsInUint16_tie]
  simp [h0, h1]

example : IceGen.portFitsInUint16 65535 = true := by decide +kernel

open IceTie.AgentDispatch in
/-- `controllingSelector.nominatePair`: the nomination request carries USE-CANDIDATE, the controlling role, the local priority,
the username `remote:local` and the remote password, and goes out through `sendBindingRequest`; the model's `nominate` is
`sendRequest … true none`, whose datagram has exactly these fields -/
theorem C03_code_nominatePair :
    (∀ buildErr, IceGen.controllingSelector_nominatePair buildErr
      = [c "attrs(BindingRequest,TransactionID,Username(remote:local),UseCandidate,Controlling,Priority)",
         c "attrs+=(Integrity(remotePwd),Fingerprint)"] ++ (if buildErr then [] else [c "sendBindingRequest"])) ∧
    (∀ (a : Agent) (now : Nat) (p : Pair) (l r : Cand), a.localOf p.l = some l → a.remoteOf p.r = some r →
      a.nominate now p = a.sendRequest now l r true none) ∧
    (∀ (a : Agent) (now : Nat) (l r : Cand) (uc : Bool) (nom : Option Nat), ∃ tid, (a.sendRequest now l r uc nom).2 =
      [.dgram l.addr r.addr { cls := 0, tid := tid, user := some (a.remoteUfrag ++ ":" ++ a.localUfrag), key := some a.remotePwd,
                               prio := some l.prio, useCand := uc, role := some (a.controlling, a.tieBreaker), nom := nom }]) :=
  ⟨nominatePair_tie, nominate_model, sendRequest_msg⟩

example : (IceGen.controllingSelector_nominatePair false).length = 3 ∧ (IceGen.controllingSelector_nominatePair true).length = 2 := by
  decide +kernel

open IceTie.AgentTick in
/-- one iteration of `getBestValidCandidatePair` (the pair `ContactCandidates` nominates): only a Succeeded pair (state 4) can
become `best`; the first one does, a later one only with a strictly higher priority; the model's `bestBy` folds the same step -/
theorem C03_code_bestValid_iter :
    (∀ state bestNil bestPrio pPrio, IceGen.agent_getBestValidCandidatePair_iter state bestNil bestPrio pPrio
      = bestEffs (state == 4 && (bestNil || decide (bestPrio.toNat < pPrio.toNat)))) ∧
    (∀ (a : Agent) (ok : Pair → Bool), a.bestBy ok = a.checklist.foldl (bestStep a ok) none) ∧
    (∀ (a : Agent) (ok : Pair → Bool) (best : Option Pair) (p : Pair), bestStep a ok best p =
      if ok p && (best.isNone || decide ((best.map a.pairPrio).getD 0 < a.pairPrio p)) then some p else best) :=
  ⟨getBestValidCandidatePair_iter_tie, bestBy_fold, bestStep_take⟩

example : IceGen.agent_getBestValidCandidatePair_iter 2 true 0 9 = IceTie.AgentTick.bestEffs false ∧
    IceGen.agent_getBestValidCandidatePair_iter 4 false 5 5 = IceTie.AgentTick.bestEffs false ∧
    IceGen.agent_getBestValidCandidatePair_iter 4 false 5 6 = IceTie.AgentTick.bestEffs true := by decide +kernel

open IceTie.AgentDefaults in
/-- agent_config.go `initWithDefaults`, nomination fields: `maxBindingRequests` 7, acceptance waits host 0 / srflx 500 ms /
prflx 1 s / relay 2 s (0 for a relay-only agent) unless configured — the field defaults of the model's `Config` -/
theorem C03_code_acceptance_defaults :
    (∀ n1 v1 n2 v2 n3 v3 n4 v4 n5 v5 relayDefault,
      IceGen.agentConfig_initWithDefaults_nomination n1 v1 n2 v2 n3 v3 n4 v4 n5 v5 relayDefault
      = [setN "agent.maxBindingRequests" n1 7 v1, setI "agent.hostAcceptanceMinWait" n2 0 v2,
         setI "agent.srflxAcceptanceMinWait" n3 500000000 v3, setI "agent.prflxAcceptanceMinWait" n4 1000000000 v4,
         setI "agent.relayAcceptanceMinWait" n5 relayDefault v5]) ∧
    (∀ one ty0, IceGen.defaultRelayAcceptanceMinWaitFor one ty0 = if one && ty0 == 4 then 0 else 2000000000) ∧
    (∀ v w, IceGen.agentConfig_initWithDefaults_nomination true w true v true v true v true v (IceGen.defaultRelayAcceptanceMinWaitFor false 0)
      = [IceModel.Eff.set "agent.maxBindingRequests" (IceModel.Val.n ({} : Config).maxBindingRequests),
         IceModel.Eff.set "agent.hostAcceptanceMinWait" (IceModel.Val.i ({} : Config).hostWait),
         IceModel.Eff.set "agent.srflxAcceptanceMinWait" (IceModel.Val.i ({} : Config).srflxWait),
         IceModel.Eff.set "agent.prflxAcceptanceMinWait" (IceModel.Val.i ({} : Config).prflxWait),
         IceModel.Eff.set "agent.relayAcceptanceMinWait" (IceModel.Val.i ({} : Config).relayWait)]) :=
  ⟨initWithDefaults_nomination_tie, defaultRelayAcceptanceMinWaitFor_tie, fun v w => (defaults_model v w).1⟩

example : IceGen.defaultRelayAcceptanceMinWaitFor true 4 = 0 ∧ IceGen.defaultRelayAcceptanceMinWaitFor true 1 = 2000000000 := by decide +kernel

/-- `WithMaxBindingRequests`, the four acceptance-wait options, `WithICELite`, `WithEnableUseCandidateCheckPriority`: refused on a
constructed agent, otherwise exactly one field written; through the field table they are the updates of the model's `Config` fields
`maxBindingRequests`, `hostWait` … `relayWait`, `lite`, `useCandCheckPriority` -/
theorem C03_code_nomination_options :
    (∀ constructed n, IceGen.opt_WithMaxBindingRequests constructed n = IceTie.Options.guard constructed ([IceTie.Options.setN "a.maxBindingRequests" n], "nil")) ∧
    (∀ constructed w,
      IceGen.opt_WithHostAcceptanceMinWait constructed w = IceTie.Options.guard constructed ([IceTie.Options.setI "a.hostAcceptanceMinWait" w], "nil") ∧
      IceGen.opt_WithSrflxAcceptanceMinWait constructed w = IceTie.Options.guard constructed ([IceTie.Options.setI "a.srflxAcceptanceMinWait" w], "nil") ∧
      IceGen.opt_WithPrflxAcceptanceMinWait constructed w = IceTie.Options.guard constructed ([IceTie.Options.setI "a.prflxAcceptanceMinWait" w], "nil") ∧
      IceGen.opt_WithRelayAcceptanceMinWait constructed w = IceTie.Options.guard constructed ([IceTie.Options.setI "a.relayAcceptanceMinWait" w], "nil")) ∧
    (∀ constructed lite, IceGen.opt_WithICELite constructed lite = IceTie.Options.guard constructed ([IceTie.Options.setB "a.lite" lite], "nil")) ∧
    (∀ constructed, IceGen.opt_WithEnableUseCandidateCheckPriority constructed
      = IceTie.Options.guard constructed ([IceTie.Options.setB "a.enableUseCandidateCheckPriority" true], "nil")) ∧
    (∀ (cfg : Config) (t : Int64) (n : UInt16),
      IceTie.Options.applyEffs cfg [IceTie.Options.setN "a.maxBindingRequests" n] = { cfg with maxBindingRequests := n.toNat } ∧
      IceTie.Options.applyEffs cfg [IceTie.Options.setI "a.hostAcceptanceMinWait" t] = { cfg with hostWait := t.toInt.toNat } ∧
      IceTie.Options.applyEffs cfg [IceTie.Options.setI "a.srflxAcceptanceMinWait" t] = { cfg with srflxWait := t.toInt.toNat } ∧
      IceTie.Options.applyEffs cfg [IceTie.Options.setI "a.prflxAcceptanceMinWait" t] = { cfg with prflxWait := t.toInt.toNat } ∧
      IceTie.Options.applyEffs cfg [IceTie.Options.setI "a.relayAcceptanceMinWait" t] = { cfg with relayWait := t.toInt.toNat }) :=
  ⟨IceTie.Options.WithMaxBindingRequests_tie, IceTie.Options.acceptanceWaits_tie, IceTie.Options.WithICELite_tie, IceTie.Options.WithEnableUseCandidateCheckPriority_tie, IceTie.Options.nomination_cfg⟩

example : IceGen.opt_WithMaxBindingRequests false 3 = ([IceModel.Eff.set "a.maxBindingRequests" (IceModel.Val.n 3)], "nil") ∧
    (IceTie.Options.applyEffs {} (IceGen.opt_WithSrflxAcceptanceMinWait false 0).1).srflxWait = 0 ∧
    IceGen.opt_WithICELite true true = ([], "ErrAgentOptionNotUpdatable") := by decide +kernel

end IceProps.C03

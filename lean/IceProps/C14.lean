import IceProofs.Framing
import IceTie.Framing
/-!
# C14 — ICE-TCP framing preserves packet boundaries

Property theorems only (lemmas: `IceProofs/Framing.lean`; model: `IceModel/Framing.lean`; spec
monitors: `IceSpec/C14.lean`).  Every statement quantifies over ALL packet lists, ALL byte
streams and ALL segmentations `segs` (any list of segments — empty segments, i.e. `Read`s that
return `(0, nil)`, included — whose concatenation `segs.flatten` is the stream), ALL buffer
capacities and ALL terminal errors of the connection.  No bound on lengths or counts.

`readAll cap e segs` = (results of calling `readStreamingPacket` until it fails, ghost log of the
`Read` calls); `wire pkts` = the bytes `writeStreamingPacket` puts on a healthy connection.
-/
namespace IceProps.C14
open IceModel.Framing IceSpec.C14 IceProofs.Framing

/-- The reader is the RFC 4571 parser of the flattened stream: whatever the segmentation, the
results of the reading loop are exactly the frames the flat stream holds. -/
theorem C14_reader_is_parser (cap : Nat) (e : IoErr) (segs : Segs) :
    (readAll cap e segs).1 = parse cap e segs.flatten :=
  readAll_eq_parse cap e segs

example : (readAll 8 .eof [[0], [2, 7], [9, 0, 1], [5, 0]]).1 = [.pkt [7, 9], .pkt [5], .err .eof] := by decide +kernel

/-- Chunking is irrelevant: two segmentations of the same byte stream give the same results. -/
theorem C14_chunking_irrelevant (cap : Nat) (e : IoErr) (segs₁ segs₂ : Segs)
    (h : segs₁.flatten = segs₂.flatten) : (readAll cap e segs₁).1 = (readAll cap e segs₂).1 := by
  rw [C14_reader_is_parser, C14_reader_is_parser, h]

example : (readAll 8 .eof [[0, 2, 7, 9, 0, 1, 5]]).1 = (readAll 8 .eof [[0], [2], [], [7], [9, 0], [1, 5]]).1 := by
  decide +kernel

/-- Round trip: packets that fit the 16-bit field and the reader's buffer, written one after the
other and delivered in ANY segmentation, are read back as the same packets in the same order,
followed by the connection's terminal error. -/
theorem C14_roundtrip (cap : Nat) (e : IoErr) (pkts : List (List UInt8)) (segs : Segs)
    (h16 : ∀ p ∈ pkts, p.length ≤ 65535) (hcap : ∀ p ∈ pkts, p.length ≤ cap)
    (hs : segs.flatten = wire pkts) :
    (readAll cap e segs).1 = pkts.map .pkt ++ [.err e] := by
  rw [C14_reader_is_parser, hs]
  have := parse_wire_append cap e pkts [] h16 hcap
  rw [List.append_nil, parse_nil] at this
  exact this

example : (∀ p ∈ [[1, 2, 3], [], [9]], List.length (α := UInt8) p ≤ 65535) := by decide +kernel
example : [[0, 3, 1], [2, 3, 0, 0, 0], [1, 9]].flatten = wire [[1, 2, 3], [], [9]] := by decide +kernel
example : (readAll 3 .closed [[0, 3, 1], [2, 3, 0, 0, 0], [1, 9]]).1 = [.pkt [1, 2, 3], .pkt [], .pkt [9], .err .closed] := by
  decide +kernel

/-- The property's headline: packets up to the receive MTU, read with the users' 8192-byte buffer. -/
theorem C14_roundtrip_mtu (e : IoErr) (pkts : List (List UInt8)) (segs : Segs)
    (hmtu : ∀ p ∈ pkts, p.length ≤ 8192) (hs : segs.flatten = wire pkts) :
    (readAll 8192 e segs).1 = pkts.map .pkt ++ [.err e] :=
  C14_roundtrip 8192 e pkts segs (fun p hp => by have := hmtu p hp; omega) hmtu hs

example : (readAll 8192 .eof [[0, 2, 5], [6, 0], [0]]).1 = [.pkt [5, 6], .pkt [], .err .eof] := by decide +kernel

/-- Short buffer: after any packets that fit, a frame whose header announces more than `cap(buf)`
yields `(declared length, ErrShortBuffer)` — and nothing after it, whatever follows on the stream. -/
theorem C14_short_buffer (cap : Nat) (e : IoErr) (pkts : List (List UInt8)) (hi lo : UInt8)
    (tail : List UInt8) (segs : Segs)
    (h16 : ∀ p ∈ pkts, p.length ≤ 65535) (hcap : ∀ p ∈ pkts, p.length ≤ cap)
    (hbig : cap < hi.toNat * 256 + lo.toNat)
    (hs : segs.flatten = wire pkts ++ hi :: lo :: tail) :
    (readAll cap e segs).1 = pkts.map .pkt ++ [.shortBuffer (hi.toNat * 256 + lo.toNat)] := by
  rw [C14_reader_is_parser, hs, parse_wire_append cap e pkts _ h16 hcap, parse_cons_cons, if_pos hbig]

/-- … in particular for a well-formed frame of a packet larger than the buffer. -/
theorem C14_short_buffer_packet (cap : Nat) (e : IoErr) (pkts : List (List UInt8)) (big tail : List UInt8)
    (segs : Segs) (h16 : ∀ p ∈ pkts, p.length ≤ 65535) (hcap : ∀ p ∈ pkts, p.length ≤ cap)
    (hb16 : big.length ≤ 65535) (hbig : cap < big.length)
    (hs : segs.flatten = wire pkts ++ encode big ++ tail) :
    (readAll cap e segs).1 = pkts.map .pkt ++ [.shortBuffer big.length] := by
  obtain ⟨hi, lo, hh, hn⟩ := header_toNat big.length hb16
  have := C14_short_buffer cap e pkts hi lo (big ++ tail) segs h16 hcap (by omega)
    (by rw [hs, encode, hh]; simp)
  rw [hn] at this
  exact this

example : (readAll 2 .eof [[0, 1, 7, 0], [3, 1, 2, 3, 0, 0]]).1 = [.pkt [7], .shortBuffer 3] := by decide +kernel

/-- Truncation: a stream that ends inside a frame (after `k` bytes of it: inside the header, or
inside the body, or — `k = 0` — between frames) delivers the complete packets before it and then an
error, never a packet for the truncated frame: the connection's error, or short-buffer if the
complete header already announces more than the buffer holds. -/
theorem C14_truncated (cap : Nat) (e : IoErr) (pkts : List (List UInt8)) (q : List UInt8) (k : Nat)
    (segs : Segs) (h16 : ∀ p ∈ pkts, p.length ≤ 65535) (hcap : ∀ p ∈ pkts, p.length ≤ cap)
    (hq16 : q.length ≤ 65535) (hk : k < (encode q).length)
    (hs : segs.flatten = wire pkts ++ (encode q).take k) :
    (readAll cap e segs).1 =
      pkts.map .pkt ++ [if 2 ≤ k ∧ q.length > cap then .shortBuffer q.length else .err e] := by
  rw [C14_reader_is_parser, hs, parse_wire_append cap e pkts _ h16 hcap, parse_truncated cap e q k hq16 hk]
  split <;> rfl

/-- … the usual case: the truncated frame would have fitted, the error is the connection's. -/
theorem C14_truncated_fitting (cap : Nat) (e : IoErr) (pkts : List (List UInt8)) (q : List UInt8) (k : Nat)
    (segs : Segs) (h16 : ∀ p ∈ pkts, p.length ≤ 65535) (hcap : ∀ p ∈ pkts, p.length ≤ cap)
    (hq16 : q.length ≤ 65535) (hqcap : q.length ≤ cap) (hk : k < (encode q).length)
    (hs : segs.flatten = wire pkts ++ (encode q).take k) :
    (readAll cap e segs).1 = pkts.map .pkt ++ [.err e] := by
  rw [C14_truncated cap e pkts q k segs h16 hcap hq16 hk hs, if_neg (by omega)]

example : (readAll 8 .eof [[0, 1, 7, 0], [3, 1, 2]]).1 = [.pkt [7], .err .eof] := by decide +kernel
example : (readAll 8 .other [[0, 1, 7, 0]]).1 = [.pkt [7], .err .other] := by decide +kernel

/-- Arbitrary garbage: on EVERY byte stream in EVERY segmentation the results are some packets
followed by exactly one error; the delivered packets, re-encoded, are a prefix of the stream
(nothing merged, split or fabricated), each fits the buffer; the error is the connection's or a
short-buffer report of a length that really exceeds the buffer. -/
theorem C14_arbitrary_stream (cap : Nat) (e : IoErr) (segs : Segs) :
    ∃ (ps : List (List UInt8)) (r : Res),
      (readAll cap e segs).1 = ps.map .pkt ++ [r] ∧ r.isPkt = false
      ∧ wire ps <+: segs.flatten ∧ (∀ p ∈ ps, p.length ≤ cap ∧ p.length ≤ 65535)
      ∧ (r = .err e ∨ ∃ n, r = .shortBuffer n ∧ cap < n ∧ n ≤ 65535) := by
  rw [C14_reader_is_parser]
  exact parseN_structure cap e _ segs.flatten (by omega)

example : (readAll 4 .eof [[255, 255, 1], [2, 3]]).1 = [.shortBuffer 65535] := by decide +kernel

/-- Bounded read: every `Read` the loop issues asks for at least one byte and for no more than what
is still missing of the current header / body of the flattened stream, and no `Read` follows the
call that had to fail (the spec monitor `readsViolation` accepts the model's whole ghost log). -/
theorem C14_bounded_read (cap : Nat) (e : IoErr) (segs : Segs) :
    readsViolation cap segs.flatten (readAll cap e segs).2 = none := by
  unfold readsViolation readAll units
  exact readAllN_reads cap e _ segs

example : (readAll 8 .eof [[0], [2, 7], [9, 0, 1], [5, 0]]).2
    = [(2, 1), (1, 1), (2, 1), (1, 1), (2, 2), (1, 1), (2, 1), (1, 0)] := by decide +kernel
example : readsViolation 8 [0, 3, 7, 9] [(2, 2), (4, 2)] = some msgTooMuch := by decide +kernel

/-- … and in absolute terms: never more than `max 2 (min cap 65535)` bytes per `Read`. -/
theorem C14_read_sizes (cap : Nat) (e : IoErr) (segs : Segs) :
    ∀ r ∈ (readAll cap e segs).2, 1 ≤ r.1 ∧ r.1 ≤ max 2 (min cap 65535) ∧ r.2 ≤ r.1 :=
  readAllN_log_bound cap e _ segs

example : ∀ r ∈ (readAll 1 .eof [[0, 1], [7, 0], [0, 9]]).2, 1 ≤ r.1 ∧ r.1 ≤ 2 := by decide +kernel

/-- The model's observable results pass the read monitor (the clause evaluated on the
implementation's output by the driver). -/
theorem C14_model_passes_read_monitor (cap : Nat) (e : IoErr) (segs : Segs) :
    readViolation cap e segs.flatten ((readAll cap e segs).1.map obsOf) = none := by
  rw [C14_reader_is_parser]
  unfold readViolation
  generalize (parse cap e segs.flatten).map obsOf = l
  generalize 0 = i
  induction l generalizing i with
  | nil => rfl
  | cons x xs ih => simp [resultsViolationFrom, ih]

example : readViolation 8 .eof [0, 1, 7, 0, 1, 9] [.pkt 2 (digest [7, 0]), .err .eof]
    = some "result 0: packet boundary moved (merged, split or fabricated packet): expected 1 bytes, got 2" := by
  decide +kernel


/-- Writer, packets that fit the length field: ONE write of the 2-byte big-endian length followed
by the packet; the reported count is the packet's length; a refused write reports the error. -/
theorem C14_write_ok (connFails : Bool) (p : List UInt8) (h16 : p.length ≤ 65535) :
    writeViolation connFails p (obsOfWrite (write connFails p)) = none := by
  have hh : header p.length = [UInt8.ofNat (p.length / 256), UInt8.ofNat (p.length % 256)] := by
    simp only [header]
    rw [Nat.mod_eq_of_lt (by omega)]
  have hfit : ¬ p.length > 65535 := by omega
  unfold writeViolation
  rw [if_neg hfit]
  cases connFails <;> simp [write, encode, hh, obsOfWrite, hfit]

example : write false [7, 9] = { n := 2, err := none, wire := [[0, 2, 7, 9]] } := by decide +kernel

/-- `wire pkts` (the stream the reader theorems speak about) is what the writer produces: the
concatenation of the single writes of the packets, provided each fits the length field. -/
theorem C14_wire_is_written (pkts : List (List UInt8)) (h16 : ∀ p ∈ pkts, p.length ≤ 65535) :
    (pkts.map fun p => (write false p).wire.flatten).flatten = wire pkts
    ∧ ∀ p ∈ pkts, (write false p).err = none ∧ (write false p).n = p.length := by
  constructor
  · unfold wire
    congr 1
    apply List.map_congr_left
    intro p hp
    have hfit : ¬ p.length > 65535 := by have := h16 p hp; omega
    simp [write, hfit]
  · intro p hp
    have hfit : ¬ p.length > 65535 := by have := h16 p hp; omega
    simp [write, encode, header, hfit]

example : (write false [1]).wire.flatten ++ (write false []).wire.flatten = wire [[1], []] := by decide +kernel

/-- … and the header decodes to the packet's length. -/
theorem C14_header_decodes (p : List UInt8) (h16 : p.length ≤ 65535) :
    decodeLen (header p.length) = p.length := by
  obtain ⟨hi, lo, hh, hn⟩ := header_toNat p.length h16
  rw [hh, decodeLen_pair, hn]

example : decodeLen (header 513) = 513 ∧ header 513 = [2, 1] := by decide +kernel

/-- Packets too long for the 16-bit length field are rejected and nothing is written: no truncated
length header can reach the wire (finding F4, fixed). -/
theorem C14_too_long_rejected (connFails : Bool) (p : List UInt8) (h : p.length > 65535) :
    (write connFails p).err = some .tooLong ∧ (write connFails p).wire = [] ∧ (write connFails p).n = 0 := by
  simp [write, h]

example : (List.replicate 70000 (0 : UInt8)).length > 65535 := by rw [List.length_replicate]; omega

/-- The writer passes the (strict) write monitor for EVERY packet, of any length. -/
theorem C14_write_passes_monitor (connFails : Bool) (p : List UInt8) :
    writeViolation connFails p (obsOfWrite (write connFails p)) = none := by
  by_cases h : p.length > 65535
  · unfold writeViolation
    rw [if_pos h]
    simp [write, h, obsOfWrite]
  · exact C14_write_ok connFails p (by omega)

/-! ### code ties (T): `writeStreamingPacket` and `readStreamingPacket` (tcp_mux.go) are REGENERATED on every run (effect mode,
`IceGen.T_Framing`; the two short-read loops cut out with their source text pinned) and proved equal to the model -/

/-- the writer, for every packet whose length is a Go `int` and both outcomes of `conn.Write`: too long ⇒ rejected before
anything is written; otherwise the 16-bit length field `uint16(len)`, the payload copied behind it, ONE `conn.Write`, and
the result `n − 2` — i.e. the model's `write`: same first result, same error, the same number of writes, the length field
`header` encodes -/
theorem C14_code_write (connFails : Bool) (p : List UInt8) (h : p.length + 2 < 2 ^ 63) (n : Int64) :
    IceGen.writeStreamingPacket (Int64.ofNat p.length) connFails n
      = (if p.length > 65535 then ([], (0, "ErrShortBuffer"))
         else ([IceTie.Framing.ePut (p.length % 65536), IceTie.Framing.eCopy, IceTie.Framing.eWrite],
               if connFails then (0, "err") else (n - 2, "nil"))) ∧
    IceTie.Framing.outOf (IceGen.writeStreamingPacket (Int64.ofNat p.length) connFails (Int64.ofNat (encode p).length))
      = (((write connFails p).n : Int), (write connFails p).err, (write connFails p).wire.length,
         if p.length > 65535 then [] else [decodeLen (header p.length)]) :=
  ⟨IceTie.Framing.writeStreamingPacket_tie p.length (by omega) connFails n,
   IceTie.Framing.writeStreamingPacket_model connFails p h⟩

/-- the reader, for every segmentation of every stream, every capacity and terminal error: with the header loop = `fill segs 2`,
the declared length = `decodeLen` of the two bytes and the body loop = `fill` for that many bytes, the regenerated function
returns what the model's `readPacket` returns (`(0, err)` / `(length, io.ErrShortBuffer)` / the bytes read), and it enters
the body loop exactly when the header was read and the declared length fits the buffer -/
theorem C14_code_read (cap : Nat) (hc : cap < 2 ^ 63) (e : IoErr) (segs : Segs) :
    let f1 := fill segs 2
    let len := decodeLen (f1.1.getD [])
    let f2 := fill f1.2.1 len
    let g := IceGen.readStreamingPacket f1.1.isNone (Int64.ofNat len) (Int64.ofNat cap) f2.1.isNone
                (Int64.ofNat (f2.1.getD []).length)
    IceTie.Framing.resOf g e (f2.1.getD []) = (readPacket cap e segs).1 ∧
    (g.1.contains IceTie.Framing.eFillBody = (f1.1.isSome && decide (len ≤ cap))) :=
  IceTie.Framing.readStreamingPacket_model cap hc e segs

/-- non-vacuity: 65535 bytes are framed, 65536 rejected; a frame of declared length 9 into a buffer of capacity 8 -/
example : IceGen.writeStreamingPacket 65535 false 65537
      = ([IceModel.Eff.call "putLength" [IceModel.Val.n 65535], IceModel.Eff.call "copyPayloadAt2" [],
          IceModel.Eff.call "write" []], (65535, "nil")) ∧
    IceGen.writeStreamingPacket 65536 false 0 = ([], (0, "ErrShortBuffer")) ∧
    IceGen.readStreamingPacket false 9 8 false 9 = ([IceModel.Eff.call "fillHeader" []], (9, "ErrShortBuffer")) ∧
    IceGen.readStreamingPacket false 8 8 false 8
      = ([IceModel.Eff.call "fillHeader" [], IceModel.Eff.call "fillBody" []], (8, "nil")) ∧
    IceGen.readStreamingPacket true 8 8 false 8 = ([IceModel.Eff.call "fillHeader" []], (0, "err")) := by decide +kernel

/-- **A packet is handed over whole or not at all.**  For every caller buffer length and every queued packet,
`tcpPacketConn.ReadFrom` returns either the packet itself — and then it fits the buffer's LENGTH, the only part of the
slice the caller looks at — or `io.ErrShortBuffer` with nothing; never a truncated packet.  (After the fix of F35.) -/
theorem C14_packetconn_read_whole (blen : Nat) (p : List UInt8) :
    (packetConnRead blen p = some p ∧ p.length ≤ blen) ∨ (packetConnRead blen p = none ∧ blen < p.length) := by
  unfold packetConnRead
  by_cases h : blen < p.length
  · right; simp [h]
  · left; simp [h]; omega

/-- the code with finding F35 tested the buffer's CAPACITY and copied its LENGTH: with `len 0, cap 1` a one-byte
packet was reported as read (`n = 1`) although no byte of it reached the caller — not a behaviour of the repaired model -/
theorem C14_packetconn_read_F35_witness : packetConnRead 0 [7] = none ∧ packetConnRead 1 [7] = some [7] := by decide

example : packetConnRead 4 [1, 2, 3, 4] = some [1, 2, 3, 4] ∧ packetConnRead 3 [1, 2, 3, 4] = none := by decide +kernel

end IceProps.C14

import IceTie.AgentDispatch
import IceProofs.AgentC02Step
import IceTie.AgentInbound
import IceTie.Order
import IceTie.Addr
/-!
# C02 — unauthenticated or mismatched STUN never influences the agent

All statements are about the executable model `IceModel.AgentCore` (validated against the real agent by the
differential correspondence of component `agent`) and hold for ALL agent states `a` — reachable or not —, all times,
local candidates, source addresses and messages.  "No observable effect" is stated in the strongest form the model can
express: the result of the transition is literally `(a, [])`, the same state and no output (no datagram, no callback).
The `*_code` theorems are about definitions REGENERATED from the Go source on every run (`IceGen.T_Agent`,
`IceGen.T_Round3`, `IceGen.T_Addr`, `IceGen.T_Order`): they are what the kernel re-checks when that source changes.
-/
namespace IceProps.C02
open IceModel.AgentCore IceProofs.AgentC02

def exL : Cand := { uid := 1, ty := 1, net := 0, addr := 16, prio := 100 }
def exR : Cand := { uid := 2, ty := 1, net := 0, addr := 33, prio := 90 }
/-- a started controlling agent with one local, one remote, one in-progress pair and one transaction
(id 2, sent at t = 1000 from address 16 to address 33 over udp4) in flight -/
def exA : Agent := {
  started := true
  localUfrag := "lu"
  localPwd := "lp"
  remoteUfrag := "ru"
  remotePwd := "rp"
  locals := [exL]
  remotes := [exR]
  nextUid := 3
  checklist := [{ id := 1, l := 1, r := 2, state := .inProgress, controlling := true }]
  nextPairID := 1
  controlling := true
  connState := .checking
  pending := [{ tid := 2, src := 16, dest := 33, net := 0, useCand := false, nom := none, ts := 1000 }]
  nextTid := 2 }
/-- a correct success response to that transaction -/
def goodResp : Msg := { cls := 2, tid := 2, key := some "rp" }
/-- a correct Binding request -/
def goodReq : Msg := { cls := 0, tid := 77, user := some "lu:ru", key := some "lp", prio := some 5 }

-- the model is not inert: the correct messages DO change pair state / produce a reply
example : (exA.handleInbound 2000 exL 33 goodResp).1.checklist ≠ exA.checklist := by decide +kernel
example : ((exA.handleInbound 2000 exL 33 goodResp).1.checklist.map (·.state)) = [.succeeded] := by decide +kernel
example : (exA.handleInbound 2000 exL 33 goodReq).2.length = 1 := by decide +kernel
example : (step exA (.inbound 2000 16 33 goodResp)).1.checklist ≠ exA.checklist := by decide +kernel

/-- A Binding request whose USERNAME is not `<local ufrag>:<remote ufrag>` or whose MESSAGE-INTEGRITY was
not computed with the local password: same state, nothing sent, no callback. -/
theorem C02_bad_request_noop (a : Agent) (now : Nat) (l : Cand) (src : Nat) (m : Msg)
    (hc : m.cls = 0)
    (h : m.user ≠ some (a.localUfrag ++ ":" ++ a.remoteUfrag) ∨ m.key ≠ some a.localPwd) :
    a.handleInbound now l src m = (a, []) :=
  handleInbound_request_bad a now l src m hc h

-- hypotheses satisfiable: wrong user, absent user, wrong key, absent key, key = REMOTE password
example : ({ goodReq with user := some "ru:lu" } : Msg).user ≠ some (exA.localUfrag ++ ":" ++ exA.remoteUfrag) := by decide +kernel
example : ({ goodReq with user := none } : Msg).user ≠ some (exA.localUfrag ++ ":" ++ exA.remoteUfrag) := by decide +kernel
example : ({ goodReq with key := some "rp" } : Msg).key ≠ some exA.localPwd := by decide +kernel
example : ({ goodReq with key := none } : Msg).key ≠ some exA.localPwd := by decide +kernel

/-- A Binding success response whose MESSAGE-INTEGRITY was not computed with the remote password. -/
theorem C02_bad_response_noop (a : Agent) (now : Nat) (l : Cand) (src : Nat) (m : Msg)
    (hc : m.cls = 2) (h : m.key ≠ some a.remotePwd) :
    a.handleInbound now l src m = (a, []) :=
  handleInbound_response_badkey a now l src m hc h

example : ({ goodResp with key := some "lp" } : Msg).key ≠ some exA.remotePwd := by decide +kernel
example : ({ goodResp with key := none } : Msg).key ≠ some exA.remotePwd := by decide +kernel

/-- … and a success response (even correctly signed) from a source that is not the canonical address of
a remote candidate of the receiving candidate's network type. -/
theorem C02_unknown_source_response_noop (a : Agent) (now : Nat) (l : Cand) (src : Nat) (m : Msg)
    (hc : m.cls = 2) (h : a.findRemote l.net src = none) :
    a.handleInbound now l src m = (a, []) :=
  handleInbound_response_unknown a now l src m hc h

example : exA.findRemote exL.net 34 = none := by decide +kernel
example : exA.findRemote 1 33 = none := by decide   -- known address, other network type

/-- A correctly signed success response from a known remote `r` whose transaction id has no outstanding
entry (`outstanding a now m.tid`: the first pending entry with this id that survives the 4 s expiry),
or whose outstanding entry was sent over another network type, or to another address than the response
came from, or from another local address than the one the response arrived on: nothing is emitted and the state is `a` except that expired entries and the entry with this
id leave `pending` and `r.lastRecv` is refreshed.  (`pendingAfter` is a sub-list of `a.pending`.) -/
theorem C02_response_needs_outstanding (a : Agent) (now : Nat) (l : Cand) (src : Nat) (m : Msg) (r : Cand)
    (hc : m.cls = 2) (hm : m.method = 1) (hk : m.key = some a.remotePwd)
    (hr : a.findRemote l.net src = some r)
    (h : NoSymmetricOutstanding a now l src m.tid) :
    a.handleInbound now l src m
      = (({ a with pending := pendingAfter a now m.tid } : Agent).seenRemoteRecv r.uid now, []) :=
  handleInbound_response_no_match a now l src m r hc hm hk hr h

/-- The same, field by field: checklist, selection, connection state, candidates (up to `r.lastRecv`),
nomination state are unchanged, nothing is emitted, `pending` can only shrink. -/
theorem C02_response_needs_outstanding_fields (a : Agent) (now : Nat) (l : Cand) (src : Nat) (m : Msg) (r : Cand)
    (hc : m.cls = 2) (hm : m.method = 1) (hk : m.key = some a.remotePwd)
    (hr : a.findRemote l.net src = some r)
    (h : NoSymmetricOutstanding a now l src m.tid) :
    let res := a.handleInbound now l src m
    res.2 = [] ∧ res.1.checklist = a.checklist ∧ res.1.selected = a.selected ∧ res.1.connState = a.connState ∧
    res.1.locals = a.locals ∧
    res.1.remotes = updCand a.remotes r.uid (fun c => { c with lastRecv := some now }) ∧
    res.1.nominatedPair = a.nominatedPair ∧ res.1.lastNomination = a.lastNomination ∧
    res.1.pending.Sublist a.pending ∧ res.1.controlling = a.controlling ∧ res.1.nextPairID = a.nextPairID ∧
    res.1.forcePending = a.forcePending := by
  intro res
  have e : res = _ := C02_response_needs_outstanding a now l src m r hc hm hk hr h
  rw [e]
  exact ⟨rfl, rfl, rfl, rfl, rfl, rfl, rfl, rfl, pendingAfter_sublist a now m.tid, rfl, rfl, rfl⟩

/-- A form of the hypothesis that does not mention "the first" entry: EVERY unexpired pending entry with
this transaction id was sent on another network type, to another address or from another local address (in
particular: there is none). -/
theorem C02_response_needs_outstanding_all (a : Agent) (now : Nat) (l : Cand) (src : Nat) (m : Msg) (r : Cand)
    (hc : m.cls = 2) (hm : m.method = 1) (hk : m.key = some a.remotePwd)
    (hr : a.findRemote l.net src = some r)
    (h : ∀ pd ∈ a.pending, pd.tid = m.tid → now - pd.ts < 4000000000 →
      pd.net ≠ l.net ∨ pd.dest ≠ src ∨ pd.src ≠ l.addr) :
    a.handleInbound now l src m
      = (({ a with pending := pendingAfter a now m.tid } : Agent).seenRemoteRecv r.uid now, []) := by
  apply C02_response_needs_outstanding a now l src m r hc hm hk hr
  intro pd ho
  have hf := List.find?_some ho
  have hmem := List.mem_of_find?_eq_some ho
  rw [List.mem_filter] at hmem
  have hu : now - pd.ts < 4000000000 := of_decide_eq_true hmem.2
  exact h pd hmem.1 (by simpa using hf) hu

/-- … and also when the transaction matches but the pair (local, remote) does not exist. -/
theorem C02_response_needs_pair (a : Agent) (now : Nat) (l : Cand) (src : Nat) (m : Msg) (r : Cand)
    (hc : m.cls = 2) (hm : m.method = 1) (hk : m.key = some a.remotePwd)
    (hr : a.findRemote l.net src = some r) (h : a.findPair l r = none) :
    a.handleInbound now l src m
      = (({ a with pending := pendingAfter a now m.tid } : Agent).seenRemoteRecv r.uid now, []) :=
  handleInbound_response_no_pair a now l src m r hc hm hk hr h

-- hypotheses satisfiable on `exA` (known remote at 33): never-issued id; expired (t ≥ 1000 + 4 s);
-- outstanding id but the response comes in on a local candidate of another network type
example : exA.findRemote exL.net 33 = some exR := by decide +kernel
example : outstanding exA 2000 4 = none := by decide +kernel
example : outstanding exA 4000001000 2 = none := by decide +kernel
example : (outstanding exA 4000000999 2).isSome := by decide +kernel
example : NoSymmetricOutstanding exA 2000 exL 33 4 := by decide +kernel
example : NoSymmetricOutstanding exA 4000001000 exL 33 2 := by decide +kernel
example : ¬ NoSymmetricOutstanding exA 2000 exL 33 2 := by decide +kernel
example : NoSymmetricOutstanding exA 2000 { exL with net := 1 } 33 2 := by decide +kernel
-- and with a different pending destination the wrong-source case
example : NoSymmetricOutstanding { exA with pending := [{ tid := 2, src := 16, dest := 49, net := 0, useCand := false, nom := none, ts := 1000 }] } 2000 exL 33 2 := by decide +kernel
-- the request left from another local address (32) than the one the response arrives on (16): F17's case
example : NoSymmetricOutstanding { exA with pending := [{ tid := 2, src := 32, dest := 33, net := 0, useCand := false, nom := none, ts := 1000 }] } 2000 exL 33 2 := by decide +kernel

/-- Error responses, unknown classes and every non-Binding method: nothing at all. -/
theorem C02_other_classes_noop (a : Agent) (now : Nat) (l : Cand) (src : Nat) (m : Msg)
    (h : m.cls = 3 ∨ 4 ≤ m.cls ∨ m.method ≠ 1) :
    a.handleInbound now l src m = (a, []) := by
  apply handleInbound_gate
  rcases h with h | h | h
  · simp [h]
  · have h0 : m.cls ≠ 0 := by omega
    have h1 : m.cls ≠ 1 := by omega
    have h2 : m.cls ≠ 2 := by omega
    simp [h0, h1, h2]
  · simp [h]

example : ({ goodResp with cls := 3, errCode := some 487 } : Msg).cls = 3 := rfl
example : ({ goodReq with method := 3 } : Msg).method ≠ 1 := by decide +kernel

/-- A Binding indication: no output; the state is `a` except that `lastRecv` of the known remote at `src`
(if there is one) becomes `now`.  With another method it is `a` itself. -/
theorem C02_indication_only_liveness (a : Agent) (now : Nat) (l : Cand) (src : Nat) (m : Msg)
    (hc : m.cls = 1) :
    a.handleInbound now l src m =
      (if m.method = 1 then
         (match a.findRemote l.net src with
          | some r => a.seenRemoteRecv r.uid now
          | none => a)
       else a, []) := by
  by_cases hm : m.method = 1
  · rw [if_pos hm]
    exact handleInbound_indication a now l src m hc hm
  · rw [if_neg hm]
    exact C02_other_classes_noop a now l src m (Or.inr (Or.inr hm))

example : (exA.handleInbound 2000 exL 33 { cls := 1, tid := 9 }).1.remotes.map (·.lastRecv) = [some 2000] := by decide +kernel

/-- The messages that C02 says have no effect at all, for receiving local candidate `l` and source `src`. -/
def Dropped (a : Agent) (l : Cand) (src : Nat) (m : Msg) : Prop :=
  (m.cls = 0 ∧ (m.user ≠ some (a.localUfrag ++ ":" ++ a.remoteUfrag) ∨ m.key ≠ some a.localPwd)) ∨
  (m.cls = 2 ∧ (m.key ≠ some a.remotePwd ∨ a.findRemote l.net src = none)) ∨
  m.cls = 3 ∨ 4 ≤ m.cls ∨ m.method ≠ 1

instance (a : Agent) (l : Cand) (src : Nat) (m : Msg) : Decidable (Dropped a l src m) := by
  unfold Dropped; infer_instance

theorem C02_dropped_noop (a : Agent) (now : Nat) (l : Cand) (src : Nat) (m : Msg) (h : Dropped a l src m) :
    a.handleInbound now l src m = (a, []) := by
  rcases h with ⟨hc, h⟩ | ⟨hc, h | h⟩ | h
  · exact C02_bad_request_noop a now l src m hc h
  · exact C02_bad_response_noop a now l src m hc h
  · exact C02_unknown_source_response_noop a now l src m hc h
  · exact C02_other_classes_noop a now l src m h

example : Dropped exA exL 33 { goodReq with key := some "old" } := by decide +kernel
example : Dropped exA exL 34 goodResp := by decide +kernel
example : ¬ Dropped exA exL 33 goodResp := by decide +kernel

/-- Quiescence (the model runs a forced tick at the end of the event that requested it, so between events
none is waiting): `a.started → ¬ a.closed → a.forcePending = false`. -/
abbrev Quiescent (a : Agent) : Prop := Q a

/-- `step` on a dropped message is a no-op — for every quiescent agent, started or not, closed or not. -/
theorem C02_step_noop (a : Agent) (now la src : Nat) (m : Msg) (q : Quiescent a)
    (h : ∀ l, a.localByAddr la = some l → Dropped a l src m) :
    step a (.inbound now la src m) = (a, []) :=
  step_inbound_noop_local a now la src m q fun l hl => C02_dropped_noop a now l src m (h l hl)

example : Quiescent exA := by decide +kernel
example : exA.localByAddr 16 = some exL := by decide +kernel

/-- Before `start` and after `close` EVERY inbound STUN message is a no-op. -/
theorem C02_inactive_noop (a : Agent) (now la src : Nat) (m : Msg) (h : a.started = false ∨ a.closed = true) :
    step a (.inbound now la src m) = (a, []) :=
  step_inbound_inactive a now la src m h

/-- `step` on a Binding indication (running quiescent agent, receiving candidate `l`). -/
theorem C02_step_indication (a : Agent) (now la src : Nat) (m : Msg) (l : Cand) (q : Quiescent a)
    (hs : a.started = true) (hcl : a.closed = false) (hl : a.localByAddr la = some l) (hc : m.cls = 1) :
    step a (.inbound now la src m) =
      (if m.method = 1 then
         (match a.findRemote l.net src with
          | some r => a.seenRemoteRecv r.uid now
          | none => a)
       else a, []) := by
  refine step_inbound_active a now la src m l _ hs hcl (q (by simp [hs]) (by simp [hcl])) hl
    (C02_indication_only_liveness a now l src m hc) ?_
  repeat' split
  all_goals rfl

/-- `step` on a verified success response without an outstanding symmetric transaction. -/
theorem C02_step_response_needs_outstanding (a : Agent) (now la src : Nat) (m : Msg) (l r : Cand) (q : Quiescent a)
    (hs : a.started = true) (hcl : a.closed = false) (hl : a.localByAddr la = some l)
    (hc : m.cls = 2) (hm : m.method = 1) (hk : m.key = some a.remotePwd)
    (hr : a.findRemote l.net src = some r)
    (h : NoSymmetricOutstanding a now l src m.tid) :
    step a (.inbound now la src m)
      = (({ a with pending := pendingAfter a now m.tid } : Agent).seenRemoteRecv r.uid now, []) :=
  step_inbound_active a now la src m l _ hs hcl (q (by simp [hs]) (by simp [hcl])) hl
    (C02_response_needs_outstanding a now l src m r hc hm hk hr h) rfl

/-- Quiescence is an invariant: every event, from every quiescent state, leads to a quiescent state
(the initial agent is not started, hence quiescent) — so it holds in every reachable state. -/
theorem C02_quiescent (a : Agent) (ev : Ev) (q : Quiescent a) : Quiescent (step a ev).1 :=
  Q_step a ev q

theorem C02_quiescent_run (a : Agent) (evs : List Ev) (q : Quiescent a) : Quiescent (run a evs) :=
  Q_run a evs q

theorem C02_quiescent_init (a : Agent) (h : a.started = false) : Quiescent a :=
  fun hs => absurd hs (by simp [h])

/-- Without quiescence the statement is false IN THE MODEL (not in the code: the forced tick belongs to
the timer goroutine and would run anyway): a waiting forced tick runs at the end of the event. -/
theorem C02_step_noop_needs_quiescent_witness :
    ¬ (∀ (a : Agent) (now la src : Nat) (m : Msg),
        (∀ l, a.localByAddr la = some l → Dropped a l src m) → (step a (.inbound now la src m)).2 = []) := by
  intro h
  have := h { exA with forcePending := true } 2000 16 33 { goodReq with key := none }
    (fun _ _ => Or.inl ⟨rfl, Or.inr (by decide)⟩)
  revert this
  decide

/-- (i) Restart empties the pending list (and sets the new local credentials, clears the remote ones and
forgets every candidate): no transaction of the ended generation is outstanding. -/
theorem C02_stale_generation (a : Agent) (now : Nat) (u p : String) (hcl : a.closed = false) :
    let a' := (step a (.restart now u p)).1
    a'.pending = [] ∧ a'.localUfrag = u ∧ a'.localPwd = p ∧ a'.remoteUfrag = "" ∧ a'.remotePwd = "" ∧
    a'.remotes = [] ∧ a'.nextTid = a.nextTid ∧ a'.tag = a.tag := by
  intro a'
  have e : a' = (a.doRestart now u p).1 := step_restart a now u p hcl
  rw [e]
  exact doRestart_fields a now u p

/-- (i, corollary) right after Restart every success response — whatever its key and transaction id — is
a no-op (no remote candidate is known any more). -/
theorem C02_stale_generation_response (a : Agent) (now now' : Nat) (u p : String) (hcl : a.closed = false)
    (l : Cand) (src : Nat) (m : Msg) (hc : m.cls = 2) :
    (step a (.restart now u p)).1.handleInbound now' l src m = ((step a (.restart now u p)).1, []) := by
  apply C02_unknown_source_response_noop _ _ _ _ _ hc
  have h := (C02_stale_generation a now u p hcl).2.2.2.2.2.1
  unfold Agent.findRemote
  rw [h]
  rfl

/-- (i, over histories) in EVERY state reached from the restarted agent by any sequence of events, every
pending transaction has an id ≥ `2 * a.nextTid + a.tag`, the next id the old generation would have
issued (`sendRequest` is the only source of ids: it uses `2 * nextTid + tag` and increments `nextTid`).
So a response to any transaction of the ended generation (`m.tid < 2 * a.nextTid + a.tag`) finds nothing
outstanding, and `C02_response_needs_outstanding` applies to it, however the new generation looks. -/
theorem C02_stale_generation_history (a : Agent) (now : Nat) (u p : String) (hcl : a.closed = false)
    (evs : List Ev) (now' tid : Nat) (ht : tid < 2 * a.nextTid + a.tag) :
    outstanding (run (step a (.restart now u p)).1 evs) now' tid = none := by
  obtain ⟨hp, _, _, _, _, _, hn, htag⟩ := C02_stale_generation a now u p hcl
  have hf := tid_run (step a (.restart now u p)).1 evs
  unfold outstanding
  rw [List.find?_eq_none]
  intro pd hpd
  have hmem := (List.mem_filter.mp hpd).1
  rcases hf.pend pd hmem with h | h
  · rw [hp] at h; cases h
  · rw [hn, htag] at h
    simp only [beq_iff_eq]
    omega

/-- … hence: a verified success response carrying a transaction id of the ended generation, arriving in
any later state `b` of the new generation from a known remote, changes nothing but `r.lastRecv` and the
expiry of pending entries. -/
theorem C02_stale_generation_response_history (a : Agent) (now : Nat) (u p : String) (hcl : a.closed = false)
    (evs : List Ev) (now' : Nat) (l : Cand) (src : Nat) (m : Msg) (r : Cand)
    (ht : m.tid < 2 * a.nextTid + a.tag)
    (hc : m.cls = 2) (hm : m.method = 1)
    (hk : m.key = some (run (step a (.restart now u p)).1 evs).remotePwd)
    (hr : (run (step a (.restart now u p)).1 evs).findRemote l.net src = some r) :
    let b := run (step a (.restart now u p)).1 evs
    b.handleInbound now' l src m = (({ b with pending := pendingAfter b now' m.tid } : Agent).seenRemoteRecv r.uid now', []) := by
  intro b
  apply C02_response_needs_outstanding b now' l src m r hc hm hk hr
  intro pd hpd
  rw [C02_stale_generation_history a now u p hcl evs now' m.tid ht] at hpd
  cases hpd

/-- what `sendRequest` uses as transaction id, and that the counter moves on (justifies the reading
"ids of the ended generation are `< 2 * a.nextTid + a.tag`") -/
theorem C02_tid_source (a : Agent) (now : Nat) (l r : Cand) (uc : Bool) (nom : Option Nat) :
    (a.sendRequest now l r uc nom).1.nextTid = a.nextTid + 1 ∧
    (∃ m, (a.sendRequest now l r uc nom).2 = [.dgram l.addr r.addr m] ∧ m.tid = 2 * a.nextTid + a.tag) ∧
    (∀ pd ∈ (a.sendRequest now l r uc nom).1.pending, pd ∈ a.pending ∨ pd.tid = 2 * a.nextTid + a.tag) := by
  unfold Agent.sendRequest
  dsimp only
  refine ⟨?_, ⟨_, rfl, rfl⟩, ?_⟩
  · split <;> rfl
  · intro pd h
    have h' : pd ∈ (a.invalidatePending now).pending ++
        [{ tid := 2 * a.nextTid + a.tag, src := l.addr, dest := r.addr, net := r.net, useCand := uc, nom := nom, ts := now }] := by
      revert h
      split <;> exact id
    rcases List.mem_append.mp h' with h | h
    · exact Or.inl (List.mem_filter.mp h).1
    · right; rw [List.mem_singleton.mp h]

/-- (ii) after Restart a request signed with the OLD local password (≠ the new one), or whose USERNAME
names the old ufrag pair (≠ the new one), is a no-op. -/
theorem C02_stale_generation_request (a : Agent) (now now' : Nat) (u p : String) (hcl : a.closed = false)
    (l : Cand) (src : Nat) (m : Msg) (hc : m.cls = 0)
    (h : (m.key = some a.localPwd ∧ a.localPwd ≠ p) ∨
         (m.user = some (a.localUfrag ++ ":" ++ a.remoteUfrag) ∧ a.localUfrag ++ ":" ++ a.remoteUfrag ≠ u ++ ":" ++ "")) :
    (step a (.restart now u p)).1.handleInbound now' l src m = ((step a (.restart now u p)).1, []) := by
  obtain ⟨_, hu, hp, hru, _⟩ := C02_stale_generation a now u p hcl
  apply C02_bad_request_noop _ _ _ _ _ hc
  rw [hu, hp, hru]
  rcases h with ⟨hk, hne⟩ | ⟨hk, hne⟩
  · right; rw [hk]; intro e; exact hne (Option.some.inj e)
  · left; rw [hk]; intro e; exact hne (Option.some.inj e)

/-- (ii, at the level of `step`, any later point of the new generation): in ANY state `b` whose current
local password differs from the old one, a request signed with the old password is a no-op.  This is
`C02_step_noop` read for stale traffic; stated to make the corollary explicit. -/
theorem C02_stale_generation_step (b : Agent) (oldPwd : String) (now la src : Nat) (m : Msg) (q : Quiescent b)
    (hc : m.cls = 0) (hk : m.key = some oldPwd) (hne : oldPwd ≠ b.localPwd) :
    step b (.inbound now la src m) = (b, []) := by
  apply C02_step_noop b now la src m q
  intro l _
  left
  refine ⟨hc, Or.inr ?_⟩
  rw [hk]
  intro e
  exact hne (Option.some.inj e)

example : (step exA (.restart 3000 "nu" "np")).1.pending = [] := by decide +kernel
example : exA.localPwd ≠ "np" := by decide +kernel
example : 2 < 2 * exA.nextTid + exA.tag := by decide +kernel

/-- `canHandleInbound` of agent.go, regenerated from the source: Binding method and class ∈ {success
response (2), request (0), indication (1)} in pion/stun's numbering — the gate of `Agent.handleInbound`. -/
theorem C02_class_gate_code (method : UInt16) (cls : UInt8) :
    IceGen.canHandleInbound method cls
      = (method.toNat == 1 && (cls.toNat == 2 || cls.toNat == 0 || cls.toNat == 1)) :=
  IceTie.AgentInbound.canHandleInbound_tie method cls

/-- … so the model's gate, on a message whose method/class are the numbers on the wire, IS the code's. -/
theorem C02_class_gate_model (a : Agent) (now : Nat) (l : Cand) (src : Nat) (m : Msg) (method : UInt16) (cls : UInt8)
    (hm : method.toNat = m.method) (hc : cls.toNat = m.cls) (h : IceGen.canHandleInbound method cls = false) :
    a.handleInbound now l src m = (a, []) := by
  apply handleInbound_gate
  rw [IceTie.AgentInbound.gate_eq_code m method cls hm hc, h]

/-- `responseSymmetric` of selection.go, regenerated from the source: same network type ∧ the response comes
from the request's destination ∧ (no source recorded ∨ the response arrived on the request's source address)
(RFC 8445 §7.2.5.2.1, both halves; fix of F17). -/
theorem C02_symmetry_code (sameNet sameAddr hasSource sameSource : Bool) :
    IceGen.responseSymmetric sameNet sameAddr hasSource sameSource
      = (sameNet && sameAddr && (!hasSource || sameSource)) :=
  IceTie.AgentInbound.responseSymmetric_tie sameNet sameAddr hasSource sameSource

/-- … and for a request recorded by `sendBindingRequest` (source always recorded) it is the test
`pd.net == l.net && pd.dest == rsrc && pd.src == l.addr` of the model's `handleSuccess` (`rsrc` = source of the
response, `l` = local candidate it arrived on, `pd` = the pending transaction). -/
theorem C02_symmetry_code_model (pd : Pending) (l : Cand) (rsrc : Nat) :
    IceGen.responseSymmetric (pd.net == l.net) (pd.dest == rsrc) true (pd.src == l.addr)
      = (pd.net == l.net && pd.dest == rsrc && pd.src == l.addr) :=
  IceTie.AgentInbound.responseSymmetric_model pd l rsrc

example : IceGen.responseSymmetric true true true false = false := by decide +kernel
example : IceGen.responseSymmetric true true false false = true := by decide +kernel

example : IceGen.canHandleInbound 1 3 = false := by decide +kernel
example : IceGen.canHandleInbound 1 2 = true := by decide +kernel
example : IceGen.canHandleInbound 2 0 = false := by decide +kernel

/-- `netAddrToAddrPort` and `portFitsInUint16` (addr.go, regenerated): nil → the invalid zero value; a `*net.UDPAddr` and a
`*net.TCPAddr` alike → zero for a typed nil or a port outside 0 … 65535 (65535 itself is valid), else the address's own
`AddrPort()` (IP WITH its zone, port); anything else is parsed from its string.  So a real UDP/TCP source address is never
turned into an invalid source (which `handleInbound` would drop) -/
theorem C02_code_netAddrToAddrPort (isNil isUDPAddr isTCPAddr typedNil : Bool) (port : Int64) (parseFails : Bool) :
    IceGen.portFitsInUint16 port = decide (0 ≤ port.toInt ∧ port.toInt ≤ 65535) ∧
    IceGen.netAddrToAddrPort isNil isUDPAddr isTCPAddr typedNil port parseFails
      = (if isNil then "zero"
        else if isUDPAddr || isTCPAddr then
          (if typedNil || !decide (0 ≤ port.toInt ∧ port.toInt ≤ 65535) then "zero" else "a.AddrPort()")
        else if parseFails then "zero" else "ParseAddrPort(addr.String())") ∧
    ((isUDPAddr || isTCPAddr) = true → 0 ≤ port.toInt → port.toInt ≤ 65535 →
      IceGen.netAddrToAddrPort false isUDPAddr isTCPAddr false port parseFails = "a.AddrPort()") :=
  ⟨IceTie.Addr.portFitsInUint16_tie port, IceTie.Addr.netAddrToAddrPort_tie isNil isUDPAddr isTCPAddr typedNil port parseFails,
   IceTie.Addr.netAddrToAddrPort_valid isUDPAddr isTCPAddr port parseFails⟩

/-- `toAddrPortKey` (the 18-byte key of the address maps): an invalid address is the zero key, otherwise the 16 address bytes and
the port big endian; two different ports never share their two bytes -/
theorem C02_code_toAddrPortKey (valid : Bool) (port q : UInt16) :
    IceGen.toAddrPortKey valid port
      = (if valid then
          ([IceModel.Eff.call "copy(ap[:16], As16)" [], IceModel.Eff.set "ap[16]" (IceModel.Val.n (port.toNat / 256)),
            IceModel.Eff.set "ap[17]" (IceModel.Val.n (port.toNat % 256))], "ap")
        else ([], "ap")) ∧
    ((port.toNat / 256, port.toNat % 256) = (q.toNat / 256, q.toNat % 256) → port = q) :=
  ⟨IceTie.Addr.toAddrPortKey_tie valid port, IceTie.Addr.toAddrPortKey_port_injective port q⟩

/-- the STUN path of `candidateBase.handleInboundPacket` (regenerated in effect mode): a STUN message is handed to the STUN
handler and NOTHING else happens — in particular the data-plane cache is not probed (nor filled) for it -/
theorem C02_code_stun_path (cacheHit valid writeFails : Bool) (n : Int64) (hasSelected : Bool) :
    IceGen.candidateBase_handleInboundPacket true cacheHit valid writeFails n hasSelected
      = [IceTie.Order.c "handleInboundSTUNMessage"] :=
  (IceTie.Order.handleInboundPacket_order cacheHit valid writeFails n hasSelected).1

example : IceGen.portFitsInUint16 65535 = true ∧ IceGen.portFitsInUint16 65536 = false ∧ IceGen.portFitsInUint16 (-1) = false ∧
    IceGen.netAddrToAddrPort false false true false 65535 false = "a.AddrPort()" ∧
    IceGen.netAddrToAddrPort false true false false 70000 false = "zero" := by decide +kernel

open IceTie.AgentDispatch in
/-- `Agent.handleInbound`: nothing for nil arguments and for what `canHandleInbound` rejects; responses and requests go to their
handlers; `seen(false)` (the liveness refresh) comes after the handler and only if it accepted the message; the model's gate and
indication branch do the same -/
theorem C02_code_handleInbound :
    (∀ msgNil localNil method cls hasRemote respOk reqOk hasRemoteAfter,
      IceGen.agent_handleInbound msgNil localNil method cls hasRemote respOk reqOk hasRemoteAfter
        = if msgNil || localNil || !(IceGen.canHandleInbound method cls) then []
          else if cls == 2 then c "handleInboundResponse" :: (if respOk && hasRemote then [seen] else [])
          else if cls == 0 then c "handleInboundRequest" :: (if reqOk && hasRemoteAfter then [seen] else [])
          else if hasRemote then [seen] else []) ∧
    (∀ (a : Agent) (now : Nat) (l : Cand) (src : Nat) (m : Msg),
      (m.method == 1 && (m.cls == 2 || m.cls == 0 || m.cls == 1)) = false → a.handleInbound now l src m = (a, [])) :=
  ⟨handleInbound_tie, handleInbound_gate⟩

example : IceGen.agent_handleInbound false false 1 0 true false false true = [IceTie.AgentDispatch.c "handleInboundRequest"] ∧
    IceGen.agent_handleInbound false false 1 0 false false true true
      = [IceTie.AgentDispatch.c "handleInboundRequest", IceTie.AgentDispatch.seen] ∧
    IceGen.agent_handleInbound false false 1 3 true true true true = [] := by decide +kernel

open IceTie.AgentDispatch in
/-- `Agent.handleInboundResponse`: integrity under the remote password, then a known remote candidate, only then the selector;
`Agent.handleInboundRequest`: USERNAME, then integrity under the local password — a request failing either has NO effect (code
and model); then prflx discovery, the role-conflict gate, the selector -/
theorem C02_code_inbound_gates :
    (∀ integrityErr remoteNil, IceGen.agent_handleInboundResponse integrityErr remoteNil
      = if !integrityErr && !remoteNil then ([c "selector.HandleSuccessResponse"], true) else ([], false)) ∧
    (∀ userErr integrityErr remoteNil netErr prioErr newErr added roleErr sameRole,
      IceGen.agent_handleInboundRequest userErr integrityErr remoteNil netErr prioErr newErr added roleErr sameRole
        = if userErr || integrityErr then ([], ("nil", false))
          else if remoteNil then
            (if netErr then ([], ("nil", false))
             else if newErr || !added then (prflxEffs prioErr newErr, ("nil", false))
             else (prflxEffs prioErr newErr ++ (roleEffs roleErr sameRole).1, (roleEffs roleErr sameRole).2))
          else roleEffs roleErr sameRole) ∧
    (∀ (a : Agent) (now : Nat) (l : Cand) (src : Nat) (m : Msg), m.method = 1 → m.cls = 0 →
      m.user ≠ some (a.localUfrag ++ ":" ++ a.remoteUfrag) ∨ m.key ≠ some a.localPwd → a.handleInbound now l src m = (a, [])) :=
  ⟨handleInboundResponse_tie, handleInboundRequest_tie, handleInbound_model_request_unauthenticated⟩

example : IceGen.agent_handleInboundRequest false true false false false false true true false = ([], ("nil", false)) ∧
    IceGen.agent_handleInboundRequest false false false false false false true true false
      = ([IceTie.AgentDispatch.c "selector.HandleBindingRequest"], ("remoteCandidate", true)) ∧
    IceGen.agent_handleInboundResponse true false = ([], false) := by decide +kernel

open IceTie.AgentDispatch in
/-- `Agent.sendBindingSuccess`: the request's transaction, the remote candidate's address, the LOCAL password; the pair's
response counter before the single `sendSTUN`; nothing is sent on a parse / build failure; the model emits exactly that datagram -/
theorem C02_code_sendBindingSuccess :
    (∀ parseErr buildErr hasPair, IceGen.agent_sendBindingSuccess parseErr buildErr hasPair
      = if parseErr then []
        else [c "attrs(m,BindingSuccess,XORMappedAddress(remote))", c "attrs+=(Integrity(localPwd),Fingerprint)"] ++
          (if buildErr then [] else (if hasPair then [c "pair.UpdateResponseSent"] else []) ++ [c "sendSTUN"])) ∧
    (∀ (a : Agent) (now : Nat) (m : Msg) (l r : Cand),
      (a.sendSuccess now m l r).2 = [.dgram l.addr r.addr { cls := 2, tid := m.tid, key := some a.localPwd }]) :=
  ⟨sendBindingSuccess_tie, IceProofs.Agent.sendSuccess_out⟩

example : IceGen.agent_sendBindingSuccess true false true = [] ∧
    (IceGen.agent_sendBindingSuccess false false true).length = 4 := by decide +kernel

end IceProps.C02

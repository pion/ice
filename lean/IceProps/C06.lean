import IceTie.AgentTick
import IceProofs.AgentC06Forms
import IceTie.AgentRemote
import IceTie.Order
/-!
# C06 — candidate and pair bookkeeping stays consistent; Restart leaves no residue

About the executable model `IceModel.AgentCore` (tied to the Go code by the differential correspondence of component
`agent`), for EVERY state reachable from a fresh agent by ANY list of events (local-candidate arrival, remote trickle
incl. duplicates, inbound checks from unknown sources, timers, data, renomination, Restart, Close …); TCP candidates
(tcp4/tcp6, any tcptype) are in the model.  Two clauses are NOT invariants (of the model, and — replayed — of the code);
they are proved in the strongest true form and refuted in full form on a concrete history: "no (local, remote) pair is
listed twice" (`C06_no_dup_pair_partial`, `C06_dup_pair_witness`) and "the nominated pair is listed"
(`C06_nominated_listed_partial`, `C06_nominated_dangling_witness`).

Address literals (`Cand.form`): a remote candidate may be signalled through a non-canonical literal of its address
(`::ffff:10.0.0.3` for `10.0.0.3`).  Every comparison of the code canonicalises (`findRemoteCandidate`, the cache keys,
`transportAddressEqual` → `Equal`, dedup, `findPair`, `removeRedundantPrflxFromSet`; FORMS-1/2, /repo 2a786b2), so the
clauses hold at full strength whatever literals are signalled.  The exception: a peer-reflexive candidate discovered
from a TCP source carries no tcptype and is never superseded by a signalled TCP candidate that has one
(`C06_prflx_superseded_witness`, observation TCP-1).
-/
namespace IceProps.C06
open IceModel.AgentCore IceProofs.AgentC06

/-- reachable: produced from a fresh agent (`Init`: empty checklist / candidate lists / caches, nothing selected or
nominated; configuration, credentials, role, counters arbitrary) by a list of events -/
def Reachable (a : Agent) : Prop := ∃ a0 evs, Init a0 ∧ a = run a0 evs

/-- **C06_inv** — the bookkeeping invariant `Inv` (all clauses below) holds in every reachable state. -/
theorem C06_inv (a : Agent) (h : Reachable a) : IceProofs.AgentC06.Inv a := by
  obtain ⟨a0, evs, h0, rfl⟩ := h
  exact (Inv.init h0).run evs

/-- … it holds initially and every single event preserves it (the inductive form). -/
theorem C06_inv_inductive :
    (∀ a, Init a → IceProofs.AgentC06.Inv a) ∧
      (∀ a e, IceProofs.AgentC06.Inv a → IceProofs.AgentC06.Inv (step a e).1) :=
  ⟨fun _ h => Inv.init h, fun _ e h => h.step e⟩

theorem reachable_step {a : Agent} (h : Reachable a) (e : Ev) : Reachable (step a e).1 := by
  obtain ⟨a0, evs, h0, rfl⟩ := h
  exact ⟨a0, evs ++ [e], h0, (run_append a0 evs e).symm⟩

/-- pair ids are pairwise distinct and have all been handed out already (`addPair` uses `nextPairID + 1`). -/
theorem C06_pair_ids_unique (a : Agent) (h : Reachable a) :
    (a.checklist.map (·.id)).Nodup ∧ ∀ p ∈ a.checklist, p.id ≤ a.nextPairID :=
  (C06_inv a h).read_ids

/-- ids are never reused: after any event every listed pair either carries an id that was listed before the event
or an id greater than every id handed out before (`nextPairID` never decreases, Restart and Failed included). -/
theorem C06_ids_never_reused (a : Agent) (h : Reachable a) (e : Ev) :
    a.nextPairID ≤ (step a e).1.nextPairID ∧
    ∀ p' ∈ (step a e).1.checklist, (∃ p ∈ a.checklist, p.id = p'.id) ∨ a.nextPairID < p'.id := by
  have hf := fresh_step (C06_inv a h) e
  refine ⟨hf.np, fun p' hp' => ?_⟩
  rcases hf.fresh (key p') (List.mem_map_of_mem hp') with ⟨k, hk, hk1⟩ | h1
  · obtain ⟨p, hp, rfl⟩ := List.mem_map.1 hk
    exact Or.inl ⟨p, hp, hk1⟩
  · exact Or.inr h1

/-- candidate identities (the model's stand-in for the Go pointers) are pairwise distinct among locals, among
remotes, never shared between a local and a remote candidate, and all already handed out. -/
theorem C06_candidate_ids_unique (a : Agent) (h : Reachable a) :
    (a.locals.map (·.uid)).Nodup ∧ (a.remotes.map (·.uid)).Nodup ∧
    (∀ l ∈ a.locals, ∀ r ∈ a.remotes, l.uid ≠ r.uid) ∧
    (∀ c ∈ a.locals, c.uid < a.nextUid) ∧ (∀ c ∈ a.remotes, c.uid < a.nextUid) :=
  (C06_inv a h).read_uids

/-- every listed pair is formed from a current local and a current remote candidate of the same network type
(until Close, which empties the candidate lists and leaves the — from then on unobservable — checklist alone). -/
theorem C06_pair_ends_current (a : Agent) (h : Reachable a) (hc : a.closed = false) :
    ∀ p ∈ a.checklist, ∃ l r, a.localOf p.l = some l ∧ a.remoteOf p.r = some r ∧ l.net = r.net :=
  (C06_inv a h).read_ends hc

/-- after Close: no candidates, no caches. -/
theorem C06_closed_empty (a : Agent) (h : Reachable a) (hc : a.closed = true) :
    a.locals = [] ∧ a.remotes = [] ∧ a.caches = [] :=
  (C06_inv a h).read_closed hc

/-- FULL statement (false): in every reachable state no two listed pairs join the same two candidates. -/
def NoDupEverywhere : Prop := ∀ a, Reachable a → NoDupPairs a

def wL : Cand := { uid := 0, ty := 1, net := 0, addr := 16, prio := 2130706431 }
def wP1 : Cand := { uid := 0, ty := 3, net := 0, addr := 32, prio := 100, rel := some 1 }
def wP2 : Cand := { uid := 0, ty := 3, net := 0, addr := 32, prio := 100, rel := some 2 }
def wH : Cand := { uid := 0, ty := 1, net := 0, addr := 32, prio := 2130706431 }
/-- one local host candidate; two SIGNALLED peer-reflexive remote candidates with the same transport address and
different related addresses (not `Equal`, so both are kept, one pair each); a signalled host candidate with that
transport address supersedes both and both pairs are retargeted to it. -/
def dupEvs : List Ev := [.addLocal 0 wL, .addRemote 0 wP1, .addRemote 0 wP2, .addRemote 0 wH]

/-- **C06_dup_pair_witness** — after `dupEvs` the checklist lists the pair (local 1, remote 4) twice, as pair 1
and pair 2.  (The same four operations on the real agent give `P[1:16>32:1…, 2:16>32:1…]`, see notes/C06.md.) -/
theorem C06_dup_pair_witness :
    (run {} dupEvs).checklist.map (fun p => (p.id, p.l, p.r)) = [(1, 1, 4), (2, 1, 4)] := by decide +kernel

theorem C06_no_dup_pair_witness : ¬ NoDupEverywhere := by
  intro h
  have h1 : NoDupPairs (run {} dupEvs) := h _ ⟨{}, dupEvs, ⟨rfl, rfl, rfl, rfl, rfl, rfl⟩, rfl⟩
  have h2 : (keysOf (run {} dupEvs)).map (·.2) = [(1, 4), (1, 4)] := by decide +kernel
  unfold NoDupPairs at h1
  rw [h2] at h1
  simp at h1

/-- **C06_no_dup_pair_partial** — in every state reached by a history in which no peer-reflexive candidate with a
non-empty related address is *signalled* (`evOK`: no `addRemote` with type prflx and `rel ≠ some 0`; peer-reflexive
candidates DISCOVERED from inbound checks are allowed), no two listed pairs join the same two candidates, equivalently (`…_equal`) no two listed pairs have
`Equal` local ends and `Equal` remote ends. -/
theorem C06_no_dup_pair_partial (a0 : Agent) (evs : List Ev) (h0 : Init a0) (hok : ∀ e ∈ evs, evOK e = true) :
    (run a0 evs).checklist.Pairwise (fun p q => ¬ (p.l = q.l ∧ p.r = q.r)) :=
  (dup_run (Inv.init h0) h0.noDup.1 h0.noDup.2 evs hok).1.read

theorem C06_no_dup_pair_partial_equal (a0 : Agent) (evs : List Ev) (h0 : Init a0)
    (hok : ∀ e ∈ evs, evOK e = true) :
    (run a0 evs).checklist.Pairwise (fun p q => ∀ l1 r1 l2 r2,
      (run a0 evs).localOf p.l = some l1 → (run a0 evs).remoteOf p.r = some r1 →
      (run a0 evs).localOf q.l = some l2 → (run a0 evs).remoteOf q.r = some r2 →
      ¬ (l1.equal l2 = true ∧ r1.equal r2 = true)) :=
  (dup_run (Inv.init h0) h0.noDup.1 h0.noDup.2 evs hok).1.read_equal ((Inv.init h0).run evs)

/-- the local form: a duplicate can only appear in a step taken from a state that holds a peer-reflexive remote
candidate with a non-empty related address, or by an event that signals a peer-reflexive candidate. -/
theorem C06_no_dup_pair_step (a : Agent) (h : Reachable a) (hd : NoDupPairs a) (hp : PrflxRel0 a) (e : Ev)
    (hok : evOK e = true) : NoDupPairs (step a e).1 ∧ PrflxRel0 (step a e).1 :=
  dup_step (C06_inv a h) hd hp e hok

/-- the selected pair is one of the listed pairs (and is marked nominated). -/
theorem C06_selected_listed (a : Agent) (h : Reachable a) (id : Nat) (hs : a.selected = some id) :
    ∃ p, a.pairById id = some p ∧ p ∈ a.checklist ∧ p.id = id ∧ p.nominated = true :=
  (C06_inv a h).read_selected id hs

/-- FULL statement (false): the controlling selector's nominated pair is always listed. -/
def NominatedListedEverywhere : Prop :=
  ∀ a, Reachable a → ∀ id, a.nominatedPair = some id → ∃ p ∈ a.checklist, p.id = id

def nCfg : Config := { disconnectedTimeout := 1000, failedTimeout := 1000, checkInterval := 1000 }
def nR : Cand := { uid := 0, ty := 1, net := 0, addr := 32, prio := 100 }
/-- a controlling agent nominates pair 1, no answer arrives, the checking deadline passes: Failed wipes the
checklist but not the selector's `nominatedPair`. -/
def nomEvs : List Ev := [.addLocal 0 wL, .addRemote 0 nR, .start 0 true "ru" "rp",
  .inbound 10 16 32 { cls := 2, tid := 2, key := some "rp" }, .advance 3000]

theorem C06_nominated_dangling_witness :
    (run { cfg := nCfg } nomEvs).nominatedPair = some 1 ∧ (run { cfg := nCfg } nomEvs).checklist = [] ∧
      (run { cfg := nCfg } nomEvs).connState = .failed := by decide +kernel

theorem C06_nominated_listed_witness : ¬ NominatedListedEverywhere := by
  intro h
  obtain ⟨p, hp, _⟩ := h _ ⟨{ cfg := nCfg }, nomEvs, ⟨rfl, rfl, rfl, rfl, rfl, rfl⟩, rfl⟩ 1 C06_nominated_dangling_witness.1
  rw [C06_nominated_dangling_witness.2.1] at hp
  cases hp

/-- **C06_nominated_listed_partial** — the nominated pair id has been handed out, and it is listed unless the agent
is Failed (until Restart installs a fresh selector), has a selected pair, or is closed — exactly the situations in
which the controlling selector never reads it (the branch marked unreachable in the model is unreachable). -/
theorem C06_nominated_listed_partial (a : Agent) (h : Reachable a) (id : Nat) (hn : a.nominatedPair = some id) :
    id ≤ a.nextPairID ∧
      ((∃ p ∈ a.checklist, p.id = id) ∨ a.connState = .failed ∨ a.selected.isSome ∨ a.closed = true) :=
  (C06_inv a h).read_nominated id hn

/-- remote (and local) candidates are pairwise non-`Equal`, no remote candidate — signalled or discovered
peer-reflexive — has an address the remote IP filter rejects, and no remote candidate has tcptype active (`tt = 1`):
the public `AddRemoteCandidate` ignores such a candidate whatever its network type, and a peer-reflexive candidate
discovered from an inbound check (also one arriving on a TCP local candidate) carries no tcptype. -/
theorem C06_remotes_dedup_filtered (a : Agent) (h : Reachable a) :
    a.remotes.Pairwise (fun x y => x.equal y = false) ∧ a.locals.Pairwise (fun x y => x.equal y = false) ∧
      (∀ r ∈ a.remotes, a.cfg.blockedIPs.contains (ipOf r.addr) = false) ∧
      ∀ r ∈ a.remotes, r.tt ≠ 1 := by
  obtain ⟨h1, h2, h3⟩ := (C06_inv a h).read_remotes
  refine ⟨h1, h2, h3, fun r hr => ?_⟩
  obtain ⟨a0, evs, h0, rfl⟩ := h
  simpa using noActive_run (Inv.init h0) h0.noActive evs (core r) (mem_rcsOf hr)

def tL : Cand := { uid := 0, ty := 1, net := 2, addr := tcpBase + 16, prio := 1671430143, tt := 2 }
def tRa : Cand := { uid := 0, ty := 1, net := 2, addr := tcpBase + 32, prio := 1675624447, tt := 1 }
def tRp : Cand := { uid := 0, ty := 1, net := 2, addr := tcpBase + 32, prio := 1671430143, tt := 2 }
def tRs : Cand := { uid := 0, ty := 1, net := 2, addr := tcpBase + 32, prio := 1667235839, tt := 3 }
def uRa : Cand := { uid := 0, ty := 1, net := 0, addr := 32, prio := 2130706431, tt := 1 }
/-- TCP candidates: a signalled tcptype-active candidate is ignored (also on a UDP candidate), a passive one is
stored but NOT paired with the local candidates present, a simultaneous-open one at the same address is another
candidate (tcptype is part of the transport address) and is paired; a local candidate added later pairs with all
remote candidates of its network type, the passive one included. -/
example :
    (run {} [.addLocal 0 tL, .addRemote 0 tRa, .addRemote 0 uRa]).remotes = [] ∧
    (run {} [.addLocal 0 tL, .addRemote 0 tRp]).remotes.map (fun c => (c.uid, c.net, c.addr, c.tt)) = [(2, 2, tcpBase + 32, 2)] ∧
    (run {} [.addLocal 0 tL, .addRemote 0 tRp]).checklist = [] ∧
    (run {} [.addLocal 0 tL, .addRemote 0 tRp, .addRemote 0 tRs, .addRemote 0 tRp]).remotes.map (fun c => (c.uid, c.tt)) = [(2, 2), (3, 3)] ∧
    (run {} [.addLocal 0 tL, .addRemote 0 tRp, .addRemote 0 tRs]).checklist.map (fun p => (p.id, p.l, p.r)) = [(1, 1, 3)] ∧
    (run {} [.addRemote 0 tRp, .addRemote 0 tRs, .addLocal 0 tL]).checklist.map (fun p => (p.id, p.l, p.r)) = [(1, 3, 1), (2, 3, 2)] := by
  decide +kernel

/-- validated-source caches only reference current local and remote candidates. -/
theorem C06_caches_current (a : Agent) (h : Reachable a) :
    ∀ x ∈ a.caches, (∃ l ∈ a.locals, l.uid = x.1) ∧ (∃ r ∈ a.remotes, r.uid = x.2.2) :=
  (C06_inv a h).read_caches

/-- **C06_known_source_no_new_remote** — an inbound STUN message (request, response, indication; authenticated or
not) arriving on the local candidate `l` from the canonical address of a LISTED remote candidate `r` of `l`'s network
type never adds a remote candidate — in particular no duplicate peer-reflexive one — whatever address literal `r`
was signalled with (`r.form` is not constrained): the remote candidates are the same up to liveness timestamps, or
the forced tick of the event took the agent to Failed and wiped them all. -/
theorem C06_known_source_no_new_remote (a : Agent) (h : Reachable a) (now la src : Nat) (m : Msg) (l r : Cand)
    (hl : a.localByAddr la = some l) (hr : r ∈ a.remotes) (hn : r.net = l.net) (ha : r.addr = src) :
    (step a (.inbound now la src m)).1.remotes.map core = a.remotes.map core ∨
      (step a (.inbound now la src m)).1.remotes = [] :=
  step_inbound_known_rcs (C06_inv a h) now la src m l hl r hr hn ha

def wM : Cand := { uid := 0, ty := 1, net := 0, addr := 32, prio := 2130706431, form := 1 }
/-- the remote host candidate is signalled as the IPv4-mapped literal; then an authenticated check arrives from its
address -/
def mappedEvs : List Ev := [.addLocal 0 wL, .addRemote 0 wM, .start 0 false "ru" "rp"]
def mappedCheck : Ev := .inbound 10 16 32 { cls := 0, tid := 77, user := some ":ru", key := some "", prio := some 555, role := some (true, 5) }

example : (run {} mappedEvs).remotes.map (fun c => (c.uid, c.ty, c.addr, c.form)) = [(2, 1, 32, 1)] ∧
    (step (run {} mappedEvs) mappedCheck).1.remotes.map (fun c => (c.uid, c.ty, c.addr, c.form)) = [(2, 1, 32, 1)] ∧
    (step (run {} mappedEvs) mappedCheck).1.checklist.map (fun p => (p.id, p.l, p.r, p.reqRecv)) = [(1, 1, 2, 1)] := by
  decide +kernel

/-- **C06_remotes_dedup_canonical** — in every reachable state no two remote candidates are the same candidate up
to the spelling of the address (`canonEqual`: network type, canonical address, type, related address; the literal
form is ignored) — whatever literals the history signalled. -/
theorem C06_remotes_dedup_canonical (a : Agent) (h : Reachable a) :
    a.remotes.Pairwise (fun x y => canonEqual x y = false) :=
  (C06_inv a h).canon

/-- regression (FORMS-1, fixed by /repo 2a786b2): the same host candidate signalled twice, as `10.0.0.3`-style
literal and as its IPv4-mapped literal — the second is a duplicate and is dropped, the listed candidate keeps the
literal it arrived with, one pair.  Both orders.  Replayed on the real agent in corpus/C06/agent.ops. -/
def formDupEvs : List Ev := [.addLocal 0 wL, .addRemote 0 wH, .addRemote 0 wM]
def formDupEvs' : List Ev := [.addLocal 0 wL, .addRemote 0 wM, .addRemote 0 wH, .addRemote 0 wM]

example :
    (run {} formDupEvs).remotes.map (fun c => (c.uid, c.ty, c.net, c.addr, c.form)) = [(2, 1, 0, 32, 0)] ∧
    (run {} formDupEvs).checklist.map (fun p => (p.id, p.l, p.r)) = [(1, 1, 2)] ∧
    (run {} formDupEvs').remotes.map (fun c => (c.uid, c.ty, c.net, c.addr, c.form)) = [(2, 1, 0, 32, 1)] ∧
    (run {} formDupEvs').checklist.map (fun p => (p.id, p.l, p.r)) = [(1, 1, 2)] := by decide +kernel

/-- FULL statement (false since TCP candidates are in the model): after a NEW signalled (not peer-reflexive) candidate
`c` was accepted, no peer-reflexive candidate with its network type and canonical address is listed any more. -/
def PrflxSupersededEverywhere : Prop :=
  ∀ a, Reachable a → ∀ now c, a.closed = false → c.ty ≠ 3 →
    a.cfg.blockedIPs.contains (ipOf c.addr) = false →
    (a.remotes.filter (·.net == c.net)).find? (·.equal c) = none →
    ∀ e ∈ (step a (.addRemote now c)).1.remotes, ¬ (e.ty = 3 ∧ e.net = c.net ∧ e.addr = c.addr)

/-- **C06_prflx_superseded_partial** — after a NEW signalled (not peer-reflexive) candidate `c` was accepted, no
peer-reflexive candidate with its TRANSPORT ADDRESS AS THE CODE DEFINES IT (`transportAddressEqual` = `Cand.taEqual`:
network type, canonical address — whatever the literals —, tcptype, and on tcp4/tcp6 the kind of the resolved address:
`*net.UDPAddr` for srflx/relay, `*net.TCPAddr` for host/prflx) is listed any more.  For UDP candidates this is the full
statement (second part: no peer-reflexive candidate without a tcptype is left at the canonical address of a UDP
candidate without one — a discovered peer-reflexive candidate never has one). -/
theorem C06_prflx_superseded_partial (a : Agent) (h : Reachable a) (now : Nat) (c : Cand) (hc : a.closed = false)
    (hty : c.ty ≠ 3) (hb : a.cfg.blockedIPs.contains (ipOf c.addr) = false)
    (hf : (a.remotes.filter (·.net == c.net)).find? (·.equal c) = none) :
    (∀ e ∈ (step a (.addRemote now c)).1.remotes, ¬ (e.ty = 3 ∧ e.taEqual c = true)) ∧
    (isTCP c.net = false →
      ∀ e ∈ (step a (.addRemote now c)).1.remotes, ¬ (e.ty = 3 ∧ e.net = c.net ∧ e.addr = c.addr ∧ e.tt = c.tt)) := by
  have hact : ∀ x ∈ rcsOf a, x.tt ≠ 1 := by
    obtain ⟨a0, evs, h0, rfl⟩ := h
    exact noActive_run (Inv.init h0) h0.noActive evs
  have h1 : ∀ e ∈ (step a (.addRemote now c)).1.remotes, ¬ (e.ty = 3 ∧ e.taEqual c = true) := by
    intro e he
    have := step_addRemote_prflx_gone (C06_inv a h) hact now c hc hb hf hty (core e) (mem_rcsOf he)
    simpa [Cand.taEqual, Cand.udpResolved] using this
  refine ⟨h1, fun hu e he ⟨e1, e2, e3, e4⟩ => h1 e he ⟨e1, ?_⟩⟩
  simp [Cand.taEqual, e2, e3, e4, hu]

/-- the excluded case (observation TCP-1, notes/C06-tcp.md; replayed on the real agent in corpus/C06/agent.ops): a
check arrives on a TCP local candidate from an unknown source — the peer-reflexive candidate built for it is tcp4
WITHOUT a tcptype; the signalled TCP candidate for that address carries one (here passive), so it is a different
transport address for `removeRedundantPrflxFromSet`: the peer-reflexive candidate is never superseded, both stay
listed (and `findRemoteCandidate` keeps resolving the address to the peer-reflexive one).  The same happens with a
signalled srflx / relay TCP candidate WITHOUT tcptype: its resolved address is a `*net.UDPAddr`, the peer-reflexive
candidate's a `*net.TCPAddr`, and `addrEqual` tells them apart. -/
def tcpPrflxEvs : List Ev := [.addLocal 0 tL, .start 0 false "ru" "rp",
  .inbound 10 (tcpBase + 16) (tcpBase + 32) { cls := 0, tid := 77, user := some ":ru", key := some "", role := some (true, 5) }]

theorem C06_prflx_superseded_witness :
    (run {} tcpPrflxEvs).remotes.map (fun c => (c.uid, c.ty, c.net, c.addr, c.tt, c.prio)) = [(2, 3, 2, tcpBase + 32, 0, 1394606079)] ∧
    (step (run {} tcpPrflxEvs) (.addRemote 20 tRp)).1.remotes.map (fun c => (c.uid, c.ty, c.net, c.addr, c.tt))
      = [(2, 3, 2, tcpBase + 32, 0), (3, 1, 2, tcpBase + 32, 2)] ∧
    (step (run {} tcpPrflxEvs) (.addRemote 20 { tRp with ty := 2, tt := 0, rel := some 0 })).1.remotes.map
      (fun c => (c.uid, c.ty, c.net, c.addr, c.tt)) = [(2, 3, 2, tcpBase + 32, 0), (3, 2, 2, tcpBase + 32, 0)] ∧
    (step (run {} tcpPrflxEvs) (.addRemote 20 { tRp with tt := 0 })).1.remotes.map
      (fun c => (c.uid, c.ty, c.net, c.addr, c.tt)) = [(3, 1, 2, tcpBase + 32, 0)] ∧
    ¬ PrflxSupersededEverywhere := by
  refine ⟨by decide +kernel, by decide +kernel, by decide +kernel, by decide +kernel, fun h => ?_⟩
  have h1 := h _ ⟨{}, tcpPrflxEvs, ⟨rfl, rfl, rfl, rfl, rfl, rfl⟩, rfl⟩ 20 tRp (by decide +kernel) (by decide +kernel) (by decide +kernel) (by decide +kernel)
  revert h1
  decide +kernel

/-- regression (FORMS-2, fixed by /repo 2a786b2): a peer-reflexive candidate is discovered at address 32, then the
host candidate with that address is signalled as the IPv4-mapped literal (or canonically): the peer-reflexive
candidate is superseded, pair 1 is retargeted, the new candidate keeps its literal. -/
def formPrflxEvs : List Ev := [.addLocal 0 wL, .start 0 false "ru" "rp", mappedCheck]

example :
    (run {} formPrflxEvs).remotes.map (fun c => (c.uid, c.ty, c.addr, c.form)) = [(2, 3, 32, 0)] ∧
    (step (run {} formPrflxEvs) (.addRemote 20 wM)).1.remotes.map (fun c => (c.uid, c.ty, c.addr, c.form)) = [(3, 1, 32, 1)] ∧
    (step (run {} formPrflxEvs) (.addRemote 20 wM)).1.checklist.map (fun p => (p.id, p.l, p.r)) = [(1, 1, 3)] ∧
    (step (run {} formPrflxEvs) (.addRemote 20 wH)).1.remotes.map (fun c => (c.uid, c.ty, c.addr, c.form)) = [(3, 1, 32, 0)] := by
  decide +kernel

/-- **C06_ids_stable** — while a pair id stays listed across an event (and the agent is not closed by it), the pair
keeps its local candidate (same identity, type, address, priority …) and its remote candidate keeps network type
and address — also when the remote is a peer-reflexive candidate superseded by a signalled one during the event. -/
theorem C06_ids_stable (a : Agent) (h : Reachable a) (e : Ev) (p p' : Pair) (hp : p ∈ a.checklist)
    (hp' : p' ∈ (step a e).1.checklist) (hid : p'.id = p.id) (hc : (step a e).1.closed = false) :
    p'.l = p.l ∧ ∃ l r l' r', a.localOf p.l = some l ∧ a.remoteOf p.r = some r ∧
      (step a e).1.localOf p'.l = some l' ∧ (step a e).1.remoteOf p'.r = some r' ∧
      core l' = core l ∧ r'.net = r.net ∧ r'.addr = r.addr :=
  (stable_step (C06_inv a h) e).pairs (C06_inv a h) ((C06_inv a h).step e) hp hp' hid hc

/-- **C06_supersession_preserves** — `addRemoteCandidate` (whether or not it supersedes peer-reflexive candidates):
selection and nomination keep pointing at the same ids, and every pair that was listed is still listed with the same
id, local candidate, state, nominated / deferred-nomination flags, request count and all counters — only the remote
identity and the frozen-priority field may differ — and with the same priority VALUE `pairPrio`.  A changed remote
is one of the superseded candidates (`arcS`), replaced by the new candidate. -/
theorem C06_supersession_preserves (a : Agent) (h : Reachable a) (c : Cand) (hc : a.closed = false) :
    (a.addRemoteCandidate c).1.selected = a.selected ∧
    (a.addRemoteCandidate c).1.nominatedPair = a.nominatedPair ∧
    ∀ p ∈ a.checklist, ∃ p' ∈ (a.addRemoteCandidate c).1.checklist,
      { p' with r := p.r, prioOverride := p.prioOverride } = p ∧
      (a.addRemoteCandidate c).1.pairPrio p' = a.pairPrio p ∧
      (p'.r = p.r ∨ (p.r ∈ arcS a c ∧ p'.r = a.nextUid)) :=
  supersession (C06_inv a h) c hc

/-- **C06_restart_wipes** — after Restart (on an agent that is not closed): no pairs, no candidates, no selection,
no outstanding transactions, no caches (and a fresh selector: nothing nominated). -/
theorem C06_restart_wipes (a : Agent) (now : Nat) (u p : String) (hc : a.closed = false) :
    let a' := (step a (.restart now u p)).1
    a'.checklist = [] ∧ a'.locals = [] ∧ a'.remotes = [] ∧ a'.selected = none ∧ a'.pending = [] ∧ a'.caches = [] :=
  restart_wiped a now u p hc

/-- **C06_failed_wipes** — any event that takes the agent into Failed from a different state leaves no pairs,
candidates, selection, outstanding transactions or caches behind. -/
theorem C06_failed_wipes (a : Agent) (h : Reachable a) (e : Ev) (ha : a.connState ≠ .failed)
    (hf : (step a e).1.connState = .failed) :
    let a' := (step a e).1
    a'.checklist = [] ∧ a'.locals = [] ∧ a'.remotes = [] ∧ a'.selected = none ∧ a'.pending = [] ∧ a'.caches = [] :=
  failed_wiped (C06_inv a h) e ha hf

theorem initDefault : Init ({} : Agent) := ⟨rfl, rfl, rfl, rfl, rfl, rfl⟩

def xR2 : Cand := { uid := 0, ty := 1, net := 0, addr := 48, prio := 90 }
/-- a controlling agent with one local and two remote candidates checks, nominates and selects pair 1 -/
def selEvs : List Ev := [.addLocal 0 wL, .addRemote 0 nR, .addRemote 0 xR2, .start 0 true "ru" "rp",
  .inbound 10 16 32 { cls := 2, tid := 2, key := some "rp" }, .advance 200000000,
  .inbound 200000010 16 32 { cls := 2, tid := 6, key := some "rp" }]

/-- a reachable state with two pairs, a selected pair, Connected — `Inv` and all clauses above apply to it -/
example : Reachable (run {} selEvs) ∧ (run {} selEvs).checklist.map (fun p => (p.id, p.l, p.r)) = [(1, 1, 2), (2, 1, 3)] ∧
    (run {} selEvs).selected = some 1 ∧ (run {} selEvs).connState = .connected ∧ (run {} selEvs).closed = false :=
  ⟨⟨{}, selEvs, initDefault, rfl⟩, by decide +kernel⟩

example : IceProofs.AgentC06.Inv (run {} selEvs) := C06_inv _ ⟨{}, selEvs, initDefault, rfl⟩

def xH : Cand := { uid := 0, ty := 1, net := 0, addr := 64, prio := 2130706431 }
/-- a controlled agent discovers a peer-reflexive candidate from an inbound check (USE-CANDIDATE), validates and
selects the pair; then the signalled host candidate with that address arrives -/
def supEvs : List Ev := [.addLocal 0 wL, .start 0 false "ru" "rp",
  .inbound 10 16 64 { cls := 0, tid := 77, user := some ":ru", key := some "", prio := some 555, useCand := true, role := some (true, 5) },
  .inbound 20 16 64 { cls := 2, tid := 2, key := some "rp" }]

/-- (id, local uid, remote uid, nominated, frozen priority or 0, priority value) -/
def pairRow (a : Agent) (p : Pair) : Nat × Nat × Nat × Bool × Nat × Nat :=
  (p.id, p.l, p.r, p.nominated, p.prioOverride.getD 0, a.pairPrio p)

/-- supersession really happens and keeps id 1, state, nomination, selection and the priority value while the
remote identity changes from 2 (prflx) to 3 (host) — the situation `C06_supersession_preserves` and
`C06_ids_stable` talk about; the history satisfies the hypothesis of `C06_no_dup_pair_partial` -/
example :
    (run {} supEvs).checklist.map (pairRow (run {} supEvs)) = [(1, 1, 2, true, 0, 2387968261587)] ∧
    (run {} supEvs).remotes.map (fun c => (c.uid, c.ty, c.addr)) = [(2, 3, 64)] ∧ (run {} supEvs).selected = some 1 ∧
    (run {} (supEvs ++ [.addRemote 30 xH])).checklist.map (pairRow (run {} (supEvs ++ [.addRemote 30 xH])))
      = [(1, 1, 3, true, 2387968261587, 2387968261587)] ∧
    (run {} (supEvs ++ [.addRemote 30 xH])).remotes.map (fun c => (c.uid, c.ty, c.addr)) = [(3, 1, 64)] ∧
    (run {} (supEvs ++ [.addRemote 30 xH])).selected = some 1 ∧
    (supEvs ++ [Ev.addRemote 30 xH]).all evOK = true := by
  refine ⟨by decide +kernel, by decide +kernel, by decide +kernel, by decide +kernel, by decide +kernel, by decide +kernel, by decide +kernel⟩

/-- Failed is reached from Checking by a timer event and wipes (`C06_failed_wipes` is not vacuous) -/
example : (run { cfg := nCfg } (nomEvs.take 4)).connState = .checking ∧
    (run { cfg := nCfg } (nomEvs.take 4)).checklist.length = 1 ∧
    (step (run { cfg := nCfg } (nomEvs.take 4)) (.advance 3000)).1.connState = .failed := by decide +kernel

/-- Restart on a connected agent (`C06_restart_wipes` is not vacuous) -/
example : (run {} selEvs).closed = false ∧ (run {} selEvs).checklist.length = 2 ∧
    (step (run {} selEvs) (.restart 5 "u" "p")).1.checklist = [] := by decide +kernel

open IceModel IceProofs.Agent in
/-- the public `AddRemoteCandidate`, for ALL arguments: nil and tcptype-active candidates are dropped, an mDNS name is
dropped / an error / resolved, anything else is handed to the task loop — and for a signalled candidate `c` of the model
that is the gate of `step (.addRemote now c)`: tcptype active ⇒ state unchanged, nothing emitted; otherwise
`Agent.addRemoteCandidate` runs -/
theorem C06_code_AddRemoteCandidate_gate :
    (∀ (isNil : Bool) (tcpType : Int64) (ty : UInt8) (dotLocal : Bool) (mdnsMode : UInt8) (isHostObject : Bool),
      IceGen.agent_AddRemoteCandidate isNil tcpType ty dotLocal mdnsMode isHostObject
        = if isNil || tcpType == 1 then ([], "nil")
          else if ty == 1 && dotLocal then
            (if mdnsMode == 1 then ([], "nil")
             else if !isHostObject then ([], "ErrAddressParseFailed") else ([IceTie.AgentRemote.eGoResolve], "nil"))
          else ([IceTie.AgentRemote.eGoAdd], "nil")) ∧
    (∀ (c : Cand) (ty mdnsMode : UInt8) (isHostObject : Bool), c.tt < 2 ^ 63 →
      (IceGen.agent_AddRemoteCandidate false (Int64.ofNat c.tt) ty false mdnsMode isHostObject).1
        = if c.tt == 1 then [] else [IceTie.AgentRemote.eGoAdd]) ∧
    (∀ (a : Agent) (now : Nat) (c : Cand), a.closed = false → c.tt = 1 → step a (.addRemote now c) = (a, [])) ∧
    (∀ (a : Agent) (now : Nat) (c : Cand), a.closed = false → c.tt ≠ 1 →
      step a (.addRemote now c) =
        (((a.addRemoteCandidate c).1.runForced now).1,
         (a.addRemoteCandidate c).2.1 ++ ((a.addRemoteCandidate c).1.runForced now).2)) :=
  ⟨IceTie.AgentRemote.AddRemoteCandidate_tie, IceTie.AgentRemote.AddRemoteCandidate_gate,
   addRemote_active_ignored, addRemote_other_handed⟩

/-- the task `addRemoteCandidate`, for ALL arguments: filtered ⇒ false and nothing touched; an `Equal` candidate listed
⇒ true and nothing touched; otherwise supersede peer-reflexive candidates, dial a passive candidate (active TCP on, host
candidate type and network type enabled), append + store, pair with the local candidates of the network type that have no pair yet UNLESS the
candidate is tcptype passive, request a check -/
theorem C06_code_addRemoteCandidate (accepted : Bool) (equalListed : List Bool) (disableActiveTCP : Bool) (tcpType : Int64)
    (hostEnabled netEnabled hasLocals noPair : Bool) :
    IceGen.agent_addRemoteCandidate accepted equalListed disableActiveTCP tcpType hostEnabled netEnabled hasLocals noPair
      = if !accepted then ([], false)
        else if equalListed.any id then ([], true)
        else ([IceTie.AgentRemote.eReplace]
              ++ (if !disableActiveTCP && tcpType == 2 && hostEnabled && netEnabled then [IceTie.AgentRemote.ePassive] else [])
              ++ [IceTie.AgentRemote.eAppend, IceTie.AgentRemote.eStore]
              ++ (if tcpType != 2 && hasLocals then
                    [IceTie.AgentRemote.eFor] ++ (if noPair then [IceTie.AgentRemote.eAddPair] else []) ++ [IceTie.AgentRemote.eEnd]
                  else [])
              ++ [IceTie.AgentRemote.eCheck], true) :=
  IceTie.AgentRemote.addRemoteCandidate_tie accepted equalListed disableActiveTCP tcpType hostEnabled netEnabled hasLocals noPair

/-- … and the model takes the same exits and applies the same pairing rule: blocked IP ⇒ `(a, [], none)`, an `Equal`
listed candidate ⇒ `(a, [], some e)`; the pairing loop runs iff the candidate is not tcptype passive -/
theorem C06_code_addRemoteCandidate_model (a : Agent) (c : Cand) (dis : Bool) (tt : Int64) (he ne hl np : Bool) :
    (a.cfg.blockedIPs.contains (ipOf c.addr) = true →
      IceGen.agent_addRemoteCandidate false ((a.remotes.filter (·.net == c.net)).map (·.equal c)) dis tt he ne hl np = ([], false)
      ∧ a.addRemoteCandidate c = (a, [], none)) ∧
    (∀ e, a.cfg.blockedIPs.contains (ipOf c.addr) = false →
      (a.remotes.filter (·.net == c.net)).find? (·.equal c) = some e →
      IceGen.agent_addRemoteCandidate true ((a.remotes.filter (·.net == c.net)).map (·.equal c)) dis tt he ne hl np = ([], true)
      ∧ a.addRemoteCandidate c = (a, [], some e)) ∧
    (c.tt < 2 ^ 63 → ∀ eq : List Bool, eq.any id = false →
      (IceGen.agent_addRemoteCandidate true eq dis (Int64.ofNat c.tt) he ne true np).1.contains IceTie.AgentRemote.eFor = (c.tt != 2) ∧
      (a.locals.filter fun (x : Cand) => x.net == c.net && c.tt != 2)
        = (if c.tt != 2 then a.locals.filter (fun x => x.net == c.net) else [])) :=
  ⟨(IceTie.AgentRemote.addRemoteCandidate_exits a c dis tt he ne hl np).1,
   (IceTie.AgentRemote.addRemoteCandidate_exits a c dis tt he ne hl np).2,
   fun h eq hq => IceTie.AgentRemote.addRemoteCandidate_pairing a c h eq dis he ne np hq⟩

/-- `candidateBase.transportAddressEqual` and `Equal` (regenerated, `IceGen.T_Cand`), with their parameters instantiated for
two distinct resolved candidates of the model whose address ids are tagged by the network, are `Cand.taEqual` / `Cand.equal` -/
theorem C06_code_taEqual (a b : Cand) (ha : IceTie.AgentRemote.AddrWF a) (hb : IceTie.AgentRemote.AddrWF b)
    (hna : a.net < 2 ^ 62) (hnb : b.net < 2 ^ 62) (hta : a.tt < 2 ^ 63) (htb : b.tt < 2 ^ 63)
    (hya : a.ty < 256) (hyb : b.ty < 256) :
    IceGen.candidateBase_transportAddressEqual true false false
        (IceTie.AgentRemote.tcpAddrKind a == IceTie.AgentRemote.tcpAddrKind b && ipOf a.addr == ipOf b.addr
          && a.addr % 16 == b.addr % 16)
        (Int64.ofNat (a.net + 1)) (Int64.ofNat (b.net + 1)) (ipOf a.addr == ipOf b.addr)
        (Int64.ofNat (a.addr % 16)) (Int64.ofNat (b.addr % 16)) (Int64.ofNat a.tt) (Int64.ofNat b.tt)
      = a.taEqual b ∧
    IceGen.candidateBase_Equal
        (IceGen.candidateBase_transportAddressEqual true false false
          (IceTie.AgentRemote.tcpAddrKind a == IceTie.AgentRemote.tcpAddrKind b && ipOf a.addr == ipOf b.addr
            && a.addr % 16 == b.addr % 16)
          (Int64.ofNat (a.net + 1)) (Int64.ofNat (b.net + 1)) (ipOf a.addr == ipOf b.addr)
          (Int64.ofNat (a.addr % 16)) (Int64.ofNat (b.addr % 16)) (Int64.ofNat a.tt) (Int64.ofNat b.tt))
        (UInt8.ofNat a.ty) (UInt8.ofNat b.ty) (a.rel == b.rel)
      = a.equal b :=
  ⟨IceTie.AgentRemote.taEqual_tie a b ha hb hna hnb hta htb,
   IceTie.AgentRemote.equal_tie a b ha hb hna hnb hta htb hya hyb⟩

/-- non-vacuity: the regenerated functions on concrete arguments; the hypotheses of `C06_code_taEqual` hold for the TCP
example candidates -/
example : IceGen.agent_AddRemoteCandidate false 1 1 false 2 true = ([], "nil") ∧
    IceGen.agent_AddRemoteCandidate false 2 1 false 2 true = ([IceModel.Eff.call "go:addRemoteCandidate" []], "nil") ∧
    IceGen.agent_AddRemoteCandidate false 0 1 true 1 true = ([], "nil") ∧
    IceGen.agent_AddRemoteCandidate false 0 1 true 2 true = ([IceModel.Eff.call "go:resolveAndAddMulticastCandidate" []], "nil") ∧
    IceGen.agent_AddRemoteCandidate false 0 1 true 2 false = ([], "ErrAddressParseFailed") := by decide +kernel
example : (IceGen.agent_addRemoteCandidate true [false, false] true 2 true true true true).1
      = [IceModel.Eff.call "replaceRedundantPrflx" [], IceModel.Eff.call "appendRemote" [], IceModel.Eff.call "storeRemotes" [],
         IceModel.Eff.call "requestConnectivityCheck" []] ∧
    (IceGen.agent_addRemoteCandidate true [false] true 0 true true true true).1
      = [IceModel.Eff.call "replaceRedundantPrflx" [], IceModel.Eff.call "appendRemote" [], IceModel.Eff.call "storeRemotes" [],
         IceModel.Eff.call "for:locals" [], IceModel.Eff.call "addPair" [], IceModel.Eff.call "end:locals" [],
         IceModel.Eff.call "requestConnectivityCheck" []] ∧
    IceGen.agent_addRemoteCandidate true [false, true] true 0 true true true true = ([], true) := by decide +kernel
example : IceTie.AgentRemote.AddrWF tL ∧ IceTie.AgentRemote.AddrWF tRp ∧ tL.taEqual tRp = false ∧ tRp.taEqual tRp = true := by
  refine ⟨⟨fun _ => by decide, fun h => by simp [tL, isTCP] at h⟩, ⟨fun _ => by decide, fun h => by simp [tRp, isTCP] at h⟩, by decide, by decide⟩

/-- the task of `Agent.Restart` (agent.go, regenerated in effect mode): cancel gathering, release the mux ufrag, set the new
local credentials, clear the remote credentials, gathering state New, empty checklist / pair index / pending transactions, clear the
selection, delete all candidates, a fresh selector — and only then, unless the agent is still New, the state goes to Checking
(Restart leaves no residue); the model's `doRestart` is the same sequence -/
theorem C06_code_restart_task (ufrag pwd : String) (connState : Int64) :
    IceGen.agent_Restart_task ufrag pwd connState
      = [IceTie.Order.c "gatherCandidateCancel", IceTie.Order.c "removeUfragFromMux",
         IceModel.Eff.set "a.localUfrag" (IceModel.Val.s ufrag), IceModel.Eff.set "a.localPwd" (IceModel.Val.s pwd),
         IceModel.Eff.set "a.remoteUfrag" (IceModel.Val.s ""), IceModel.Eff.set "a.remotePwd" (IceModel.Val.s ""),
         IceModel.Eff.set "a.gatheringState" (IceModel.Val.i 1),
         IceModel.Eff.set "a.checklist" (IceModel.Val.s "empty"), IceModel.Eff.set "a.pairsByID" (IceModel.Val.s "empty"),
         IceModel.Eff.set "a.pendingBindingRequests" (IceModel.Val.s "empty"),
         IceTie.Order.c1 "setSelectedPair" (IceModel.Val.s "nil"), IceTie.Order.c "deleteAllCandidates", IceTie.Order.c "setSelector"]
        ++ (if connState == 1 then [] else [IceTie.Order.c1 "updateConnectionState" (IceModel.Val.i 2)]) ∧
    (∀ (a : Agent) (now : Nat), a.doRestart now ufrag pwd =
      let a1 : Agent := { (({ a with localUfrag := ufrag, localPwd := pwd, remoteUfrag := "", remotePwd := "" } : Agent).wipe).resetSelector now
                          with generation := a.generation + 1 }
      if a1.connState != .new then a1.setConnState .checking else (a1, [])) :=
  ⟨IceTie.Order.restartTask_tie ufrag pwd connState, fun a now => IceTie.Order.doRestart_order a now ufrag pwd⟩

example : (IceGen.agent_Restart_task "u" "p" 3).getLast? = some (IceModel.Eff.call "updateConnectionState" [IceModel.Val.i 2]) ∧
    (IceGen.agent_Restart_task "u" "p" 1).getLast? = some (IceModel.Eff.call "setSelector" []) := by decide +kernel

open IceTie.AgentTick in
/-- `Agent.addPair`: counter first, creation with the agent's current role, id, append to the checklist, index by id; the model's
`addPair` does the same -/
theorem C06_code_addPair :
    (∀ nextPairID, IceGen.agent_addPair nextPairID
      = ([c "nextPairID++", c "p := newCandidatePair(local, remote, isControlling)",
          IceModel.Eff.set "p.id" (IceModel.Val.n nextPairID.toNat),
          IceModel.Eff.set "a.checklist" (IceModel.Val.s "checklist ++ [p]"),
          IceModel.Eff.set "a.pairsByID[p.id]" (IceModel.Val.s "p")], "p")) ∧
    (∀ (a : Agent) (l r : Cand),
      (a.addPair l r).2 = { id := a.nextPairID + 1, l := l.uid, r := r.uid, controlling := a.controlling } ∧
      (a.addPair l r).1.nextPairID = a.nextPairID + 1 ∧
      (a.addPair l r).1.checklist = a.checklist ++ [(a.addPair l r).2]) :=
  ⟨addPair_tie, addPair_model⟩

example : (IceGen.agent_addPair 7).1.length = 5 ∧ (IceGen.agent_addPair 7).2 = "p" := by decide +kernel

open IceTie.AgentTick in
/-- one iteration of the checklist loops: `pingAllCandidates` (Waiting → InProgress; not InProgress → skipped; over the limit →
Failed, not pinged; else pinged, then counted), `keepAliveCandidatesForRenomination` (Failed skipped, Waiting → InProgress, every
other pair pinged, no limit), `getBestAvailableCandidatePair` (not Failed, strictly higher priority replaces); the model folds
the same bodies (`pingStep`, `keepAliveStep`) -/
theorem C06_code_checklist_iterations :
    (∀ empty state count maxReq, IceGen.agent_pingAllCandidates_iter empty state count maxReq
      = pingEffs (state == 1) (pingDecision (stOf state) count.toNat maxReq.toNat)) ∧
    (∀ (a : Agent) (now : Nat), a.pingAll now = (a.checklist.map (·.id)).foldl (pingStep now) (a, [])) ∧
    (∀ (now : Nat) (a : Agent) (o : List Out) (id : Nat) (p : Pair), a.pairById id = some p →
      pingDecision p.state p.reqCount a.cfg.maxBindingRequests = .skip → pingStep now (a, o) id = (a, o)) ∧
    (∀ (now : Nat) (a : Agent) (o : List Out) (id : Nat) (p : Pair), a.pairById id = some p →
      pingDecision p.state p.reqCount a.cfg.maxBindingRequests = .fail → (pingStep now (a, o) id).2 = o) ∧
    (∀ empty state, IceGen.agent_keepAliveCandidatesForRenomination_iter empty state
      = if empty then []
        else [c "for:checklist"] ++
          (if state == 3 then []
           else (if state == 1 then [IceModel.Eff.set "pair.state" (IceModel.Val.i 2)] else []) ++ [c "PingCandidate"]) ++ [c "end:checklist"]) ∧
    (∀ (a : Agent) (now : Nat), a.keepAliveAll now = (a.checklist.map (·.id)).foldl (keepAliveStep now) (a, [])) ∧
    (∀ state bestNil bestPrio pPrio, IceGen.agent_getBestAvailableCandidatePair_iter state bestNil bestPrio pPrio
      = bestEffs (!(state == 3) && (bestNil || decide (bestPrio.toNat < pPrio.toNat)))) :=
  ⟨pingAllCandidates_iter_tie, pingAll_fold, pingStep_skip, pingStep_fail, keepAliveCandidatesForRenomination_iter_tie,
   keepAliveAll_fold, getBestAvailableCandidatePair_iter_tie⟩

example : IceGen.agent_pingAllCandidates_iter false 1 8 7
      = IceTie.AgentTick.pingEffs true IceTie.AgentTick.PingDecision.fail ∧
    IceGen.agent_pingAllCandidates_iter false 2 7 7 = IceTie.AgentTick.pingEffs false IceTie.AgentTick.PingDecision.ping ∧
    IceGen.agent_pingAllCandidates_iter false 4 0 7 = IceTie.AgentTick.pingEffs false IceTie.AgentTick.PingDecision.skip ∧
    IceGen.agent_keepAliveCandidatesForRenomination_iter false 4
      = [IceTie.AgentTick.c "for:checklist", IceTie.AgentTick.c "PingCandidate", IceTie.AgentTick.c "end:checklist"] := by decide +kernel

end IceProps.C06

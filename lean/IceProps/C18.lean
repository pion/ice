import IceTie.Lifecycle
import IceModel.Gather
import IceSpec.C18
import IceSpec.C03Gather
import IceProofs.GatherUnits
import IceProofs.GatherGlue
import IceProofs.GatherCyc
import IceProofs.GatherProv
import IceProofs.GatherComplete
import IceProofs.GatherCycReach
import IceTie.Gather
import IceModel.ActiveTcp
import IceSpec.C18Active
/-!
# C18 — gathering produces exactly the candidates the configuration allows

The property theorems and the concrete scenarios; lemmas about the model are in `IceProofs/Gather*.lean` (units:
`GatherUnits`, the glue between the model's tests and the spec's clauses: `GatherGlue`, cycle machine: `GatherCyc`, agent
model: `GatherClosed`, `GatherProv`, `GatherComplete`, `GatherCycReach`).
The model (`IceModel.Gather`) is compared with the real agent after every operation by the `gather`
component (`Driver/Gather.lean`, `harness/inpkg/zz_verif_gather_test.go`); the spec
(`IceSpec.C18`) is written independently of the gatherers and is also evaluated on the
implementation's published candidates.

All theorems speak about the repaired code (`cfg.quirks = []`, i.e. none of the findings `Config.quirks` numbers —
C18-G1 … G5, G8 … G10, C09-G11, C09-G12 — is present; the harness detects which are present and the witnesses below
show what they break).
-/
namespace IceProps.C18
open IceModel.Gather IceSpec.C18 IceProofs.GatherUnits IceProofs.GatherGlue

theorem onAccepted_of_local {cfg : Config} {nts : List NetType} {ifs : List Iface} {a : Addr}
    (h : Local cfg nts ifs a) : onAcceptedIface cfg ifs a = true := by
  obtain ⟨i, hi, hacc, ha, hok⟩ := h
  rw [onAcceptedIface_eq, List.any_eq_true]
  exact ⟨i, hi, by simp [hacc, ha, (addrAccepted_iff.1 hok).1]⟩

theorem local_supported {cfg : Config} {nts : List NetType} {ifs : List Iface} {a : Addr}
    (h : Local cfg nts ifs a) : a.cls.is6 = true → a.cls.supported6 = true := by
  obtain ⟨i, _, _, _, hok⟩ := h
  intro h6
  have := (addrAccepted_iff.1 hok).2
  rw [if_pos h6] at this
  exact this.2

theorem supported_not_excluded {c : AddrClass} (h : c.is6 = true → c.supported6 = true) :
    excludedClass c = false :=
  (excluded_iff c).2 h

theorem netEnabled_of_configured {cfg : Config} {n : NetType}
    (h : (configured cfg.netTypes).contains n = true) : netEnabled cfg n = true := by
  rcases contains_configured.1 h with h | h
  · simp [netEnabled, h]
  · simp only [netEnabled, Bool.or_eq_true]
    exact Or.inr (List.contains_iff_mem.2 h)

theorem portOk_own (cfg : Config) : portOk cfg (ownPortFlag cfg) = true := by
  unfold portOk ownPortFlag rangeConfigured portRange
  by_cases h1 : cfg.portMin = 0 <;> by_cases h2 : cfg.portMax = 0 <;> simp [h1, h2]

theorem ownPortFlag_ne_M (cfg : Config) : (ownPortFlag cfg == PFlag.M) = false := by
  unfold ownPortFlag; split <;> rfl

theorem typesEnabled_of_mem {cfg : Config} {t : CandType} (h : cfg.candTypes.contains t = true) :
    t ∈ typesEnabled cfg := by
  unfold typesEnabled
  split
  · rename_i he
    simp [List.isEmpty_iff] at he
    simp [he] at h
  · exact List.contains_iff_mem.1 h

theorem ofTransport_is6 (tcp v6 : Bool) : (NetType.ofTransport tcp v6).is6 = v6 := by
  cases tcp <;> cases v6 <;> rfl

theorem baseOk_of {cfg : Config} {nts : List NetType} {ifs : List Iface} {b : Addr} {v6 : Bool}
    (h : if useFilteredLocalAddrs cfg then Local cfg nts ifs b else b = unspec v6) : baseOk cfg ifs b = true := by
  unfold baseOk filtersInstalled
  unfold useFilteredLocalAddrs at h
  split at h
  · rename_i hf
    simp only [hf, ↓reduceIte]
    exact onAccepted_of_local h
  · rename_i hf
    simp only [hf, Bool.false_eq_true, ↓reduceIte]
    subst h
    cases v6 <;> rfl

/-- **Soundness.** Every candidate that a gather unit of any cycle can publish — for ALL
configurations, interface tables, unit, address index and server reply — satisfies every clause of
the spec: enabled candidate type and network type (empty list = all), never a site-local or
IPv4-compatible address, link-local only behind the mDNS name, mDNS name iff gather mode, and for
sockets the agent opens itself: accepted interface and address, port inside the range. -/
theorem C18_sound (cfg : Config) (ifs : List Iface) (hq : cfg.quirks = []) (hwf : realAddrs cfg ifs = true)
    (u : GUnit)
    (hu : u ∈ allUnits cfg ifs) (ci m : Nat)
    (hp : publishable cfg (unitCand cfg u ci m) = true) (hh : (unitCand cfg u ci m).hidden = false) :
    candViolation cfg ifs (unitCand cfg u ci m) = none := by
  -- `hwf` is not needed: a unit's network type is computed from the address it publishes, so the spec's family clause
  -- holds of a placeholder address too
  have _ := hwf
  rcases mem_allUnits.1 hu with ⟨hty, hu | hu⟩ | ⟨hty, hu⟩ | ⟨hty, hu⟩ <;> have hT := typesEnabled_of_mem hty
  · -- a listen address of the UDP mux
    obtain ⟨addrs, a, mp, hmux, _, hmp, rfl, hen, hsup⟩ := (mem_hostMuxUnits hq).1 hu
    have hne := netEnabled_of_configured hen
    have hex := supported_not_excluded hsup
    -- what is published: the listen address, or (never with mDNS) an external address of the rule
    have hpub := mem_muxMapped hmp
    by_cases hmd : cfg.mdnsGather = true
    · -- mDNS gather mode: the network type and the address of the listen address itself, behind the mDNS name — a
      -- link-local one included
      simp [candViolation, unitCand, hmd, hT, hne, hex, hmux, ofTransport_is6]
    · have hmd' : cfg.mdnsGather = false := by simpa using hmd
      have hk : mp.cls.isLinkLocal6 = false := by simpa [unitCand, hmd', Config.has, hq] using hh
      by_cases hma : mp = a
      · subst hma
        simp [candViolation, unitCand, GUnit.sockBase, hmd', hT, hne, hex, hk, hmux, ofTransport_is6]
      · have hce := (hpub.resolve_left hma).2
        simp [candViolation, unitCand, GUnit.sockBase, hma, hce, hmd', hT, hne, hex, hk, hmux, ofTransport_is6]
  · -- an interface address: the socket is on `bind`, the candidate publishes `mapped`
    obtain ⟨kind, net, bind, url, n, mapped, uifc⟩ := u
    obtain ⟨a, ifc, mp, hmem, hmp, hb, hmpd, _, _, _, hsup, h⟩ := (mem_hostIfaceUnits hq).1 hu
    simp only at hb hmpd h
    subst hb hmpd
    have hacc := onAccepted_of_local (local_of_mem hmem)
    have hex := supported_not_excluded hsup
    have hpub := mem_hostMapped hmp
    have hk : (mapped.cls.isLinkLocal6 && !cfg.mdnsGather) = false := by
      rcases h with ⟨rfl, _⟩ | ⟨rfl, _⟩ <;> simpa [unitCand, Bool.and_comm] using hh
    -- a candidate that publishes another address than its socket's: never with mDNS, an external address of the rule
    have hbase : mapped = bind ∨ (mapped ≠ bind ∧ cfg.mdnsGather = false ∧ mapped ∈ hostExts cfg) :=
      (Decidable.em (mapped = bind)).imp_right (fun hma => ⟨hma, hpub.resolve_left hma⟩)
    rcases h with ⟨rfl, rfl, hen, hmux⟩ | ⟨rfl, rfl, hen, hmux⟩ <;> have hne := netEnabled_of_configured hen
    · have htm := tcpMux_isSome hmux
      rcases hbase with hma | ⟨hma, hmd, hce⟩
      · subst hma
        simp [candViolation, unitCand, GUnit.sockBase, hT, hne, hex, hk, htm, ofTransport_is6]
      · have hk' : mapped.cls.isLinkLocal6 = false := by simpa [hmd] using hk
        simp [candViolation, unitCand, GUnit.sockBase, hma, hce, hmd, hT, hne, hex, hk', htm, ofTransport_is6]
    · have hnt : (NetType.ofTransport false mapped.cls.is6).isTCP = false := by cases mapped.cls.is6 <;> rfl
      rcases hbase with hma | ⟨hma, hmd, hce⟩
      · subst hma
        simp [candViolation, unitCand, GUnit.sockBase, hT, hne, hex, hk, ownPortFlag_ne_M, hnt, hmux, hacc,
          portOk_own, ofTransport_is6]
      · have hk' : mapped.cls.isLinkLocal6 = false := by simpa [hmd] using hk
        simp [candViolation, unitCand, GUnit.sockBase, hma, hce, hmd, hT, hne, hex, hk', ownPortFlag_ne_M, hnt,
          hmux, hacc, portOk_own, ofTransport_is6]
  · -- server reflexive
    unfold srflxAllUnits at hu
    rcases List.mem_append.1 hu with hu | hu
    · split at hu
      · simp at hu
      · split at hu
        · obtain ⟨hk, hn, _, hsm⟩ := mem_srflxMuxUnits hu
          obtain ⟨kind, net, bind, url, n⟩ := u
          simp only at hk hn
          subst hk
          have hne := netEnabled_of_configured (List.contains_iff_mem.2 hn)
          cases h6 : net.is6 <;>
            simp [candViolation, unitCand, hT, hne, h6, excludedClass, AddrClass.isLinkLocal6, hsm]
        · obtain ⟨hk, hn, _, hb⟩ := mem_srflxUnits hu
          obtain ⟨kind, net, bind, url, n⟩ := u
          simp only at hk hn hb
          subst hk
          have hne := netEnabled_of_configured (List.contains_iff_mem.2 hn)
          have hbase := baseOk_of hb
          cases h6 : net.is6 <;>
            simp [candViolation, unitCand, hT, hne, h6, excludedClass, AddrClass.isLinkLocal6,
              ownPortFlag_ne_M, hbase, portOk_own]
    · -- a mapped address of a srflx rewrite rule: the guards of `publishable` are the clauses
      obtain ⟨hk, _, _, hb⟩ := mem_srflxMappedUnits hq hu
      obtain ⟨kind, net, bind, url, n⟩ := u
      simp only at hk hb
      subst hk
      have hbase : baseOk cfg ifs bind = true := by
        apply baseOk_of (nts := configured cfg.netTypes) (v6 := net.is6)
        split at hb
        · rename_i hf; simp only [hf, ↓reduceIte]; exact hb.1
        · rename_i hf; simp only [hf, Bool.false_eq_true, ↓reduceIte]; exact hb
      simp only [publishable, unitCand, Bool.and_eq_true, Bool.or_eq_true, Bool.not_eq_true', bne_iff_ne, ne_eq,
        reduceCtorEq, not_true_eq_false, false_or, beq_iff_eq] at hp
      have hnet := netEnabled_of_configured hp.1.2
      have hex := supported_not_excluded (fun h6 => hp.2.resolve_left (fun hf => Bool.false_ne_true (hf.symm.trans h6)))
      simp [candViolation, unitCand, hT, hnet, hex, hp.1.1.2, ownPortFlag_ne_M, hbase, portOk_own]
  · -- relay
    obtain ⟨hk, hn, hb⟩ := mem_relayUnits hu
    obtain ⟨kind, net, bind, url, n, mp, uifc⟩ := u
    simp only at hk hn hb
    subst hk hn
    have hne : netEnabled cfg .udp4 = true := by
      simp only [publishable, unitCand, Config.has, hq, List.contains_nil, Bool.or_false, Bool.and_eq_true,
        Bool.or_eq_true] at hp
      exact netEnabled_of_configured (hp.1.1.1.resolve_left (by simp))
    have hbase := baseOk_of (v6 := false) hb
    rcases relayAddr_cases cfg m ci with h | h <;>
      simp [candViolation, unitCand, hT, hne, h, excludedClass, AddrClass.isLinkLocal6, hbase]

open IceProofs.GatherAgent IceProofs.GatherProv in
/-- **Soundness of every observation of the model, with an interface table that changes.** For every
configuration (repaired code), initial interface table, operation sequence on a fresh agent — including any number of
`ifaces` operations that replace the table, ticks of the monitor of continual gathering and its re-gather passes —
and every further operation: every candidate the model lists in `GetLocalCandidates` passes the spec's
`candViolation` for a table the fake Net has had (the initial one or the one of an `ifaces` operation: the table at
the time of the pass that gathered it), so does every candidate it delivers to `OnCandidate`, and a HOST candidate
delivered to `OnCandidate` passes it for the table IN FORCE during that operation — i.e. every trace the model can
produce passes the soundness part of the monitor (`IceSpec.C18.soundViolation`) that is also run on the
implementation. With no `ifaces` operation this is the old statement: one table, every candidate judged against it. -/
theorem C18_sound_reachable (cfg : Config) (ifs : List Iface) (hq : cfg.quirks = [])
    (s0 : MState) (h0 : newAgent cfg ifs = .ok s0) (ops : List Op) (op : Op)
    (hwf : ∀ T ∈ ifs :: opTables (ops ++ [op]), realAddrs cfg T = true) :
    let s := (step (runOps s0 ops) op).1
    (∀ T ∈ s.ifs :: s.ifsHist, T ∈ ifs :: opTables (ops ++ [op]))
    ∧ (∀ c ∈ (observe s).cands ++ (observe s).evs, ∃ T ∈ s.ifs :: s.ifsHist, candViolation cfg T c.1 = none)
    ∧ (∀ c ∈ (observe s).evs, c.1.ty = .host → candViolation cfg s.ifs c.1 = none) := by
  intro s
  have hi : ProvS cfg s0 := prov_init cfg ifs s0 h0
  have hp : ProvS cfg s := step_prov (runOps_prov ops hi) op
  have htab : ∀ T ∈ s.ifs :: s.ifsHist, T ∈ ifs :: opTables (ops ++ [op]) := by
    intro T hT
    have h1 : T ∈ (runOps s0 (ops ++ [op])).ifs :: (runOps s0 (ops ++ [op])).ifsHist := by
      have : runOps s0 (ops ++ [op]) = s.flush := runOps_snoc s0 ops op
      rw [this]; exact hT
    have h2 := runOps_tabs (ops ++ [op]) hi T h1
    have hs0 : s0.ifs :: s0.ifsHist = [ifs] := by rw [newAgent_ok h0]
    rw [hs0] at h2
    rcases h2 with h2 | h2
    · simp only [List.mem_singleton] at h2; subst h2; simp
    · exact List.mem_cons_of_mem _ h2
  have sound : ∀ T ∈ s.ifs :: s.ifsHist, ∀ d, FromUnit cfg T d → d.hidden = false → candViolation cfg T d = none := by
    rintro T hT d ⟨u, hu, ci, m, rfl, hpub⟩ hh
    exact C18_sound cfg T hq (hwf T (htab T hT)) u hu ci m hpub hh
  refine ⟨htab, ?_, ?_⟩
  · intro c hc
    simp only [observe, List.mem_append] at hc
    rcases hc with hc | hc
    · split at hc
      · simp at hc
      · simp only [List.mem_map, List.mem_filter] at hc
        obtain ⟨mc, ⟨hmc, hnh⟩, rfl⟩ := hc
        obtain ⟨T, hT, hf⟩ := hp.cands mc hmc
        exact ⟨T, hT, sound T hT mc.d hf (by simpa using hnh)⟩
    · simp only [List.mem_map] at hc
      obtain ⟨e, he, rfl⟩ := hc
      obtain ⟨⟨T, hT, hf⟩, _, hh⟩ := hp.evs e he
      exact ⟨T, hT, sound T hT e.1 hf hh⟩
  · intro c hc hty
    simp only [observe, List.mem_map] at hc
    obtain ⟨e, he, rfl⟩ := hc
    obtain ⟨_, hcur, hh⟩ := hp.evs e he
    exact sound s.ifs (by simp) e.1 (hcur hty) hh
where
  runOps_snoc (s0 : MState) : ∀ (ops : List Op) (op : Op),
      IceProofs.GatherAgent.runOps s0 (ops ++ [op]) = (step (IceProofs.GatherAgent.runOps s0 ops) op).1.flush := by
    intro ops
    induction ops generalizing s0 with
    | nil => intro op; rfl
    | cons o ops ih => intro op; simp only [List.cons_append, IceProofs.GatherAgent.runOps]; exact ih _ op

theorem local_of_onAccepted {cfg : Config} {ifs : List Iface} {a : Addr} (nts : List NetType)
    (h : onAcceptedIface cfg ifs a = true)
    (hfam : if a.cls.is6 then v6Requested nts = true ∧ a.cls.supported6 = true else v4Requested nts = true) :
    Local cfg nts ifs a :=
  local_of_accepted nts h hfam

theorem requested_of_enabled {cfg : Config} {tcp v6 : Bool} (h : netEnabled cfg (NetType.ofTransport tcp v6) = true) :
    (if v6 then v6Requested (configured cfg.netTypes) else v4Requested (configured cfg.netTypes)) = true
    ∧ (configured cfg.netTypes).contains (NetType.ofTransport tcp v6) = true :=
  requested_of_netEnabled h

theorem not_excluded_supported {c : AddrClass} (h : excludedClass c = false) : c.is6 = true → c.supported6 = true :=
  (excluded_iff c).1 h

theorem eligible_local {cfg : Config} {ifs : List Iface} {a : Addr} {tcp : Bool} {ifc : Nat}
    (he : eligibleAddr cfg ifs a = true) (hifc : ifc ∈ acceptedIfacesOf cfg ifs a)
    (hen : netEnabled cfg (NetType.ofTransport tcp a.cls.is6) = true) :
    (a, ifc) ∈ localAddrs cfg (configured cfg.netTypes) ifs :=
  eligible_mem_local he hifc hen

theorem isEmpty_filter_eq {α : Type} (p : α → Bool) (l : List α) : (l.filter p).isEmpty = !l.any p :=
  filter_isEmpty p l

theorem lookup_spec {cfg : Config} {r : HostRule} (hr : cfg.hostRule = some r) (hmd : cfg.mdnsGather = false)
    (a : Addr) (ifc : Option Nat) :
    r.lookup a ifc = if ruleApplies cfg a ifc then some (ruleExts cfg a ifc) else none :=
  lookup_eq hr hmd a ifc

theorem hostMapped_self {cfg : Config} {a : Addr} {ifc : Nat} (h : ruleReplaces cfg a (some ifc) = false) :
    a ∈ hostMapped cfg a ifc := by
  rw [hostMapped_eq]
  split
  · exact List.mem_singleton.2 rfl
  · exact mem_ruleMapped.2 (.inl ⟨rfl, h⟩)

theorem hostMapped_ext {cfg : Config} {a e : Addr} {ifc : Nat} (hk : a.cls.isLinkLocal6 = false)
    (h : e ∈ ruleExts cfg a (some ifc)) : e ∈ hostMapped cfg a ifc := by
  rw [hostMapped_eq, hk]
  exact mem_ruleMapped.2 (.inr h)

theorem muxMapped_self {cfg : Config} {a : Addr} (h : ruleReplaces cfg a none = false) : a ∈ muxMapped cfg a :=
  muxMapped_of_published (.inl ⟨rfl, h⟩)

theorem muxMapped_ext {cfg : Config} {a e : Addr} (h : e ∈ ruleExts cfg a none) : e ∈ muxMapped cfg a :=
  muxMapped_of_published (.inr h)

/-- `e` is one of the addresses the configuration has interface address `a` (seen on interface `ifc`, or
`none` for a mux listen address) published as: `a` itself where the host rule leaves it in place, and every
external address the rule assigns to it -/
def PublishedAs (cfg : Config) (a : Addr) (ifc : Option Nat) (e : Addr) : Prop :=
  (e = a ∧ ruleReplaces cfg a ifc = false) ∨ e ∈ ruleExts cfg a ifc

theorem hostMapped_of_publishedAs {cfg : Config} {ifs : List Iface} {a e : Addr} {ifc : Nat}
    (he : eligibleAddr cfg ifs a = true) (h : PublishedAs cfg a (some ifc) e) : e ∈ hostMapped cfg a ifc :=
  hostMapped_of_published he h

/-- **Completeness.** For ALL configurations and interface tables: every eligible interface address `a`
(accepted interface and address, not in an excluded class, link-local only in mDNS gather mode), on every
accepted interface `ifc` carrying it, has for each address `e` it is to be published as (`PublishedAs`: itself
where the host rule leaves it in place, every external address the rule assigns to it) that is not in an
excluded class, and for each transport with a listener whose network types (the one of `e` and the one of the
socket's own address `a`) are enabled, a host gather unit with its socket on `a` whose candidate carries
exactly the network type of `e` and the address `e` — published unless `e` is location-tracked; UDP on an own
socket when no UDP mux is configured, TCP on the TCP mux when the mux listener covers `a`.  (That a unit
whose listen succeeds in a live cycle does add its candidate is `C18_complete_gather` below.) -/
theorem C18_complete (cfg : Config) (ifs : List Iface) (hq : cfg.quirks = [])
    (hh : cfg.candTypes.contains .host = true) (a : Addr) (he : eligibleAddr cfg ifs a = true)
    (ifc : Nat) (hifc : ifc ∈ acceptedIfacesOf cfg ifs a) (e : Addr) (hpub : PublishedAs cfg a (some ifc) e)
    (hexe : excludedClass e.cls = false) :
    (cfg.udpMux = none → netEnabled cfg (NetType.ofTransport false e.cls.is6) = true →
        netEnabled cfg (NetType.ofTransport false a.cls.is6) = true →
      ∃ u ∈ allUnits cfg ifs, u.kind = .hostUdp ∧ u.bind = a ∧
        (unitCand cfg u 0 0).hidden = (!cfg.mdnsGather && e.cls.isLinkLocal6)
        ∧ (unitCand cfg u 0 0).net = NetType.ofTransport false e.cls.is6 ∧ (unitCand cfg u 0 0).addr = e)
    ∧ (tcpMuxAccepts cfg a = true → netEnabled cfg (NetType.ofTransport true e.cls.is6) = true →
        netEnabled cfg (NetType.ofTransport true a.cls.is6) = true →
      ∃ u ∈ allUnits cfg ifs, u.kind = .hostTcp ∧ u.bind = a ∧
        (unitCand cfg u 0 0).hidden = (!cfg.mdnsGather && e.cls.isLinkLocal6)
        ∧ (unitCand cfg u 0 0).net = NetType.ofTransport true e.cls.is6 ∧ (unitCand cfg u 0 0).addr = e) := by
  exact ⟨fun hmux hen hena => ⟨_, mem_allUnits.2 (.inl ⟨hh, .inr (hostUnit_mem hq he hifc hpub hexe false hen hena hmux)⟩),
      rfl, rfl, rfl, rfl, rfl⟩,
    fun hmux hen hena => ⟨_, mem_allUnits.2 (.inl ⟨hh, .inr (hostUnit_mem hq he hifc hpub hexe true hen hena hmux)⟩),
      rfl, rfl, rfl, rfl, rfl⟩⟩

open IceProofs.GatherComplete in
/-- **Completeness, end to end, for UDP on ephemeral ports.** From ANY state of the repaired model whose
gathering state is New (fresh agent, or after any history that ended with a Restart) with host
gathering enabled, no UDP mux and no port range: `GatherCandidates` is accepted and afterwards every
eligible interface address `a`, for every address `e` it is to be published as (itself where the host rule
leaves it in place, every external address the rule assigns to it) outside the excluded classes and with the
UDP network types of `e` and of `a` enabled, has a host candidate with exactly the network type of `e` and the
address `e` in the candidate list — published unless `e` is location-tracked.  (With a port range the same
holds whenever a port of the range is free on the address at that moment; that case, TCP and the mux are
covered by `C18_complete` / `C18_complete_mux` plus the lock-step comparison.) -/
theorem C18_complete_gather (s : MState) (hq : s.cfg.quirks = []) (hh : s.cfg.candTypes.contains .host = true)
    (hmux : s.cfg.udpMux = none) (hpr : portRange s.cfg = none) (hnc : s.cyc.closed = false)
    (hnew : s.cyc.gs = Cycle.GS.new) (a : Addr) (he : eligibleAddr s.cfg s.ifs a = true)
    (ifc : Nat) (hifc : ifc ∈ acceptedIfacesOf s.cfg s.ifs a) (e : Addr) (hpub : PublishedAs s.cfg a (some ifc) e)
    (hexe : excludedClass e.cls = false)
    (hen : netEnabled s.cfg (NetType.ofTransport false e.cls.is6) = true)
    (hena : netEnabled s.cfg (NetType.ofTransport false a.cls.is6) = true) :
    (step s .gather).2 = Rtok.ok ∧
      ∃ mc ∈ (step s .gather).1.cands, mc.d.ty = .host ∧ mc.d.net = NetType.ofTransport false e.cls.is6
        ∧ mc.d.addr = e ∧ mc.d.hidden = (!s.cfg.mdnsGather && e.cls.isLinkLocal6) := by
  obtain ⟨s1, hc, hi, hl, hstep⟩ := step_gather_new s hnc hnew
  rw [hstep]
  refine ⟨rfl, ?_⟩
  rw [(IceProofs.GatherClosed.finishCycle_book _).1.cands]
  have hu := hostUnit_mem hq he hifc hpub hexe false hen hena hmux
  rw [← hc, ← hi] at hu
  obtain ⟨mc, hmc, hd⟩ := runCycleUnits_hostUdp s1 s.cyc.cycles.length s.cyc.gen (by rw [hc]; exact hh)
    (by rw [hc]; exact hmux) (by rw [hc]; exact hpr) hl _ hu rfl
  refine ⟨mc, hmc, ?_⟩
  rw [hd, hc]
  exact ⟨rfl, rfl, rfl, rfl⟩

/-- completeness for the UDP mux: every listen address `a`, for every address `e` it is to be published as
(lookup without interface name) that is of an enabled family and not in an excluded class, has its unit -/
theorem C18_complete_mux (cfg : Config) (ifs : List Iface) (hq : cfg.quirks = [])
    (hh : cfg.candTypes.contains .host = true) (addrs : List Addr) (hm : cfg.udpMux = some addrs) (a : Addr)
    (ha : a ∈ addrs) (e : Addr) (hpub : PublishedAs cfg a none e)
    (hen : netEnabled cfg (NetType.ofTransport false e.cls.is6) = true)
    (hex : excludedClass e.cls = false) :
    ∃ u ∈ allUnits cfg ifs, u.kind = .hostMux ∧ u.bind = a ∧ u.mapped = e := by
  exact ⟨_, mem_allUnits.2 (.inl ⟨hh, .inl ((mem_hostMuxUnits hq).2 ⟨addrs, a, e, hm, ha, muxMapped_of_published hpub, rfl,
    (requested_of_enabled hen).2, not_excluded_supported hex⟩)⟩), rfl, rfl, rfl⟩

open IceModel.Gather.Cycle IceProofs.GatherCyc in
/-- the cycle clauses that do not depend on the check/hand-off window, for ALL event sequences (every
interleaving of GatherCandidates / Restart / Close calls with the tasks and context checks of every
cycle's goroutine, and with the ticks and re-gather passes of the monitor of continual gathering), for the code
with (`r = true`) or without (`r = false`) the re-check, for either gathering policy (`k` = continual) -/
theorem cycle_core (r k : Bool) (evs : List Cycle.Ev) :
    let res := Cycle.run r { continual := k } evs
    -- cycles never overlap: at most one cycle is not cancelled …
    (∀ (i j : Nat) (ci cj : Cyc), res.1.cycles[i]? = some ci → res.1.cycles[j]? = some cj →
        ci.cancelled = false → cj.cancelled = false → i = j)
    -- … it belongs to the current generation, and it has reached Gathering iff the state has left New
    ∧ (∀ (i : Nat) (c : Cyc), res.1.cycles[i]? = some c → c.cancelled = false →
        c.gen = res.1.gen ∧ (c.applied = true ↔ res.1.gs ≠ GS.new))
    -- never a second nil candidate in one generation
    ∧ (∀ g, nilCount res.2 g ≤ 1)
    -- a GatherCandidates call issued once the state has left New is refused and changes nothing
    ∧ (res.1.closed = false → res.1.gs ≠ GS.new → Cycle.step r res.1 .gather = (res.1, [Out.refused]))
    -- Restart cancels every cycle, returns to New in the next generation, and a fresh cycle is accepted
    ∧ (res.1.closed = false →
        let s' := (Cycle.step r res.1 .restart).1
        s'.gs = GS.new ∧ s'.gen = res.1.gen + 1 ∧ (∀ c ∈ s'.cycles, c.cancelled = true)
          ∧ (Cycle.step r s' .gather).2 = [Out.accepted s'.cycles.length s'.gen])
    -- New → Gathering → Complete: within a generation the state never moves backwards
    ∧ (∀ e, e ≠ Cycle.Ev.restart → rank res.1.gs ≤ rank (Cycle.step r res.1 e).1.gs
        ∧ (Cycle.step r res.1 e).1.gen = res.1.gen)
    -- CONTINUAL GATHERING: the cycle never completes and no nil candidate is ever delivered
    ∧ (k = true → res.1.gs ≠ GS.complete ∧ ∀ g, nilCount res.2 g = 0)
    -- a re-gather pass of the monitor is only ever begun by a tick of the ONE live cycle, which belongs to the current
    -- generation, while the agent is open and the state is Gathering; it changes nothing in the cycle state
    ∧ (∀ e c g, Out.regather c g ∈ (Cycle.step r res.1 e).2 →
        e = .tick c ∧ k = true ∧ res.1.closed = false ∧ g = res.1.gen ∧ res.1.gs = GS.gathering
          ∧ (Cycle.step r res.1 e).1 = res.1 ∧ ∃ cy, res.1.cycles[c]? = some cy ∧ cy.cancelled = false ∧ cy.gen = g)
    -- Restart cancels the monitor with the cycle: whatever tick follows, no re-gather pass begins
    ∧ (res.1.closed = false → ∀ c, (Cycle.step r (Cycle.step r res.1 .restart).1 (.tick c)).2 = []) := by
  intro res
  have hn : NInv res.1 ([] ++ res.2) := ninv_run r evs (ninv_init' k)
  have hi := hn.inv
  have hk : res.1.continual = k := run_continual r evs _
  have hnil := fun (h : k = true) => run_no_nil_continual r evs (s := { continual := k }) h (by simp)
  refine ⟨fun i j ci cj h1 h2 l1 l2 => hi.unique h1 h2 l1 l2, fun i c h l => hi.live i c h l,
    fun g => by simpa using hn.once g, fun hc hg => gather_refused r _ hc hg, ?_, fun e he => gs_forward r hi e he,
    fun h => ⟨(hnil h).2, (hnil h).1⟩, ?_, ?_⟩
  · intro hc
    have hr := restart_effect r res.1 hc
    refine ⟨hr.1, hr.2.1, hr.2.2, ?_⟩
    have hc' : (Cycle.step r res.1 .restart).1.closed = false := by simp [Cycle.step, hc]
    rw [gather_accepted r _ hc' hr.1]
  · intro e c g ho
    obtain ⟨he, hcl, hg, hgs, hcont, hsame, cy, hcy, hlive, _, hgen⟩ :=
      regather_live r hi (fun h => (hnil (hk ▸ h)).2) e c g ho
    exact ⟨he, hk ▸ hcont, hcl, hg, hgs, hsame, cy, hcy, hlive, hgen⟩
  · intro hc c
    exact tick_after_cancel r _ (restart_effect r res.1 hc).2.2 c

open IceModel.Gather.Cycle IceProofs.GatherCyc in
/-- **C18_cycle for the code as it stands (partial).** All cycle clauses hold for every interleaving;
the clause "results of the cancelled cycle are not published into the new generation" holds under the
explicit hypothesis `quiet`: no Restart task runs while an `addCandidate` call is between its context
check and its hand-off to the task loop.  Full statement (false for the code, see the witness):
`∀ evs, ∀ o ∈ (Cycle.run false {} evs).2, stale o = false`. -/
theorem C18_cycle_partial (evs : List Cycle.Ev) (hq : quiet {} evs = true) :
    ∀ o ∈ (Cycle.run false {} evs).2, stale o = false :=
  no_stale_run_quiet evs inv_init winv_init hq

open IceModel.Gather.Cycle IceProofs.GatherCyc in
/-- the excluded schedule is real (S5): GatherCandidates; the cycle reaches Gathering; `addCandidate`
passes its context check; Restart; the hand-off is accepted by the idle loop — a candidate of the
cycle of generation 0 is started and published in generation 1 -/
theorem C18_cycle_stale_witness :
    ¬ (∀ evs : List Cycle.Ev, ∀ o ∈ (Cycle.run false {} evs).2, stale o = false) := by
  intro h
  have := h [.gather, .start 0, .addCheck 0, .restart, .addHandoff 0] (Out.published 0 0 1)
    (by rw [stale_witness]; simp)
  simp [stale] at this

open IceModel.Gather.Cycle IceProofs.GatherCyc in
/-- with the re-check of the cycle's context inside the task (the proposed repair of S5) the clause
holds for every interleaving -/
theorem C18_cycle_recheck (evs : List Cycle.Ev) :
    ∀ o ∈ (Cycle.run true {} evs).2, stale o = false :=
  no_stale_run_recheck evs inv_init

open IceModel.Gather.Cycle IceProofs.GatherCyc IceProofs.GatherAgent IceProofs.GatherCycReach in
/-- **The cycle clauses hold in the agent model that is compared with the implementation.** Its cycle
component is always a state the cycle machine reaches from its initial state (the agent model changes
it through `Cycle.step` only), so after ANY operation sequence on a fresh agent: at most one cycle is
not cancelled and it belongs to the current generation; `GatherCandidates` outside New is refused
(`err:multiple`) and changes nothing; Restart returns to New in the next generation. -/
theorem C18_cycle_agent (cfg : Config) (ifs : List Iface) (s0 : MState) (h0 : newAgent cfg ifs = .ok s0) (ops : List Op) :
    let s := runOps s0 ops
    (∀ (i j : Nat) (ci cj : Cyc), s.cyc.cycles[i]? = some ci → s.cyc.cycles[j]? = some cj →
        ci.cancelled = false → cj.cancelled = false → i = j)
    ∧ (∀ (i : Nat) (c : Cyc), s.cyc.cycles[i]? = some c → c.cancelled = false →
        c.gen = s.cyc.gen ∧ (c.applied = true ↔ s.cyc.gs ≠ GS.new))
    ∧ (s.cyc.closed = false → s.cyc.gs ≠ GS.new → IceModel.Gather.step s .gather = (s, Rtok.multiple))
    ∧ (s.cyc.closed = false →
        (IceModel.Gather.step s .restart).2 = Rtok.ok ∧ (IceModel.Gather.step s .restart).1.cyc.gs = GS.new
        ∧ (IceModel.Gather.step s .restart).1.cyc.gen = s.cyc.gen + 1) := by
  intro s
  obtain ⟨evs, hevs⟩ := runOps_reach ops (init_reach cfg ifs s0 h0)
  have hc := cycle_core false cfg.continual evs
  simp only at hc
  rw [← hevs] at hc
  refine ⟨hc.1, hc.2.1, ?_, ?_⟩
  · intro hcl hgs
    simp [IceModel.Gather.step, gather_refused false s.cyc hcl hgs]
  · intro hcl
    have hr : Cycle.step false s.cyc .restart
        = ({ s.cyc with cycles := cancelAll s.cyc.cycles, gs := .new, gen := s.cyc.gen + 1 }, [Out.restarted (s.cyc.gen + 1)]) := by
      simp [Cycle.step, hcl]
    simp only [IceModel.Gather.step, hr]
    refine ⟨trivial, ?_, ?_⟩ <;> (rw [resume_cyc]; rfl)

open IceModel.Gather.Cycle in
/-- **Back-to-back calls.** Two `GatherCandidates` tasks that run before the first cycle's goroutine gets
its `setGatheringState(Gathering)` task through (both see state New, both are accepted): the second call
cancels the first cycle, whose goroutine then ends without marking Gathering — exactly one cycle starts.
From ANY state in New, with or without the re-check. (This is what the `gather2` operation of the
harness produces on the real agent by holding the task loop; the model's `step .gather2` is these four
transitions plus the gatherers of the one cycle that starts.) -/
theorem C18_back_to_back (r : Bool) (s : Cycle.State) (hc : s.closed = false) (hn : s.gs = GS.new) :
    (Cycle.run r s [.gather, .gather, .start s.cycles.length, .start (s.cycles.length + 1)]).2
      = [Out.accepted s.cycles.length s.gen, Out.accepted (s.cycles.length + 1) s.gen,
         Out.stateSet (s.cycles.length + 1) GS.gathering] := by
  simp [Cycle.run, Cycle.step, hc, hn, cancelAll, Cycle.modify]

open IceModel.Gather.Cycle in
/-- the same with a `Restart` queued between the two calls: the cycle accepted before the Restart never
starts, the one accepted after it starts in the next generation -/
theorem C18_gather_restart_gather (r : Bool) (s : Cycle.State) (hc : s.closed = false) (hn : s.gs = GS.new) :
    (Cycle.run r s [.gather, .restart, .gather, .start s.cycles.length, .start (s.cycles.length + 1)]).2
      = [Out.accepted s.cycles.length s.gen, Out.restarted (s.gen + 1), Out.accepted (s.cycles.length + 1) (s.gen + 1),
         Out.stateSet (s.cycles.length + 1) GS.gathering] := by
  simp [Cycle.run, Cycle.step, hc, hn, cancelAll, Cycle.modify]

open IceModel.Gather.Cycle in
/-- **Restart during continual gathering.** From ANY state in which cycle `c` is monitoring (its first pass is over,
it is not cancelled, the agent is open): a tick begins a re-gather pass of that cycle in the current generation;
after `Restart` the monitor's `select` only sees its cancelled context — it ends without a pass, a candidate the
cancelled pass still tries to add is refused — and the `GatherCandidates` that follows is accepted in the next
generation and starts a fresh cycle (with the re-check of `addCandidate`, and without it for an add that makes its
context check after the Restart). -/
theorem C18_restart_cancels_monitor (r : Bool) (s : Cycle.State) (c : Nat) (cy : Cyc) (hc : s.closed = false)
    (hk : s.continual = true) (hcy : s.cycles[c]? = some cy) (hm : cy.monitoring = true) (hap : cy.applied = true)
    (hf : cy.finished = false) (hl : cy.cancelled = false) :
    (Cycle.step r s (.tick c)).2 = [Out.regather c cy.gen]
    ∧ (Cycle.run r s [.restart, .tick c, .addCheck c, .gather, .start s.cycles.length]).2
      = [Out.restarted (s.gen + 1), Out.accepted s.cycles.length (s.gen + 1), Out.stateSet s.cycles.length GS.gathering] := by
  have hlt : c < s.cycles.length := (List.getElem?_eq_some_iff.1 hcy).1
  have hget : s.cycles[c] = cy := (List.getElem?_eq_some_iff.1 hcy).2
  constructor
  · simp [Cycle.step, hcy, hm, hap, hf, hl, hc, hk]
  · simp [Cycle.run, Cycle.step, hc, hk, hm, hap, hf, cancelAll, Cycle.modify, hlt, hget]

/-- the model's agent runs check and hand-off back to back (as every quiescent point of the harness
does): from a state in which the cycle is outside the window the two variants cannot be told apart -/
theorem check_handoff_atomic (s : Cycle.State) (c : Nat) (cy : Cycle.Cyc) (hc : s.cycles[c]? = some cy)
    (hw : cy.inWindow = 0) :
    Cycle.run true s [.addCheck c, .addHandoff c] = Cycle.run false s [.addCheck c, .addHandoff c] := by
  by_cases h1 : (!cy.applied || cy.finished) = true
  · simp [Cycle.run, Cycle.step, hc, h1, hw]
  · by_cases h2 : (s.closed || cy.cancelled) = true
    · simp [Cycle.run, Cycle.step, hc, h1, h2, hw]
    · have h2' : s.closed = false ∧ cy.cancelled = false := by simpa using h2
      have hlt : c < s.cycles.length := (List.getElem?_eq_some_iff.1 hc).1
      simp [Cycle.run, Cycle.step, hc, h1, Cycle.modify, h2'.1, h2'.2, hw]

/-- a configuration and interface table on which soundness and completeness say something -/
def exCfg : Config := { candTypes := [.host, .srflx], netTypes := [.udp4, .tcp6], tcpMux := some none, stunUrls := 1 }
def exIfs : List Iface := [{ name := 0, up := true, loopback := false, addrs := [⟨.g4, 1⟩, ⟨.g6, 1⟩, ⟨.k6, 1⟩, ⟨.s6, 1⟩] }]

example : (allUnits exCfg exIfs).length = 4 := by decide +kernel
example : realAddrs exCfg exIfs = true := by decide +kernel
example : eligibleAddr exCfg exIfs ⟨.g4, 1⟩ = true ∧ eligibleAddr exCfg exIfs ⟨.s6, 1⟩ = false
    ∧ eligibleAddr exCfg exIfs ⟨.k6, 1⟩ = false := by decide +kernel
/-- the spec does reject candidates: the IPv6 UDP host candidate the unrepaired code (G1) publishes -/
example : candViolation exCfg exIfs { ty := .host, net := .udp6, addr := ⟨.g6, 1⟩ }
    = some "network type not enabled: host candidate gathered from the interface table" := by decide +kernel
/-- G1 in the model: with the quirk the unit exists, without it it does not -/
example : ({ kind := .hostUdp, net := .udp6, bind := ⟨.g6, 1⟩ } : GUnit) ∈ allUnits { exCfg with quirks := [1] } exIfs
    ∧ ({ kind := .hostUdp, net := .udp6, bind := ⟨.g6, 1⟩ } : GUnit) ∉ allUnits exCfg exIfs := by decide +kernel
/-- finding C18-G7 (repaired): a pinned rule whose externals are site-local
(`fec0::1`), IPv4-compatible (`::10.1.0.1`) and a usable IPv4 address.  The first two would be rejected by the
spec, are not publishable (`supported6` test), and the agent model publishes only the third and has closed the
two sockets it opened for them (3 opens, 2 closes; the udp6 unit's unmatched wildcard `::` is turned away by the
same test: 1 more open and close) -/
def g7Cfg : Config := { candTypes := [.srflx], srflxPinned := some (true, [⟨.s6, 1⟩, ⟨.c6, 1⟩, ⟨.x4, 80⟩]) }
def g7Ifs : List Iface := [{ name := 0, up := true, loopback := false, addrs := [⟨.g4, 1⟩] }]

example : candViolation g7Cfg g7Ifs (unitCand g7Cfg { kind := .srflxMapped, net := .udp4, bind := unspec false, n := 3 } 0 0)
    = some "site-local or IPv4-compatible IPv6 address published" := by decide +kernel
example : publishable g7Cfg (unitCand g7Cfg { kind := .srflxMapped, net := .udp4, bind := unspec false, n := 3 } 0 0) = false
    ∧ publishable g7Cfg (unitCand g7Cfg { kind := .srflxMapped, net := .udp4, bind := unspec false, n := 3 } 1 0) = false
    ∧ publishable g7Cfg (unitCand g7Cfg { kind := .srflxMapped, net := .udp4, bind := unspec false, n := 3 } 2 0) = true := by
  decide +kernel
example : (match newAgent g7Cfg g7Ifs with
    | .ok s => let s' := (step s .gather).1
               (s'.cands.map (fun c => (c.d.net, c.d.addr)), s'.opens, s'.closes, s'.liveRes.length)
    | .error _ => ([], 9, 9, 9)) = ([(NetType.udp4, ⟨.x4, 80⟩)], 4, 3, 1) := by decide +kernel

/-- finding C18-G6 (repaired): only udp4 enabled, pinned rule
`0.0.0.0 → [2001:db8:ffff::50]`.  The candidate would be rejected by the spec … -/
def g6Cfg : Config := { candTypes := [.srflx], netTypes := [.udp4], srflxPinned := some (true, [⟨.x6, 80⟩]) }
def g6Ifs : List Iface := [{ name := 0, up := true, loopback := false, addrs := [⟨.g4, 1⟩, ⟨.g6, 1⟩] }]

example : candViolation g6Cfg g6Ifs (unitCand g6Cfg { kind := .srflxMapped, net := .udp4, bind := unspec false } 0 0)
    = some "network type not enabled: server reflexive candidate" := by decide +kernel
/-- … and is not published: the `netType` test turns it away, `addCandidate` is never reached, … -/
example : publishable g6Cfg (unitCand g6Cfg { kind := .srflxMapped, net := .udp4, bind := unspec false } 0 0) = false := by
  decide +kernel
/-- … the agent model publishes nothing and has closed the socket it opened for it (1 open, 1 close), … -/
example : (match newAgent g6Cfg g6Ifs with
    | .ok s => let s' := (step s .gather).1
               (s'.cands.length, s'.evs.length, s'.opens, s'.closes, s'.liveRes.length, s'.cyc.gs)
    | .error _ => (9, 9, 9, 9, 9, Cycle.GS.new)) = (0, 0, 1, 1, 0, Cycle.GS.complete) := by decide +kernel
/-- … and that path of the program is balanced: listen, addresses, location filter, IPv6 class test, NewCandidate ok, network type refused -/
example : (srflxMappedProg 1).run [.ok, .ok, .ok, .ok, .ok, .fail] {} = some { slots := [.released], misuse := false } := by
  decide +kernel
example : IceProofs.GatherCyc.quiet {} [.gather, .start 0, .addCheck 0, .addHandoff 0, .complete 0, .restart, .gather] = true := by
  decide +kernel
example : (Cycle.run false {} [.gather, .start 0, .complete 0, .gather, .restart, .gather]).2
    = [.accepted 0 0, .stateSet 0 .gathering, .nilCand 0 0, .stateSet 0 .complete, .refused, .restarted 1, .accepted 1 1] := by
  decide +kernel

/-- replace-mode catch-all rule: IPv4 locals are published as `x4.70`, IPv6 locals as the site-local `s6.71`
(C18-G8: that one must not be published) and `x6.72` -/
def hrCfg : Config := { candTypes := [.host], hostRule := some { replace := true, exts := [⟨.x4, 70⟩, ⟨.s6, 71⟩, ⟨.x6, 72⟩] } }
def hrIfs : List Iface := [{ name := 0, up := true, loopback := false, addrs := [⟨.g4, 1⟩, ⟨.g6, 1⟩] },
                           { name := 1, up := true, loopback := false, addrs := [⟨.g4, 2⟩] }]

example : realAddrs hrCfg hrIfs = true := by decide +kernel
example : eligibleAddr hrCfg hrIfs ⟨.g6, 1⟩ = true ∧ acceptedIfacesOf hrCfg hrIfs ⟨.g6, 1⟩ = [0] := by decide +kernel
/-- the rule takes `g6.1` away and has it published as `s6.71` and `x6.72`; `g4.2` (interface 1) as `x4.70` -/
example : PublishedAs hrCfg ⟨.g6, 1⟩ (some 0) ⟨.x6, 72⟩ ∧ PublishedAs hrCfg ⟨.g6, 1⟩ (some 0) ⟨.s6, 71⟩
    ∧ ¬ PublishedAs hrCfg ⟨.g6, 1⟩ (some 0) ⟨.g6, 1⟩ ∧ PublishedAs hrCfg ⟨.g4, 2⟩ (some 1) ⟨.x4, 70⟩ := by
  refine ⟨Or.inr (by decide +kernel), Or.inr (by decide +kernel), ?_, Or.inr (by decide +kernel)⟩
  rintro (⟨_, h⟩ | h)
  · exact absurd h (by decide +kernel)
  · exact absurd h (by decide +kernel)
/-- with an interface-scoped rule the other interface's address stays in place -/
example : PublishedAs { hrCfg with hostRule := some { replace := true, iface := some 1, exts := [⟨.x4, 70⟩] } }
    ⟨.g4, 1⟩ (some 0) ⟨.g4, 1⟩ := Or.inl ⟨rfl, by decide +kernel⟩
/-- the units of the repaired model: socket on the local address, candidate on the mapped one; no unit for `s6.71` -/
example : (allUnits hrCfg hrIfs).map (fun u => (u.bind, u.mapped))
    = [(⟨.g4, 1⟩, ⟨.x4, 70⟩), (⟨.g6, 1⟩, ⟨.x6, 72⟩), (⟨.g4, 2⟩, ⟨.x4, 70⟩)] := by decide +kernel
/-- C18-G8 in the model: with the quirk the unit for the site-local external address exists and the spec
rejects its candidate; without the quirk it does not exist -/
example : ({ kind := .hostUdp, net := .udp6, bind := ⟨.g6, 1⟩, mapped := ⟨.s6, 71⟩ } : GUnit) ∈ allUnits { hrCfg with quirks := [8] } hrIfs
    ∧ ({ kind := .hostUdp, net := .udp6, bind := ⟨.g6, 1⟩, mapped := ⟨.s6, 71⟩ } : GUnit) ∉ allUnits hrCfg hrIfs := by decide +kernel
example : candViolation hrCfg hrIfs (unitCand hrCfg { kind := .hostUdp, net := .udp6, bind := ⟨.g6, 1⟩, mapped := ⟨.s6, 71⟩ } 0 0)
    = some "site-local or IPv4-compatible IPv6 address published" := by decide +kernel
/-- the spec looks at the SOCKET for the filter clause: a rewritten candidate whose socket sits on an address
no accepted interface carries is rejected -/
example : candViolation hrCfg hrIfs { ty := .host, net := .udp4, addr := ⟨.x4, 70⟩, base := some ⟨.g4, 9⟩ }
    = some "socket of the rewritten host candidate on an interface/address the filters or the loopback setting reject" := by decide +kernel
example : candViolation hrCfg hrIfs { ty := .host, net := .udp4, addr := ⟨.x4, 99⟩, base := some ⟨.g4, 1⟩ }
    = some "host candidate publishes an address that is neither its socket's nor an external address of the host rewrite rule" := by
  decide +kernel
/-- the agent model on that configuration: three sockets, three candidates (the two IPv4 ones differ by their port) -/
example : (match newAgent hrCfg hrIfs with
    | .ok s => let s' := (step s .gather).1
               (s'.cands.map (fun c => (c.d.net, c.d.addr, c.d.base)), s'.opens, s'.closes)
    | .error _ => ([], 9, 9))
    = ([(NetType.udp4, ⟨.x4, 70⟩, some ⟨.g4, 1⟩), (NetType.udp6, ⟨.x6, 72⟩, some ⟨.g6, 1⟩), (NetType.udp4, ⟨.x4, 70⟩, some ⟨.g4, 2⟩)], 3, 0) := by
  decide +kernel
/-- … and with a single-port range the second IPv4 candidate is a duplicate: its socket is closed at once -/
example : (match newAgent { hrCfg with portMin := 5000, portMax := 5000 } hrIfs with
    | .ok s => let s' := (step s .gather).1
               (s'.cands.map (fun c => (c.d.addr, c.d.base)), s'.opens, s'.closes, s'.liveRes.length)
    | .error _ => ([], 9, 9, 9))
    = ([(⟨.x4, 70⟩, some ⟨.g4, 1⟩), (⟨.x6, 72⟩, some ⟨.g6, 1⟩)], 3, 1, 2) := by decide +kernel
/-- the constructor refuses a host rule in mDNS gather mode and without the host candidate type -/
example : (match newAgent { hrCfg with mdnsGather := true } hrIfs with | .error e => some e | .ok _ => none) = some .mdnsRewrite
    ∧ (match newAgent { hrCfg with candTypes := [.srflx] } hrIfs with | .error e => some e | .ok _ => none) = some .ineffectiveHost := by
  decide +kernel

def cgCfg : Config := { candTypes := [.host], continual := true, monIntervalMs := 733 }
def cgIfs (as : List Addr) : List Iface := [{ name := 0, up := true, loopback := false, addrs := as }]

/-- the model on: gather; `g4.2` appears; the clock stops 1 ms before the tick, then reaches it; `g4.1` disappears;
a tick; `g4.1` comes back; a tick; Restart; two more ticks' worth of time -/
def cgRun : List Op := [.gather, .ifaces (cgIfs [⟨.g4, 1⟩, ⟨.g4, 2⟩]), .adv 732, .adv 1, .ifaces (cgIfs [⟨.g4, 2⟩]), .adv 733,
  .ifaces (cgIfs [⟨.g4, 1⟩, ⟨.g4, 2⟩]), .adv 733, .restart, .adv 1466]

/-- what the model publishes after each prefix: (published addresses, opens, closes, gathering state, nil count) -/
def cgTrace (n : Nat) : List Addr × Nat × Nat × Cycle.GS × Nat :=
  match newAgent cgCfg (cgIfs [⟨.g4, 1⟩]) with
  | .ok s =>
    let s' := IceProofs.GatherAgent.runOps s (cgRun.take n)
    (s'.cands.map (·.d.addr), s'.opens, s'.closes, s'.cyc.gs, s'.nilsGen)
  | .error _ => ([], 9, 9, .new, 9)

/-- the first pass does not complete: state Gathering, no nil candidate -/
example : cgTrace 1 = ([⟨.g4, 1⟩], 1, 0, .gathering, 0) := by decide +kernel
/-- 1 ms before the first tick the new address has no candidate yet … -/
example : cgTrace 3 = ([⟨.g4, 1⟩], 1, 0, .gathering, 0) := by decide +kernel
/-- … the tick finds it and re-gathers EVERYTHING: a second socket and candidate for `g4.1`, the first for `g4.2` -/
example : cgTrace 4 = ([⟨.g4, 1⟩, ⟨.g4, 1⟩, ⟨.g4, 2⟩], 3, 0, .gathering, 0) := by decide +kernel
/-- an address that disappears: no pass, its candidates and sockets stay -/
example : cgTrace 6 = ([⟨.g4, 1⟩, ⟨.g4, 1⟩, ⟨.g4, 2⟩], 3, 0, .gathering, 0) := by decide +kernel
/-- … it comes back: it is new again, one more pass -/
example : cgTrace 8 = ([⟨.g4, 1⟩, ⟨.g4, 1⟩, ⟨.g4, 2⟩, ⟨.g4, 1⟩, ⟨.g4, 2⟩], 5, 0, .gathering, 0) := by decide +kernel
/-- Restart releases everything and cancels the monitor: no pass afterwards -/
example : cgTrace 10 = ([], 5, 5, .new, 0) := by decide +kernel
/-- the hypothesis of `C18_sound_reachable` holds for this run: every table it has is one of real addresses -/
example : ∀ T ∈ cgIfs [⟨.g4, 1⟩] :: IceProofs.GatherProv.opTables cgRun, realAddrs cgCfg T = true := by decide +kernel
/-- the code WITH finding C18-G10 (`quirks := [10]`): `g4.2` known to the first cycle, gone at the Restart, back
afterwards — never gathered again in the new generation -/
example : (match newAgent { cgCfg with quirks := [10] } (cgIfs [⟨.g4, 1⟩, ⟨.g4, 2⟩]) with
    | .ok s => ((IceProofs.GatherAgent.runOps s [.gather, .ifaces (cgIfs [⟨.g4, 1⟩]), .restart, .gather,
        .ifaces (cgIfs [⟨.g4, 1⟩, ⟨.g4, 2⟩]), .adv 733, .adv 733]).cands.map (·.d.addr))
    | .error _ => []) = [⟨.g4, 1⟩] := by decide +kernel
/-- … the repaired code gathers it at the first tick -/
example : (match newAgent cgCfg (cgIfs [⟨.g4, 1⟩, ⟨.g4, 2⟩]) with
    | .ok s => ((IceProofs.GatherAgent.runOps s [.gather, .ifaces (cgIfs [⟨.g4, 1⟩]), .restart, .gather,
        .ifaces (cgIfs [⟨.g4, 1⟩, ⟨.g4, 2⟩]), .adv 733]).cands.map (·.d.addr))
    | .error _ => []) = [⟨.g4, 1⟩, ⟨.g4, 1⟩, ⟨.g4, 2⟩] := by decide +kernel
/-- the monitor judges a host candidate delivered now against the table in force now: `g4.1` after it disappeared -/
example : soundViolation cgCfg [cgIfs [⟨.g4, 2⟩], cgIfs [⟨.g4, 1⟩]] (cgIfs [⟨.g4, 2⟩])
    { evs := [({ ty := .host, net := .udp4, addr := ⟨.g4, 1⟩ }, some 0)] }
    = some "host candidate on an interface/address the filters or the loopback setting reject" := by decide +kernel
/-- … but accepts it in the LIST: it was gathered under the earlier table -/
example : soundViolation cgCfg [cgIfs [⟨.g4, 2⟩], cgIfs [⟨.g4, 1⟩]] (cgIfs [⟨.g4, 2⟩])
    { cands := [({ ty := .host, net := .udp4, addr := ⟨.g4, 1⟩ }, some 0)] } = none := by decide +kernel
/-- the cycle machine with the continual policy: the first pass ends in `monitorStarted`, a tick begins a pass, Restart
ends the monitor, never a nil candidate -/
example : (Cycle.run false { continual := true } [.gather, .start 0, .complete 0, .tick 0, .addCheck 0, .addHandoff 0,
      .restart, .tick 0, .gather, .start 1]).2
    = [.accepted 0 0, .stateSet 0 .gathering, .monitorStarted 0, .regather 0 0, .published 0 0 0, .restarted 1,
       .accepted 1 1, .stateSet 1 .gathering] := by decide +kernel

/-! ### code ties (T): the address-class and network-type tests are REGENERATED from net.go / gather.go /
networktype.go on every run (`IceGen.T_Gather`) and proved equal to the tests the model uses -/

/-- `isSupportedIPv6Partial` (net.go): for EVERY 16-byte address whose bytes lie in the range of its class
(`IceTie.Gather.Bytes6`: `::/96`, `fe80::/10`, `fec0::/10`, the rest) the Go function returns the model's
`supported6` — and therefore the IPv6 branch of the model's per-address test `addrAccepted` of `localInterfaces`
is the Go test -/
theorem C18_code_supported6 (cfg : Config) (nts : List NetType) (a : Addr) (zeros12 : Bool) (b0 b1 : UInt8)
    (h : IceTie.Gather.Bytes6 a.cls zeros12 b0 b1) :
    IceGen.isSupportedIPv6Partial 16 zeros12 b0 b1 = a.cls.supported6 ∧
    addrAccepted cfg nts a =
      (!(a.cls.isLoopback && !cfg.includeLoopback)
       && (if a.cls.is6 then v6Requested nts && IceGen.isSupportedIPv6Partial 16 zeros12 b0 b1 else v4Requested nts)
       && ipFilterAccepts cfg a) := by
  have e := IceTie.Gather.isSupportedIPv6Partial_tie a.cls zeros12 b0 b1 h
  exact ⟨e, by rw [e]; rfl⟩

/-- the location-tracking filter (`shouldFilterLocationTrackedIP`, gather.go; `isIPv6LinkLocal`, addr.go) on the
`netip` predicates of a class is the model's `isLinkLocal6`; `shouldFilterLocationTracked` applies it to the
unmapped address of a well-formed slice only -/
theorem C18_code_location_filter (c : AddrClass) :
    IceGen.shouldFilterLocationTrackedIP c.is6 (IceTie.Gather.LinkLocalUnicast c) false = c.isLinkLocal6 ∧
    IceGen.isIPv6LinkLocal c.is6 (IceTie.Gather.LinkLocalUnicast c) false = c.isLinkLocal6 ∧
    (∀ ok f, IceGen.shouldFilterLocationTracked ok f = (ok && f)) :=
  ⟨IceTie.Gather.shouldFilterLocationTrackedIP_tie c, IceTie.Gather.isIPv6LinkLocal_tie c,
   IceTie.Gather.shouldFilterLocationTracked_tie⟩

/-- `hostNetworkTypeEnabled` ∘ `determineNetworkType` ∘ `networkTypeEnabled` (gather.go, networktype.go), composed
as the code composes them, is the model's `hostNetEnabled` (fixes of G1/G2) for every configured list,
transport and address -/
theorem C18_code_host_network_type (nts : List NetType) (tcp : Bool) (a : Addr) :
    IceGen.hostNetworkTypeEnabled (nts.map IceTie.Gather.code)
        (IceGen.determineNetworkType (!tcp) tcp (!a.cls.is6)).1 (IceGen.determineNetworkType (!tcp) tcp (!a.cls.is6)).2
      = hostNetEnabled nts tcp a :=
  IceTie.Gather.hostNetworkTypeEnabled_tie nts tcp a

/-- `configuredNetworkTypes` (gather.go) with `supportedNetworkTypes` (networktype.go) on a sanitized list is the
model's `configured` -/
theorem C18_code_configured_network_types (nts : List NetType) :
    IceGen.configuredNetworkTypes (nts.eraseDups.map IceTie.Gather.code) = (configured nts).map IceTie.Gather.code :=
  IceTie.Gather.configuredNetworkTypes_tie nts

/-- non-vacuity: `fec0::1` (site-local) and `::10.1.0.1` are rejected, `2001:db8::1` and `fe80::1` accepted, a 4-byte
slice rejected; `fe80::1` is location tracked; tcp on an IPv6 address needs tcp6 -/
example : IceGen.isSupportedIPv6Partial 16 false 0xfe 0xc0 = false ∧ IceGen.isSupportedIPv6Partial 16 true 0 0 = false ∧
    IceGen.isSupportedIPv6Partial 16 false 0x20 0x01 = true ∧ IceGen.isSupportedIPv6Partial 16 false 0xfe 0x80 = true ∧
    IceGen.isSupportedIPv6Partial 4 false 10 1 = false := by decide +kernel
example : IceTie.Gather.Bytes6 .s6 false 0xfe 0xd0 ∧ IceTie.Gather.Bytes6 .k6 false 0xfe 0xbf ∧
    IceTie.Gather.Bytes6 .g6 false 0xfd 0 ∧ IceTie.Gather.Bytes6 .c6 true 0 0 := by
  simp [IceTie.Gather.Bytes6]
example : IceGen.shouldFilterLocationTrackedIP true true false = true ∧
    IceGen.shouldFilterLocationTrackedIP false true false = false := by decide +kernel
example : IceGen.hostNetworkTypeEnabled [1, 3] (IceGen.determineNetworkType false true false).1
      (IceGen.determineNetworkType false true false).2 = false ∧
    IceGen.hostNetworkTypeEnabled [1, 4] (IceGen.determineNetworkType false true false).1
      (IceGen.determineNetworkType false true false).2 = true := by decide +kernel
example : IceGen.configuredNetworkTypes [] = [1, 2, 3, 4] ∧ IceGen.configuredNetworkTypes [3] = [3] := by decide +kernel

/-- UDP mux host candidates under the mDNS name (finding F34, repaired): real family, real address -/
def mdMuxCfg : Config := { candTypes := [.host], mdnsGather := true, udpMux := some [⟨.c6, 3⟩, ⟨.c6, 4⟩, ⟨.k6, 2⟩] }

/-- the IPv4-compatible listen addresses are excluded, the link-local one yields the one candidate: udp6, address `k6.2`,
announced under the mDNS name, on the mux port -/
example : (match newAgent mdMuxCfg (cgIfs [⟨.g4, 1⟩]) with
    | .ok s => ((step s .gather).1.cands.map fun c => (c.d.net, c.d.addr, c.d.mdns, c.d.pflag, c.d.resolved))
    | .error _ => []) = [(NetType.udp6, ⟨.k6, 2⟩, true, PFlag.M, true)] := by decide +kernel
/-- what the code published before the fix (udp4, no address) is rejected when udp4 is not enabled -/
example : candViolation { mdMuxCfg with netTypes := [.udp6] } (cgIfs [⟨.g4, 1⟩])
    { ty := .host, net := .udp4, addr := ⟨.k6, 2⟩, mdns := true, pflag := .M }
    = some "network type not enabled: host candidate borrowed from the UDP mux" := by decide +kernel
/-- … and its digest without a transport address is rejected by the C03 clause of the gather component -/
example : IceSpec.C03Gather.addrViolation
    { cands := [({ ty := .host, net := .udp4, addr := ⟨.nm, 0⟩, mdns := true, pflag := .M, resolved := false }, some 0)] }
    ≠ none := by decide +kernel
/-- several listen addresses in mDNS mode: `existingConfigs` is keyed by (name, port), only the first admissible one counts -/
example : (match newAgent { mdMuxCfg with udpMux := some [⟨.g6, 1⟩, ⟨.g4, 1⟩], netTypes := [.udp4] } (cgIfs [⟨.g4, 1⟩]) with
    | .ok s => ((step s .gather).1.cands.map fun c => (c.d.net, c.d.addr), (step s .gather).1.opens)
    | .error _ => ([], 9)) = ([(NetType.udp4, ⟨.g4, 1⟩)], 1) := by decide +kernel

/-! ### active ICE-TCP candidates (the only local candidates published outside a gathering cycle) -/

/-- **Soundness of the active ICE-TCP path.**  For every configuration and any number of eligible local addresses,
every local candidate the agent publishes when a remote passive TCP candidate is added passes the C18 clauses: it is a
host candidate only if the host candidate type is enabled, its network type is enabled, and it is published under the
mDNS name exactly in mDNS gather mode.  (Repaired code: without finding C18-G13, see the witness.) -/
theorem C18_active_tcp_sound (c : IceModel.ActiveTcp.Cfg) (h13 : c.g13 = false) (n : Nat) :
    IceSpec.C18Active.violation c (IceModel.ActiveTcp.publish c n) = none := by
  unfold IceSpec.C18Active.violation
  rw [List.findSome?_eq_none_iff]
  intro p hp
  unfold IceModel.ActiveTcp.publish at hp
  rw [h13] at hp
  rcases c with ⟨host, net, dis, md, g13⟩
  cases host <;> cases net <;> cases dis <;> cases md <;>
    simp [List.mem_replicate] at hp <;>
    (obtain ⟨_, rfl⟩ := hp; simp [IceSpec.C18Active.pubViolation])

/-- nothing is published with `WithDisableActiveTCP`, for a disabled network type, or without the host candidate type -/
theorem C18_active_tcp_none (c : IceModel.ActiveTcp.Cfg) (h13 : c.g13 = false) (n : Nat)
    (h : c.disableActive = true ∨ c.netEnabled = false ∨ c.host = false) :
    IceModel.ActiveTcp.publish c n = [] := by
  unfold IceModel.ActiveTcp.publish
  rcases c with ⟨host, net, dis, md, g13⟩
  simp only at h h13
  subst h13
  cases host <;> cases net <;> cases dis <;> simp at h ⊢

/-- the code with finding C18-G13 (no test of the host candidate type, raw interface addresses): an agent configured
for server-reflexive candidates only publishes a host candidate, and an agent in mDNS gather mode exposes the address -/
theorem C18_active_tcp_G13_witness :
    ¬ (∀ (c : IceModel.ActiveTcp.Cfg) (n : Nat), IceSpec.C18Active.violation c (IceModel.ActiveTcp.publish c n) = none) := by
  intro h
  have := h { host := false, netEnabled := true, disableActive := false, mdnsGather := false, g13 := true } 1
  exact absurd this (by decide +kernel)

example : IceModel.ActiveTcp.publish { host := true, netEnabled := true, disableActive := false, mdnsGather := true } 2
    = [{ isHost := true, named := true, active := true }, { isHost := true, named := true, active := true }] := by decide +kernel
example : IceSpec.C18Active.violation { host := true, netEnabled := true, disableActive := false, mdnsGather := true, g13 := true }
    (IceModel.ActiveTcp.publish { host := true, netEnabled := true, disableActive := false, mdnsGather := true, g13 := true } 1)
    = some "interface address exposed in mDNS gather mode (active ICE-TCP candidate)" := by decide +kernel

/-! ## Tie to the code (T, round 4): the `GatherCandidates` task and the start of the gathering goroutine (`IceGen.T_Lifecycle`) -/

/-- a second `GatherCandidates` without Restart is refused with nothing but the error; an accepted one cancels the previous cycle
first and starts a new one — the model's `gatherCall`; a cycle cancelled before its Gathering task ends without gathering — the
model's `cycleStart` -/
theorem C18_code_gather_task :
    (∀ state noHandler, IceGen.agent_GatherCandidates_task state noHandler
      = if state != 1 then [IceModel.Eff.set "gatherErr" (IceModel.Val.s "ErrMultipleGatherAttempted")]
        else if noHandler then [IceModel.Eff.set "gatherErr" (IceModel.Val.s "ErrNoOnCandidateHandler")]
        else IceTie.Lifecycle.acceptEffs) ∧
    (∀ s : IceModel.GatherCycle.State, s.closed = false →
      IceModel.GatherCycle.step s .gatherCall =
        if s.gstate ≠ .new then some s
        else some { s with cycles := IceModel.GatherCycle.cancelCur s ++ [{ ufrag := s.ufrag }],
                           cur := some (IceModel.GatherCycle.cancelCur s).length }) ∧
    (∀ (s : IceModel.GatherCycle.State) (cidx : Nat) (cy : IceModel.GatherCycle.Cycle),
      s.cycles[cidx]? = some cy → cy.pc = .start → s.closed = false → cy.cancelled = true →
      IceModel.GatherCycle.step s (.cycleStart cidx) = some { s with cycles := s.cycles.set cidx { cy with pc := .done } }) ∧
    (∀ policy, IceGen.agent_gatherCandidates false false policy
      = [IceTie.Lifecycle.deferClose, IceTie.Lifecycle.deferWait, IceTie.Lifecycle.c "setGatheringState(Gathering)"]) :=
  ⟨IceTie.Lifecycle.GatherCandidates_task_tie, IceTie.Lifecycle.gatherCall_model, IceTie.Lifecycle.cycleStart_cancelled_model,
   fun policy => by rw [IceTie.Lifecycle.gatherCandidates_tie]; rfl⟩

example : IceGen.agent_GatherCandidates_task 1 true = [IceModel.Eff.set "gatherErr" (IceModel.Val.s "ErrNoOnCandidateHandler")] := by decide +kernel

end IceProps.C18

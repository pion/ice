import IceTie.Lifecycle
import IceModel.Gather
import IceSpec.C09
import IceProofs.GatherLedger
import IceProofs.GatherAgent
import IceProofs.GatherPark
import IceProofs.GatherMon
/-!
# C09 — every socket the agent opens is closed when its candidate goes away

The property theorems and the concrete scenarios; lemmas: `IceProofs/GatherLedger.lean` (programs), `GatherAgent.lean`
(conservation), `GatherPark.lean` (parked units), `GatherMon.lean` (deadlines), `GatherClosed.lean` (the walk of `step`).
Resources: UDP sockets, mux connection handles (UDP / TCP / srflx mux), TURN clients, relay
allocations.  Every gatherer of gather.go is a program over them (`IceModel.Gather.progOf`); the same
programs drive the model that the `gather` component compares with the counting fake Net / muxes /
TURN client around the real agent after every operation.
-/
namespace IceProps.C09
open IceModel.Gather IceProofs.GatherLedger IceProofs.GatherAgent IceProofs.GatherPark IceProofs.GatherMon

/-- **Every exit path of every gatherer is balanced.** For every gather unit (any kind, any number of
mapped / relayed addresses) and EVERY sequence of answers of the environment — each fallible step may
succeed or fail, `addCandidate` may start the candidate, find a duplicate, or fail; a failing
`addCandidate` is what a cancellation at any earlier point looks like to the gatherer, and an answer
after a long wait is a reply that arrives after the cancellation — when the unit returns:
no slot was touched when it was not held (no double release, no release after the hand-over, no
hand-over after a release), and every acquired resource was either released, or closed by
`addCandidate`'s duplicate branch, or is owned by exactly one started candidate. -/
theorem C09_paths_balanced (u : GUnit) (as : List Ans) (l' : Led) (h : (progOf u).run as {} = some l') :
    l'.misuse = false ∧
      ∀ st ∈ l'.slots, st = SlotSt.released ∨ st = SlotSt.dupClosed ∨ ∃ ci, st = SlotSt.owned ci := by
  have hb := ok_sound (progOf u) {} as l' (progOf_ok u) h
  rw [balanced_iff] at hb
  refine ⟨hb.1, ?_⟩
  intro st hst
  have := hb.2 st hst
  cases st with
  | held => exact absurd rfl this
  | released => exact Or.inl rfl
  | dupClosed => exact Or.inr (Or.inl rfl)
  | owned ci => exact Or.inr (Or.inr ⟨ci, rfl⟩)

/-- the checker is not vacuous: the two leaks that were found (F6: reflexive gatherer after a failed
`addCandidate`; F10: relay gatherer after a failed address resolution) are paths on which a slot is
still held when the unit returns -/
theorem C09_paths_balanced_F6_witness :
    srflxProgF6.run [.ok, .ok, .ok, .ok, .fail] {} = some { slots := [.held], misuse := false } :=
  srflxProgF6_leaks

theorem C09_paths_balanced_F10_witness :
    (relayProgWith false 1).run [.ok, .ok, .ok, .ok, .ok, .fail] {}
      = some { slots := [.held, .held, .held], misuse := false } :=
  relayProgF10_leaks

theorem exec_cands_notlive (p : Prog) : ∀ (s : MState) (j : Job), jobLive s j = false →
    (exec s j p).1.cands = s.cands ∧ (exec s j p).1.cyc = s.cyc := by
  intro s j h
  -- the unit stays not live (`jobLive` reads the cycle machine and the unit's cycle only), so it never starts a candidate
  exact (IceProofs.GatherClosed.exec_ind
    (fun s' j' => jobLive s' j' = false ∧ s'.cands = s.cands ∧ s'.cyc = s.cyc)
    (fun _ h => h) (fun h => h) (fun _ _ h => h)
    (fun {_ j'} i h => ⟨by simpa [jobLive, (take_same j' i _).2.2] using h.1, h.2⟩)
    (fun {_ j'} is h => ⟨by simpa [jobLive, (takeAll_same j' is _).2.2] using h.1, h.2⟩)
    (fun _ _ h hl _ => by rw [h.1] at hl; cases hl) p s j ⟨h, rfl, rfl⟩).2

/-- **Restart, Failed and Close release everything the candidates own, once.** `deleteAllCandidates`
(`dropCands`) empties the candidate list and counts exactly the resources the candidates owned as
closed; the three ways a candidate goes away all go through it, and conservation
(`opens = closes + resources still owned by candidates or held by running units`) holds before and
after: nothing is dropped uncounted, nothing is counted twice. -/
theorem C09_candidate_release (s : MState) (h : Good s) :
    ((dropCands s).cands = [] ∧ (dropCands s).opens = s.opens
        ∧ (dropCands s).closes = s.closes + (s.cands.flatMap (·.res)).length ∧ Good (dropCands s))
    ∧ (step s .close).1.cands = [] ∧ Good (step s .close).1
    ∧ (∀ n, s.failed < n → (applyFailed s n).cands = [] ∧ Good (applyFailed s n))
    ∧ Good (step s .restart).1 := by
  refine ⟨⟨rfl, rfl, rfl, dropCands_good h⟩, rfl, step_good h .close, ?_, step_good h .restart⟩
  intro n hn
  have : applyFailed s n = { dropCands s with failed := n } := by simp [applyFailed, hn]
  rw [this]
  exact ⟨rfl, good_of_same (dropCands_good h) rfl rfl rfl rfl⟩

/-- conservation and the `ok` invariant of parked units hold after ANY sequence of operations on a
fresh agent, for every configuration and interface table -/
theorem C09_conservation (cfg : Config) (ifs : List Iface) (s0 : MState) (h0 : newAgent cfg ifs = .ok s0)
    (ops : List Op) :
    let s := runOps s0 ops
    s.opens = s.closes + s.liveRes.length ∧ ∀ j ∈ s.jobs, j.prog.ok j.led = true := by
  have hg := runOps_good ops (good_init cfg ifs s0 h0)
  refine ⟨?_, hg.jobsOk⟩
  have := hg.cons
  simp only [Cons, ConsK] at this
  rw [liveRes_length]; omega

/-- a relay agent with continual gathering and finding C09-G11, 733 ms after its table got a second address: the
monitor's re-gather pass waits for its TURN allocation -/
def g11With (quirks : List Nat) : MState :=
  match newAgent { candTypes := [.relay], netTypes := [.udp4], turnUrls := 1, continual := true, monIntervalMs := 733,
                   quirks := quirks }
      [{ name := 0, up := true, loopback := false, addrs := [⟨.g4, 1⟩] }] with
  | .ok s0 =>
    -- the first pass ends when its TURN allocation times out (8 s): the monitor starts then
    let s1 := (step s0 .gather).1
    let s2 := (step s1 (.adv 8000)).1
    let s3 := (step s2 (.ifaces [{ name := 0, up := true, loopback := false, addrs := [⟨.g4, 1⟩, ⟨.g4, 2⟩] }])).1
    (step s3 (.adv 733)).1
  | .error _ => {}

def g11State : MState := g11With [11]

theorem le_foldl_max (l : List Nat) : ∀ (a x : Nat), (x ∈ l ∨ x ≤ a) → x ≤ l.foldl max a :=
  fun a x h => IceTie.Lifecycle.foldl_max_ge l a x h

/-- **After Close has returned.** No candidate is left and NO unit is left — neither of the last cycle (first pass
or a re-gather pass of its monitor, continual gathering) nor of a cycle that an earlier Restart superseded and that
has not wound down yet: Close waits for the gatherers of every cycle.  (Repaired code: without findings C09-G11 and
C09-G12, see the witnesses below.  `closeAgent` opens the gate of the fake mux first, which is how the harness closes.) -/
theorem C09_zero_after_close (s : MState) (hp : Parked s) (h11 : s.cfg.has 11 = false) (h12 : s.cfg.has 12 = false) :
    let s' := closeAgent s
    s'.cands = [] ∧ s'.mon = none ∧ s'.jobs = [] := by
  intro s'
  let g := openGate s
  have hg : Parked g := parked_closed.of_openGate hp
  have hcfg : g.cfg.has 11 = false := by
    show (openGate s).cfg.has 11 = false
    rw [(openGate_fr s).cfg]; exact h11
  have hcfg12 : g.cfg.has 12 = false := by
    show (openGate s).cfg.has 12 = false
    rw [(openGate_fr s).cfg]; exact h12
  -- unfold closeAgent step by step
  let s1 : MState := { g with cyc := (Cycle.step false g.cyc .close).1, mon := none }
  let pick1 : Job → Option (Ans × Nat) := fun j => if isStunJob j &&
      ((g.cyc.cycles[j.cyc]?).map (fun c => !c.cancelled)).getD false then some (.fail, 0) else none
  let s2 := resume s1 pick1
  let cur := g.cyc.cycles.length - 1
  let dl := closeDeadline s2 (g.cfg.has 11 && g.mon.isSome) cur (g.cfg.has 12)
  let s3 := closeWait s2 dl
  let pick2 : Job → Option (Ans × Nat) := fun j => if j.deadline ≤ s3.now then some (.fail, 0) else none
  have hs' : s' = dropCands (resume s3 pick2) := rfl
  have h1 : Parked s1 := parked_of_jobs hg rfl
  have h2 : Parked s2 := resume_parked h1 pick1
  have h3 : Parked s3 := parked_closed.of_closeWait h2 dl
  have hj3 : s3.jobs = s2.jobs := by
    show (closeWait s2 dl).jobs = s2.jobs
    unfold closeWait; split <;> rfl
  have hdl : dl = closeDeadline s2 false cur false := by
    show closeDeadline s2 (g.cfg.has 11 && g.mon.isSome) cur (g.cfg.has 12) = _
    rw [hcfg, hcfg12, Bool.false_and]
  have hnow : dl ≤ s3.now := by
    show dl ≤ (closeWait s2 dl).now
    unfold closeWait
    split
    · simp only; omega
    · omega
  have hmon : s'.mon = none := by
    rw [hs', dropCands_mon]
    have m3 : s3.mon = none := by
      show (closeWait s2 dl).mon = none
      have m2 : s2.mon = none := (IceProofs.GatherClosed.resume_keeps s1 pick1).mon
      unfold closeWait; split
      · exact m2
      · exact m2
    exact (IceProofs.GatherClosed.resume_keeps s3 pick2).mon.trans m3
  refine ⟨rfl, hmon, ?_⟩
  apply List.eq_nil_iff_forall_not_mem.2
  intro j hj
  rw [hs', dropCands_jobs, resume_jobs h3, hj3] at hj
  simp only [List.mem_filter] at hj
  obtain ⟨hj2, hpk⟩ := hj
  have hdead : s3.now < j.deadline := by
    simp only [pick2] at hpk
    split at hpk
    · simp at hpk
    · omega
  have : j.deadline ≤ dl := hdl ▸ IceTie.Lifecycle.closeDeadline_covers_all s2 cur j hj2
  omega

/-- the code with finding C09-G11 (Close does not wait for a re-gather pass of the monitor): a relay agent whose
monitor started a pass 733 ms ago closes — the TURN unit of the LAST cycle is still parked after `closeAgent`, with
its socket and TURN client open -/
theorem C09_zero_after_close_G11_witness :
    ¬ (∀ s : MState, Parked s →
        ∀ j ∈ (closeAgent s).jobs, j.cyc ≠ (openGate s).cyc.cycles.length - 1) := by
  intro h
  have hp : Parked g11State := by
    intro j hj
    have : g11State.jobs.all (fun j => j.prog.parked) = true := by decide +kernel
    exact List.all_eq_true.1 this j hj
  have := h g11State hp
  have hex : (closeAgent g11State).jobs.any (fun j => j.cyc == (openGate g11State).cyc.cycles.length - 1) = true := by decide +kernel
  obtain ⟨j, hj, hc⟩ := List.any_eq_true.1 hex
  exact this j hj (by simpa using hc)

/-- a relay agent (gather-once): the first cycle's TURN allocation is still parked when Restart supersedes the cycle;
the second cycle's allocation is answered and the cycle completes -/
def g12With (quirks : List Nat) : MState :=
  match newAgent { candTypes := [.relay], netTypes := [.udp4], turnUrls := 1, quirks := quirks }
      [{ name := 0, up := true, loopback := false, addrs := [⟨.g4, 1⟩] }] with
  | .ok s0 =>
    let s1 := (step s0 .gather).1
    let s2 := (step s1 .restart).1
    let s3 := (step s2 .gather).1
    -- what `step s3 (.turnreply 1 true 1)` computes, written without `sortedJobs` (a merge sort the kernel does not
    -- unfold): the allocation of the second cycle (cycle 1) is answered
    monKick (finishCycle (resume s3 (fun x => if x.cyc == 1 then some (.ok, 1) else none)))
  | .error _ => {}

/-- the code with finding C09-G12 (Close waits for the LAST gathering cycle only): after `closeAgent` the TURN unit of
the superseded first cycle is still parked, with its socket and TURN client open, and its goroutine running -/
theorem C09_zero_after_close_G12_witness :
    ¬ (∀ s : MState, Parked s → s.cfg.has 11 = false → (closeAgent s).jobs = []) := by
  intro h
  have hp : Parked (g12With [12]) := by
    intro j hj
    have : (g12With [12]).jobs.all (fun j => j.prog.parked) = true := by decide +kernel
    exact List.all_eq_true.1 this j hj
  have := h (g12With [12]) hp (by decide +kernel)
  have hex : (closeAgent (g12With [12])).jobs.length = 1 := by decide +kernel
  rw [this] at hex
  exact absurd hex (by decide +kernel)

/-- the repaired code on the same history: Close waits 8 s (the allocation's timeout) and everything is released -/
example : ((g12With []).opens, (g12With []).closes, (g12With []).jobs.length, (g12With []).now) = (5, 0, 1, 0) := by decide +kernel
example : ((closeAgent (g12With [])).opens, (closeAgent (g12With [])).closes, (closeAgent (g12With [])).jobs.length,
    (closeAgent (g12With [])).now) = (5, 5, 0, 8000) := by decide +kernel
example : ((closeAgent (g12With [12])).opens, (closeAgent (g12With [12])).closes, (closeAgent (g12With [12])).jobs.length,
    (closeAgent (g12With [12])).now) = (5, 3, 1, 0) := by decide +kernel

/-- **After Restart, once the superseded cycle has wound down.** After the virtual clock has been advanced,
every unit still parked times out strictly later: a unit whose deadline has passed is gone (each answered unit
returns, `exec_answered`), and a unit started by the monitor of a continual cycle on the way is either gone too
or has its deadline ahead, … -/
theorem C09_expired_units_gone (s : MState) (hp : Parked s) (ms : Nat) :
    ∀ j ∈ (step s (.adv ms)).1.jobs, s.now + ms < j.deadline :=
  advTo_late hp (s.now + ms) (by omega)

/-- … and when no candidate and no unit is left, every resource that was ever opened has been closed:
the open count is zero, whatever the history (reply timings, cancellations, errors, duplicates). -/
theorem C09_zero_when_wound_down (cfg : Config) (ifs : List Iface) (s0 : MState) (h0 : newAgent cfg ifs = .ok s0)
    (ops : List Op) (hc : (runOps s0 ops).cands = []) (hj : (runOps s0 ops).jobs = []) :
    (runOps s0 ops).opens = (runOps s0 ops).closes ∧ (runOps s0 ops).liveRes = [] := by
  have := (C09_conservation cfg ifs s0 h0 ops).1
  have hl : (runOps s0 ops).liveRes = [] := by simp [MState.liveRes, hc, hj]
  simp only [hl, List.length_nil, Nat.add_zero] at this
  exact ⟨this, hl⟩

/-- a relay unit with two addresses: allocation succeeds, first candidate starts, second is refused -/
example : (relayProg 2).run [.ok, .ok, .ok, .ok, .ok, .ok, .ok, .fail] {}
    = some { slots := [.owned 0, .owned 0, .owned 0], misuse := false } := by decide +kernel
/-- the same unit when the cycle was cancelled before the allocation answer arrived -/
example : (relayProg 2).run [.ok, .ok, .ok, .ok, .ok, .ok, .fail] {}
    = some { slots := [.released, .released, .released], misuse := false } := by decide +kernel
example : (srflxProg).run [.ok, .ok, .ok, .ok, .dup] {} = some { slots := [.dupClosed], misuse := false } := by decide +kernel
/-- srflx-mapped unit with two externals: the first maps to a disabled network type (C18-G6 fix: its socket
is released, the loop continues), the second is listened for, passes and is started -/
example : (srflxMappedProg 2).run [.ok, .ok, .ok, .ok, .ok, .fail, .ok, .ok, .ok, .ok, .ok, .ok] {}
    = some { slots := [.released, .owned 1], misuse := false } := by decide +kernel
/-- three externals: the first is site-local (C18-G7 fix: `supported6` fails, socket released), the second
link-local (location filter, socket released), the third is started -/
example : (srflxMappedProg 3).run [.ok, .ok, .ok, .fail, .ok, .fail, .ok, .ok, .ok, .ok, .ok, .ok] {}
    = some { slots := [.released, .released, .owned 2], misuse := false } := by decide +kernel
/-- the monitor does reject an observation: a socket of an ended generation with nothing in flight -/
example : (IceSpec.C09.check {} "stunreply" "ok"
    { gen := 1, led := [((.sock, some 0), 1)], opens := 1, closes := 0 }).1
    = some "resources of an ended generation still open after its gathering wound down: sk" := by decide +kernel

/-- continual gathering: the re-gather pass of `g11State` holds a socket and a TURN client (2 opens of the first pass
closed again after its timeout, 2 open now); the repaired code's Close waits for the pass (8 s more on the clock),
nothing is left parked, everything is closed; the code with C09-G11 returns at once with both still open -/
example : ((g11With []).opens, (g11With []).closes, (g11With []).jobs.length, (g11With []).now) = (4, 2, 1, 8733) := by decide +kernel
example : ((closeAgent (g11With [])).opens, (closeAgent (g11With [])).closes, (closeAgent (g11With [])).jobs.length,
    (closeAgent (g11With [])).now) = (4, 4, 0, 16733) := by decide +kernel
example : ((closeAgent g11State).opens, (closeAgent g11State).closes, (closeAgent g11State).jobs.length,
    (closeAgent g11State).now) = (4, 2, 1, 8733) := by decide +kernel
/-- … which the monitor rejects -/
example : (IceSpec.C09.check {} "close" "ok"
    { st := none, gen := 0, led := [((.sock, some 0), 1), ((.tclient, some 0), 1)], opens := 4, closes := 2,
      pend := [(true, 0, "T0.0.u4.u4.0")] }).1
    = some "resources of the closed generation still open after Close returned" := by decide +kernel

/-! ## Tie to the code (T, round 4): the done-channel chaining of 83e8561 and the release order, REGENERATED on every run
(`IceGen.T_Lifecycle`) -/

/-- the task of `GatherCandidates` reads the previous done channel BEFORE it stores the new one and spawns the goroutine last;
`gatherCandidates` registers `close(done)` FIRST and the wait for the superseded cycle's channel SECOND on every path (deferred calls
run in reverse: the wait, then the close), so a cycle's done channel is closed after that of the cycle it superseded and Close —
which waits for the latest channel — waits for the gatherers of every cycle: in the model, `closeDeadline` is no earlier than the
deadline of any parked gatherer of any cycle -/
theorem C09_code_done_chaining :
    (∀ state noHandler, IceGen.agent_GatherCandidates_task state noHandler
      = if state != 1 then [IceModel.Eff.set "gatherErr" (IceModel.Val.s "ErrMultipleGatherAttempted")]
        else if noHandler then [IceModel.Eff.set "gatherErr" (IceModel.Val.s "ErrNoOnCandidateHandler")]
        else IceTie.Lifecycle.acceptEffs) ∧
    (IceTie.Lifecycle.pos IceTie.Lifecycle.acceptEffs (IceTie.Lifecycle.c "gatherCandidateCancel()") = 0 ∧
     IceTie.Lifecycle.pos IceTie.Lifecycle.acceptEffs (IceTie.Lifecycle.c "prevDone := a.gatherCandidateDone")
        < IceTie.Lifecycle.pos IceTie.Lifecycle.acceptEffs (IceModel.Eff.set "a.gatherCandidateDone" (IceModel.Val.s "done")) ∧
     IceTie.Lifecycle.pos IceTie.Lifecycle.acceptEffs (IceModel.Eff.set "a.gatherCandidateDone" (IceModel.Val.s "done"))
        < IceTie.Lifecycle.pos IceTie.Lifecycle.acceptEffs (IceTie.Lifecycle.c "go gatherCandidates(ctx, done, prevDone)") ∧
     IceTie.Lifecycle.acceptEffs.getLast? = some (IceTie.Lifecycle.c "go gatherCandidates(ctx, done, prevDone)")) ∧
    (∀ stateErr applied policy, IceGen.agent_gatherCandidates stateErr applied policy
      = [IceTie.Lifecycle.deferClose, IceTie.Lifecycle.deferWait, IceTie.Lifecycle.c "setGatheringState(Gathering)"] ++
        (if stateErr || !applied then []
         else [IceTie.Lifecycle.c "if GatherContinually: record lastKnownInterfaces through the loop", IceTie.Lifecycle.c "gatherCandidatesInternal"] ++
           (if policy == 0 then [IceTie.Lifecycle.c "setGatheringState(Complete)"]
            else if policy == 1 then [IceTie.Lifecycle.c "startNetworkMonitoring"] else []))) ∧
    (∀ stateErr applied policy, (IceGen.agent_gatherCandidates stateErr applied policy).take 2 = [IceTie.Lifecycle.deferClose, IceTie.Lifecycle.deferWait]) ∧
    (∀ (s : MState) (cur : Nat) (j : Job), j ∈ s.jobs → j.deadline ≤ closeDeadline s false cur false) :=
  ⟨IceTie.Lifecycle.GatherCandidates_task_tie, IceTie.Lifecycle.GatherCandidates_task_order, IceTie.Lifecycle.gatherCandidates_tie, IceTie.Lifecycle.gatherCandidates_defers,
   IceTie.Lifecycle.closeDeadline_covers_all⟩

example : IceGen.agent_GatherCandidates_task 2 false = [IceModel.Eff.set "gatherErr" (IceModel.Val.s "ErrMultipleGatherAttempted")] ∧
    IceGen.agent_GatherCandidates_task 1 false = IceTie.Lifecycle.acceptEffs ∧
    IceGen.agent_gatherCandidates false false 0 = [IceTie.Lifecycle.deferClose, IceTie.Lifecycle.deferWait, IceTie.Lifecycle.c "setGatheringState(Gathering)"] := by decide +kernel

/-- `removeUfragFromMux`: the local ufrag leaves each configured mux (TCP, UDP, srflx UDP, in this order);
`deleteAllCandidates`: per network type every local candidate is closed and then the map entry deleted, then the same for the remote
candidates; the model's `wipe` leaves no candidate, pair, transaction or selection -/
theorem C09_code_release_order :
    (∀ hasTcp hasUdp hasSrflx, IceGen.agent_removeUfragFromMux hasTcp hasUdp hasSrflx
      = (if hasTcp then [IceTie.Lifecycle.c "tcpMux.RemoveConnByUfrag(localUfrag)"] else []) ++
        (if hasUdp then [IceTie.Lifecycle.c "udpMux.RemoveConnByUfrag(localUfrag)"] else []) ++
        (if hasSrflx then [IceTie.Lifecycle.c "udpMuxSrflx.RemoveConnByUfrag(localUfrag)"] else [])) ∧
    IceGen.agent_deleteAllCandidates
      = [IceTie.Lifecycle.c "for:localCandidates", IceTie.Lifecycle.c "close every candidate of the network type", IceTie.Lifecycle.c "delete(localCandidates, net)",
         IceTie.Lifecycle.c "end:localCandidates", IceTie.Lifecycle.c "for:remoteCandidates", IceTie.Lifecycle.c "close every candidate of the network type",
         IceTie.Lifecycle.c "delete(remoteCandidates, net)", IceTie.Lifecycle.c "end:remoteCandidates"] ∧
    (∀ a : IceModel.AgentCore.Agent,
      a.wipe.locals = [] ∧ a.wipe.remotes = [] ∧ a.wipe.checklist = [] ∧ a.wipe.pending = [] ∧ a.wipe.selected = none) :=
  ⟨IceTie.Lifecycle.removeUfragFromMux_tie, IceTie.Lifecycle.deleteAllCandidates_tie, IceTie.Lifecycle.wipe_model⟩

example : IceGen.agent_removeUfragFromMux false true false = [IceTie.Lifecycle.c "udpMux.RemoveConnByUfrag(localUfrag)"] := by decide +kernel

end IceProps.C09

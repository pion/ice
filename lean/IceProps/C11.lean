import IceProofs.NotifierFuture
import IceProofs.NotifierTrace
import IceProofs.GatherCycleFuture
import IceSpec.C11
import IceProofs.C11View
import IceProofs.C11ForcedView
import IceTie.Order
/-!
# C11 — callbacks are delivered in order, one at a time, exactly once; the nil candidate

Property theorems only.  Notifier theorems are about ONE stream of `handlerNotifier`
(`IceModel.Notifier`; the three streams are instances of the same program text); they hold in EVERY
state reachable by ANY schedule: any number of events, enqueuers, drainer goroutines, closers,
handlers of any duration, handlers that re-enter (`enqueue`, `closeCall false`, `closeBody` by whatever
thread).  Gathering theorems are about `IceModel.GatherCycle`, all interleavings of tasks of any
number of cycles, restarts and gatherers.
-/
namespace IceProps.C11
open IceModel

section Notifier
open IceModel.Notifier IceProofs.Notifier

/-- In order and exactly once.  The handler-invocation sequence (`delivered`, in start order) is a prefix
of the accepted sequence (`accepted` = events enqueued while the notifier was open, in lock order) at
all times; precisely `accepted = delivered ++ (popped, handler not yet entered) ++ queue`, so nothing
is lost, duplicated or reordered; whenever something is queued exactly one drainer is there to take it;
at quiescence (queue empty, no drainer goroutine) the two sequences are equal. -/
theorem C11_fifo_exactly_once (s : State) (h : Reachable s) :
    s.delivered <+: s.accepted
    ∧ s.accepted = s.delivered ++ held s.drainers ++ s.queue
    ∧ (s.queue ≠ [] → activeCount s.drainers = 1)
    ∧ (quiescent s = true → s.delivered = s.accepted) := by
  have hi := inv_reachable h
  refine ⟨?_, hi.k3, ?_, ?_⟩
  · rw [hi.k3, List.append_assoc]; exact List.prefix_append _ _
  · intro hq
    have hr : s.running = true := by
      cases hr : s.running
      · exact absurd (hi.idle hr) hq
      · rfl
    simpa [hr] using hi.k2
  · intro hq
    simp only [quiescent, Bool.and_eq_true, List.isEmpty_iff, beq_iff_eq] at hq
    have ha : activeCount s.drainers = 0 := by have := active_le_live s.drainers; omega
    rw [hi.k3, held_of_active_zero _ ha, hq.1]; simp

example : ∃ s, Reachable s ∧ quiescent s = true ∧ s.delivered = [7, 8] :=
  ⟨_, ⟨[.enqueue 7, .enqueue 8, .drainLock 0, .callHandler 0, .handlerReturn 0, .drainLock 0, .callHandler 0,
        .handlerReturn 0, .drainLock 0, .drainDone 0], rfl⟩, by decide +kernel, by decide +kernel⟩

/-- "accepted" is exactly "enqueued while not closed": the accepted sequence grows only by an `enqueue e`
on an open notifier, by `e` at its end.  (An event enqueued concurrently with `Close` is accepted or
dropped according to which critical section comes first; the property allows both.) -/
theorem C11_accepted_iff_enqueued_open (s s' : State) (a : Action) (h : step s a = some s') :
    s'.accepted = s.accepted ∨ (∃ e, a = .enqueue e ∧ s.closed = false ∧ s'.accepted = s.accepted ++ [e]) :=
  accepted_step a h

example : step { init with closed := true } (.enqueue 3) = some { init with closed := true } := by decide +kernel

/-- One at a time: at most one drainer is inside the handler; in fact `running = true` iff exactly one
drainer that can still pop or call the handler exists (drainers past their last unlock only have
`notifiers.Done()` left), and none exists while `running = false`. -/
theorem C11_never_concurrent (s : State) (h : Reachable s) :
    inHandlerCount s.drainers ≤ 1
    ∧ (s.running = true → activeCount s.drainers = 1)
    ∧ (s.running = false → activeCount s.drainers = 0) := by
  have hi := inv_reachable h
  have h1 := inHandler_le_active s.drainers
  have h2 := hi.k2
  refine ⟨?_, ?_, ?_⟩
  · cases hr : s.running <;> simp [hr] at h2 <;> omega
  · intro hr; simpa [hr] using h2
  · intro hr; simpa [hr] using h2

example : ∃ s, Reachable s ∧ inHandlerCount s.drainers = 1 ∧ s.queue = [2] :=
  ⟨_, ⟨[.enqueue 1, .drainLock 0, .callHandler 0, .enqueue 2], rfl⟩, by decide +kernel, by decide +kernel⟩

/-- The wait-group counter is the number of drainer goroutines that exist (used by `Close(true)`). -/
theorem C11_waitgroup_counts_drainers (s : State) (h : Reachable s) : s.wg = liveCount s.drainers :=
  (inv_reachable h).k4

/-- Graceful close.  Once some `Close(true)` has returned: the notifier is closed, no drainer goroutine
exists, and in EVERY continuation no drainer is created, none moves, and the handler is never invoked
again. -/
theorem C11_graceful (s : State) (h : Reachable s) (hg : s.gracefulReturned = true) :
    s.closed = true ∧ liveCount s.drainers = 0 ∧ inHandlerCount s.drainers = 0
    ∧ ∀ (as : List Action) (s' : State), run s as = some s' →
        liveCount s'.drainers = 0 ∧ s'.drainers = s.drainers ∧ s'.delivered = s.delivered := by
  have hi := inv_reachable h
  have hl : liveCount s.drainers = 0 := by have := (hi.graceful hg).2; have := hi.k4; omega
  have hin : inHandlerCount s.drainers = 0 := by
    have := inHandler_le_active s.drainers; have := active_le_live s.drainers; omega
  refine ⟨(hi.graceful hg).1, hl, hin, ?_⟩
  intro as s' hr
  obtain ⟨_, hd, he⟩ := graceful_run as hi hg hr
  exact ⟨by rw [hd]; exact hl, hd, he⟩

/-- non-vacuity: a graceful close that had to wait for a running handler, then returned -/
example : ∃ s, Reachable s ∧ s.gracefulReturned = true ∧ s.delivered = [1] :=
  ⟨_, ⟨[.enqueue 1, .drainLock 0, .callHandler 0, .closeCall true, .closeBody 0, .enqueue 2, .handlerReturn 0,
        .drainLock 0, .drainDone 0, .closeWait 0], rfl⟩, by decide +kernel, by decide +kernel⟩

/-- … and while the handler runs the graceful close cannot return (the `closeWait` step is not enabled). -/
example : run init [.enqueue 1, .drainLock 0, .callHandler 0, .closeCall true, .closeBody 0, .closeWait 0] = none := by
  decide +kernel

/-- A non-graceful close does not wait: events accepted before it are still delivered after it returned
(the property only constrains GracefulClose). -/
example : ∃ s, Reachable s ∧ s.closers = [CPc.returned false] ∧ s.delivered = [1] :=
  ⟨_, ⟨[.enqueue 1, .closeCall false, .closeBody 0, .drainLock 0, .callHandler 0], rfl⟩, by decide +kernel, by decide +kernel⟩

/-- Model ⊆ spec monitor.  The observable trace (Enqueue calls and returns, handler enter / exit, Close
calls and returns — `IceProofs.Notifier.trace`) of EVERY schedule of the model passes the stream monitor
`IceSpec.C11.monitorStream`, i.e. clauses S1 (one at a time), S2 (exactly once, nothing invented),
S3 (order, no skipping), S4 (closed notifier drops), S5 (graceful close) of `IceSpec/C11.lean`, which is
the predicate the driver evaluates on the histories recorded from the real code.  Event ids distinct,
as in recorded histories. -/
theorem C11_model_traces_pass_monitor (as : List Action) (s : State) (h : run init as = some s)
    (hn : (enqueued as).Nodup) : IceSpec.C11.monitorStream (trace init 0 as) = none := by
  obtain ⟨m', hm'⟩ := sim_run as sim_init (by simpa using hn) h
  simp [IceSpec.C11.monitorStream, hm']

/-- non-vacuity: a schedule with re-entrant enqueue, a non-graceful and a graceful close; its trace -/
example : trace init 0 [.enqueue 1, .drainLock 0, .callHandler 0, .enqueue 2, .closeCall false, .closeBody 0,
      .closeCall true, .closeBody 1, .enqueue 3, .handlerReturn 0, .drainLock 0, .callHandler 0, .handlerReturn 0,
      .drainLock 0, .drainDone 0, .closeWait 1]
    = [.enqCall 0 1, .enqRet 0, .enter 1, .enqCall 1 2, .enqRet 1, .closeCall 0 false, .closeRet 0, .closeCall 1 true,
       .enqCall 2 3, .enqRet 2, .exit 1, .enter 2, .exit 2, .closeRet 1] := by decide +kernel

/-- … and the monitor is not trivially satisfied: the same trace with the two deliveries swapped is rejected -/
example : IceSpec.C11.monitorStream [.enqCall 0 1, .enqRet 0, .enqCall 1 2, .enqRet 1, .enter 2, .exit 2, .enter 1, .exit 1]
    ≠ none := by decide +kernel

open IceSpec.C11 IceSpec.C11.View in
/-- **View round trip (history tokens).** Every typed event of a notifier history and every typed event
of a gathering history is read back from its printed token by the reader the driver uses
(`IceSpec/C11View.lean`; no well-formedness hypothesis: all fields are numbers and flags); hence the
string monitors on printed histories are the typed monitors. -/
theorem C11_view_roundtrip :
    (∀ e : HEv, parseTok (printTok e) = some e) ∧ (∀ e : GEv, parseGTok (printGTok e) = some e) ∧
    (∀ evs : List HEv, monitorToks (evs.map printTok) = monitorStream evs) ∧
    (∀ (needCand : Bool) (evs : List GEv), monitorGToks needCand (evs.map printGTok) = monitorGather needCand evs) :=
  ⟨IceProofs.C11View.parseTok_printTok, IceProofs.C11View.parseGTok_printGTok,
   IceProofs.C11View.monitorToks_print, IceProofs.C11View.monitorGToks_print⟩

open IceSpec.C11 IceSpec.C11.View in
-- non-vacuity: the printed tokens are the protocol's tokens
example : [HEv.enqCall 0 1, .enqRet 0, .enter 1, .closeCall 1 true, .exit 1, .closeRet 1, .quiet].map printTok
    = ["E0:1", "R0", "I1", "C1:g", "O1", "D1", "Q"] := by decide +kernel
open IceSpec.C11 IceSpec.C11.View in
example : [GEv.gather 0, .state 1 true, .cand 2, .nil, .restart 3, .close].map printGTok = ["G0", "P1", "c2", "n", "R3", "X"] := by decide +kernel

open IceSpec.C11.View in
/-- **Model ⊆ STRING monitor.** The printed trace of EVERY schedule of the notifier model is accepted by
`monitorToks`, the monitor the driver runs on the tokens recorded from the real code. -/
theorem C11_model_passes_string_monitor (as : List Action) (s : State) (h : run init as = some s)
    (hn : (enqueued as).Nodup) : monitorToks ((trace init 0 as).map printTok) = none := by
  rw [IceProofs.C11View.monitorToks_print]
  exact C11_model_traces_pass_monitor as s h hn

open IceSpec.C11.View in
-- non-vacuity: a schedule satisfying the hypotheses, with its printed trace
example : run init [.enqueue 1, .drainLock 0, .callHandler 0, .handlerReturn 0] ≠ none ∧
    (trace init 0 [.enqueue 1, .drainLock 0, .callHandler 0, .handlerReturn 0]).map printTok = ["E0:1", "R0", "I1", "O1"] := by
  decide +kernel

end Notifier

section Gather
open IceModel.GatherCycle IceProofs.GatherCycle

/-- Exactly one nil, last.  For every cycle `i` in every reachable state: the number of nil candidates
it has emitted is 1 if its Complete task was applied (it ran to completion) and 0 otherwise; the nil
comes after all of the cycle's candidates (no candidate of cycle `i` is ever published after `nil i`). -/
theorem C11_nil_once_last (s : State) (h : Reachable s) (i : Nat) (cy : Cycle) (hget : s.cycles[i]? = some cy) :
    s.published.count (Pub.nil i) = (if cy.completed then 1 else 0)
    ∧ (∀ pre post, s.published = pre ++ Pub.nil i :: post → ∀ t, Pub.cand i t ∉ post) := by
  have hi := inv_reachable h
  exact ⟨hi.nil_count i cy hget, fun pre post hl => nilLast_spec i _ pre post (hi.order i) hl⟩

/-- EVERY published candidate carries the ufrag of the cycle that gathered it — the ufrag that was current
when `GatherCandidates` created that cycle — whether the cycle completed, is still running or was
cancelled (full strength; before the in-task context re-check of `addCandidate`, /repo 19c3ca1, finding
F23, this held only for completed and live cycles and the negation was proved on a witness). -/
theorem C11_candidates_carry_cycle_ufrag (s : State) (h : Reachable s) (i : Nat) (cy : Cycle)
    (hget : s.cycles[i]? = some cy) : ∀ t, Pub.cand i t ∈ s.published → t = cy.ufrag :=
  (inv_reachable h).tags i cy hget

/-- … and every publication names an existing cycle, so the statement above covers every candidate. -/
example (s : State) (h : Reachable s) : ∀ p ∈ s.published, ∃ cy, s.cycles[Pub.cycle p]? = some cy := by
  intro p hp
  have := (inv_reachable h).bound p hp
  exact ⟨s.cycles[Pub.cycle p], by simp [this]⟩

/-- non-vacuity, and the former S5 schedule: the gatherer of cycle 0 passed the context check outside the
task, `Restart` to ufrag 1 ran, the hand-off is taken — the task is NOT enabled as a publication any more
(`pubTask` = `none`); the only way on is `pubAbort` (the task's own re-check), which publishes nothing. -/
example : run init [.gatherCall, .cycleStart 0, .pubCheck 0, .restart 1, .pubTask 0] = none := by decide +kernel
example : (run init [.gatherCall, .cycleStart 0, .pubCheck 0, .restart 1, .pubAbort 0]).map (·.published) = some [] := by
  decide +kernel

/-- A cycle cancelled (by `Restart`, or by a newer `GatherCandidates`, or at any later time) before its
Complete task was applied never emits a nil candidate, in any continuation. -/
theorem C11_cancelled_cycle_no_nil (s : State) (h : Reachable s) (i : Nat) (cy : Cycle)
    (hget : s.cycles[i]? = some cy) (hc : cy.cancelled = true) (hm : cy.completed = false) :
    ∀ (as : List Action) (s' : State), run s as = some s' → Pub.nil i ∉ s'.published := by
  intro as s' hr
  obtain ⟨cy', _, hget', _, hm', _⟩ := quiet_run as hget hc hr
  have hi' : Inv s' := inv_run as (inv_reachable h) hr
  have := hi'.nil_count i cy' hget'
  rw [hm', hm] at this
  simpa using List.count_eq_zero.mp this

/-- A cancelled cycle publishes NOTHING afterwards, neither a candidate nor a nil: in every continuation
`published` only grows and no appended publication belongs to the cancelled cycle (and the cycle stays
cancelled).  Cancelled by whatever: `Restart`, a newer `GatherCandidates`. -/
theorem C11_cancelled_cycle_publishes_nothing (s : State) (i : Nat) (cy : Cycle)
    (hget : s.cycles[i]? = some cy) (hc : cy.cancelled = true) :
    ∀ (as : List Action) (s' : State), run s as = some s' →
      ∃ ext, s'.published = s.published ++ ext ∧ ∀ p ∈ ext, Pub.cycle p ≠ i := by
  intro as s' hr
  obtain ⟨_, ext, _, _, _, hp, hn⟩ := quiet_run as hget hc hr
  exact ⟨ext, hp, hn⟩

/-- `Restart` cancels every cycle whose context is still live (there is at most one: the current one). -/
theorem C11_restart_cancels_live_cycle (s s' : State) (h : Reachable s) (u : Nat) (hcl : s.closed = false)
    (hs : step s (.restart u) = some s') (i : Nat) (cy' : Cycle) (hget : s'.cycles[i]? = some cy') :
    cy'.cancelled = true := by
  simp only [step, hcl] at hs
  cases hs
  obtain ⟨y, _, rfl⟩ := of_cancelCur (inv_reachable h) hget
  rfl

/-- `Restart` silences every cycle that exists: whatever is published after a `Restart` task, in any
continuation, belongs to a cycle created by a LATER `GatherCandidates` (index ≥ the number of cycles at the
Restart) — and by `C11_candidates_carry_cycle_ufrag` carries that later cycle's ufrag.  In particular no
candidate and no nil of the generation that was restarted is ever published into the new one. -/
theorem C11_restart_silences_old_cycles (s s' : State) (h : Reachable s) (u : Nat) (hcl : s.closed = false)
    (hs : step s (.restart u) = some s') :
    ∀ (as : List Action) (s'' : State), run s' as = some s'' →
      ∃ ext, s''.published = s'.published ++ ext ∧ ∀ p ∈ ext, s'.cycles.length ≤ Pub.cycle p := by
  intro as s'' hr
  exact all_cancelled_run as (fun i cy hget => C11_restart_cancels_live_cycle s s' h u hcl hs i cy hget) hr

/-- non-vacuity: a completed cycle with two candidates and its nil; then Restart, a second cycle cancelled
by the next Restart after one candidate: no nil for it. -/
def demo : List Action :=
  [.gatherCall, .cycleStart 0, .pubCheck 0, .pubTask 0, .pubCheck 0, .pubTask 0, .gatherersDone 0, .cycleFinish 0,
   .restart 1, .gatherCall, .cycleStart 1, .pubCheck 1, .pubTask 1, .restart 2, .gatherersDone 1, .cycleFinish 1]

example : (run init demo).map (·.published) =
    some [Pub.cand 0 0, Pub.cand 0 0, Pub.nil 0, Pub.cand 1 1] := by decide +kernel

example : ∃ s, Reachable s ∧ (∃ cy, s.cycles[0]? = some cy ∧ cy.completed = true)
    ∧ (∃ cy, s.cycles[1]? = some cy ∧ cy.cancelled = true ∧ cy.completed = false) :=
  ⟨_, ⟨demo, rfl⟩, by decide +kernel, by decide +kernel⟩

/-- non-vacuity of the two silence theorems: cycle 1 has an `addCandidate` in flight when `Restart` to ufrag 2
cancels it; the in-flight call can only abort; a third cycle gathered under ufrag 2 publishes `cand 2 2` and
its nil — everything after the Restart belongs to cycle 2 ≥ 2 = number of cycles at the Restart. -/
def demo2 : List Action :=
  [.gatherCall, .cycleStart 0, .pubCheck 0, .pubTask 0, .gatherersDone 0, .cycleFinish 0,
   .restart 1, .gatherCall, .cycleStart 1, .pubCheck 1, .pubTask 1, .pubCheck 1, .restart 2,
   .pubAbort 1, .gatherCall, .gatherersDone 1, .cycleStart 2, .cycleFinish 1, .pubCheck 2, .pubTask 2,
   .gatherersDone 2, .cycleFinish 2]

example : (run init demo2).map (fun s => (s.published, s.cycles.map (fun c => (c.ufrag, c.cancelled, c.completed)))) =
    some ([Pub.cand 0 0, Pub.nil 0, Pub.cand 1 1, Pub.cand 2 2, Pub.nil 2],
          [(0, true, true), (1, true, false), (2, false, true)]) := by decide +kernel

/-- … and with the in-flight call of the cancelled cycle taking the hand-off instead of aborting, the run is
not a run of the model (this is the history the unfixed code produced, `c2` from cycle 1). -/
example : run init [.gatherCall, .cycleStart 0, .pubCheck 0, .pubTask 0, .gatherersDone 0, .cycleFinish 0,
   .restart 1, .gatherCall, .cycleStart 1, .pubCheck 1, .pubTask 1, .pubCheck 1, .restart 2, .pubTask 1] = none := by
  decide +kernel

/-- The state side of "a cancelled cycle publishes nothing into the next generation": in EVERY reachable state every
local candidate of the agent (`a.localCandidates`: started, socket open) belongs to a cycle whose context is NOT
cancelled, carries the agent's CURRENT ufrag — which is that cycle's own — and was announced with exactly this
tag.  So nothing that a cancelled cycle gathered is alive in the agent, whatever `Run`'s `select` chose. -/
theorem C11_local_candidates_of_live_cycle (s : State) (h : Reachable s) (c t : Nat) (hl : (c, t) ∈ s.locals) :
    ∃ cy, s.cycles[c]? = some cy ∧ cy.cancelled = false ∧ t = cy.ufrag ∧ t = s.ufrag
      ∧ Pub.cand c t ∈ s.published := by
  have hi := inv_reachable h
  obtain ⟨cy, hget, hcan, hu, hp⟩ := hi.locals_live (c, t) hl
  exact ⟨cy, hget, hcan, hu.trans (hi.live_ufrag c cy hget hcan).symm, hu, hp⟩

/-- Once a cycle's context is cancelled, in every continuation (any choice of `Run`'s `select`, any number of calls
that had passed the first check before the cancellation) the agent holds no local candidate of that cycle:
those it had were deleted by whatever cancelled it, and no new one is started. -/
theorem C11_cancelled_cycle_leaves_no_local_candidate (s : State) (h : Reachable s) (i : Nat) (cy : Cycle)
    (hget : s.cycles[i]? = some cy) (hc : cy.cancelled = true) :
    ∀ (as : List Action) (s' : State), run s as = some s' → ∀ t, (i, t) ∉ s'.locals := by
  intro as s' hr t hmem
  obtain ⟨cy', _, hget', hc', _, _, _⟩ := quiet_run as hget hc hr
  have hi' : Inv s' := inv_run as (inv_reachable h) hr
  obtain ⟨y, hy, hyc, _, _⟩ := hi'.locals_live (i, t) hmem
  have hy' : s'.cycles[i]? = some y := hy
  rw [hget'] at hy'; cases hy'
  rw [hc'] at hyc; cases hyc

/-- The hand-off of a call whose cycle was cancelled after the first check (`pubRefuse`: `select` took
`l.tasks <- task` although `ctx.Done()` was ready, the task's own re-check failed) and `Run` returning the
context's error (`pubAbort`) are the same transition: the outcome does not depend on which ready case `select`
takes.  (Both are enabled exactly for a call in flight of a cancelled cycle while the loop is open.) -/
theorem C11_handoff_of_cancelled_cycle_is_refused (s : State) (c : Nat) (cy : Cycle) (hget : s.cycles[c]? = some cy)
    (hpc : cy.pc = .gathering) (hin : 0 < cy.checked) (hc : cy.cancelled = true) (hcl : s.closed = false) :
    step s (.pubTask c) = none ∧ step s (.pubSkip c) = none
    ∧ step s (.pubRefuse c) = step s (.pubAbort c)
    ∧ ∃ s', step s (.pubRefuse c) = some s' ∧ s'.published = s.published ∧ s'.locals = s.locals
        ∧ s'.ufrag = s.ufrag ∧ s'.gstate = s.gstate := by
  simp [step, hget, hpc, hin, hc, hcl]

/-- non-vacuity: candidate of cycle 0 is listed; a second call passes the first check; `Restart` empties the list
and cancels the cycle; the hand-off of the second call is refused; the third cycle's candidate is listed alone,
with the new ufrag. -/
example : (run init [.gatherCall, .cycleStart 0, .pubCheck 0, .pubTask 0, .pubCheck 0]).map (·.locals) = some [(0, 0)] := by
  decide +kernel
example : (run init [.gatherCall, .cycleStart 0, .pubCheck 0, .pubTask 0, .pubCheck 0, .restart 1, .pubRefuse 0,
    .gatherCall, .cycleStart 1, .pubCheck 1, .pubTask 1]).map (fun s => (s.locals, s.published)) =
    some ([(1, 1)], [Pub.cand 0 0, Pub.cand 1 1]) := by decide +kernel
/-- … `pubRefuse` is not a way around the first check or the loop: it needs a call in flight, a cancelled context
and an open loop. -/
example : run init [.gatherCall, .cycleStart 0, .pubCheck 0, .pubRefuse 0] = none := by decide +kernel
example : run init [.gatherCall, .cycleStart 0, .restart 1, .pubCheck 0] = none := by decide +kernel
example : run init [.gatherCall, .cycleStart 0, .pubCheck 0, .close, .pubRefuse 0] = none := by decide +kernel
example : (run init [.gatherCall, .cycleStart 0, .pubCheck 0, .close, .pubAbort 0]).map (·.published) = some [] := by decide +kernel

end Gather

/-- `Agent.close` (agent.go, regenerated in effect mode): first the task loop (`CloseWithPreStop(abortStartedCandidateIO)`), then
the THREE notifiers — connection state, candidate, selected pair — each a different one, each exactly once, each with the caller's
`graceful` -/
theorem C11_code_close_notifiers (graceful : Bool) :
    IceGen.agent_close graceful
      = ([IceTie.Order.c "loop.CloseWithPreStop(abortStartedCandidateIO)",
          IceTie.Order.c1 "connectionStateNotifier.Close" (IceModel.Val.b graceful),
          IceTie.Order.c1 "candidateNotifier.Close" (IceModel.Val.b graceful),
          IceTie.Order.c1 "selectedCandidatePairNotifier.Close" (IceModel.Val.b graceful)], "nil") ∧
    ((IceGen.agent_close graceful).1.count (IceTie.Order.c1 "connectionStateNotifier.Close" (IceModel.Val.b graceful)) = 1 ∧
     (IceGen.agent_close graceful).1.count (IceTie.Order.c1 "candidateNotifier.Close" (IceModel.Val.b graceful)) = 1 ∧
     (IceGen.agent_close graceful).1.count (IceTie.Order.c1 "selectedCandidatePairNotifier.Close" (IceModel.Val.b graceful)) = 1 ∧
     (IceGen.agent_close graceful).1.head? = some (IceTie.Order.c "loop.CloseWithPreStop(abortStartedCandidateIO)")) :=
  ⟨IceTie.Order.agentClose_tie graceful, IceTie.Order.agentClose_each_once graceful⟩

example : (IceGen.agent_close true).1.length = 4 := by decide +kernel

open IceSpec.C11.Forced IceSpec.C11.Forced.View in
/-- **View round trip (`gatherforce` observations).** Every typed event is read back from its printed
token, and the string monitor on every printed non-empty observation (tokens joined by single spaces) is
the typed monitor `monitorForced` (`IceSpec/C11ForcedView.lean`; no well-formedness hypothesis). -/
theorem C11_forced_view_roundtrip :
    (∀ e : FEv, parseFTok (printFTok e) = some e) ∧
    (∀ evs : List FEv, evs ≠ [] → monitorObs (printObsF evs) = monitorForced evs) :=
  ⟨IceProofs.C11ForcedView.parseFTok_printFTok, IceProofs.C11ForcedView.monitorObs_print⟩

open IceSpec.C11.Forced IceSpec.C11.Forced.View in
-- non-vacuity: a printed observation is the protocol text
example : printObsF [.gather 0, .offer 0 7, .result 7 (some true), .cand 0 7 0, .nil 0, .probe [7] [7, 8], .final []]
    = "G0 a0:7 r7=ok c0:7@0 n@0 Q7/7,8 Z" := by decide +kernel

end IceProps.C11

import IceProofs.CloseSysMu
import IceTie.Order
/-!
# C08 — Close always terminates, unblocks everyone, and is final

Property theorems over the shutdown model `IceModel.CloseSys` (all reachable states of all well-formed
initial configurations `Init`: any number of threads with any programs, any handler tables, any number of
candidates created by tasks, any socket behaviour).  Lemmas are in `IceProofs/CloseSys*.lean`.
-/
namespace IceProps.C08
open IceModel.CloseSys IceProofs.CloseSys

/-- **No deadlock.** In every reachable state in which some `Close`/`GracefulClose` is pending, some
non-environment transition is enabled — for every initial configuration whose handlers respect the
documented contract (agent.go:1534-1536: GracefulClose is not called synchronously from a handler). -/
theorem C08_no_deadlock {s0 s : State} (h0 : Init s0) (hc : Contract s0) (hr : Reach s0 s) (hp : ClosePending s) :
    ∃ a : Action, a.nonEnv = true ∧ (step s a).isSome = true :=
  (reach_inv h0 hr).no_deadlock (reach_contract hc hr) hp

/-- one notifier whose handler for event 1 calls `GracefulClose`; one API thread whose task enqueues event 1. -/
def witness0 : State :=
  { streams := [{ hdl := [[], [.close true]] }], thr := [{ prog := [.run .loop [.enq 0 1]] }] }

/-- the API call runs its task (event 1 is queued), the drainer enters the handler, the handler calls
GracefulClose, the loop shuts down, the closer closes notifier 0 and waits for its own drainer. -/
def witnessActs : List Action :=
  [.th (.api 0) false, .th (.api 0) true, .loop, .loop, .th (.api 0) false,
   .th (.dr 0) false, .th (.dr 0) false, .th (.dr 0) false, .th (.dr 0) false,
   .loop, .loop, .loop, .loop, .loop, .loop, .loop, .loop,
   .th (.dr 0) false, .th (.dr 0) false]

def witnessEnd : State := (run witness0 witnessActs).getD {}

theorem witness_init : Init witness0 := by
  refine ⟨rfl, rfl, rfl, rfl, rfl, rfl, rfl, fun n th h => ?_, fun i st h => ?_, by simp [witness0]⟩
  · have hm : th ∈ witness0.thr := List.mem_of_getElem? h
    simp only [witness0, List.mem_cons, List.not_mem_nil, or_false] at hm
    subst hm; simp
  · have hm : st ∈ witness0.streams := List.mem_of_getElem? h
    simp only [witness0, List.mem_cons, List.not_mem_nil, or_false] at hm
    subst hm; simp

theorem witness_run : run witness0 witnessActs = some witnessEnd := by
  have h1 : (run witness0 witnessActs).isSome = true := by decide +kernel
  unfold witnessEnd
  cases h : run witness0 witnessActs with
  | none => simp [h] at h1
  | some s => rfl

theorem witness_pending : ClosePending witnessEnd :=
  ⟨.dr 0, { prog := [.close true], loc := .cWait true 0 }, by decide, fun st h => by
      have : st = (witnessEnd.streams[0]?).getD {} := by rw [h]; rfl
      subst this; decide, trivial⟩

theorem witness_stuck (a : Action) : step witnessEnd a = none := by
  cases a with
  | loop => decide
  | th t alt =>
    cases t with
    | api n =>
      cases n with
      | zero => cases alt <;> decide
      | succ n => rfl
    | dr i =>
      cases i with
      | zero => cases alt <;> decide
      | succ i => rfl
    | rl c => rfl
  | rl c alt => rfl
  | envData c => rfl
  | envLoopWrite => decide
  | envTh t =>
    cases t with
    | api n =>
      cases n with
      | zero => decide
      | succ n => rfl
    | dr i =>
      cases i with
      | zero => decide
      | succ i => rfl
    | rl c => rfl

/-- **The contract is necessary.** From a well-formed initial configuration whose only defect is a
handler that calls `GracefulClose`, a concrete execution reaches a state in which that Close is pending
and NO transition at all (not even an environment transition) is enabled. -/
theorem C08_graceful_in_handler_witness :
    Init witness0 ∧ ¬ Contract witness0 ∧ Reach witness0 witnessEnd ∧ ClosePending witnessEnd ∧
      ∀ a : Action, step witnessEnd a = none := by
  refine ⟨witness_init, ?_, reach_run .init witness_run, witness_pending, witness_stuck⟩
  intro hc
  have := (hc 0 _ (by decide : witness0.streams[0]? = some { hdl := [[], [.close true]] })).1 [.close true] (by simp)
  simp [NoG] at this

/-- The first statement of every `Close` (take the loop's close-once, or find it taken) is enabled unless
another closer is inside the once — and that closer can always move (`abortIO` never blocks). -/
theorem C08_close_first_step {s0 s : State} (h0 : Init s0) (hr : Reach s0 s) {t : Tid} {th : Th} {g : Bool}
    (hget : getTh s t = some th) (ha : Active s t th) (hl : th.loc = .cOnce g) :
    ∃ a : Action, a.nonEnv = true ∧ (step s a).isSome = true :=
  (reach_inv h0 hr).close_first_step hget ha hl

/-- **Termination measure.** In every reachable state in which `done` is closed (some Close has executed
its first statement), EVERY transition — loop, threads, receive loops, handlers, and environment —
strictly decreases the natural-number measure `mu` (the wait-for ranks of DESIGN D.4 as one potential). -/
theorem C08_terminates {s0 s s' : State} {a : Action} (h0 : Init s0) (hr : Reach s0 s) (hd : s.done = true)
    (hs : step s a = some s') : mu s' < mu s :=
  mu_step (reach_inv h0 hr) hd hs

/-- … hence every execution from such a state is finite: at most `mu s` transitions, under ANY scheduler. -/
theorem C08_terminates_bound {s0 s s' : State} {acts : List Action} (h0 : Init s0) (hr : Reach s0 s)
    (hd : s.done = true) (hrun : run s acts = some s') : acts.length ≤ mu s := by
  have := run_length_le_mu (reach_inv h0 hr) hd hrun; omega

/-- **Every Close returns.** A state reached by an execution after which no non-environment transition is
enabled (a maximal execution: the fair scheduler has nothing left to run) has no pending Close. With
`C08_terminates_bound` (executions are finite) this is "every fair execution returns from every Close". -/
theorem C08_close_returns {s0 s : State} (h0 : Init s0) (hc : Contract s0) (hr : Reach s0 s)
    (hmax : ∀ a : Action, a.nonEnv = true → step s a = none) : ¬ ClosePending s := by
  intro hp
  obtain ⟨a, ha, hs⟩ := C08_no_deadlock h0 hc hr hp
  rw [hmax a ha] at hs
  simp at hs

/-- **After a Close has returned** (`closeRet`): `done` and `taskLoopDone` are closed — the loop goroutine is
gone; every receive loop has returned and every candidate's socket I/O is aborted; the gather cycle has
ended; the buffer is closed; Closed is the last state the connection-state notifier accepted; every
notifier is closed; every new `Run`/`Read`/`Write` and every call still blocked in `Run`, `Read`, `Write`,
`AwaitConnect` returns at once with the closed / I/O error and without touching the shared state; no
transition ever hands a task to the loop again. After a GracefulClose (`gcloseRet`) moreover no notifier
has a drainer (and, notifiers being closed, none is started later). -/
theorem C08_after_close {s0 s : State} (h0 : Init s0) (hr : Reach s0 s) (hc : s.closeRet = true) :
    AfterClose s ∧
    (∀ (t : Tid) (th : Th), StateCall th → ErrReturn s t th) ∧
    (∀ (a : Action) (s' : State), step s a = some s' → s'.tasksRun = s.tasksRun) ∧
    (s.gcloseRet = true → ∀ (i : Nat) (st : Stream), s.streams[i]? = some st → st.ndone = true ∧ st.running = false) := by
  have h := reach_inv h0 hr
  have ha := h.afterClose hc
  exact ⟨ha, fun t th hc => ha.errReturn t th hc, fun a s' hs => (step_stays hs).tasksRun ha.done, fun hg => h.ghost.2 hg⟩

/-- Close is final: the two ghost flags are never reset, so `C08_after_close` holds in every later state. -/
theorem C08_after_close_stable {s s' : State} {a : Action} (hs : step s a = some s') :
    (s.closeRet = true → s'.closeRet = true) ∧ (s.gcloseRet = true → s'.gcloseRet = true) :=
  ⟨(step_stays hs).closeRet, (step_stays hs).gcloseRet⟩

/-- a session: two notifiers (the state handler re-enters the API and calls `Close()` on event 1), an API thread
that adds a blocking candidate, one that starts checks (state change 1) and writes on the blocking socket inside
a task, a reader, an awaiter, a gather cycle, a checker, a plain closer and a graceful closer. -/
def demo0 : State :=
  { streams := [{ hdl := [[.work], [.run .loop [], .close false]] }, { hdl := [[.work]] }],
    thr := [{ prog := [.run .loop [.startCand true 2 true, .gather 4, .spawn 5, .startedFn, .enq 0 1, .enq 1 0]] },
            { prog := [.run .loop [.write 0]] },
            { prog := [.read] }, { prog := [.await] },
            { kind := .gather, live := false, prog := [.run .loop [], .work, .run .own [.startCand false 0 false]] },
            { kind := .checker, live := false, prog := [.run .loop [], .run .loop []] },
            { prog := [.close false] }, { prog := [.close true] }],
    rtask := [.write 0] }

theorem demo_init : Init demo0 := by
  refine ⟨rfl, rfl, rfl, rfl, rfl, rfl, rfl, fun n th h => ?_, fun i st h => ?_, by simp [demo0]⟩
  · have hm : th ∈ demo0.thr := List.mem_of_getElem? h
    simp only [demo0, List.mem_cons, List.not_mem_nil, or_false] at hm
    rcases hm with rfl | rfl | rfl | rfl | rfl | rfl | rfl | rfl <;> simp [GProg]
  · have hm : st ∈ demo0.streams := List.mem_of_getElem? h
    simp only [demo0, List.mem_cons, List.not_mem_nil, or_false] at hm
    rcases hm with rfl | rfl <;> simp

theorem demo_contract : Contract demo0 := by
  intro i st h
  have hm : st ∈ demo0.streams := List.mem_of_getElem? h
  simp only [demo0, List.mem_cons, List.not_mem_nil, or_false] at hm
  rcases hm with rfl | rfl <;> simp [NoG, LocNoG]

/-- an execution in which a task blocks writing on a blocking socket, a Read and an AwaitConnect are parked,
`Close` is called from an API thread AND from inside the state handler, then `GracefulClose`; everything
returns. -/
def demoActs : List Action :=
  [ -- thread 0: Run(task): candidate 0 (blocking socket), gather cycle 4, checker 5, startedFn, two notifications
    .th (.api 0) false, .th (.api 0) true, .loop, .loop, .loop, .loop, .loop, .loop, .loop, .th (.api 0) false,
    -- candidate 0's receive loop starts reading; reader and awaiter park
    .rl 0 true, .th (.api 2) false, .th (.api 3) false,
    -- thread 1: a task that blocks in the socket write
    .th (.api 1) false, .th (.api 1) true,
    -- the state handler (event 1) re-enters the API …
    .th (.dr 0) false, .th (.dr 0) false,
    -- … while thread 6 calls Close: once, done, abort candidate 0 (pre-stop) — the blocked write returns
    .th (.api 6) false, .th (.api 6) false, .th (.api 6) false, .th (.api 6) false,
    .th (.dr 0) false,                       -- the handler's Run returns the closed error
    .th (.dr 0) false, .th (.dr 0) false,    -- the handler calls Close(): finds the once finished, waits for the loop
    .loop, .loop,                            -- write returns, task ends
    .th (.api 1) false,                      -- Run of thread 1 returns nil
    .loop, .loop,                            -- onClose: cancel gather; wait …
    .th (.api 4) false,                      -- gather cycle: Run → closed
    .th (.api 4) false, .th (.api 4) false,  -- work; Run(own ctx) → closed; cycle done
    .loop,                                   -- gather done; deleteAllCandidates waits for candidate 0's closedCh
    .rl 0 false,                             -- recvLoop: read fails, exits
    .loop, .loop,                            -- unlist; no candidate left
    .loop, .loop, .loop, .loop,              -- startedFn, buf.Close, Closed → notifier, taskLoopDone
    .th (.api 2) false, .th (.api 3) false,  -- Read → error, AwaitConnect → closed
    .th (.api 5) false,                      -- checker leaves at loop.Done
    .th (.api 6) false, .th (.api 6) false, .th (.api 6) false, .th (.api 6) false,  -- Close returns
    .th (.dr 0) false, .th (.dr 0) false, .th (.dr 0) false, .th (.dr 0) false,      -- handler's Close returns
    .th (.api 7) false, .th (.api 7) false, .th (.api 7) false, .th (.api 7) false,  -- GracefulClose: notifier 0 closed, wait
    .th (.dr 0) false, .th (.dr 0) false, .th (.dr 0) false,                        -- drainer: Closed handler, exits
    .th (.api 7) false, .th (.api 7) false,
    .th (.dr 1) false, .th (.dr 1) false, .th (.dr 1) false,
    .th (.api 7) false, .th (.api 7) false ]

def demoEnd : State := (run demo0 demoActs).getD {}

theorem demo_run : run demo0 demoActs = some demoEnd := by
  have h1 : (run demo0 demoActs).isSome = true := by decide +kernel
  unfold demoEnd
  cases h : run demo0 demoActs with
  | none => simp [h] at h1
  | some s => rfl

/-- the hypotheses of the theorems are satisfiable together: a well-formed, contract-respecting configuration,
a reachable state with Close pending (after 19 actions), and a reachable state in which Close and GracefulClose
have returned, every thread has returned, with the errors the property demands. -/
example : Init demo0 ∧ Contract demo0 := ⟨demo_init, demo_contract⟩
example : ClosePending ((run demo0 (demoActs.take 19)).getD {}) :=
  ⟨.api 6, { prog := [.close false], loc := .cPre false }, by decide, rfl, trivial⟩
example : demoEnd.closeRet = true ∧ demoEnd.gcloseRet = true ∧ demoEnd.loop = .exited ∧ demoEnd.lastAcc = some 0 := by decide +kernel
example : demoEnd.thr.map (·.last) =
    [some .ok, some .ok, some .ioerr, some .closed, some .closed, none, some .ok, some .ok] := by decide +kernel
example : demoEnd.thr.all (·.finished) = true ∧ demoEnd.streams.all (fun st => st.ndone && !st.running) = true := by decide +kernel
example : mu demoEnd = 0 := by decide +kernel

/-! ## Tie to the code (T, order of effects): the onClose function of the agent's task loop and the candidate's `abortIO` / `close`
are REGENERATED on every run in effect mode -/

/-- the onClose function (runs once, after the last task): cancel gathering and WAIT for the gather goroutine, release the mux
ufrag, delete (close) all candidates, release `startedCh`, close the receive buffer, close the mDNS connection and LAST set the
state Closed — the final notified state — whether or not closing the buffer failed -/
theorem C08_code_onClose (hasGatherDone bufCloseFails : Bool) :
    IceGen.agent_onClose hasGatherDone bufCloseFails
      = IceTie.Order.c "gatherCandidateCancel" :: (if hasGatherDone then [IceTie.Order.c "wait gatherCandidateDone"] else [])
        ++ [IceTie.Order.c "removeUfragFromMux", IceTie.Order.c "deleteAllCandidates", IceTie.Order.c "startedFn",
            IceTie.Order.c "buf.Close", IceTie.Order.c "closeMulticastConn",
            IceTie.Order.c1 "updateConnectionState" (IceModel.Val.i 7)] ∧
    (IceGen.agent_onClose hasGatherDone bufCloseFails).getLast? = some (IceTie.Order.c1 "updateConnectionState" (IceModel.Val.i 7)) ∧
    IceTie.Order.pos (IceGen.agent_onClose hasGatherDone bufCloseFails) (IceTie.Order.c "deleteAllCandidates")
      < IceTie.Order.pos (IceGen.agent_onClose hasGatherDone bufCloseFails) (IceTie.Order.c1 "updateConnectionState" (IceModel.Val.i 7)) :=
  ⟨IceTie.Order.onClose_tie hasGatherDone bufCloseFails, (IceTie.Order.onClose_closed_last hasGatherDone bufCloseFails).1,
   (IceTie.Order.onClose_closed_last hasGatherDone bufCloseFails).2⟩

/-- `candidateBase.abortIO` and `close`: a never-started candidate returns nil at once; otherwise, once: unblock recvLoop
(`close(closeCh)`), `SetDeadline(now)`, `abortWrite` for mux handles, `conn.Close` — in this order, keeping the first error; `close`
then WAITS for recvLoop and unregisters the candidate -/
theorem C08_code_candidate_close (neverStarted isWriteAborter hasAgent : Bool) :
    IceGen.candidateBase_abortIO neverStarted
      = (if neverStarted then ([], "nil") else ([IceTie.Order.c "closeOnce.Do(abort)"], "closeErr")) ∧
    IceGen.candidateBase_abortIO_once isWriteAborter
      = [IceTie.Order.c "close(closeCh)", IceTie.Order.c "conn.SetDeadline(now) [closeErr = err]"]
        ++ (if isWriteAborter then [IceTie.Order.c "abortWrite [closeErr = first err]"] else [])
        ++ [IceTie.Order.c "conn.Close [closeErr = first err]"] ∧
    IceGen.candidateBase_close neverStarted hasAgent
      = (if neverStarted then ([], "nil")
        else ([IceTie.Order.c "abortIO", IceTie.Order.c "wait closedCh"]
              ++ (if hasAgent then [IceTie.Order.c "unregisterStartedCandidate"] else []), "abortIO err")) :=
  ⟨(IceTie.Order.abortIO_tie neverStarted isWriteAborter).1, (IceTie.Order.abortIO_tie neverStarted isWriteAborter).2,
   IceTie.Order.candidateClose_tie neverStarted hasAgent⟩

example : IceGen.candidateBase_abortIO_once true
    = [IceModel.Eff.call "close(closeCh)" [], IceModel.Eff.call "conn.SetDeadline(now) [closeErr = err]" [],
       IceModel.Eff.call "abortWrite [closeErr = first err]" [], IceModel.Eff.call "conn.Close [closeErr = first err]" []] := by decide +kernel

end IceProps.C08

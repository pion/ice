import IceTie.Options
import IceTie.AgentDefaults
import IceTie.Prio
import IceSpec.C17
import IceModel.Crc32
import IceProofs.Prio
/-!
# C17 — candidate and pair priorities follow the RFC formulas for every configuration

Property theorems only.  `*_code` theorems are stated about the definitions REGENERATED from the Go
source on every run (`IceGen.T_Prio`); they are what the kernel re-checks when the code changes.
-/
namespace IceProps.C17
open IceModel.Prio IceSpec.C17 IceTie.Prio

/-- The model's observable output for one candidate configuration. -/
def modelOut (i : CandIn) : CandOut :=
  let tp := typePreference i.ty i.isTCP i.offset
  let lp := localPreference i.ty i.isTCP i.tt (relayPref i.relayProto)
  { tp := tp, lp := lp, prio := priority tp lp i.component }

/-- Type preferences are 126/110/100/0, reduced by the TCP offset for TCP candidates, within 0..126. -/
theorem C17_type_pref (ty : CandType) (isTCP : Bool) (off : Nat) :
    typePreference ty isTCP off = (if isTCP then expectedBase ty - off else expectedBase ty)
    ∧ typePreference ty isTCP off ≤ 126 := by
  -- only the bound on the base preference matters, not the four values
  have hb : basePref ty ≤ 126 := by cases ty <;> decide
  have he : expectedBase ty = basePref ty := by cases ty <;> rfl
  rw [he]
  unfold typePreference
  generalize basePref ty = b at hb
  cases isTCP
  · simp only [Bool.false_eq_true, if_false]
    split <;> omega
  · simp only [if_true]
    split
    · omega
    · split <;> omega

theorem directionPref_eq (ty : CandType) (tt : TcpType) :
    directionPref ty tt = expectedDirection ty tt ∧ directionPref ty tt ≤ 6 := by
  cases ty <;> cases tt <;> simp [directionPref, expectedDirection]

/-- Local preference: relay protocol preference for relays, RFC 6544 direction table for TCP, 65535 otherwise. -/
theorem C17_local_pref (i : CandIn) :
    localPreference i.ty i.isTCP i.tt (relayPref i.relayProto) = expectedLP i
    ∧ localPreference i.ty i.isTCP i.tt (relayPref i.relayProto) ≤ 65535 := by
  obtain ⟨ty, isTCP, tt, rp, off, comp⟩ := i
  have hr : relayPref rp ≤ 3 := by unfold relayPref; (repeat' split) <;> omega
  have hd := directionPref_eq ty tt
  by_cases hrel : ty = .relay
  · subst hrel
    exact ⟨rfl, by show relayPref rp ≤ 65535; omega⟩
  · have e1 : localPreference ty isTCP tt (relayPref rp)
        = if isTCP then 8192 * directionPref ty tt + 8191 else 65535 := by
      unfold localPreference; rw [if_neg hrel]
    have e2 : expectedLP ⟨ty, isTCP, tt, rp, off, comp⟩
        = if isTCP then 8192 * expectedDirection ty tt + 8191 else 65535 := by
      cases ty <;> first | rfl | exact absurd rfl hrel
    rw [e1, e2, hd.1]
    cases isTCP
    · exact ⟨rfl, Nat.le_refl _⟩
    · refine ⟨rfl, ?_⟩
      have := hd.2
      simp only [if_true]; omega

/-- priority = 2^24·tp + 2^8·lp + (256 − component), without wrap-around, for tp ≤ 126, lp ≤ 65535,
component ≤ 256. -/
theorem C17_formula (tp lp comp : Nat) (ht : tp ≤ 126) (hl : lp ≤ 65535) (hc : comp ≤ 256) :
    priority tp lp comp = 2 ^ 24 * tp + 2 ^ 8 * lp + (256 - comp) := by
  unfold priority
  rw [Nat.mod_eq_of_lt (show comp < 65536 by omega), show 256 + 65536 - comp = 65536 + (256 - comp) by omega,
    Nat.add_mod_left, Nat.mod_eq_of_lt (show 256 - comp < 65536 by omega), Nat.mod_eq_of_lt (by omega)]

/-- … and the value is in 0..2^31−1 for EVERY component (also the ids above 256 that the uint16 subtraction
wraps), at least 1 for components 1..255. -/
theorem C17_range (tp lp comp : Nat) (ht : tp ≤ 126) (hl : lp ≤ 65535) :
    priority tp lp comp < 2 ^ 31 ∧ (1 ≤ comp → comp ≤ 255 → 1 ≤ priority tp lp comp) := by
  unfold priority; omega

theorem candViolation_none (i : CandIn) (o : CandOut) (h1 : o.tp ≤ 126) (h2 : o.tp = expectedTP i)
    (h3 : o.lp = expectedLP i)
    (h4 : i.component ≤ 256 → o.prio = 16777216 * o.tp + 256 * o.lp + (256 - i.component))
    (h5 : o.prio < 2147483648)
    (h6 : 1 ≤ i.component → i.component ≤ 255 → 1 ≤ o.prio) : candViolation i o = none := by
  unfold candViolation
  rw [if_neg (by omega), if_neg (by simp [h2]), if_neg (by simp [h3]),
    if_neg (fun h => h.2 (h4 h.1)), if_neg (by omega),
    if_neg (fun h => absurd (h6 h.1 h.2.1) (by omega))]

/-- Every output of the model passes the spec monitor of C17 (all clauses at once). -/
theorem C17_model_passes_monitor (i : CandIn) :
    candViolation i (modelOut i) = none := by
  have h1 := C17_type_pref i.ty i.isTCP i.offset
  have h2 := C17_local_pref i
  have h3 := fun h => C17_formula (typePreference i.ty i.isTCP i.offset)
    (localPreference i.ty i.isTCP i.tt (relayPref i.relayProto)) i.component h1.2 h2.2 h
  have h4 := C17_range (typePreference i.ty i.isTCP i.offset)
    (localPreference i.ty i.isTCP i.tt (relayPref i.relayProto)) i.component h1.2 h2.2
  apply candViolation_none
  · exact h1.2
  · exact h1.1
  · exact h2.1
  · intro h; have := h3 h; simp only [modelOut]; omega
  · have := h4.1; simp only [modelOut]; omega
  · intro ha hb; exact h4.2 ha hb

/-- The same for the code: the functions regenerated from candidate_base.go / candidatetype.go /
candidate_relay.go, composed as `Priority()` composes them, pass the monitor for ALL receiver states. -/
theorem C17_code_passes_monitor (ty : UInt8) (isTCP hasAgent : Bool) (off : UInt16) (tt : Int64)
    (proto : String) (comp : UInt16) :
    let tp := IceGen.candidateBase_TypePreference ty isTCP hasAgent off
    let lp := IceGen.candidateBase_LocalPreference ty isTCP tt (IceGen.relayProtocolPreference proto)
    let pr := IceGen.candidateBase_Priority 0 tp lp comp
    candViolation
      { ty := CandType.ofCode ty.toNat, isTCP := isTCP, tt := tcpOf tt, relayProto := proto,
        offset := if hasAgent then off.toNat else defaultTCPPriorityOffset, component := comp.toNat }
      { tp := tp.toNat, lp := lp.toNat, prio := pr.toNat } = none := by
  intro tp lp pr
  have := C17_model_passes_monitor
    { ty := CandType.ofCode ty.toNat, isTCP := isTCP, tt := tcpOf tt, relayProto := proto,
      offset := if hasAgent then off.toNat else defaultTCPPriorityOffset, component := comp.toNat }
  simp only [modelOut] at this
  simp only [tp, lp, pr, priority_tie, typePref_tie, localPref_tie, relayPref_tie]
  exact this

/-- Pair priority: the 64-bit result equals min·(2^32−1) + 2·max + (g>d) as natural numbers (no overflow). -/
theorem C17_pair_no_overflow (g d : Nat) (hg : g < 2 ^ 32) (hd : d < 2 ^ 32) :
    pairPriorityGD g d = (2 ^ 32 - 1) * min g d + 2 * max g d + (if g > d then 1 else 0)
    ∧ pairPriorityGD g d < 2 ^ 64 := by
  rw [IceProofs.Prio.pairPriorityGD_eq g d hg hd]
  by_cases h : g ≤ d
  · rw [if_pos h, Nat.min_eq_left h, Nat.max_eq_right h, if_neg (by omega)]; omega
  · rw [if_neg h, Nat.min_eq_right (by omega), Nat.max_eq_left (by omega), if_pos (by omega)]; omega

/-- Monotone in each argument. -/
theorem C17_pair_monotone (g g' d d' : Nat) (hg : g' < 2 ^ 32) (hd : d' < 2 ^ 32) (h1 : g ≤ g') (h2 : d ≤ d') :
    pairPriorityGD g d ≤ pairPriorityGD g' d' := by
  rw [IceProofs.Prio.pairPriorityGD_eq g d (by omega) (by omega), IceProofs.Prio.pairPriorityGD_eq g' d' hg hd]
  split <;> split <;> omega

/-- Strictly monotone in the controlling side's priority, so pair order refines candidate order. -/
theorem C17_pair_strict_g (g g' d : Nat) (hg : g' < 2 ^ 32) (hd : d < 2 ^ 32) (h1 : g < g') :
    pairPriorityGD g d < pairPriorityGD g' d := by
  rw [IceProofs.Prio.pairPriorityGD_eq g d (by omega) hd, IceProofs.Prio.pairPriorityGD_eq g' d hg hd]
  split <;> split <;> omega

/-- Mirrored pairs get the same number on both agents (model). -/
theorem C17_pair_symmetric (l r : Nat) : pairPriority true l r = pairPriority false r l := rfl

theorem pairViolation_none (g d v : Nat)
    (h1 : v = 4294967295 * min g d + 2 * max g d + (if g > d then 1 else 0))
    (h2 : v < 18446744073709551616) : pairViolation g d v = none := by
  unfold pairViolation
  rw [if_neg (by simp [h1]), if_neg (by omega)]

/-- Code: the regenerated `CandidatePair.priority` passes the pair monitor for all inputs … -/
theorem C17_pair_code_passes_monitor (ov : UInt64) (c : Bool) (l r : UInt32) :
    pairViolation (if c then l.toNat else r.toNat) (if c then r.toNat else l.toNat)
      (IceGen.candidatePair_priority false ov c l r).toNat = none := by
  rw [pairPriority_tie]
  have h1 := l.toNat_lt
  have h2 := r.toNat_lt
  cases c <;> simp only [pairPriority]
  · have := C17_pair_no_overflow r.toNat l.toNat h2 h1
    exact pairViolation_none _ _ _ (by simpa using this.1) (by simpa using this.2)
  · have := C17_pair_no_overflow l.toNat r.toNat h1 h2
    exact pairViolation_none _ _ _ (by simpa using this.1) (by simpa using this.2)

/-- … and both agents compute the same number for mirrored pairs. -/
theorem C17_pair_code_symmetric (ov : UInt64) (l r : UInt32) :
    IceGen.candidatePair_priority false ov true l r = IceGen.candidatePair_priority false ov false r l := by
  apply UInt64.toNat_inj.mp
  rw [pairPriority_tie, pairPriority_tie]; rfl

section Foundation
open IceModel.Crc32
theorem netStr_len : ∀ n < 5, 1 ≤ n → (netStr n).toList.length = 4 := by decide +kernel

theorem netStr_inj : ∀ n < 5, ∀ m < 5, 1 ≤ n → 1 ≤ m → (netStr n).toList = (netStr m).toList → n = m := by
  decide +kernel

/-- Foundations: the foundation is the CRC-32 of `type ++ address ++ network type`; this key string is
INJECTIVE in (type, address, network type), so foundations coincide for equal triples (function
congruence) and differ for different triples exactly up to CRC-32 collisions. -/
theorem C17_foundation_key_injective (t1 t2 n1 n2 : Nat) (a1 a2 : String)
    (ht1 : 1 ≤ t1 ∧ t1 ≤ 4) (ht2 : 1 ≤ t2 ∧ t2 ≤ 4) (hn1 : 1 ≤ n1 ∧ n1 ≤ 4) (hn2 : 1 ≤ n2 ∧ n2 ≤ 4)
    (h : foundationKey t1 a1 n1 = foundationKey t2 a2 n2) : t1 = t2 ∧ a1 = a2 ∧ n1 = n2 := by
  have hl := congrArg String.toList h
  simp only [foundationKey, String.toList_append, List.append_assoc] at hl
  have tEq : t1 = t2 := by
    have hh := congrArg List.head? hl
    rw [List.head?_append (l := (typeStr t1).toList), List.head?_append (l := (typeStr t2).toList),
      Option.or_of_isSome (IceProofs.Prio.typeStr_ne_nil t1 (by omega) ht1.1), Option.or_of_isSome (IceProofs.Prio.typeStr_ne_nil t2 (by omega) ht2.1)] at hh
    exact IceProofs.Prio.typeStr_head_inj t1 (by omega) t2 (by omega) ht1.1 ht2.1 hh
  subst tEq
  have := List.append_inj' (List.append_cancel_left hl)
    (by rw [netStr_len n1 (by omega) hn1.1, netStr_len n2 (by omega) hn2.1])
  exact ⟨rfl, String.toList_inj.mp this.1, netStr_inj n1 (by omega) n2 (by omega) hn1.1 hn2.1 this.2⟩

theorem C17_foundation_equal (t n : Nat) (a : String) : foundation t a n = foundation t a n := rfl

example : crcBit 1 = 0xEDB88320 := by decide +kernel
end Foundation

/-! Non-vacuity: concrete configurations meeting the hypotheses. -/
example : candViolation { ty := .srflx, isTCP := true, tt := .passive, relayProto := "udp", offset := 101, component := 1 }
    (modelOut { ty := .srflx, isTCP := true, tt := .passive, relayProto := "udp", offset := 101, component := 1 }) = none := by
  decide +kernel
example : pairPriorityGD 2130706431 1694498815 < pairPriorityGD 2130706431 1694498816 := by decide +kernel

/-- `initWithDefaults`: `tcpPriorityOffset` is the configured value, else `defaultTCPPriorityOffset` = 27 — the model's constant -/
theorem C17_code_tcp_offset_default :
    (∀ n1 v1 n2 v2 noTypes, IceGen.agentConfig_initWithDefaults_misc n1 v1 n2 v2 noTypes
      = [IceTie.AgentDefaults.setI "agent.stunGatherTimeout" n1 5000000000 v1, IceTie.AgentDefaults.setN "agent.tcpPriorityOffset" n2 27 v2,
         IceModel.Eff.set "agent.candidateTypes" (IceModel.Val.s (if noTypes then "defaultCandidateTypes()" else "config.CandidateTypes"))]) ∧
    (∀ v w noTypes, (IceGen.agentConfig_initWithDefaults_misc true v true w noTypes)[1]?
      = some (IceModel.Eff.set "agent.tcpPriorityOffset" (IceModel.Val.n defaultTCPPriorityOffset))) :=
  ⟨IceTie.AgentDefaults.initWithDefaults_misc_tie, fun v w noTypes => by
    rw [IceTie.AgentDefaults.initWithDefaults_misc_tie]; rfl⟩

example : (IceGen.agentConfig_initWithDefaults_misc true 0 false 5 true)[1]?
    = some (IceModel.Eff.set "agent.tcpPriorityOffset" (IceModel.Val.n 5)) := by decide +kernel

/-- the option writes `tcpPriorityOffset` (any uint16, no validation) unless the agent is constructed -/
theorem C17_code_tcp_offset_option :
    ∀ constructed offset, IceGen.opt_WithTCPPriorityOffset constructed offset
      = IceTie.Options.guard constructed ([IceTie.Options.setN "a.tcpPriorityOffset" offset], "nil") :=
  IceTie.Options.WithTCPPriorityOffset_tie

example : IceGen.opt_WithTCPPriorityOffset false 65535 = ([IceModel.Eff.set "a.tcpPriorityOffset" (IceModel.Val.n 65535)], "nil") := by decide +kernel

end IceProps.C17

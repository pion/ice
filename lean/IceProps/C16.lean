import IceProofs.CandTextParseWF
import IceProofs.AttrCodec
import IceSpec.C16
import IceTie.CandEqual
import IceTie.Addr
/-!
# C16 — candidate and attribute wire formats round-trip; equality is lawful

Property theorems only (+ tiny glue: the observation a model candidate presents to the spec monitor).
All candidate theorems hold for EVERY `Env` (the uninterpreted `netip.ParseAddr` classifier `cls`, the
canonical-address key `canon` = `canonicalAddr ∘ netip.ParseAddr`, and CRC-32) — in particular every
equality law (reflexive, symmetric, TRANSITIVE) needs no hypothesis at all.  One theorem,
`C16_equal_iff` (with its corollary `C16_equal_literal_forms`), assumes the explicit law `EnvLaw env`
("the address class is the class of the canonical address"); the driver checks that law on the values
the real functions return (`cand canon` lines).  The model mirrors the tree with the F1
(`extensionsEqual` on `Extensions()`), F7 (`raddr` printed whenever the related address is non-empty)
and 2a786b2 (`sameAddressLiteral`: different literals of one IP are Equal) repairs.
-/
namespace IceProps.C16
open IceModel.CandText IceModel.AttrCodec IceProofs.CandText IceProofs.AttrCodec
open IceModel.Prio (TcpType)

/-- **Round trip.** For every well-formed candidate `c` (`WF`: explicit, decidable), parsing its text
succeeds and yields a candidate with the same foundation, component, transport, priority, address,
port, type, related address, TCP type and extensions, that is Equal and DeepEqual to `c` (both ways). -/
theorem C16_roundtrip (env : Env) (c : Cand) (h : WF env c) :
    ∃ c', parse env (marshal env c) = .ok c' ∧
      foundation env c' = foundation env c ∧ c'.component = c.component ∧ c'.net = c.net ∧
      priority c' = priority c ∧ c'.address = c.address ∧ c'.port = c.port ∧ c'.typ = c.typ ∧
      c'.related = c.related ∧ c'.tcpType = c.tcpType ∧ extensions c' = extensions c ∧
      equal env c' c = true ∧ deepEqual env c' c = true ∧ equal env c c' = true ∧ deepEqual env c c' = true := by
  refine ⟨reparsed env c, parse_marshal env c h, reparsed_foundation env c h.1.1, rfl, rfl,
    reparsed_priority c env h.1.2.2.2.1, rfl, rfl, rfl, rfl, rfl, rfl, reparsed_equal env c,
    reparsed_deepEqual env c, ?_, ?_⟩
  · rw [equal_symm]; exact reparsed_equal env c
  · rw [deepEqual_symm]; exact reparsed_deepEqual env c

/-- Candidates made by the public constructors from arguments in range are well-formed, so the round
trip applies to them: component 16 bit, priority 32 bit, port 0..65535, foundation empty (computed)
or 1*32 ice-char / " ", address a token without zone, related address a token with port 0..65535
("none" = empty address with port 0), and the priority is not a computed 0 of a relay whose relay
protocol preference differs from the default. -/
theorem C16_constructed_wf (env : Env) (ty : CType) (network address : Str) (port comp prio : Nat)
    (fnd : Str) (tt : TcpType) (ra : Str) (rp rlp : Nat) (c : Cand)
    (h : mkCand env ty network address port comp prio fnd tt ra rp rlp = .ok c)
    (hf : fnd = [] ∨ foundationOK fnd) (hcomp : comp < 65536) (hprio : prio < 4294967296)
    (hp0 : priority c ≠ 0 ∨ ty ≠ .relay ∨ rlp = defaultRelayLP)
    (ha : 32 ∉ address ∧ 37 ∉ address) (hport : port ≤ 65535)
    (hra : 32 ∉ ra ∧ rp ≤ 65535 ∧ (ra = [] → rp = 0)) : WF env c :=
  mkCand_wf env ty network address port comp prio fnd tt ra rp rlp c h hf hcomp hprio hp0 ha hport hra

/-- Whatever `parse` accepts satisfies every clause of `WF` except representability (`Repr`). -/
theorem C16_parse_wfcore (env : Env) (s : Str) (c : Cand) (h : parse env s = .ok c) : WFcore env c :=
  parse_wfCore env s c h

/-
FULL STATEMENT (false for the code as it is, see the witnesses below and notes/C16.md N3):
  ∀ env s c, parse env s = .ok c → ∃ c', parse env (marshal env c) = .ok c' ∧ equal env c c' = true
-/
/-- **Re-marshal (partial).** Whatever `parse` accepts and is representable (`Repr`: an empty related
address has port 0; the first extension printed is not empty and not the word `raddr` unless a related
address is printed) re-marshals to text that parses to an Equal and DeepEqual candidate. -/
theorem C16_parse_idempotent_partial (env : Env) (s : Str) (c : Cand) (h : parse env s = .ok c)
    (hr : Repr c) :
    ∃ c', parse env (marshal env c) = .ok c' ∧ equal env c c' = true ∧ equal env c' c = true ∧
      deepEqual env c c' = true ∧ deepEqual env c' c = true := by
  obtain ⟨c', h1, _, _, _, _, _, _, _, _, _, _, e1, d1, e2, d2⟩ :=
    C16_roundtrip env c ⟨parse_wfCore env s c h, hr⟩
  exact ⟨c', h1, e2, e1, d2, d1⟩

/-- an `Env` for the concrete witnesses: every string is an IPv4 literal of ONE address (canonical key
`[0,0,0,0]`), CRC 0 -/
def envW : Env := { cls := fun _ => .v4, canon := fun _ => some [0, 0, 0, 0], crc := fun _ => 0 }

/-- "a 1 tcp 1 1.2.3.4 5 typ host tcptype   v" -/
def textW1 : Str := [97, 32, 49, 32, 116, 99, 112, 32, 49, 32, 49, 46, 50, 46, 51, 46, 52, 32, 53, 32,
  116, 121, 112, 32, 104, 111, 115, 116, 32, 116, 99, 112, 116, 121, 112, 101, 32, 32, 32, 118]

/-- "a 1 udp 1 1.2.3.4 5 typ srflx raddr  rport 5" -/
def textW2 : Str := [97, 32, 49, 32, 117, 100, 112, 32, 49, 32, 49, 46, 50, 46, 51, 46, 52, 32, 53, 32,
  116, 121, 112, 32, 115, 114, 102, 108, 120, 32, 114, 97, 100, 100, 114, 32, 32, 114, 112, 111, 114, 116, 32, 53]

def isOk {ε α : Type} : Except ε α → Bool
  | .ok _ => true
  | .error _ => false

def reparse (env : Env) (s : Str) : Except ErrKind (Except ErrKind (Cand × Cand)) :=
  match parse env s with
  | .error e => .error e
  | .ok c =>
    match parse env (marshal env c) with
    | .error e => .ok (.error e)
    | .ok c' => .ok (.ok (c, c'))

/-- The full statement fails: an accepted text whose re-marshalled form is REJECTED (an empty
extension name after a `tcptype` with an empty value). -/
theorem C16_parse_idempotent_witness :
    ¬ (∀ (env : Env) (s : Str) (c : Cand), parse env s = .ok c →
        ∃ c', parse env (marshal env c) = .ok c' ∧ equal env c c' = true) := by
  intro hall
  have h1 : ∃ c e, parse envW textW1 = .ok c ∧ parse envW (marshal envW c) = .error e := by
    have : (match reparse envW textW1 with
        | .ok (.error _) => true
        | _ => false) = true := by decide +kernel
    unfold reparse at this
    split at this
    · rename_i e heq
      split at heq
      · cases heq
      · rename_i c hc
        split at heq
        · rename_i e' he'
          exact ⟨c, e', hc, he'⟩
        · cases heq
    · cases this
  obtain ⟨c, e, hc, he⟩ := h1
  obtain ⟨c', hc', _⟩ := hall envW textW1 c hc
  rw [he] at hc'
  cases hc'

/-- … and one whose re-marshalled form parses to a candidate that is NOT Equal (an empty related
address with a non-zero port is dropped by `Marshal`). -/
theorem C16_parse_idempotent_witness2 :
    ∃ c c', parse envW textW2 = .ok c ∧ parse envW (marshal envW c) = .ok c' ∧ equal envW c c' = false := by
  have : (match reparse envW textW2 with
      | .ok (.ok (c, c')) => equal envW c c'
      | _ => true) = false := by decide +kernel
  unfold reparse at this
  split at this
  · rename_i c c' heq
    split at heq
    · cases heq
    · rename_i c0 hc0
      split at heq
      · cases heq
      · rename_i c1 hc1
        simp only [Except.ok.injEq, Prod.mk.injEq] at heq
        obtain ⟨rfl, rfl⟩ := heq
        exact ⟨c0, c1, hc0, hc1, this⟩
  · cases this

/-! ## equality laws (all candidates, every `Env`, no hypothesis) -/

theorem C16_equal_refl (env : Env) (c : Cand) : equal env c c = true := equal_refl env c
theorem C16_equal_symm (env : Env) (a b : Cand) : equal env a b = equal env b a := equal_symm env a b
theorem C16_equal_trans (env : Env) (a b c : Cand) (h1 : equal env a b = true) (h2 : equal env b c = true) :
    equal env a c = true := equal_trans env a b c h1 h2
theorem C16_deep_implies_equal (env : Env) (a b : Cand) (h : deepEqual env a b = true) : equal env a b = true :=
  deepEqual_equal env a b h
theorem C16_deep_refl (env : Env) (c : Cand) : deepEqual env c c = true := deepEqual_refl env c
theorem C16_deep_symm (env : Env) (a b : Cand) : deepEqual env a b = deepEqual env b a := deepEqual_symm env a b
theorem C16_deep_trans (env : Env) (a b c : Cand) (h1 : deepEqual env a b = true) (h2 : deepEqual env b c = true) :
    deepEqual env a c = true := deepEqual_trans env a b c h1 h2

/-- `sameAddressLiteral` ("the strings are identical, OR both parse and their canonical addresses are
equal") is an equivalence relation although it is written asymmetrically: a string that does not
parse (an mDNS name, garbage) is related to itself only. -/
theorem C16_sameAddressLiteral_equivalence (env : Env) :
    (∀ a, sameAddressLiteral env a a = true) ∧
    (∀ a b, sameAddressLiteral env a b = sameAddressLiteral env b a) ∧
    (∀ a b c, sameAddressLiteral env a b = true → sameAddressLiteral env b c = true →
      sameAddressLiteral env a c = true) :=
  ⟨sameAddressLiteral_refl env, sameAddressLiteral_symm env, sameAddressLiteral_trans env⟩

/-- **What `Equal` is**, under `EnvLaw`: same type, network type, port, TCP type and related address;
addresses that are one string or two literals of one canonical IP; and, for host candidates, both or
neither an unresolved mDNS name.  (The `addrEqual` test on the resolved addresses decides nothing
beyond the last clause.) -/
theorem C16_equal_iff (env : Env) (hl : EnvLaw env) (c o : Cand) :
    equal env c o = true ↔ c.typ = o.typ ∧ c.net = o.net ∧ c.port = o.port ∧ c.tcpType = o.tcpType ∧
      c.related = o.related ∧ sameAddressLiteral env c.address o.address = true ∧
      (c.typ = .host → isMDNS c.address = isMDNS o.address) :=
  equal_iff env hl c o

/-- **The purpose of 2a786b2**: the same constructor arguments with two literals `a₁`, `a₂` of one
canonical IP (neither an mDNS name) give `Equal` — and `DeepEqual` — candidates, under `EnvLaw`. -/
theorem C16_equal_literal_forms (env : Env) (hl : EnvLaw env) (ty : CType) (network a₁ a₂ : Str)
    (port comp prio : Nat) (fnd : Str) (tt : TcpType) (ra : Str) (rp rlp : Nat) (c₁ c₂ : Cand) (k : Str)
    (h1 : mkCand env ty network a₁ port comp prio fnd tt ra rp rlp = .ok c₁)
    (h2 : mkCand env ty network a₂ port comp prio fnd tt ra rp rlp = .ok c₂)
    (hk1 : env.canon a₁ = some k) (hk2 : env.canon a₂ = some k)
    (hm1 : isMDNS a₁ = false) (hm2 : isMDNS a₂ = false) :
    equal env c₁ c₂ = true ∧ deepEqual env c₁ c₂ = true :=
  mkCand_literal_forms env hl ty network a₁ a₂ port comp prio fnd tt ra rp rlp c₁ c₂ k h1 h2 hk1 hk2 hm1 hm2

/-- `extensionsEqual` is "same multiset" (the count loop only runs over the receiver's keys; with equal
lengths that is enough). -/
theorem C16_extensionsEqual_perm (a b : List (Str × Str)) : extensionsEqual a b = true ↔ a.Perm b :=
  extensionsEqual_iff_perm a b

def netCode : NetType → Nat | .udp4 => 1 | .udp6 => 2 | .tcp4 => 3 | .tcp6 => 4
def typCode : CType → Nat | .host => 1 | .srflx => 2 | .prflx => 3 | .relay => 4

/-- the public getters of a model candidate, as the monitor sees them -/
def obsOf (env : Env) (c : Cand) : IceSpec.C16.CandObs where
  foundation := foundation env c
  component := c.component
  net := netCode c.net
  priority := priority c
  address := c.address
  port := c.port
  typ := typCode c.typ
  related := c.related
  tcpType := c.tcpType.code
  exts := extensions c

/-- the round-trip observation the model produces for `c` -/
def rtObsOf (env : Env) (c : Cand) : IceSpec.C16.RtObs :=
  match parse env (marshal env c) with
  | .ok c' => { orig := obsOf env c, parsed := some (obsOf env c'), equal := equal env c' c, deep := deepEqual env c' c,
                equalRev := equal env c c', deepRev := deepEqual env c c' }
  | .error _ => { orig := obsOf env c, parsed := none, equal := false, deep := false, equalRev := false, deepRev := false }

/-- Every round-trip observation of a well-formed model candidate passes the round-trip monitor. -/
theorem C16_model_passes_rt_monitor (env : Env) (c : Cand) (h : WF env c) :
    IceSpec.C16.rtViolation (rtObsOf env c) = none := by
  obtain ⟨c', hp, g1, g2, g3, g4, g5, g6, g7, g8, g9, g10, e1, d1, e2, d2⟩ := C16_roundtrip env c h
  unfold rtObsOf
  rw [hp]
  have hobs : obsOf env c' = obsOf env c := by
    simp only [obsOf, g1, g2, g3, g4, g5, g6, g7, g8, g9, g10]
  simp only [IceSpec.C16.rtViolation, hobs, e1, d1, e2, d2]
  split
  · rfl
  · have : IceSpec.C16.sameGetters (obsOf env c) (obsOf env c) = none := by
      simp [IceSpec.C16.sameGetters]
    rw [this]; rfl

def eqObsOf (env : Env) (a b : Cand) : IceSpec.C16.EqObs :=
  { aEa := equal env a a, aDa := deepEqual env a a, bEb := equal env b b, bDb := deepEqual env b b,
    aEb := equal env a b, bEa := equal env b a, aDb := deepEqual env a b, bDa := deepEqual env b a }

/-- Every pair of model candidates passes the equality-law monitor. -/
theorem C16_model_passes_eq_monitor (env : Env) (a b : Cand) :
    IceSpec.C16.eqViolation (eqObsOf env a b) = none := by
  have h1 := equal_symm env a b
  have h2 := deepEqual_symm env a b
  simp only [IceSpec.C16.eqViolation, eqObsOf, equal_refl, deepEqual_refl, ← h1, ← h2]
  have := deepEqual_equal env a b
  cases hd : deepEqual env a b <;> cases he : equal env a b <;> simp_all

def eq3ObsOf (env : Env) (a b c : Cand) : IceSpec.C16.Eq3Obs :=
  { eab := equal env a b, ebc := equal env b c, eac := equal env a c,
    eba := equal env b a, ecb := equal env c b, eca := equal env c a,
    dab := deepEqual env a b, dbc := deepEqual env b c, dac := deepEqual env a c,
    dba := deepEqual env b a, dcb := deepEqual env c b, dca := deepEqual env c a }

/-- a symmetric, transitive Boolean relation on three points has no broken chain -/
theorem chainBroken_false (ab bc ac : Bool) (t1 : ab = true → bc = true → ac = true)
    (t2 : ab = true → ac = true → bc = true) (t3 : ac = true → bc = true → ab = true) :
    IceSpec.C16.chainBroken ab bc ac ab bc ac = false := by
  revert ab bc ac; decide

/-- Every triple of model candidates passes the transitivity monitor. -/
theorem C16_model_passes_eq3_monitor (env : Env) (a b c : Cand) :
    IceSpec.C16.eq3Violation (eq3ObsOf env a b c) = none := by
  have e1 := equal_symm env b a
  have e2 := equal_symm env c b
  have e3 := equal_symm env c a
  have d1 := deepEqual_symm env b a
  have d2 := deepEqual_symm env c b
  have d3 := deepEqual_symm env c a
  have ce := chainBroken_false (equal env a b) (equal env b c) (equal env a c)
    (equal_trans env a b c)
    (fun h1 h2 => equal_trans env b a c (by rw [e1]; exact h1) h2)
    (fun h1 h2 => equal_trans env a c b h1 (by rw [e2]; exact h2))
  have cd := chainBroken_false (deepEqual env a b) (deepEqual env b c) (deepEqual env a c)
    (deepEqual_trans env a b c)
    (fun h1 h2 => deepEqual_trans env b a c (by rw [d1]; exact h1) h2)
    (fun h1 h2 => deepEqual_trans env a c b h1 (by rw [d2]; exact h2))
  have imp (d e : Bool) (h : d = true → e = true) : (d && !e) = false := by
    cases d
    · rfl
    · rw [h rfl]; rfl
  simp only [IceSpec.C16.eq3Violation, eq3ObsOf, e1, e2, e3, d1, d2, d3, ce, cd, bne_self_eq_false,
    imp _ _ (deepEqual_equal env a b), imp _ _ (deepEqual_equal env b c), imp _ _ (deepEqual_equal env a c),
    Bool.or_self, Bool.false_eq_true, if_false]

/-- the assumption monitor accepts exactly the `Env`s that satisfy `EnvLaw` (with the driver's key
convention "4 bytes = IPv4" and the model's identification of the resolved IP with the canonical one) -/
def addrObsOf (env : Env) (a : Str) : IceSpec.C16.AddrObs :=
  { cls := match env.cls a with | .invalid => 0 | .v4 => 4 | .v6 => 6,
    canon := env.canon a, viaResolved := [env.canon a, env.canon a] }

theorem C16_envLaw_iff_monitor (env : Env) :
    EnvLaw env ↔ ∀ a, IceSpec.C16.envLawViolation (addrObsOf env a) = none := by
  unfold EnvLaw
  refine forall_congr' fun a => ?_
  unfold IceSpec.C16.envLawViolation addrObsOf clsOfCanon
  cases hc : env.cls a <;> cases hk : env.canon a <;> simp <;> split <;> simp_all

/-- PRIORITY: decode ∘ encode = id on 32-bit values; exactly 4 bytes. -/
theorem C16_attr_roundtrip_priority (v : Nat) (h : v < 4294967296) :
    decPriority (encPriority v) = some v ∧ (encPriority v).length = 4 := by
  rw [decPriority_enc, Nat.mod_eq_of_lt h]; exact ⟨rfl, rfl⟩

theorem C16_attr_size_priority (bs : List UInt8) (h : bs.length ≠ 4) : decPriority bs = none :=
  decPriority_size bs h

/-- … and encode ∘ decode = id on accepted values (the codec is a bijection on 4-byte strings). -/
theorem C16_attr_decode_priority (bs : List UInt8) (v : Nat) (h : decPriority bs = some v) :
    encPriority v = bs ∧ v < 4294967296 := ⟨(decPriority_some h).2.1, (decPriority_some h).2.2⟩

/-- ICE-CONTROLLING / ICE-CONTROLLED: 64-bit tie-breaker, exactly 8 bytes. -/
theorem C16_attr_roundtrip_tiebreaker (v : Nat) (h : v < 18446744073709551616) :
    decTiebreaker (encTiebreaker v) = some v ∧ (encTiebreaker v).length = 8 := by
  rw [decTiebreaker_enc, Nat.mod_eq_of_lt h]; exact ⟨rfl, rfl⟩

theorem C16_attr_size_tiebreaker (bs : List UInt8) (h : bs.length ≠ 8) : decTiebreaker bs = none :=
  decTiebreaker_size bs h

theorem C16_attr_decode_tiebreaker (bs : List UInt8) (v : Nat) (h : decTiebreaker bs = some v) :
    encTiebreaker v = bs ∧ v < 18446744073709551616 := ⟨(decTiebreaker_some h).2.1, (decTiebreaker_some h).2.2⟩

/-- USE-CANDIDATE: empty value; set iff present. -/
theorem C16_attr_roundtrip_useCandidate :
    decUseCandidate (some encUseCandidate) = true ∧ encUseCandidate.length = 0 ∧ decUseCandidate none = false :=
  ⟨rfl, rfl, rfl⟩

/-- nomination: values below 2^24 round-trip in 4 bytes … -/
theorem C16_attr_roundtrip_nomination (v : Nat) (h : v < 16777216) :
    decNomination (encNomination v) = some v ∧ (encNomination v).length = 4 := by
  rw [decNomination_enc, Nat.mod_eq_of_lt h]; exact ⟨rfl, rfl⟩

/-- … larger `uint32` values lose their top byte (why the property says "< 2^24") … -/
theorem C16_attr_nomination_truncates (v : Nat) : decNomination (encNomination v) = some (v % 16777216) :=
  decNomination_enc v

/-- … and a value shorter than 4 bytes is rejected; EXACTLY the values of at least 4 bytes are accepted
(S3: longer ones too — the property text does not decide whether that is a "wrong size"). -/
theorem C16_attr_size_nomination (bs : List UInt8) :
    (bs.length < 4 → decNomination bs = none) ∧ (decNomination bs).isSome = decide (4 ≤ bs.length) :=
  ⟨decNomination_size bs, decNomination_isSome bs⟩

/-- DTLS-in-STUN: the bytes themselves, any length. -/
theorem C16_attr_roundtrip_dtls (d : List UInt8) : decDtls (encDtls d) = some d := rfl

/-- DTLS-in-STUN ACK: up to four 32-bit numbers round-trip in 4 bytes each; longer lists are refused. -/
theorem C16_attr_roundtrip_ack (l : List Nat) (hl : l.length ≤ 4) (hv : ∀ x ∈ l, x < 4294967296) :
    ∃ bs, encAck l = some bs ∧ decAck bs = some l ∧ bs.length = 4 * l.length := by
  have he : encAck l = some (encWords l) := by
    unfold encAck ackSizeValues; rw [if_neg (by omega)]
  refine ⟨encWords l, he, ?_, encWords_length l⟩
  rw [decAck_enc l _ he]
  congr 1
  clear he hl
  induction l with
  | nil => rfl
  | cons a l ih =>
    simp only [List.map_cons]
    rw [Nat.mod_eq_of_lt (hv a List.mem_cons_self), ih (fun x hx => hv x (List.mem_cons_of_mem a hx))]

theorem C16_attr_size_ack (l : List Nat) (bs : List UInt8) :
    (encAck l).isSome = decide (l.length ≤ 4) ∧
    (decAck bs).isSome = decide (bs.length ≤ 16 ∧ bs.length % 4 = 0) :=
  ⟨encAck_size l, decAck_size bs⟩

/-- host / tcp / passive with two extensions -/
def exHost : Cand :=
  { typ := .host, net := .tcp4, address := [49, 48, 46, 48, 46, 48, 46, 49], port := 9, component := 1,
    prioOverride := 0, foundationOverride := [], tcpType := .passive, related := none,
    exts := [([103], [48]), ([117], [])], relayLP := 0 }

/-- srflx / udp with related address 0.0.0.0:0 (named by the property; F7) -/
def exSrflx : Cand :=
  { typ := .srflx, net := .udp4, address := [49, 46, 50, 46, 51, 46, 52], port := 65535, component := 65535,
    prioOverride := 4294967295, foundationOverride := [32], tcpType := .unspecified,
    related := some ([48, 46, 48, 46, 48, 46, 48], 0), exts := [], relayLP := 0 }

example : WF envW exHost := by decide +kernel
example : WF envW exSrflx := by decide +kernel
example : isOk (parse envW (marshal envW exHost)) = true := by decide +kernel
example : ∃ c, parse envW textW1 = .ok c := by
  have : isOk (parse envW textW1) = true := by decide +kernel
  cases h : parse envW textW1 with
  | ok c => exact ⟨c, rfl⟩
  | error e => rw [h] at this; cases this
example : Repr exHost ∧ ¬ Repr { exHost with tcpType := .unspecified, exts := [(sRaddr, [120])] } := by decide +kernel
example : deepEqual envW exHost exHost = true ∧ equal envW exHost exSrflx = false := by decide +kernel
/-- an `Env` with two literals of one address ("1" ~ "2", both IPv4), a third address and a name -/
def envL : Env :=
  { cls := fun s => if s = [1] ∨ s = [2] ∨ s = [3] then .v4 else .invalid,
    canon := fun s => if s = [1] ∨ s = [2] then some [9, 9, 9, 9] else if s = [3] then some [8, 8, 8, 8] else none,
    crc := fun _ => 0 }
example : EnvLaw envW := fun _ => rfl
example : EnvLaw envL := by
  intro a; unfold envL clsOfCanon; dsimp only
  by_cases h1 : a = [1] <;> by_cases h2 : a = [2] <;> by_cases h3 : a = [3] <;> simp [h1, h2, h3]
example : sameAddressLiteral envL [1] [2] = true ∧ sameAddressLiteral envL [1] [3] = false ∧
    sameAddressLiteral envL [7] [7] = true ∧ sameAddressLiteral envL [7] [6] = false := by decide +kernel
example : equal envL { exSrflx with address := [1] } { exSrflx with address := [2] } = true ∧
    equal envL { exSrflx with address := [1] } { exSrflx with address := [3] } = false := by decide +kernel
example : extensionsEqual [([1], [2]), ([3], [])] [([3], []), ([1], [2])] = true := by decide +kernel
example : decNomination [0, 0, 0, 1, 9] = some 1 := by decide  -- S3: a 5-byte value is accepted
example : decPriority (encPriority 4294967295) = some 4294967295 := by decide +kernel
example : encAck [1, 2, 3, 4, 5] = none := by decide +kernel

/-! ### code ties (T): the equality functions are REGENERATED from candidate_base.go / candidaterelatedaddress.go /
addr.go on every run (`IceGen.T_Cand`) and proved equal to the model's (`IceTie/CandEqual.lean`) -/

/-- `sameAddressLiteral` (candidate_base.go) with `netip.ParseAddr` failing iff `env.canon` is `none` and the
comparison of the two `canonicalAddr`s being the comparison of the keys is the model's `sameAddressLiteral` -/
theorem C16_code_sameAddressLiteral (env : Env) (a b : Str) :
    IceGen.sameAddressLiteral (a == b) (env.canon a).isNone (env.canon b).isNone (env.canon a == env.canon b)
      = sameAddressLiteral env a b :=
  IceTie.CandEqual.sameAddressLiteral_tie env a b

/-- `candidateBase.Equal` ∘ `transportAddressEqual` ∘ `sameAddressLiteral` ∘ `CandidateRelatedAddress.Equal`,
composed as the code composes them, on two DISTINCT candidate objects (the interface values `c.addr()` and
`other.addr()` are equal only when both are nil) is the model's `equal` — every environment, every two candidates
whose ports are Go `int`s -/
theorem C16_code_equal (env : Env) (c o : Cand) (hpc : c.port < 2 ^ 63) (hpo : o.port < 2 ^ 63)
    (hrc : ∀ v, c.related = some v → v.2 < 2 ^ 63) (hro : ∀ v, o.related = some v → v.2 < 2 ^ 63) :
    IceGen.candidateBase_Equal
        (IceGen.candidateBase_transportAddressEqual (!((resolved env c).isNone && (resolved env o).isNone))
          (resolved env c).isNone (resolved env o).isNone
          (resolved env c == resolved env o) (IceTie.CandEqual.netCode c.net) (IceTie.CandEqual.netCode o.net)
          (IceGen.sameAddressLiteral (c.address == o.address) (env.canon c.address).isNone (env.canon o.address).isNone
            (env.canon c.address == env.canon o.address))
          (Int64.ofNat c.port) (Int64.ofNat o.port) (IceTie.CandEqual.ttCode c.tcpType) (IceTie.CandEqual.ttCode o.tcpType))
        (IceTie.CandEqual.tyCode c.typ) (IceTie.CandEqual.tyCode o.typ)
        (IceGen.candidateRelatedAddress_Equal c.related.isNone o.related.isNone
          ((c.related.getD ([], 0)).1 == (o.related.getD ([], 0)).1)
          (Int64.ofNat (c.related.getD ([], 0)).2) (Int64.ofNat (o.related.getD ([], 0)).2))
      = equal env c o := by
  apply IceTie.CandEqual.equal_tie env c o _ _ _ hpc hpo hrc hro
  · intro h1 h2; simp [h1, h2]
  · intro h
    cases h1 : resolved env c <;> cases h2 : resolved env o <;> simp [h1, h2] at h ⊢

/-- the same for a candidate compared with ITSELF (one object: `c.addr() != other.addr()` is false) -/
theorem C16_code_equal_self (env : Env) (c : Cand) (hpc : c.port < 2 ^ 63)
    (hrc : ∀ v, c.related = some v → v.2 < 2 ^ 63) :
    IceGen.candidateBase_Equal
        (IceGen.candidateBase_transportAddressEqual false
          (resolved env c).isNone (resolved env c).isNone
          (resolved env c == resolved env c) (IceTie.CandEqual.netCode c.net) (IceTie.CandEqual.netCode c.net)
          (IceGen.sameAddressLiteral (c.address == c.address) (env.canon c.address).isNone (env.canon c.address).isNone
            (env.canon c.address == env.canon c.address))
          (Int64.ofNat c.port) (Int64.ofNat c.port) (IceTie.CandEqual.ttCode c.tcpType) (IceTie.CandEqual.ttCode c.tcpType))
        (IceTie.CandEqual.tyCode c.typ) (IceTie.CandEqual.tyCode c.typ)
        (IceGen.candidateRelatedAddress_Equal c.related.isNone c.related.isNone
          ((c.related.getD ([], 0)).1 == (c.related.getD ([], 0)).1)
          (Int64.ofNat (c.related.getD ([], 0)).2) (Int64.ofNat (c.related.getD ([], 0)).2))
      = true := by
  rw [IceTie.CandEqual.equal_tie env c c false (fun _ _ => rfl) (fun _ => rfl) hpc hpc hrc hrc]
  exact equal_refl env c

/-- `canonicalAddr` (addr.go), the function `Env.canon` stands for after `ParseAddr`: unmap, then keep the zone
exactly on an IPv6 link-local address; `addrPortEqual` needs both sides valid -/
theorem C16_code_canonicalAddr {α : Type} (unmap : α → α) (isLL : α → Bool) (noZone : α → α) (addr : α) :
    IceGen.canonicalAddr α unmap isLL noZone addr = (if isLL (unmap addr) then unmap addr else noZone (unmap addr)) ∧
    (∀ av bv same, IceGen.addrPortEqual av bv same = (av && bv && same)) :=
  ⟨IceTie.CandEqual.canonicalAddr_tie unmap isLL noZone addr, IceTie.CandEqual.addrPortEqual_tie⟩

/-- non-vacuity: the hypotheses of `C16_code_equal` hold for the example candidates; the regenerated functions on
concrete atoms; a toy `netip.Addr` (4-in-6 flag, link-local flag, zone) under `canonicalAddr` -/
example : exHost.port < 2 ^ 63 ∧ ∀ v, exSrflx.related = some v → v.2 < 2 ^ 63 := by decide +kernel
example : IceGen.sameAddressLiteral false false false true = true ∧ IceGen.sameAddressLiteral false true false true = false ∧
    IceGen.sameAddressLiteral true true true false = true := by decide +kernel
example : IceGen.candidateBase_transportAddressEqual true false false true 1 1 true 5 5 0 0 = true ∧
    IceGen.candidateBase_transportAddressEqual true false false false 1 1 true 5 5 0 0 = false ∧
    IceGen.candidateBase_transportAddressEqual true true false true 1 1 true 5 5 0 0 = false ∧
    IceGen.candidateBase_transportAddressEqual false true true false 1 1 true 5 6 0 0 = false := by decide +kernel
example : IceGen.candidateRelatedAddress_Equal true true false 1 2 = true ∧
    IceGen.candidateRelatedAddress_Equal true false true 1 1 = false := by decide +kernel
example : IceGen.canonicalAddr (Bool × Bool × Nat) (fun a => (false, a.2)) (fun a => a.2.1) (fun a => (a.1, a.2.1, 0))
      (true, false, 7) = (false, false, 0) ∧
    IceGen.canonicalAddr (Bool × Bool × Nat) (fun a => (false, a.2)) (fun a => a.2.1) (fun a => (a.1, a.2.1, 0))
      (false, true, 7) = (false, true, 7) := by decide +kernel

/-- `addrEqual` and `createAddr` (addr.go, regenerated): `addrEqual` is false when either address does not parse, else it
compares network type, IP (`Compare`) and port — on two resolved addresses of the text model that is the equality of the
`resolved` tuples the model's `transportAddressEqual` uses; `createAddr` builds a `*net.TCPAddr` for the TCP network types and a
`*net.UDPAddr` otherwise, both with IP, port and zone -/
theorem C16_code_addrEqual :
    (∀ (aErr bErr : Bool) (aType bType ipCompare aPort bPort : Int64),
      IceGen.addrEqual aErr bErr aType bType ipCompare aPort bPort
        = (!aErr && !bErr && aType == bType && ipCompare == 0 && aPort == bPort)) ∧
    (∀ (a b : Bool × AddrClass × Option Str × Nat) (cmp : Int64),
      (cmp == 0) = (a.2.1 == b.2.1 && a.2.2.1 == b.2.2.1) → a.2.2.2 < 2 ^ 63 → b.2.2.2 < 2 ^ 63 →
      IceGen.addrEqual false false (IceTie.Addr.typeCode a.1 a.2.1) (IceTie.Addr.typeCode b.1 b.2.1) cmp
          (Int64.ofNat a.2.2.2) (Int64.ofNat b.2.2.2) = (a == b)) ∧
    (∀ isTCP, IceGen.createAddr isTCP = if isTCP then "TCPAddr{ip, port, zone}" else "UDPAddr{ip, port, zone}") :=
  ⟨IceTie.Addr.addrEqual_tie, IceTie.Addr.addrEqual_resolved, IceTie.Addr.createAddr_tie⟩

example : IceGen.addrEqual false false 1 1 0 5 5 = true ∧ IceGen.addrEqual false false 1 3 0 5 5 = false ∧
    IceGen.addrEqual true false 1 1 0 5 5 = false := by decide +kernel

end IceProps.C16

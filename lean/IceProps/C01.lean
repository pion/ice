import IceProofs.Sys2C01Main
import IceProofs.Sys2C01LiveFairEval
import IceProofs.Sys2C01LiveNoise
import IceProofs.Sys2C01LiveWide
import IceProofs.Sys2C01LiveDisc2
import IceProofs.Sys2C01LiveDisc3
import IceProofs.Sys2C01LiveRetx
import IceProofs.Sys2C01LiveDiscRoutes
import IceProofs.Sys2C01LiveDisc4
/-!
# C01 — two agents converge on the same, working candidate pair

System: `IceProofs.Sys2Run` (two `AgentCore` agents and the hub of `IceModel.Sys2`; closed: agents receive traffic only
through the hub).  The safety theorems hold for ALL `Sys.Init` states (any configuration, credentials, tie-breakers,
counters, NAT mapping, reachability matrix) and ALL event lists (API calls of both agents, `restart`, `close` and late
signalling included, deliveries, duplications, drops, clock advances), under the schedule hypothesis `LocalsSane`: every
address at which a local candidate is added survives the NAT round trip (implied by the global `NatSane`).  Passwords
play no role in the argument: a success response validates a pair only through the transaction id of a logged request,
and transaction ids of the two agents are disjoint by the tag (modelling assumption for "96-bit random ids never
collide").  NOT proved: liveness in full (`C01_converges`; what is proved is listed at the head of the liveness section)
and the mirror theorem beyond `C01_mirror_partial` (one local address per agent).
-/
namespace IceProps.C01
open IceModel.AgentCore IceModel.Sys2 IceProofs.Sys2Run IceProofs.C01

/-- global topology sanity: `unmapped (mapped x) = x` for every address occurring in the mapping (hence for every
address, `NatSane_all`). -/
def NatSane (nat : List (Nat × Nat)) : Prop := ∀ x ∈ nat.map (·.1) ++ nat.map (·.2), SaneAddr nat x

instance (nat : List (Nat × Nat)) : Decidable (NatSane nat) := by unfold NatSane; infer_instance

theorem NatSane_all {nat : List (Nat × Nat)} (h : NatSane nat) (x : Nat) : unmappedL nat (mappedL nat x) = x := by
  by_cases hx : x ∈ nat.map (·.1) ++ nat.map (·.2)
  · exact h x hx
  · have h1 : nat.find? (·.1 == x) = none := by
      rw [List.find?_eq_none]
      intro e he hex
      exact hx (List.mem_append_left _ (List.mem_map.mpr ⟨e, he, by simpa using hex⟩))
    have h2 : nat.find? (·.2 == x) = none := by
      rw [List.find?_eq_none]
      intro e he hex
      exact hx (List.mem_append_right _ (List.mem_map.mpr ⟨e, he, by simpa using hex⟩))
    simp [unmappedL, mappedL, h1, h2]

theorem LocalsSane_of_NatSane {nat : List (Nat × Nat)} (h : NatSane nat) (evs : List SysEv) : LocalsSane nat evs :=
  fun x _ => NatSane_all h x

/-- `Reach` for the pair `p` of agent `x`: with `la` / `ra` the addresses of its local / remote
candidate, `(la, ra) ∉ blocked` (the check reaches the peer) and `(unmapped ra, mapped la) ∉ blocked`
(the peer's answer comes back); moreover `la` is an address agent `isB` added a local candidate at, `ra`
is a signalled address or a local address seen through the NAT, and `ra` is the NAT image of the real
address `unmapped ra`, at which some agent (the responder) added a local candidate. -/
def PairReach (nat blocked : List (Nat × Nat)) (evs : List SysEv) (isB : Bool) (x : Agent) (p : Pair) : Prop :=
  ∀ l r, x.localOf p.l = some l → x.remoteOf p.r = some r →
    Reach nat blocked l.addr r.addr ∧ l.addr ∈ localAddrsOf isB evs ∧ r.addr ∈ remoteAddrs nat evs
    ∧ mappedL nat (unmappedL nat r.addr) = r.addr ∧ unmappedL nat r.addr ∈ localAddrs evs

/-- no candidate address pair of the schedule is reachable in both directions. -/
def Unreachable (nat blocked : List (Nat × Nat)) (evs : List SysEv) : Prop :=
  ∀ la ∈ localAddrs evs, ∀ ra ∈ remoteAddrs nat evs, ¬ Reach nat blocked la ra

instance (nat blocked : List (Nat × Nat)) (evs : List SysEv) : Decidable (Unreachable nat blocked evs) := by
  unfold Unreachable; infer_instance

/-- **C01 safety.**  In every reachable state, for each FULL agent: every Succeeded pair — hence the
selected pair — lies on an address pair that is reachable in both directions; a selected pair is
listed and Succeeded; Connected / Disconnected imply a selected pair. -/
theorem C01_no_false_connect (s0 : Sys) (evs : List SysEv) (hi : Sys.Init s0) (hs : LocalsSane s0.nat evs) (isB : Bool)
    (hfull : ((Sys.runs s0 evs).agent isB).cfg.lite = false) :
    (∀ p ∈ ((Sys.runs s0 evs).agent isB).checklist, p.state = .succeeded →
        PairReach s0.nat s0.blocked evs isB ((Sys.runs s0 evs).agent isB) p)
    ∧ (∀ id, ((Sys.runs s0 evs).agent isB).selected = some id →
        ∃ p ∈ ((Sys.runs s0 evs).agent isB).checklist, p.id = id ∧ p.state = .succeeded)
    ∧ (((Sys.runs s0 evs).agent isB).connState = .connected ∨ ((Sys.runs s0 evs).agent isB).connState = .disconnected →
        ∃ id, ((Sys.runs s0 evs).agent isB).selected = some id) := by
  obtain ⟨LA, LB, h⟩ := reach_inv hi hs (pre := evs) (fun e he => he)
  have hfin := h.agent_final isB hfull
  refine ⟨?_, hfin.2.1, hfin.2.2.1⟩
  intro p hp hsucc l r hl hr
  obtain ⟨la, ra, hg, h1, h2⟩ := hfin.1 p hp hsucc
  rw [h1 l hl, h2 r hr]
  refine ⟨hg.1, ?_, hg.2.2.1, hg.2.2.2.1, (SLor_SLof hg.2.2.2.2).2⟩
  cases isB <;> exact hg.2.1.2

/-- the selected pair of a full agent is reachable in both directions. -/
theorem C01_selected_reach (s0 : Sys) (evs : List SysEv) (hi : Sys.Init s0) (hs : LocalsSane s0.nat evs) (isB : Bool)
    (hfull : ((Sys.runs s0 evs).agent isB).cfg.lite = false) (id : Nat)
    (hsel : ((Sys.runs s0 evs).agent isB).selected = some id) :
    ∃ p ∈ ((Sys.runs s0 evs).agent isB).checklist, p.id = id ∧ p.state = .succeeded
      ∧ PairReach s0.nat s0.blocked evs isB ((Sys.runs s0 evs).agent isB) p := by
  obtain ⟨h1, h2, _⟩ := C01_no_false_connect s0 evs hi hs isB hfull
  obtain ⟨p, hp, hid, hsucc⟩ := h2 id hsel
  exact ⟨p, hp, hid, hsucc, h1 p hp hsucc⟩

/-- the same under the global topology hypothesis `NatSane`. -/
theorem C01_no_false_connect_natSane (s0 : Sys) (evs : List SysEv) (hi : Sys.Init s0) (hn : NatSane s0.nat) (isB : Bool)
    (hfull : ((Sys.runs s0 evs).agent isB).cfg.lite = false) :
    (∀ p ∈ ((Sys.runs s0 evs).agent isB).checklist, p.state = .succeeded →
        PairReach s0.nat s0.blocked evs isB ((Sys.runs s0 evs).agent isB) p)
    ∧ (∀ id, ((Sys.runs s0 evs).agent isB).selected = some id →
        ∃ p ∈ ((Sys.runs s0 evs).agent isB).checklist, p.id = id ∧ p.state = .succeeded)
    ∧ (((Sys.runs s0 evs).agent isB).connState = .connected ∨ ((Sys.runs s0 evs).agent isB).connState = .disconnected →
        ∃ id, ((Sys.runs s0 evs).agent isB).selected = some id) :=
  C01_no_false_connect s0 evs hi (LocalsSane_of_NatSane hn evs) isB hfull

/-- a callback that reports a connection. -/
def isConnOut : Out → Bool
  | .cbState .connected => true
  | .cbPair _ _ => true
  | _ => false

/-- **C01, unreachable topologies.**  If no candidate address pair of the schedule `evs` is reachable
in both directions then, at every point `pre` of the schedule, a full agent has no Succeeded pair, no
selected pair, is neither Connected nor Disconnected, and the next step `ev` makes it emit neither
`cbState connected` nor `cbPair`. -/
theorem C01_unreachable_never_connects (s0 : Sys) (pre : List SysEv) (ev : SysEv) (post : List SysEv)
    (hi : Sys.Init s0) (hs : LocalsSane s0.nat (pre ++ ev :: post))
    (hu : Unreachable s0.nat s0.blocked (pre ++ ev :: post)) (isB : Bool)
    (hfull : (s0.agent isB).cfg.lite = false) :
    (∀ p ∈ ((Sys.runs s0 pre).agent isB).checklist, p.state ≠ .succeeded)
    ∧ ((Sys.runs s0 pre).agent isB).selected = none
    ∧ ((Sys.runs s0 pre).agent isB).connState ≠ .connected
    ∧ ((Sys.runs s0 pre).agent isB).connState ≠ .disconnected
    ∧ (∀ o ∈ (if isB then (Sys.runOut (Sys.runs s0 pre) ev).2.2 else (Sys.runOut (Sys.runs s0 pre) ev).2.1),
        isConnOut o = false) := by
  obtain ⟨LA, LB, h⟩ := reach_inv hi hs (pre := pre) (fun e he => List.mem_append_left _ he)
  have hnog : ∀ (b : Bool) la ra, ¬ GoodS s0.nat s0.blocked (SLof s0.nat (pre ++ ev :: post) b)
      (SLor (SLof s0.nat (pre ++ ev :: post) false) (SLof s0.nat (pre ++ ev :: post) true))
      (SRof s0.nat (pre ++ ev :: post)) la ra :=
    fun b la ra hg => hu la (localAddrsOf_sub hg.2.1.2) ra hg.2.2.1 hg.1
  have hev : evSane (SLof s0.nat (pre ++ ev :: post) false) (SLof s0.nat (pre ++ ev :: post) true)
      (SRof s0.nat (pre ++ ev :: post)) ev := evSane_of_mem hs (by simp)
  obtain ⟨_, hoa, hob⟩ := runOut_ok SLof_sane SLof_SRof h ev hev
  have hconn : ∀ (b : Bool) {lite : Bool} {o : Out}, lite = false →
      ConnOutOK (GoodS s0.nat s0.blocked (SLof s0.nat (pre ++ ev :: post) b)
        (SLor (SLof s0.nat (pre ++ ev :: post) false) (SLof s0.nat (pre ++ ev :: post) true))
        (SRof s0.nat (pre ++ ev :: post))) lite o →
      isConnOut o = false := by
    intro b lite o hl hc
    have hnog := hnog b
    cases o with
    | cbState s =>
      cases s <;> first | rfl | (obtain ⟨la, ra, hg⟩ := hc rfl hl; exact absurd hg (hnog la ra))
    | cbPair x y => obtain ⟨la, ra, hg⟩ := hc hl; exact absurd hg (hnog la ra)
    | dgram f t m => rfl
    | data f t n => rfl
    | cbCand x => rfl
    | res s => rfl
  have hlite : ((Sys.runs s0 pre).agent isB).cfg.lite = false := by
    rw [h.lite_eq isB]
    cases isB <;> exact hfull
  have hfin := h.agent_final isB hlite
  have h1 : ∀ p ∈ ((Sys.runs s0 pre).agent isB).checklist, p.state ≠ .succeeded := by
    intro p hp hsucc
    obtain ⟨la, ra, hg, _⟩ := hfin.1 p hp hsucc
    cases isB with
    | false => exact hnog false la ra hg
    | true => exact hnog true la ra hg
  have h2 : ((Sys.runs s0 pre).agent isB).selected = none := by
    cases hsel : ((Sys.runs s0 pre).agent isB).selected with
    | none => rfl
    | some id =>
      obtain ⟨p, hp, _, hsucc⟩ := hfin.2.1 id hsel
      exact absurd hsucc (h1 p hp)
  refine ⟨h1, h2, ?_, ?_, ?_⟩
  · intro hc
    obtain ⟨id, hid⟩ := hfin.2.2.1 (Or.inl hc)
    rw [h2] at hid; cases hid
  · intro hc
    obtain ⟨id, hid⟩ := hfin.2.2.1 (Or.inr hc)
    rw [h2] at hid; cases hid
  · cases isB with
    | false => exact fun o ho => hconn false (show s0.a.cfg.lite = false from hfull) (hoa o ho)
    | true => exact fun o ho => hconn true (show s0.b.cfg.lite = false from hfull) (hob o ho)

/-- each agent adds its local candidates at one address only (`a` for A, `b` for B; any number of
candidates, any types, any number of remote candidates). -/
def SingleAddr (evs : List SysEv) (a b : Nat) : Prop :=
  (∀ x ∈ localAddrsOf false evs, x = a) ∧ (∀ x ∈ localAddrsOf true evs, x = b)

instance (evs : List SysEv) (a b : Nat) : Decidable (SingleAddr evs a b) := by unfold SingleAddr; infer_instance

/-- no hairpinning: an agent cannot reach the public image of its own address. -/
def NoHairpin (nat blocked : List (Nat × Nat)) (evs : List SysEv) : Prop :=
  ∀ x ∈ localAddrs evs, (x, mappedL nat x) ∈ blocked

instance (nat blocked : List (Nat × Nat)) (evs : List SysEv) : Decidable (NoHairpin nat blocked evs) := by
  unfold NoHairpin; infer_instance

/-- the pair the model resolves `selected` to. -/
def selectedPair (x : Agent) : Option Pair := x.selected.bind x.pairById

/-- **C01 mirror, partial.**  FULL statement (not proved, see notes/C01.md): in every reachable state of
a session without restart and with opposite roles, the selected pairs of two full agents are mirror
images modulo NAT.  PROVED here under the extra hypotheses `SingleAddr` (one local address per agent)
and `NoHairpin`, but for ALL schedules (restarts, role conflicts, renomination included): if both
agents have a selected pair then `mapped (A.local.addr) = B.remote.addr` and
`mapped (B.local.addr) = A.remote.addr`. -/
theorem C01_mirror_partial (s0 : Sys) (evs : List SysEv) (hi : Sys.Init s0) (hs : LocalsSane s0.nat evs)
    (a b : Nat) (h1 : SingleAddr evs a b) (hh : NoHairpin s0.nat s0.blocked evs)
    (hfa : (Sys.runs s0 evs).a.cfg.lite = false) (hfb : (Sys.runs s0 evs).b.cfg.lite = false)
    (pa pb : Pair) (hpa : selectedPair (Sys.runs s0 evs).a = some pa) (hpb : selectedPair (Sys.runs s0 evs).b = some pb)
    (la ra lb rb : Cand)
    (hla : (Sys.runs s0 evs).a.localOf pa.l = some la) (hra : (Sys.runs s0 evs).a.remoteOf pa.r = some ra)
    (hlb : (Sys.runs s0 evs).b.localOf pb.l = some lb) (hrb : (Sys.runs s0 evs).b.remoteOf pb.r = some rb) :
    mappedL s0.nat la.addr = rb.addr ∧ mappedL s0.nat lb.addr = ra.addr := by
  have sel_succ : ∀ (isB : Bool) (p : Pair), ((Sys.runs s0 evs).agent isB).cfg.lite = false →
      selectedPair ((Sys.runs s0 evs).agent isB) = some p →
      PairReach s0.nat s0.blocked evs isB ((Sys.runs s0 evs).agent isB) p := by
    intro isB p hf hp
    obtain ⟨c1, c2, _⟩ := C01_no_false_connect s0 evs hi hs isB hf
    have hsel := selected_pair hp
    obtain ⟨hpm, hpid⟩ := IceProofs.Agent.pairById_listed (a := (Sys.runs s0 evs).agent isB) (id := p.id) (p := p) (by
      unfold selectedPair at hp
      rw [hsel] at hp
      exact hp)
    obtain ⟨q, hq, hqid, hqs⟩ := c2 p.id hsel
    obtain ⟨LA, LB, hinv⟩ := reach_inv hi hs (pre := evs) (fun e he => he)
    have huniq := (hinv.agent_final isB hf).2.2.2
    have : q = p := pair_eq_of_id huniq hq hpm hqid
    subst this
    exact c1 q hq hqs
  obtain ⟨hrA, hlA, _, hmA, hxA⟩ := sel_succ false pa hfa hpa la ra hla hra
  obtain ⟨hrB, hlB, _, hmB, hxB⟩ := sel_succ true pb hfb hpb lb rb hlb hrb
  have ela : la.addr = a := h1.1 _ hlA
  have elb : lb.addr = b := h1.2 _ hlB
  -- the responder of A's pair is B, the responder of B's pair is A
  have exA : unmappedL s0.nat ra.addr = b := by
    rcases localAddrs_split hxA with hx | hx
    · have e := h1.1 _ hx
      have := hrA.2
      rw [e, ela] at this
      exact absurd (hh a (by rw [← ela]; exact localAddrsOf_sub hlA)) this
    · exact h1.2 _ hx
  have exB : unmappedL s0.nat rb.addr = a := by
    rcases localAddrs_split hxB with hx | hx
    · exact h1.1 _ hx
    · have e := h1.2 _ hx
      have := hrB.2
      rw [e, elb] at this
      exact absurd (hh b (by rw [← elb]; exact localAddrsOf_sub hlB)) this
  refine ⟨?_, ?_⟩
  · rw [ela, ← exB, hmB]
  · rw [elb, ← exA, hmA]

namespace Example
def s0 : Sys := { a := { localUfrag := "ua", localPwd := "pa", tieBreaker := 5 },
                  b := { tag := 1, localUfrag := "ub", localPwd := "pb", tieBreaker := 3 }, hasB := true }
def hostA : Cand := { uid := 0, ty := 1, net := 0, addr := 16, prio := 100 }
def hostB : Cand := { uid := 0, ty := 1, net := 0, addr := 32, prio := 100 }
/-- signalling, start, checks, nomination: both agents end up Connected on the pair 16 ↔ 32. -/
def sched : List SysEv :=
  [.api false (.addLocal 0 hostA), .api true (.addLocal 0 hostB),
   .api false (.addRemote 0 hostB), .api true (.addRemote 0 hostA),
   .api false (.start 0 true "ub" "pb"), .api true (.start 0 false "ua" "pa"),
   .deliver 0, .deliver 0, .deliver 0, .deliver 0, .deliver 0, .deliver 0,
   .advance 200000000, .deliver 0, .deliver 0, .deliver 0, .deliver 0]
/-- the same agents and schedule, but nothing sent by B (32) reaches A (16) (and no address reaches itself). -/
def s0OneWay : Sys := { s0 with blocked := [(32, 16), (16, 16), (32, 32)] }
/-- a longer schedule (one more tick and the deliveries it causes). -/
def schedLong : List SysEv :=
  sched ++ [.advance 400000000, .deliver 0, .deliver 0, .deliver 0, .deliver 0, .deliver 0]
/-- no address reaches itself (no hairpinning). -/
def s0NoHairpin : Sys := { s0 with blocked := [(16, 16), (32, 32)] }
/-- a NAT in front of A's candidate: 16 is seen as 336. -/
def s0Nat : Sys := { s0 with nat := [(16, 336)] }
end Example

open Example in
/-- the hypotheses of `C01_no_false_connect` hold on a run that reaches a selected pair on both sides … -/
example : Sys.Init s0 ∧ LocalsSane s0.nat sched ∧ NatSane s0.nat
    ∧ (Sys.runs s0 sched).a.selected = some 1 ∧ (Sys.runs s0 sched).b.selected = some 1
    ∧ (Sys.runs s0 sched).a.connState = .connected ∧ (Sys.runs s0 sched).b.connState = .connected
    ∧ (Sys.runs s0 sched).a.cfg.lite = false ∧ Reach s0.nat s0.blocked 16 32 := by
  refine ⟨⟨rfl, rfl, rfl, rfl, rfl, rfl, rfl, rfl, rfl, rfl, rfl, rfl, rfl, rfl, rfl⟩, ?_⟩
  decide +kernel

open Example in
/-- … and with a one-way block nothing is ever selected (the hypotheses of
`C01_unreachable_never_connects` hold, and the model indeed selects nothing). -/
example : Sys.Init s0OneWay ∧ LocalsSane s0OneWay.nat sched ∧ Unreachable s0OneWay.nat s0OneWay.blocked sched
    ∧ (Sys.runs s0OneWay sched).a.selected = none ∧ (Sys.runs s0OneWay sched).b.selected = none
    ∧ (Sys.runs s0OneWay sched).a.connState = .checking := by
  refine ⟨⟨rfl, rfl, rfl, rfl, rfl, rfl, rfl, rfl, rfl, rfl, rfl, rfl, rfl, rfl, rfl⟩, ?_⟩
  decide +kernel

open Example in
/-- an ordinary NAT (16 seen as 336) satisfies the schedule hypothesis `LocalsSane` but NOT the global
`NatSane` (336 itself does not survive the round trip) — the reason the main theorem is stated with
`LocalsSane`; the run through the NAT connects on the peer-reflexive address. -/
example : LocalsSane s0Nat.nat schedLong ∧ ¬ NatSane s0Nat.nat
    ∧ (Sys.runs s0Nat schedLong).a.selected = some 1 ∧ (Sys.runs s0Nat schedLong).b.selected = some 2 := by
  decide +kernel

open Example in
/-- the hypotheses of `C01_mirror_partial` hold on a run in which both agents select a pair (and the
pairs are indeed mirror images: A 16 → 32, B 32 → 16). -/
example : Sys.Init s0NoHairpin ∧ LocalsSane s0NoHairpin.nat sched ∧ SingleAddr sched 16 32
    ∧ NoHairpin s0NoHairpin.nat s0NoHairpin.blocked sched
    ∧ ((selectedPair (Sys.runs s0NoHairpin sched).a).map (·.id)) = some 1
    ∧ ((selectedPair (Sys.runs s0NoHairpin sched).b).map (·.id)) = some 1 := by
  refine ⟨⟨rfl, rfl, rfl, rfl, rfl, rfl, rfl, rfl, rfl, rfl, rfl, rfl, rfl, rfl, rfl⟩, ?_⟩
  decide +kernel

/-- `NatSane` holds e.g. for the empty mapping and for a mapping that is a permutation. -/
example : NatSane [] ∧ NatSane [(16, 336), (336, 16)] := by decide

/-! ## Liveness (partial): progress of one agent, convergence along the canonical fair rounds

FULL statement `C01_converges` (NOT proved): for every reachable state in which both agents are started in opposite
roles with each other's credentials and candidates, some candidate pair is reachable in both directions and not out
of retry budget on the controlling side, and for EVERY infinite schedule whose suffix is loss-free, delivers each
datagram within the transaction timeout and ticks both agents infinitely often, both agents eventually notify
Connected (and the selected pairs are mirror images).

PROVED: (1) the progress steps of one agent, for all states and parameters (`C01_progress_*`); (2) convergence along
ONE family of fair schedules — the canonical rounds `roundsEvs` (advance the clock to the controlling agent's next
tick — the controlled agent runs every tick that is due —, then three times "deliver everything in flight", in FIFO
order; zero latency, no loss, no duplication) — from EVERY state reachable by ANY prefix (loss, duplication,
reordering, restarts, … included) that satisfies the decidable start condition `ReadyD`, for ALL topologies (any
number of candidates, NAT, one-way links), within an explicit number of rounds.  (3) the same with ARBITRARY extra deliveries and duplications (any datagram in
flight, any order, any number) inserted before every round (`C01_converges_noisy_rounds_partial`; the stability lemmas
`Ob.keep`, `Ch1.keep`, `DP.keep`, `LinkedJ.keep`, `SysOK.deliver` hold for every delivery / duplication).  (4) convergence on EVERY index-based schedule that is loss-free and fair with bounded latency (`SufOK`, `FairL`:
deliveries, duplications and clock advances in any order and number; every datagram in flight is delivered before the
clock has moved by more than `L`, `2 L < 4 s`), from every reachable state satisfying the decidable start condition
`ReadyF` (it contains `ReadyD`, and admits a controlling agent that is already selected), within an
explicit time (`C01_converges_fair_partial`); peer-reflexive discovery at the controlling agent inside the suffix is
covered (the forced tick it triggers is treated as a tick), and so are clock advances over several ticks of the
controlling agent (jump bound `J`, `J + 2 L < 4 s`).  (5) start classes outside (4): the controlling agent has no
usable pair at the start and converges through a pair created by a peer-reflexive discovery inside the suffix
(`C01_converges_fair_disc_partial`), after a tick of the controlled agent (`C01_converges_fair_tick_partial`,
`C01_converges_fair_tick2_partial`); the controlled agent retransmits a lost nomination-triggered check
(`C01_converges_fair_retx_partial`); (4), disc, tick and retx composed in `C01_converges_fair_wide_partial`.  MISSING for the
full statement: the quiet-network restrictions of `TickReqD` / `TickReq2D` / `RetxD`, the jump bound and the start states
excluded by `ReadyF` (see notes/C01-live.md). -/

open IceProofs.C01Live IceProofs.Agent in
/-- **progress: a tick pings.**  `pingAllCandidates` at `now` emits, for every listed pair that is Waiting / In-Progress,
within its request budget and whose ends resolve, a Binding request from the local to the remote address carrying
the agent's credentials and role, and records the transaction (pair ids unique, pending ids issued by the counter). -/
theorem C01_progress_tick_pings (a : Agent) (now : Nat) (hi : IceProofs.C03.IdsOK a) (hp : PendOK a) (p0 : Pair)
    (hp0 : p0 ∈ a.checklist) (hst : p0.state = .waiting ∨ p0.state = .inProgress)
    (hb : p0.reqCount ≤ a.cfg.maxBindingRequests) (l r : Cand) (hl : a.localOf p0.l = some l) (hr : a.remoteOf p0.r = some r) :
    ∃ m, Out.dgram l.addr r.addr m ∈ (a.pingAll now).2 ∧ IsReq a false m ∧
      (a.pingAll now).1.pending.find? (·.tid == m.tid) = some (pendOf m.tid l.addr r.addr r.net false now) :=
  pingAll_emits a now hi hp p0 hp0 hst hb l r hl hr

open IceProofs.C01Live IceProofs.Agent in
/-- **progress: a request is answered.**  An authenticated Binding request without role conflict, from a source that
is a known remote candidate or passes the remote-IP filter (peer-reflexive discovery), is answered with a success
response from the receiving local candidate's address to the source address. -/
theorem C01_progress_request_answered (a : Agent) (now : Nat) (l : Cand) (src : Nat) (m : Msg) (ha : AuthRequest a m)
    (hnc : NoConflict a m) (hsrc : SrcOK a l src) :
    Out.dgram l.addr src (respMsg a m) ∈ (a.handleInbound now l src m).2 :=
  request_answered a now l src m ha hnc hsrc

open IceProofs.C01Live IceProofs.Agent in
/-- **progress: a matching response validates, a nomination selects.**  A success response verifying under the remote
password, from a known remote candidate, matching a live transaction sent from this local candidate to that source,
makes the pair `findPair l r` Succeeded; a USE-CANDIDATE transaction of a controlling agent selects it when nothing is
selected; on a controlled agent a pair marked `nomOnSuccess` gets selected unless a pair is selected already. -/
theorem C01_progress_response_validates (a : Agent) (now : Nat) (l : Cand) (src : Nat) (m : Msg) (r : Cand) (pd : Pending)
    (p : Pair) (hcls : m.cls = 2) (hmeth : m.method = 1) (hkey : m.key = some a.remotePwd)
    (hr : a.findRemote l.net src = some r) (hpd : a.pending.find? (·.tid == m.tid) = some pd)
    (hyoung : now - pd.ts < maxBindingRequestTimeout) (hnet : pd.net = l.net) (hdest : pd.dest = src)
    (hsrc : pd.src = l.addr) (hp : a.findPair l r = some p) :
    (∃ p' ∈ (a.handleInbound now l src m).1.checklist, p'.id = p.id ∧ p'.state = .succeeded)
    ∧ (a.controlling = true → pd.useCand = true → pd.nom = none → (a.handleInbound now l src m).1.selected.isSome = true)
    ∧ (a.controlling = false → p.nomOnSuccess = true → p.deferredNom = none →
        (a.handleInbound now l src m).1.selected.isSome = true) :=
  response_validates a now l src m r pd p hcls hmeth hkey hr hpd hyoung hnet hdest hsrc hp

open IceProofs.C01Live in
/-- **progress: the controlling agent nominates.**  The single tick at `T = nextTick` of a `Good` controlling agent
(started, open, full, no timeout due before the horizon `H`) without a selected pair but with a Succeeded pair, once
the longest acceptance wait has passed since the selector started, sends a USE-CANDIDATE request on the ends of a
listed Succeeded pair and records the transaction. -/
theorem C01_progress_nominates {T0 H T : Nat} {a : Agent} (hg : Good T0 H a) (hT : T ≤ H) (htk : a.nextTick = some T)
    (hc : a.controlling = true) (hs : a.selected = none) (hsucc : ∃ p ∈ a.checklist, p.state = .succeeded)
    (htime : a.selStart + Config.maxWait a.cfg ≤ T) :
    ∃ p l r m, p ∈ a.checklist ∧ p.state = .succeeded ∧ a.localOf p.l = some l ∧ a.remoteOf p.r = some r ∧
      Out.dgram l.addr r.addr m ∈ (step a (.advance T)).2 ∧ IsReq a true m ∧
      (step a (.advance T)).1.pending.find? (·.tid == m.tid) = some (pendOf m.tid l.addr r.addr r.net true T) :=
  agent_tick_nominate hg hT htk hc hs hsucc htime

open IceProofs.C01Live IceProofs.Agent in
/-- **progress: the controlled agent follows a nomination.**  A `Good` controlled agent (bookkeeping invariant of C06)
that receives an authenticated USE-CANDIDATE request (no nomination value) from an unfiltered source has a selected
pair afterwards, or has marked the pair the request arrived on `nomOnSuccess` and has a check of its own on that
pair in flight and pending. -/
theorem C01_progress_controlled_follows {T0 H now : Nat} {a : Agent} (h0 : T0 ≤ now) (hn : now ≤ H) (hg : Good T0 H a)
    (hc6 : IceProofs.AgentC06.Inv a) {la src : Nat} {m : Msg} {l : Cand} (hl : a.localByAddr la = some l)
    (ha : AuthRequest a m) (hnc : NoConflict a m) (hflt : a.cfg.blockedIPs.contains (ipOf src) = false)
    (hctl : a.controlling = false) (huc : m.useCand = true) (hnom : m.nom = none) :
    (step a (.inbound now la src m)).1.selected.isSome = true ∨
    ∃ l' rc q mt, (step a (.inbound now la src m)).1.localByAddr la = some l' ∧
      (step a (.inbound now la src m)).1.findRemote 0 src = some rc ∧
      (step a (.inbound now la src m)).1.findPair l' rc = some q ∧ q.nomOnSuccess = true ∧
      Out.dgram la src mt ∈ (step a (.inbound now la src m)).2 ∧ IsReq a false mt ∧
      (step a (.inbound now la src m)).1.pending.find? (·.tid == mt.tid) = some (pendOf mt.tid la src 0 false now) :=
  step_request_nominates h0 hn hg hc6 hl ha hnc hflt hctl huc hnom

open IceProofs.C01Live in
/-- **C01 convergence along the canonical fair rounds (partial).**  Let `s` be the state reached from an initial state
by ANY prefix `pre` whose local candidate addresses survive the NAT round trip.  If `s` satisfies the decidable start
condition `ReadyD` for the controlling agent `c`, a time `T0 ≤ now` and a horizon `H` that reaches 2 s beyond the later
of the controlling agent's next tick and `nomTime` (= selector start + longest acceptance wait), and the controlling
agent has a Succeeded pair or a pair under its request budget on a `Link` (both directions open, NAT round trips the
identity, the two agents listening at the two ends), then for some `1 ≤ n ≤ roundBound = (nomTime − first tick) /
minInterval + 1`: after the `n + 1` canonical rounds `roundsEvs c (n + 1) s` (clock advances and in-order deliveries
only) BOTH agents have a selected pair and are in state Connected. -/
theorem C01_converges_round_partial (s0 : Sys) (pre : List SysEv) (hi : Sys.Init s0) (hf : FreshSel s0)
    (hs : LocalsSane s0.nat pre) (c : Bool) (T0 H : Nat) (hr : ReadyD pre c T0 H (Sys.runs s0 pre))
    (hstart : HasSucc (Sys.runs s0 pre) c ∨ BudgetPairD c (Sys.runs s0 pre))
    (hH : max (tickTime c 0 (Sys.runs s0 pre)) (nomTime c (Sys.runs s0 pre)) + 2000000000 ≤ H) :
    ∃ n, 1 ≤ n ∧ n ≤ roundBound c (Sys.runs s0 pre) ∧
      (∀ e ∈ roundsEvs c (n + 1) (Sys.runs s0 pre), isFairEv e = true) ∧
      ∀ x, ((Sys.runs s0 (pre ++ roundsEvs c (n + 1) (Sys.runs s0 pre))).agent x).selected.isSome = true ∧
           ((Sys.runs s0 (pre ++ roundsEvs c (n + 1) (Sys.runs s0 pre))).agent x).connState = .connected := by
  have hri := ready_rinv hi hf hs hr
  obtain ⟨n, h1, h2, h3⟩ := converge_bound hri (hstart.imp id BudgetPairD.budget) hH
  refine ⟨n, h1, h2, roundsEvs_fair c (n + 1) _, fun x => ?_⟩
  rw [Sys.runs_append, ← rounds_runs]
  exact h3 x

theorem localAddrsOf_rounds (isB : Bool) (pre : List SysEv) (suf : List SysEv)
    (h : ∀ e ∈ suf, IceProofs.C01Live.isFairEv e = true) : localAddrsOf isB (pre ++ suf) = localAddrsOf isB pre :=
  IceProofs.C01Live.localAddrsOf_noApi isB pre suf (IceProofs.C01Live.not_api_of_fair h)

theorem localAddrs_rounds (pre : List SysEv) (suf : List SysEv)
    (h : ∀ e ∈ suf, IceProofs.C01Live.isFairEv e = true) : localAddrs (pre ++ suf) = localAddrs pre :=
  IceProofs.C01Live.localAddrs_noApi pre suf (IceProofs.C01Live.not_api_of_fair h)

open IceProofs.C01Live in
/-- **… and the selected pairs are mirror images** when each agent has one local address (`C01_mirror_partial`). -/
theorem C01_converges_round_mirror_partial (s0 : Sys) (pre : List SysEv) (hi : Sys.Init s0) (hf : FreshSel s0)
    (hs : LocalsSane s0.nat pre) (c : Bool) (T0 H : Nat) (hr : ReadyD pre c T0 H (Sys.runs s0 pre))
    (hstart : HasSucc (Sys.runs s0 pre) c ∨ BudgetPairD c (Sys.runs s0 pre))
    (hH : max (tickTime c 0 (Sys.runs s0 pre)) (nomTime c (Sys.runs s0 pre)) + 2000000000 ≤ H)
    (a b : Nat) (h1 : SingleAddr pre a b) (hh : NoHairpin s0.nat s0.blocked pre) :
    ∃ n, 1 ≤ n ∧ n ≤ roundBound c (Sys.runs s0 pre) ∧
      ∀ pa pb la ra lb rb,
        selectedPair (Sys.runs s0 (pre ++ roundsEvs c (n + 1) (Sys.runs s0 pre))).a = some pa →
        selectedPair (Sys.runs s0 (pre ++ roundsEvs c (n + 1) (Sys.runs s0 pre))).b = some pb →
        (Sys.runs s0 (pre ++ roundsEvs c (n + 1) (Sys.runs s0 pre))).a.localOf pa.l = some la →
        (Sys.runs s0 (pre ++ roundsEvs c (n + 1) (Sys.runs s0 pre))).a.remoteOf pa.r = some ra →
        (Sys.runs s0 (pre ++ roundsEvs c (n + 1) (Sys.runs s0 pre))).b.localOf pb.l = some lb →
        (Sys.runs s0 (pre ++ roundsEvs c (n + 1) (Sys.runs s0 pre))).b.remoteOf pb.r = some rb →
        mappedL s0.nat la.addr = rb.addr ∧ mappedL s0.nat lb.addr = ra.addr := by
  obtain ⟨n, hn1, hn2, hfair, _⟩ := C01_converges_round_partial s0 pre hi hf hs c T0 H hr hstart hH
  refine ⟨n, hn1, hn2, ?_⟩
  intro pa pb la ra lb rb hpa hpb hla hra hlb hrb
  obtain ⟨hs', hfa, hfb⟩ := full_noApi hi hs (not_api_of_fair hfair) hr.full
  exact C01_mirror_partial s0 _ hi hs' a b
    (by unfold SingleAddr; rw [localAddrsOf_rounds false pre _ hfair, localAddrsOf_rounds true pre _ hfair]; exact h1)
    (by unfold NoHairpin; rw [localAddrs_rounds pre _ hfair]; exact hh)
    hfa hfb pa pb hpa hpb la ra lb rb hla hra hlb hrb

open IceProofs.C01Live in
/-- **C01 convergence with arbitrary extra deliveries and duplications between the rounds (partial).**  As
`C01_converges_round_partial`, for EVERY family `N` of noise blocks: before each canonical round any number of
deliveries and duplications of any datagram in flight, in any order (no loss, no clock advance, no API call).  The
round bound is computed from the first tick after the first noise block; the controlling agent must have a Succeeded
pair, or still a pair under budget on a `Link` after the first noise block. -/
theorem C01_converges_noisy_rounds_partial (s0 : Sys) (pre : List SysEv) (hi : Sys.Init s0) (hf : FreshSel s0)
    (hs : LocalsSane s0.nat pre) (c : Bool) (T0 H : Nat) (hr : ReadyD pre c T0 H (Sys.runs s0 pre))
    (N : Nat → List SysEv) (hN : ∀ k, ∀ e ∈ N k, isNoise e = true)
    (hstart : HasSucc (Sys.runs s0 pre) c ∨ BudgetPairD c (Sys.runs (Sys.runs s0 pre) (N 0)))
    (hH : max (ntick c N 0 (Sys.runs s0 pre)) (nomTime c (Sys.runs s0 pre)) + 2000000000 ≤ H) :
    ∃ n, 1 ≤ n ∧ n ≤ nroundBound c N (Sys.runs s0 pre) ∧
      ∀ x, ((Sys.runs s0 (pre ++ nroundsEvs c N (n + 1) (Sys.runs s0 pre))).agent x).selected.isSome = true ∧
           ((Sys.runs s0 (pre ++ nroundsEvs c N (n + 1) (Sys.runs s0 pre))).agent x).connState = .connected := by
  have hri := ready_rinv hi hf hs hr
  obtain ⟨n, h1, h2, h3⟩ := converge_bound_noisy hri N hN (hstart.imp id BudgetPairD.budget) hH
  refine ⟨n, h1, h2, fun x => ?_⟩
  rw [Sys.runs_append, ← nrounds_runs]
  exact h3 x

open IceProofs.C01Live in
/-- **C01 convergence on every fair, loss-free suffix (partial).**  Let `s` be the state reached from an initial state
by ANY prefix `pre` (local candidate addresses survive the NAT round trip) and let `s` satisfy the decidable start
condition `ReadyF` for the controlling agent `c`, times `T0 ≤ now ≤ H`, a latency bound `L` and a jump bound `J` with
`J + 2 L` below the transaction timeout (4 s); the controlling agent has a Succeeded pair, a selected pair, or a pair under its request
budget on a `Link`.  Let `suf` be ANY list of deliveries, duplications (of any datagram in flight, in any order) and
clock advances that are monotone, stay within the horizon `H` and go at most `J` beyond the next tick of the controlling
agent (`SufOK`: no loss, no API call; `J = 0`: its timer fires exactly when due, `J > 0`: an advance may run several of
its ticks, `J + 2 L` below the transaction timeout and the catch-up ticks within the fuel of the model's timer loop; the
controlled agent may run any number of ticks per advance; extra advances between ticks are allowed), and FAIR: whatever is in flight at some point of `suf` is delivered before the clock has
moved by more than `L` (`FairL`; decidable form `FairLD`).  If the clock at the end of `suf` is beyond
`fairBound = max (now + 2 s + J + 2 L) nomTime + 2 s + 2 J + 4 L`, BOTH agents have a selected pair and are Connected at the
end of `suf` (hence at the end of every longer such suffix). -/
theorem C01_converges_fair_partial (s0 : Sys) (pre : List SysEv) (hi : Sys.Init s0) (hf : FreshSel s0)
    (hs : LocalsSane s0.nat pre) (c : Bool) (T0 H L J : Nat) (hr : ReadyF pre c T0 H L (Sys.runs s0 pre))
    (hstart : HasSucc (Sys.runs s0 pre) c ∨ Sel (Sys.runs s0 pre) c ∨ BudgetPairD c (Sys.runs s0 pre))
    (hL : J + 2 * L < 4000000000) (hfuel : J < 99998 * Config.minInterval ((Sys.runs s0 pre).agent c).cfg)
    (suf : List SysEv) (hsuf : SufOK c H J (Sys.runs s0 pre) suf) (hfair : FairL L (Sys.runs s0 pre) suf)
    (hend : fairBound c L J (Sys.runs s0 pre) < (Sys.runs s0 (pre ++ suf)).now) :
    ∀ x, ((Sys.runs s0 (pre ++ suf)).agent x).selected.isSome = true ∧
         ((Sys.runs s0 (pre ++ suf)).agent x).connState = .connected := by
  have hL' : J + 2 * L < maxBindingRequestTimeout := by unfold maxBindingRequestTimeout; exact hL
  obtain ⟨hfi, hlink⟩ := ready_finv (J := J) hi hf hs hr hfuel (by omega)
  rw [Sys.runs_append] at hend ⊢
  exact converge_fair hfi hsuf hfair hL' hlink (hstart.imp id (Or.imp id BudgetPairD.budget)) hend

open IceProofs.C01Live in
/-- **… and the selected pairs are mirror images** when each agent has one local address (`C01_mirror_partial`; a
loss-free suffix contains no API call, so it adds no local address). -/
theorem C01_converges_fair_mirror_partial (s0 : Sys) (pre : List SysEv) (hi : Sys.Init s0)
    (hs : LocalsSane s0.nat pre) (c : Bool) (T0 H L : Nat) (hr : ReadyF pre c T0 H L (Sys.runs s0 pre))
    (J : Nat) (suf : List SysEv) (hsuf : SufOK c H J (Sys.runs s0 pre) suf)
    (a b : Nat) (h1 : SingleAddr pre a b) (hh : NoHairpin s0.nat s0.blocked pre) :
    ∀ pa pb la ra lb rb,
      selectedPair (Sys.runs s0 (pre ++ suf)).a = some pa → selectedPair (Sys.runs s0 (pre ++ suf)).b = some pb →
      (Sys.runs s0 (pre ++ suf)).a.localOf pa.l = some la → (Sys.runs s0 (pre ++ suf)).a.remoteOf pa.r = some ra →
      (Sys.runs s0 (pre ++ suf)).b.localOf pb.l = some lb → (Sys.runs s0 (pre ++ suf)).b.remoteOf pb.r = some rb →
      mappedL s0.nat la.addr = rb.addr ∧ mappedL s0.nat lb.addr = ra.addr := by
  intro pa pb la ra lb rb hpa hpb hla hra hlb hrb
  have hna : ∀ e ∈ suf, ∀ b ev, e ≠ SysEv.api b ev := fun e he => hsuf.not_api he
  obtain ⟨hs', hfa, hfb⟩ := full_noApi hi hs hna hr.full
  exact C01_mirror_partial s0 _ hi hs' a b
    (by unfold SingleAddr; rw [localAddrsOf_noApi false pre _ hna, localAddrsOf_noApi true pre _ hna]; exact h1)
    (by unfold NoHairpin; rw [localAddrs_noApi pre _ hna]; exact hh)
    hfa hfb pa pb hpa hpb la ra lb rb hla hra hlb hrb

namespace LiveExample
/-- 2 × 2 host candidates (A: 16, 17; B: 32, 33); nothing sent from 32 reaches 16 (a one-way link), and A cannot reach
its own addresses -/
def s0 : Sys := { a := { localUfrag := "ua", localPwd := "pa", tieBreaker := 5 },
                  b := { tag := 1, localUfrag := "ub", localPwd := "pb", tieBreaker := 3 }, hasB := true,
                  blocked := [(32, 16), (16, 16), (16, 17), (17, 16), (17, 17)] }
def cA1 : Cand := { uid := 0, ty := 1, net := 0, addr := 16, prio := 200 }
def cA2 : Cand := { uid := 0, ty := 1, net := 0, addr := 17, prio := 100 }
def cB1 : Cand := { uid := 0, ty := 1, net := 0, addr := 32, prio := 200 }
def cB2 : Cand := { uid := 0, ty := 1, net := 0, addr := 33, prio := 100 }
/-- signalling and start (A controlling), then a lossy prefix: of the first checks one is dropped, one duplicated, one
delivered, another dropped; nine datagrams are still in flight -/
def pre : List SysEv :=
  [.api false (.addLocal 0 cA1), .api false (.addLocal 0 cA2), .api true (.addLocal 0 cB1), .api true (.addLocal 0 cB2),
   .api false (.addRemote 0 cB1), .api false (.addRemote 0 cB2), .api true (.addRemote 0 cA1), .api true (.addRemote 0 cA2),
   .api false (.start 0 true "ub" "pb"), .api true (.start 0 false "ua" "pa"),
   .drop 0, .dup 0, .deliver 1, .drop 2]
end LiveExample

open LiveExample IceProofs.C01Live in
/-- every hypothesis of `C01_converges_round_partial` holds on this state (default timeouts: horizon 4 s, round bound
10) … -/
example : Sys.Init s0 ∧ FreshSel s0 ∧ LocalsSane s0.nat pre ∧ ReadyD pre false 0 4000000000 (Sys.runs s0 pre)
    ∧ BudgetPairD false (Sys.runs s0 pre)
    ∧ max (tickTime false 0 (Sys.runs s0 pre)) (nomTime false (Sys.runs s0 pre)) + 2000000000 ≤ 4000000000
    ∧ roundBound false (Sys.runs s0 pre) = 10 ∧ (Sys.runs s0 pre).inflight.length = 9 := by
  refine ⟨⟨rfl, rfl, rfl, rfl, rfl, rfl, rfl, rfl, rfl, rfl, rfl, rfl, rfl, rfl, rfl⟩, ?_⟩
  decide +kernel

set_option maxRecDepth 100000 in
open LiveExample IceProofs.C01Live in
/-- … and the model indeed converges (here already after two rounds, the host acceptance wait being 0): A selects its
pair 17 → 32 (the return path of 16 → 32 is blocked), B the mirror pair 32 → 17. -/
example : (rounds false 2 (Sys.runs s0 pre)).a.selected = some 2 ∧ (rounds false 2 (Sys.runs s0 pre)).b.selected = some 3
    ∧ (rounds false 2 (Sys.runs s0 pre)).a.connState = .connected ∧ (rounds false 2 (Sys.runs s0 pre)).b.connState = .connected
    ∧ (((rounds false 2 (Sys.runs s0 pre)).a.pairById 2).map fun p => (p.l, p.r)) = some (2, 3)
    ∧ (((rounds false 2 (Sys.runs s0 pre)).b.pairById 3).map fun p => (p.l, p.r)) = some (1, 4) := by
  decide +kernel

open LiveExample IceProofs.C01Live in
/-- the hypotheses of `C01_converges_noisy_rounds_partial` hold for the noise "duplicate the head, deliver the fourth,
duplicate the second" before every round. -/
example : (∀ k, ∀ e ∈ (fun _ : Nat => [SysEv.dup 0, .deliver 3, .dup 1]) k, isNoise e = true)
    ∧ BudgetPairD false (Sys.runs (Sys.runs s0 pre) [.dup 0, .deliver 3, .dup 1])
    ∧ max (ntick false (fun _ => [.dup 0, .deliver 3, .dup 1]) 0 (Sys.runs s0 pre)) (nomTime false (Sys.runs s0 pre)) + 2000000000
        ≤ 4000000000 := by
  refine ⟨fun _ e he => ?_, ?_⟩
  · simp only [List.mem_cons, List.not_mem_nil, or_false] at he
    rcases he with rfl | rfl | rfl <;> rfl
  · decide +kernel

namespace LiveExample
/-- a fair suffix that is NOT a sequence of canonical rounds: a duplication, deliveries in reverse order, clock
advances between the ticks, later plain rounds; the last advance stops short of the next tick -/
def suf : List SysEv :=
  [.dup 0, .deliver 10, .deliver 10, .deliver 9, .deliver 8, .deliver 8, .deliver 7, .deliver 6, .deliver 6, .deliver 5,
   .deliver 4, .deliver 4, .deliver 3, .deliver 3, .deliver 2, .deliver 2, .deliver 1, .deliver 2, .deliver 2, .deliver 1,
   .deliver 0, .deliver 1, .deliver 1, .deliver 0, .advance 100000000, .advance 200000000,
   .dup 0, .deliver 2, .deliver 1, .deliver 0, .deliver 0, .advance 300000000, .advance 400000000,
   .deliver 0, .deliver 0, .deliver 0, .deliver 0, .advance 2400000000,
   .deliver 0, .deliver 0, .deliver 0, .deliver 0, .advance 4400000000,
   .deliver 0, .deliver 0, .deliver 0, .deliver 0, .advance 4700000000]

/-- a prefix after which the CONTROLLING agent A is already selected and B is not: all of B's first checks are lost,
A validates three pairs, nominates 17 → 32 at its tick; B has answered the nomination and its own check on the marked
pair is in flight -/
def pre3 : List SysEv :=
  [.api false (.addLocal 0 cA1), .api false (.addLocal 0 cA2), .api true (.addLocal 0 cB1), .api true (.addLocal 0 cB2),
   .api false (.addRemote 0 cB1), .api false (.addRemote 0 cB2), .api true (.addRemote 0 cA1), .api true (.addRemote 0 cA2),
   .api false (.start 0 true "ub" "pb"), .api true (.start 0 false "ua" "pa"),
   .drop 4, .drop 4, .drop 4, .drop 4, .deliver 0, .deliver 0, .deliver 0, .deliver 0,
   .drop 1, .drop 2, .drop 3, .drop 4, .deliver 0, .deliver 0, .deliver 0, .deliver 0,
   .advance 200000000, .deliver 0, .deliver 4]

def suf3 : List SysEv :=
  [.dup 1, .deliver 5, .deliver 4, .deliver 4, .deliver 3, .deliver 3, .deliver 2, .deliver 2, .deliver 1, .deliver 1,
   .deliver 0, .advance 300000000, .advance 400000000, .deliver 0, .deliver 0, .deliver 0, .deliver 0, .advance 2400000000,
   .deliver 0, .deliver 0, .deliver 0, .deliver 0, .advance 4400000000, .deliver 0, .deliver 0, .deliver 0, .deliver 0,
   .advance 4900000000]
end LiveExample

set_option maxRecDepth 100000 in
open LiveExample IceProofs.C01Live in
/-- the hypotheses of `C01_converges_fair_partial` hold on the state of the first example for the non-canonical fair
suffix `suf` (latency bound 100 ms, horizon 5 s, `fairBound` = 4.6 s) … -/
example : ReadyF pre false 0 5000000000 100000000 (Sys.runs s0 pre) ∧ BudgetPairD false (Sys.runs s0 pre)
    ∧ SufOK false 5000000000 0 (Sys.runs s0 pre) suf ∧ FairLD 100000000 (Sys.runs s0 pre) suf
    ∧ fairBound false 100000000 0 (Sys.runs s0 pre) < (Sys.runs s0 (pre ++ suf)).now := by
  simp only [Sys.runs_append]
  decide +kernel

set_option maxRecDepth 100000 in
open LiveExample IceProofs.C01Live in
/-- … and on a state in which the controlling agent is already selected and the controlled one is not (excluded by
`ReadyD`): `ReadyF` holds through `DPYD`. -/
example : LocalsSane s0.nat pre3 ∧ ReadyF pre3 false 0 5000000000 100000000 (Sys.runs s0 pre3)
    ∧ (Sys.runs s0 pre3).a.selected = some 2 ∧ (Sys.runs s0 pre3).b.selected = none ∧ HasSucc (Sys.runs s0 pre3) false
    ∧ SufOK false 5000000000 0 (Sys.runs s0 pre3) suf3 ∧ FairLD 100000000 (Sys.runs s0 pre3) suf3
    ∧ fairBound false 100000000 0 (Sys.runs s0 pre3) < (Sys.runs s0 (pre3 ++ suf3)).now := by
  simp only [Sys.runs_append]
  decide +kernel

namespace LiveExample
/-- `e10_prflx`: A (controlling) is not told B's second address 33, and 16 ↔ 32 is blocked both ways -/
def s10 : Sys := { s0 with blocked := [(32, 16), (16, 32)] }
def pre10 : List SysEv :=
  [.api false (.addLocal 0 cA1), .api true (.addLocal 0 cB1), .api true (.addLocal 0 cB2),
   .api false (.addRemote 0 cB1), .api true (.addRemote 0 cA1),
   .api false (.start 0 true "ub" "pb"), .api true (.start 0 false "ua" "pa")]
/-- A (16) knows 32 only; B has 32 and 33; everything reachable except A's own address -/
def s11 : Sys := { s0 with blocked := [(16, 16)] }
def pre11 : List SysEv := pre10
def suf11 : List SysEv :=
  [.deliver 2, .deliver 4, .deliver 5, .deliver 5, .deliver 4, .deliver 3, .deliver 4, .deliver 4, .deliver 3, .deliver 2,
   .deliver 1, .deliver 2, .deliver 2, .deliver 1, .deliver 0, .deliver 0, .advance 200000000,
   .deliver 0, .deliver 0, .deliver 0, .deliver 0, .advance 2200000000, .deliver 0, .deliver 0, .deliver 0, .deliver 0,
   .advance 4200000000, .deliver 0, .deliver 0, .deliver 0, .deliver 0, .advance 4700000000]
/-- clock advances that go 200 ms beyond the next tick of the controlling agent (two of its ticks per advance) -/
def sufJ : List SysEv :=
  List.replicate 20 (.deliver 0) ++ [.advance 400000000] ++ List.replicate 6 (.deliver 0) ++ [.advance 800000000] ++
  List.replicate 4 (.deliver 0) ++ [.advance 2800000000] ++ List.replicate 4 (.deliver 0) ++ [.advance 4800000000] ++
  List.replicate 4 (.deliver 0) ++ [.advance 4950000000]
/-- `e12_bigadv`: clock advances of 1 s (five ticks of the controlling agent each), then everything in flight -/
def big : List SysEv :=
  (List.range 2).flatMap fun i => SysEv.advance ((i + 1) * 1000000000) :: List.replicate 100 (SysEv.deliver 0)
end LiveExample

set_option maxRecDepth 100000 in
open LiveExample IceProofs.C01Live in
/-- the only pair of the controlling agent at the start (16 → 32) is not on a `Link`; the pair it converges on (16 → 33)
is created by a peer-reflexive discovery inside the suffix (`hstart` of `C01_converges_fair_partial` fails): the MODEL
converges, after five canonical rounds (the acceptance wait of a prflx candidate is 1 s). -/
example : ¬ BudgetPairD false (Sys.runs s10 pre10) ∧ ¬ HasSucc (Sys.runs s10 pre10) false
    ∧ (rounds false 5 (Sys.runs s10 pre10)).a.selected = some 2 ∧ (rounds false 5 (Sys.runs s10 pre10)).b.selected = some 2
    ∧ (rounds false 5 (Sys.runs s10 pre10)).a.connState = .connected ∧ (rounds false 5 (Sys.runs s10 pre10)).b.connState = .connected
    ∧ (((rounds false 5 (Sys.runs s10 pre10)).a.remotes.map fun r => (r.addr, r.ty))) = [(32, 1), (33, 3)] := by
  decide +kernel

set_option maxRecDepth 100000 in
open LiveExample IceProofs.C01Live in
/-- peer-reflexive discovery at the controlling agent INSIDE the suffix is covered: A is not told B's second address 33
(`KnownSrc` fails), the first delivery of `suf11` makes it discover 33 and run a forced tick; all hypotheses of
`C01_converges_fair_partial` hold. -/
example : LocalsSane s11.nat pre11 ∧ ¬ KnownSrc false (Sys.runs s11 pre11)
    ∧ ReadyF pre11 false 0 5000000000 100000000 (Sys.runs s11 pre11) ∧ BudgetPairD false (Sys.runs s11 pre11)
    ∧ SufOK false 5000000000 0 (Sys.runs s11 pre11) suf11 ∧ FairLD 100000000 (Sys.runs s11 pre11) suf11
    ∧ fairBound false 100000000 0 (Sys.runs s11 pre11) < (Sys.runs s11 (pre11 ++ suf11)).now
    ∧ ((Sys.runs s11 pre11).a.remotes.length, (Sys.runs s11 (pre11 ++ suf11.take 1)).a.remotes.length) = (1, 2) := by
  simp only [Sys.runs_append]
  decide +kernel

set_option maxRecDepth 100000 in
open LiveExample IceProofs.C01Live in
/-- clock advances over several ticks of the controlling agent are covered up to the jump bound `J`: `sufJ` is not a
`J = 0` suffix, all hypotheses of `C01_converges_fair_partial` hold with `J` = 200 ms, `L` = 50 ms (`fairBound` = 4.9 s). -/
example : ¬ SufOK false 5000000000 0 (Sys.runs s0 pre) sufJ
    ∧ ReadyF pre false 0 5000000000 50000000 (Sys.runs s0 pre) ∧ BudgetPairD false (Sys.runs s0 pre)
    ∧ 200000000 + 2 * 50000000 < 4000000000
    ∧ 200000000 < 99998 * Config.minInterval ((Sys.runs s0 pre).agent false).cfg
    ∧ SufOK false 5000000000 200000000 (Sys.runs s0 pre) sufJ ∧ FairLD 50000000 (Sys.runs s0 pre) sufJ
    ∧ fairBound false 50000000 200000000 (Sys.runs s0 pre) < (Sys.runs s0 (pre ++ sufJ)).now := by
  simp only [Sys.runs_append]
  decide +kernel

set_option maxRecDepth 100000 in
open LiveExample IceProofs.C01Live in
/-- clock advances of 1 s (`J` ≥ 800 ms; then `fairBound` exceeds the horizon the default timeouts allow, 5 s — not covered):
the MODEL converges. -/
example : ¬ SufOK false 6000000000 0 (Sys.runs s0 pre) big
    ∧ (Sys.runs s0 (pre ++ big)).a.selected = some 2 ∧ (Sys.runs s0 (pre ++ big)).b.selected = some 3
    ∧ (Sys.runs s0 (pre ++ big)).a.connState = .connected ∧ (Sys.runs s0 (pre ++ big)).b.connState = .connected := by
  simp only [Sys.runs_append]
  decide +kernel

open IceProofs.C01Live in
/-- **liveness (partial): convergence on every fair loss-free suffix in which the controlling agent has its first valid
pair by time `B`** — NO hypothesis on the pairs of the start state (`hstart` of `C01_converges_fair_partial` is gone):
the pair may be created inside the suffix by a peer-reflexive discovery, the controlled agent's check being the first
datagram on that route.  `ValidBy c B s suf` (decidable, a property of the schedule): at some split point of `suf` with
clock `≤ B` the controlling agent has a Succeeded or selected pair.  Beyond
`validBound = max B nomTime + 2 s + 2 J + 4 L` BOTH agents have a selected pair and are Connected.

The full statement would DERIVE `ValidBy` from fairness and "some address pair is reachable both ways and both agents
have a candidate on it, the controlled agent's pair on it within its budget"; that derivation is proved only from
`Start` (`C01_first_valid_fair_partial`), see `C01_first_valid_needs_start_witness`. -/
theorem C01_converges_fair_valid_partial (s0 : Sys) (pre : List SysEv) (hi : Sys.Init s0) (hf : FreshSel s0)
    (hs : LocalsSane s0.nat pre) (c : Bool) (T0 H L J B : Nat) (hr : ReadyF pre c T0 H L (Sys.runs s0 pre))
    (hL : J + 2 * L < 4000000000) (hfuel : J < 99998 * Config.minInterval ((Sys.runs s0 pre).agent c).cfg)
    (suf : List SysEv) (hsuf : SufOK c H J (Sys.runs s0 pre) suf) (hfair : FairL L (Sys.runs s0 pre) suf)
    (hvalid : ValidBy c B (Sys.runs s0 pre) suf)
    (hend : validBound c L J B (Sys.runs s0 pre) < (Sys.runs s0 (pre ++ suf)).now) :
    ∀ x, ((Sys.runs s0 (pre ++ suf)).agent x).selected.isSome = true ∧
         ((Sys.runs s0 (pre ++ suf)).agent x).connState = .connected := by
  exact converge_ready hi hf hs hr hL hfuel hsuf hfair (fun _ _ _ => hvalid) hend

open IceProofs.C01Live in
/-- **liveness (partial): the first valid pair.**  From a `ReadyF` state in which the controlling agent has a valid or
selected pair or a pair under budget on a reachable address pair (`hstart`), every fair loss-free suffix whose clock
passes `now + 2 s + J + 2 L` gives the controlling agent a Succeeded or selected pair by that time.  (Composed with
`C01_converges_fair_valid_partial` this is `C01_converges_fair_partial`.)

Full statement (NOT proved): the same conclusion with `hstart` replaced by "the CONTROLLED agent has a pair under budget
on a reachable address pair" — its tick pings, the controlling agent discovers the source, pairs it and checks it. -/
theorem C01_first_valid_fair_partial (s0 : Sys) (pre : List SysEv) (hi : Sys.Init s0) (hf : FreshSel s0)
    (hs : LocalsSane s0.nat pre) (c : Bool) (T0 H L J : Nat) (hr : ReadyF pre c T0 H L (Sys.runs s0 pre))
    (hstart : HasSucc (Sys.runs s0 pre) c ∨ Sel (Sys.runs s0 pre) c ∨ BudgetPairD c (Sys.runs s0 pre))
    (hL : J + 2 * L < 4000000000) (hfuel : J < 99998 * Config.minInterval ((Sys.runs s0 pre).agent c).cfg)
    (suf : List SysEv) (hsuf : SufOK c H J (Sys.runs s0 pre) suf) (hfair : FairL L (Sys.runs s0 pre) suf)
    (hend : (Sys.runs s0 pre).now + 2000000000 + J + 2 * L < (Sys.runs s0 (pre ++ suf)).now) :
    ValidBy c ((Sys.runs s0 pre).now + 2000000000 + J + 2 * L) (Sys.runs s0 pre) suf := by
  have hL' : J + 2 * L < maxBindingRequestTimeout := by unfold maxBindingRequestTimeout; exact hL
  obtain ⟨hfi, _⟩ := ready_finv (L := L) (J := J) hi hf hs hr hfuel (by omega)
  rw [Sys.runs_append] at hend
  exact first_valid_by hfi hsuf hfair hL' (hstart.imp id (Or.imp id BudgetPairD.budget)) hend

namespace LiveExample
/-- `f5_disc`: A (16, controlling) is told 32 only and 16 ↔ 32 is blocked both ways (and A cannot reach itself); B has
32 and 33 -/
def s12 : Sys := { s0 with blocked := [(32, 16), (16, 32), (16, 16)] }
def blk (t : Nat) : List SysEv := SysEv.advance t :: List.replicate 12 (SysEv.deliver 0)
/-- everything in flight, then A's ticks every 200 ms with everything in flight after each, the keepalive tick at
3.2 s, a last advance to 4.5 s -/
def suf12 : List SysEv :=
  List.replicate 12 (.deliver 0) ++ blk 200000000 ++ blk 400000000 ++ blk 600000000 ++ blk 800000000 ++ blk 1000000000 ++
  blk 1200000000 ++ blk 3200000000 ++ [.advance 4500000000]
/-- nothing is reachable -/
def sBlk : Sys := { s0 with blocked := [(32, 16), (16, 32), (16, 16), (33, 16), (16, 33)] }
def sufBlk : List SysEv := List.replicate 12 (.deliver 0) ++ (List.range 12).flatMap fun i => blk ((i + 1) * 200000000)
end LiveExample

set_option maxRecDepth 100000 in
open LiveExample IceProofs.C01Live in
/-- non-vacuity of `C01_converges_fair_valid_partial` AT THE POINT `C01_converges_fair_partial` EXCLUDES: the controlling
agent's only pair at the start (16 → 32) is not on a `Link` (`hstart` fails); B's check 33 → 16, in flight at the start,
makes A discover 33, pair 16 → 33 and check it in the forced tick; the answer validates the pair at time 0 (`ValidBy … 0`);
all hypotheses hold (`L` = 100 ms, `validBound` = 4.4 s).  Real agents: `notes/C01-live-f5_disc.ops`, 0 mismatches. -/
example : LocalsSane s12.nat pre10 ∧ ReadyF pre10 false 0 5000000000 100000000 (Sys.runs s12 pre10)
    ∧ ¬ (HasSucc (Sys.runs s12 pre10) false ∨ Sel (Sys.runs s12 pre10) false ∨ BudgetPairD false (Sys.runs s12 pre10))
    ∧ SufOK false 5000000000 0 (Sys.runs s12 pre10) suf12 ∧ FairLD 100000000 (Sys.runs s12 pre10) suf12
    ∧ ValidBy false 0 (Sys.runs s12 pre10) suf12
    ∧ validBound false 100000000 0 0 (Sys.runs s12 pre10) < (Sys.runs s12 (pre10 ++ suf12)).now
    ∧ ((Sys.runs s12 pre10).a.remotes.map fun r => (r.addr, r.ty)) = [(32, 1)]
    ∧ ((Sys.runs s12 (pre10 ++ suf12)).a.remotes.map fun r => (r.addr, r.ty)) = [(32, 1), (33, 3)] := by
  simp only [Sys.runs_append]
  decide +kernel

set_option maxRecDepth 100000 in
open LiveExample IceProofs.C01Live in
/-- non-vacuity of `C01_first_valid_fair_partial`: the first example (`pre`, `suf`), deadline 2.2 s. -/
example : ReadyF pre false 0 5000000000 100000000 (Sys.runs s0 pre) ∧ BudgetPairD false (Sys.runs s0 pre)
    ∧ SufOK false 5000000000 0 (Sys.runs s0 pre) suf ∧ FairLD 100000000 (Sys.runs s0 pre) suf
    ∧ (Sys.runs s0 pre).now + 2000000000 + 0 + 2 * 100000000 < (Sys.runs s0 (pre ++ suf)).now
    ∧ ValidBy false 2200000000 (Sys.runs s0 pre) suf := by
  simp only [Sys.runs_append]
  decide +kernel

open LiveExample IceProofs.C01Live in
/-- `hstart` cannot simply be dropped from `C01_first_valid_fair_partial`: with NO address pair reachable every other
hypothesis holds on a fair loss-free suffix, and no valid pair ever appears (what must replace `hstart` in the full
statement is a reachable pair under budget at the CONTROLLED agent). -/
theorem C01_first_valid_needs_start_witness :
    ¬ (∀ (s0 : Sys) (pre : List SysEv) (c : Bool) (T0 H L J : Nat), Sys.Init s0 → FreshSel s0 → LocalsSane s0.nat pre →
        ReadyF pre c T0 H L (Sys.runs s0 pre) → J + 2 * L < 4000000000 →
        J < 99998 * Config.minInterval ((Sys.runs s0 pre).agent c).cfg →
        ∀ suf, SufOK c H J (Sys.runs s0 pre) suf → FairLD L (Sys.runs s0 pre) suf →
        (Sys.runs s0 pre).now + 2000000000 + J + 2 * L < (Sys.runs s0 (pre ++ suf)).now →
        ValidBy c ((Sys.runs s0 pre).now + 2000000000 + J + 2 * L) (Sys.runs s0 pre) suf) := by
  intro h
  -- the instance at `sBlk`, `pre10`, `sufBlk`, an implication between closed decidable facts: one evaluation of the run
  have := fun h1 h2 h3 h4 h5 => h sBlk pre10 false 0 5000000000 100000000 0
    ⟨rfl, rfl, rfl, rfl, rfl, rfl, rfl, rfl, rfl, rfl, rfl, rfl, rfl, rfl, rfl⟩ h1 h2 h3 h4 h5 sufBlk
  revert this
  simp only [Sys.runs_append]
  decide +kernel

open IceProofs.C01Live in
/-- **liveness (partial): convergence through a pair that comes into being by a peer-reflexive discovery INSIDE the
suffix.**  Start class = `ReadyF` WITHOUT `hstart` (the controlling agent need not have any usable pair) + `DiscReqD`
(decidable): an ordinary check of the CONTROLLED agent is in flight on an address pair reachable both ways (`Link`), and
the controlling agent does not know its source as a remote candidate.  On every fair loss-free suffix (latency `L`,
jumps `J`, `J + 2 L < 4 s`): the controlling agent discovers the source within `L` (the delivery of that check, or of any
other datagram from that source), pairs it with its local candidate and checks the new pair in the forced tick; the
pair is valid within `3 L`; beyond `validBound … (now + 3 L) = max (now + 3 L) nomTime + 2 s + 2 J + 4 L` BOTH agents have a
selected pair and are Connected.

Full statement (NOT proved): `DiscReqD` replaced by "the controlled agent has a pair under budget on a `Link`" (its next
tick sends the check) — needs the controlled agent's ticks as progress steps, see notes/C01-live.md. -/
theorem C01_converges_fair_disc_partial (s0 : Sys) (pre : List SysEv) (hi : Sys.Init s0) (hf : FreshSel s0)
    (hs : LocalsSane s0.nat pre) (c : Bool) (T0 H L J : Nat) (hr : ReadyF pre c T0 H L (Sys.runs s0 pre))
    (hdisc : DiscReqD c (Sys.runs s0 pre))
    (hL : J + 2 * L < 4000000000) (hfuel : J < 99998 * Config.minInterval ((Sys.runs s0 pre).agent c).cfg)
    (suf : List SysEv) (hsuf : SufOK c H J (Sys.runs s0 pre) suf) (hfair : FairL L (Sys.runs s0 pre) suf)
    (hend : validBound c L J ((Sys.runs s0 pre).now + 3 * L) (Sys.runs s0 pre) < (Sys.runs s0 (pre ++ suf)).now) :
    ∀ x, ((Sys.runs s0 (pre ++ suf)).agent x).selected.isSome = true ∧
         ((Sys.runs s0 (pre ++ suf)).agent x).connState = .connected := by
  exact converge_ready hi hf hs hr hL hfuel hsuf hfair (fun hfi hL' he => disc_valid_D hfi hsuf hfair hL' hdisc he) hend

set_option maxRecDepth 100000 in
open LiveExample IceProofs.C01Live in
/-- non-vacuity of `C01_converges_fair_disc_partial` on the `f5_disc` state: `hstart` fails, B's check 33 → 16 is in
flight and A does not know 33 (`DiscReqD`); with nothing reachable (`sBlk`) `DiscReqD` fails. -/
example : LocalsSane s12.nat pre10 ∧ ReadyF pre10 false 0 5000000000 100000000 (Sys.runs s12 pre10)
    ∧ ¬ (HasSucc (Sys.runs s12 pre10) false ∨ Sel (Sys.runs s12 pre10) false ∨ BudgetPairD false (Sys.runs s12 pre10))
    ∧ DiscReqD false (Sys.runs s12 pre10) ∧ ¬ DiscReqD false (Sys.runs sBlk pre10)
    ∧ SufOK false 5000000000 0 (Sys.runs s12 pre10) suf12 ∧ FairLD 100000000 (Sys.runs s12 pre10) suf12
    ∧ validBound false 100000000 0 ((Sys.runs s12 pre10).now + 3 * 100000000) (Sys.runs s12 pre10)
        < (Sys.runs s12 (pre10 ++ suf12)).now := by
  simp only [Sys.runs_append]
  decide +kernel

open IceProofs.C01Live in
/-- **liveness (partial): the controlled agent's TICK as the progress step.**  Start class = `ReadyF` WITHOUT `hstart` +
`TickReqD` (decidable): nothing in flight is deliverable (e.g. the controlled agent's first check was lost), the
controlled agent has no selected pair, its timer is due not later than the controlling agent's, and it has a pair
Waiting / In-Progress within its request budget on an address pair reachable both ways whose local address the
controlling agent does not know.  On every fair loss-free suffix: the controlled agent's tick sends the check (by
`ctlTick + J` at the latest), the controlling agent discovers the source, pairs and checks it
(`C01_converges_fair_disc_partial`), has a valid pair by `ctlTick + J + 3 L`, and beyond
`validBound … (ctlTick + J + 3 L)` BOTH agents have a selected pair and are Connected.

Full statement (NOT proved): without "nothing in flight is deliverable" and "timer not later than the controlling
agent's" — then deliveries to the controlled agent before its tick must be shown not to take its pair out of
Waiting / In-Progress or to select it without the controlling agent having a valid pair (notes/C01-live.md). -/
theorem C01_converges_fair_tick_partial (s0 : Sys) (pre : List SysEv) (hi : Sys.Init s0) (hf : FreshSel s0)
    (hs : LocalsSane s0.nat pre) (c : Bool) (T0 H L J : Nat) (hr : ReadyF pre c T0 H L (Sys.runs s0 pre))
    (htick : TickReqD c (Sys.runs s0 pre))
    (hL : J + 2 * L < 4000000000) (hfuel : J < 99998 * Config.minInterval ((Sys.runs s0 pre).agent c).cfg)
    (suf : List SysEv) (hsuf : SufOK c H J (Sys.runs s0 pre) suf) (hfair : FairL L (Sys.runs s0 pre) suf)
    (hend : validBound c L J (ctlTick c (Sys.runs s0 pre) + J + 3 * L) (Sys.runs s0 pre) < (Sys.runs s0 (pre ++ suf)).now) :
    ∀ x, ((Sys.runs s0 (pre ++ suf)).agent x).selected.isSome = true ∧
         ((Sys.runs s0 (pre ++ suf)).agent x).connState = .connected := by
  exact converge_ready hi hf hs hr hL hfuel hsuf hfair (fun hfi hL' he => tick_valid_D hfi hsuf hfair hL' htick he) hend

namespace LiveExample
/-- `f6_tick`: as `f5_disc`, but B's first check 33 → 16 has been LOST; only blocked datagrams are in flight -/
def pre13 : List SysEv := pre10 ++ [.drop 2]
def suf13 : List SysEv :=
  List.replicate 3 (.deliver 0) ++ blk 200000000 ++ blk 400000000 ++ blk 600000000 ++ blk 800000000 ++ blk 1000000000 ++
  blk 1200000000 ++ blk 3200000000 ++ [.advance 4600000000]
end LiveExample

set_option maxRecDepth 100000 in
open LiveExample IceProofs.C01Live in
/-- non-vacuity of `C01_converges_fair_tick_partial`: B's check is not in flight (`DiscReqD` fails), B's tick at 200 ms
re-sends it; `validBound` = 4.4 s.  (On `pre10` the check is still in flight, deliverable: `TickReqD` fails there.)
Real agents: `notes/C01-live-f6_tick.ops`. -/
example : LocalsSane s12.nat pre13 ∧ ReadyF pre13 false 0 5000000000 100000000 (Sys.runs s12 pre13)
    ∧ ¬ DiscReqD false (Sys.runs s12 pre13) ∧ TickReqD false (Sys.runs s12 pre13) ∧ ¬ TickReqD false (Sys.runs s12 pre10)
    ∧ ctlTick false (Sys.runs s12 pre13) = 200000000
    ∧ SufOK false 5000000000 0 (Sys.runs s12 pre13) suf13 ∧ FairLD 100000000 (Sys.runs s12 pre13) suf13
    ∧ validBound false 100000000 0 (ctlTick false (Sys.runs s12 pre13) + 0 + 3 * 100000000) (Sys.runs s12 pre13)
        < (Sys.runs s12 (pre13 ++ suf13)).now := by
  simp only [Sys.runs_append]
  decide +kernel

open IceProofs.C01Live in
/-- **liveness (partial): the controlled agent converges through its OWN retransmission** (a start class `ReadyF`
EXCLUDES: `NomSeenD ∧ ¬ DPYD`).  `ReadyF0` = `ReadyF` without the clause `¬ NomSeenD ∨ DPYD`; `RetxD` (decidable): the
controlling agent is selected, the controlled agent is not, NOTHING in flight is deliverable (its nomination-triggered
check was lost), its timer is due not later than the controlling agent's, and it has a pair Waiting / In-Progress
within its request budget on an address pair reachable both ways whose responses are looked up to a pair marked
`nomOnSuccess`.  On every fair loss-free suffix (`J + 2 L < 2 s`): the controlled agent's tick re-sends the check (by
`ctlTick + J`), the controlling agent answers, the response selects; beyond `validBound … (ctlTick + J)` BOTH agents have
a selected pair and are Connected.

Full statement (NOT proved): without "nothing in flight is deliverable" / "timer not later than the controlling agent's". -/
theorem C01_converges_fair_retx_partial (s0 : Sys) (pre : List SysEv) (hi : Sys.Init s0) (hf : FreshSel s0)
    (hs : LocalsSane s0.nat pre) (c : Bool) (T0 H L J : Nat) (hr : ReadyF0 pre c T0 H (Sys.runs s0 pre))
    (hretx : RetxD c (Sys.runs s0 pre))
    (hL : J + 2 * L < 2000000000) (hfuel : J < 99998 * Config.minInterval ((Sys.runs s0 pre).agent c).cfg)
    (suf : List SysEv) (hsuf : SufOK c H J (Sys.runs s0 pre) suf) (hfair : FairL L (Sys.runs s0 pre) suf)
    (hend : validBound c L J (ctlTick c (Sys.runs s0 pre) + J) (Sys.runs s0 pre) < (Sys.runs s0 (pre ++ suf)).now) :
    ∀ x, ((Sys.runs s0 (pre ++ suf)).agent x).selected.isSome = true ∧
         ((Sys.runs s0 (pre ++ suf)).agent x).connState = .connected := by
  have hL' : J + 2 * L < maxBindingRequestTimeout := by unfold maxBindingRequestTimeout; omega
  have hfi := ready_finv0 (J := J) hi hf hs hr hfuel (by omega)
  rw [Sys.runs_append] at hend ⊢
  exact retx_converge_D hfi hsuf hfair hL' hL hretx hend

namespace LiveExample
/-- `f7_retx`: `pre3` (A selected, B not, B's triggered check in flight), then EVERYTHING deliverable in flight is lost -/
def pre14 : List SysEv := pre3 ++ [.drop 1, .drop 1, .drop 1, .drop 1]
def suf14 : List SysEv :=
  [.deliver 0] ++ blk 400000000 ++ blk 2400000000 ++ blk 4400000000 ++ [.advance 4500000000]
end LiveExample

set_option maxRecDepth 100000 in
open LiveExample IceProofs.C01Live in
/-- non-vacuity of `C01_converges_fair_retx_partial`: `ReadyF` fails (A is selected, B's check is gone), `ReadyF0` and
`RetxD` hold (on `pre3` the check is still in flight: `RetxD` fails there); B's tick at 400 ms re-sends the check on its
marked pair 32 → 17; `validBound` = 4.4 s.  Real agents: `notes/C01-live-f7_retx.ops`. -/
example : LocalsSane s0.nat pre14 ∧ ReadyF0 pre14 false 0 5000000000 (Sys.runs s0 pre14)
    ∧ ¬ ReadyF pre14 false 0 5000000000 100000000 (Sys.runs s0 pre14)
    ∧ RetxD false (Sys.runs s0 pre14) ∧ ¬ RetxD false (Sys.runs s0 pre3)
    ∧ ctlTick false (Sys.runs s0 pre14) = 400000000
    ∧ SufOK false 5000000000 0 (Sys.runs s0 pre14) suf14 ∧ FairLD 100000000 (Sys.runs s0 pre14) suf14
    ∧ validBound false 100000000 0 (ctlTick false (Sys.runs s0 pre14) + 0) (Sys.runs s0 pre14)
        < (Sys.runs s0 (pre14 ++ suf14)).now := by
  simp only [Sys.runs_append]
  decide +kernel

open IceProofs.C01Live in
/-- **the wide start class** (decidable): `ReadyF` with one of — the controlling agent has a valid / selected / budgeted
pair on a reachable address pair (`hstart`); a check of the controlled agent is in flight on a reachable pair whose
source the controlling agent does not know (`DiscReqD`); that check is lost, quiet network (`TickReqD`) — or `ReadyF0`
with: controlling agent selected, the controlled agent's triggered check lost, quiet network (`RetxD`, `J + 2 L < 2 s`). -/
def ReadyW (pre : List SysEv) (c : Bool) (T0 H L J : Nat) (s : Sys) : Prop :=
  (ReadyF pre c T0 H L s ∧ ((HasSucc s c ∨ Sel s c ∨ BudgetPairD c s) ∨ DiscReqD c s ∨ TickReqD c s)) ∨
  (ReadyF0 pre c T0 H s ∧ RetxD c s ∧ J + 2 * L < 2000000000)

open IceProofs.C01Live in
instance (pre : List SysEv) (c : Bool) (T0 H L J : Nat) (s : Sys) : Decidable (ReadyW pre c T0 H L J s) := by
  unfold ReadyW; infer_instance

open IceProofs.C01Live in
/-- the time by which every `ReadyW` start has converged -/
def wideBound (c : Bool) (L J : Nat) (s : Sys) : Nat :=
  validBound c L J (max (s.now + 2000000000 + J + 2 * L) (ctlTick c s + J + 3 * L)) s

open IceProofs.C01Live in
/-- **liveness (partial): convergence on every fair loss-free suffix from the wide start class `ReadyW`**, one bound
`wideBound = max (now + 2 s + J + 2 L) (ctlTick + J + 3 L) nomTime + 2 s + 2 J + 4 L` (`C01_converges_fair_partial`, `…_disc_partial`, `…_tick_partial` and `…_retx_partial` composed).

Full statement `C01_converges` (NOT proved): any reachable state of two opposite-role agents holding each other's
credentials with one bidirectionally reachable candidate address pair within the retry budget, every fair schedule —
the quiet-network restrictions of `TickReqD` / `RetxD`, the jump bound and the exclusions of `ReadyF` remain
(notes/C01-live.md). -/
theorem C01_converges_fair_wide_partial (s0 : Sys) (pre : List SysEv) (hi : Sys.Init s0) (hf : FreshSel s0)
    (hs : LocalsSane s0.nat pre) (c : Bool) (T0 H L J : Nat) (hr : ReadyW pre c T0 H L J (Sys.runs s0 pre))
    (hL : J + 2 * L < 4000000000) (hfuel : J < 99998 * Config.minInterval ((Sys.runs s0 pre).agent c).cfg)
    (suf : List SysEv) (hsuf : SufOK c H J (Sys.runs s0 pre) suf) (hfair : FairL L (Sys.runs s0 pre) suf)
    (hend : wideBound c L J (Sys.runs s0 pre) < (Sys.runs s0 (pre ++ suf)).now) :
    ∀ x, ((Sys.runs s0 (pre ++ suf)).agent x).selected.isSome = true ∧
         ((Sys.runs s0 (pre ++ suf)).agent x).connState = .connected := by
  -- each of the four bounds is `validBound` at a deadline below the one of `wideBound`
  have hle : ∀ B, B ≤ max ((Sys.runs s0 pre).now + 2000000000 + J + 2 * L) (ctlTick c (Sys.runs s0 pre) + J + 3 * L) →
      validBound c L J B (Sys.runs s0 pre) < (Sys.runs s0 (pre ++ suf)).now :=
    fun B hB => Nat.lt_of_le_of_lt (validBound_mono hB) hend
  rcases hr with ⟨hrf, hst | hd | ht⟩ | ⟨hr0, hx, hJ⟩
  · exact C01_converges_fair_partial s0 pre hi hf hs c T0 H L J hrf hst hL hfuel suf hsuf hfair
      (hle _ (Nat.le_max_left _ _))
  · exact C01_converges_fair_disc_partial s0 pre hi hf hs c T0 H L J hrf hd hL hfuel suf hsuf hfair
      (hle _ (Nat.le_trans (by omega) (Nat.le_max_left _ _)))
  · exact C01_converges_fair_tick_partial s0 pre hi hf hs c T0 H L J hrf ht hL hfuel suf hsuf hfair
      (hle _ (Nat.le_max_right _ _))
  · exact C01_converges_fair_retx_partial s0 pre hi hf hs c T0 H L J hr0 hx hJ hfuel suf hsuf hfair
      (hle _ (Nat.le_trans (by omega) (Nat.le_max_right _ _)))

namespace LiveExample
def suf12w : List SysEv := suf12.dropLast ++ [.advance 4700000000]
end LiveExample

set_option maxRecDepth 100000 in
open LiveExample IceProofs.C01Live in
/-- non-vacuity of `C01_converges_fair_wide_partial`: the four example states (budgeted pair at A; B's check in flight,
source unknown to A; that check lost; A selected and B's triggered check lost) are all `ReadyW`, the unreachable one
is not; on the discovery state the fair suffix `suf12w` passes `wideBound` (4.6 s). -/
example : ReadyW pre false 0 5000000000 100000000 0 (Sys.runs s0 pre)
    ∧ ReadyW pre10 false 0 5000000000 100000000 0 (Sys.runs s12 pre10)
    ∧ ReadyW pre13 false 0 5000000000 100000000 0 (Sys.runs s12 pre13)
    ∧ ReadyW pre14 false 0 5000000000 100000000 0 (Sys.runs s0 pre14)
    ∧ ¬ ReadyW pre10 false 0 5000000000 100000000 0 (Sys.runs sBlk pre10)
    ∧ SufOK false 5000000000 0 (Sys.runs s12 pre10) suf12w ∧ FairLD 100000000 (Sys.runs s12 pre10) suf12w
    ∧ wideBound false 100000000 0 (Sys.runs s12 pre10) < (Sys.runs s12 (pre10 ++ suf12w)).now := by
  simp only [Sys.runs_append]
  decide +kernel

open IceProofs.C01Live in
/-- **liveness (partial): the controlled agent's tick as the progress step, the controlling agent ticking in between.**
As `C01_converges_fair_tick_partial`, but `TickReq2D` (decidable) replaces "the controlled agent's timer is due not
later than the controlling agent's" by "every (local address, known remote address) route of the controlling agent is
undeliverable" (blocked, or nobody listens): the controlling agent's ticks before the controlled agent's tick then
only send undeliverable checks (`advance_routes`: a clock advance sends only on such routes).  The controlled agent's tick
sends the check by `cldTick + 2 s + J`; valid pair by `cldTick + 2 s + J + 3 L`.

Full statement (NOT proved): without "nothing in flight is deliverable" / "routes undeliverable" (notes/C01-live.md). -/
theorem C01_converges_fair_tick2_partial (s0 : Sys) (pre : List SysEv) (hi : Sys.Init s0) (hf : FreshSel s0)
    (hs : LocalsSane s0.nat pre) (c : Bool) (T0 H L J : Nat) (hr : ReadyF pre c T0 H L (Sys.runs s0 pre))
    (htick : TickReq2D c (Sys.runs s0 pre))
    (hL : J + 2 * L < 4000000000) (hfuel : J < 99998 * Config.minInterval ((Sys.runs s0 pre).agent c).cfg)
    (suf : List SysEv) (hsuf : SufOK c H J (Sys.runs s0 pre) suf) (hfair : FairL L (Sys.runs s0 pre) suf)
    (hend : validBound c L J (cldTick c (Sys.runs s0 pre) + 2000000000 + J + 3 * L) (Sys.runs s0 pre)
      < (Sys.runs s0 (pre ++ suf)).now) :
    ∀ x, ((Sys.runs s0 (pre ++ suf)).agent x).selected.isSome = true ∧
         ((Sys.runs s0 (pre ++ suf)).agent x).connState = .connected := by
  exact converge_ready hi hf hs hr hL hfuel hsuf hfair (fun hfi hL' he => tick_valid2_D hfi hsuf hfair hL' htick he) hend

namespace LiveExample
/-- `f8_tick2`: A starts at 0, B at 100 ms; B's first check 33 → 16 is lost; A's timer (200 ms) is due BEFORE B's (300 ms) -/
def pre15 : List SysEv :=
  [.api false (.addLocal 0 cA1), .api true (.addLocal 0 cB1), .api true (.addLocal 0 cB2),
   .api false (.addRemote 0 cB1), .api true (.addRemote 0 cA1),
   .api false (.start 0 true "ub" "pb"), .advance 100000000, .api true (.start 100000000 false "ua" "pa"), .drop 2]
def suf15 : List SysEv :=
  List.replicate 3 (.deliver 0) ++ blk 200000000 ++ blk 300000000 ++ blk 500000000 ++ blk 700000000 ++ blk 900000000 ++
  blk 1100000000 ++ blk 1300000000 ++ blk 3300000000 ++ [.advance 4700000000]
end LiveExample

set_option maxRecDepth 100000 in
open LiveExample IceProofs.C01Live in
/-- non-vacuity of `C01_converges_fair_tick2_partial` where `TickReqD` fails (A's tick at 200 ms comes first, it pings
the blocked pair 16 → 32); B's tick at 300 ms re-sends its check; `L` = 50 ms, `validBound` = 4.65 s.
Real agents: `notes/C01-live-f8_tick2.ops`. -/
example : LocalsSane s12.nat pre15 ∧ ReadyF pre15 false 0 5000000000 50000000 (Sys.runs s12 pre15)
    ∧ TickReq2D false (Sys.runs s12 pre15) ∧ ¬ TickReqD false (Sys.runs s12 pre15) ∧ ¬ DiscReqD false (Sys.runs s12 pre15)
    ∧ cldTick false (Sys.runs s12 pre15) = 300000000 ∧ ctlTick false (Sys.runs s12 pre15) = 200000000
    ∧ SufOK false 5000000000 0 (Sys.runs s12 pre15) suf15 ∧ FairLD 50000000 (Sys.runs s12 pre15) suf15
    ∧ validBound false 50000000 0 (cldTick false (Sys.runs s12 pre15) + 2000000000 + 0 + 3 * 50000000) (Sys.runs s12 pre15)
        < (Sys.runs s12 (pre15 ++ suf15)).now := by
  simp only [Sys.runs_append]
  decide +kernel

end IceProps.C01

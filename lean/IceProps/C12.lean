import IceTie.MuxUdp
import IceProofs.UdpMuxSim
import IceProofs.UniMuxSim
import IceProofs.UniMuxConc
import IceProofs.UdpMuxViewModel
/-!
# C12 — UDP mux delivers each datagram to the right agent and to no other

Property theorems only.  They are about the sequential model `IceModel.UdpMux` (tied to
`udp_mux.go` / `udp_muxed_conn.go` / `shared_packet_conn.go` / `addr.go` by the correspondence check
`udpmux`) and quantify over ALL operation sequences `ops : List Op` from the initial state — any
number of ufrags, connections, handles, addresses, any interleaving of `GetConn`, writes, inbound
datagrams of every kind, `RemoveConnByUfrag`, handle closes, runs of the asynchronous close watchers
(explicit operation `watcherRun`, so every position of the watcher relative to the other operations
is covered), mux close and reads.

`hist ops` is the HISTORY state the spec monitor `IceSpec.C12` derives from the trace alone (who wrote
last to a transport address, which connection `GetConn` handed out for a ufrag and family, which
connections were removed / closed / reaped, which datagrams were delivered and not yet read); the
theorems say that the model's behaviour is the one the history demands.
-/
namespace IceProps.C12
open IceModel.UdpMux IceProofs.UdpMux
open IceSpec.C12 (SState stateAfter monitor verdicts expected byUfrag endpoint srcIsV6 ufragOf to16 pow32)

/-- model state after `ops` -/
def after (ops : List Op) : Mux := (run init ops).1
/-- trace `(operation, output)` of `ops` -/
def trace (ops : List Op) : List (Op × Out) := (run init ops).2
/-- the spec monitor's history state after the trace of `ops` -/
def hist (ops : List Op) : SState := stateAfter SState.init (trace ops)

/-- The state invariant `Inv` (family maps consistent and duplicate-free; address-map entries point to
existing connections whose address list contains the address; the address list of a registered
connection maps back to it; `refs` = number of open handles; closed connections hold no packets; a
reaped connection is closed, unregistered and owns no binding; an open connection is registered; a
closed mux has empty family maps) holds after every operation sequence. -/
theorem C12_invariant (ops : List Op) : Inv (after ops) :=
  (sim_run ops init SState.init inv_init sim_init).1

/-- After every operation sequence the model state and the monitor's history state are related by the
simulation relation `Sim` (handles, keys, closed / removed / reaped flags, registrations ↔ family maps,
last writers ↔ address map, delivered and unread datagrams ↔ FIFOs). -/
theorem C12_refines_history (ops : List Op) : Sim (after ops) (hist ops) :=
  (sim_run ops init SState.init inv_init sim_init).2.1

example : Sim init SState.init := sim_init

example : Inv init := inv_init

/-- Every trace of the model is accepted by the spec monitor of C12 (all clauses at once). -/
theorem C12_model_passes_monitor (ops : List Op) : monitor (trace ops) = none := by
  have h := (sim_run ops init SState.init inv_init sim_init).2.2
  unfold monitor
  rw [List.findSome?_eq_none_iff]
  intro v hv
  exact h v hv

/-- **dispatch.** An inbound datagram is handed to exactly the connection the RULE `expected` names —
the last writer to the canonical source if it is neither removed nor closed; for an unseen source (no
writer, or the writer removed, or closed and reaped) the connection registered for the source's family
under the text before the first `:` of the USERNAME of a decodable STUN message, if open; otherwise it
is dropped — and the packet queue of no other connection changes. -/
theorem C12_dispatch (ops : List Op) (src : Addr) (k : Kind) (pid : Nat) :
    (step (after ops) (.inbound src k pid)).2 =
      (match expected (hist ops) src k with
       | some c => .delivered c
       | none => .dropped)
    ∧ ∀ c', (step (after ops) (.inbound src k pid)).2 ≠ .delivered c' →
        ((step (after ops) (.inbound src k pid)).1.conn c').fifo = ((after ops).conn c').fifo := by
  have hi := C12_invariant ops
  have hs := C12_refines_history ops
  exact ⟨inbound_out_expected _ _ hi hs src k pid, fun c' hne => (step_to _ _).fifo_other c' hne⟩

/-- **faithful.** What a read returns is the OLDEST datagram delivered to that connection and not yet
read, with the identical payload and the true (raw, uncanonicalised) source address; and a read that
would block means nothing delivered is outstanding. -/
theorem C12_faithful (ops : List Op) (h : Nat) :
    (∀ pid src, (step (after ops) (.read h)).2 = .pkt pid src →
      ∃ c rest, (hist ops).hconn h = some c ∧ (hist ops).queue c = (pid, src) :: rest)
    ∧ ((step (after ops) (.read h)).2 = .empty →
      ∃ c, (hist ops).hconn h = some c ∧ (hist ops).queue c = []) := by
  have hi := C12_invariant ops
  have hs := C12_refines_history ops
  constructor
  · intro pid src ho
    obtain ⟨k1, rest, hr⟩ := (ho ▸ step_to (after ops) (.read h)).of_pkt
    have k2 := open_of_fifo _ hi _ _ rest hr
    refine ⟨(after ops).hconn h, rest.map (fun p => (p.pid, p.src)), ?_, ?_⟩
    · rw [hs.hconn h]; simp [k1]
    · rw [hs.queue _ (hi.hnd h k1) k2, hr]; rfl
  · intro ho
    obtain ⟨k1, k2, k3⟩ := (ho ▸ step_to (after ops) (.read h)).of_empty
    refine ⟨(after ops).hconn h, ?_, ?_⟩
    · rw [hs.hconn h]; simp [k1]
    · rw [hs.queue _ (hi.hnd h k1) k2, k3]; rfl

/-- **no cross-ufrag.** A connection that receives a datagram without being the last writer to its
source was handed out by `GetConn` for exactly the ufrag before the first `:` of the datagram's
USERNAME and for the IP family of the source; payloads without a decodable USERNAME never reach a
connection that did not write to the source. -/
theorem C12_no_cross_ufrag (ops : List Op) (src : Addr) (k : Kind) (pid c : Nat)
    (hd : (step (after ops) (.inbound src k pid)).2 = .delivered c)
    (hw : (hist ops).lastW (endpoint src) ≠ some c) :
    ∃ n, k = .stunUser n ∧ (hist ops).ckey c = (ufragOf n, srcIsV6 src) := by
  have hs := C12_refines_history ops
  -- the model found `c` by ufrag: an address-map entry would make it the last writer
  obtain ⟨_, hm, _⟩ := (hd ▸ step_to (after ops) (.inbound src k pid)).of_delivered
  unfold lookupDest at hm
  cases ha : (after ops).addrMap (canonAddr src) with
  | some c' =>
    rw [ha] at hm; injection hm with hm; subst hm
    exact absurd (hs.lwF src c' ha) hw
  | none =>
    rw [ha] at hm
    cases k with
    | stunUser n =>
      refine ⟨n, rfl, ?_⟩
      rw [ufragOf_eq, srcIsV6_eq]
      exact hs.regK _ _ c (hs.regF _ _ c hm)
    | stunNoUser => cases hm
    | stunBad => cases hm
    | nonStun => cases hm

/-- **after removal.** (a) A datagram is never handed to a removed or closed connection.
(b) A removed connection, and a closed connection once its watcher has run, owns no address binding
and is in no family map — immediately after `RemoveConnByUfrag` / the watcher, and for ever after
(whatever is written through stale handles). -/
theorem C12_after_removal (ops : List Op) :
    (∀ src k pid c, (step (after ops) (.inbound src k pid)).2 = .delivered c →
        (hist ops).removed c = false ∧ (hist ops).closed c = false)
    ∧ (∀ c, c < (after ops).nconns → ((hist ops).removed c = true ∨ (hist ops).reaped c = true) →
        (∀ a, (after ops).addrMap a ≠ some c) ∧ ¬ registered (after ops) c) := by
  have hi := C12_invariant ops
  have hs := C12_refines_history ops
  constructor
  · intro src k pid c hd
    obtain ⟨_, hm, hop⟩ := (hd ▸ step_to (after ops) (.inbound src k pid)).of_delivered
    exact removed_closed_false_of_open _ _ hs c (lookupDest_lt _ hi src k c hm) hop
  · intro c hc h
    rcases h with h | h
    · refine ⟨hs.remB c hc h, ?_⟩
      intro hr
      rw [registered_famMap _ hi] at hr
      have := (hs.regB _ _ c (hs.regF _ _ c hr)).2.1
      rw [h] at this; cases this
    · rw [hs.reaped c hc] at h
      exact ⟨(hi.watched c hc h).2.2, (hi.watched c hc h).2.1⟩

/-- **canonical.** Raw addresses that denote the same transport address — the 4-byte and the
`::ffff:a.b.c.d` form, any zone on an address that is not link-local IPv6 — are dispatched identically
(in every state, reachable or not) and register the same binding when written to. -/
theorem C12_canonical (m : Mux) (a b : Addr) (hab : endpoint a = endpoint b) (k : Kind) (pid h : Nat) :
    (step m (.inbound a k pid)).2 = (step m (.inbound b k pid)).2
    ∧ step m (.writeTo h a) = step m (.writeTo h b) := by
  have hc : canonAddr a = canonAddr b := (canon_eq_iff a b).mpr hab
  constructor
  · simp only [IceModel.UdpMux.step, inbound, hc]
    split
    · rfl
    · split
      · rfl
      · split <;> rfl
  · simp only [IceModel.UdpMux.step, writeTo, hc]

/-- the aliasing forms named by the property: 4-byte vs IPv4-mapped, and zones off link-local -/
theorem C12_canonical_forms (x port hi lo : Nat) (z z' : Name) (hx : x < 4294967296) :
    endpoint { ip := { is4 := true, hi := 0, lo := x, zone := [] }, port := port }
      = endpoint { ip := { is4 := false, hi := 0, lo := 65535 * 4294967296 + x, zone := z }, port := port }
    ∧ (llBits hi = false →
        endpoint { ip := { is4 := false, hi := hi, lo := lo, zone := z }, port := port }
          = endpoint { ip := { is4 := false, hi := hi, lo := lo, zone := z' }, port := port }) := by
  constructor
  · simp only [endpoint, to16, linkLocal_eq, llBits_zero, pow32, Bool.false_eq_true, if_false, if_true]
    rw [Nat.mod_eq_of_lt hx]
  · intro h
    simp only [endpoint, to16, linkLocal_eq, h, Bool.false_eq_true, if_false]

private def uA : Name := [97]            -- "a"
private def uB : Name := [98]            -- "b"
private def userA : Name := [97, 58, 120] -- "a:x"
private def x4 : Addr := { ip := { is4 := true, hi := 0, lo := 168361985, zone := [] }, port := 5000 }
private def x4mapped : Addr := { ip := { is4 := false, hi := 0, lo := 281470850105345, zone := [101] }, port := 5000 }
private def y6 : Addr := { ip := { is4 := false, hi := 2306139568115548160, lo := 5, zone := [] }, port := 6000 }

/-- last writer wins over the ufrag, through the IPv4-mapped alias of the address -/
example : trace [.getConn uA false, .getConn uB false, .writeTo 1 x4, .inbound x4mapped (.stunUser userA) 7, .read 1]
    = [(.getConn uA false, .conn 0 0), (.getConn uB false, .conn 1 1), (.writeTo 1 x4, .wrote),
       (.inbound x4mapped (.stunUser userA) 7, .delivered 1), (.read 1, .pkt 7 x4mapped)] := by decide +kernel

/-- unseen source: by ufrag and family; wrong family, no username, non-STUN are dropped -/
example : (trace [.getConn uA false, .inbound x4 (.stunUser userA) 1, .inbound y6 (.stunUser userA) 2,
      .inbound x4 .stunNoUser 3, .inbound x4 .nonStun 4, .inbound x4 .stunBad 5]).map Prod.snd
    = [.conn 0 0, .delivered 0, .dropped, .dropped, .dropped, .dropped] := by decide +kernel

/-- the F9 history: remove, write through the stale handle, re-register, close the stale handle — the
new connection stays registered and receives; the stale handle cannot write -/
example : (trace [.getConn uA false, .removeByUfrag uA, .writeTo 0 x4, .getConn uA false, .closeHandle 0,
      .watcherRun 0, .inbound x4 (.stunUser userA) 9]).map Prod.snd
    = [.conn 0 0, .done, .errClosed, .conn 1 1, .done, .done, .delivered 1] := by decide +kernel

/-- hypotheses of `C12_no_cross_ufrag` are satisfiable -/
example : (step (after [.getConn uA false]) (.inbound x4 (.stunUser userA) 1)).2 = .delivered 0
    ∧ (hist [.getConn uA false]).lastW (endpoint x4) ≠ some 0 := by decide +kernel

/-- hypotheses of `C12_after_removal` (b) are satisfiable: a removed connection exists -/
example : 0 < (after [.getConn uA false, .writeTo 0 x4, .removeByUfrag uA]).nconns
    ∧ (hist [.getConn uA false, .writeTo 0 x4, .removeByUfrag uA]).removed 0 = true := by decide +kernel

/-- the two aliases have one endpoint (hypothesis of `C12_canonical`), and link-local zones differ -/
example : endpoint x4 = endpoint x4mapped := by decide +kernel
example : endpoint { ip := { is4 := false, hi := 18338657682652659712, lo := 1, zone := [101, 48] }, port := 1 }
    ≠ endpoint { ip := { is4 := false, hi := 18338657682652659712, lo := 1, zone := [101, 49] }, port := 1 } := by decide +kernel

/-! ## The output line: what the driver prints is what the driver's monitor reads

`IceSpec/C12View.lean` holds THE printer (`printWire`; `printOut i g = printWire ∘ toWire i g` for a typed output
of mux `i` under session-wide handle id `g`) and THE parser (`parseWire`) of the `udpmux` output line; the driver
uses no other string function on outputs.  `Wire` is what a line says: `wrote` and `done` are both `ok`, a
connection is named with its socket index, a handle by its session-wide id; `ofWire` / `decode` give back the typed
output, given the operation and the monitor's handle counter. -/

open IceSpec.C12View IceProofs.UdpMuxView

/-- **the line is read back.**  Every line `printWire` can print — every `Wire` value whose datagram source (the
only free text on a line) is printable: a 4-byte address without `hi` and zone, a zone of character codes other
than `,` and space that is not the text `-` — is read back by `parseWire` as the same value. -/
theorem C12_view_roundtrip (x : Wire) (h : x.wf = true) : parseWire (printWire x) = some x :=
  parseWire_printWire x h

example : (Wire.pkt 7 x4mapped).wf = true := by decide +kernel
example : (Wire.conn 3 1 0).wf = true ∧ (Wire.closeIn false (some (2, 5))).wf = true := by decide +kernel
/-- the hypothesis is needed: a zone with a space does not survive the line -/
example : (Wire.pkt 7 { x4mapped with ip := { x4mapped.ip with zone := [101, 32] } }).wf = false := by decide +kernel

/-- The `closein` line (`ok w|q` + the line of the datagram's output) is a `Wire` line as well, for both outputs
an inbound datagram has in the model. -/
theorem C12_view_roundtrip_closein (ops : List Op) (src : Addr) (k : Kind) (pid i : Nat) (w : Bool) :
    ∃ x, closeInWire w i (step (after ops) (.inbound src k pid)).2 = some x
      ∧ parseWire (printCloseIn w i (step (after ops) (.inbound src k pid)).2) = some x := by
  have h := (C12_dispatch ops src k pid).1
  cases he : expected (hist ops) src k with
  | none =>
    rw [he] at h
    refine ⟨.closeIn w none, by rw [h]; rfl, ?_⟩
    rw [printCloseIn_eq w i _ (.closeIn w none) (by rw [h]; rfl)]
    exact parseWire_printWire _ rfl
  | some c =>
    rw [he] at h
    refine ⟨.closeIn w (some (i, c)), by rw [h]; rfl, ?_⟩
    rw [printCloseIn_eq w i _ (.closeIn w (some (i, c))) (by rw [h]; rfl)]
    exact parseWire_printWire _ rfl

example : printCloseIn true 2 (step (after [.getConn uA false]) (.inbound x4 (.stunUser userA) 1)).2 = "ok w m2c0" := by
  decide +kernel

/-- Every address the driver reads from a (space-free) input token is printable: the hypothesis `opWf` of the two
theorems below holds for every operation the driver can be given. -/
theorem C12_view_inputs_printable (tok : String) (a : Addr) (h : parseAddr tok = some a) (hs : ' ' ∉ tok.toList) :
    wfAddr a = true :=
  wfAddr_parseAddr tok a h hs

example : parseAddr "6,0,281470850105345,e,5000" = some x4mapped := by
  rw [show "6,0,281470850105345,e,5000" = showAddr x4mapped by decide]
  exact parseAddr_showAddr _ (by decide)

/-- **every output of the model is read back — and decodes to itself.**  For every operation sequence with
printable datagram sources, every output of the model, printed by the driver's printer for any socket index and
handle id, is read back by the driver's parser as its `Wire` form, and `decode` (parser, then `ofWire` with the
operation and the monitor's handle counter) gives the typed output itself. -/
theorem C12_view_roundtrip_model (ops : List Op) (op : Op) (hops : ∀ x ∈ ops, opWf x = true) (i g : Nat) :
    parseWire (printOut i g (step (after ops) op).2) = some (toWire i g (step (after ops) op).2)
    ∧ decode op (hist ops).nh (printOut i g (step (after ops) op).2) = some (step (after ops) op).2 := by
  have hi := C12_invariant ops
  have hs := C12_refines_history ops
  have hq : QInv (hist ops) := qinv_run ops init SState.init qinv_init hops
  exact ⟨parseWire_printOut i g _ (wfOut_step (step_to _ op) hi hs hq), decode_step _ _ hi hs hq op i g⟩

example : opWf (.inbound x4mapped (.stunUser userA) 7) = true := by decide +kernel
example : printOut 0 1 (step (after [.getConn uA false, .inbound x4mapped (.stunUser userA) 7]) (.read 0)).2
    = "p7 6,0,281470850105345,e,5000" := by decide +kernel

/-- **the model passes the monitor on lines.**  Every run of the model (printable datagram sources), printed line
by line with the driver's printer (any socket index / handle id per line) and read back with the driver's parser,
is accepted by the spec monitor of C12. -/
theorem C12_model_passes_string_monitor (ig : Op × Out → Nat × Nat) (ops : List Op)
    (hops : ∀ x ∈ ops, opWf x = true) : lineMonitor (printTrace ig (trace ops)) = none := by
  unfold lineMonitor
  rw [show trace ops = (run init ops).2 from rfl,
    lineVerdicts_run ig ops init SState.init inv_init sim_init qinv_init hops]
  exact C12_model_passes_monitor ops

/-- the line monitor rejects: a datagram for ufrag `a` answered with the line of another connection, and a
line that is no output line -/
example : lineMonitor [(.getConn uA false, printOut 0 0 (.conn 0 0)), (.getConn uB false, printOut 0 1 (.conn 1 1)),
    (.inbound x4 (.stunUser userA) 1, printOut 0 0 (.delivered 1))] ≠ none := by
  have h1 := parseWire_printOut 0 0 (.conn 0 0) rfl
  have h2 := parseWire_printOut 0 1 (.conn 1 1) rfl
  have h3 := parseWire_printOut 0 0 (.delivered 1) rfl
  simp only [lineMonitor, lineVerdicts, decode, h1, h2, h3, Option.bind_some, ofWire, toWire, okOf]
  decide
example : lineMonitor [(.getConn uA false, "h m0c0 x y")] = some "dispatch: unparsable output line" := by decide +kernel
example : lineMonitor (printTrace (fun _ => (0, 0)) (trace [.getConn uA false, .inbound x4 (.stunUser userA) 1, .read 0]))
    = none := C12_model_passes_string_monitor _ _ (by decide)

/-! # The universal mux (`UniversalUDPMuxDefault`, udp_mux_universal.go)

Model `IceModel.UniMux` (tied to the code by the correspondence check `udpmuxuni`): the embedded mux of the
theorems above plus the per-server table of `GetXORMappedAddr`, the calls in flight and a virtual clock.
All theorems quantify over ALL sequences `ops : List UOp` (operations of the embedded mux, datagrams of every
STUN class / transaction id / with, without or with a malformed XOR-MAPPED-ADDRESS, `GetConnForURL`,
`GetXORMappedAddr` calls with any deadline, passage of time) and every cache TTL. -/

open IceModel.UniMux IceProofs.UniMux IceProofs.UniMuxConc
open IceSpec.C12Uni (UState Verdict answerOf)

/-- model state of the universal mux after `ops` -/
def uafter (ttl : Nat) (ops : List UOp) : UMux := (IceModel.UniMux.run (IceModel.UniMux.init ttl) ops).1
/-- trace `(operation, output)` of `ops` -/
def utrace (ttl : Nat) (ops : List UOp) : List (UOp × UOut) := (IceModel.UniMux.run (IceModel.UniMux.init ttl) ops).2
/-- history state of the universal-mux monitor after the trace of `ops` -/
def uhist (ttl : Nat) (ops : List UOp) : UState := IceSpec.C12Uni.stateAfter UState.init (utrace ttl ops)

/-- **the layer never touches the embedded mux.** After any operation sequence the embedded mux is in the
state the plain mux reaches on the projected sequence (datagrams stripped of what only the layer looks at,
`GetConnForURL(u, url)` as `GetConn(u ++ url)`, discovery calls and clock ticks dropped): every theorem above
holds of it verbatim — in particular `C12_faithful`, `C12_after_removal`, `C12_canonical`. -/
theorem C12_uni_embedded (ttl : Nat) (ops : List UOp) : (uafter ttl ops).base = after (projAll ops) :=
  run_base ops (IceModel.UniMux.init ttl)

/-- The invariant of the embedded mux, and of the layer's own state (`XInv`): table keys are canonical
addresses for which `GetXORMappedAddr` was called; an entry, once created, never disappears; an entry is
pending iff its channel is open; every blocked call hangs on the pending entry of its server and its timer
lies in the future (no call can block for ever, none waits on a dead entry). -/
theorem C12_uni_invariant (ttl : Nat) (ops : List UOp) : Inv (uafter ttl ops).base ∧ XInv (uafter ttl ops) :=
  ⟨by rw [C12_uni_embedded]; exact C12_invariant _, xinv_run ops _ (xinv_init ttl)⟩

example : XInv (IceModel.UniMux.init 0) := xinv_init 0

/-- **dispatch on the universal mux.** Whatever the layer does with a datagram (any class, transaction id,
attribute), the datagram is handed to exactly the connection THE RULE names on the history of the embedded
mux — also when it comes from a STUN server's address — and the embedded mux moves as the plain mux does:
nothing is diverted, nothing is swallowed. -/
theorem C12_uni_dispatch (ttl : Nat) (ops : List UOp) (src : Addr) (k : Kind) (x : XView) (pid : Nat) :
    (IceModel.UniMux.step (uafter ttl ops) (.inbound src k x pid)).2.main =
      .base (match expected (hist (projAll ops)) src k with
             | some c => .delivered c
             | none => .dropped)
    ∧ (IceModel.UniMux.step (uafter ttl ops) (.inbound src k x pid)).1.base
        = (step (after (projAll ops)) (.inbound src k pid)).1 := by
  constructor
  · show (IceModel.UniMux.inbound _ src k x pid).2.main = _
    rw [inbound_main, C12_uni_embedded]
    exact congrArg UMain.base (C12_dispatch (projAll ops) src k pid).1
  · show (IceModel.UniMux.inbound _ src k x pid).1.base = _
    rw [inbound_base, C12_uni_embedded]; rfl

/-- **the interception rule.** The layer takes a datagram (records its mapped address) iff the mux is open,
the datagram is a decodable STUN message carrying a well-formed XOR-MAPPED-ADDRESS and its CANONICAL source
has a table entry — nothing else is looked at; it records the value under that key, releases exactly the
calls blocked on that key, each with that value; a datagram it does not take changes nothing of the layer;
no other table entry is ever touched. -/
theorem C12_uni_intercept (ttl : Nat) (ops : List UOp) (src : Addr) (k : Kind) (x : XView) (pid : Nat) :
    (∀ a v, (IceModel.UniMux.step (uafter ttl ops) (.inbound src k x pid)).2.fx.learned = some (a, v) ↔
        (uafter ttl ops).base.closed = false ∧ decodable k = true ∧ x.xa = .value v ∧ a = canonAddr src
          ∧ ((uafter ttl ops).xmap (canonAddr src)).isSome = true)
    ∧ (∀ v, (IceModel.UniMux.step (uafter ttl ops) (.inbound src k x pid)).2.fx.learned = some (canonAddr src, v) →
        (IceModel.UniMux.step (uafter ttl ops) (.inbound src k x pid)).2.fx.woke
            = (blockedOn (uafter ttl ops) (canonAddr src)).map (fun i => (i, WRes.ok v))
        ∧ ∃ e, (uafter ttl ops).xmap (canonAddr src) = some e ∧
            (IceModel.UniMux.step (uafter ttl ops) (.inbound src k x pid)).1.xmap (canonAddr src)
              = some { e with addr := some v, signalled := true })
    ∧ ((IceModel.UniMux.step (uafter ttl ops) (.inbound src k x pid)).2.fx.learned = none →
        (IceModel.UniMux.step (uafter ttl ops) (.inbound src k x pid)).2.fx.woke = []
        ∧ (IceModel.UniMux.step (uafter ttl ops) (.inbound src k x pid)).1.xmap = (uafter ttl ops).xmap
        ∧ (IceModel.UniMux.step (uafter ttl ops) (.inbound src k x pid)).1.waiter = (uafter ttl ops).waiter)
    ∧ (∀ b, b ≠ canonAddr src →
        (IceModel.UniMux.step (uafter ttl ops) (.inbound src k x pid)).1.xmap b = (uafter ttl ops).xmap b) := by
  have hx := (C12_uni_invariant ttl ops).2
  generalize uafter ttl ops = m at hx ⊢
  show (∀ a v, (IceModel.UniMux.inbound m src k x pid).2.fx.learned = some (a, v) ↔ _)
    ∧ (∀ v, (IceModel.UniMux.inbound m src k x pid).2.fx.learned = some (canonAddr src, v) →
        (IceModel.UniMux.inbound m src k x pid).2.fx.woke = _
        ∧ ∃ e, m.xmap (canonAddr src) = some e ∧ (IceModel.UniMux.inbound m src k x pid).1.xmap (canonAddr src) = _)
    ∧ ((IceModel.UniMux.inbound m src k x pid).2.fx.learned = none →
        (IceModel.UniMux.inbound m src k x pid).2.fx.woke = []
        ∧ (IceModel.UniMux.inbound m src k x pid).1.xmap = m.xmap
        ∧ (IceModel.UniMux.inbound m src k x pid).1.waiter = m.waiter)
    ∧ (∀ b, b ≠ canonAddr src → (IceModel.UniMux.inbound m src k x pid).1.xmap b = m.xmap b)
  rw [inbound_fx, inbound_xmap, inbound_waiter]
  rcases Bool.eq_false_or_eq_true m.base.closed with hc | hc
  · rw [if_pos hc, if_pos hc, if_pos hc]
    refine ⟨fun a v => ⟨fun h => (by cases h), fun h => (by rw [hc] at h; cases h.1)⟩, fun v h => (by cases h),
      fun _ => ⟨rfl, rfl, rfl⟩, fun _ _ => rfl⟩
  · have hn : ¬ m.base.closed = true := by simp [hc]
    rw [if_neg hn, if_neg hn, if_neg hn]
    refine ⟨fun a v => ⟨fun h => ⟨hc, (tap_learned_iff m src k x a v).mp h⟩, fun h => (tap_learned_iff m src k x a v).mpr h.2⟩,
      ?_, ?_, fun b hb => tap_xmap_other m src k x b hb⟩
    · intro v h
      exact ⟨tap_woke m hx src k x v h, tap_xmap_self m src k x v h⟩
    · intro h
      rw [tap_none m src k x h]
      exact ⟨rfl, rfl, rfl⟩

/-- **no cross-ufrag on the universal mux** — unchanged by the layer: a connection that receives a datagram
without being the last writer to its source was handed out (by `GetConn`, or by `GetConnForURL` under the key
`ufrag ++ url`) for exactly the text before the first `:` of the USERNAME and the family of the source. -/
theorem C12_uni_no_cross_ufrag (ttl : Nat) (ops : List UOp) (src : Addr) (k : Kind) (x : XView) (pid c : Nat)
    (hd : (IceModel.UniMux.step (uafter ttl ops) (.inbound src k x pid)).2.main = .base (.delivered c))
    (hw : (hist (projAll ops)).lastW (endpoint src) ≠ some c) :
    ∃ n, k = .stunUser n ∧ (hist (projAll ops)).ckey c = (ufragOf n, srcIsV6 src) := by
  refine C12_no_cross_ufrag (projAll ops) src k pid c ?_ hw
  have : (IceModel.UniMux.inbound (uafter ttl ops) src k x pid).2.main = .base (.delivered c) := hd
  rw [inbound_main, C12_uni_embedded] at this
  injection this

/-- **what the layer takes — partial.**  FULL statement (the property text: the layer may take only what is
addressed to itself):

  `learned = some (a, v) → answerOf (uhist ttl ops) src k x = some v`

i.e. the datagram is the success response, with the transaction id of the layer's own latest and still
unanswered discovery request to that source.  It is FALSE of the code (`C12_uni_consumed_witness`).  What
holds: a datagram is taken only if `GetXORMappedAddr` was called — at some time, answered or not, expired
or not — for a server with the same transport address. -/
theorem C12_uni_consumed_partial (ttl : Nat) (ops : List UOp) (src : Addr) (k : Kind) (x : XView) (pid : Nat)
    (a : Addr) (v : Nat)
    (h : (IceModel.UniMux.step (uafter ttl ops) (.inbound src k x pid)).2.fx.learned = some (a, v)) :
    ∃ srv d, UOp.xorStart srv d ∈ ops ∧ endpoint srv = endpoint src := by
  obtain ⟨_, _, _, _, h5⟩ := ((C12_uni_intercept ttl ops src k x pid).1 a v).mp h
  cases he : (uafter ttl ops).xmap (canonAddr src) with
  | none => rw [he] at h5; cases h5
  | some e =>
    have hk := ((C12_uni_invariant ttl ops).2.key _ e he).2
    rcases (mem_started_iff ops _ (xinv_init ttl) (canonAddr src)).mp hk with h0 | ⟨srv, d, h1, h2⟩
    · cases h0
    · exact ⟨srv, d, h1, (canon_eq_iff srv src).mp h2⟩

private def srvS : Addr := { ip := { is4 := true, hi := 0, lo := 168361985, zone := [] }, port := 3478 }
private def srvSmapped : Addr := { ip := { is4 := false, hi := 0, lo := 281470850105345, zone := [] }, port := 3478 }
private def xOwn (v : Nat) : XView := { cls := .success, tid := .own, xa := .value v }
private def xForeign (v : Nat) : XView := { cls := .success, tid := .foreign, xa := .value v }
private def xRequest (v : Nat) : XView := { cls := .request, tid := .foreign, xa := .value v }

/-- the full statement fails: with one discovery pending, a Binding success response with a FOREIGN
transaction id from the server's address is taken (and a second one after the answer, and a request) -/
theorem C12_uni_consumed_witness :
    ¬ (∀ (ttl : Nat) (ops : List UOp) (src : Addr) (k : Kind) (x : XView) (pid : Nat) (a : Addr) (v : Nat),
        (IceModel.UniMux.step (uafter ttl ops) (.inbound src k x pid)).2.fx.learned = some (a, v) →
        answerOf (uhist ttl ops) src k x = some v) := by
  intro h
  have := h 1000 [.xorStart srvS 500] srvS .stunNoUser (xForeign 9) 1 srvS 9 (by decide)
  revert this
  decide

/-- … and what the layer takes is ALSO delivered when a connection owns the source: "at most one consumer"
fails for the layer's own answer -/
theorem C12_uni_both_witness :
    ¬ (∀ (ttl : Nat) (ops : List UOp) (src : Addr) (k : Kind) (x : XView) (pid : Nat),
        (IceModel.UniMux.step (uafter ttl ops) (.inbound src k x pid)).2.fx.learned.isSome = true →
        (IceModel.UniMux.step (uafter ttl ops) (.inbound src k x pid)).2.main = .base .dropped) := by
  intro h
  have := h 1000 [.getConnForURL uA [115] false, .base (.writeTo 0 srvS), .xorStart srvS 500] srvS .stunNoUser (xOwn 7) 1
    (by decide)
  revert this
  decide

/-- **the monitor on the model.** On every trace of the model the universal-mux monitor never reports a clause
of the base monitor (`dispatch` / `no_cross_ufrag` / `after_removal` / `faithful`): whatever it objects to is
a clause about the layer. -/
theorem C12_uni_monitor_base_clauses (ttl : Nat) (ops : List UOp) (w : String) :
    Verdict.base w ∉ IceSpec.C12Uni.verdicts UState.init (utrace ttl ops) := by
  intro hm
  exact (usim_run ops (IceModel.UniMux.init ttl) UState.init inv_init sim_init).2.2 _ hm

private def isUni : Verdict → Bool
  | .uni _ => true
  | _ => false

/-- a clean discovery: request, the server's own answer through the IPv4-mapped alias of its address, a second
call served from the table, expiry, a call that times out — accepted by the monitor, clause by clause -/
example : IceSpec.C12Uni.monitor (utrace 1000 [.xorStart srvS 500, .xorStart srvSmapped 300,
      .inbound srvSmapped .stunNoUser (xOwn 7) 1, .xorStart srvS 0, .tick 1001, .xorStart srvS 200, .tick 200]) = none := by
  decide +kernel

example : (utrace 1000 [.xorStart srvS 500, .xorStart srvSmapped 300, .inbound srvSmapped .stunNoUser (xOwn 7) 1,
      .xorStart srvS 0, .tick 1001, .xorStart srvS 200, .tick 200]).map Prod.snd
    = [{ main := .started 0 true }, { main := .started 1 true },
       { main := .base .dropped, fx := { learned := some (srvS, 7), woke := [(0, .ok 7), (1, .ok 7)] } },
       { main := .started 2 false, fx := { woke := [(2, .ok 7)] } }, { main := .ticked },
       { main := .started 3 true }, { main := .ticked, fx := { woke := [(3, .timeout)] } }] := by decide +kernel

/-- the monitor objects to the model exactly where the code leaves the property text: foreign transaction id,
a request carrying the attribute, a second answer, and the answer also delivered -/
example : ((IceSpec.C12Uni.verdicts UState.init (utrace 1000 [.xorStart srvS 500,
      .inbound srvS .stunNoUser (xForeign 9) 1])).map isUni) = [false, true] := by decide +kernel
example : ((IceSpec.C12Uni.verdicts UState.init (utrace 1000 [.xorStart srvS 500,
      .inbound srvS .stunNoUser (xRequest 9) 1])).map isUni) = [false, true] := by decide +kernel
example : ((IceSpec.C12Uni.verdicts UState.init (utrace 1000 [.xorStart srvS 500,
      .inbound srvS .stunNoUser (xOwn 7) 1, .inbound srvS .stunNoUser (xOwn 8) 2])).map isUni) = [false, false, true] := by decide +kernel
example : ((IceSpec.C12Uni.verdicts UState.init (utrace 1000 [.getConnForURL uA [115] false, .base (.writeTo 0 srvS),
      .xorStart srvS 500, .inbound srvS .stunNoUser (xOwn 7) 1])).map isUni) = [false, false, false, true] := by decide +kernel

/-- hypotheses of `C12_uni_no_cross_ufrag` and `C12_uni_consumed_partial` are satisfiable; a datagram from a
server address that the layer does not take is dispatched by ufrag like any other -/
example : (IceModel.UniMux.step (uafter 1000 [.getConnForURL uA [] false, .xorStart x4 500]) (.inbound x4 (.stunUser userA) XView.plain 1)).2
    = { main := .base (.delivered 0) } := by decide +kernel
example : (IceModel.UniMux.step (uafter 1000 [.xorStart srvS 500]) (.inbound srvSmapped .stunNoUser (xOwn 7) 1)).2.fx.learned
    = some (srvS, 7) := by decide +kernel

/-- after Close a call neither blocks nor sends: it returns the write error, or an address still cached -/
theorem C12_uni_closed_call_returns (m : UMux) (srv : Addr) (d : Nat) (hc : m.base.closed = true) :
    (IceModel.UniMux.xorStart m srv d).2.main = .started m.nwaiters false ∧
    ∃ res, ((IceModel.UniMux.xorStart m srv d).1.waiter m.nwaiters).res = some res ∧ (res = .writeErr ∨ ∃ v, res = .ok v) := by
  rw [xorStart_eq]
  simp only []
  split
  · next v _ => exact ⟨rfl, .ok v, by simp [upd], Or.inr ⟨_, rfl⟩⟩
  · have h2 : (withEntry (cached m (canonAddr srv)).1 (canonAddr srv)).base.closed = true := by
      rw [withEntry_base, cached_base]; exact hc
    rw [if_pos h2]
    exact ⟨rfl, _, by simp [upd], Or.inl rfl⟩

example : (uafter 1000 [.xorStart srvS 500, .inbound srvS .stunNoUser (xOwn 7) 1, .base .closeMux]).base.closed = true
    ∧ ((IceModel.UniMux.xorStart (uafter 1000 [.xorStart srvS 500, .inbound srvS .stunNoUser (xOwn 7) 1, .base .closeMux]) srvS 5).1.waiter 1).res
        = some (.ok 7)
    ∧ ((IceModel.UniMux.xorStart (uafter 1000 [.xorStart srvS 500, .inbound srvS .stunNoUser (xOwn 7) 1, .base .closeMux]) x4 5).1.waiter 1).res
        = some .writeErr := by decide +kernel

/-- the timer: a tick releases exactly the blocked calls whose deadline has passed, with the timeout error -/
theorem C12_uni_timer_exact (m : UMux) (dt i : Nat) (hi : i < m.nwaiters) (hb : (m.waiter i).res = none) :
    ((m.waiter i).deadlineAt ≤ m.now + dt →
        ((IceModel.UniMux.tick m dt).1.waiter i).res = some .timeout ∧ (i, WRes.timeout) ∈ (IceModel.UniMux.tick m dt).2.fx.woke) ∧
    (m.now + dt < (m.waiter i).deadlineAt →
        ((IceModel.UniMux.tick m dt).1.waiter i).res = none ∧ ∀ x, (i, x) ∉ (IceModel.UniMux.tick m dt).2.fx.woke) := by
  constructor
  · intro h
    simp [IceModel.UniMux.tick, hi, hb, h]
  · intro h
    have h' : ¬ (m.waiter i).deadlineAt ≤ m.now + dt := by omega
    simp [IceModel.UniMux.tick, hi, hb, h']
    intro x j _ _ h3 hj; subst hj; exact absurd h3 h'

example : 0 < (uafter 1000 [.xorStart srvS 500]).nwaiters ∧ ((uafter 1000 [.xorStart srvS 500]).waiter 0).res = none
    ∧ ((uafter 1000 [.xorStart srvS 500]).waiter 0).deadlineAt ≤ (uafter 1000 [.xorStart srvS 500]).now + 500
    ∧ (uafter 1000 [.xorStart srvS 500]).now + 499 < ((uafter 1000 [.xorStart srvS 500]).waiter 0).deadlineAt := by decide +kernel

/-- Close of the mux does NOT release the calls blocked in GetXORMappedAddr (they run to their deadline):
the step closes the embedded mux and leaves the calls, the table and the clock alone -/
theorem C12_uni_close_leaves_waiters (m : UMux) :
    (IceModel.UniMux.step m (.base .closeMux)).1.waiter = m.waiter ∧
    (IceModel.UniMux.step m (.base .closeMux)).1.nwaiters = m.nwaiters ∧
    (IceModel.UniMux.step m (.base .closeMux)).1.xmap = m.xmap ∧
    (IceModel.UniMux.step m (.base .closeMux)).1.now = m.now ∧
    (IceModel.UniMux.step m (.base .closeMux)).1.base.closed = true ∧
    (IceModel.UniMux.step m (.base .closeMux)).2.fx.woke = [] := by
  refine ⟨rfl, rfl, rfl, rfl, ?_, rfl⟩
  show (closeMux m.base).closed = true
  unfold closeMux
  split
  · assumption
  · rfl

/-- a call is blocked across Close -/
example : ((IceModel.UniMux.step (uafter 1000 [.xorStart srvS 500]) (.base .closeMux)).1.waiter 0).res = none
    ∧ 0 < (IceModel.UniMux.step (uafter 1000 [.xorStart srvS 500]) (.base .closeMux)).1.nwaiters := by decide +kernel

/-- a call that returns an address returns the one the table holds for ITS server after the step; that entry
was written by a response in this very step, or it is not expired -/
theorem C12_uni_waiter_answer_fresh (m : UMux) (op : UOp) (w v : Nat)
    (hw : (w, WRes.ok v) ∈ (IceModel.UniMux.step m op).2.fx.woke) :
    ∃ e, (IceModel.UniMux.step m op).1.xmap ((IceModel.UniMux.step m op).1.waiter w).srv = some e ∧ e.addr = some v ∧
      ((IceModel.UniMux.step m op).2.fx.learned = some (((IceModel.UniMux.step m op).1.waiter w).srv, v) ∨ (IceModel.UniMux.step m op).1.now ≤ e.expiresAt) := by
  have hin : ∀ src k x pid, (w, WRes.ok v) ∈ (IceModel.UniMux.inbound m src k x pid).2.fx.woke →
      ∃ e, (IceModel.UniMux.inbound m src k x pid).1.xmap ((IceModel.UniMux.inbound m src k x pid).1.waiter w).srv = some e ∧ e.addr = some v ∧
        ((IceModel.UniMux.inbound m src k x pid).2.fx.learned = some (((IceModel.UniMux.inbound m src k x pid).1.waiter w).srv, v) ∨
          (IceModel.UniMux.inbound m src k x pid).1.now ≤ e.expiresAt) := by
    intro src k x pid h
    rw [inbound_fx] at h
    rw [inbound_fx, inbound_xmap, inbound_waiter]
    by_cases hc : m.base.closed = true
    · rw [if_pos hc] at h; cases h
    · rw [if_neg hc] at h
      simp only [if_neg hc]
      obtain ⟨e, h1, h2, h3⟩ := tap_woke_fresh m src k x w v h
      exact ⟨e, h1, h2, Or.inl h3⟩
  cases op with
  | base bop =>
    cases bop with
    | inbound src k pid => exact hin src k XView.plain pid hw
    | _ => cases hw
  | inbound src k x pid => exact hin src k x pid hw
  | getConnForURL u url v6 => cases hw
  | xorStart srv d =>
    obtain ⟨e, h1, h2, h3⟩ := xorStart_woke_fresh m srv d w v hw
    exact ⟨e, h1, h2, Or.inr h3⟩
  | tick dt =>
    exfalso
    change (w, WRes.ok v) ∈ (IceModel.UniMux.tick m dt).2.fx.woke at hw
    simp [IceModel.UniMux.tick] at hw

/-- released by a response; served from the table -/
example : (0, WRes.ok 7) ∈ (IceModel.UniMux.step (uafter 1000 [.xorStart srvS 500]) (.inbound srvSmapped .stunNoUser (xOwn 7) 1)).2.fx.woke := by
  decide +kernel
example : (1, WRes.ok 7) ∈ (IceModel.UniMux.step (uafter 1000 [.xorStart srvS 500, .inbound srvSmapped .stunNoUser (xOwn 7) 1])
    (.xorStart srvS 0)).2.fx.woke := by decide +kernel
/-! ## Tie to the code (T): one iteration of `UDPMuxDefault.connWorker` (udp_mux.go), REGENERATED on every run
(`IceGen.T_Mux`, loop mode) -/

open IceTie.MuxUdp in
/-- where a datagram goes: the canonical source is looked up in the address map first; only an unmapped source with a STUN payload
that decodes and has a USERNAME is looked up by the text before the first ':' in the map of the canonical source's family; the
datagram is written to exactly one connection iff one of the lookups found it, otherwise dropped; the worker ends only on a closed
mux or a non-timeout read error.  The model's `inbound` consults the address map first and `lookupUfrag` answers only for
`Kind.stunUser`, on `beforeColon` and the family of the canonical address -/
theorem C12_code_connWorker :
    (∀ closed readErr isTimeout e1 e2 e3 mapped isStun decodeErr noUsername byUfrag,
      IceGen.udpMux_connWorker_iter closed readErr isTimeout e1 e2 e3 mapped isStun decodeErr noUsername byUfrag
        = if closed then ([c "readFromUDPConn"], some ())
          else if readErr then ([c "readFromUDPConn"], if isTimeout then none else some ())
          else (c "readFromUDPConn" :: udpHead ++
                 (if !mapped && isStun then
                    udpLookup ++ (if decodeErr || noUsername then [] else udpByUfrag ++ (if byUfrag then [udpWrite] else []))
                  else if mapped then [udpWrite] else []), none)) ∧
    (∀ isTimeout e1 e2 e3 mapped isStun decodeErr noUsername byUfrag,
      (IceGen.udpMux_connWorker_iter false false isTimeout e1 e2 e3 mapped isStun decodeErr noUsername byUfrag).1.count udpWrite
        = if udpRouted mapped isStun decodeErr noUsername byUfrag then 1 else 0) ∧
    (∀ (m : Mux) (src : Addr) (k : Kind) (pid c : Nat), m.closed = false → m.addrMap (canonAddr src) = some c →
      (m.conn c).closed = false → (inbound m src k pid).2 = .delivered c) ∧
    (∀ (m : Mux) (a : Addr) (k : Kind), lookupUfrag m a k =
      match k with
      | .stunUser n => (famMap m (!a.ip.is4)).get? (beforeColon n)
      | _ => none) :=
  ⟨connWorker_iter_tie, connWorker_delivers_iff, inbound_mapped, lookupUfrag_only_user⟩

/-- non-vacuity: a mapped source is written without any STUN parsing; an unmapped non-STUN datagram is dropped -/
example : (IceGen.udpMux_connWorker_iter false false false false false false true true false false false).1
      = IceTie.MuxUdp.c "readFromUDPConn" :: IceTie.MuxUdp.udpHead ++ [IceTie.MuxUdp.udpWrite] ∧
    (IceGen.udpMux_connWorker_iter false false false false false false false false false false true).1
      = IceTie.MuxUdp.c "readFromUDPConn" :: IceTie.MuxUdp.udpHead := by decide +kernel

end IceProps.C12

import IceProofs.TaskLoopTrace
import IceProofs.TaskLoopProgress
import IceSpec.C10
import IceProofs.C10View
/-!
# C10 — agent state is only touched serially (task loop)

Property theorems only.  All of them quantify over EVERY state reachable in the model
`IceModel.TaskLoop` by ANY finite action sequence: any number of submitter and closer threads, any
interleaving, contexts cancelled at any point.  The safety theorems need no hypothesis (they also hold
when a task calls `Run` re-entrantly); only the progress theorem excludes re-entrant `Run`
(`noReentry`), and `C10_reentry_deadlock_witness` shows that the excluded case does deadlock.

The tie of the model to `internal/taskloop/taskloop.go` is the A tie (recorded histories of the real
`Loop` replayed through `step`, `Driver/TaskLoop.lean`) plus the source-shape check `taskloop skel`.
-/
namespace IceProps.C10
open IceModel.TaskLoop IceSpec.C10 IceProofs.TaskLoop

/-- **Mutual exclusion.** In every reachable state at most one task is executing (started and not
finished), and it is the one the loop thread is inside of. -/
theorem C10_mutex {s : State} (h : Reachable s) (i j : Nat) (hi : executing s i) (hj : executing s j) :
    i = j ∧ execOf s.loop = some i := by
  have a := view_running (executing_loop h hi)
  have b := view_running (executing_loop h hj)
  rw [a] at b
  exact ⟨Option.some.inj b, a⟩

example : ∃ s, Reachable s ∧ executing s 0 :=
  ⟨_, ⟨[.call 0, .errCheckPass 0, .handoff 0, .start 0], rfl⟩, by decide +kernel⟩

/-- Every task starts at most once and finishes at most once, whatever happens. -/
theorem C10_at_most_once {s : State} (h : Reachable s) (i : Nat) :
    (s.subs i).started ≤ 1 ∧ (s.subs i).finished ≤ (s.subs i).started ∧ (s.subs i).taken ≤ 1 ∧
    ((s.subs i).taken = 1 → (s.subs i).offered = true) :=
  have c := ((inv_reachable h).subs i).counts
  ⟨c.1, c.2.1, c.2.2.1, c.2.2.2.1⟩

/-- **`Run` returns nil iff its task ran exactly once to completion.**  In every reachable state in
which call `i` has returned `r`: `r = nil` iff the task of call `i` has started exactly once and
finished exactly once.  Because this holds in the state right after the return the run happened BEFORE
the return; because it holds in every later state the task never runs again. -/
theorem C10_run_nil_iff_ran {s : State} (h : Reachable s) (i : Nat) (r : RunRes)
    (hr : (s.subs i).returned = some r) :
    r = .nil ↔ ((s.subs i).started = 1 ∧ (s.subs i).finished = 1) :=
  (((inv_reachable h).subs i).counts.2.2.2.2 r hr).1

/-- **`Run` returns an error iff its task never ran**: in every reachable state (so also in all later
ones) in which call `i` has returned `r`, `r ≠ nil` iff the task has never started — it was not even
received by the loop (`taken = 0`). -/
theorem C10_run_err_iff_never {s : State} (h : Reachable s) (i : Nat) (r : RunRes)
    (hr : (s.subs i).returned = some r) :
    r ≠ .nil ↔ ((s.subs i).started = 0 ∧ (s.subs i).taken = 0) :=
  (((inv_reachable h).subs i).counts.2.2.2.2 r hr).2

example : ∃ s, Reachable s ∧ (s.subs 0).returned = some .nil ∧ (s.subs 1).returned = some .ctx :=
  ⟨_, ⟨[.call 0, .call 1, .errCheckPass 1, .errCheckPass 0, .handoff 0, .cancel 1, .start 0, .selCtx 1,
        .finish 0, .closePriv 0, .wake 0], rfl⟩, by decide +kernel⟩

/-- The moment of the return: the transition that makes call `i` return `r` is enabled only when the
task has already run once to completion (`r = nil`) resp. has never started (`r ≠ nil`). -/
theorem C10_run_return_moment {s s' : State} (h : Reachable s) (a : Action) (i : Nat) (r : RunRes)
    (hs : step s a = some s') (hl : label a = some (.runReturn i r)) :
    (r = .nil → (s.subs i).started = 1 ∧ (s.subs i).finished = 1) ∧ (r ≠ .nil → (s.subs i).started = 0) := by
  have hinv := inv_reachable h
  have hi := hinv.subs i
  cases a <;> simp [label] at hl <;> obtain ⟨rfl, rfl⟩ := hl <;> simp only [step] at hs <;>
    split at hs <;> (try cases hs) <;> rename_i hg
  · have f := sub_not_offered_facts hi (Or.inl hg.1); simp [f.1]
  · have f := sub_not_offered_facts hi (Or.inr (Or.inl hg.1)); simp [f.1]
  · have f := sub_not_offered_facts hi (Or.inr (Or.inl hg.1)); simp [f.1]
  · have f := sub_woken_facts hi hg.1 hg.2; simp [f.1, f.2.1]

/-- **No task starts after any `Close` has returned** (state form): in a reachable state in which
some `Close` has returned, no enabled transition is a task start or even a hand-off. -/
theorem C10_no_start_after_close {s s' : State} (h : Reachable s) (hc : s.closeReturned = true)
    (a : Action) (hs : step s a = some s') :
    (∀ i, a ≠ .start i) ∧ (∀ i, a ≠ .handoff i) ∧ s'.closeReturned = true := by
  obtain ⟨_, g2, _, _, _, _, g6, _⟩ := (inv_reachable h).glob
  have hex := g2.mp (g6 hc).1
  refine ⟨?_, ?_, closeReturned_mono a hs hc⟩
  · intro i e; subst e; simp [step, hex] at hs
  · intro i e; subst e; simp [step, hex] at hs

example : ∃ s, Reachable s ∧ s.closeReturned = true ∧ (s.subs 0).returned = some .closed :=
  ⟨_, ⟨[.call 0, .errCheckPass 0, .closeCall 0 true, .onceWin 0, .storeErr 0, .closeDoneCh 0, .preStopRun 0, .loopDone,
        .onClose, .onCloseEnd, .closeTLD, .onceExit 0, .waitTLD 0, .selDone 0], rfl⟩, by decide +kernel⟩

/-- Execution form: in any execution, after a `closeReturn` event there is no `taskStart` event. -/
theorem C10_no_start_after_close_trace (as bs : List Action) (s : State)
    (h : run init (as ++ bs) = some s) (j : Nat) (hj : Ev.closeReturn j ∈ trace as) (i : Nat) :
    Ev.taskStart i ∉ trace bs := by
  rw [isRun.append] at h
  cases h1 : run init as with
  | none => simp [h1] at h
  | some s1 =>
  have h2 : run s1 bs = some s := by simpa [h1] using h
  have flag : ∀ {as : List Action} {s0 s1 : State}, IceProofs.Exec step s0 as s1 →
      (s0.closeReturned = true ∨ Ev.closeReturn j ∈ trace as) → s1.closeReturned = true := by
    intro as s0 s1 hx
    induction hx with
    | nil => intro hc; simpa [trace] using hc
    | @cons _ _ _ a _ hs' _ ih =>
      intro hc
      apply ih
      rcases hc with hc | hc
      · exact Or.inl (closeReturned_mono a hs' hc)
      · simp only [trace, List.filterMap_cons] at hc
        cases hl : label a with
        | none => rw [hl] at hc; exact Or.inr hc
        | some e =>
          rw [hl] at hc
          simp only [List.mem_cons] at hc
          rcases hc with hc | hc
          · subst hc
            left
            cases a <;> simp [label] at hl
            subst hl
            simp only [step] at hs'; split at hs' <;> cases hs'; simp
          · exact Or.inr hc
  have hc1 := flag (isRun.exec h1) (Or.inr hj)
  have nostart : ∀ {bs : List Action} {s1 s : State}, IceProofs.Exec step s1 bs s → Reachable s1 →
      s1.closeReturned = true → Ev.taskStart i ∉ trace bs := by
    intro bs s1 s hx
    induction hx with
    | nil => intro _ _; simp [trace]
    | @cons _ _ _ b _ hs' _ ih =>
      intro hr hc
      have k := C10_no_start_after_close hr hc b hs'
      have rest := ih (reachable_step hr b hs') k.2.2
      simp only [trace, List.filterMap_cons]
      cases hl : label b with
      | none => exact rest
      | some e =>
        simp only [List.mem_cons, not_or]
        refine ⟨?_, rest⟩
        intro he; subst he
        cases b <;> simp [label] at hl
        subst hl; exact k.1 _ rfl
  exact nostart (isRun.exec h2) ⟨as, h1⟩ hc1

/-- **`onClose` runs exactly once, after the last task, before any `Close` returns.**  In every
reachable state: it has run at most once; if it has run, no task is executing and no enabled
transition starts a task or runs `onClose` again; if some `Close` has returned, it has run and has
returned (`oncloseEnds = 1`). -/
theorem C10_onclose_once_last {s : State} (h : Reachable s) :
    s.oncloseRuns ≤ 1 ∧ s.oncloseEnds ≤ s.oncloseRuns ∧
    (s.oncloseRuns = 1 → (∀ i, ¬ executing s i) ∧
      ∀ a s', step s a = some s' → (∀ i, a ≠ .start i) ∧ (∀ i, a ≠ .handoff i) ∧ a ≠ .onClose) ∧
    (s.closeReturned = true → s.oncloseRuns = 1 ∧ s.oncloseEnds = 1) ∧
    (∀ s', step s .onClose = some s' → ∀ i, ¬ executing s i) := by
  have hinv := inv_reachable h
  obtain ⟨g1, g2, g3, g3e, _, _, g6, _⟩ := hinv.glob
  refine ⟨?_, ?_, ?_, ?_, ?_⟩
  · rw [g3]; split <;> simp
  · rw [g3, g3e]; cases hl : s.loop <;> simp [onclosed, oncloseEnded]
  · intro h1
    have hon : onclosed s.loop = true := by
      cases ho : onclosed s.loop
      · rw [ho] at g3; simp [g3] at h1
      · rfl
    constructor
    · intro i he
      have := view_running (executing_loop h he)
      cases hl : s.loop <;> simp_all [onclosed, execOf]
    · intro a s' hs
      refine ⟨?_, ?_, ?_⟩
      · intro i e; subst e; simp only [step] at hs; split at hs
        · rename_i hl; rw [hl] at hon; simp [onclosed] at hon
        · cases hs
      · intro i e; subst e; simp only [step] at hs; split at hs
        · rename_i hl; rw [hl.2] at hon; simp [onclosed] at hon
        · cases hs
      · intro e; subst e; simp only [step] at hs; split at hs
        · rename_i hl; rw [hl] at hon; simp [onclosed] at hon
        · cases hs
  · intro hc
    have := g2.mp (g6 hc).1
    rw [g3, g3e, this]; simp [onclosed, oncloseEnded]
  · intro s' hs i he
    simp only [step] at hs; split at hs
    · rename_i hl
      have := view_running (executing_loop h he)
      rw [hl] at this; simp [execOf] at this
    · cases hs

example : ∃ s, Reachable s ∧ s.oncloseRuns = 1 ∧ s.closeReturned = true :=
  ⟨_, ⟨[.closeCall 0 false, .onceWin 0, .storeErr 0, .closeDoneCh 0, .loopDone, .onClose, .onCloseEnd, .closeTLD,
        .preStopNil 0, .onceExit 0, .waitTLD 0], rfl⟩, by decide +kernel⟩

/-- **Every trace of the model passes the spec monitor of C10** (all clauses, every execution,
any number of threads). -/
theorem C10_trace_passes_monitor (as : List Action) (s : State) (h : run init as = some s) :
    monitor (trace as) = none := by
  have hm : mrun M.init (trace as) = .ok (absM s) := sim_run inv_init as h
  simp [monitor, hm]

example : trace [.call 0, .errCheckPass 0, .handoff 0, .start 0, .finish 0, .closePriv 0, .wake 0] =
    [.submit 0, .taskStart 0, .taskEnd 0, .runReturn 0 .nil] := by decide +kernel

open IceSpec.C10.View in
/-- **View round trip (history tokens).** Every recorded event (including nested submits and unknown
errors) is read back from its canonical token by the reader the driver uses (`IceSpec/C10View.lean`; no
well-formedness hypothesis), and the string monitor on a printed history is the typed monitor. -/
theorem C10_view_roundtrip :
    (∀ e : HEv, parseTok (printH e) = some e) ∧ (∀ e : Ev, toEv (hevOf e) = some e) ∧
    (∀ h : List Ev, monitorToks ((h.map hevOf).map printH) = monitor h) :=
  ⟨IceProofs.C10View.parseTok_printH, IceProofs.C10View.toEv_hevOf, IceProofs.C10View.monitorToks_print⟩

open IceSpec.C10.View in
-- non-vacuity: the printed tokens are the protocol's tokens
example : [HEv.submit 0, .nested 0 12, .tstart 0, .tend 0, .ret 0 (some .nil), .ret 1 none, .ccall 0 true, .prestop, .cret 0].map printH
    = ["s0", "n0.12", "b0", "e0", "r0:n", "r1:?", "c0:1", "p", "d0"] := by decide +kernel

open IceSpec.C10.View in
/-- **Model ⊆ STRING monitor.** The printed trace of EVERY execution of the model is accepted by
`monitorToks`, the monitor the driver runs on the tokens recorded from the real loop. -/
theorem C10_model_passes_string_monitor (as : List Action) (s : State) (h : run init as = some s) :
    monitorToks (((trace as).map hevOf).map printH) = none := by
  rw [IceProofs.C10View.monitorToks_print]
  exact C10_trace_passes_monitor as s h

open IceSpec.C10.View in
example : ((trace [.call 0, .errCheckPass 0, .handoff 0, .start 0, .finish 0, .closePriv 0, .wake 0]).map hevOf).map printH =
    ["s0", "b0", "e0", "r0:n"] := by decide +kernel

/-- **No deadlock when `Run` is never called from inside a task.**  After any execution without
`callNested`, as long as some `Run` or `Close` call is in progress, some statement of the code (or the
return of the task / callback in progress) is enabled.  In particular the guards standing for "closing
a closed channel panics" never block, every `Run` eventually can return, every `Close` can return. -/
theorem C10_progress (as : List Action) (s : State) (h : run init as = some s)
    (hn : noReentry as = true)
    (hact : (∃ i, subActive (s.subs i) = true) ∨ (∃ j, closerActive (s.closers j) = true)) : CanStep s :=
  progress (inv_run inv_init as h) (notNested_run as h hn rfl) hact

example : noReentry [.call 0, .errCheckPass 0, .handoff 0, .start 0] = true := by decide +kernel
example : ∃ s, run init [.call 0, .errCheckPass 0, .handoff 0, .start 0] = some s ∧ subActive (s.subs 0) = true :=
  ⟨_, rfl, by decide +kernel⟩

/-- The excluded case: task 0 calls `Run` (call 1) from inside the loop thread and waits. -/
def reentryWitness : List Action :=
  [.call 0, .errCheckPass 0, .handoff 0, .start 0, .callNested 0 1, .errCheckPass 1]

/-- **Witness that the hypothesis of `C10_progress` is needed**: after `reentryWitness` call 1 is in
progress (blocked in the `select` of `Run`) and NO statement of the code can execute: the loop thread
waits for call 1, call 1 waits for the loop thread.  Only the environment (cancelling `ctx_1`, or a
`Close`) can resolve it. -/
theorem C10_reentry_deadlock_witness :
    ∃ s, run init reentryWitness = some s ∧ subActive (s.subs 1) = true ∧ ¬ CanStep s := by
  refine ⟨_, rfl, by decide +kernel, ?_⟩
  rintro ⟨a, ha, hen⟩
  cases a <;> simp [Action.isEnv] at ha <;>
    simp [step, init, upd, retSub] at hen
  all_goals (try (split at hen <;> simp_all))
  all_goals (split at hen <;> simp_all)

end IceProps.C10

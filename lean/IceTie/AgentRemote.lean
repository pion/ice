import IceProofs.AgentRemoteDecision
import IceGen.T_Remote
import IceGen.T_Cand
import IceTie.Basic
/-!
# Tie T for remote-candidate bookkeeping (agent.go `AddRemoteCandidate`, `addRemoteCandidate`) and for
`Cand.taEqual` / `Cand.equal` of the agent model (candidate_base.go)

`Agent.AddRemoteCandidate` and `Agent.addRemoteCandidate` are regenerated in effect mode (`IceGen.T_Remote`): the
list of effects in program order and the result, as a function of the values read.  The theorems give the list
for ALL arguments and relate it to the model: the TCP-active gate of `step (.addRemote …)`, the filter and
duplicate exits of `Agent.addRemoteCandidate`, the pairing rule for passive remotes.  The equality functions of
`IceGen.T_Cand`, with their parameters instantiated for two DISTINCT resolved candidates of the agent model, are
`Cand.taEqual` / `Cand.equal`.
-/
namespace IceTie.AgentRemote
open IceModel IceModel.AgentCore IceProofs.Agent

def eGoAdd : Eff := Eff.call "go:addRemoteCandidate" []
def eGoResolve : Eff := Eff.call "go:resolveAndAddMulticastCandidate" []

/-- **T: `Agent.AddRemoteCandidate`**, all arguments: nil and tcptype-active candidates are dropped; an mDNS host
name is dropped when mDNS is disabled (mode 1), an error when it is not a `*CandidateHost`, otherwise resolved in a
goroutine; everything else is handed to the task loop.  (`TCPTypeActive` = 1, `CandidateTypeHost` = 1,
`MulticastDNSModeDisabled` = 1.) -/
theorem AddRemoteCandidate_tie (isNil : Bool) (tcpType : Int64) (ty : UInt8) (dotLocal : Bool) (mdnsMode : UInt8)
    (isHostObject : Bool) :
    IceGen.agent_AddRemoteCandidate isNil tcpType ty dotLocal mdnsMode isHostObject
      = if isNil || tcpType == 1 then ([], "nil")
        else if ty == 1 && dotLocal then
          (if mdnsMode == 1 then ([], "nil")
           else if !isHostObject then ([], "ErrAddressParseFailed") else ([eGoResolve], "nil"))
        else ([eGoAdd], "nil") := by
  unfold IceGen.agent_AddRemoteCandidate Eff.pre
  cases isNil <;> cases (tcpType == 1) <;> cases (ty == 1 && dotLocal) <;> cases (mdnsMode == 1) <;>
    cases isHostObject <;> rfl

/-- for a signalled candidate `c` of the model (not nil, an IP literal): it reaches the task iff its tcptype is not
active — the gate of `step (.addRemote now c)` -/
theorem AddRemoteCandidate_gate (c : Cand) (ty : UInt8) (mdnsMode : UInt8) (isHostObject : Bool) (h : c.tt < 2 ^ 63) :
    (IceGen.agent_AddRemoteCandidate false (Int64.ofNat c.tt) ty false mdnsMode isHostObject).1
      = if c.tt == 1 then [] else [eGoAdd] := by
  rw [AddRemoteCandidate_tie]
  have e : (Int64.ofNat c.tt == 1) = (c.tt == 1) := ofNat_beq c.tt 1 h (by decide)
  simp only [Bool.false_or, Bool.and_false, e]
  cases (c.tt == 1) <;> rfl

def eReplace : Eff := Eff.call "replaceRedundantPrflx" []
def ePassive : Eff := Eff.call "addRemotePassiveTCPCandidate" []
def eAppend : Eff := Eff.call "appendRemote" []
def eStore : Eff := Eff.call "storeRemotes" []
def eFor : Eff := Eff.call "for:locals" []
def eAddPair : Eff := Eff.call "addPair" []
def eEnd : Eff := Eff.call "end:locals" []
def eCheck : Eff := Eff.call "requestConnectivityCheck" []

/-- **T: `Agent.addRemoteCandidate`**, all arguments: a filtered candidate → `false`, nothing touched; an `Equal`
candidate listed → `true`, nothing touched; otherwise supersede peer-reflexive candidates, (a passive candidate of an
enabled network type with active TCP on and the host candidate type enabled — fix of C18-G13 —: dial it), append and store, pair with every local candidate of the network
type that has no pair yet UNLESS the candidate is tcptype passive, request a check, `true`.  (`TCPTypePassive` = 2;
the loop over the local candidates is one iteration between `for:locals` and `end:locals`.) -/
theorem addRemoteCandidate_tie (accepted : Bool) (equalListed : List Bool) (disableActiveTCP : Bool) (tcpType : Int64)
    (hostEnabled netEnabled hasLocals noPair : Bool) :
    IceGen.agent_addRemoteCandidate accepted equalListed disableActiveTCP tcpType hostEnabled netEnabled hasLocals noPair
      = if !accepted then ([], false)
        else if equalListed.any id then ([], true)
        else ([eReplace] ++ (if !disableActiveTCP && tcpType == 2 && hostEnabled && netEnabled then [ePassive] else [])
              ++ [eAppend, eStore]
              ++ (if tcpType != 2 && hasLocals then [eFor] ++ (if noPair then [eAddPair] else []) ++ [eEnd] else [])
              ++ [eCheck], true) := by
  unfold IceGen.agent_addRemoteCandidate Eff.pre
  have hany : (equalListed.any fun candidate => candidate) = equalListed.any id := rfl
  rw [hany]
  cases accepted <;> cases (equalListed.any id) <;> try rfl
  have hne : (tcpType != 2) = !(tcpType == 2) := rfl
  rw [hne]
  cases disableActiveTCP <;> cases (tcpType == 2) <;> cases hostEnabled <;> cases netEnabled <;> cases hasLocals <;> cases noPair <;> rfl

/-- the model's filter and duplicate exits are the two exits of the Go task that touch nothing -/
theorem addRemoteCandidate_exits (a : Agent) (c : Cand) (dis : Bool) (tt : Int64) (he ne hl np : Bool) :
    (a.cfg.blockedIPs.contains (ipOf c.addr) = true →
      IceGen.agent_addRemoteCandidate false ((a.remotes.filter (·.net == c.net)).map (·.equal c)) dis tt he ne hl np = ([], false)
      ∧ a.addRemoteCandidate c = (a, [], none)) ∧
    (∀ e, a.cfg.blockedIPs.contains (ipOf c.addr) = false →
      (a.remotes.filter (·.net == c.net)).find? (·.equal c) = some e →
      IceGen.agent_addRemoteCandidate true ((a.remotes.filter (·.net == c.net)).map (·.equal c)) dis tt he ne hl np = ([], true)
      ∧ a.addRemoteCandidate c = (a, [], some e)) := by
  refine ⟨fun h => ⟨by rw [addRemoteCandidate_tie]; rfl, addRemoteCandidate_filtered a c h⟩, fun e h hd => ⟨?_, addRemoteCandidate_duplicate a c e h hd⟩⟩
  rw [addRemoteCandidate_tie]
  have := duplicate_iff_any a c
  rw [hd] at this
  simp only [Option.isSome_some] at this
  simp [← this]

/-- the pairing rule: the Go task runs the pairing loop iff the candidate is not tcptype passive, and the model pairs
with the local candidates of the network type iff `c.tt != 2` -/
theorem addRemoteCandidate_pairing (a : Agent) (c : Cand) (h : c.tt < 2 ^ 63) (eq : List Bool) (dis he ne np : Bool)
    (hnodup : eq.any id = false) :
    (IceGen.agent_addRemoteCandidate true eq dis (Int64.ofNat c.tt) he ne true np).1.contains eFor = (c.tt != 2) ∧
    (a.locals.filter fun (x : Cand) => x.net == c.net && c.tt != 2)
      = (if c.tt != 2 then a.locals.filter (fun x => x.net == c.net) else []) := by
  refine ⟨?_, pairing_locals a c⟩
  rw [addRemoteCandidate_tie]
  have e : (Int64.ofNat c.tt == 2) = (c.tt == 2) := ofNat_beq c.tt 2 h (by decide)
  have hne : (Int64.ofNat c.tt != 2) = !(Int64.ofNat c.tt == 2) := rfl
  have hne' : (c.tt != 2) = !(c.tt == 2) := rfl
  rw [hne, e, hnodup, hne']
  generalize (c.tt == 2) = b
  cases b <;> cases dis <;> cases he <;> cases ne <;> cases np <;> decide

/-- the kind of the resolved `net.Addr`: a `*net.TCPAddr` iff the network type is TCP and the candidate is host or
peer-reflexive (`createAddr`); server-reflexive and relay candidates resolve to a `*net.UDPAddr` -/
def tcpAddrKind (c : Cand) : Bool := isTCP c.net && !c.udpResolved

/-- address ids are tagged by the network (`AgentCore.tcpBase`): UDP ids below `tcpBase`, TCP ids in
`[tcpBase, 2·tcpBase)` -/
def AddrWF (c : Cand) : Prop :=
  (isTCP c.net = true → tcpBase ≤ c.addr ∧ c.addr < 2 * tcpBase) ∧ (isTCP c.net = false → c.addr < tcpBase)

theorem addr_eq_iff (a b : Cand) (ha : AddrWF a) (hb : AddrWF b) (hn : a.net = b.net) :
    (a.addr = b.addr) ↔ (ipOf a.addr = ipOf b.addr ∧ a.addr % 16 = b.addr % 16) := by
  unfold AddrWF at ha hb
  rw [← hn] at hb
  unfold ipOf tcpBase at *
  cases ht : isTCP a.net
  · have h1 := ha.2 ht; have h2 := hb.2 ht; omega
  · have h1 := ha.1 ht; have h2 := hb.1 ht; omega

/-- **T: `transportAddressEqual` on two distinct candidates of the agent model.**  `c.addr() != other.addr()` is true
(two objects) and neither is nil; `addrEqual` compares the kind of `net.Addr`, the canonical IP and the port;
`sameAddressLiteral` compares canonical IPs (`form` plays no role); the port is the id's port slot -/
theorem taEqual_tie (a b : Cand) (ha : AddrWF a) (hb : AddrWF b)
    (hna : a.net < 2 ^ 62) (hnb : b.net < 2 ^ 62) (hta : a.tt < 2 ^ 63) (htb : b.tt < 2 ^ 63) :
    IceGen.candidateBase_transportAddressEqual true false false
        (tcpAddrKind a == tcpAddrKind b && ipOf a.addr == ipOf b.addr && a.addr % 16 == b.addr % 16)
        (Int64.ofNat (a.net + 1)) (Int64.ofNat (b.net + 1)) (ipOf a.addr == ipOf b.addr)
        (Int64.ofNat (a.addr % 16)) (Int64.ofNat (b.addr % 16)) (Int64.ofNat a.tt) (Int64.ofNat b.tt)
      = a.taEqual b := by
  unfold IceGen.candidateBase_transportAddressEqual Cand.taEqual
  rw [ofNat_beq _ _ (by omega) (by omega), ofNat_beq _ _ (by omega) (by omega), ofNat_beq _ _ hta htb]
  simp only [if_true, Bool.or_self, Bool.false_eq_true, if_false]
  by_cases hn : a.net = b.net
  · have hiff := addr_eq_iff a b ha hb hn
    by_cases hadd : a.addr = b.addr
    · obtain ⟨h1, h2⟩ := hiff.mp hadd
      unfold tcpAddrKind
      simp only [hn, hadd, beq_self_eq_true, Bool.and_true, Bool.true_and]
      cases isTCP b.net <;> cases a.udpResolved <;> cases b.udpResolved <;> cases (a.tt == b.tt) <;> rfl
    · have hne : ¬ (ipOf a.addr = ipOf b.addr ∧ a.addr % 16 = b.addr % 16) := fun h => hadd (hiff.mpr h)
      have e1 : (a.addr == b.addr) = false := beq_eq_false_iff_ne.mpr hadd
      rw [e1]
      by_cases hi : ipOf a.addr = ipOf b.addr
      · have hp : (a.addr % 16 == b.addr % 16) = false := beq_eq_false_iff_ne.mpr (fun h => hne ⟨hi, h⟩)
        simp [hp]
      · have hp : (ipOf a.addr == ipOf b.addr) = false := beq_eq_false_iff_ne.mpr hi
        simp [hp]
  · have e1 : (a.net == b.net) = false := beq_eq_false_iff_ne.mpr hn
    have e2 : (a.net + 1 == b.net + 1) = false := beq_eq_false_iff_ne.mpr (by omega)
    rw [e1, e2]
    simp

/-- **T: `Equal`** composed with the regenerated `transportAddressEqual`, on the model's candidates: the related
address is compared as a whole (`rel`) -/
theorem equal_tie (a b : Cand) (ha : AddrWF a) (hb : AddrWF b)
    (hna : a.net < 2 ^ 62) (hnb : b.net < 2 ^ 62) (hta : a.tt < 2 ^ 63) (htb : b.tt < 2 ^ 63)
    (hya : a.ty < 256) (hyb : b.ty < 256) :
    IceGen.candidateBase_Equal
        (IceGen.candidateBase_transportAddressEqual true false false
          (tcpAddrKind a == tcpAddrKind b && ipOf a.addr == ipOf b.addr && a.addr % 16 == b.addr % 16)
          (Int64.ofNat (a.net + 1)) (Int64.ofNat (b.net + 1)) (ipOf a.addr == ipOf b.addr)
          (Int64.ofNat (a.addr % 16)) (Int64.ofNat (b.addr % 16)) (Int64.ofNat a.tt) (Int64.ofNat b.tt))
        (UInt8.ofNat a.ty) (UInt8.ofNat b.ty) (a.rel == b.rel)
      = a.equal b := by
  rw [taEqual_tie a b ha hb hna hnb hta htb]
  unfold IceGen.candidateBase_Equal Cand.equal
  rw [u8ofNat_beq _ _ hya hyb]

end IceTie.AgentRemote

import IceModel.TcpMux
import IceGen.T_Mux
/-!
# Tie T, round 3: where a new TCP connection goes (tcp_mux.go `handleConn`)

`TCPMuxDefault.handleConn` (whole function) is regenerated from the Go source on every run (`IceGen.T_Mux`, effect mode).  The
ufrag extraction `strings.Split(string(attr), ":")[0]` and the family test are pinned statements; the theorem states the effect
list for all outcomes of the tests, the corollary that a connection is attached iff every test passed and closed exactly once
otherwise — the decision of the model's `TcpMux.classify`.
-/
namespace IceTie.MuxTcp
open IceModel

def c (name : String) : Eff := Eff.call name []

/-- every test of the first frame passed -/
def tcpAccepted (readErr decodeErr mNil : Bool) (method : UInt16) (noUsername hostErr localIsTCP known createErr : Bool) : Bool :=
  !readErr && !decodeErr && !mNil && method == 1 && !noUsername && !hostErr && localIsTCP && (known || !createErr)

def tcpRoute (known : Bool) : List Eff :=
  [c "ufrag := USERNAME up to the first ':'", c "isIPv6 := remote host is not IPv4", c "mu.Lock", c "getConn(ufrag, isIPv6, local IP)"] ++
  (if known then [] else [c "createConn(ufrag, isIPv6, local IP, fromStun)"]) ++ [c "mu.Unlock"]

def tcpClose : Eff := c "close(conn)"
def tcpAdd : Eff := c "AddConn(conn, first frame); close(conn) on error"

/-- **T: `TCPMuxDefault.handleConn`**: the first frame is read (under the first-bind deadline when configured); a read error, a
frame that does not decode, a non-Binding method, a missing USERNAME, an unparsable remote host or a non-TCP local address each
close the connection and nothing else; otherwise the ufrag is the USERNAME up to the first ':', the packet conn is looked up —
created if missing — under `mu`, a failed creation closes the connection, and the connection is handed over with its first frame
AFTER the unlock -/
theorem handleConn_tie (hasTimeout armErr readErr shortBuf disarmErr decodeErr mNil : Bool) (method : UInt16)
    (noUsername hostErr localIsTCP known createErr : Bool) :
    IceGen.tcpMux_handleConn hasTimeout armErr readErr shortBuf disarmErr decodeErr mNil method noUsername hostErr localIsTCP known createErr
      = if readErr then [tcpClose]
        else c "msg := copy of the first frame" ::
          (if decodeErr || mNil || method != 1 || noUsername then [tcpClose]
           else if hostErr then [c "ufrag := USERNAME up to the first ':'", tcpClose]
           else if !localIsTCP then [c "ufrag := USERNAME up to the first ':'", c "isIPv6 := remote host is not IPv4", tcpClose]
           else tcpRoute known ++ (if !known && createErr then [tcpClose] else [tcpAdd])) := by
  unfold IceGen.tcpMux_handleConn
  cases readErr
  · simp only [Bool.false_eq_true, if_false, ite_self]
    cases decodeErr; rotate_left; rfl
    cases mNil; rotate_left; rfl
    cases (method != 1); rotate_left; rfl
    cases noUsername; rotate_left; rfl
    cases hostErr; rotate_left; rfl
    cases localIsTCP; rfl
    cases known <;> cases createErr <;> rfl
  · simp only [if_true, ite_self]
    rfl

theorem handleConn_attach_iff (hasTimeout armErr readErr shortBuf disarmErr decodeErr mNil : Bool) (method : UInt16)
    (noUsername hostErr localIsTCP known createErr : Bool) :
    let l := IceGen.tcpMux_handleConn hasTimeout armErr readErr shortBuf disarmErr decodeErr mNil method noUsername hostErr localIsTCP known createErr
    (l.count tcpAdd = if tcpAccepted readErr decodeErr mNil method noUsername hostErr localIsTCP known createErr then 1 else 0) ∧
    (l.count tcpClose = if tcpAccepted readErr decodeErr mNil method noUsername hostErr localIsTCP known createErr then 0 else 1) := by
  intro l
  have hl : l = _ := handleConn_tie hasTimeout armErr readErr shortBuf disarmErr decodeErr mNil method noUsername hostErr localIsTCP known createErr
  rw [hl]
  unfold tcpAccepted
  have hb : (method != 1) = !(method == 1) := rfl
  rw [hb]
  -- the tests in the order of the code: the first that fails decides, whatever the later ones say
  cases readErr; rotate_left; exact ⟨rfl, rfl⟩
  cases decodeErr; rotate_left; exact ⟨rfl, rfl⟩
  cases mNil; rotate_left; exact ⟨rfl, rfl⟩
  cases (method == 1); exact ⟨rfl, rfl⟩
  cases noUsername; rotate_left; exact ⟨rfl, rfl⟩
  cases hostErr; rotate_left; exact ⟨rfl, rfl⟩
  cases localIsTCP; exact ⟨rfl, rfl⟩
  cases known <;> cases createErr <;> exact ⟨rfl, rfl⟩

theorem classify_iff (f : TcpMux.Frame) (u : String) :
    TcpMux.classify f = some u ↔ f.len ≤ TcpMux.firstFrameMax ∧ f.kind = .user u := by
  unfold TcpMux.classify
  by_cases h : f.len ≤ TcpMux.firstFrameMax
  · cases hk : f.kind <;> simp [h]
  · simp [h]

end IceTie.MuxTcp

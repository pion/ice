import IceProofs.AgentSuccessDecision
import IceGen.T_Select
import IceTie.Basic
/-!
# Tie T for `HandleSuccessResponse` of both selectors and `isNominatable` (selection.go)

`controllingSelector.HandleSuccessResponse`, `controlledSelector.HandleSuccessResponse` (effect mode: the whole
function becomes the list of its effects in program order, as a function of the values it reads) and
`controllingSelector.isNominatable` are regenerated from the Go source on every run (`IceGen.T_Select`).

For ALL arguments the effect list is: `takePending` (`handleInboundBindingSuccess`), and — only when the
transaction was found, the response is symmetric and the pair exists — `pair.state := Succeeded`, the
selector's decision, `UpdateRoundTripTime`.  The decision is `ctlSuccessDecision` / `cldSuccessDecision` of
`IceProofs/AgentSuccessDecision.lean`, which `Agent.handleSuccess` of the model is built from
(`handleSuccess_nf`).  A changed comparison, a dropped or reordered branch, a missing or additional
`setSelectedPair` in the Go source changes the generated list and these theorems stop checking.
-/
namespace IceTie.AgentSuccess
open IceModel IceModel.AgentCore IceProofs.Agent

/-- pointer encoding of the translator: (`p != nil`, `*p`) -/
def optOf (has : Bool) (v : UInt32) : Option Nat := if has then some v.toNat else none

def eTake : Eff := Eff.call "takePending" []
/-- `CandidatePairStateSucceeded` = 4 (`iota + 1`: Waiting, InProgress, Failed, Succeeded) -/
def eSucceeded : Eff := Eff.set "pair.state" (Val.i 4)
def eSelect : Eff := Eff.call "setSelectedPair" []
def eRTT : Eff := Eff.call "updateRTT" []
def eAnswered (v : UInt32) : Eff := Eff.set "s.answeredNomination" (Val.n v.toNat)
def eClear : List Eff :=
  [Eff.set "pair.nominateOnBindingSuccess" (Val.b false), Eff.set "pair.deferredNominationValue" (Val.s "nil")]

/-- effects of the controlling decision `d` = (new `answeredNomination`, select?) for a request whose nomination
value is (`hasValue`, `value`): the value is recorded exactly when a VALUED nomination is followed -/
def ctlEffs (d : Option Nat × Bool) (hasValue : Bool) (value : UInt32) : List Eff :=
  if d.2 then (if hasValue then [eAnswered value] else []) ++ [eSelect] else []

/-- **T: `controllingSelector.HandleSuccessResponse`**, all arguments -/
theorem ctlHandleSuccess_tie (found symmetric hasPair useCand hasSelected hasValue : Bool) (value : UInt32)
    (hasAnswered : Bool) (answered : UInt32) :
    IceGen.controllingSelector_HandleSuccessResponse found symmetric hasPair useCand hasSelected hasValue value
        hasAnswered answered
      = eTake :: (if found && symmetric && hasPair then
          eSucceeded :: (ctlEffs (ctlSuccessDecision useCand (optOf hasValue value) (optOf hasAnswered answered) hasSelected)
            hasValue value ++ [eRTT])
        else []) := by
  unfold IceGen.controllingSelector_HandleSuccessResponse ctlEffs ctlSuccessDecision optOf
  rw [u32_le]
  cases found <;> cases symmetric <;> cases hasPair <;> try rfl
  cases useCand <;> cases hasValue <;> cases hasSelected <;> cases hasAnswered <;> try rfl
  all_goals (by_cases hv : value.toNat ≤ answered.toNat <;> simp [hv, eTake, eSucceeded, eSelect, eRTT, eAnswered])

theorem ctl_answered (useCand hasSelected hasValue : Bool) (value : UInt32) (answered : Option Nat) :
    (ctlSuccessDecision useCand (optOf hasValue value) answered hasSelected).1
      = if (ctlSuccessDecision useCand (optOf hasValue value) answered hasSelected).2 && hasValue
        then some value.toNat else answered := by
  unfold ctlSuccessDecision optOf
  cases useCand <;> cases hasValue <;> cases hasSelected <;> cases answered <;> simp
  all_goals (split <;> simp_all)

theorem cldSuccessDecision_optOf (hv hl hs sp np : Bool) (v l : UInt32) (a b : Nat) :
    cldSuccessDecision (optOf hv v) (optOf hl l) hs sp np a b =
      if hv then hl && !decide (v.toNat < l.toNat) && !sp
      else !hs || (!sp && !hl && (!np || decide (a ≤ b))) := by
  cases hv <;> cases hl <;> cases hs <;> cases sp <;> simp [cldSuccessDecision, optOf]

/-- **T: `controlledSelector.HandleSuccessResponse`**, all arguments -/
theorem cldHandleSuccess_tie (found symmetric hasPair nomOnSuccess hasSelected samePair hasValue : Bool) (value : UInt32)
    (hasLast : Bool) (last : UInt32) (needsPrio : Bool) (selectedPrio pairPrio : UInt64) :
    IceGen.controlledSelector_HandleSuccessResponse found symmetric hasPair nomOnSuccess hasSelected samePair hasValue
        value hasLast last needsPrio selectedPrio pairPrio
      = eTake :: (if found && symmetric && hasPair then
          eSucceeded :: ((if nomOnSuccess then
              (if cldSuccessDecision (optOf hasValue value) (optOf hasLast last) hasSelected samePair needsPrio
                    selectedPrio.toNat pairPrio.toNat then [eSelect] else []) ++ eClear
            else []) ++ [eRTT])
        else []) := by
  unfold IceGen.controlledSelector_HandleSuccessResponse
  rw [u32_lt, u64_le, cldSuccessDecision_optOf]
  -- with the two comparisons as atoms both sides are functions of eleven Booleans; the early exits first, then the table
  generalize decide (value.toNat < last.toNat) = lt
  generalize decide (selectedPrio.toNat ≤ pairPrio.toNat) = le
  cases found <;> cases symmetric <;> cases hasPair <;> try rfl
  cases nomOnSuccess <;> try rfl
  revert hasValue hasLast hasSelected samePair needsPrio lt le
  decide

/-- a non-negative `time.Duration` (`Nanoseconds()`) as `Nat` nanoseconds -/
def dur (x : Int64) : Nat := x.toInt.toNat

/-- **T: `controllingSelector.isNominatable`** — every candidate type code, all non-negative durations -/
theorem isNominatable_tie (ty : UInt8) (elapsed hw sw pw rw : Int64)
    (h0 : 0 ≤ elapsed.toInt) (h1 : 0 ≤ hw.toInt) (h2 : 0 ≤ sw.toInt) (h3 : 0 ≤ pw.toInt) (h4 : 0 ≤ rw.toInt) :
    IceGen.controllingSelector_isNominatable ty elapsed hw sw pw rw
      = nominatableAt ty.toNat (dur elapsed) (dur hw) (dur sw) (dur pw) (dur rw) := by
  unfold IceGen.controllingSelector_isNominatable nominatableAt
  simp only [GE.ge, nat_le h1 h0, nat_le h2 h0, nat_le h3 h0, nat_le h4 h0, u8_beq]
  rfl

theorem isNominatable_model (a : Agent) (now : Nat) (c : Cand) (ty : UInt8) (elapsed hw sw pw rw : Int64)
    (h0 : 0 ≤ elapsed.toInt) (h1 : 0 ≤ hw.toInt) (h2 : 0 ≤ sw.toInt) (h3 : 0 ≤ pw.toInt) (h4 : 0 ≤ rw.toInt)
    (ht : ty.toNat = c.ty) (he : dur elapsed = now - a.selStart) (e1 : dur hw = a.cfg.hostWait)
    (e2 : dur sw = a.cfg.srflxWait) (e3 : dur pw = a.cfg.prflxWait) (e4 : dur rw = a.cfg.relayWait) :
    IceGen.controllingSelector_isNominatable ty elapsed hw sw pw rw = a.nominatable now c := by
  rw [isNominatable_tie ty elapsed hw sw pw rw h0 h1 h2 h3 h4, nominatable_inline, ht, he, e1, e2, e3, e4]

end IceTie.AgentSuccess

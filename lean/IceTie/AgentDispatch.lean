import IceModel.AgentCore
import IceGen.T_Round3
import IceTie.AgentInbound
/-!
# Tie T, round 3: the inbound STUN dispatch of agent.go and the two senders

`Agent.handleInbound`, `Agent.handleInboundResponse`, `Agent.handleInboundRequest`, `Agent.sendBindingSuccess` (agent.go) and
`controllingSelector.nominatePair` (selection.go) are regenerated from the Go source on every run (`IceGen.T_Round3`, effect
mode): the calls in program order as a function of the tests made.  What an atom means (`AssertUsername` fails iff the
USERNAME is not `localUfrag:remoteUfrag`, `MessageIntegrity(pwd).Check` fails iff the key is not `pwd`, …) is the spec's
parameter table; the theorems are about the ORDER of the gates and what each outcome lets through.
-/
namespace IceTie.AgentDispatch
open IceModel IceModel.AgentCore

def c (name : String) : Eff := Eff.call name []
def seen : Eff := Eff.call "remoteCandidate.seen" [Val.b false]

/-- **T: `Agent.handleInbound`**: nil message / nil local candidate and everything `canHandleInbound` rejects does nothing; a
success response (class 2) goes to `handleInboundResponse`, a request (class 0) to `handleInboundRequest`; the remote
candidate's last-received time is refreshed (`seen(false)`) AFTER the handler and only when the handler accepted the message —
for a request the candidate is the one the handler returns (possibly the newly discovered prflx); an indication refreshes a
known remote only. -/
theorem handleInbound_tie (msgNil localNil : Bool) (method : UInt16) (cls : UInt8) (hasRemote respOk reqOk hasRemoteAfter : Bool) :
    IceGen.agent_handleInbound msgNil localNil method cls hasRemote respOk reqOk hasRemoteAfter
      = if msgNil || localNil || !(IceGen.canHandleInbound method cls) then []
        else if cls == 2 then c "handleInboundResponse" :: (if respOk && hasRemote then [seen] else [])
        else if cls == 0 then c "handleInboundRequest" :: (if reqOk && hasRemoteAfter then [seen] else [])
        else if hasRemote then [seen] else [] := by
  unfold IceGen.agent_handleInbound
  -- along the `if` chain: each early `return` decides both sides, each class branch reads its own two arguments
  cases msgNil
  case true => simp
  cases localNil
  case true => simp
  cases (IceGen.canHandleInbound method cls)
  case false => simp
  cases (cls == 2)
  case true => cases respOk <;> cases hasRemote <;> rfl
  cases (cls == 0)
  case true => cases reqOk <;> cases hasRemoteAfter <;> rfl
  cases hasRemote <;> rfl

/-- nothing is refreshed for a message a handler rejected -/
theorem handleInbound_rejected_no_seen (method : UInt16) (cls : UInt8) (hasRemote hasRemoteAfter : Bool) :
    seen ∉ IceGen.agent_handleInbound false false method cls hasRemote false false hasRemoteAfter ∨ (cls != 2 && cls != 0) = true := by
  rw [handleInbound_tie]
  cases (IceGen.canHandleInbound method cls) <;> cases h2 : (cls == 2) <;> cases h0 : (cls == 0) <;>
    simp [h2, h0, c, seen, bne]

theorem handleInbound_model_indication (a : Agent) (now : Nat) (l : Cand) (src : Nat) (m : Msg)
    (hm : m.method = 1) (hc : m.cls = 1) :
    a.handleInbound now l src m =
      match a.findRemote l.net src with
      | some r => (a.seenRemoteRecv r.uid now, [])
      | none => (a, []) := by
  unfold Agent.handleInbound
  simp [hm, hc]
  cases a.findRemote l.net src <;> rfl

/-- **T: `Agent.handleInboundResponse`**: integrity under the REMOTE password first, then the remote candidate must be known;
only then the selector's `HandleSuccessResponse` runs and the answer is `true` -/
theorem handleInboundResponse_tie (integrityErr remoteNil : Bool) :
    IceGen.agent_handleInboundResponse integrityErr remoteNil
      = if !integrityErr && !remoteNil then ([c "selector.HandleSuccessResponse"], true) else ([], false) := by
  cases integrityErr <;> cases remoteNil <;> rfl

theorem handleInbound_model_response (a : Agent) (now : Nat) (l : Cand) (src : Nat) (m : Msg)
    (hm : m.method = 1) (hc : m.cls = 2) :
    a.handleInbound now l src m =
      if m.key != some a.remotePwd then (a, [])
      else match a.findRemote l.net src with
        | none => (a, [])
        | some r => (((a.handleSuccess now m l r src).1).seenRemoteRecv r.uid now, (a.handleSuccess now m l r src).2) := by
  unfold Agent.handleInbound
  simp only [hm, hc]
  cases (m.key != some a.remotePwd)
  · cases a.findRemote l.net src <;> rfl
  · rfl

inductive ReqOutcome where
  | dropped        -- username / integrity / prflx creation failed: nothing (beyond the attempts listed) happens
  | conflict       -- role conflict: handled, never treated as a check
  | check          -- handed to the selector's HandleBindingRequest
  deriving DecidableEq, Repr

/-- effects of discovering a peer-reflexive remote (the source was unknown) up to `addRemoteCandidate` -/
def prflxEffs (prioErr newErr : Bool) : List Eff :=
  [c "prflxConfig(net,canonical remote addr,port,local component)"] ++
  (if prioErr then [] else [Eff.set "prflxCandidateConfig.Priority" (Val.s "PRIORITY attribute")]) ++
  (if newErr then [] else [c "remoteCandidate = prflxCandidate", c "addRemoteCandidate"])

def roleEffs (roleErr sameRole : Bool) : List Eff × (String × Bool) :=
  if !roleErr && sameRole then ([c "handleRoleConflict"], ("nil", false))
  else ([c "selector.HandleBindingRequest"], ("remoteCandidate", true))

/-- **T: `Agent.handleInboundRequest`**: USERNAME first, then integrity under the LOCAL password — nothing else happens for a
message failing either; an unknown source is turned into a peer-reflexive candidate (priority from the PRIORITY attribute when
present) and must be accepted by `addRemoteCandidate`; a role conflict (`GetFrom` succeeded and same role) is handled and the
request is NOT a check (`ok = false`: no `seen`); otherwise the selector's `HandleBindingRequest` runs and the (possibly new)
remote candidate is returned with `ok = true` -/
theorem handleInboundRequest_tie (userErr integrityErr remoteNil netErr prioErr newErr added roleErr sameRole : Bool) :
    IceGen.agent_handleInboundRequest userErr integrityErr remoteNil netErr prioErr newErr added roleErr sameRole
      = if userErr || integrityErr then ([], ("nil", false))
        else if remoteNil then
          (if netErr then ([], ("nil", false))
           else if newErr || !added then (prflxEffs prioErr newErr, ("nil", false))
           else (prflxEffs prioErr newErr ++ (roleEffs roleErr sameRole).1, (roleEffs roleErr sameRole).2))
        else roleEffs roleErr sameRole := by
  unfold IceGen.agent_handleInboundRequest
  -- along the `if` chain; the role test at the end of the known-remote and of the discovery path reads two arguments
  cases userErr
  case true => simp
  cases integrityErr
  case true => simp
  cases remoteNil
  case false => cases roleErr <;> cases sameRole <;> rfl
  cases netErr
  case true => rfl
  cases newErr
  case true => cases prioErr <;> rfl
  cases added
  case false => cases prioErr <;> rfl
  cases prioErr <;> cases roleErr <;> cases sameRole <;> rfl

theorem handleInboundRequest_unauthenticated (userErr integrityErr remoteNil netErr prioErr newErr added roleErr sameRole : Bool)
    (h : (userErr || integrityErr) = true) :
    IceGen.agent_handleInboundRequest userErr integrityErr remoteNil netErr prioErr newErr added roleErr sameRole
      = ([], ("nil", false)) := by
  rw [handleInboundRequest_tie, if_pos h]

theorem handleInbound_model_request_unauthenticated (a : Agent) (now : Nat) (l : Cand) (src : Nat) (m : Msg)
    (hm : m.method = 1) (hc : m.cls = 0)
    (h : m.user ≠ some (a.localUfrag ++ ":" ++ a.remoteUfrag) ∨ m.key ≠ some a.localPwd) :
    a.handleInbound now l src m = (a, []) := by
  unfold Agent.handleInbound
  simp only [hm, hc]
  by_cases hu : m.user = some (a.localUfrag ++ ":" ++ a.remoteUfrag)
  · have hk : m.key ≠ some a.localPwd := by
      cases h with
      | inl h => exact absurd hu h
      | inr h => exact h
    simp [hu, hk]
  · simp [hu]

/-- a role conflict never reaches the selector and never counts as received traffic -/
theorem handleInboundRequest_conflict (remoteNil prioErr : Bool) :
    IceGen.agent_handleInboundRequest false false remoteNil false prioErr false true false true
      = ((if remoteNil then prflxEffs prioErr false else []) ++ [c "handleRoleConflict"], ("nil", false)) := by
  rw [handleInboundRequest_tie]
  cases remoteNil <;> cases prioErr <;> rfl

/-- **T: `Agent.sendBindingSuccess`**: the response carries the request's transaction (`m`), class success, the
XOR-MAPPED-ADDRESS of the REMOTE candidate, integrity under the LOCAL password and the fingerprint; the pair's response
counter (when the pair exists) is bumped BEFORE the one `sendSTUN`; an unparsable remote address or a build failure sends
nothing -/
theorem sendBindingSuccess_tie (parseErr buildErr hasPair : Bool) :
    IceGen.agent_sendBindingSuccess parseErr buildErr hasPair
      = if parseErr then []
        else [c "attrs(m,BindingSuccess,XORMappedAddress(remote))", c "attrs+=(Integrity(localPwd),Fingerprint)"] ++
          (if buildErr then [] else (if hasPair then [c "pair.UpdateResponseSent"] else []) ++ [c "sendSTUN"]) := by
  cases parseErr <;> cases buildErr <;> cases hasPair <;> rfl

/-- **T: `controllingSelector.nominatePair`**: a Binding request with USERNAME `remoteUfrag:localUfrag`, USE-CANDIDATE,
ICE-CONTROLLING(tie breaker), PRIORITY of the local candidate, integrity under the REMOTE password, fingerprint; sent through
`sendBindingRequest` (which records the transaction) unless the build fails -/
theorem nominatePair_tie (buildErr : Bool) :
    IceGen.controllingSelector_nominatePair buildErr
      = [c "attrs(BindingRequest,TransactionID,Username(remote:local),UseCandidate,Controlling,Priority)",
         c "attrs+=(Integrity(remotePwd),Fingerprint)"] ++ (if buildErr then [] else [c "sendBindingRequest"]) := by
  cases buildErr <;> rfl

theorem nominate_model (a : Agent) (now : Nat) (p : Pair) (l r : Cand) (hl : a.localOf p.l = some l) (hr : a.remoteOf p.r = some r) :
    a.nominate now p = a.sendRequest now l r true none := by
  unfold Agent.nominate
  rw [hl, hr]

theorem sendRequest_msg (a : Agent) (now : Nat) (l r : Cand) (uc : Bool) (nom : Option Nat) :
    ∃ tid, (a.sendRequest now l r uc nom).2 =
      [.dgram l.addr r.addr { cls := 0, tid := tid, user := some (a.remoteUfrag ++ ":" ++ a.localUfrag), key := some a.remotePwd,
                               prio := some l.prio, useCand := uc, role := some (a.controlling, a.tieBreaker), nom := nom }] := by
  refine ⟨2 * a.nextTid + a.tag, ?_⟩
  unfold Agent.sendRequest
  simp only [Agent.invalidatePending]
  cases hfp : Agent.findPair _ l r <;> rfl

end IceTie.AgentDispatch

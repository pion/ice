import IceModel.AgentCore
import IceGen.T_Options
/-!
# Tie T, round 4: the option functions of agent_options.go that feed the (tied) defaults table

Every `WithX(v)` returns a closure `func(a *Agent) error`; the closure is regenerated from the Go source on every run
(`IceGen.T_Options`, effect mode with a result: the field assignments in program order and the error returned).  The theorems
state, for all arguments: an option applied to a constructed agent is refused (`ErrAgentOptionNotUpdatable`) and writes nothing;
otherwise its validation guard, and exactly the listed field writes.  `applyEffs` reads such a list of writes as an update of the
model's `Config` (ns as `Nat`; the field table is `applyEff`), and the `_cfg` lemmas give the `Config` each option produces — the
configuration space the model's agents are started with (`Agent.cfg`).
-/
namespace IceTie.Options
open IceModel IceModel.AgentCore

/-- the common frame of every option: refused once the agent is constructed -/
def guard (constructed : Bool) (r : List Eff × String) : List Eff × String :=
  if constructed then ([], "ErrAgentOptionNotUpdatable") else r

def setI (f : String) (v : Int64) : Eff := Eff.set f (Val.i v.toInt)
def setN (f : String) (v : UInt16) : Eff := Eff.set f (Val.n v.toNat)
def setB (f : String) (v : Bool) : Eff := Eff.set f (Val.b v)

/-- the field table: which `Config` field of the model an assignment of the code writes (durations in ns) -/
def applyEff (cfg : Config) : Eff → Config
  | .set f (.i v) =>
    if f == "a.disconnectedTimeout" then { cfg with disconnectedTimeout := v.toNat }
    else if f == "a.failedTimeout" then { cfg with failedTimeout := v.toNat }
    else if f == "a.keepaliveInterval" then { cfg with keepaliveInterval := v.toNat }
    else if f == "a.checkInterval" then { cfg with checkInterval := v.toNat }
    else if f == "a.hostAcceptanceMinWait" then { cfg with hostWait := v.toNat }
    else if f == "a.srflxAcceptanceMinWait" then { cfg with srflxWait := v.toNat }
    else if f == "a.prflxAcceptanceMinWait" then { cfg with prflxWait := v.toNat }
    else if f == "a.relayAcceptanceMinWait" then { cfg with relayWait := v.toNat }
    else if f == "a.renominationInterval" then { cfg with renomInterval := v.toNat }
    else cfg
  | .set f (.n v) =>
    if f == "a.maxBindingRequests" then { cfg with maxBindingRequests := v } else cfg
  | .set f (.b v) =>
    if f == "a.disconnectedTimeoutExplicit" then { cfg with disconnectedExplicit := v }
    else if f == "a.lite" then { cfg with lite := v }
    else if f == "a.enableUseCandidateCheckPriority" then { cfg with useCandCheckPriority := v }
    else if f == "a.enableRenomination" then { cfg with enableRenomination := v }
    else if f == "a.automaticRenomination" then { cfg with autoRenom := v }
    else cfg
  | _ => cfg

def applyEffs (cfg : Config) (l : List Eff) : Config := l.foldl applyEff cfg

theorem WithDisconnectedTimeout_tie (constructed : Bool) (timeout : Int64) :
    IceGen.opt_WithDisconnectedTimeout constructed timeout
      = guard constructed ([setI "a.disconnectedTimeout" timeout, setB "a.disconnectedTimeoutExplicit" true], "nil") := by
  cases constructed <;> rfl

theorem WithFailedTimeout_tie (constructed : Bool) (timeout : Int64) :
    IceGen.opt_WithFailedTimeout constructed timeout = guard constructed ([setI "a.failedTimeout" timeout], "nil") := by
  cases constructed <;> rfl

theorem WithKeepaliveInterval_tie (constructed : Bool) (interval : Int64) :
    IceGen.opt_WithKeepaliveInterval constructed interval = guard constructed ([setI "a.keepaliveInterval" interval], "nil") := by
  cases constructed <;> rfl

theorem WithCheckInterval_tie (constructed : Bool) (interval : Int64) :
    IceGen.opt_WithCheckInterval constructed interval = guard constructed ([setI "a.checkInterval" interval], "nil") := by
  cases constructed <;> rfl

theorem WithMaxBindingRequests_tie (constructed : Bool) (limit : UInt16) :
    IceGen.opt_WithMaxBindingRequests constructed limit = guard constructed ([setN "a.maxBindingRequests" limit], "nil") := by
  cases constructed <;> rfl

theorem WithTCPPriorityOffset_tie (constructed : Bool) (offset : UInt16) :
    IceGen.opt_WithTCPPriorityOffset constructed offset = guard constructed ([setN "a.tcpPriorityOffset" offset], "nil") := by
  cases constructed <;> rfl

theorem acceptanceWaits_tie (constructed : Bool) (wait : Int64) :
    IceGen.opt_WithHostAcceptanceMinWait constructed wait = guard constructed ([setI "a.hostAcceptanceMinWait" wait], "nil") ∧
    IceGen.opt_WithSrflxAcceptanceMinWait constructed wait = guard constructed ([setI "a.srflxAcceptanceMinWait" wait], "nil") ∧
    IceGen.opt_WithPrflxAcceptanceMinWait constructed wait = guard constructed ([setI "a.prflxAcceptanceMinWait" wait], "nil") ∧
    IceGen.opt_WithRelayAcceptanceMinWait constructed wait = guard constructed ([setI "a.relayAcceptanceMinWait" wait], "nil") := by
  cases constructed <;> exact ⟨rfl, rfl, rfl, rfl⟩

theorem WithICELite_tie (constructed lite : Bool) :
    IceGen.opt_WithICELite constructed lite = guard constructed ([setB "a.lite" lite], "nil") := by
  cases constructed <;> rfl

theorem WithEnableUseCandidateCheckPriority_tie (constructed : Bool) :
    IceGen.opt_WithEnableUseCandidateCheckPriority constructed
      = guard constructed ([setB "a.enableUseCandidateCheckPriority" true], "nil") := by
  cases constructed <;> rfl

/-- `WithRenomination`: a nil generator is refused; otherwise renomination is enabled and the generator stored -/
theorem WithRenomination_tie (constructed genNil : Bool) :
    IceGen.opt_WithRenomination constructed genNil
      = guard constructed (if genNil then ([], "ErrInvalidNominationValueGenerator")
          else ([setB "a.enableRenomination" true, Eff.set "a.nominationValueGenerator" (Val.s "generator")], "nil")) := by
  cases constructed <;> cases genNil <;> rfl

/-- `WithAutomaticRenomination`: always switches the automatic renomination on; the interval is written only when positive (0 or a
negative value keeps the default); it does NOT enable renomination itself -/
theorem WithAutomaticRenomination_tie (constructed : Bool) (interval : Int64) :
    IceGen.opt_WithAutomaticRenomination constructed interval
      = guard constructed (setB "a.automaticRenomination" true ::
          (if interval > 0 then [setI "a.renominationInterval" interval] else []), "nil") := by
  unfold IceGen.opt_WithAutomaticRenomination guard
  cases constructed
  · by_cases h : interval > 0 <;> simp [h, Eff.pre, setB, setI]
  · rfl

/-- `WithNominationAttribute`: the reserved attribute type 0 is refused -/
theorem WithNominationAttribute_tie (constructed : Bool) (attrType : UInt16) :
    IceGen.opt_WithNominationAttribute constructed attrType
      = guard constructed (if attrType == 0 then ([], "ErrInvalidNominationAttribute")
          else ([setN "a.nominationAttribute" attrType], "nil")) := by
  unfold IceGen.opt_WithNominationAttribute guard
  cases constructed <;> cases (attrType == 0) <;> rfl

theorem timing_cfg (cfg : Config) (t : Int64) :
    applyEffs cfg [setI "a.disconnectedTimeout" t, setB "a.disconnectedTimeoutExplicit" true]
      = { cfg with disconnectedTimeout := t.toInt.toNat, disconnectedExplicit := true } ∧
    applyEffs cfg [setI "a.failedTimeout" t] = { cfg with failedTimeout := t.toInt.toNat } ∧
    applyEffs cfg [setI "a.keepaliveInterval" t] = { cfg with keepaliveInterval := t.toInt.toNat } ∧
    applyEffs cfg [setI "a.checkInterval" t] = { cfg with checkInterval := t.toInt.toNat } := ⟨rfl, rfl, rfl, rfl⟩

theorem nomination_cfg (cfg : Config) (t : Int64) (n : UInt16) :
    applyEffs cfg [setN "a.maxBindingRequests" n] = { cfg with maxBindingRequests := n.toNat } ∧
    applyEffs cfg [setI "a.hostAcceptanceMinWait" t] = { cfg with hostWait := t.toInt.toNat } ∧
    applyEffs cfg [setI "a.srflxAcceptanceMinWait" t] = { cfg with srflxWait := t.toInt.toNat } ∧
    applyEffs cfg [setI "a.prflxAcceptanceMinWait" t] = { cfg with prflxWait := t.toInt.toNat } ∧
    applyEffs cfg [setI "a.relayAcceptanceMinWait" t] = { cfg with relayWait := t.toInt.toNat } := ⟨rfl, rfl, rfl, rfl, rfl⟩

theorem switches_cfg (cfg : Config) (b : Bool) (t : Int64) :
    applyEffs cfg [setB "a.lite" b] = { cfg with lite := b } ∧
    applyEffs cfg [setB "a.enableUseCandidateCheckPriority" true] = { cfg with useCandCheckPriority := true } ∧
    applyEffs cfg [setB "a.enableRenomination" true, Eff.set "a.nominationValueGenerator" (Val.s "generator")]
      = { cfg with enableRenomination := true } ∧
    applyEffs cfg [setB "a.automaticRenomination" true, setI "a.renominationInterval" t]
      = { cfg with autoRenom := true, renomInterval := t.toInt.toNat } ∧
    applyEffs cfg [setB "a.automaticRenomination" true] = { cfg with autoRenom := true } := ⟨rfl, rfl, rfl, rfl, rfl⟩

theorem auto_does_not_enable (cfg : Config) (interval : Int64) :
    (applyEffs cfg (IceGen.opt_WithAutomaticRenomination false interval).1).enableRenomination = cfg.enableRenomination ∧
    (applyEffs cfg (IceGen.opt_WithAutomaticRenomination false interval).1).autoRenom = true := by
  obtain ⟨_, _, _, hi, h0⟩ := switches_cfg cfg true interval
  rw [WithAutomaticRenomination_tie]
  unfold guard
  rw [if_neg Bool.false_ne_true]
  by_cases h : interval > 0
  · rw [if_pos h]; show (applyEffs cfg [_, _]).enableRenomination = _ ∧ _; rw [hi]; exact ⟨rfl, rfl⟩
  · rw [if_neg h, h0]; exact ⟨rfl, rfl⟩

end IceTie.Options

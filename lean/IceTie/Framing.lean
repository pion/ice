import IceProofs.Framing
import IceGen.T_Framing
import IceTie.Basic
/-!
# Tie T for the RFC 4571 framing (tcp_mux.go `writeStreamingPacket`, `readStreamingPacket`)

Both functions are regenerated from the Go source on every run in effect mode (`IceGen.T_Framing`).
`writeStreamingPacket`: the too-long test, the 16-bit length written (`uint16(len(buf))`), ONE `conn.Write`, the
result `n - 2`.  `readStreamingPacket`: the two short-read loops are cut out as the effects `fillHeader` /
`fillBody` (their exact source text is pinned by the spec: any edit inside them is a translation failure; their
behaviour is the model's `fill`), everything between and after them is translated: a failing header read returns
`(0, err)`, a declared length above `cap(buf)` returns `(length, io.ErrShortBuffer)` BEFORE any body read, the body
loop starts from 0, a failing body read returns `(0, err)`, otherwise the number of bytes read.

Proved equal to `IceModel.Framing.write` / `readPacket` for every packet, every connection (segment list) and
every buffer capacity.
-/
namespace IceTie.Framing
open IceModel IceModel.Framing IceProofs.Framing

/-- `uint16(len(buf))`: the conversion truncates to 16 bits -/
theorem trunc16 (n : Nat) (h : n < 2 ^ 63) : (Int64.ofNat n).toUInt64.toUInt16.toNat = n % 65536 := by
  rw [UInt64.toNat_toUInt16, Int64.toUInt64_ofNat', UInt64.toNat_ofNat_of_lt' (by unfold UInt64.size; omega)]

theorem sub2 (n : Nat) (h : n + 2 < 2 ^ 63) : Int64.ofNat (n + 2) - 2 = Int64.ofNat n := by
  have := Int64.ofNat_sub (n + 2) 2 (by omega)
  rw [Nat.add_sub_cancel] at this
  exact this.symm

def ePut (v : Nat) : Eff := Eff.call "putLength" [Val.n v]
def eCopy : Eff := Eff.call "copyPayloadAt2" []
def eWrite : Eff := Eff.call "write" []

/-- **T: `writeStreamingPacket`** for every length that is a Go `int`, both outcomes of `conn.Write` and any count it
returns -/
theorem writeStreamingPacket_tie (len : Nat) (h : len < 2 ^ 63) (writeFails : Bool) (n : Int64) :
    IceGen.writeStreamingPacket (Int64.ofNat len) writeFails n
      = if len > 65535 then ([], (0, "ErrShortBuffer"))
        else ([ePut (len % 65536), eCopy, eWrite], if writeFails then (0, "err") else (n - 2, "nil")) := by
  unfold IceGen.writeStreamingPacket Eff.pre
  have hg : decide (Int64.ofNat len > Int64.ofNat 65535) = decide (len > 65535) := ofNat_lt 65535 len (by decide) h
  change decide (Int64.ofNat len > 65535) = _ at hg
  rw [hg, trunc16 len h]
  by_cases hl : len > 65535
  · simp [hl]
  · simp only [hl, decide_false, Bool.false_eq_true, if_false]
    cases writeFails <;> rfl

/-- the writer's result as the model records it: first result, error class, number of `conn.Write` calls, the value put in
the length field -/
def outOf (g : List Eff × (Int64 × String)) : Int × Option WErr × Nat × List Nat :=
  (g.2.1.toInt,
   (if g.2.2 == "ErrShortBuffer" then some .tooLong else if g.2.2 == "err" then some .io else none),
   (g.1.filter (· == eWrite)).length,
   g.1.filterMap (fun e => match e with | Eff.call "putLength" [Val.n v] => some v | _ => none))

/-- … is the model's `write` on a connection that accepts the whole buffer (`n = len(bufCopy)`) or fails: same result,
same error, one write of the encoded packet, and the length field holds what `header` encodes (`len mod 2^16`, which is
`len` for every accepted packet) -/
theorem writeStreamingPacket_model (connFails : Bool) (p : List UInt8) (h : p.length + 2 < 2 ^ 63) :
    outOf (IceGen.writeStreamingPacket (Int64.ofNat p.length) connFails (Int64.ofNat (encode p).length))
      = (((write connFails p).n : Int), (write connFails p).err, (write connFails p).wire.length,
         if p.length > 65535 then [] else [decodeLen (header p.length)]) := by
  rw [writeStreamingPacket_tie p.length (by omega)]
  unfold write outOf
  have hl : (encode p).length = p.length + 2 := by simp [encode, header]
  have hd : decodeLen (header p.length) = p.length % 65536 := by
    obtain ⟨hi, lo, e1, e2⟩ := header_toNat_mod p.length
    rw [e1, decodeLen_pair, e2]
  by_cases hg : p.length > 65535
  · simp [hg]
  · simp only [hg, if_false, hl, sub2 p.length h, hd]
    cases connFails
    · simp [Int64.toInt_ofNat_of_lt (show p.length < 2 ^ 63 by omega), eWrite, ePut, eCopy]
    · simp [eWrite, ePut, eCopy]

def eFillHeader : Eff := Eff.call "fillHeader" []
def eFillBody : Eff := Eff.call "fillBody" []

/-- **T: `readStreamingPacket`**, all arguments -/
theorem readStreamingPacket_tie (headerFails : Bool) (length capBuf : Int64) (bodyFails : Bool) (bodyRead : Int64) :
    IceGen.readStreamingPacket headerFails length capBuf bodyFails bodyRead
      = if headerFails then ([eFillHeader], (0, "err"))
        else if length > capBuf then ([eFillHeader], (length, "ErrShortBuffer"))
        else if bodyFails then ([eFillHeader, eFillBody], (0, "err"))
        else ([eFillHeader, eFillBody], (bodyRead, "nil")) := by
  unfold IceGen.readStreamingPacket Eff.pre
  cases headerFails <;> by_cases h : length > capBuf <;> cases bodyFails <;> simp [h, eFillHeader, eFillBody]

/-- the result of one call as the model records it -/
def resOf (g : List Eff × (Int64 × String)) (e : IoErr) (body : List UInt8) : Res :=
  if g.2.2 == "err" then .err e else if g.2.2 == "ErrShortBuffer" then .shortBuffer g.2.1.toInt.toNat else .pkt body

/-- … is the model's `readPacket`: with the header loop = `fill segs 2`, the length = `decodeLen` of the two bytes, the body
loop = `fill` of the rest for `length` bytes — for every segmentation of every stream, every capacity and terminal error.
The body loop is entered (`fillBody`) exactly when the header was read and the declared length fits the buffer. -/
theorem readStreamingPacket_model (cap : Nat) (hc : cap < 2 ^ 63) (e : IoErr) (segs : Segs) :
    let f1 := fill segs 2
    let len := decodeLen (f1.1.getD [])
    let f2 := fill f1.2.1 len
    let g := IceGen.readStreamingPacket f1.1.isNone (Int64.ofNat len) (Int64.ofNat cap) f2.1.isNone
                (Int64.ofNat (f2.1.getD []).length)
    resOf g e (f2.1.getD []) = (readPacket cap e segs).1 ∧
    (g.1.contains eFillBody = (f1.1.isSome && decide (len ≤ cap))) := by
  intro f1 len f2 g
  have hlen : len ≤ 65535 := decodeLen_le _
  have hgt : decide (Int64.ofNat len > Int64.ofNat cap) = decide (len > cap) := ofNat_lt cap len hc (by omega)
  simp only [g, readStreamingPacket_tie]
  unfold readPacket
  cases h1 : f1.1 with
  | none =>
    have : fill segs 2 = (none, (fill segs 2).2.1, (fill segs 2).2.2) := by
      have : (fill segs 2).1 = none := h1
      rw [← this]
    rw [this]
    simp [resOf, eFillHeader, eFillBody]
  | some hd =>
    have e1 : fill segs 2 = (some hd, (fill segs 2).2.1, (fill segs 2).2.2) := by
      have : (fill segs 2).1 = some hd := h1
      rw [← this]
    have hlen' : len = decodeLen hd := by simp only [len, h1, Option.getD_some]
    rw [e1]
    simp only [Option.isNone_some, Bool.false_eq_true, if_false, Option.isSome_some, Bool.true_and]
    by_cases hg : len > cap
    · have : Int64.ofNat len > Int64.ofNat cap := by
        have := hgt; simp only [hg, decide_true] at this; exact of_decide_eq_true this
      simp only [this, if_true, ← hlen', hg]
      refine ⟨?_, ?_⟩
      · simp [resOf, Int64.toInt_ofNat_of_lt (show len < 2 ^ 63 by omega)]
      · simp [eFillHeader, eFillBody]; omega
    · have : ¬ Int64.ofNat len > Int64.ofNat cap := by
        have := hgt; simp only [hg, decide_false] at this; exact of_decide_eq_false this
      simp only [this, if_false, ← hlen', hg]
      have hf2 : f2 = fill (fill segs 2).2.1 len := rfl
      cases h2 : f2.1 with
      | none =>
        have e2 : fill (fill segs 2).2.1 len = (none, (fill (fill segs 2).2.1 len).2.1, (fill (fill segs 2).2.1 len).2.2) := by
          have : (fill (fill segs 2).2.1 len).1 = none := by rw [← hf2]; exact h2
          rw [← this]
        rw [e2]
        simp [resOf, eFillHeader, eFillBody]
        omega
      | some b =>
        have e2 : fill (fill segs 2).2.1 len = (some b, (fill (fill segs 2).2.1 len).2.1, (fill (fill segs 2).2.1 len).2.2) := by
          have : (fill (fill segs 2).2.1 len).1 = some b := by rw [← hf2]; exact h2
          rw [← this]
        rw [e2]
        simp [resOf, eFillHeader, eFillBody]
        omega

end IceTie.Framing

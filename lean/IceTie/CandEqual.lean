import IceModel.CandText
import IceGen.T_Cand
import IceTie.Basic
/-!
# Tie T for candidate equality (candidate_base.go, candidaterelatedaddress.go, addr.go)

`sameAddressLiteral`, `candidateBase.transportAddressEqual`, `candidateBase.Equal`,
`CandidateRelatedAddress.Equal`, `canonicalAddr` and `addrPortEqual` are regenerated from the Go source on every
run (`IceGen.T_Cand`).  The calls into `net/netip` (`ParseAddr`, the comparison of two canonical addresses) and
the getters of the two candidates are parameters of the generated definitions; here they are instantiated with
the corresponding expressions of the model (`CandText.Env.canon`, `CandText.resolved`, the fields of
`CandText.Cand`) and the results are proved equal to `CandText.sameAddressLiteral`,
`transportAddressEqual`, `relEqual`, `equal` for ALL environments and candidates.
-/
namespace IceTie.CandEqual
open IceModel.CandText
open IceModel.Prio (TcpType)

/-- `NetworkTypeUDP4 … NetworkTypeTCP6` (`iota + 1`) -/
def netCode : NetType → Int64
  | .udp4 => 1 | .udp6 => 2 | .tcp4 => 3 | .tcp6 => 4

/-- `TCPTypeUnspecified … TCPTypeSimultaneousOpen` (`iota`) -/
def ttCode : TcpType → Int64
  | .unspecified => 0 | .active => 1 | .passive => 2 | .so => 3

/-- `CandidateTypeHost … CandidateTypeRelay` (`iota`, after `CandidateTypeUnspecified`) -/
def tyCode : CType → UInt8
  | .host => 1 | .srflx => 2 | .prflx => 3 | .relay => 4

theorem netCode_beq (a b : NetType) : (netCode a == netCode b) = (a == b) := by cases a <;> cases b <;> rfl
theorem ttCode_beq (a b : TcpType) : (ttCode a == ttCode b) = (a == b) := by cases a <;> cases b <;> rfl
theorem tyCode_beq (a b : CType) : (tyCode a == tyCode b) = (a == b) := by cases a <;> cases b <;> rfl

/-- `canonicalAddr` (addr.go) over an abstract `netip.Addr`: unmap first; keep the zone exactly when the
UNMAPPED address is IPv6 link-local.  This is the function `CandText.Env.canon` stands for (after `ParseAddr`). -/
theorem canonicalAddr_tie {α : Type} (unmap : α → α) (isLL : α → Bool) (noZone : α → α) (addr : α) :
    IceGen.canonicalAddr α unmap isLL noZone addr
      = if isLL (unmap addr) then unmap addr else noZone (unmap addr) := rfl

/-- with an idempotent `Unmap`, a `WithZone("")` that is idempotent, commutes with `Unmap` and does not change the
class, `canonicalAddr` is idempotent: a canonical key is its own canonical key -/
theorem canonicalAddr_idem {α : Type} (unmap : α → α) (isLL : α → Bool) (noZone : α → α)
    (hu : ∀ a, unmap (unmap a) = unmap a) (hz : ∀ a, noZone (noZone a) = noZone a)
    (huz : ∀ a, unmap (noZone a) = noZone (unmap a)) (hll : ∀ a, isLL (noZone a) = isLL a) (addr : α) :
    IceGen.canonicalAddr α unmap isLL noZone (IceGen.canonicalAddr α unmap isLL noZone addr)
      = IceGen.canonicalAddr α unmap isLL noZone addr := by
  simp only [canonicalAddr_tie]
  cases h : isLL (unmap addr)
  · simp [huz, hu, hll, h, hz]
  · simp [hu, h]

theorem addrPortEqual_tie (aValid bValid sameCanon : Bool) :
    IceGen.addrPortEqual aValid bValid sameCanon = (aValid && bValid && sameCanon) := rfl

/-- `netip.ParseAddr(s)` fails iff `env.canon s = none`; the comparison of the two canonical addresses is the
comparison of the keys -/
theorem sameAddressLiteral_tie (env : Env) (a b : Str) :
    IceGen.sameAddressLiteral (a == b) (env.canon a).isNone (env.canon b).isNone (env.canon a == env.canon b)
      = sameAddressLiteral env a b := by
  unfold IceGen.sameAddressLiteral sameAddressLiteral
  cases (a == b) <;> cases env.canon a <;> cases env.canon b <;> simp

/-- `c.addr() != other.addr()` compares two interface values: `differ` is any Boolean that is `false` when both
resolved addresses are nil and that is `false` only when the two candidates have the same resolved address (the
same pointer).  `addrEqual` on two non-nil addresses is the comparison of the model's `resolved` tuples. -/
theorem transportAddressEqual_tie (env : Env) (c o : Cand) (differ : Bool)
    (hnil : resolved env c = none → resolved env o = none → differ = false)
    (hsame : differ = false → resolved env c = resolved env o)
    (hpc : c.port < 2 ^ 63) (hpo : o.port < 2 ^ 63) :
    IceGen.candidateBase_transportAddressEqual differ (resolved env c).isNone (resolved env o).isNone
        (resolved env c == resolved env o) (netCode c.net) (netCode o.net)
        (IceGen.sameAddressLiteral (c.address == o.address) (env.canon c.address).isNone (env.canon o.address).isNone
          (env.canon c.address == env.canon o.address))
        (Int64.ofNat c.port) (Int64.ofNat o.port) (ttCode c.tcpType) (ttCode o.tcpType)
      = transportAddressEqual env c o := by
  unfold IceGen.candidateBase_transportAddressEqual transportAddressEqual
  rw [sameAddressLiteral_tie, netCode_beq, ttCode_beq, ofNat_beq _ _ hpc hpo]
  cases hd : differ
  · have e := hsame hd
    rw [e]
    cases resolved env o <;> simp
  · cases hc : resolved env c <;> cases ho : resolved env o
    · exact absurd (hnil hc ho) (by simp [hd])
    · simp
    · simp
    · rename_i va vb
      by_cases hv : va = vb <;> simp [hv, Bool.and_assoc]

theorem relEqual_tie (x y : Option (Str × Nat))
    (hx : ∀ v, x = some v → v.2 < 2 ^ 63) (hy : ∀ v, y = some v → v.2 < 2 ^ 63) :
    IceGen.candidateRelatedAddress_Equal x.isNone y.isNone ((x.getD ([], 0)).1 == (y.getD ([], 0)).1)
        (Int64.ofNat (x.getD ([], 0)).2) (Int64.ofNat (y.getD ([], 0)).2)
      = relEqual x y := by
  unfold IceGen.candidateRelatedAddress_Equal relEqual
  cases x with
  | none => cases y <;> simp
  | some a =>
    cases y with
    | none => simp
    | some b =>
      have ha := hx a rfl
      have hb := hy b rfl
      simp only [Option.isNone_some, Option.getD_some, Bool.false_and, Bool.false_eq_true, if_false, Bool.not_false,
        Bool.true_and]
      rw [ofNat_beq _ _ ha hb]

/-- `Equal` composed with the regenerated `transportAddressEqual` and `CandidateRelatedAddress.Equal`, as the code
composes them, is the model's `equal` — for every environment and every two candidates whose ports are Go `int`s -/
theorem equal_tie (env : Env) (c o : Cand) (differ : Bool)
    (hnil : resolved env c = none → resolved env o = none → differ = false)
    (hsame : differ = false → resolved env c = resolved env o)
    (hpc : c.port < 2 ^ 63) (hpo : o.port < 2 ^ 63)
    (hrc : ∀ v, c.related = some v → v.2 < 2 ^ 63) (hro : ∀ v, o.related = some v → v.2 < 2 ^ 63) :
    IceGen.candidateBase_Equal
        (IceGen.candidateBase_transportAddressEqual differ (resolved env c).isNone (resolved env o).isNone
          (resolved env c == resolved env o) (netCode c.net) (netCode o.net)
          (IceGen.sameAddressLiteral (c.address == o.address) (env.canon c.address).isNone (env.canon o.address).isNone
            (env.canon c.address == env.canon o.address))
          (Int64.ofNat c.port) (Int64.ofNat o.port) (ttCode c.tcpType) (ttCode o.tcpType))
        (tyCode c.typ) (tyCode o.typ)
        (IceGen.candidateRelatedAddress_Equal c.related.isNone o.related.isNone
          ((c.related.getD ([], 0)).1 == (o.related.getD ([], 0)).1)
          (Int64.ofNat (c.related.getD ([], 0)).2) (Int64.ofNat (o.related.getD ([], 0)).2))
      = equal env c o := by
  rw [transportAddressEqual_tie env c o differ hnil hsame hpc hpo, relEqual_tie _ _ hrc hro]
  unfold IceGen.candidateBase_Equal equal
  rw [tyCode_beq]

end IceTie.CandEqual

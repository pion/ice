/-!
# What every tie needs: machine comparisons read as comparisons of the numbers they stand for

The translator prints Go's fixed-width integers as `UInt8 … UInt64` / `Int64`; the model counts in `Nat`.
A tie therefore has to turn every `==`, `!=`, `<`, `≤` of the generated term into the same test on `Nat`.
All of these are one of two facts:
* `beq_of_inj`: `==` commutes with an injective map (`toNat`, a code table, `ofNat` below the width);
* `decide_eq_decide` (core) applied to the `lt/le_iff_toNat` lemma of the width.
-/
namespace IceTie

theorem beq_of_inj {α β : Type} [BEq α] [LawfulBEq α] [BEq β] [LawfulBEq β] {f : α → β} {a b : α}
    (h : f a = f b → a = b) : (f a == f b) = (a == b) := by
  by_cases e : a = b
  · subst e; rw [beq_self_eq_true, beq_self_eq_true]
  · rw [beq_eq_false_iff_ne.mpr e, beq_eq_false_iff_ne.mpr fun e' => e (h e')]

theorem bne_of_inj {α β : Type} [BEq α] [LawfulBEq α] [BEq β] [LawfulBEq β] {f : α → β} {a b : α}
    (h : f a = f b → a = b) : (f a != f b) = (a != b) := by
  simp only [bne, beq_of_inj h]

theorem u8_beq (x y : UInt8) : (x == y) = (x.toNat == y.toNat) := (beq_of_inj UInt8.toNat_inj.mp).symm
theorem u16_beq (x y : UInt16) : (x == y) = (x.toNat == y.toNat) := (beq_of_inj UInt16.toNat_inj.mp).symm
theorem u64_beq (x y : UInt64) : (x == y) = (x.toNat == y.toNat) := (beq_of_inj UInt64.toNat_inj.mp).symm
theorem u64_bne (x y : UInt64) : (x != y) = (x.toNat != y.toNat) := (bne_of_inj UInt64.toNat_inj.mp).symm

theorem u16_lt (x y : UInt16) : decide (x < y) = decide (x.toNat < y.toNat) := decide_eq_decide.mpr UInt16.lt_iff_toNat_lt
theorem u32_lt (x y : UInt32) : decide (x < y) = decide (x.toNat < y.toNat) := decide_eq_decide.mpr UInt32.lt_iff_toNat_lt
theorem u32_le (x y : UInt32) : decide (x ≤ y) = decide (x.toNat ≤ y.toNat) := decide_eq_decide.mpr UInt32.le_iff_toNat_le
theorem u64_lt (x y : UInt64) : decide (x < y) = decide (x.toNat < y.toNat) := decide_eq_decide.mpr UInt64.lt_iff_toNat_lt
theorem u64_le (x y : UInt64) : decide (x ≤ y) = decide (x.toNat ≤ y.toNat) := decide_eq_decide.mpr UInt64.le_iff_toNat_le

/-- the natural a non-negative Go `int` holds -/
def nat (x : Int64) : Nat := x.toInt.toNat

theorem nat_lt {a b : Int64} (ha : 0 ≤ a.toInt) (hb : 0 ≤ b.toInt) : decide (a < b) = decide (nat a < nat b) :=
  decide_eq_decide.mpr (Int64.lt_iff_toInt_lt.trans (by unfold nat; omega))

theorem nat_le {a b : Int64} (ha : 0 ≤ a.toInt) (hb : 0 ≤ b.toInt) : decide (a ≤ b) = decide (nat a ≤ nat b) :=
  decide_eq_decide.mpr (Int64.le_iff_toInt_le.trans (by unfold nat; omega))

theorem nat_inj {a b : Int64} (ha : 0 ≤ a.toInt) (hb : 0 ≤ b.toInt) (h : nat a = nat b) : a = b :=
  Int64.toInt_inj.mp (by unfold nat at h; omega)

theorem nat_beq {a b : Int64} (ha : 0 ≤ a.toInt) (hb : 0 ≤ b.toInt) : (a == b) = (nat a == nat b) :=
  (beq_of_inj (f := nat) (nat_inj ha hb)).symm

theorem nat_bne {a b : Int64} (ha : 0 ≤ a.toInt) (hb : 0 ≤ b.toInt) : (a != b) = (nat a != nat b) :=
  (bne_of_inj (f := nat) (nat_inj ha hb)).symm

theorem nat_add {a b : Int64} (ha : 0 ≤ a.toInt) (hb : 0 ≤ b.toInt) (hov : a.toInt + b.toInt < 2 ^ 63) :
    nat (a + b) = nat a + nat b ∧ 0 ≤ (a + b).toInt := by
  unfold nat
  rw [Int64.toInt_add, Int.bmod_eq_of_le (by omega) (by omega)]
  omega

theorem ofNat_nonneg {n : Nat} (h : n < 2 ^ 63) : 0 ≤ (Int64.ofNat n).toInt := by
  rw [Int64.toInt_ofNat_of_lt h]; omega

theorem nat_ofNat {n : Nat} (h : n < 2 ^ 63) : nat (Int64.ofNat n) = n := by
  unfold nat; rw [Int64.toInt_ofNat_of_lt h]; omega

theorem ofNat_beq (n k : Nat) (h : n < 2 ^ 63) (hk : k < 2 ^ 63) : (Int64.ofNat n == Int64.ofNat k) = (n == k) := by
  rw [nat_beq (ofNat_nonneg h) (ofNat_nonneg hk), nat_ofNat h, nat_ofNat hk]

theorem ofNat_lt (n k : Nat) (h : n < 2 ^ 63) (hk : k < 2 ^ 63) :
    decide (Int64.ofNat n < Int64.ofNat k) = decide (n < k) := by
  rw [nat_lt (ofNat_nonneg h) (ofNat_nonneg hk), nat_ofNat h, nat_ofNat hk]

theorem u8ofNat_beq (n k : Nat) (h : n < 256) (hk : k < 256) : (UInt8.ofNat n == UInt8.ofNat k) = (n == k) :=
  beq_of_inj fun e => by
    have := congrArg UInt8.toNat e
    rwa [UInt8.toNat_ofNat_of_lt' h, UInt8.toNat_ofNat_of_lt' hk] at this

end IceTie

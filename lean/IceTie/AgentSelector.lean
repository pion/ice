import IceProofs.AgentC20Accept
import IceGen.T_Select
/-!
# Tie T for `ContactCandidates` and `HandleBindingRequest` of both selectors, `checkForAutomaticRenomination` (selection.go) and `shouldRenominate` (agent.go)

Regenerated on every run in effect mode (`IceGen.T_Select`): the list of calls / field assignments in program order as a
function of the values read.  The theorems give the list for ALL arguments, in the shape of the model's handlers
(`Agent.contactCandidates`, `Agent.ctlHandleRequest`, and `cldHandleRequest` = `shouldAcceptNomination` → `cldNominate` →
success response → triggered check, `IceProofs/AgentC20Accept.lean`), and small lemmas state that the model takes its
decisions by the same tests.
-/
namespace IceTie.AgentSelector
open IceModel IceModel.AgentCore IceProofs.Agent

def c (name : String) : Eff := Eff.call name []

/-- **T: `controllingSelector.ContactCandidates`**: with a selected pair validate it and, if it is still valid, keep it alive
(+ the automatic-renomination hooks); else re-send the nomination of the nominated pair; else nominate the best valid pair if
both its candidates are nominatable (marking it nominated and remembering it FIRST); else ping every pair -/
theorem ctlContactCandidates_tie (hasSelected selectedValid autoRenom enableRenom hasNominated hasBestValid localOk remoteOk : Bool) :
    IceGen.controllingSelector_ContactCandidates hasSelected selectedValid autoRenom enableRenom hasNominated hasBestValid
        localOk remoteOk
      = if hasSelected then
          c "validateSelectedPair" :: (if selectedValid then
            [c "checkKeepalive"] ++ (if autoRenom && enableRenom then [c "keepAliveCandidatesForRenomination"] else [])
              ++ [c "checkForAutomaticRenomination"] else [])
        else if hasNominated then [c "nominatePair"]
        else if hasBestValid && localOk && remoteOk then
          [Eff.set "p.nominated" (Val.b true), Eff.set "s.nominatedPair" (Val.s "bestValid"), c "nominatePair"]
        else [c "pingAllCandidates"] := by
  unfold IceGen.controllingSelector_ContactCandidates
  -- along the `if` chain: each branch only reads its own arguments
  cases hasSelected
  case true => cases selectedValid <;> cases autoRenom <;> cases enableRenom <;> rfl
  cases hasNominated
  case true => rfl
  cases hasBestValid <;> cases localOk <;> cases remoteOk <;> rfl

/-- **T: `controlledSelector.ContactCandidates`** -/
theorem cldContactCandidates_tie (hasSelected selectedValid : Bool) :
    IceGen.controlledSelector_ContactCandidates hasSelected selectedValid
      = if hasSelected then c "validateSelectedPair" :: (if selectedValid then [c "checkKeepalive"] else [])
        else [c "pingAllCandidates"] := by
  cases hasSelected <;> cases selectedValid <;> rfl

theorem contactCandidates_controlled (a : Agent) (now : Nat) (hc : a.controlling = false) (hl : a.cfg.lite = false) :
    a.contactCandidates now =
      if a.selected.isSome then
        (if (a.validateSelected now).2.2 then
          (((a.validateSelected now).1.keepalive now).1, (a.validateSelected now).2.1 ++ ((a.validateSelected now).1.keepalive now).2)
         else ((a.validateSelected now).1, (a.validateSelected now).2.1))
      else a.pingAll now := by
  unfold Agent.contactCandidates
  rw [if_neg (by rw [hc]; exact Bool.false_ne_true), if_neg (by rw [hl]; exact Bool.false_ne_true)]

/-- … controlling agent: selected → validate / keepalive / the automatic-renomination block (`Agent.autoRenom` =
`keepAliveCandidatesForRenomination` under the same test `autoRenom && enableRenom`, then `checkForAutomaticRenomination`);
a listed nominated pair → nominate it again; no nominated pair → the best valid pair if both ends are nominatable (marked
nominated and remembered, then nominated), else ping all -/
theorem contactCandidates_controlling (a : Agent) (now : Nat) (hc : a.controlling = true) :
    a.contactCandidates now =
      if a.selected.isSome then
        (if (a.validateSelected now).2.2 then
          ((((a.validateSelected now).1.keepalive now).1.autoRenom now).1,
           (a.validateSelected now).2.1 ++ ((a.validateSelected now).1.keepalive now).2 ++
             (((a.validateSelected now).1.keepalive now).1.autoRenom now).2)
         else ((a.validateSelected now).1, (a.validateSelected now).2.1))
      else match a.nominatedPair.bind a.pairById with
        | some p => a.nominate now p
        | none =>
          match a.nominatedPair with
          | some _ => (a, [])
          | none =>
            match a.bestValid with
            | some p =>
              match a.localOf p.l, a.remoteOf p.r with
              | some l, some r =>
                if a.nominatable now l && a.nominatable now r then
                  ({ (a.modPair p.id fun p => { p with nominated := true }) with nominatedPair := some p.id }).nominate now p
                else a.pingAll now
              | _, _ => a.pingAll now
            | none => a.pingAll now := by
  unfold Agent.contactCandidates
  rw [if_pos hc]
  by_cases hs : a.selected.isSome = true
  · rw [if_pos hs, if_pos hs]
  · rw [if_neg hs, if_neg hs]
    rfl

/-- **T: `controllingSelector.checkForAutomaticRenomination`**: the only effects of the function are
`s.agent.lastRenominationTime = time.Now()` followed by `s.agent.renominateCandidate(bestPair.Local, bestPair.Remote)` (whose
error is only logged), and they happen iff both options are on, the interval has passed since the selector started, no
automatic renomination happened within the interval, a pair is selected, `findBestCandidatePair` found a pair, and
`shouldRenominate(current, best)` -/
theorem ctlAutoCheck_tie (autoRenom enableRenom : Bool) (sinceStart interval : Int64) (lastZero : Bool) (sinceLast : Int64)
    (hasCurrent hasBest should : Bool) :
    IceGen.controllingSelector_checkForAutomaticRenomination autoRenom enableRenom sinceStart interval lastZero sinceLast
        hasCurrent hasBest should
      = if autoRenom && enableRenom && !decide (sinceStart < interval) && (lastZero || !decide (sinceLast < interval))
            && hasCurrent && hasBest && should
        then [Eff.set "s.agent.lastRenominationTime" (Val.s "now"), c "renominateCandidate(best)"] else [] := by
  unfold IceGen.controllingSelector_checkForAutomaticRenomination
  -- each early `return` of the Go function decides both sides
  cases autoRenom
  case false => simp
  cases enableRenom
  case false => simp
  cases (decide (sinceStart < interval))
  case true => simp
  cases lastZero <;> cases (decide (sinceLast < interval)) <;> cases hasCurrent <;> cases hasBest <;> cases should <;> rfl

/-- … the model's `autoCheck` takes the same decisions in the same order (definitional unfolding): the gate `autoDue` is the
conjunction of the first four tests, then the selected pair, the best pair, `shouldRenominate`; the effects are
`lastRenomTime := now` and then `autoIssue` (= `renominateCandidate`) for the best pair's candidates -/
theorem autoCheck_decisions (a : Agent) (now : Nat) :
    a.autoCheck now =
      if a.cfg.autoRenom && a.cfg.enableRenomination && !decide (now - a.selStart < a.cfg.renomInterval) &&
          (match a.lastRenomTime with | none => true | some t => !decide (now - t < a.cfg.renomInterval)) then
        match a.selected.bind a.pairById with
        | none => (a, [])
        | some cur =>
          match a.findBest now with
          | none => (a, [])
          | some best =>
            if a.shouldRenominate now cur best then
              match a.localOf best.l, a.remoteOf best.r with
              | some l, some r => ({ a with lastRenomTime := some now }).autoIssue now l r
              | _, _ => ({ a with lastRenomTime := some now }, [])
            else (a, [])
      else (a, []) := by
  unfold Agent.autoCheck Agent.autoDue
  cases a.cfg.autoRenom <;> cases a.cfg.enableRenomination <;> cases (decide (now - a.selStart < a.cfg.renomInterval)) <;>
    try rfl
  cases a.lastRenomTime with
  | none => rfl
  | some t =>
    by_cases h : now - t < a.cfg.renomInterval
    · simp [h]
    · simp [h]; rfl

/-- **T: `Agent.shouldRenominate`** (the float64 expressions — `CurrentRoundTripTime() > 0`, the conversion of the round-trip
time to a `time.Duration`, the comparison of the two quality scores — are parameters): never for the same pair or a candidate
pair that has not succeeded; else relay → host/host, or both round-trip times measured and the improvement MORE than 10 ms,
or the score test -/
theorem shouldRenominate_tie (curNil candNil samePair : Bool) (candState : Int64) (curLocalTy curRemoteTy candLocalTy candRemoteTy : UInt8)
    (curRTTPos candRTTPos : Bool) (curRTT candRTT : Int64) (scoreBetter : Bool) :
    IceGen.Agent_shouldRenominate curNil candNil samePair candState curLocalTy curRemoteTy candLocalTy candRemoteTy curRTTPos
        candRTTPos curRTT candRTT scoreBetter
      = (!(curNil || candNil || samePair || candState != 4) &&
          (((curLocalTy == 4 || curRemoteTy == 4) && (candLocalTy == 1 && candRemoteTy == 1)) ||
           (curRTTPos && candRTTPos && decide (curRTT - candRTT > 10000000)) || scoreBetter)) := by
  unfold IceGen.Agent_shouldRenominate
  dsimp only
  -- each early `return` of the Go function decides both sides
  cases curNil
  case true => simp
  cases candNil
  case true => simp
  cases samePair
  case true => simp
  cases (candState != 4)
  case true => simp
  cases ((curLocalTy == 4 || curRemoteTy == 4) && (candLocalTy == 1 && candRemoteTy == 1))
  case true => simp
  cases curRTTPos <;> cases candRTTPos <;> cases scoreBetter <;> simp

open IceModel.SoftFloat in
/-- … the model's `shouldRenominate` is the same Boolean function of the model's values (pairs always exist; pair state 4 =
succeeded; candidate types 1 = host, 4 = relay; round-trip times as `seconds rtt`, durations as `durationOfSeconds`, the
scores as `quality` — the float64 arithmetic of `IceModel.SoftFloat`) -/
theorem shouldRenominate_decisions (a : Agent) (now : Nat) (cur cand : Pair) :
    a.shouldRenominate now cur cand =
      (!(a.pairEqual cur cand || cand.state != .succeeded) &&
        (((a.localTy cur == 4 || a.remoteTy cur == 4) && (a.localTy cand == 1 && a.remoteTy cand == 1)) ||
         ((seconds cur.rtt).gt F.zero && (seconds cand.rtt).gt F.zero &&
            decide (durationOfSeconds (seconds cur.rtt) - durationOfSeconds (seconds cand.rtt) > 10000000)) ||
         (a.quality now cand).gt ((a.quality now cur).mul c115))) := by
  unfold Agent.shouldRenominate
  cases (a.pairEqual cur cand || cand.state != .succeeded) <;>
    cases ((a.localTy cur == 4 || a.remoteTy cur == 4) && (a.localTy cand == 1 && a.remoteTy cand == 1)) <;> simp

/-- **T: `controllingSelector.HandleBindingRequest`**: answer first; a new pair is added and counted; on a listed pair count the
request and, when the pair has succeeded, nothing is nominated and nothing selected, nominate it iff it is the best available
pair and both its candidates are nominatable; finally the application's handler -/
theorem ctlHandleBindingRequest_tie (hasPair : Bool) (pairState : Int64) (hasNominated hasSelected hasBest bestIsPair localOk remoteOk : Bool) :
    IceGen.controllingSelector_HandleBindingRequest hasPair pairState hasNominated hasSelected hasBest bestIsPair localOk remoteOk
      = c "sendBindingSuccess" ::
        (if !hasPair then [c "addPair", c "updateRequestReceived"]
         else c "updateRequestReceived" ::
           ((if pairState == 4 && !hasNominated && !hasSelected && hasBest && bestIsPair && localOk && remoteOk
             then [Eff.set "s.nominatedPair" (Val.s "pair"), c "nominatePair"] else []) ++ [c "customHandler"])) := by
  unfold IceGen.controllingSelector_HandleBindingRequest
  cases hasPair
  case false => rfl
  -- the nomination test: a conjunction, each false conjunct decides both sides
  cases (pairState == 4)
  case false => simp [c]
  cases hasNominated
  case true => simp [c]
  cases hasSelected
  case true => simp [c]
  cases hasBest <;> cases bestIsPair <;> cases localOk <;> cases remoteOk <;> rfl

theorem ctlHandleRequest_known_pair (a : Agent) (now : Nat) (m : Msg) (l r : Cand) (p : Pair)
    (hp : (a.sendSuccess now m l r).1.findPair l r = some p) :
    a.ctlHandleRequest now m l r =
      let a1 := (a.sendSuccess now m l r).1
      let o := (a.sendSuccess now m l r).2
      let a2 := a1.modPair p.id fun p => { p with reqRecv := p.reqRecv + 1, gReq := true, gNomReq := p.gNomReq || m.useCand || m.nom.isSome }
      if p.state == .succeeded && a2.nominatedPair.isNone && a2.selected.isNone then
        match a2.bestAvailable with
        | none => (a2, o)
        | some b =>
          if (match a2.localOf b.l, a2.remoteOf b.r with
              | some bl, some br => bl.equal l && br.equal r
              | _, _ => false) && a2.nominatable now l && a2.nominatable now r then
            ((({ a2 with nominatedPair := some p.id }).nominate now p).1, o ++ (({ a2 with nominatedPair := some p.id }).nominate now p).2)
          else (a2, o)
      else (a2, o) := by
  unfold Agent.ctlHandleRequest
  simp only [hp]
  rfl

/-- the nomination of a request as the controlled selector reads it: USE-CANDIDATE or a well-formed nomination attribute -/
def nominated (useCand hasNomAttr nomParseErr : Bool) : Bool := useCand || (hasNomAttr && !nomParseErr)

/-- **T: `controlledSelector.HandleBindingRequest`**, all arguments: find or add the pair, count the request; a nominated
request goes through `shouldAcceptNomination` and, if REJECTED, is only answered; otherwise a lite agent marks the pair
Succeeded; on a succeeded pair `shouldSwitchSelectedPair` decides the selection; on any other pair the nomination is deferred
— unless it has no value and a deferred value is waiting; then the success response, a triggered check iff the agent is full
and the pair has not succeeded or nothing is selected, the application's handler -/
theorem cldHandleBindingRequest_tie (hasPair useCand hasNomAttr nomParseErr accepted lite : Bool) (pairState : Int64)
    (switchOk hasDeferred hasSelected : Bool) :
    IceGen.controlledSelector_HandleBindingRequest hasPair useCand hasNomAttr nomParseErr accepted lite pairState switchOk
        hasDeferred hasSelected
      = (if hasPair then [] else [c "addPair"]) ++ c "updateRequestReceived" ::
        (if nominated useCand hasNomAttr nomParseErr then
          c "shouldAcceptNomination" ::
          (if !accepted then [c "sendBindingSuccess"]
           else
             (if lite then [Eff.set "pair.state" (Val.i 4)] else []) ++
             (if lite || pairState == 4 then (if switchOk then [c "setSelectedPair"] else [])
              else if (hasNomAttr && !nomParseErr) || !hasDeferred then
                [Eff.set "pair.nominateOnBindingSuccess" (Val.b true),
                 Eff.set "pair.deferredNominationValue" (Val.s "nominationValue")]
              else []) ++
             c "sendBindingSuccess" ::
             ((if !lite && (pairState != 4 || !hasSelected) then [c "pingCandidate"] else []) ++ [c "customHandler"]))
         else
           c "sendBindingSuccess" ::
           ((if !lite && (pairState != 4 || !hasSelected) then [c "pingCandidate"] else []) ++ [c "customHandler"])) := by
  unfold IceGen.controlledSelector_HandleBindingRequest nominated
  -- `pairState == 4` is the only test that is not an argument: with it generalised, both sides are functions of ten
  -- Booleans (the Go function repeats its tail on every path, so splitting the term itself is dear); the kernel
  -- evaluates the 2^10 rows
  have hne : (pairState != 4) = !(pairState == 4) := rfl
  simp only [hne]
  generalize (pairState == 4) = st
  revert hasPair useCand hasNomAttr nomParseErr accepted lite st switchOk hasDeferred hasSelected
  decide +kernel

theorem cldNominate_not_succeeded (a : Agent) (m : Msg) (id : Nat) (p : Pair) (hn : (m.useCand || m.nom.isSome) = true)
    (hl : a.cfg.lite = false) (hp : a.pairById id = some p) (hs : (p.state == PairState.succeeded) = false) :
    cldNominate a m id =
      if m.nom.isSome || p.deferredNom.isNone then
        (a.modPair id fun p => { p with nomOnSuccess := true, deferredNom := m.nom }, [])
      else (a, []) := by
  unfold cldNominate
  simp only [hn, hl, if_true, Bool.false_eq_true, if_false, hp, hs]

theorem cldProceed_triggered_check (a : Agent) (now : Nat) (m : Msg) (l r : Cand) (id : Nat) :
    cldProceed a now m l r id =
      let a1 := (cldNominate a m id).1
      let a2 := (a1.sendSuccess now m l r).1
      let o2 := match a2.pairById id with
        | some p => if !a2.cfg.lite && (p.state != PairState.succeeded || a2.selected.isNone) then a2.ping now l r else (a2, [])
        | none => (a2, [])
      (o2.1, (cldNominate a m id).2 ++ (a1.sendSuccess now m l r).2 ++ o2.2) := by
  unfold cldProceed
  rfl

end IceTie.AgentSelector

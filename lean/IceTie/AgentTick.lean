import IceModel.AgentCore
import IceGen.T_Round3
import IceTie.AgentTiming
import IceTie.Basic
/-!
# Tie T, round 3: the timer-driven helpers of agent.go and the lite selector

`Agent.validateSelectedPair`, `Agent.checkKeepalive`, ONE iteration of the checklist loops of `Agent.pingAllCandidates`,
`Agent.keepAliveCandidatesForRenomination`, `Agent.getBestValidCandidatePair`, `Agent.getBestAvailableCandidatePair`,
`Agent.addPair` and `liteSelector.ContactCandidates` are regenerated from the Go source on every run (`IceGen.T_Round3`, effect
mode).  Each theorem states the generated effect list for ALL arguments; the `_model` lemmas relate the decision to the branch
of `IceModel.AgentCore` that models it.  Pair states are the codes of candidatepair_state.go (`iota + 1`):
Waiting 1, InProgress 2, Failed 3, Succeeded 4.
-/
namespace IceTie.AgentTick
open IceModel IceModel.AgentCore IceProofs.AgentC04 IceTie.AgentTiming

def c (name : String) : Eff := Eff.call name []
def c1 (name : String) (v : Val) : Eff := Eff.call name [v]

/-- `totalTimeToFailure` as the code computes it: `failedTimeout`, plus `disconnectedTimeout` when it is non-zero -/
def totalCode (failed disc : Int64) : Int64 := if failed != 0 then failed + disc else failed

/-- **T: `Agent.validateSelectedPair`**: no selected pair → `false`, nothing happens; otherwise exactly one
`updateConnectionState` whose argument is `connectionStateForDisconnection(silence, total)` (itself tied in `AgentTiming`),
result `true` -/
theorem validateSelectedPair_tie (hasSelected : Bool) (silence failed disc cs : Int64) :
    IceGen.agent_validateSelectedPair hasSelected silence failed disc cs
      = if hasSelected then
          ([c1 "updateConnectionState"
              (Val.i (IceGen.agent_connectionStateForDisconnection silence (totalCode failed disc) disc cs).toInt)], true)
        else ([], false) := by
  unfold IceGen.agent_validateSelectedPair totalCode
  cases hasSelected
  · rfl
  · cases h : (failed != 0) <;> simp [h, Eff.pre, c1]

theorem totalCode_model (failed disc : Int64) (h1 : 0 ≤ failed.toInt) (h2 : 0 ≤ disc.toInt)
    (hov : failed.toInt + disc.toInt < 2 ^ 63) (cfg : Config)
    (hf : cfg.failedTimeout = dur failed) (hd : cfg.disconnectedTimeout = dur disc) :
    dur (totalCode failed disc) = totalToFailure cfg ∧ 0 ≤ (totalCode failed disc).toInt := by
  unfold totalCode totalToFailure
  rw [ne_zero_iff failed h1, hf, hd]
  by_cases hz : dur failed = 0
  · simp [hz, h1]
  · have := nat_add h1 h2 hov
    have hb : (dur failed != 0) = true := by simpa using hz
    simp only [hb, decide_eq_true hz, if_true]
    exact this

theorem validateSelectedPair_model (silence failed disc cs : Int64)
    (h0 : 0 ≤ silence.toInt) (h1 : 0 ≤ failed.toInt) (h2 : 0 ≤ disc.toInt) (hov : failed.toInt + disc.toInt < 2 ^ 63)
    (cfg : Config) (hf : cfg.failedTimeout = dur failed) (hd : cfg.disconnectedTimeout = dur disc) :
    IceGen.agent_validateSelectedPair true silence failed disc cs
      = ([c1 "updateConnectionState"
            (Val.i (csCode (stateForDisconnection cfg (csOf cs) (some (dur silence)) (totalToFailure cfg))).toInt)], true) := by
  have ht := totalCode_model failed disc h1 h2 hov cfg hf hd
  rw [validateSelectedPair_tie, if_pos rfl,
    connectionStateForDisconnection_tie silence (totalCode failed disc) disc cs h0 ht.2 h2 cfg hd, ht.1]

theorem validateSelected_model (a : Agent) (now : Nat) :
    a.validateSelected now =
      match a.selected.bind a.pairById with
      | none => (a, [], false)
      | some p =>
        ((a.setConnState (stateForDisconnection a.cfg a.connState ((a.remoteOf p.r).bind (silence now)) (totalToFailure a.cfg))).1,
         (a.setConnState (stateForDisconnection a.cfg a.connState ((a.remoteOf p.r).bind (silence now)) (totalToFailure a.cfg))).2,
         true) := by
  unfold Agent.validateSelected totalToFailure
  cases a.selected.bind a.pairById <;> rfl

/-- **T: `Agent.checkKeepalive`**: one `PingCandidate` on the selected pair iff there is one and `keepaliveInterval ≠ 0` -/
theorem checkKeepalive_tie (hasSelected : Bool) (keepalive : Int64) :
    IceGen.agent_checkKeepalive hasSelected keepalive
      = if hasSelected && keepalive != 0 then [c "PingCandidate(selected)"] else [] := by
  unfold IceGen.agent_checkKeepalive
  cases hasSelected <;> cases (keepalive != 0) <;> rfl

theorem keepalive_model (a : Agent) (now : Nat) :
    a.keepalive now =
      match a.selected.bind a.pairById with
      | none => (a, [])
      | some p =>
        if a.cfg.keepaliveInterval != 0 then
          (match a.localOf p.l, a.remoteOf p.r with
           | some l, some r => a.ping now l r
           | _, _ => (a, []))
        else (a, []) := rfl

theorem keepalive_off (a : Agent) (now : Nat) (h : a.cfg.keepaliveInterval = 0) : a.keepalive now = (a, []) := by
  rw [keepalive_model, h]
  cases a.selected.bind a.pairById <;> rfl

inductive PingDecision where
  | skip | fail | ping
  deriving DecidableEq, Repr

/-- what the loop body does with a pair in state `st` (AFTER Waiting → InProgress), `count` requests sent, limit `maxReq` -/
def pingDecision (st : PairState) (count maxReq : Nat) : PingDecision :=
  if st == .waiting || st == .inProgress then (if count > maxReq then .fail else .ping) else .skip

def stOf (c : Int64) : PairState :=
  if c = 1 then .waiting else if c = 2 then .inProgress else if c = 3 then .failed else .succeeded

def pingEffs (waiting : Bool) (d : PingDecision) : List Eff :=
  [c "for:checklist"] ++ (if waiting then [Eff.set "p.state" (Val.i 2)] else []) ++
  (match d with
   | .skip => []
   | .fail => [Eff.set "p.state" (Val.i 3)]
   | .ping => [c "PingCandidate", c "bindingRequestCount++"]) ++ [c "end:checklist"]

/-- **T: `Agent.pingAllCandidates`, one iteration**: a Waiting pair becomes InProgress first; a pair that is then not
InProgress is skipped; beyond `maxBindingRequests` (strictly) the pair is marked Failed and NOT pinged; otherwise it is pinged
and its request count incremented after the ping.  The emptiness of the checklist only logs. -/
theorem pingAllCandidates_iter_tie (empty : Bool) (state : Int64) (count maxReq : UInt16) :
    IceGen.agent_pingAllCandidates_iter empty state count maxReq
      = pingEffs (state == 1) (pingDecision (stOf state) count.toNat maxReq.toNat) := by
  unfold IceGen.agent_pingAllCandidates_iter pingEffs pingDecision stOf
  rw [show decide (count > maxReq) = decide (maxReq < count) from rfl, u16_lt]
  have hne : (state != 2) = !(state == 2) := rfl
  rw [hne]
  by_cases h1 : state = 1
  · subst h1
    cases empty <;> by_cases hc : count.toNat > maxReq.toNat <;> simp [hc, c]
  · by_cases h2 : state = 2
    · subst h2
      cases empty <;> by_cases hc : count.toNat > maxReq.toNat <;> simp [hc, c]
    · have e1 : (state == 1) = false := by simpa using h1
      have e2 : (state == 2) = false := by simpa using h2
      by_cases h3 : state = 3 <;> cases empty <;> simp [e1, e2, h1, h2, h3, c]

/-- the body of the model's fold in `Agent.pingAll`, as a function of one pair id -/
def pingStep (now : Nat) (acc : Agent × List Out) (id : Nat) : Agent × List Out :=
  let (a, o) := acc
  match a.pairById id with
  | none => (a, o)
  | some p =>
    let p' : Pair := { p with state := .inProgress }
    let (a, p, go) : Agent × Pair × Bool :=
      if p.state == .waiting then (a.modPair id fun q => { q with state := .inProgress }, p', true)
      else (a, p, p.state == .inProgress)
    if !go then (a, o)
    else if p.reqCount > a.cfg.maxBindingRequests then
      (a.modPair id fun p => { p with state := .failed }, o)
    else
      match a.localOf p.l, a.remoteOf p.r with
      | some l, some r =>
        let (a, o') := a.ping now l r
        (a.modPair id fun p => { p with reqCount := p.reqCount + 1 }, o ++ o')
      | _, _ => (a, o)

theorem pingAll_fold (a : Agent) (now : Nat) :
    a.pingAll now = (a.checklist.map (·.id)).foldl (pingStep now) (a, []) := rfl

theorem pingStep_skip (now : Nat) (a : Agent) (o : List Out) (id : Nat) (p : Pair) (hp : a.pairById id = some p)
    (hd : pingDecision p.state p.reqCount a.cfg.maxBindingRequests = .skip) :
    pingStep now (a, o) id = (a, o) := by
  unfold pingStep
  simp only [hp]
  unfold pingDecision at hd
  cases hs : p.state <;> rw [hs] at hd <;> simp at hd
  all_goals (first | rfl | (split at hd <;> simp at hd))

theorem pingStep_fail (now : Nat) (a : Agent) (o : List Out) (id : Nat) (p : Pair) (hp : a.pairById id = some p)
    (hd : pingDecision p.state p.reqCount a.cfg.maxBindingRequests = .fail) :
    (pingStep now (a, o) id).2 = o := by
  unfold pingStep
  simp only [hp]
  unfold pingDecision at hd
  have hgt : p.reqCount > a.cfg.maxBindingRequests := by
    cases hs : p.state <;> rw [hs] at hd <;> simp at hd <;> (try (split at hd <;> simp at hd)) <;> assumption
  cases hs : p.state
  · have : ((a.modPair id fun q => { q with state := .inProgress }).cfg.maxBindingRequests) = a.cfg.maxBindingRequests := rfl
    simp [this, hgt]
  · simp [hgt]
  · rw [hs] at hd; simp at hd
  · rw [hs] at hd; simp at hd

/-- **T: `Agent.keepAliveCandidatesForRenomination`, one iteration**: empty checklist → nothing; a Failed pair is skipped; a
Waiting pair becomes InProgress; every non-failed pair is pinged (no request limit, no count) -/
theorem keepAliveCandidatesForRenomination_iter_tie (empty : Bool) (state : Int64) :
    IceGen.agent_keepAliveCandidatesForRenomination_iter empty state
      = if empty then []
        else [c "for:checklist"] ++
          (if state == 3 then []
           else (if state == 1 then [Eff.set "pair.state" (Val.i 2)] else []) ++ [c "PingCandidate"]) ++ [c "end:checklist"] := by
  unfold IceGen.agent_keepAliveCandidatesForRenomination_iter
  cases empty
  · by_cases h3 : state = 3
    · subst h3; rfl
    · by_cases h1 : state = 1
      · subst h1; rfl
      · have e1 : (state == 1) = false := by simpa using h1
        have e3 : (state == 3) = false := by simpa using h3
        simp only [e1, e3, Bool.false_eq_true, if_false]
        cases (state == 2 || state == 4) <;> rfl
  · rfl

/-- the body of the model's fold in `Agent.keepAliveAll` -/
def keepAliveStep (now : Nat) (acc : Agent × List Out) (id : Nat) : Agent × List Out :=
  let (a, o) := acc
  match a.pairById id with
  | none => (a, o)
  | some p =>
    if p.state == .failed then (a, o) else
    let a := if p.state == .waiting then a.modPair id fun q => { q with state := .inProgress } else a
    match a.localOf p.l, a.remoteOf p.r with
    | some l, some r =>
      let (a, o') := a.ping now l r
      (a, o ++ o')
    | _, _ => (a, o)

theorem keepAliveAll_fold (a : Agent) (now : Nat) :
    a.keepAliveAll now = (a.checklist.map (·.id)).foldl (keepAliveStep now) (a, []) := rfl

theorem keepAliveStep_failed (now : Nat) (a : Agent) (o : List Out) (id : Nat) (p : Pair) (hp : a.pairById id = some p)
    (hf : p.state = .failed) : keepAliveStep now (a, o) id = (a, o) := by
  unfold keepAliveStep
  simp [hp, hf]

/-- effects of one iteration of the two "best pair" loops: `take` = the pair passes the state filter and replaces `best` -/
def bestEffs (take : Bool) : List Eff × String :=
  ([c "for:checklist"] ++ (if take then [Eff.set "best" (Val.s "p")] else []) ++ [c "end:checklist"], "best")

/-- **T: `getBestValidCandidatePair`, one iteration**: only Succeeded pairs; the first one is taken, a later one only with a
STRICTLY higher priority (first wins among equals) -/
theorem getBestValidCandidatePair_iter_tie (state : Int64) (bestNil : Bool) (bestPrio pPrio : UInt64) :
    IceGen.agent_getBestValidCandidatePair_iter state bestNil bestPrio pPrio
      = bestEffs (state == 4 && (bestNil || decide (bestPrio.toNat < pPrio.toNat))) := by
  unfold IceGen.agent_getBestValidCandidatePair_iter bestEffs
  rw [u64_lt]
  have hne : (state != 4) = !(state == 4) := rfl
  rw [hne]
  cases (state == 4) <;> cases bestNil <;> cases (decide (bestPrio.toNat < pPrio.toNat)) <;> rfl

/-- **T: `getBestAvailableCandidatePair`, one iteration**: every pair that is not Failed, same replacement rule -/
theorem getBestAvailableCandidatePair_iter_tie (state : Int64) (bestNil : Bool) (bestPrio pPrio : UInt64) :
    IceGen.agent_getBestAvailableCandidatePair_iter state bestNil bestPrio pPrio
      = bestEffs (!(state == 3) && (bestNil || decide (bestPrio.toNat < pPrio.toNat))) := by
  unfold IceGen.agent_getBestAvailableCandidatePair_iter bestEffs
  rw [u64_lt]
  cases (state == 3) <;> cases bestNil <;> cases (decide (bestPrio.toNat < pPrio.toNat)) <;> rfl

/-- the body of the model's fold `Agent.bestBy`, and that it takes a pair under the same rule -/
def bestStep (a : Agent) (ok : Pair → Bool) (best : Option Pair) (p : Pair) : Option Pair :=
  if !ok p then best else
  match best with
  | none => some p
  | some b => if a.pairPrio b < a.pairPrio p then some p else some b

theorem bestBy_fold (a : Agent) (ok : Pair → Bool) : a.bestBy ok = a.checklist.foldl (bestStep a ok) none := rfl

theorem bestStep_take (a : Agent) (ok : Pair → Bool) (best : Option Pair) (p : Pair) :
    bestStep a ok best p =
      if ok p && (best.isNone || decide ((best.map a.pairPrio).getD 0 < a.pairPrio p)) then some p else best := by
  unfold bestStep
  cases ok p <;> cases best <;> simp

/-- **T: `Agent.addPair`**: the id counter is advanced FIRST, the pair is created with the agent's current role, gets the new
id, is appended to the checklist and indexed by id; it is the result -/
theorem addPair_tie (nextPairID : UInt64) :
    IceGen.agent_addPair nextPairID
      = ([c "nextPairID++", c "p := newCandidatePair(local, remote, isControlling)", Eff.set "p.id" (Val.n nextPairID.toNat),
          Eff.set "a.checklist" (Val.s "checklist ++ [p]"), Eff.set "a.pairsByID[p.id]" (Val.s "p")], "p") := rfl

theorem addPair_model (a : Agent) (l r : Cand) :
    (a.addPair l r).2 = { id := a.nextPairID + 1, l := l.uid, r := r.uid, controlling := a.controlling } ∧
    (a.addPair l r).1.nextPairID = a.nextPairID + 1 ∧
    (a.addPair l r).1.checklist = a.checklist ++ [(a.addPair l r).2] := ⟨rfl, rfl, rfl⟩

/-- **T: `liteSelector.ContactCandidates`**: over a controlling selector the full `ContactCandidates`; over a controlled
selector ONLY `validateSelectedPair` (no keepalive, no pings) -/
theorem liteContactCandidates_tie (isControlling isControlled : Bool) :
    IceGen.liteSelector_ContactCandidates isControlling isControlled
      = if isControlling then [c "inner.ContactCandidates"]
        else if isControlled then [c "validateSelectedPair"] else [] := by
  cases isControlling <;> cases isControlled <;> rfl

theorem contactCandidates_lite_controlled (a : Agent) (now : Nat) (hc : a.controlling = false) (hl : a.cfg.lite = true) :
    a.contactCandidates now = ((a.validateSelected now).1, (a.validateSelected now).2.1) := by
  unfold Agent.contactCandidates
  rw [if_neg (by rw [hc]; exact Bool.false_ne_true), if_pos hl]

end IceTie.AgentTick

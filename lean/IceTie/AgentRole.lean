import IceModel.AgentCore
import IceGen.T_Agent
import IceTie.Basic
/-!
# Tie T for the role-conflict decision (agent.go `handleRoleConflict`)

`IceGen.agent_handleRoleConflict` is regenerated from the Go source on every run (effect mode: the
list of effects the function performs for given tie-breakers and role).  It is proved equal, for ALL
2^64 × 2^64 tie-breaker pairs and both roles, to the decision of RFC 8445 §7.3.1.1 written
independently (`rfcKeeps`), and the model's `roleConflictKeeps` is proved equal to the same decision
on all naturals.  Changing `>=` to `>`, swapping the operands, or exchanging the branches in the Go
source changes the generated term and `handleRoleConflict_gen_eq_rfc` stops checking.
-/
namespace IceTie.AgentRole
open IceModel IceModel.AgentCore

/-- RFC 8445 §7.3.1.1, written from the RFC text: on a role conflict a *controlling* agent keeps its
role (and answers 487) iff its tie-breaker is larger than or equal to the one in the request's
ICE-CONTROLLING attribute; a *controlled* agent keeps its role (and answers 487) iff its tie-breaker is
smaller than the one in the request's ICE-CONTROLLED attribute.  Otherwise the agent switches role. -/
def rfcKeeps (controlling : Bool) (own theirs : Nat) : Bool :=
  if controlling then decide (own ≥ theirs) else decide (own < theirs)

/-- effects of the keeping branch: one 487 Role Conflict error response -/
def effKeep : List Eff := [Eff.call "send487" []]
/-- effects of the switching branch: flip the role, install a fresh selector, send nothing -/
def effSwitch (controlling : Bool) : List Eff :=
  [Eff.call "setControlling" [Val.b (!controlling)], Eff.call "setSelector" []]

theorem roleConflictKeeps_eq_rfc (controlling : Bool) (own theirs : Nat) :
    roleConflictKeeps controlling own theirs = rfcKeeps controlling own theirs := by
  unfold roleConflictKeeps rfcKeeps
  cases controlling
  · by_cases h : theirs ≤ own
    · have : ¬ own < theirs := by omega
      simp [h, this]
    · have : own < theirs := by omega
      simp [h, this]
  · simp

/-- the code's decision (regenerated) is the RFC's decision, for all 64-bit tie-breakers and both roles;
`buildFails = false`: `stun.Build` of the error response succeeds -/
theorem handleRoleConflict_gen_eq_rfc (own theirs : UInt64) (controlling : Bool) :
    IceGen.agent_handleRoleConflict false own theirs controlling
      = if rfcKeeps controlling own.toNat theirs.toNat then effKeep else effSwitch controlling := by
  unfold IceGen.agent_handleRoleConflict rfcKeeps effKeep effSwitch
  have h : decide (own ≥ theirs) = decide (own.toNat ≥ theirs.toNat) := u64_le theirs own
  cases controlling
  · by_cases hlt : own.toNat < theirs.toNat
    · have : ¬ (theirs.toNat ≤ own.toNat) := by omega
      simp [h, hlt, this]
    · have : theirs.toNat ≤ own.toNat := by omega
      simp [h, hlt, this]
  · by_cases hge : theirs.toNat ≤ own.toNat <;> simp [h, hge]

theorem handleRoleConflict_gen_eq_model (own theirs : UInt64) (controlling : Bool) :
    IceGen.agent_handleRoleConflict false own theirs controlling
      = if roleConflictKeeps controlling own.toNat theirs.toNat then effKeep else effSwitch controlling := by
  rw [roleConflictKeeps_eq_rfc]; exact handleRoleConflict_gen_eq_rfc own theirs controlling

/-- when building the error response fails the keeping branch sends nothing and still does not switch -/
theorem handleRoleConflict_gen_buildFails (own theirs : UInt64) (controlling : Bool) :
    IceGen.agent_handleRoleConflict true own theirs controlling
      = if rfcKeeps controlling own.toNat theirs.toNat then [] else effSwitch controlling := by
  have h := handleRoleConflict_gen_eq_rfc own theirs controlling
  unfold IceGen.agent_handleRoleConflict at h ⊢
  by_cases hk : rfcKeeps controlling own.toNat theirs.toNat = true
  · simp only [hk, if_true] at h ⊢
    split
    · rfl
    · rename_i hc; simp [hc, effKeep] at h
  · simp only [hk] at h ⊢
    split
    · rename_i hc; simp [hc, effSwitch] at h
    · rfl

end IceTie.AgentRole

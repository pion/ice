import IceModel.UdpMux
import IceGen.T_Mux
/-!
# Tie T, round 3: where a datagram goes (udp_mux.go `connWorker`)

`UDPMuxDefault.connWorker` (ONE iteration of its read loop, loop mode) is regenerated from the Go source on every run
(`IceGen.T_Mux`, effect mode).  The ufrag extraction `strings.Split(string(attr), ":")[0]` and the family test are pinned
statements (effects by their text); the theorem states the effect list for all outcomes of the tests, the corollaries the routing
decision the model `UdpMux.inbound` makes.
-/
namespace IceTie.MuxUdp
open IceModel

def c (name : String) : Eff := Eff.call name []

/-- the destination exists: the source is in the address map, or the datagram is STUN that decodes, has a USERNAME, and the
ufrag before the first ':' is registered for the family of the canonical source -/
def udpRouted (mapped isStun decodeErr noUsername byUfrag : Bool) : Bool :=
  mapped || (isStun && !decodeErr && !noUsername && byUfrag)

def udpLookup : List Eff :=
  [c "msg := copy of the datagram"]

def udpByUfrag : List Eff :=
  [c "ufrag := USERNAME up to the first ':'", c "isIPv6 := canonical source is IPv6", c "mu.Lock",
   c "destinationConn = getConn(ufrag, isIPv6)", c "mu.Unlock"]

def udpHead : List Eff :=
  [c "srcAddr := canonicalAddrPort(source)", c "addressMapMu.Lock", c "destinationConn := addressMap[srcAddr]", c "addressMapMu.Unlock"]

def udpWrite : Eff := c "destinationConn.writePacket(datagram, source)"

/-- **T: `UDPMuxDefault.connWorker`, one iteration**: read; a closed mux or a non-timeout read error ends the worker, a timeout
goes round again; the source is canonicalised and looked up in the address map FIRST; only an unmapped source with a STUN
payload is looked up by ufrag (Decode, USERNAME, text before the first ':', family of the canonical source, under `mu`); a
datagram without destination is dropped; otherwise exactly one `writePacket` to the destination; the loop continues -/
theorem connWorker_iter_tie (closed readErr isTimeout e1 e2 e3 mapped isStun decodeErr noUsername byUfrag : Bool) :
    IceGen.udpMux_connWorker_iter closed readErr isTimeout e1 e2 e3 mapped isStun decodeErr noUsername byUfrag
      = if closed then ([c "readFromUDPConn"], some ())
        else if readErr then ([c "readFromUDPConn"], if isTimeout then none else some ())
        else (c "readFromUDPConn" :: udpHead ++
               (if !mapped && isStun then
                  udpLookup ++ (if decodeErr || noUsername then [] else udpByUfrag ++ (if byUfrag then [udpWrite] else []))
                else if mapped then [udpWrite] else []), none) := by
  unfold IceGen.udpMux_connWorker_iter
  cases closed
  · cases readErr
    · simp only [Bool.false_eq_true, if_false]
      cases mapped <;> cases isStun <;> cases decodeErr <;> cases noUsername <;> cases byUfrag <;> rfl
    · simp only [Bool.false_eq_true, if_false, if_true, ite_self]
      cases isTimeout <;> rfl
  · rfl

theorem connWorker_delivers_iff (isTimeout e1 e2 e3 mapped isStun decodeErr noUsername byUfrag : Bool) :
    (IceGen.udpMux_connWorker_iter false false isTimeout e1 e2 e3 mapped isStun decodeErr noUsername byUfrag).1.count udpWrite
      = if udpRouted mapped isStun decodeErr noUsername byUfrag then 1 else 0 := by
  rw [connWorker_iter_tie]
  simp only [Bool.false_eq_true, if_false]
  cases mapped <;> cases isStun <;> cases decodeErr <;> cases noUsername <;> cases byUfrag <;> decide

theorem inbound_mapped (m : UdpMux.Mux) (src : UdpMux.Addr) (k : UdpMux.Kind) (pid c : Nat) (hc : m.closed = false)
    (hm : m.addrMap (UdpMux.canonAddr src) = some c) (hl : (m.conn c).closed = false) :
    (UdpMux.inbound m src k pid).2 = .delivered c := by
  unfold UdpMux.inbound
  simp [hc, hm, hl]

theorem lookupUfrag_only_user (m : UdpMux.Mux) (a : UdpMux.Addr) (k : UdpMux.Kind) :
    UdpMux.lookupUfrag m a k =
      match k with
      | .stunUser n => (UdpMux.famMap m (!a.ip.is4)).get? (UdpMux.beforeColon n)
      | _ => none := by
  cases k <;> rfl

end IceTie.MuxUdp

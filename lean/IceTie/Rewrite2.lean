import IceTie.Rewrite
import IceGen.T_Rewrite2
/-!
# Tie T for the mapper side of the address rewrite rules (external_ip_mapper.go): lookup, search loops,
and two pieces in effect mode

Regenerated on every run (`IceGen.T_Rewrite2`): `ruleMappingForLookup`, `addressRewriteRuleMapping.mappingForFamily`,
`addressRewriteMapper.shouldReplace` / `hasCandidateType` (search loops), `maybeMarkEmptyMapping` (effect mode) and ONE
iteration of the loop of `addExternalMappings` (effect mode: which family an external address is filed under and
whether it is filed at all).  Proved equal, for all arguments, to `IceModel.Rewrite.ruleMappingForLookup`,
`shouldReplace`, `hasCandidateType`, the empty-mapping branch of `catchAllMap` (External list empty) / the condition of `pinMap`, and
`targetFam` / the filter of `soleFor`.
-/
namespace IceTie.Rewrite2
open IceModel IceModel.Rewrite

/-- `rule.cidr.Contains(locIP)` (read only when the rule has a CIDR) -/
def cidrContains (cidr : Option CIDR) (ip : IP) : Bool :=
  match cidr with
  | some c => c.contains ip
  | none => false

/-- **T: `ruleMappingForLookup`**: a mapping is returned (and `ok`) iff the model's lookup returns one, and it is the mapping
of the local address's family (`mappingForFamily`) -/
theorem ruleMappingForLookup_tie (r : CRule) (ip : IP) (iface : String) :
    IceGen.ruleMappingForLookup r.iface iface r.cidr.isSome (cidrContains r.cidr ip)
        (if IceGen.ruleMapping_mappingForFamily ip.v4 then r.m4 else r.m6).valid
      = ((ruleMappingForLookup r ip iface).isSome, (ruleMappingForLookup r ip iface).isSome) ∧
    (∀ fm, ruleMappingForLookup r ip iface = some fm →
      fm = if IceGen.ruleMapping_mappingForFamily ip.v4 then r.m4 else r.m6) := by
  have hf : IceGen.ruleMapping_mappingForFamily ip.v4 = ip.v4 := by
    unfold IceGen.ruleMapping_mappingForFamily; cases ip.v4 <;> rfl
  have hc : (r.cidr.isSome && !cidrContains r.cidr ip) = cidrExcludes r.cidr ip := by cases r.cidr <;> rfl
  unfold IceGen.ruleMappingForLookup ruleMappingForLookup
  rw [hf, hc]
  dsimp only
  generalize (if ip.v4 = true then r.m4 else r.m6) = fm
  by_cases h1 : r.iface ≠ "" ∧ r.iface ≠ iface
  · rw [if_pos h1, if_pos (by simpa using h1)]
    exact ⟨rfl, fun _ h => nomatch h⟩
  · rw [if_neg h1, if_neg (by simpa using h1)]
    cases cidrExcludes r.cidr ip
    · cases fm.valid
      · exact ⟨rfl, fun _ h => nomatch h⟩
      · exact ⟨rfl, fun _ h => (Option.some.inj h).symm⟩
    · exact ⟨rfl, fun _ h => nomatch h⟩

theorem any_map {α β : Type} (l : List α) (f : α → β) (p : β → Bool) : (l.map f).any p = l.any (fun x => p (f x)) := by
  induction l with
  | nil => rfl
  | cons x xs ih => simp [ih]

theorem any_congr_mem {α : Type} (l : List α) (f g : α → Bool) (h : ∀ x ∈ l, f x = g x) : l.any f = l.any g := by
  induction l with
  | nil => rfl
  | cons x xs ih =>
    rw [List.any_cons, List.any_cons, h x (List.mem_cons_self), ih (fun y hy => h y (List.mem_cons_of_mem _ hy))]

/-- **T: `shouldReplace`** on the modes of the rules stored for the candidate type (mode codes are Go `int`s) -/
theorem shouldReplace_tie (m : Mapper) (ct : Nat) (h : ∀ r ∈ rulesFor m ct, r.mode < 2 ^ 63) :
    IceGen.mapper_shouldReplace ((rulesFor m ct).map (fun r => Int64.ofNat r.mode)) = shouldReplace m ct := by
  unfold IceGen.mapper_shouldReplace shouldReplace
  rw [any_map]
  have : (rulesFor m ct).any (fun r => Int64.ofNat r.mode == 1) = (rulesFor m ct).any (fun r => r.mode == 1) :=
    any_congr_mem _ _ _ (fun r hr => IceTie.ofNat_beq r.mode 1 (h r hr) (by decide))
  rw [this]
  cases (rulesFor m ct).any (fun r => r.mode == 1) <;> rfl

/-- **T: `hasCandidateType`** composed with the regenerated `hasMappings` -/
theorem hasCandidateType_tie (m : Mapper) (ct : Nat) :
    IceGen.mapper_hasCandidateType ((rulesFor m ct).map (fun r => IceGen.ruleMapping_hasMappings r.m4.valid r.m6.valid))
      = hasCandidateType m ct := by
  unfold IceGen.mapper_hasCandidateType hasCandidateType
  rw [any_map]
  have : (rulesFor m ct).any (fun r => IceGen.ruleMapping_hasMappings r.m4.valid r.m6.valid)
      = (rulesFor m ct).any CRule.hasMappings := rfl
  rw [this]
  cases (rulesFor m ct).any CRule.hasMappings <;> rfl

def eFor : Eff := Eff.call "for:externals" []
def eEnd : Eff := Eff.call "end:externals" []

/-- `targetLocalIPv4`: the local family an external address is filed under -/
def target (hasLocalAddr localIsIPv4 hasCIDR cidrIsIPv4 isExtIPv4 : Bool) : Bool :=
  if hasLocalAddr then localIsIPv4 else if hasCIDR then cidrIsIPv4 else isExtIPv4

/-- **T: one iteration of `addExternalMappings`**, all arguments: a `/` in the string or an unparsable address is an error;
otherwise the address is filed (`addImplicitMapping(target, hasLocalAddr)`, `added = true`) iff the target family is
allowed by the rule's networks, else skipped -/
theorem addExternalMappings_iter_tie (hasSlash parseErr isExtIPv4 hasLocalAddr localIsIPv4 hasCIDR cidrIsIPv4 a4 a6 : Bool) :
    IceGen.addExternalMappings_iter hasSlash parseErr isExtIPv4 hasLocalAddr localIsIPv4 hasCIDR cidrIsIPv4 a4 a6
      = if hasSlash then ([eFor], (false, "ErrInvalidNAT1To1IPMapping"))
        else if parseErr then ([eFor], (false, "err"))
        else if isFamilyAllowed a4 a6 (target hasLocalAddr localIsIPv4 hasCIDR cidrIsIPv4 isExtIPv4) then
          ([eFor, Eff.call "addImplicitMapping"
              [Val.b (target hasLocalAddr localIsIPv4 hasCIDR cidrIsIPv4 isExtIPv4), Val.b hasLocalAddr], eEnd], (true, "nil"))
        else ([eFor, eEnd], (false, "nil")) := by
  unfold IceGen.addExternalMappings_iter Eff.pre target
  simp only [IceTie.Rewrite.isFamilyAllowed_tie]
  cases hasSlash
  · cases parseErr
    · -- the three branches differ only in the family the address is filed under
      cases hasLocalAddr
      · cases hasCIDR
        · simp only [Bool.false_eq_true, if_false]
          cases isFamilyAllowed a4 a6 isExtIPv4 <;> rfl
        · simp only [Bool.false_eq_true, if_false, if_true]
          cases isFamilyAllowed a4 a6 cidrIsIPv4 <;> rfl
      · simp only [Bool.false_eq_true, if_false, if_true]
        cases isFamilyAllowed a4 a6 localIsIPv4 <;> rfl
    · rfl
  · rfl

/-- … for a rule WITHOUT `Local` the target is the model's `targetFam`, and the external address lands in the catch-all list
of family `fam` iff the predicate `soleFor` filters by holds -/
theorem addExternalMappings_iter_model (a4 a6 : Bool) (cidr : Option CIDR) (e : IP) (fam : Bool) :
    target false false cidr.isSome ((cidr.map (·.v4)).getD false) e.v4 = targetFam cidr e ∧
    ((IceGen.addExternalMappings_iter false false e.v4 false false cidr.isSome ((cidr.map (·.v4)).getD false) a4 a6).1.contains
        (Eff.call "addImplicitMapping" [Val.b fam, Val.b false])
      = ((targetFam cidr e == fam) && isFamilyAllowed a4 a6 fam)) := by
  have ht : target false false cidr.isSome ((cidr.map (·.v4)).getD false) e.v4 = targetFam cidr e := by
    unfold target targetFam; cases cidr <;> simp
  refine ⟨ht, ?_⟩
  rw [addExternalMappings_iter_tie, ht]
  simp only [Bool.false_eq_true, if_false]
  cases targetFam cidr e <;> cases fam <;> cases a4 <;> cases a6 <;> decide

/-- **T: `maybeMarkEmptyMapping`**, all arguments: nothing when an address was added; with `Local`: the local family's map gets
the empty entry and becomes valid iff that family is allowed; without `Local`: every allowed family becomes a valid, empty
catch-all -/
theorem maybeMarkEmptyMapping_tie (added hasLocalAddr localIsIPv4 a4 a6 : Bool) :
    IceGen.maybeMarkEmptyMapping added hasLocalAddr localIsIPv4 a4 a6
      = if added then []
        else if hasLocalAddr then
          (if isFamilyAllowed a4 a6 localIsIPv4
           then [Eff.set "family.ipMap[localAddr.String()]" (Val.s "nil"), Eff.set "family.valid" (Val.b true)] else [])
        else (if a4 then [Eff.set "ruleMapping.ipv4Mapping.valid" (Val.b true),
                          Eff.set "ruleMapping.ipv4Mapping.catchAllSet" (Val.b true)] else [])
          ++ (if a6 then [Eff.set "ruleMapping.ipv6Mapping.valid" (Val.b true),
                          Eff.set "ruleMapping.ipv6Mapping.catchAllSet" (Val.b true)] else []) := by
  unfold IceGen.maybeMarkEmptyMapping
  simp only [IceTie.Rewrite.isFamilyAllowed_tie]
  cases added <;> cases hasLocalAddr <;> cases localIsIPv4 <;> cases a4 <;> cases a6 <;> rfl

/-- the assignments of `maybeMarkEmptyMapping` applied to the two family mappings of a rule -/
def applyMark (effs : List Eff) (m : FamMap × FamMap) : FamMap × FamMap :=
  effs.foldl (fun acc e => match e with
    | Eff.set "ruleMapping.ipv4Mapping.valid" (Val.b v) => ({ acc.1 with valid := v }, acc.2)
    | Eff.set "ruleMapping.ipv4Mapping.catchAllSet" (Val.b v) => ({ acc.1 with catchAll := v }, acc.2)
    | Eff.set "ruleMapping.ipv6Mapping.valid" (Val.b v) => (acc.1, { acc.2 with valid := v })
    | Eff.set "ruleMapping.ipv6Mapping.catchAllSet" (Val.b v) => (acc.1, { acc.2 with catchAll := v })
    | _ => acc) m

/-- a rule without `Local` whose External list is EMPTY (since /repo d6a4f83 the only case in which `newAddressRewriteMapper`
calls `maybeMarkEmptyMapping`): the two mappings after `maybeMarkEmptyMapping` are the model's `catchAllMap` -/
theorem maybeMarkEmptyMapping_model (a4 a6 : Bool) (cidr : Option CIDR) :
    applyMark (IceGen.maybeMarkEmptyMapping false false false a4 a6) ({}, {})
      = (catchAllMap a4 a6 cidr [] true, catchAllMap a4 a6 cidr [] false) := by
  rw [maybeMarkEmptyMapping_tie]
  unfold catchAllMap
  simp only [List.isEmpty_nil, if_true]
  cases a4 <;> cases a6 <;> rfl

/-- a rule without `Local` that names externals of which none was added (all skipped by the family filter): the call is
skipped, the untouched mappings are the model's `catchAllMap` (no mapping for either family) -/
theorem unmarked_model (a4 a6 : Bool) (cidr : Option CIDR) (exts : List IP) (hne : exts ≠ [])
    (h4 : (soleFor a4 a6 cidr exts true).isEmpty = true) (h6 : (soleFor a4 a6 cidr exts false).isEmpty = true) :
    (({}, {}) : FamMap × FamMap) = (catchAllMap a4 a6 cidr exts true, catchAllMap a4 a6 cidr exts false) := by
  have he : exts.isEmpty = false := by cases exts; exact absurd rfl hne; rfl
  unfold catchAllMap
  rw [List.isEmpty_iff.mp h4, List.isEmpty_iff.mp h6]
  simp [he]

/-- a rule pinned by `Local = l`: the empty entry is made iff the model's `pinMap` is non-trivial for the local family -/
theorem maybeMarkEmptyMapping_pin (a4 a6 : Bool) (l : IP) :
    (IceGen.maybeMarkEmptyMapping false true l.v4 a4 a6 ≠ []) ↔ (pinMap a4 a6 l [] l.v4).valid = true := by
  rw [maybeMarkEmptyMapping_tie]
  unfold pinMap
  cases isFamilyAllowed a4 a6 l.v4 <;> simp

end IceTie.Rewrite2

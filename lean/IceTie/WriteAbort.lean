import IceModel.WriteAbort
import IceGen.T_WriteAbort
import IceTie.Basic
/-!
# Tie T for the write-abort state word of the UDP mux (udp_mux.go `writeState`)

The six load / test / CAS loops `startWriteContext`, `finishWrite`, `abortWrite`, `setWriteDeadlineArmed`,
`clearWriteDeadlineAfterAbort`, `clearWriteAbortState` are regenerated from the Go source on every run in LOOP MODE
(`IceGen.T_WriteAbort`): ONE iteration of the loop as a function of the loaded word (`state`) and of the result of
its CAS (`casOk`) — the list of effects (`cas old new`, `gosched`, `store 0`, the socket calls) and `some result` if
the iteration returns, `none` if it goes round again.

`IceModel.WriteAbort.State` keeps the word as (`cnt`, `dbit`, `bbit`).  `word cnt dbit bbit` is the 64-bit value
(count in the low 62 bits, deadline bit 62, blocked bit 63).  For EVERY count below 2^62 and both bits the theorems
give the iteration on `word cnt dbit bbit`: the test it takes is the model's test on (`cnt`, `dbit`, `bbit`), and
the value it CASes in is the word of the model's successor state (`cnt ± 1`, a bit set, both bits cleared).  A
changed mask, bit, `±1`, comparison or branch in the Go source changes the generated term and these theorems stop
checking.
-/
namespace IceTie.WriteAbort
open IceModel IceModel.WriteAbort

theorem and_split (x y : Nat) :
    x &&& y = 2 ^ 62 * ((x / 2 ^ 62) &&& (y / 2 ^ 62)) + ((x % 2 ^ 62) &&& (y % 2 ^ 62)) := by
  have := Nat.div_add_mod (x &&& y) (2 ^ 62)
  rw [Nat.and_div_two_pow, Nat.and_mod_two_pow] at this
  omega

theorem or_split (x y : Nat) :
    x ||| y = 2 ^ 62 * ((x / 2 ^ 62) ||| (y / 2 ^ 62)) + ((x % 2 ^ 62) ||| (y % 2 ^ 62)) := by
  have := Nat.div_add_mod (x ||| y) (2 ^ 62)
  rw [Nat.or_div_two_pow, Nat.or_mod_two_pow] at this
  omega

/-- the two flag bits as a number 0–3 -/
def hi (d b : Bool) : Nat := (if d then 1 else 0) + (if b then 2 else 0)

/-- `writeState` as a number: count | deadline bit (2^62) | blocked bit (2^63) -/
def word (c : Nat) (d b : Bool) : Nat := 2 ^ 62 * hi d b + c

/-- … and as the `uint64` the code loads -/
def enc (c : Nat) (d b : Bool) : UInt64 := UInt64.ofNat (word c d b)

theorem word_bits : word 0 false true = 2 ^ blockedBitPos ∧ word 0 true false = 2 ^ deadlineBitPos ∧
    word countMask false false = countMask ∧ word 0 false false = 0 := by decide

theorem word_div (c : Nat) (d b : Bool) (h : c < 2 ^ 62) : word c d b / 2 ^ 62 = hi d b := by
  unfold word; omega
theorem word_mod (c : Nat) (d b : Bool) (h : c < 2 ^ 62) : word c d b % 2 ^ 62 = c := by
  unfold word; omega
theorem word_lt (c : Nat) (d b : Bool) (h : c < 2 ^ 62) : word c d b < 2 ^ 64 := by
  unfold word hi; cases d <;> cases b <;> simp <;> omega

theorem lt_size {n : Nat} (h : n < 2 ^ 64) : n < UInt64.size := by unfold UInt64.size; omega

theorem enc_toNat (c : Nat) (d b : Bool) (h : c < 2 ^ 62) : (enc c d b).toNat = word c d b :=
  UInt64.toNat_ofNat_of_lt' (word_lt c d b h)

theorem word_and_B (c : Nat) (d b : Bool) (h : c < 2 ^ 62) :
    word c d b &&& 9223372036854775808 = if b then 9223372036854775808 else 0 := by
  rw [and_split, word_div c d b h, word_mod c d b h]
  cases d <;> cases b <;> simp [hi]

theorem word_and_D (c : Nat) (d b : Bool) (h : c < 2 ^ 62) :
    word c d b &&& 4611686018427387904 = if d then 4611686018427387904 else 0 := by
  rw [and_split, word_div c d b h, word_mod c d b h]
  cases d <;> cases b <;> simp [hi]

theorem word_and_C (c : Nat) (d b : Bool) (h : c < 2 ^ 62) : word c d b &&& 4611686018427387903 = c := by
  have := Nat.and_two_pow_sub_one_eq_mod (word c d b) 62
  rw [word_mod c d b h] at this
  exact this

theorem word_or_B (c : Nat) (d b : Bool) (h : c < 2 ^ 62) : word c d b ||| 9223372036854775808 = word c d true := by
  rw [or_split, word_div c d b h, word_mod c d b h]
  cases d <;> cases b <;> simp [hi, word]

theorem word_or_D (c : Nat) (d b : Bool) (h : c < 2 ^ 62) : word c d b ||| 4611686018427387904 = word c true b := by
  rw [or_split, word_div c d b h, word_mod c d b h]
  cases d <;> cases b <;> simp [hi, word]

theorem u64_eq (x y : UInt64) (h : x.toNat = y.toNat) : x = y := UInt64.toNat_inj.mp h

/-- `state&udpMuxWriteBlockedBit != 0` is the model's `bbit` -/
theorem blocked_test (c : Nat) (d b : Bool) (h : c < 2 ^ 62) :
    ((enc c d b &&& 9223372036854775808) != 0) = b := by
  rw [u64_bne, UInt64.toNat_and, enc_toNat c d b h]
  change ((word c d b &&& 9223372036854775808) != 0) = b
  rw [word_and_B c d b h]
  cases b <;> rfl

theorem blocked_test0 (c : Nat) (d b : Bool) (h : c < 2 ^ 62) :
    ((enc c d b &&& 9223372036854775808) == 0) = !b := by
  conv => rhs; rw [← blocked_test c d b h, bne, Bool.not_not]

/-- `state&udpMuxWriteDeadlineBit != 0` is the model's `dbit` -/
theorem deadline_test (c : Nat) (d b : Bool) (h : c < 2 ^ 62) :
    ((enc c d b &&& 4611686018427387904) != 0) = d := by
  rw [u64_bne, UInt64.toNat_and, enc_toNat c d b h]
  change ((word c d b &&& 4611686018427387904) != 0) = d
  rw [word_and_D c d b h]
  cases d <;> rfl

theorem deadline_test0 (c : Nat) (d b : Bool) (h : c < 2 ^ 62) :
    ((enc c d b &&& 4611686018427387904) == 0) = !d := by
  conv => rhs; rw [← deadline_test c d b h, bne, Bool.not_not]

/-- `state & udpMuxWriteCountMask` is the model's `cnt` -/
theorem count_field (c : Nat) (d b : Bool) (h : c < 2 ^ 62) :
    enc c d b &&& 4611686018427387903 = UInt64.ofNat c := by
  apply u64_eq
  rw [UInt64.toNat_and, enc_toNat c d b h, UInt64.toNat_ofNat_of_lt' (lt_size (by omega))]
  exact word_and_C c d b h

theorem count_eq (c k : Nat) (h : c < 2 ^ 62) (hk : k < 2 ^ 62) : (UInt64.ofNat c == UInt64.ofNat k) = (c == k) := by
  rw [u64_beq, UInt64.toNat_ofNat_of_lt' (lt_size (by omega)), UInt64.toNat_ofNat_of_lt' (lt_size (by omega))]

/-- `state | udpMuxWriteBlockedBit` / `state | udpMuxWriteDeadlineBit` set the model's bit -/
theorem set_blocked (c : Nat) (d b : Bool) (h : c < 2 ^ 62) : enc c d b ||| 9223372036854775808 = enc c d true := by
  apply u64_eq
  rw [UInt64.toNat_or, enc_toNat c d b h, enc_toNat c d true h]
  exact word_or_B c d b h

theorem set_deadline (c : Nat) (d b : Bool) (h : c < 2 ^ 62) : enc c d b ||| 4611686018427387904 = enc c true b := by
  apply u64_eq
  rw [UInt64.toNat_or, enc_toNat c d b h, enc_toNat c true b h]
  exact word_or_D c d b h

/-- `state &^ (blocked | deadline)` clears both bits -/
theorem clear_bits (c : Nat) (d b : Bool) (h : c < 2 ^ 62) :
    enc c d b &&& (~~~(13835058055282163712 : UInt64)) = enc c false false := by
  have e : (~~~(13835058055282163712 : UInt64)) = 4611686018427387903 := by decide
  rw [e, count_field c d b h]
  unfold enc word hi
  simp

/-- `state + 1` / `state - 1` move the count and leave the bits -/
theorem inc_word (c : Nat) (d b : Bool) (h : c + 1 < 2 ^ 62) : enc c d b + 1 = enc (c + 1) d b := by
  apply u64_eq
  rw [UInt64.toNat_add, enc_toNat c d b (by omega), enc_toNat (c + 1) d b h]
  have := word_lt (c + 1) d b h
  unfold word at *
  change (2 ^ 62 * hi d b + c + 1) % 2 ^ 64 = _
  omega

theorem dec_word (c : Nat) (d b : Bool) (h : c + 1 < 2 ^ 62) : enc (c + 1) d b - 1 = enc c d b := by
  apply u64_eq
  rw [UInt64.toNat_sub, enc_toNat c d b (by omega), enc_toNat (c + 1) d b h]
  have := word_lt (c + 1) d b h
  unfold word at *
  change (2 ^ 64 - 1 + (2 ^ 62 * hi d b + (c + 1))) % 2 ^ 64 = _
  omega

def eCas (old new : Nat) : Eff := Eff.call "cas" [Val.n old, Val.n new]
def eYield : Eff := Eff.call "gosched" []

/-- **T: `startWriteContext`** (model actions `startCtxErr`, `start`): a cancelled context returns its error; a blocked
word yields and retries; otherwise CAS(word, word with count + 1) and return nil iff it succeeded -/
theorem startWriteContext_tie (c : Nat) (d b casOk : Bool) (h : c + 1 < 2 ^ 62) :
    IceGen.udpMux_startWriteContext_iter true (enc c d b) casOk = ([], some "ctxErr") ∧
    IceGen.udpMux_startWriteContext_iter false (enc c d b) casOk
      = if b then ([eYield], none)
        else ([eCas (word c d b) (word (c + 1) d b)], if casOk then some "nil" else none) := by
  unfold IceGen.udpMux_startWriteContext_iter Eff.pre
  refine ⟨rfl, ?_⟩
  simp only [Bool.false_eq_true, if_false]
  rw [blocked_test c d b (by omega), inc_word c d b h, enc_toNat c d b (by omega), enc_toNat (c + 1) d b h]
  cases b <;> cases casOk <;> rfl

/-- **T: `finishWrite`** (model action `finish`): count 0 returns; blocked ∧ count 1 → CAS(word, count − 1) then
`clearWriteDeadlineAfterAbort`; otherwise CAS(word, count − 1) and return -/
theorem finishWrite_tie (c : Nat) (d b casOk : Bool) (h : c < 2 ^ 62) :
    IceGen.udpMux_finishWrite_iter (enc c d b) casOk
      = if c = 0 then ([], some "writeErr")
        else if b ∧ c = 1 then
          ([eCas (word c d b) (word (c - 1) d b)], if casOk then some "clearWriteDeadlineAfterAbort(writeErr)" else none)
        else ([eCas (word c d b) (word (c - 1) d b)], if casOk then some "writeErr" else none) := by
  unfold IceGen.udpMux_finishWrite_iter Eff.pre
  simp only
  rw [count_field c d b h, blocked_test c d b h]
  have e0 : (UInt64.ofNat c == 0) = (c == 0) := count_eq c 0 h (by decide)
  have e1 : (UInt64.ofNat c == 1) = (c == 1) := count_eq c 1 h (by decide)
  rw [e0, e1]
  cases c with
  | zero => rfl
  | succ k =>
    rw [dec_word k d b h, enc_toNat k d b (by omega), enc_toNat (k + 1) d b h]
    have hk : (k + 1 == 0) = false := by simp
    simp only [hk, Bool.false_eq_true, if_false, Nat.add_sub_cancel, Nat.succ_ne_zero]
    by_cases h1 : k = 0
    · subst h1; cases b <;> cases casOk <;> rfl
    · have : (k + 1 == 1) = false := by simp [h1]
      have h1' : ¬ (k + 1 = 1) := by omega
      simp only [this, Bool.and_false, Bool.false_eq_true, if_false, h1', and_false]
      cases casOk <;> rfl

/-- **T: `abortWrite`** (model actions `abortCas`, `abortSet`): blocked or count 0 returns nil; otherwise CAS(word, word with
blocked); after a successful CAS `SetWriteDeadline(now)`, on failure `clearWriteAbortState` and the error, on success
`setWriteDeadlineArmed` and nil -/
theorem abortWrite_tie (c : Nat) (d b casOk setFails : Bool) (h : c < 2 ^ 62) :
    IceGen.udpMux_abortWrite_iter (enc c d b) casOk setFails
      = if b ∨ c = 0 then ([], some "nil")
        else if !casOk then ([eCas (word c d b) (word c d true)], none)
        else if setFails then
          ([eCas (word c d b) (word c d true), Eff.call "setWriteDeadlineNow" [], Eff.call "clearWriteAbortState" []], some "err")
        else
          ([eCas (word c d b) (word c d true), Eff.call "setWriteDeadlineNow" [], Eff.call "setWriteDeadlineArmed" []], some "nil") := by
  unfold IceGen.udpMux_abortWrite_iter Eff.pre
  rw [count_field c d b h, blocked_test c d b h, set_blocked c d b h, enc_toNat c d b h, enc_toNat c d true h]
  have e0 : (UInt64.ofNat c == 0) = (c == 0) := count_eq c 0 h (by decide)
  rw [e0]
  by_cases hc : c = 0
  · subst hc; cases b <;> rfl
  · have : (c == 0) = false := by simp [hc]
    simp only [this, Bool.or_false, hc, or_false]
    cases b <;> cases casOk <;> cases setFails <;> rfl

/-- **T: `setWriteDeadlineArmed`** (model action `abortArm`): not blocked or already armed returns; otherwise CAS(word, word
with the deadline bit) -/
theorem setWriteDeadlineArmed_tie (c : Nat) (d b casOk : Bool) (h : c < 2 ^ 62) :
    IceGen.udpMux_setWriteDeadlineArmed_iter (enc c d b) casOk
      = if b = false ∨ d then ([], some ())
        else ([eCas (word c d b) (word c true b)], if casOk then some () else none) := by
  unfold IceGen.udpMux_setWriteDeadlineArmed_iter Eff.pre
  rw [blocked_test0 c d b h, deadline_test c d b h, set_deadline c d b h, enc_toNat c d b h, enc_toNat c true b h]
  cases b <;> cases d <;> cases casOk <;> rfl

/-- **T: `clearWriteDeadlineAfterAbort`** (model actions `clearLoad`, `clearSet`, `clearStore`): not blocked returns;
blocked without the deadline bit yields and retries; otherwise `SetWriteDeadline(zero)`, `Store(0)`, and the write's
error or, if there is none, the error of the clearing -/
theorem clearWriteDeadlineAfterAbort_tie (c : Nat) (d b writeOk : Bool) (h : c < 2 ^ 62) :
    IceGen.udpMux_clearWriteDeadlineAfterAbort_iter (enc c d b) writeOk
      = if b = false then ([], some "writeErr")
        else if d = false then ([eYield], none)
        else ([Eff.call "setWriteDeadlineZero" [], Eff.call "store" [Val.n (word 0 false false)]],
              some (if writeOk then "clearErr" else "writeErr")) := by
  unfold IceGen.udpMux_clearWriteDeadlineAfterAbort_iter Eff.pre
  rw [blocked_test0 c d b h, deadline_test0 c d b h]
  cases b <;> cases d <;> cases writeOk <;> rfl

/-- **T: `clearWriteAbortState`** (model action `abortClear`): no bit set returns; otherwise CAS(word, word with both bits
cleared) -/
theorem clearWriteAbortState_tie (c : Nat) (d b casOk : Bool) (h : c < 2 ^ 62) :
    IceGen.udpMux_clearWriteAbortState_iter (enc c d b) casOk
      = if d = false ∧ b = false then ([], some ())
        else ([eCas (word c d b) (word c false false)], if casOk then some () else none) := by
  unfold IceGen.udpMux_clearWriteAbortState_iter Eff.pre
  simp only
  rw [clear_bits c d b h, u64_beq, enc_toNat c d b h, enc_toNat c false false h]
  have hne : (word c d b == word c false false) = (!d && !b) := by
    cases d <;> cases b <;> simp [word, hi]
  rw [hne]
  cases d <;> cases b <;> cases casOk <;> rfl

/-! ## the iterations against the model's transitions

`wordOf s` is the word of a model state.  For every state and thread at the right location, the iteration whose CAS
succeeds performs exactly the model's transition: it takes the model's branch and the value it CASes (stores) is the
word of the model's successor state. -/

def wordOf (s : State) : Nat := word s.cnt s.dbit s.bbit
def encOf (s : State) : UInt64 := enc s.cnt s.dbit s.bbit

/-- W0 `start`: blocked → yield, the state stays; else CAS to the successor's word and return -/
theorem start_refines (s : State) (i : Nat) (hw : s.wr[i]? = some .w0) (h : s.cnt + 1 < 2 ^ 62) :
    ∃ s', step s (.start i) = some s' ∧
      IceGen.udpMux_startWriteContext_iter false (encOf s) true
        = if s.bbit then ([eYield], none) else ([eCas (wordOf s) (wordOf s')], some "nil") := by
  unfold encOf
  rw [(startWriteContext_tie s.cnt s.dbit s.bbit true h).2]
  cases hb : s.bbit
  · exact ⟨{ s with cnt := s.cnt + 1, wr := s.wr.set i .w1 }, by simp [step, hw, hb], by simp [wordOf, hb]⟩
  · exact ⟨s, by simp [step, hw, hb], by simp⟩

/-- W2 `finish`: count 0 → return; else CAS to the successor's word (count − 1, bits kept), then either
`clearWriteDeadlineAfterAbort` (blocked ∧ count 1: location W3) or return -/
theorem finish_refines (s : State) (i : Nat) (hw : s.wr[i]? = some .w2) (h : s.cnt < 2 ^ 62) :
    ∃ s', step s (.finish i) = some s' ∧
      IceGen.udpMux_finishWrite_iter (encOf s) true
        = if s.cnt = 0 then ([], some "writeErr")
          else ([eCas (wordOf s) (wordOf s')],
                some (if s.bbit ∧ s.cnt = 1 then "clearWriteDeadlineAfterAbort(writeErr)" else "writeErr")) := by
  unfold encOf
  rw [finishWrite_tie s.cnt s.dbit s.bbit true h]
  by_cases h0 : s.cnt = 0
  · exact ⟨{ s with wr := s.wr.set i .done }, by simp [step, hw, h0], by simp [h0]⟩
  · by_cases h1 : s.bbit = true ∧ s.cnt = 1
    · exact ⟨{ s with cnt := 0, wr := s.wr.set i (.w3 s.epoch) }, by simp [step, hw, h1], by simp [wordOf, h1]⟩
    · exact ⟨{ s with cnt := s.cnt - 1, wr := s.wr.set i .done }, by simp [step, hw, h0, h1], by simp [wordOf, h0, h1]⟩

/-- A0 `abortCas`: blocked or count 0 → return nil, the state's word stays; else CAS to the successor's word (blocked set),
then `SetWriteDeadline(now)` and, by its outcome, `clearWriteAbortState` + the error or `setWriteDeadlineArmed` + nil -/
theorem abortCas_refines (s : State) (j : Nat) (setFails : Bool) (hw : s.ab[j]? = some .a0) (h : s.cnt < 2 ^ 62) :
    ∃ s', step s (.abortCas j) = some s' ∧
      IceGen.udpMux_abortWrite_iter (encOf s) true setFails
        = if s.bbit ∨ s.cnt = 0 then ([], some "nil")
          else ([eCas (wordOf s) (wordOf s'), Eff.call "setWriteDeadlineNow" [],
                 Eff.call (if setFails then "clearWriteAbortState" else "setWriteDeadlineArmed") []],
                some (if setFails then "err" else "nil")) := by
  unfold encOf
  rw [abortWrite_tie s.cnt s.dbit s.bbit true setFails h]
  by_cases h0 : s.bbit = true ∨ s.cnt = 0
  · exact ⟨{ s with ab := s.ab.set j (.done false) }, by simp [step, hw, h0], by simp [h0]⟩
  · refine ⟨{ s with bbit := true, epoch := s.epoch + 1, ab := s.ab.set j .a1 }, by simp [step, hw, h0], ?_⟩
    cases setFails <;> simp [wordOf, h0]

/-- A2 `abortArm`: not blocked or already armed → return; else CAS to the successor's word (deadline bit set) -/
theorem abortArm_refines (s : State) (j : Nat) (hw : s.ab[j]? = some .a2) (h : s.cnt < 2 ^ 62) :
    ∃ s', step s (.abortArm j) = some s' ∧
      IceGen.udpMux_setWriteDeadlineArmed_iter (encOf s) true
        = if s.bbit = false ∨ s.dbit then ([], some ()) else ([eCas (wordOf s) (wordOf s')], some ()) := by
  unfold encOf
  rw [setWriteDeadlineArmed_tie s.cnt s.dbit s.bbit true h]
  by_cases h0 : s.bbit = false ∨ s.dbit = true
  · exact ⟨{ s with ab := s.ab.set j (.done false) }, by simp [step, hw, h0], by simp [h0]⟩
  · exact ⟨{ s with dbit := true, ab := s.ab.set j (.done false) }, by simp [step, hw, h0], by simp [wordOf, h0]⟩

/-- A3 `abortClear`: CAS to the successor's word (both bits cleared) unless no bit is set -/
theorem abortClear_refines (s : State) (j : Nat) (hw : s.ab[j]? = some .a3) (h : s.cnt < 2 ^ 62) :
    ∃ s', step s (.abortClear j) = some s' ∧
      IceGen.udpMux_clearWriteAbortState_iter (encOf s) true
        = if s.dbit = false ∧ s.bbit = false then ([], some ()) else ([eCas (wordOf s) (wordOf s')], some ()) := by
  unfold encOf
  rw [clearWriteAbortState_tie s.cnt s.dbit s.bbit true h]
  exact ⟨{ s with bbit := false, dbit := false, ab := s.ab.set j (.done true) }, by simp [step, hw], by simp [wordOf]⟩

/-- W3 `clearLoad` and W4 `clearStore`: not blocked → return; blocked, not armed → yield, the state stays; armed → the
socket's deadline is cleared and `Store` writes the word of the state after `clearStore` (count 0, no bit) -/
theorem clear_refines (s : State) (i ep : Nat) (writeOk : Bool) (hw : s.wr[i]? = some (.w3 ep)) (h : s.cnt < 2 ^ 62) :
    ∃ s', step s (.clearLoad i) = some s' ∧
      IceGen.udpMux_clearWriteDeadlineAfterAbort_iter (encOf s) writeOk
        = (if s.bbit = false then ([], some "writeErr")
          else if s.dbit = false then ([eYield], none)
          else ([Eff.call "setWriteDeadlineZero" [],
                 Eff.call "store" [Val.n (wordOf { s with cnt := 0, dbit := false, bbit := false })]],
                some (if writeOk then "clearErr" else "writeErr"))) ∧
      (s.bbit = true → s.dbit = false → s' = s) := by
  unfold encOf
  rw [clearWriteDeadlineAfterAbort_tie s.cnt s.dbit s.bbit writeOk h]
  cases hb : s.bbit
  · exact ⟨{ s with wr := s.wr.set i .done }, by simp [step, hw, hb], by simp, by simp⟩
  · cases hd : s.dbit
    · exact ⟨s, by simp [step, hw, hb, hd], by simp, fun _ _ => rfl⟩
    · exact ⟨{ s with wr := s.wr.set i (.w3c ep) }, by simp [step, hw, hb, hd], by simp [wordOf], by simp⟩

end IceTie.WriteAbort

import IceModel.AgentCore
import IceGen.T_Order
/-!
# Tie T for the ORDER of effects (agent.go, candidate_base.go)

`Agent.setSelectedPair`, `Agent.updateConnectionState`, the task of `Agent.Restart`, the onClose function of the agent's task
loop (`newAgentWithConfig`), `Agent.close`, `candidateBase.handleInboundPacket`, `candidateBase.abortIO` (guard and the body it
runs once) and `candidateBase.close` are regenerated from the Go source on every run in effect mode (`IceGen.T_Order`): the
list of calls / field assignments IN PROGRAM ORDER as a function of the values read.  The theorems state the list for all
arguments, so a moved, dropped, duplicated or retargeted statement changes the generated term and the theorem stops checking;
corollaries spell out the order facts the properties rely on, and small lemmas show that the model takes its steps in the same
order.
-/
namespace IceTie.Order
open IceModel IceModel.AgentCore

def c (name : String) : Eff := Eff.call name []
def c1 (name : String) (v : Val) : Eff := Eff.call name [v]

/-- position of the first occurrence of `e` (the length if there is none) -/
def pos (l : List Eff) (e : Eff) : Nat := (l.takeWhile (· != e)).length

/-- `ConnectionStateConnected` = 3, `Checking` = 2, `Failed` = 5, `Closed` = 7, `New` = 1 (`iota + 1`) -/
def eConnected : Eff := c1 "updateConnectionState" (Val.i 3)

/-- **T: `Agent.setSelectedPair`**: nil only stores nil; otherwise mark the pair nominated, STORE it, release the waiters of
`Connect` (once), update the connection state to Connected, enqueue the selected-pair notification — in this order -/
theorem setSelectedPair_tie (isNil : Bool) :
    IceGen.agent_setSelectedPair isNil
      = if isNil then [c1 "selectedPair.Store" (Val.s "nil")]
        else [Eff.set "pair.nominated" (Val.b true), c1 "selectedPair.Store" (Val.s "pair"),
              c "onConnectedOnce.Do(close onConnected)", eConnected,
              c1 "selectedCandidatePairNotifier.Enqueue" (Val.s "pair")] := by
  cases isNil <;> rfl

/-- the selected pair is stored BEFORE the state becomes Connected (C04: Connected is reported only while a selected pair
exists) and the pair notification comes after the state notification -/
theorem setSelectedPair_order :
    pos (IceGen.agent_setSelectedPair false) (c1 "selectedPair.Store" (Val.s "pair")) < pos (IceGen.agent_setSelectedPair false) eConnected ∧
    pos (IceGen.agent_setSelectedPair false) eConnected
      < pos (IceGen.agent_setSelectedPair false) (c1 "selectedCandidatePairNotifier.Enqueue" (Val.s "pair")) ∧
    (IceGen.agent_setSelectedPair false).count eConnected = 1 := by
  rw [setSelectedPair_tie]; decide

/-- the model's `Agent.select` does it in the same order: the state handed to `setConnState .connected` already has the pair
selected (and nominated), the state callback precedes the pair callback -/
theorem select_order (a : Agent) (id : Nat) :
    a.select id =
      let a1 : Agent := { (a.modPair id fun p => { p with nominated := true }) with selected := some id, onConnectedFired := true }
      let r := a1.setConnState .connected
      let ends : Nat × Nat := match r.1.pairById id with
        | some p => (((r.1.localOf p.l).map (·.addr)).getD 0, ((r.1.remoteOf p.r).map (·.addr)).getD 0)
        | none => (0, 0)
      (r.1, r.2 ++ [.cbPair ends.1 ends.2]) := rfl

def releaseEffs : List Eff :=
  [c "removeUfragFromMux", Eff.set "a.checklist" (Val.s "empty"), Eff.set "a.pairsByID" (Val.s "empty"),
   Eff.set "a.pendingBindingRequests" (Val.s "empty"), c1 "setSelectedPair" (Val.s "nil"), c "deleteAllCandidates"]

/-- **T: `Agent.updateConnectionState`**: nothing when the state does not change; on Failed FIRST the release (mux ufrag,
checklist, pair index, pending transactions, selection, all candidates), THEN the state is set and the notification enqueued -/
theorem updateConnectionState_tie (cur newState : Int64) :
    IceGen.agent_updateConnectionState cur newState
      = if cur == newState then []
        else (if newState == 5 then releaseEffs else [])
          ++ [Eff.set "a.connectionState" (Val.i newState.toInt), c1 "connectionStateNotifier.Enqueue" (Val.i newState.toInt)] := by
  unfold IceGen.agent_updateConnectionState
  have : (cur != newState) = !(cur == newState) := rfl
  rw [this]
  cases (cur == newState) <;> cases (newState == 5) <;> rfl

/-- Failed is notified only after selection, pairs and candidates were released -/
theorem updateConnectionState_failed_order (cur : Int64) (h : (cur == 5) = false) :
    ∀ e ∈ releaseEffs, pos (IceGen.agent_updateConnectionState cur 5) e
      < pos (IceGen.agent_updateConnectionState cur 5) (c1 "connectionStateNotifier.Enqueue" (Val.i 5)) := by
  rw [updateConnectionState_tie, h]
  decide

/-- the model's `setConnState`: the wipe happens in the state that carries the new connection state; one callback -/
theorem setConnState_order (a : Agent) (s : ConnState) :
    a.setConnState s = if a.connState == s then (a, [])
      else ({ (if s == .failed then a.wipe else a) with connState := s }, [.cbState s]) := rfl

/-- **T: the task of `Agent.Restart`**: cancel gathering, release the mux ufrag, new local credentials, remote credentials
cleared, gathering state New, checklist / pair index / pending transactions emptied, selection cleared, candidates deleted, a
fresh selector — and only then, unless the agent is still New, the state goes to Checking -/
theorem restartTask_tie (ufrag pwd : String) (connState : Int64) :
    IceGen.agent_Restart_task ufrag pwd connState
      = [c "gatherCandidateCancel", c "removeUfragFromMux", Eff.set "a.localUfrag" (Val.s ufrag), Eff.set "a.localPwd" (Val.s pwd),
         Eff.set "a.remoteUfrag" (Val.s ""), Eff.set "a.remotePwd" (Val.s ""), Eff.set "a.gatheringState" (Val.i 1),
         Eff.set "a.checklist" (Val.s "empty"), Eff.set "a.pairsByID" (Val.s "empty"),
         Eff.set "a.pendingBindingRequests" (Val.s "empty"), c1 "setSelectedPair" (Val.s "nil"), c "deleteAllCandidates",
         c "setSelector"]
        ++ (if connState == 1 then [] else [c1 "updateConnectionState" (Val.i 2)]) := by
  unfold IceGen.agent_Restart_task
  have : (connState != 1) = !(connState == 1) := rfl
  rw [this]
  cases (connState == 1) <;> rfl

/-- the model's `doRestart`: credentials, wipe, fresh selector, next generation, then Checking unless New -/
theorem doRestart_order (a : Agent) (now : Nat) (ufrag pwd : String) :
    a.doRestart now ufrag pwd =
      let a1 : Agent := { (({ a with localUfrag := ufrag, localPwd := pwd, remoteUfrag := "", remotePwd := "" } : Agent).wipe).resetSelector now
                          with generation := a.generation + 1 }
      if a1.connState != .new then a1.setConnState .checking else (a1, []) := rfl

/-- **T: the onClose function** (runs once, after the last task): cancel gathering and WAIT for the gather goroutine (if there
is one), release the mux ufrag, delete (close) all candidates, release `startedCh`, close the receive buffer, close the mDNS
connection, and LAST the state Closed (whether or not closing the buffer failed) -/
theorem onClose_tie (hasGatherDone bufCloseFails : Bool) :
    IceGen.agent_onClose hasGatherDone bufCloseFails
      = c "gatherCandidateCancel" :: (if hasGatherDone then [c "wait gatherCandidateDone"] else [])
        ++ [c "removeUfragFromMux", c "deleteAllCandidates", c "startedFn", c "buf.Close", c "closeMulticastConn",
            c1 "updateConnectionState" (Val.i 7)] := by
  cases hasGatherDone <;> cases bufCloseFails <;> rfl

/-- Closed is the LAST effect, and the candidates (sockets) are closed before it -/
theorem onClose_closed_last (hasGatherDone bufCloseFails : Bool) :
    (IceGen.agent_onClose hasGatherDone bufCloseFails).getLast? = some (c1 "updateConnectionState" (Val.i 7)) ∧
    pos (IceGen.agent_onClose hasGatherDone bufCloseFails) (c "deleteAllCandidates")
      < pos (IceGen.agent_onClose hasGatherDone bufCloseFails) (c1 "updateConnectionState" (Val.i 7)) := by
  rw [onClose_tie]; cases hasGatherDone <;> decide

/-- **T: `Agent.close`**: the task loop first (with `abortStartedCandidateIO` as pre-stop), then the THREE notifiers, each a
different one, each with the caller's `graceful` -/
theorem agentClose_tie (graceful : Bool) :
    IceGen.agent_close graceful
      = ([c "loop.CloseWithPreStop(abortStartedCandidateIO)", c1 "connectionStateNotifier.Close" (Val.b graceful),
          c1 "candidateNotifier.Close" (Val.b graceful), c1 "selectedCandidatePairNotifier.Close" (Val.b graceful)], "nil") := rfl

theorem agentClose_each_once (graceful : Bool) :
    (IceGen.agent_close graceful).1.count (c1 "connectionStateNotifier.Close" (Val.b graceful)) = 1 ∧
    (IceGen.agent_close graceful).1.count (c1 "candidateNotifier.Close" (Val.b graceful)) = 1 ∧
    (IceGen.agent_close graceful).1.count (c1 "selectedCandidatePairNotifier.Close" (Val.b graceful)) = 1 ∧
    (IceGen.agent_close graceful).1.head? = some (c "loop.CloseWithPreStop(abortStartedCandidateIO)") := by
  rw [agentClose_tie]; cases graceful <;> decide

/-- **T: `candidateBase.abortIO`**: a candidate that was never started returns nil; otherwise the once-body and the recorded
error.  The once-body: unblock recvLoop (`close(closeCh)`), `SetDeadline(now)`, `abortWrite` (mux handles only), `conn.Close`
— in this order, the first error is kept -/
theorem abortIO_tie (neverStarted isWriteAborter : Bool) :
    IceGen.candidateBase_abortIO neverStarted
      = (if neverStarted then ([], "nil") else ([c "closeOnce.Do(abort)"], "closeErr")) ∧
    IceGen.candidateBase_abortIO_once isWriteAborter
      = [c "close(closeCh)", c "conn.SetDeadline(now) [closeErr = err]"]
        ++ (if isWriteAborter then [c "abortWrite [closeErr = first err]"] else [])
        ++ [c "conn.Close [closeErr = first err]"] := by
  cases neverStarted <;> cases isWriteAborter <;> exact ⟨rfl, rfl⟩

/-- **T: `candidateBase.close`**: never started → nil; otherwise `abortIO`, WAIT for recvLoop, unregister, and `abortIO`'s error -/
theorem candidateClose_tie (neverStarted hasAgent : Bool) :
    IceGen.candidateBase_close neverStarted hasAgent
      = if neverStarted then ([], "nil")
        else ([c "abortIO", c "wait closedCh"] ++ (if hasAgent then [c "unregisterStartedCandidate"] else []), "abortIO err") := by
  cases neverStarted <;> cases hasAgent <;> rfl

/-- **T: `candidateBase.handleInboundPacket`**: a STUN message goes to the STUN handler and NOTHING else happens (no cache
probe); a data packet: probe the cache, on a miss ask the agent (`validateNonSTUNTraffic`) and drop the packet if the source is
no remote candidate, else remember it; then QUEUE the packet, and only when that succeeded and bytes were queued credit them to
the selected pair -/
theorem handleInboundPacket_tie (isSTUN cacheHit valid writeFails : Bool) (n : Int64) (hasSelected : Bool) :
    IceGen.candidateBase_handleInboundPacket isSTUN cacheHit valid writeFails n hasSelected
      = if isSTUN then [c "handleInboundSTUNMessage"]
        else c "validateSTUNTrafficCache" ::
          (if cacheHit then [] else c "validateNonSTUNTraffic" :: (if valid then [c "addRemoteCandidateCache"] else []))
          ++ (if cacheHit || valid then
                c "buf.Write" :: (if !writeFails && decide (n > 0) && hasSelected then [c1 "UpdatePacketReceived" (Val.i n.toInt)] else [])
              else []) := by
  unfold IceGen.candidateBase_handleInboundPacket
  cases isSTUN <;> cases cacheHit <;> cases valid <;> cases writeFails <;> cases decide (n > 0) <;> cases hasSelected <;> rfl

/-- the order facts: no cache probe on the STUN path; the pair is credited only after the packet was queued, with the number of
bytes QUEUED -/
theorem handleInboundPacket_order (cacheHit valid writeFails : Bool) (n : Int64) (hasSelected : Bool) :
    IceGen.candidateBase_handleInboundPacket true cacheHit valid writeFails n hasSelected = [c "handleInboundSTUNMessage"] ∧
    (∀ e ∈ IceGen.candidateBase_handleInboundPacket false cacheHit valid writeFails n hasSelected,
      e = c1 "UpdatePacketReceived" (Val.i n.toInt) →
      writeFails = false ∧
      pos (IceGen.candidateBase_handleInboundPacket false cacheHit valid writeFails n hasSelected) (c "buf.Write")
        < pos (IceGen.candidateBase_handleInboundPacket false cacheHit valid writeFails n hasSelected) e) := by
  refine ⟨by rw [handleInboundPacket_tie]; rfl, ?_⟩
  intro e he hE
  subst hE
  rw [handleInboundPacket_tie] at he ⊢
  cases cacheHit <;> cases valid <;> cases writeFails <;> cases hd : decide (n > 0) <;> cases hasSelected <;>
    simp [c, c1, pos, hd] at he ⊢

theorem inboundData_shape (a : Agent) (now : Nat) (l : Cand) (src len : Nat)
    (hc : (a.caches.find? fun (lu, s, _) => lu == l.uid && s == src) = none) (hr : a.findRemote l.net src = none) :
    a.inboundData now l src len = (a, []) := by
  unfold Agent.inboundData
  simp only [hc, hr]
  rfl

end IceTie.Order

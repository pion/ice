import IceModel.Rewrite
import IceGen.T_Rewrite
import IceTie.Basic
/-!
# Tie T for the address rewrite rules: the definitions regenerated from the Go source equal the model

`catchAllSpecificity` (external_ip_mapper.go), `defaultAddressRewriteMode` (agent_options.go),
`addressRewriteRuleMapping.isFamilyAllowed` / `hasMappings`, `NetworkType.IsIPv4` / `IsIPv6`.
Each theorem is for ALL arguments; a changed constant, comparison or branch in the Go source changes
the generated term and the theorem stops checking.
-/
set_option linter.unusedSimpArgs false
namespace IceTie.Rewrite
open IceModel.Rewrite

theorem catchAllSpecificity_tie (ruleIface : String) (hasCIDR : Bool) (iface : String) :
    IceGen.catchAllSpecificity ruleIface hasCIDR iface
      = Int64.ofNat (catchAllSpecificity ruleIface hasCIDR iface) := by
  unfold IceGen.catchAllSpecificity catchAllSpecificity
  by_cases h1 : ruleIface = "" <;> by_cases h2 : iface = "" <;> cases hasCIDR <;> simp [h1, h2] <;> rfl

theorem catchAllSpecificity_toInt (ruleIface : String) (hasCIDR : Bool) (iface : String) :
    (IceGen.catchAllSpecificity ruleIface hasCIDR iface).toInt
      = (catchAllSpecificity ruleIface hasCIDR iface : Int) := by
  rw [catchAllSpecificity_tie]
  unfold catchAllSpecificity
  by_cases h1 : ruleIface = "" <;> by_cases h2 : iface = "" <;> cases hasCIDR <;> simp [h1, h2] <;> rfl

theorem defaultMode_tie (ct : UInt8) :
    IceGen.defaultAddressRewriteMode ct = Int64.ofNat (defaultMode ct.toNat) := by
  unfold IceGen.defaultAddressRewriteMode defaultMode
  by_cases h0 : ct = 0
  · subst h0; rfl
  by_cases h1 : ct = 1
  · subst h1; rfl
  have e0 : ct.toNat ≠ 0 := fun h => h0 (UInt8.toNat_inj.mp (by simpa using h))
  have e1 : ct.toNat ≠ 1 := fun h => h1 (UInt8.toNat_inj.mp (by simpa using h))
  simp [h0, h1, e0, e1]

theorem isFamilyAllowed_tie (a4 a6 isV4 : Bool) :
    IceGen.ruleMapping_isFamilyAllowed a4 a6 isV4 = isFamilyAllowed a4 a6 isV4 := by
  cases isV4 <;> rfl

theorem hasMappings_tie (r : CRule) :
    IceGen.ruleMapping_hasMappings r.m4.valid r.m6.valid = r.hasMappings := rfl

theorem netCode_lits (n : Nat) (h : n < 2 ^ 63) :
    ((Int64.ofNat n == 1) = (n == 1) ∧ (Int64.ofNat n == 2) = (n == 2)) ∧
    ((Int64.ofNat n == 3) = (n == 3) ∧ (Int64.ofNat n == 4) = (n == 4)) :=
  ⟨⟨ofNat_beq n 1 h (by decide), ofNat_beq n 2 h (by decide)⟩,
   ⟨ofNat_beq n 3 h (by decide), ofNat_beq n 4 h (by decide)⟩⟩

theorem netIsV4_tie (n : Nat) (h : n < 2 ^ 63) :
    IceGen.networkType_IsIPv4 (Int64.ofNat n) = netIsV4 n := by
  obtain ⟨⟨e1, e2⟩, e3, e4⟩ := netCode_lits n h
  unfold IceGen.networkType_IsIPv4 netIsV4
  rw [e1, e2, e3, e4]
  cases (n == 1 || n == 3) <;> simp

theorem netIsV6_tie (n : Nat) (h : n < 2 ^ 63) :
    IceGen.networkType_IsIPv6 (Int64.ofNat n) = netIsV6 n := by
  obtain ⟨⟨e1, e2⟩, e3, e4⟩ := netCode_lits n h
  unfold IceGen.networkType_IsIPv6 netIsV6
  rw [e1, e2, e3, e4]
  by_cases h13 : (n == 1 || n == 3) = true
  · -- an IPv4 code is not an IPv6 code
    rw [if_pos h13]
    have : n = 1 ∨ n = 3 := by simpa using h13
    rcases this with rfl | rfl <;> rfl
  · rw [if_neg h13]
    cases (n == 2 || n == 4) <;> rfl

/-- Negative `NetworkType` values (not representable in the model's `Nat` codes) are of no family. -/
theorem netIs_neg (t : Int64) (h : t.toInt < 0) :
    IceGen.networkType_IsIPv4 t = false ∧ IceGen.networkType_IsIPv6 t = false := by
  have ne : ∀ k : Int64, 0 ≤ k.toInt → (t == k) = false := by
    intro k hk
    cases hb : (t == k)
    · rfl
    · have := eq_of_beq hb; subst this; omega
  unfold IceGen.networkType_IsIPv4 IceGen.networkType_IsIPv6
  rw [ne 1 (by decide), ne 2 (by decide), ne 3 (by decide), ne 4 (by decide)]
  simp

end IceTie.Rewrite

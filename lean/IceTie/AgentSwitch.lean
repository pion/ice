import IceGen.T_Agent
import IceProofs.AgentC03LiteNom
/-!
# Tie T for the controlled selector's switch rule

`controlledSelector.shouldSwitchSelectedPair`, `Agent.needsToCheckPriorityOnNominated` and
`controlledSelector.shouldAcceptNomination` are regenerated from selection.go / agent.go on every run
(`IceGen.T_Agent`).  Here they are proved equal, for ALL arguments, to the decisions the model takes:
`shouldSwitch` is the expression `cldHandleRequest` uses inline (`sw := …`, mirrored verbatim as
`IceProofs.C03.cldSw`; `cldHandleRequest_eq` — proved by `rfl` — shows that `Agent.cldHandleRequest`
is built from it), `needsPrioCheck` and `acceptsNomination`/`cldAccept`.
-/
namespace IceTie.AgentSwitch
open IceModel.AgentCore IceProofs.C03

/-- model side of `shouldSwitchSelectedPair` (priorities as `Nat`) -/
def shouldSwitch (hasSelected samePair hasValue hasLast needsPrio : Bool) (selPrio pairPrio : Nat) : Bool :=
  if !hasSelected then true
  else if samePair then false
  else if hasValue then true
  else if hasLast then false
  else !needsPrio || decide (selPrio < pairPrio)

theorem shouldSwitch_gen_eq_model (hasSelected samePair hasValue hasLast needsPrio : Bool) (sp pp : UInt64) :
    IceGen.controlledSelector_shouldSwitchSelectedPair hasSelected samePair hasValue hasLast needsPrio sp pp =
    shouldSwitch hasSelected samePair hasValue hasLast needsPrio sp.toNat pp.toNat := by
  unfold IceGen.controlledSelector_shouldSwitchSelectedPair shouldSwitch
  simp only [UInt64.lt_iff_toNat_lt]

theorem cldSw_eq_shouldSwitch (a : Agent) (id : Nat) (m : Msg) (p : Pair) :
    cldSw a id m p =
    match a.selected.bind a.pairById with
    | none => shouldSwitch false false m.nom.isSome a.lastNomination.isSome (needsPrioCheck a.cfg) 0 (a.pairPrio p)
    | some sp => shouldSwitch true (sp.id == id) m.nom.isSome a.lastNomination.isSome (needsPrioCheck a.cfg)
        (a.pairPrio sp) (a.pairPrio p) := by
  unfold cldSw shouldSwitch
  cases a.selected.bind a.pairById with
  | none => rfl
  | some sp => simp only [Bool.not_true, Bool.false_eq_true, if_false]

theorem cldHandleRequest_uses_cldSw (a : Agent) (now : Nat) (m : Msg) (l r : Cand) :
    a.cldHandleRequest now m l r =
    if (m.useCand || m.nom.isSome) && !(cldAccept (cldPre a m l r).1 m).2 then
      (cldAccept (cldPre a m l r).1 m).1.sendSuccess now m l r
    else
      cldTail (cldNom (cldAccept (cldPre a m l r).1 m).1 (cldPre a m l r).2 m).1 now m l r (cldPre a m l r).2
        (cldNom (cldAccept (cldPre a m l r).1 m).1 (cldPre a m l r).2 m).2 :=
  cldHandleRequest_eq a now m l r

theorem needsPrio_gen_eq_model (cfg : Config) :
    IceGen.agent_needsToCheckPriorityOnNominated cfg.lite cfg.useCandCheckPriority = needsPrioCheck cfg := rfl

theorem needsPrio_gen_eq_model' (lite ucp : Bool) :
    IceGen.agent_needsToCheckPriorityOnNominated lite ucp =
    needsPrioCheck { lite := lite, useCandCheckPriority := ucp } := rfl

/-- `shouldAcceptNomination`: the generated decision equals the model's (`acceptsNomination`), where the
arguments are the optional nomination value of the message and the selector's `lastNomination` -/
theorem shouldAccept_gen_eq_model (a : Agent) (m : Msg) (v last : UInt32)
    (hv : m.nom = none ∨ m.nom = some v.toNat) (hl : a.lastNomination = none ∨ a.lastNomination = some last.toNat) :
    (IceGen.controlledSelector_shouldAcceptNomination m.nom.isSome v a.lastNomination.isSome last).2 =
    acceptsNomination a m := by
  unfold IceGen.controlledSelector_shouldAcceptNomination acceptsNomination
  rcases hv with hv | hv <;> rcases hl with hl | hl <;>
    simp [hv, hl, IceModel.Eff.pre, UInt32.lt_iff_toNat_lt] <;> split <;> simp_all

end IceTie.AgentSwitch

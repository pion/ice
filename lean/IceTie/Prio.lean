import IceModel.Prio
import IceGen.T_Prio
/-!
# Tie T for priorities: the definitions regenerated from the Go source equal the model

The `*_tie` theorems are `∀ arguments, (IceGen.f args).toNat = IceModel.Prio.f (args as Nat)` (the
`*_override_tie` ones: a non-zero override is returned as it is), proved by case analysis and arithmetic (semantic, not syntactic: reordering cases or renaming locals in the Go
source does not break them; changing an operator, constant or branch does).
-/
set_option linter.unusedSimpArgs false
namespace IceTie.Prio
open IceModel.Prio

theorem ofCode_cases (ty : UInt8) :
    (ty = 1 ∧ CandType.ofCode ty.toNat = .host) ∨ (ty = 2 ∧ CandType.ofCode ty.toNat = .srflx) ∨
    (ty = 3 ∧ CandType.ofCode ty.toNat = .prflx) ∨ (ty = 4 ∧ CandType.ofCode ty.toNat = .relay) ∨
    (ty ≠ 1 ∧ ty ≠ 2 ∧ ty ≠ 3 ∧ ty ≠ 4 ∧ CandType.ofCode ty.toNat = .unspecified) := by
  by_cases h1 : ty = 1
  · subst h1; simp [CandType.ofCode]
  by_cases h2 : ty = 2
  · subst h2; simp [CandType.ofCode]
  by_cases h3 : ty = 3
  · subst h3; simp [CandType.ofCode]
  by_cases h4 : ty = 4
  · subst h4; simp [CandType.ofCode]
  right; right; right; right
  refine ⟨h1, h2, h3, h4, ?_⟩
  have e1 : ty.toNat ≠ 1 := fun h => h1 (UInt8.toNat_inj.mp (by simpa using h))
  have e2 : ty.toNat ≠ 2 := fun h => h2 (UInt8.toNat_inj.mp (by simpa using h))
  have e3 : ty.toNat ≠ 3 := fun h => h3 (UInt8.toNat_inj.mp (by simpa using h))
  have e4 : ty.toNat ≠ 4 := fun h => h4 (UInt8.toNat_inj.mp (by simpa using h))
  unfold CandType.ofCode
  split <;> simp_all

/-- TCP type of the Go `int` value (`tcptype.go` iota order). -/
def tcpOf (t : Int64) : TcpType :=
  if t = 1 then .active else if t = 2 then .passive else if t = 3 then .so else .unspecified

theorem candType_pref_tie (ty : UInt8) :
    (IceGen.candidateType_Preference ty).toNat = basePref (CandType.ofCode ty.toNat) := by
  unfold IceGen.candidateType_Preference
  rcases ofCode_cases ty with ⟨h, e⟩ | ⟨h, e⟩ | ⟨h, e⟩ | ⟨h, e⟩ | ⟨h1, h2, h3, h4, e⟩
  all_goals (rw [e]; try subst h)
  all_goals simp [basePref, *]

theorem relayPref_tie (s : String) :
    (IceGen.relayProtocolPreference s).toNat = relayPref s := by
  unfold IceGen.relayProtocolPreference relayPref
  by_cases h1 : s = "tls" <;> by_cases h2 : s = "tcp" <;> by_cases h3 : s = "dtls" <;> simp [*]

theorem typePref_tie (ty : UInt8) (isTCP ha : Bool) (off : UInt16) :
    (IceGen.candidateBase_TypePreference ty isTCP ha off).toNat
      = typePreference (CandType.ofCode ty.toNat) isTCP (if ha then off.toNat else defaultTCPPriorityOffset) := by
  unfold IceGen.candidateBase_TypePreference typePreference defaultTCPPriorityOffset
  rw [← candType_pref_tie ty]
  generalize IceGen.candidateType_Preference ty = pref
  have sub (o : UInt16) : (if decide (o > pref) then (0 : UInt16) else pref - o).toNat
      = if o.toNat > pref.toNat then 0 else pref.toNat - o.toNat := by
    simp only [decide_eq_true_eq, GT.gt, UInt16.lt_iff_toNat_lt]
    split
    · rfl
    · rw [UInt16.toNat_sub_of_le _ _ (by rw [UInt16.le_iff_toNat_le]; omega)]
  by_cases h0 : pref = 0
  · subst h0; rfl
  · have h0' : pref.toNat ≠ 0 := fun e => h0 (UInt16.toNat_inj.mp e)
    simp only [beq_iff_eq, h0, h0', if_false]
    cases isTCP
    · rfl
    · cases ha
      · exact sub 27
      · exact sub off

theorem tcpOf_cases (t : Int64) :
    (t = 1 ∧ tcpOf t = .active) ∨ (t = 2 ∧ tcpOf t = .passive) ∨ (t = 3 ∧ tcpOf t = .so) ∨
    (t ≠ 1 ∧ t ≠ 2 ∧ t ≠ 3 ∧ tcpOf t = .unspecified) := by
  unfold tcpOf
  by_cases h1 : t = 1
  · subst h1; simp
  by_cases h2 : t = 2
  · subst h2; simp
  by_cases h3 : t = 3
  · subst h3; simp
  simp [*]

theorem localPref_tie (ty : UInt8) (isTCP : Bool) (tt : Int64) (relayLP : UInt16) :
    (IceGen.candidateBase_LocalPreference ty isTCP tt relayLP).toNat
      = localPreference (CandType.ofCode ty.toNat) isTCP (tcpOf tt) relayLP.toNat := by
  unfold IceGen.candidateBase_LocalPreference localPreference
  cases isTCP
  · rcases ofCode_cases ty with ⟨h, e⟩ | ⟨h, e⟩ | ⟨h, e⟩ | ⟨h, e⟩ | ⟨h1, h2, h3, h4, e⟩
    all_goals (rw [e]; try subst h)
    all_goals simp [*]
  · rcases ofCode_cases ty with ⟨h, e⟩ | ⟨h, e⟩ | ⟨h, e⟩ | ⟨h, e⟩ | ⟨h1, h2, h3, h4, e⟩
    all_goals (rw [e]; try subst h)
    all_goals rcases tcpOf_cases tt with ⟨g, f⟩ | ⟨g, f⟩ | ⟨g, f⟩ | ⟨g1, g2, g3, f⟩
    all_goals (rw [f]; try subst g)
    all_goals simp [directionPref, *]
    all_goals (split <;> simp_all)

theorem priority_tie (tp lp comp : UInt16) :
    (IceGen.candidateBase_Priority 0 tp lp comp).toNat = priority tp.toNat lp.toNat comp.toNat := by
  unfold IceGen.candidateBase_Priority priority
  have h1 := tp.toNat_lt
  have h2 := lp.toNat_lt
  have h3 := comp.toNat_lt
  simp [UInt32.toNat_add, UInt32.toNat_mul, UInt32.toNat_sub]
  omega

theorem priority_override_tie (ov : UInt32) (tp lp comp : UInt16) (h : ov ≠ 0) :
    IceGen.candidateBase_Priority ov tp lp comp = ov := by
  unfold IceGen.candidateBase_Priority
  simp [h]

theorem pairGD_tie (g d : UInt32) :
    ((4294967295 : UInt64) * (if decide (g < d) then g.toUInt64 else d.toUInt64)
      + (2 : UInt64) * (if decide (g > d) then g.toUInt64 else d.toUInt64)
      + (if decide (g > d) then (1 : UInt64) else 0)).toNat = pairPriorityGD g.toNat d.toNat := by
  have h1 := g.toNat_lt
  have h2 := d.toNat_lt
  unfold pairPriorityGD
  simp only [decide_eq_true_eq, GT.gt, UInt32.lt_iff_toNat_lt]
  rcases Nat.lt_trichotomy g.toNat d.toNat with h | h | h
  · rw [if_pos h, if_neg (by omega), if_neg (by omega), if_neg (by omega), Nat.min_eq_left (by omega), Nat.max_eq_right (by omega)]
    simp [UInt64.toNat_add, UInt64.toNat_mul]
  · rw [if_neg (by omega), if_neg (by omega), if_neg (by omega), if_neg (by omega), Nat.min_eq_right (by omega),
      Nat.max_eq_right (by omega)]
    simp [UInt64.toNat_add, UInt64.toNat_mul]
  · rw [if_neg (by omega), if_pos h, if_pos h, if_pos h, Nat.min_eq_right (by omega), Nat.max_eq_left (by omega)]
    simp [UInt64.toNat_add, UInt64.toNat_mul]

theorem pairPriority_tie (ov : UInt64) (c : Bool) (l r : UInt32) :
    (IceGen.candidatePair_priority false ov c l r).toNat = pairPriority c l.toNat r.toNat := by
  unfold IceGen.candidatePair_priority pairPriority
  cases c
  · exact pairGD_tie r l
  · exact pairGD_tie l r

theorem pairPriority_override_tie (ov : UInt64) (c : Bool) (l r : UInt32) :
    IceGen.candidatePair_priority true ov c l r = ov := by
  unfold IceGen.candidatePair_priority
  simp

end IceTie.Prio

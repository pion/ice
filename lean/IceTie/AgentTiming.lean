import IceModel.AgentCore
import IceGen.T_Agent
import IceProofs.AgentC04Tick
import IceTie.Basic
/-!
# Tie T for the liveness timing of C04

`IceGen.agent_connectionStateForDisconnection` and `IceGen.agent_initialCheckingTimeout` are regenerated
from agent.go on every run (Go `time.Duration` = `Int64` nanoseconds, `ConnectionState` = its iota code).
For ALL `Int64` arguments in the non-negative range they equal the model's `stateForDisconnection` /
`Agent.initialCheckingTimeout` (which work on `Nat` nanoseconds).  A changed comparison, constant or branch
in the Go source changes the generated term and these proofs stop checking.
-/
namespace IceTie.AgentTiming
open IceModel.AgentCore IceProofs.AgentC04

/-- `ConnectionState` of ice.go (iota order; anything else is treated as Unknown) -/
def csOf (c : Int64) : ConnState :=
  if c = 1 then .new else if c = 2 then .checking else if c = 3 then .connected else if c = 4 then .completed
  else if c = 5 then .failed else if c = 6 then .disconnected else if c = 7 then .closed else .unknown

def csCode : ConnState → Int64
  | .unknown => 0 | .new => 1 | .checking => 2 | .connected => 3 | .completed => 4
  | .failed => 5 | .disconnected => 6 | .closed => 7

theorem csOf_code (s : ConnState) : csOf (csCode s) = s := by cases s <;> decide

/-- a non-negative `time.Duration` as `Nat` nanoseconds -/
def dur (x : Int64) : Nat := x.toInt.toNat

theorem ne_zero_iff (x : Int64) (h : 0 ≤ x.toInt) : (x != 0) = decide (dur x ≠ 0) := by
  rw [nat_bne h (by decide)]
  show (nat x != 0) = decide (nat x ≠ 0)
  cases nat x <;> rfl

theorem csCode_csOf (c : Int64) (h : csOf c ≠ .unknown) : csCode (csOf c) = c := by
  unfold csOf at h ⊢
  by_cases h1 : c = 1; · subst h1; rfl
  by_cases h2 : c = 2; · subst h2; rfl
  by_cases h3 : c = 3; · subst h3; rfl
  by_cases h4 : c = 4; · subst h4; rfl
  by_cases h5 : c = 5; · subst h5; rfl
  by_cases h6 : c = 6; · subst h6; rfl
  by_cases h7 : c = 7; · subst h7; rfl
  simp only [h1, h2, h3, h4, h5, h6, h7, if_false] at h
  exact absurd rfl h

theorem bne_code (c : Int64) (s : ConnState) (hs : s ≠ .unknown) : (c != csCode s) = (csOf c != s) := by
  by_cases h : csOf c = s
  · subst h; rw [csCode_csOf c hs, bne_self_eq_false, bne_self_eq_false]
  · have : c ≠ csCode s := fun e => h (e ▸ csOf_code s)
    rw [bne_iff_ne.mpr h, bne_iff_ne.mpr this]

/-- **T: `connectionStateForDisconnection`** — for all non-negative durations and every state code. -/
theorem connectionStateForDisconnection_tie (dt total disc cs : Int64)
    (h1 : 0 ≤ dt.toInt) (h2 : 0 ≤ total.toInt) (h3 : 0 ≤ disc.toInt)
    (cfg : Config) (hcfg : cfg.disconnectedTimeout = dur disc) :
    IceGen.agent_connectionStateForDisconnection dt total disc cs
      = csCode (stateForDisconnection cfg (csOf cs) (some (dur dt)) (dur total)) := by
  -- the model is the same Boolean expression over the same four tests: rewrite each test, push `csCode` into the branches
  unfold IceGen.agent_connectionStateForDisconnection stateForDisconnection
  have e1 : (disc != 0) = (dur disc != 0) := nat_bne h3 (by decide)
  have e2 : (total != 0) = (dur total != 0) := nat_bne h2 (by decide)
  have e3 : decide (dt > disc) = decide (dur dt > dur disc) := nat_lt h3 h1
  have e4 : decide (dt > total) = decide (dur dt > dur total) := nat_lt h2 h1
  simp only [e1, e2, e3, e4, hcfg, show (cs != 6) = (csOf cs != .disconnected) from bne_code cs .disconnected (by decide),
    show (cs != 5) = (csOf cs != .failed) from bne_code cs .failed (by decide), apply_ite csCode]
  rfl

/-- "Never heard from the remote": Go computes `time.Since(time.Time{})`, which saturates to the maximum
`Duration` 2^63−1.  The model's `none` silence behaves exactly like that value for all timeouts below it. -/
theorem silence_none_is_max (cfg : Config) (cur : ConnState) (total : Nat)
    (h1 : cfg.disconnectedTimeout < 2 ^ 63 - 1) (h2 : total < 2 ^ 63 - 1) :
    stateForDisconnection cfg cur none total = stateForDisconnection cfg cur (some (2 ^ 63 - 1)) total := by
  rw [sfd_none, sfd_some]
  by_cases p1 : cfg.disconnectedTimeout = 0 <;> by_cases p3 : total = 0 <;> simp [p1, p3, h1, h2]

theorem connectionStateForDisconnection_tie_none (total disc cs : Int64)
    (h2 : 0 ≤ total.toInt) (h3 : 0 ≤ disc.toInt) (h2' : total.toInt < 2 ^ 63 - 1) (h3' : disc.toInt < 2 ^ 63 - 1)
    (cfg : Config) (hcfg : cfg.disconnectedTimeout = dur disc) :
    IceGen.agent_connectionStateForDisconnection Int64.maxValue total disc cs
      = csCode (stateForDisconnection cfg (csOf cs) none (dur total)) := by
  have hm : Int64.maxValue.toInt = 2 ^ 63 - 1 := Int64.toInt_maxValue
  have hd : dur Int64.maxValue = 2 ^ 63 - 1 := by unfold dur; rw [hm]; rfl
  rw [connectionStateForDisconnection_tie Int64.maxValue total disc cs (by rw [hm]; decide) h2 h3 cfg hcfg, hd,
    silence_none_is_max cfg (csOf cs) (dur total) (by rw [hcfg]; unfold dur; omega) (by unfold dur; omega)]

/-- **T: `initialCheckingTimeout`** — for all non-negative timeouts whose sum does not overflow `Int64`. -/
theorem initialCheckingTimeout_tie (failed disc : Int64) (lite explicit : Bool)
    (h1 : 0 ≤ failed.toInt) (h2 : 0 ≤ disc.toInt)
    (hov : (if lite && !explicit then 5000000000 else disc.toInt) + failed.toInt < 2 ^ 63)
    (a : Agent) (hf : a.cfg.failedTimeout = dur failed) (hd : a.cfg.disconnectedTimeout = dur disc)
    (hl : a.cfg.lite = lite) (he : a.cfg.disconnectedExplicit = explicit) :
    (IceGen.agent_initialCheckingTimeout failed disc lite explicit).toInt = (a.initialCheckingTimeout : Int) := by
  unfold IceGen.agent_initialCheckingTimeout Agent.initialCheckingTimeout
  rw [hf, hd, hl, he, show (failed == 0) = (dur failed == 0) from nat_beq h1 (by decide)]
  -- a sum of two non-negative durations that does not overflow is the sum of the naturals
  have add : ∀ x : Int64, 0 ≤ x.toInt → x.toInt + failed.toInt < 2 ^ 63 →
      (x + failed).toInt = ((dur x + dur failed : Nat) : Int) :=
    fun x hx ho => by have := nat_add hx h1 ho; unfold nat at this; unfold dur; omega
  cases (dur failed == 0)
  · cases hc : (lite && !explicit) <;> simp only [hc, Bool.false_eq_true, if_false, if_true] at hov ⊢
    · exact add disc h2 hov
    · exact add 5000000000 (by decide) hov
  · rfl

end IceTie.AgentTiming

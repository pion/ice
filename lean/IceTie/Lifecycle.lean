import IceModel.AgentCore
import IceModel.GatherCycle
import IceModel.Gather
import IceGen.T_Lifecycle
/-!
# Tie T, round 4: gathering-cycle lifecycle and release order (gather.go, agent.go, candidate_base.go)

The task of `Agent.GatherCandidates` (`closure`), the goroutine `Agent.gatherCandidates` (its `defer` statements are effects in
REGISTRATION order — they run in reverse), `Agent.removeUfragFromMux`, `Agent.deleteAllCandidates` (one iteration of each outer loop,
the inner close loop pinned) and `candidateBase.seen` are regenerated from the Go source on every run (`IceGen.T_Lifecycle`, effect
mode).  The theorems state the effect lists for all arguments and the order facts C09 / C18 rely on since the fix 83e8561:
`prevDone` is read BEFORE the new done channel is stored, and the goroutine registers `close(done)` first (so it runs LAST) and the
wait for `prevDone` second (so it runs before it): a cycle's done channel is closed after that of the cycle it superseded.
-/
namespace IceTie.Lifecycle
open IceModel

def c (name : String) : Eff := Eff.call name []

/-- position of the first occurrence of `e` (the length if there is none) -/
def pos (l : List Eff) (e : Eff) : Nat := (l.takeWhile (· != e)).length

def acceptEffs : List Eff :=
  [c "gatherCandidateCancel()", c "ctx, cancel := WithCancel(ctx + localUfrag + urls)", Eff.set "a.gatherCandidateCancel" (Val.s "cancel"),
   c "prevDone := a.gatherCandidateDone", c "done := make(chan)", Eff.set "a.gatherCandidateDone" (Val.s "done"),
   c "go gatherCandidates(ctx, done, prevDone)"]

/-- **T: the task of `Agent.GatherCandidates`**: refused unless the gathering state is New (`GatheringStateNew` = 1) and a candidate
handler is set — then nothing but the error; otherwise: cancel the previous cycle, new context (ufrag and URLs captured), store
its cancel func, READ the previous done channel, make and store the new one, spawn the goroutine with both -/
theorem GatherCandidates_task_tie (state : Int64) (noHandler : Bool) :
    IceGen.agent_GatherCandidates_task state noHandler
      = if state != 1 then [Eff.set "gatherErr" (Val.s "ErrMultipleGatherAttempted")]
        else if noHandler then [Eff.set "gatherErr" (Val.s "ErrNoOnCandidateHandler")]
        else acceptEffs := by
  unfold IceGen.agent_GatherCandidates_task
  cases (state != 1) <;> cases noHandler <;> rfl

/-- the previous cycle is cancelled first; `prevDone` is captured before the new channel overwrites the field; the goroutine is
spawned last -/
theorem GatherCandidates_task_order :
    pos acceptEffs (c "gatherCandidateCancel()") = 0 ∧
    pos acceptEffs (c "prevDone := a.gatherCandidateDone") < pos acceptEffs (Eff.set "a.gatherCandidateDone" (Val.s "done")) ∧
    pos acceptEffs (Eff.set "a.gatherCandidateDone" (Val.s "done")) < pos acceptEffs (c "go gatherCandidates(ctx, done, prevDone)") ∧
    acceptEffs.getLast? = some (c "go gatherCandidates(ctx, done, prevDone)") := by decide

theorem gatherCall_model (s : GatherCycle.State) (hc : s.closed = false) :
    GatherCycle.step s .gatherCall =
      if s.gstate ≠ .new then some s
      else some { s with cycles := GatherCycle.cancelCur s ++ [{ ufrag := s.ufrag }], cur := some (GatherCycle.cancelCur s).length } := by
  unfold GatherCycle.step
  simp [hc]

def deferClose : Eff := c "defer close(done)"
def deferWait : Eff := c "defer (if prevDone != nil: <-prevDone)"

/-- **T: `Agent.gatherCandidates`**: `close(done)` is deferred FIRST and the wait for the superseded cycle's done channel SECOND
(deferred calls run last-in-first-out: the wait, then the close), before anything else; a failed or not-applied (cancelled)
`setGatheringState(Gathering)` ends the goroutine without gathering; otherwise the interface set is recorded (continual policy),
the gatherers run, and then Complete is set (`GatherOnce` = 0) or the network monitor runs on this goroutine
(`GatherContinually` = 1) -/
theorem gatherCandidates_tie (stateErr applied : Bool) (policy : Int64) :
    IceGen.agent_gatherCandidates stateErr applied policy
      = [deferClose, deferWait, c "setGatheringState(Gathering)"] ++
        (if stateErr || !applied then []
         else [c "if GatherContinually: record lastKnownInterfaces through the loop", c "gatherCandidatesInternal"] ++
           (if policy == 0 then [c "setGatheringState(Complete)"] else if policy == 1 then [c "startNetworkMonitoring"] else [])) := by
  unfold IceGen.agent_gatherCandidates
  cases stateErr <;> cases applied <;> cases (policy == 0) <;> cases (policy == 1) <;> rfl

theorem gatherCandidates_defers (stateErr applied : Bool) (policy : Int64) :
    (IceGen.agent_gatherCandidates stateErr applied policy).take 2 = [deferClose, deferWait] := by
  rw [gatherCandidates_tie]; rfl

theorem cycleStart_cancelled_model (s : GatherCycle.State) (cidx : Nat) (cy : GatherCycle.Cycle)
    (h : s.cycles[cidx]? = some cy) (hp : cy.pc = .start) (hc : s.closed = false) (hx : cy.cancelled = true) :
    GatherCycle.step s (.cycleStart cidx) = some { s with cycles := s.cycles.set cidx { cy with pc := .done } } := by
  unfold GatherCycle.step
  simp [h, hp, hc, hx]

theorem foldl_max_ge (l : List Nat) (a x : Nat) (h : x ∈ l ∨ x ≤ a) : x ≤ l.foldl max a := by
  induction l generalizing a with
  | nil =>
    cases h with
    | inl h => cases h
    | inr h => exact h
  | cons y ys ih =>
    apply ih
    cases h with
    | inl h =>
      cases h with
      | head => right; exact Nat.le_max_right _ _
      | tail _ h => left; exact h
    | inr h => right; exact Nat.le_trans h (Nat.le_max_left _ _)

/-- the consequence in the gather model (`Gather.closeDeadline`, the instant up to which Close waits): with the chained done
channels it is no earlier than the deadline of ANY parked gatherer of ANY cycle -/
theorem closeDeadline_covers_all (s : Gather.MState) (cur : Nat) (j : Gather.Job) (hj : j ∈ s.jobs) :
    j.deadline ≤ Gather.closeDeadline s false cur false := by
  unfold Gather.closeDeadline
  simp only [Bool.false_eq_true, if_false, Bool.not_false, Bool.true_or]
  apply foldl_max_ge
  left
  exact List.mem_map.mpr ⟨j, List.mem_filter.mpr ⟨hj, rfl⟩, rfl⟩

/-- **T: `Agent.removeUfragFromMux`**: the local ufrag is removed from each configured mux — TCP, UDP, srflx UDP, in this order -/
theorem removeUfragFromMux_tie (hasTcp hasUdp hasSrflx : Bool) :
    IceGen.agent_removeUfragFromMux hasTcp hasUdp hasSrflx
      = (if hasTcp then [c "tcpMux.RemoveConnByUfrag(localUfrag)"] else []) ++
        (if hasUdp then [c "udpMux.RemoveConnByUfrag(localUfrag)"] else []) ++
        (if hasSrflx then [c "udpMuxSrflx.RemoveConnByUfrag(localUfrag)"] else []) := by
  cases hasTcp <;> cases hasUdp <;> cases hasSrflx <;> rfl

/-- **T: `Agent.deleteAllCandidates`** (one iteration of each outer loop): for every network type all LOCAL candidates are closed,
then the entry is deleted; then the same for the REMOTE candidates -/
theorem deleteAllCandidates_tie :
    IceGen.agent_deleteAllCandidates
      = [c "for:localCandidates", c "close every candidate of the network type", c "delete(localCandidates, net)", c "end:localCandidates",
         c "for:remoteCandidates", c "close every candidate of the network type", c "delete(remoteCandidates, net)", c "end:remoteCandidates"] := rfl

theorem wipe_model (a : AgentCore.Agent) :
    a.wipe.locals = [] ∧ a.wipe.remotes = [] ∧ a.wipe.checklist = [] ∧ a.wipe.pending = [] ∧ a.wipe.selected = none :=
  ⟨rfl, rfl, rfl, rfl, rfl⟩

/-- **T: `candidateBase.seen`**: outbound traffic refreshes ONLY the last-sent time, inbound ONLY the last-received time (the one
`validateSelectedPair` measures the silence of) -/
theorem seen_tie (outbound : Bool) :
    IceGen.candidateBase_seen outbound = if outbound then [c "setLastSent(now)"] else [c "setLastReceived(now)"] := by
  cases outbound <;> rfl

theorem seen_model (a : AgentCore.Agent) (uid now : Nat) :
    (a.seenLocalSent uid now).remotes = a.remotes ∧
    (a.seenLocalSent uid now).locals = AgentCore.updCand a.locals uid (fun c => { c with lastSent := some now }) ∧
    (a.seenRemoteRecv uid now).locals = a.locals ∧
    (a.seenRemoteRecv uid now).remotes = AgentCore.updCand a.remotes uid (fun c => { c with lastRecv := some now }) :=
  ⟨rfl, rfl, rfl, rfl⟩

end IceTie.Lifecycle

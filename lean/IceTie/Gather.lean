import IceModel.Gather
import IceGen.T_Gather
import IceTie.Basic
/-!
# Tie T for the address-class and network-type tests of gathering (net.go, gather.go, networktype.go, addr.go)

Regenerated from the Go source on every run (`IceGen.T_Gather`):

* `isSupportedIPv6Partial` (net.go) — the byte tests of the RFC 8445 §5.1.1.1 exclusions;
* `shouldFilterLocationTrackedIP`, `shouldFilterLocationTracked` (gather.go), `isIPv6LinkLocal` (addr.go);
* `supportedNetworkTypes`, `determineNetworkType` (networktype.go), `configuredNetworkTypes`,
  `networkTypeEnabled`, `hostNetworkTypeEnabled` (gather.go).

The `Gather` model works on address CLASSES (`AddrClass`).  What a class means in bytes is written down here
once (`Bytes6`, `LinkLocal`: the ranges of RFC 4291 / 3879 / 3927, the same ranges as the harness's independent
classifier `gTok`), and the theorems say: for EVERY address whose bytes lie in the range of its class, the
regenerated Go predicate returns what the model's class predicate (`supported6`, `isLinkLocal6`) returns.
The network-type functions are proved equal to the model's `hostNetEnabled` / `configured` for all lists.
A changed constant, mask, comparison or branch in the Go source changes the generated term and these
theorems stop checking.
-/
namespace IceTie.Gather
open IceModel.Gather

theorem and192 : ∀ n : Nat, n < 256 → ((n &&& 192 == 192) = decide (n ≥ 192)) := by decide +kernel

theorem siteLocalMask (b : UInt8) : ((b &&& 192) == 192) = decide (b.toNat ≥ 192) := by
  rw [u8_beq, UInt8.toNat_and]
  exact and192 b.toNat b.toNat_lt

/-- the regenerated function, explicitly, for ALL arguments: a 16-byte address whose first twelve bytes are
not all zero and which is not in `fec0::/10` (first byte `fe`, top two bits of the second set) -/
theorem isSupportedIPv6Partial_explicit (lenIP : Int64) (zeros12 : Bool) (b0 b1 : UInt8) :
    IceGen.isSupportedIPv6Partial lenIP zeros12 b0 b1
      = (lenIP == 16 && !zeros12 && !(b0.toNat == 254 && decide (b1.toNat ≥ 192))) := by
  unfold IceGen.isSupportedIPv6Partial
  rw [siteLocalMask, u8_beq, show (254 : UInt8).toNat = 254 from rfl]
  generalize (b0.toNat == 254) = p
  generalize decide (b1.toNat ≥ 192) = q
  by_cases h : lenIP = 16
  · subst h
    cases zeros12 <;> cases p <;> cases q <;> decide
  · have e : (lenIP == 16) = false := beq_eq_false_iff_ne.mpr h
    have e' : (lenIP != 16) = true := by simp [bne, e]
    rw [e, e']
    rfl

/-- What the bytes of a 16-byte address of IPv6 class `c` look like: `zeros12` = "bytes 0–11 are zero",
`b0`, `b1` = the first two bytes.  `u6` `::`, `l6` `::1`, `c6` `::a.b.c.d` lie in `::/96`; `k6` = `fe80::/10`;
`s6` = `fec0::/10`; the global / unique-local / reflexive classes `g6`, `x6` are outside `::/96` and outside
`fe80::/9`.  IPv4 classes have no 16-byte form that reaches the function (`To4() != nil` addresses are
unmapped first). -/
def Bytes6 (c : AddrClass) (zeros12 : Bool) (b0 b1 : UInt8) : Prop :=
  match c with
  | .u6 | .l6 | .c6 => zeros12 = true
  | .k6 => zeros12 = false ∧ b0.toNat = 254 ∧ 128 ≤ b1.toNat ∧ b1.toNat < 192
  | .s6 => zeros12 = false ∧ b0.toNat = 254 ∧ 192 ≤ b1.toNat
  | .g6 | .x6 => zeros12 = false ∧ ¬ (b0.toNat = 254 ∧ 128 ≤ b1.toNat)
  | _ => False

theorem isSupportedIPv6Partial_tie (c : AddrClass) (zeros12 : Bool) (b0 b1 : UInt8) (h : Bytes6 c zeros12 b0 b1) :
    IceGen.isSupportedIPv6Partial 16 zeros12 b0 b1 = c.supported6 := by
  rw [isSupportedIPv6Partial_explicit]
  cases c <;> simp only [Bytes6] at h
  all_goals first
    | (subst h; rfl)
    | (obtain ⟨hz, h0, h1⟩ := h; subst hz
       simp only [AddrClass.supported6, h0]
       first
         | (obtain ⟨h1, h2⟩ := h1
            have : decide (b1.toNat ≥ 192) = false := by simp; omega
            rw [this]; rfl)
         | (have : decide (b1.toNat ≥ 192) = true := by simp; omega
            rw [this]; rfl))
    | (obtain ⟨hz, hn⟩ := h; subst hz
       simp only [AddrClass.supported6]
       by_cases h0 : b0.toNat = 254
       · have : decide (b1.toNat ≥ 192) = false := by
           simp only [decide_eq_false_iff_not]; intro hh; exact hn ⟨h0, by omega⟩
         rw [this]; simp
       · have : (b0.toNat == 254) = false := beq_eq_false_iff_ne.mpr h0
         rw [this]; rfl)

theorem isSupportedIPv6Partial_len (lenIP : Int64) (zeros12 : Bool) (b0 b1 : UInt8) (h : lenIP ≠ 16) :
    IceGen.isSupportedIPv6Partial lenIP zeros12 b0 b1 = false := by
  rw [isSupportedIPv6Partial_explicit, beq_eq_false_iff_ne.mpr h]; rfl

/-- `netip.Addr.IsLinkLocalUnicast` of a class: `169.254.0.0/16` and `fe80::/10`; no class of the model is
link-local multicast (`224.0.0.0/24`, `ff02::/16`) -/
def LinkLocalUnicast : AddrClass → Bool
  | .k4 | .k6 => true
  | _ => false

theorem shouldFilterLocationTrackedIP_tie (c : AddrClass) :
    IceGen.shouldFilterLocationTrackedIP c.is6 (LinkLocalUnicast c) false = c.isLinkLocal6 := by
  cases c <;> rfl

/-- the test itself, for all values of the three `netip` predicates (a link-local multicast IPv6 address is
filtered too; the model has no such class) -/
theorem shouldFilterLocationTrackedIP_explicit (is6 llu llm : Bool) :
    IceGen.shouldFilterLocationTrackedIP is6 llu llm = (is6 && (llu || llm)) := rfl

/-- `shouldFilterLocationTracked`: a slice that is not an IP is not filtered, otherwise the test on the UNMAPPED
address (a 16-byte IPv4 address is an IPv4 address) -/
theorem shouldFilterLocationTracked_tie (okSlice filteredUnmapped : Bool) :
    IceGen.shouldFilterLocationTracked okSlice filteredUnmapped = (okSlice && filteredUnmapped) := by
  cases okSlice <;> rfl

/-- `isIPv6LinkLocal` (addr.go; the zone rule of `canonicalAddr` / `addrWithOptionalZone`) is the same test -/
theorem isIPv6LinkLocal_tie (c : AddrClass) :
    IceGen.isIPv6LinkLocal c.is6 (LinkLocalUnicast c) false = c.isLinkLocal6 := by
  cases c <;> rfl

/-- the Go constants `NetworkTypeUDP4 … NetworkTypeTCP6` (`iota + 1`) -/
def code : NetType → Int64
  | .udp4 => 1 | .udp6 => 2 | .tcp4 => 3 | .tcp6 => 4

theorem code_beq (a b : NetType) : (code a == code b) = (a == b) := by
  cases a <;> cases b <;> rfl

theorem supportedNetworkTypes_tie : IceGen.supportedNetworkTypes = allNetTypes.map code := rfl

/-- `determineNetworkType(network, ip)` on the two transports the gatherers pass (`udp`, `tcp`; `is4` is
`ip.Unmap().Is4()`) is the model's `NetType.ofTransport`, without error -/
theorem determineNetworkType_tie (tcp v6 : Bool) :
    IceGen.determineNetworkType (!tcp) tcp (!v6) = (code (NetType.ofTransport tcp v6), false) := by
  cases tcp <;> cases v6 <;> rfl

/-- any other transport string is an error -/
theorem determineNetworkType_other (is4 : Bool) : (IceGen.determineNetworkType false false is4).2 = true := by
  cases is4 <;> rfl

theorem networkTypeEnabled_tie (nts : List NetType) (t : NetType) :
    IceGen.networkTypeEnabled (nts.map code) (code t) = nts.contains t := by
  unfold IceGen.networkTypeEnabled
  induction nts with
  | nil => rfl
  | cons x xs ih =>
    simp only [List.map_cons, List.any_cons, List.contains_cons, code_beq] at ih ⊢
    rw [show (x == t) = (t == x) from by cases x <;> cases t <;> rfl]
    cases (t == x)
    · simpa using ih
    · simp

/-- `hostNetworkTypeEnabled(networkTypes, network, ip)` composed with the regenerated `determineNetworkType`,
as the code composes them, is the model's `hostNetEnabled` — for every list of network types, transport and
address -/
theorem hostNetworkTypeEnabled_tie (nts : List NetType) (tcp : Bool) (a : Addr) :
    IceGen.hostNetworkTypeEnabled (nts.map code)
        (IceGen.determineNetworkType (!tcp) tcp (!a.cls.is6)).1 (IceGen.determineNetworkType (!tcp) tcp (!a.cls.is6)).2
      = hostNetEnabled nts tcp a := by
  rw [determineNetworkType_tie]
  unfold IceGen.hostNetworkTypeEnabled hostNetEnabled
  simp only [Bool.false_eq_true, if_false]
  exact networkTypeEnabled_tie nts _

/-- a failed `determineNetworkType` disables the candidate -/
theorem hostNetworkTypeEnabled_err (nts : List Int64) (nt : Int64) :
    IceGen.hostNetworkTypeEnabled nts nt true = false := rfl

/-- `configuredNetworkTypes` on the list left by `sanitizeTransportNetworkTypes` (duplicates removed) is the
model's `configured` -/
theorem configuredNetworkTypes_tie (nts : List NetType) :
    IceGen.configuredNetworkTypes (nts.eraseDups.map code) = (configured nts).map code := by
  unfold IceGen.configuredNetworkTypes configured
  cases nts with
  | nil => rfl
  | cons x xs =>
    rw [List.eraseDups_cons]
    rfl

theorem configuredNetworkTypes_explicit (nts : List Int64) :
    IceGen.configuredNetworkTypes nts = if nts.isEmpty then [1, 2, 3, 4] else nts := rfl

end IceTie.Gather

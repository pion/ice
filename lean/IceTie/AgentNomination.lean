import IceProofs.AgentC20Accept
import IceGen.T_Agent
import IceTie.Basic
/-!
# Tie T for the renomination filter of the controlled selector (selection.go)

`controlledSelector.shouldAcceptNomination`, `shouldSwitchSelectedPair` and
`Agent.needsToCheckPriorityOnNominated` are regenerated from the Go source on every run.  The model
(`IceModel.AgentCore.cldHandleRequest`) has this logic inline; `IceProofs/AgentC20Accept.lean` (core-only, so
that the model proofs do not depend on regenerated files) writes it once more as stand-alone functions
`shouldAcceptNomination` / `shouldSwitch` and proves them equal to the inline code (`*_inline`,
`cldHandleRequest_nf`); here they are proved equal to the generated definitions for ALL arguments
(`*_gen_eq_model`).
-/
namespace IceTie.AgentNomination
open IceModel IceModel.AgentCore IceProofs.Agent

/-- pointer encoding of the translator: (`p != nil`, `*p`) -/
def optOf (has : Bool) (v : UInt32) : Option Nat := if has then some v.toNat else none

/-- interpretation of the effect list of the generated function on the `lastNomination` field -/
def applyEffs (effs : List Eff) (last : Option Nat) : Option Nat :=
  effs.foldl (fun acc e => match e with
    | Eff.set "s.lastNomination" (Val.n v) => some v
    | _ => acc) last

/-- the generated `shouldAcceptNomination`, explicitly: its effect list is one assignment of the new value
exactly when a valued nomination is accepted, and its result is the acceptance -/
theorem shouldAcceptNomination_gen_explicit (hasValue : Bool) (value : UInt32) (hasLast : Bool) (last : UInt32) :
    IceGen.controlledSelector_shouldAcceptNomination hasValue value hasLast last
      = (if hasValue && (!hasLast || decide (value.toNat > last.toNat))
           then [Eff.set "s.lastNomination" (Val.n value.toNat)] else [],
         !hasValue || !hasLast || decide (value.toNat > last.toNat)) := by
  unfold IceGen.controlledSelector_shouldAcceptNomination Eff.pre
  have h : decide (value > last) = decide (value.toNat > last.toNat) := u32_lt last value
  cases hasValue <;> cases hasLast <;> simp [h]
  all_goals (by_cases hg : last.toNat < value.toNat <;> simp [hg])

/-- generated = model, for all arguments: same acceptance, and the effects applied to the old
`lastNomination` give the model's new `lastNomination` -/
theorem shouldAcceptNomination_gen_eq_model (hasValue : Bool) (value : UInt32) (hasLast : Bool) (last : UInt32) :
    let g := IceGen.controlledSelector_shouldAcceptNomination hasValue value hasLast last
    (applyEffs g.1 (optOf hasLast last), g.2) = shouldAcceptNomination (optOf hasValue value) (optOf hasLast last) := by
  simp only [shouldAcceptNomination_gen_explicit]
  unfold shouldAcceptNomination optOf applyEffs
  cases hasValue <;> cases hasLast <;> simp
  all_goals (by_cases hg : last.toNat < value.toNat <;> simp [hg])

theorem shouldSwitchSelectedPair_gen_eq_model (hasSelected samePair hasValue hasLast needsPrio : Bool)
    (selectedPrio pairPrio : UInt64) :
    IceGen.controlledSelector_shouldSwitchSelectedPair hasSelected samePair hasValue hasLast needsPrio selectedPrio pairPrio
      = shouldSwitch hasSelected samePair hasValue hasLast needsPrio selectedPrio.toNat pairPrio.toNat := by
  unfold IceGen.controlledSelector_shouldSwitchSelectedPair shouldSwitch
  cases hasSelected <;> cases samePair <;> cases hasValue <;> cases hasLast <;> cases needsPrio <;> simp [u64_lt]

theorem needsPrioCheck_gen_eq_model (cfg : Config) :
    IceGen.agent_needsToCheckPriorityOnNominated cfg.lite cfg.useCandCheckPriority = needsPrioCheck cfg := rfl

end IceTie.AgentNomination

import IceModel.CandText
import IceGen.T_Addr
import IceTie.Basic
/-!
# Tie T for the address helpers of addr.go

`portFitsInUint16`, `netAddrToAddrPort` (type switch: `*net.UDPAddr`, `*net.TCPAddr`, anything else), `createAddr`,
`addrEqual` and `toAddrPortKey` are regenerated from the Go source on every run (`IceGen.T_Addr`).  Values of `net` / `netip`
types are labels: `netAddrToAddrPort` returns `"zero"` (the invalid `netip.AddrPort{}`), `"a.AddrPort()"` (the allocation-free
conversion of the typed address, which keeps IP, zone and port) or the parsed string.  A changed bound, arm, guard or
conversion changes the generated term (or leaves the subset) and the theorems stop checking.
-/
namespace IceTie.Addr
open IceModel IceModel.CandText

/-- **T: `portFitsInUint16`**, every Go `int`: exactly the ports 0 … 65535 (65535 included) -/
theorem portFitsInUint16_tie (port : Int64) :
    IceGen.portFitsInUint16 port = decide (0 ≤ port.toInt ∧ port.toInt ≤ 65535) := by
  unfold IceGen.portFitsInUint16
  simp only [GE.ge, Int64.le_iff_toInt_le, show (0 : Int64).toInt = 0 from rfl, show (65535 : Int64).toInt = 65535 from rfl]
  by_cases a : 0 ≤ port.toInt <;> by_cases b : port.toInt ≤ 65535 <;> simp [a, b]

/-- **T: `netAddrToAddrPort`**, all arguments: nil → zero; a `*net.UDPAddr` and a `*net.TCPAddr` alike → zero for a typed nil or
a port outside 0 … 65535, else the address's own `AddrPort()` (IP WITH its zone, port); any other address → its string parsed,
zero if that fails -/
theorem netAddrToAddrPort_tie (isNil isUDPAddr isTCPAddr typedNil : Bool) (port : Int64) (parseFails : Bool) :
    IceGen.netAddrToAddrPort isNil isUDPAddr isTCPAddr typedNil port parseFails
      = if isNil then "zero"
        else if isUDPAddr || isTCPAddr then
          (if typedNil || !decide (0 ≤ port.toInt ∧ port.toInt ≤ 65535) then "zero" else "a.AddrPort()")
        else if parseFails then "zero" else "ParseAddrPort(addr.String())" := by
  unfold IceGen.netAddrToAddrPort
  rw [portFitsInUint16_tie]
  cases isNil <;> cases isUDPAddr <;> cases isTCPAddr <;> rfl

/-- a real UDP or TCP source address — not nil, port in 0 … 65535 (a `uint16` from the socket) — is NEVER turned into the invalid
zero value, and both kinds take the same conversion (the TCP arm does not rebuild the address, so a zone survives) -/
theorem netAddrToAddrPort_valid (isUDPAddr isTCPAddr : Bool) (port : Int64) (parseFails : Bool)
    (hk : (isUDPAddr || isTCPAddr) = true) (h0 : 0 ≤ port.toInt) (h1 : port.toInt ≤ 65535) :
    IceGen.netAddrToAddrPort false isUDPAddr isTCPAddr false port parseFails = "a.AddrPort()" := by
  rw [netAddrToAddrPort_tie]
  simp [hk, h0, h1]

/-- **T: `createAddr`**: TCP network types give a `*net.TCPAddr`, all others a `*net.UDPAddr`, both with IP, port AND zone -/
theorem createAddr_tie (isTCP : Bool) :
    IceGen.createAddr isTCP = if isTCP then "TCPAddr{ip, port, zone}" else "UDPAddr{ip, port, zone}" := rfl

/-- **T: `addrEqual`**: false if either address does not parse; else same network type, `Compare == 0`, same port -/
theorem addrEqual_tie (aErr bErr : Bool) (aType bType ipCompare aPort bPort : Int64) :
    IceGen.addrEqual aErr bErr aType bType ipCompare aPort bPort
      = (!aErr && !bErr && aType == bType && ipCompare == 0 && aPort == bPort) := by
  unfold IceGen.addrEqual
  cases aErr <;> cases bErr <;> simp

/-- the network type `parseAddr` derives from a resolved address: UDP/TCP from the kind of `net.Addr`, 4/6 from `Is4()` -/
def typeCode (isTCP : Bool) (cls : AddrClass) : Int64 :=
  if isTCP then (if cls = .v4 then 3 else 4) else (if cls = .v4 then 1 else 2)

/-- on two resolved candidate addresses of the text model (`CandText.resolved`: kind, class, canonical key, port) `addrEqual` is
the equality of the tuples, when `Compare == 0` means "same class and same canonical key" -/
theorem addrEqual_resolved (a b : Bool × AddrClass × Option Str × Nat) (cmp : Int64)
    (hc : (cmp == 0) = (a.2.1 == b.2.1 && a.2.2.1 == b.2.2.1)) (ha : a.2.2.2 < 2 ^ 63) (hb : b.2.2.2 < 2 ^ 63) :
    IceGen.addrEqual false false (typeCode a.1 a.2.1) (typeCode b.1 b.2.1) cmp (Int64.ofNat a.2.2.2) (Int64.ofNat b.2.2.2)
      = (a == b) := by
  rw [addrEqual_tie, hc, ofNat_beq _ _ ha hb]
  obtain ⟨k1, c1, n1, p1⟩ := a
  obtain ⟨k2, c2, n2, p2⟩ := b
  simp only [Bool.not_false, Bool.true_and]
  have hab : ((k1, c1, n1, p1) == (k2, c2, n2, p2)) = (k1 == k2 && (c1 == c2 && (n1 == n2 && p1 == p2))) := rfl
  rw [hab]
  -- `typeCode` does not tell an IPv6 address from an unparsable one; the class comparison in `hc` does
  by_cases hcc : c1 = c2
  · subst hcc
    have : (typeCode k1 c1 == typeCode k2 c1) = (k1 == k2) := by cases k1 <;> cases k2 <;> cases c1 <;> decide
    rw [this, beq_self_eq_true, Bool.true_and, Bool.true_and, Bool.and_assoc]
  · rw [beq_eq_false_iff_ne.mpr hcc, Bool.false_and, Bool.and_false, Bool.false_and, Bool.false_and, Bool.and_false]

/-- **T: `toAddrPortKey`**: an invalid address is the all-zero key; otherwise the 16 address bytes, then the port big endian -/
theorem toAddrPortKey_tie (valid : Bool) (port : UInt16) :
    IceGen.toAddrPortKey valid port
      = if valid then
          ([Eff.call "copy(ap[:16], As16)" [], Eff.set "ap[16]" (Val.n (port.toNat / 256)), Eff.set "ap[17]" (Val.n (port.toNat % 256))], "ap")
        else ([], "ap") := by
  unfold IceGen.toAddrPortKey Eff.pre
  have h1 : ((port >>> (8 : UInt16)).toUInt8).toNat = port.toNat / 256 := by
    rw [UInt16.toNat_toUInt8, UInt16.toNat_shiftRight]
    have := port.toNat_lt
    simp
    omega
  have h2 : ((port &&& (255 : UInt16)).toUInt8).toNat = port.toNat % 256 := by
    rw [UInt16.toNat_toUInt8, UInt16.toNat_and]
    have e : (255 : UInt16).toNat = 2 ^ 8 - 1 := by decide
    rw [e, Nat.and_two_pow_sub_one_eq_mod]
    omega
  rw [h1, h2]
  cases valid <;> rfl

theorem toAddrPortKey_port_injective (p q : UInt16)
    (h : (p.toNat / 256, p.toNat % 256) = (q.toNat / 256, q.toNat % 256)) : p = q := by
  apply UInt16.toNat_inj.mp
  have h1 := (Prod.mk.inj h).1
  have h2 := (Prod.mk.inj h).2
  omega

end IceTie.Addr
